/-
  The ledger a collection leaves does not depend on the order in which the sweep lists the reclaimed objects.  `absExecO` /
  `absFinLoop` (the nested GC_Rem / finalisation recursion on (ledger, pending slots)) is a depth-first traversal of the
  "destructor of p deletes q" graph `K`; whatever the order of the pending slots, the objects that leave the ledger are
  exactly those reachable from a reclaimed object through objects that are live when they are reached.  Both runs leave
  sublists of the ledger they started from, which has no address twice, so they leave the same ledger: `LedgerK` allows at
  most one ledger for an operation (`ledgerK_det`).
-/
import CelloProofs.Lemmas.RegistryKillsAbs
namespace Cello.Registry

/-- `K`-paths all of whose nodes satisfy `T` -/
inductive Via (K : Nat → List Nat) (T : Nat → Prop) : Nat → Nat → Prop where
  | refl {x : Nat} : T x → Via K T x x
  | step {x u v : Nat} : Via K T x u → v ∈ K u → T v → Via K T x v

theorem Via.mono {K : Nat → List Nat} {T T' : Nat → Prop} (h : ∀ x, T x → T' x) {a b : Nat} (p : Via K T a b) : Via K T' a b := by
  induction p with
  | refl hx => exact Via.refl (h _ hx)
  | step _ hv ht ih => exact Via.step ih hv (h _ ht)

theorem Via.left {K : Nat → List Nat} {T : Nat → Prop} {a b : Nat} (p : Via K T a b) : T a := by
  induction p with
  | refl hx => exact hx
  | step _ _ _ ih => exact ih

theorem Via.right {K : Nat → List Nat} {T : Nat → Prop} {a b : Nat} (p : Via K T a b) : T b := by
  cases p with
  | refl hx => exact hx
  | step _ _ ht => exact ht

theorem Via.trans {K : Nat → List Nat} {T : Nat → Prop} {a b c : Nat} (p : Via K T a b) (q : Via K T b c) : Via K T a c := by
  induction q with
  | refl _ => exact p
  | step _ hv ht ih => exact Via.step ih hv ht

theorem Via.head {K : Nat → List Nat} {T : Nat → Prop} {x z q : Nat} (hx : T x) (hz : z ∈ K x) (p : Via K T z q) : Via K T x q :=
  Via.trans (Via.step (Via.refl hx) hz p.left) p

abbrev keys (L : Ledger) : List Nat := L.map Prod.fst

theorem keys_sublist {L L' : Ledger} (h : L'.Sublist L) : (keys L').Sublist (keys L) := List.Sublist.map _ h

theorem not_mem_keys_of_sublist {L L' : Ledger} (h : L'.Sublist L) {y : Nat} (hy : y ∉ keys L) : y ∉ keys L' :=
  fun h' => hy ((keys_sublist h).subset h')

/-- the pending slots only ever change by being struck off -/
def SlotsLe (P P' : List (Option Nat)) : Prop := P'.length = P.length ∧ ∀ j : Nat, P'[j]? = P[j]? ∨ P'[j]? = some none

theorem SlotsLe.refl (P : List (Option Nat)) : SlotsLe P P := ⟨rfl, fun _ => Or.inl rfl⟩

theorem SlotsLe.trans {P P' P'' : List (Option Nat)} (h1 : SlotsLe P P') (h2 : SlotsLe P' P'') : SlotsLe P P'' := by
  refine ⟨h2.1.trans h1.1, ?_⟩
  intro j
  rcases h2.2 j with h | h
  · rcases h1.2 j with h' | h'
    · exact Or.inl (h.trans h')
    · exact Or.inr (h.trans h')
  · exact Or.inr h

theorem SlotsLe.mem {P P' : List (Option Nat)} (h : SlotsLe P P') {q : Nat} (hq : some q ∈ P') : some q ∈ P := by
  obtain ⟨j, hj⟩ := List.mem_iff_getElem?.1 hq
  rcases h.2 j with h' | h'
  · rw [h'] at hj; exact List.mem_iff_getElem?.2 ⟨j, hj⟩
  · rw [h'] at hj; simp at hj

theorem SlotsLe.set_none (P : List (Option Nat)) (i : Nat) : SlotsLe P (P.set i none) := by
  refine ⟨by simp, ?_⟩
  intro j
  rw [List.getElem?_set]
  by_cases hij : i = j
  · subst hij
    by_cases hl : i < P.length
    · right; simp [hl]
    · left; simp [hl]
  · left; simp [hij]

/-- a pending object never is a ledger object at the same time -/
def DisjO (a : AbsO) : Prop := ∀ q, some q ∈ a.2 → q ∉ keys a.1

theorem mem_map_some {q : Nat} {o : List Nat} : some q ∈ o.map some ↔ q ∈ o := by simp

theorem DisjO.of_order {C : Ledger} {o : List Nat} (ho : ∀ p ∈ o, p ∉ keys C) : DisjO (C, o.map some) :=
  fun q hq => ho q (mem_map_some.1 hq)

/-- among the sublists of a list without repetitions, inclusion of the members is the sublist order -/
theorem sublist_of_subset {α : Type} {l : List α} (hl : l.Nodup) :
    ∀ {l₁ l₂ : List α}, l₁.Sublist l → l₂.Sublist l → (∀ x, x ∈ l₁ → x ∈ l₂) → l₁.Sublist l₂ := by
  induction l with
  | nil => intro l₁ l₂ h₁ _ _; cases h₁; exact List.nil_sublist _
  | cons a l ih =>
    obtain ⟨ha, hl⟩ := List.nodup_cons.1 hl
    intro l₁ l₂ h₁ h₂ h
    -- `a` occurs in a sublist of `a :: l` at its head or not at all
    cases h₁ with
    | cons _ h₁ =>
      cases h₂ with
      | cons _ h₂ => exact ih hl h₁ h₂ h
      | cons_cons _ h₂ =>
        exact (ih hl h₁ h₂ fun x hx => (List.mem_cons.1 (h x hx)).resolve_left fun e => ha (e ▸ h₁.subset hx)).cons _
    | cons_cons _ h₁ =>
      cases h₂ with
      | cons _ h₂ => exact absurd (h₂.subset (h a List.mem_cons_self)) ha
      | cons_cons _ h₂ =>
        exact (ih hl h₁ h₂ fun x hx =>
          (List.mem_cons.1 (h x (List.mem_cons_of_mem _ hx))).resolve_left fun e => ha (e ▸ h₁.subset hx)).cons_cons _

/-- what a (nested) removal / finalisation does to (ledger, pending slots): `tl` are the objects finalised, `R` the roots it
    started from, `E` the objects it may finalise although they are neither in the ledger nor pending -/
structure StepSpec (K : Nat → List Nat) (a a' : AbsO) (tl : List Nat) (R E : Nat → Prop) : Prop where
  sub : a'.1.Sublist a.1
  /-- what the destructor of a finalised object deletes is gone from the ledger afterwards -/
  closed : ∀ q ∈ tl, ∀ y ∈ K q, y ∉ keys a'.1
  removed : ∀ y, y ∈ keys a.1 → y ∉ keys a'.1 → y ∈ tl
  slots : SlotsLe a.2 a'.2
  struck : ∀ q, some q ∈ a.2 → some q ∈ a'.2 ∨ q ∈ tl
  reach : ∀ q ∈ tl, ∃ z, R z ∧ Via K (· ∈ tl) z q
  /-- only objects of the state it started in (or of `E`) are finalised -/
  within : ∀ q ∈ tl, E q ∨ q ∈ keys a.1 ∨ some q ∈ a.2

theorem StepSpec.nil (K : Nat → List Nat) (a : AbsO) (R E : Nat → Prop) : StepSpec K a a [] R E :=
  ⟨List.Sublist.refl _, by simp, fun y h h' => absurd h h', SlotsLe.refl _, fun q h => Or.inl h, by simp, by simp⟩

theorem StepSpec.disj {K : Nat → List Nat} {a a' : AbsO} {tl : List Nat} {R E : Nat → Prop} (h : StepSpec K a a' tl R E)
    (hd : DisjO a) : DisjO a' :=
  fun q hq => not_mem_keys_of_sublist h.sub (hd q (h.slots.mem hq))

theorem StepSpec.weaken {K : Nat → List Nat} {a a' : AbsO} {tl : List Nat} {R E R' E' : Nat → Prop} (h : StepSpec K a a' tl R E)
    (hR : ∀ z, R z → R' z) (hE : ∀ z, E z → E' z) : StepSpec K a a' tl R' E' :=
  ⟨h.sub, h.closed, h.removed, h.slots, h.struck,
   fun q hq => by obtain ⟨z, hz, hv⟩ := h.reach q hq; exact ⟨z, hR z hz, hv⟩,
   fun q hq => by rcases h.within q hq with h' | h'; exact Or.inl (hE q h'); exact Or.inr h'⟩

theorem StepSpec.seq {K : Nat → List Nat} {a a1 a2 : AbsO} {t1 t2 : List Nat} {R E : Nat → Prop}
    (h1 : StepSpec K a a1 t1 R E) (h2 : StepSpec K a1 a2 t2 R E) : StepSpec K a a2 (t1 ++ t2) R E := by
  refine ⟨h2.sub.trans h1.sub, ?_, ?_, h1.slots.trans h2.slots, ?_, ?_, ?_⟩
  · intro q hq y hy
    rcases List.mem_append.1 hq with h | h
    · exact not_mem_keys_of_sublist h2.sub (h1.closed q h y hy)
    · exact h2.closed q h y hy
  · intro y hy hy'
    by_cases h : y ∈ keys a1.1
    · exact List.mem_append_right _ (h2.removed y h hy')
    · exact List.mem_append_left _ (h1.removed y hy h)
  · intro q hq
    rcases h1.struck q hq with h | h
    · rcases h2.struck q h with h' | h'
      · exact Or.inl h'
      · exact Or.inr (List.mem_append_right _ h')
    · exact Or.inr (List.mem_append_left _ h)
  · intro q hq
    rcases List.mem_append.1 hq with h | h
    · obtain ⟨z, hz, hv⟩ := h1.reach q h
      exact ⟨z, hz, hv.mono (fun x hx => List.mem_append_left _ hx)⟩
    · obtain ⟨z, hz, hv⟩ := h2.reach q h
      exact ⟨z, hz, hv.mono (fun x hx => List.mem_append_right _ hx)⟩
  · intro q hq
    rcases List.mem_append.1 hq with h | h
    · exact h1.within q h
    · rcases h2.within q h with h' | h' | h'
      · exact Or.inl h'
      · exact Or.inr (Or.inl ((keys_sublist h1.sub).subset h'))
      · exact Or.inr (Or.inr (h1.slots.mem h'))

/-- finalising `p` ends with `p` itself, which need be neither in the ledger nor pending (`E`); after the removal of `x`,
    `x` is not in the ledger -/
def CmdSpec (K : Nat → List Nat) (a a' : AbsO) (t : List Nat) : Cmd → Prop
  | .fin p => (∃ tl, t = tl ++ [p]) ∧ StepSpec K a a' t (· = p) (· = p)
  | .rem x => StepSpec K a a' t (· = x) (fun _ => False) ∧ x ∉ keys a'.1

/-- striking `x` off slot `i` and finalising it, seen from the state before -/
theorem StepSpec.of_struck {K : Nat → List Nat} {a a' : AbsO} {t : List Nat} {x i : Nat} (hi : a.2[i]? = some (some x))
    (h : StepSpec K (a.1, a.2.set i none) a' t (· = x) (· = x)) (hx : x ∈ t) :
    StepSpec K a a' t (· = x) (fun _ => False) := by
  have hle : SlotsLe a.2 (a.2.set i none) := SlotsLe.set_none _ _
  refine ⟨h.sub, h.closed, h.removed, hle.trans h.slots, ?_, h.reach, ?_⟩
  · intro q hq
    by_cases hqx : q = x
    · subst hqx; exact Or.inr hx
    · apply h.struck q
      obtain ⟨k, hk⟩ := List.mem_iff_getElem?.1 hq
      have hki : i ≠ k := by
        intro e; subst e; rw [hi] at hk; exact hqx (Option.some.inj (Option.some.inj hk)).symm
      apply List.mem_iff_getElem?.2
      exact ⟨k, by show (a.2.set i none)[k]? = _; rw [List.getElem?_set]; simp [hki, hk]⟩
  · intro q hq
    rcases h.within q hq with h' | h' | h'
    · right; right
      have : q = x := h'
      subst this
      exact List.mem_iff_getElem?.2 ⟨i, hi⟩
    · exact Or.inr (Or.inl h')
    · exact Or.inr (Or.inr (hle.mem h'))

/-- **the nested removal / finalisation recursion is a depth-first traversal** -/
theorem absExecO_spec (K : Nat → List Nat) :
    ∀ (fuel : Nat) (a : AbsO) (cmd : Cmd) (a' : AbsO) (t : List Nat), DisjO a →
      absExecO K true fuel a cmd = some (a', t) → CmdSpec K a a' t cmd := by
  intro fuel
  induction fuel with
  | zero => intro a cmd a' t _ h; cases h
  | succ fuel ih =>
    intro a cmd a' t hd h
    cases cmd with
    | fin p =>
      rw [absExecO_fin_succ] at h
      have hfold : ∀ (l : List Nat) (a1 : AbsO) (t1 : List Nat) (a2 : AbsO) (t2 : List Nat), DisjO a1 →
          l.foldl (stepTr (fun a' y => absExecO K true fuel a' (.rem y))) (some (a1, t1)) = some (a2, t2) →
          ∃ tl, t2 = t1 ++ tl ∧ StepSpec K a1 a2 tl (· ∈ l) (fun _ => False) ∧ ∀ z ∈ l, z ∉ keys a2.1 := by
        intro l
        induction l with
        | nil =>
          intro a1 t1 a2 t2 _ hf
          cases hf
          exact ⟨[], by simp, StepSpec.nil K _ _ _, by simp⟩
        | cons z l ihl =>
          intro a1 t1 a2 t2 hd1 hf
          obtain ⟨am, tm, hz, hf⟩ := foldl_stepTr_cons_some hf
          obtain ⟨sm, hzm⟩ := ih a1 (.rem z) am tm hd1 hz
          obtain ⟨tl, htl, sl, hroot⟩ := ihl am (t1 ++ tm) a2 t2 (sm.disj hd1) hf
          refine ⟨tm ++ tl, by rw [htl, List.append_assoc], ?_, ?_⟩
          · exact StepSpec.seq (sm.weaken (fun y hy => by rw [hy]; exact List.mem_cons_self) (fun _ h => h))
              (sl.weaken (fun y hy => List.mem_cons_of_mem _ hy) (fun _ h => h))
          · intro y hy
            rcases List.mem_cons.1 hy with e | e
            · subst e; exact not_mem_keys_of_sublist sl.sub hzm
            · exact hroot y e
      cases hf : (K p).foldl (stepTr (fun a' y => absExecO K true fuel a' (.rem y))) (some (a, [])) with
      | none => rw [hf] at h; cases h
      | some res =>
        obtain ⟨a2, t2⟩ := res
        rw [hf] at h
        cases h
        obtain ⟨tl, htl, sl, hroot⟩ := hfold (K p) a [] a' t2 hd hf
        simp only [List.nil_append] at htl
        subst htl
        refine ⟨⟨t2, rfl⟩, sl.sub, ?_, ?_, sl.slots, ?_, ?_, ?_⟩
        · intro q hq y hy
          rcases List.mem_append.1 hq with e | e
          · exact sl.closed q e y hy
          · have : q = p := by simpa using e
            subst this; exact hroot y hy
        · intro y hy hy'; exact List.mem_append_left _ (sl.removed y hy hy')
        · intro q hq
          rcases sl.struck q hq with e | e
          · exact Or.inl e
          · exact Or.inr (List.mem_append_left _ e)
        · intro q hq
          refine ⟨p, rfl, ?_⟩
          have hp : p ∈ t2 ++ [p] := by simp
          rcases List.mem_append.1 hq with e | e
          · obtain ⟨z, hz, hv⟩ := sl.reach q e
            exact Via.head hp hz (hv.mono (fun x hx => List.mem_append_left _ hx))
          · have : q = p := by simpa using e
            subst this; exact Via.refl hp
        · intro q hq
          rcases List.mem_append.1 hq with e | e
          · rcases sl.within q e with e' | e'
            · exact absurd e' id
            · exact Or.inr e'
          · have : q = p := by simpa using e
            exact Or.inl this
    | rem x =>
      rw [absExecO_rem_succ] at h
      cases hidx : a.2.findIdx? (fun y => y == some x) with
      | some i =>
        rw [hidx] at h
        simp only [] at h
        obtain ⟨hi, hp, _⟩ := List.findIdx?_eq_some_iff_getElem.1 hidx
        have hx : a.2[i] = some x := by simpa using hp
        have hi' : a.2[i]? = some (some x) := by rw [List.getElem?_eq_getElem hi, hx]
        have hle : SlotsLe a.2 (a.2.set i none) := SlotsLe.set_none _ _
        have hd1 : DisjO (a.1, a.2.set i none) := fun q hq => hd q (hle.mem hq)
        obtain ⟨⟨tl, htl⟩, s1⟩ := ih (a.1, a.2.set i none) (.fin x) a' t hd1 h
        have hxt : x ∈ t := by rw [htl]; simp
        refine ⟨StepSpec.of_struck hi' s1 hxt, ?_⟩
        exact not_mem_keys_of_sublist s1.sub (hd x (List.mem_iff_getElem?.2 ⟨i, hi'⟩))
      | none =>
        rw [hidx] at h
        simp only [] at h
        by_cases hL : x ∈ a.1.map Prod.fst
        · rw [if_pos hL] at h
          have hsub : (a.1.filter (fun y => y.1 != x)).Sublist a.1 := List.filter_sublist
          have hd1 : DisjO (a.1.filter (fun y => y.1 != x), a.2) := fun q hq => not_mem_keys_of_sublist hsub (hd q hq)
          obtain ⟨⟨tl, htl⟩, s1⟩ := ih (a.1.filter (fun y => y.1 != x), a.2) (.fin x) a' t hd1 h
          have hxt : x ∈ t := by rw [htl]; simp
          refine ⟨⟨s1.sub.trans hsub, s1.closed, ?_, s1.slots, s1.struck, s1.reach, ?_⟩, ?_⟩
          · intro y hy hy'
            by_cases hyx : y = x
            · subst hyx; exact hxt
            · apply s1.removed y _ hy'
              obtain ⟨w, hw, hwy⟩ := List.mem_map.1 hy
              exact List.mem_map.2 ⟨w, List.mem_filter.2 ⟨hw, by simp [hwy, hyx]⟩, hwy⟩
          · intro q hq
            rcases s1.within q hq with e | e | e
            · have : q = x := e
              subst this; exact Or.inr (Or.inl hL)
            · exact Or.inr (Or.inl ((keys_sublist hsub).subset e))
            · exact Or.inr (Or.inr e)
          · exact not_mem_keys_of_sublist s1.sub (not_mem_keys_filter a.1 x)
        · rw [if_neg hL] at h
          cases h
          exact ⟨StepSpec.nil K _ _ _, hL⟩

/-- **the finalisation loop of GC_Sweep as a traversal**: it finalises `tl`, started from the pending objects, and leaves
    every slot it has passed struck off -/
theorem absFinLoop_spec (K : Nat → List Nat) :
    ∀ (todo i : Nat) (a : AbsO) (t : List Nat) (a' : AbsO) (t' : List Nat), DisjO a →
      absFinLoop K true todo i a t = some (a', t') →
      ∃ tl, t' = t ++ tl ∧ StepSpec K a a' tl (fun p => some p ∈ a.2) (fun _ => False) ∧
        ∀ j, i ≤ j → j < i + todo → j < a.2.length → a'.2[j]? = some none := by
  intro todo
  induction todo with
  | zero =>
    intro i a t a' t' _ h
    rw [absFinLoop] at h; cases h
    exact ⟨[], by simp, StepSpec.nil K _ _ _, fun j h1 h2 => by omega⟩
  | succ todo ih =>
    intro i a t a' t' hd h
    rw [absFinLoop_succ] at h
    have skip : absFinLoop K true todo (i+1) a t = some (a', t') → (i < a.2.length → a.2[i]? = some none) →
        ∃ tl, t' = t ++ tl ∧ StepSpec K a a' tl (fun p => some p ∈ a.2) (fun _ => False) ∧
          ∀ j, i ≤ j → j < i + (todo + 1) → j < a.2.length → a'.2[j]? = some none := by
      intro h hnone
      obtain ⟨tl, htl, sl, hz⟩ := ih (i+1) a t a' t' hd h
      refine ⟨tl, htl, sl, ?_⟩
      intro j h1 h2 h3
      by_cases hji : j = i
      · subst hji
        rcases sl.slots.2 j with e | e
        · rw [e]; exact hnone h3
        · exact e
      · exact hz j (by omega) (by omega) h3
    cases hgi : a.2[i]? with
    | none =>
      rw [hgi] at h
      exact skip h (fun hlt => by rw [List.getElem?_eq_getElem hlt] at hgi; cases hgi)
    | some o =>
      cases o with
      | none =>
        rw [hgi] at h
        exact skip h (fun _ => hgi)
      | some p =>
        rw [hgi] at h
        simp only [] at h
        cases hcall : absExecO K true (absFuel (a.1, a.2.set i none) + 1) (a.1, a.2.set i none) (.fin p) with
        | none => rw [hcall] at h; cases h
        | some res =>
          obtain ⟨a2, t2⟩ := res
          rw [hcall] at h
          simp only [] at h
          have hle : SlotsLe a.2 (a.2.set i none) := SlotsLe.set_none _ _
          have hd1 : DisjO (a.1, a.2.set i none) := fun q hq => hd q (hle.mem hq)
          obtain ⟨⟨tl2, htl2⟩, s2⟩ := absExecO_spec K _ _ _ _ _ hd1 hcall
          have hpt : p ∈ t2 := by rw [htl2]; simp
          have s2' : StepSpec K a a2 t2 (· = p) (fun _ => False) := StepSpec.of_struck hgi s2 hpt
          have hd2 : DisjO a2 := s2'.disj hd
          obtain ⟨tl, htl, sl, hz⟩ := ih (i+1) a2 (t ++ t2) a' t' hd2 h
          refine ⟨t2 ++ tl, by rw [htl, List.append_assoc], ?_, ?_⟩
          · exact StepSpec.seq
              (s2'.weaken (fun z hz => by rw [hz]; exact List.mem_iff_getElem?.2 ⟨i, hgi⟩) (fun _ h => h))
              (sl.weaken (fun z hz => s2'.slots.mem hz) (fun _ h => h))
          · intro j h1 h2 h3
            by_cases hji : j = i
            · subst hji
              have h0 : (a.2.set j none)[j]? = some none := by rw [List.getElem?_set]; simp [h3]
              have h1' : a2.2[j]? = some none := by
                rcases s2.slots.2 j with e | e
                · rw [e]; exact h0
                · exact e
              rcases sl.slots.2 j with e | e
              · rw [e]; exact h1'
              · exact e
            · exact hz j (by omega) (by omega) (by rw [s2'.slots.1]; exact h3)

/-- with the collector running, of two finalisation loops over reclaimed objects listed in any two orders, the one that starts
    with more of them leaves a sub-ledger of the other's: whatever the second run finalises lies on a `K`-path from one of its
    own objects, and along that path the first run finalises everything too -/
theorem absFinLoop_sub_le (K : Nat → List Nat) (C : Ledger) (o1 o2 : List Nat) (hC : (keys C).Nodup)
    (hd1 : ∀ p ∈ o1, p ∉ keys C) (h12 : ∀ p, p ∈ o2 → p ∈ o1)
    (a1 a2 : AbsO) (t1 t2 : List Nat)
    (r1 : absFinLoop K true o1.length 0 (C, o1.map some) [] = some (a1, t1))
    (r2 : absFinLoop K true o2.length 0 (C, o2.map some) [] = some (a2, t2)) :
    a1.1.Sublist a2.1 := by
  have hd2 : ∀ p ∈ o2, p ∉ keys C := fun p hp => hd1 p (h12 p hp)
  obtain ⟨tl1, e1, s1, z1⟩ := absFinLoop_spec K _ _ _ _ _ _ (DisjO.of_order hd1) r1
  obtain ⟨tl2, e2, s2, z2⟩ := absFinLoop_spec K _ _ _ _ _ _ (DisjO.of_order hd2) r2
  simp only [List.nil_append] at e1 e2
  subst e1; subst e2
  have hall1 : ∀ p ∈ o1, p ∈ t1 := by
    intro p hp
    rcases s1.struck p (mem_map_some.2 hp) with h | h
    · exfalso
      obtain ⟨j, hj⟩ := List.mem_iff_getElem?.1 h
      have hlt : j < a1.2.length := by
        rcases Nat.lt_or_ge j a1.2.length with h' | h'
        · exact h'
        · rw [List.getElem?_eq_none h'] at hj; cases hj
      have hlen : a1.2.length = o1.length := by rw [s1.slots.1]; simp
      have := z1 j (Nat.zero_le _) (by omega) (by simp; omega)
      rw [this] at hj; cases hj
    · exact h
  refine sublist_of_subset ((List.pairwise_map.1 hC).imp fun hne e => hne (congrArg _ e)) s1.sub s2.sub ?_
  intro x hx
  obtain ⟨q, b⟩ := x
  have hxC : (q, b) ∈ C := s1.sub.subset hx
  apply Classical.byContradiction
  intro hnot
  have hq2 : q ∉ keys a2.1 := not_mem_keys_of_not_mem hC (fun _ h => s2.sub.subset h) hxC hnot
  have hqt2 : q ∈ t2 := s2.removed q (List.mem_map.2 ⟨_, hxC, rfl⟩) hq2
  obtain ⟨z, hz, hv⟩ := s2.reach q hqt2
  have hz2 : z ∈ o2 := mem_map_some.1 hz
  -- along the path: finalised by the first run as well
  have claim : ∀ v, Via K (· ∈ t2) z v → v ∈ o1 ∨ v ∉ keys a1.1 := by
    intro v hv
    induction hv with
    | refl _ => exact Or.inl (h12 z hz2)
    | @step u v hu hvk hvt ih =>
      have hu1 : u ∈ t1 := by
        rcases ih with h | h
        · exact hall1 u h
        · rcases s2.within u hu.right with e | e | e
          · exact absurd e id
          · exact s1.removed u e h
          · exact hall1 u (h12 u (mem_map_some.1 e))
      exact Or.inr (s1.closed u hu1 v hvk)
  rcases claim q hv with h | h
  · exact hd1 q h (List.mem_map.2 ⟨_, hxC, rfl⟩)
  · exact h (List.mem_map.2 ⟨_, hx, rfl⟩)

theorem order_disj (L : Ledger) (marks : List Nat) (hL : (keys L).Nodup) (order : List Nat)
    (hmem : ∀ p, p ∈ order ↔ ∃ b, (p, b) ∈ L ∧ (p, b) ∉ collectL L marks) : ∀ p ∈ order, p ∉ keys (collectL L marks) := by
  intro p hp
  obtain ⟨b, hb, hnb⟩ := (hmem p).1 hp
  exact not_mem_keys_of_not_mem hL (fun _ h => (List.mem_filter.1 h).1) hb hnb

theorem sweepL_det (K : Nat → List Nat) (running : Bool) (L : Ledger) (marks : List Nat) (L1 L2 : Ledger) (hL : (keys L).Nodup)
    (h1 : SweepL K running L marks L1) (h2 : SweepL K running L marks L2) : L1 = L2 := by
  obtain ⟨o1, a1, t1, _, hm1, hr1, rfl⟩ := h1
  obtain ⟨o2, a2, t2, _, hm2, hr2, rfl⟩ := h2
  cases running with
  | false => rw [absFinLoop_stopped K _ _ _ _ _ _ hr1, absFinLoop_stopped K _ _ _ _ _ _ hr2]
  | true =>
    have hC : (keys (collectL L marks)).Nodup := List.Nodup.sublist (keys_sublist List.filter_sublist) hL
    have d1 := order_disj L marks hL o1 hm1
    have d2 := order_disj L marks hL o2 hm2
    have h12 : ∀ p, p ∈ o1 ↔ p ∈ o2 := fun p => (hm1 p).trans (hm2 p).symm
    exact (absFinLoop_sub_le K _ o1 o2 hC d1 (fun p hp => (h12 p).2 hp) a1 a2 t1 t2 hr1 hr2).eq_of_length_le
      (absFinLoop_sub_le K _ o2 o1 hC d2 (fun p hp => (h12 p).1 hp) a2 a1 t2 t1 hr2 hr1).length_le

theorem ledgerK_det (K : Nat → List Nat) (r : Reg) (L : Ledger) (op : Op) (L1 L2 : Ledger) (hL : (keys L).Nodup)
    (hok : okOp L op) (h1 : LedgerK K r L op L1) (h2 : LedgerK K r L op L2) : L1 = L2 := by
  cases h1 with
  | new_plain p root marks hr hth =>
    cases h2 with
    | new_plain => rfl
    | new_collect _ _ _ _ _ hth' _ => exact absurd hth' hth
    | new_stopped _ _ _ hr' => rw [hr] at hr'; cases hr'
  | new_collect p root marks L' hr hth hs =>
    cases h2 with
    | new_plain _ _ _ _ hth' => exact absurd hth hth'
    | new_collect _ _ _ _ _ _ hs' =>
      exact sweepL_det K true ((p, root) :: L) marks _ _ (List.nodup_cons.2 ⟨hok.1, hL⟩) hs hs'
    | new_stopped _ _ _ hr' => rw [hr] at hr'; cases hr'
  | new_stopped p root marks hr =>
    cases h2 with
    | new_plain _ _ _ hr' _ => rw [hr] at hr'; cases hr'
    | new_collect _ _ _ _ hr' _ _ => rw [hr] at hr'; cases hr'
    | new_stopped => rfl
  | newRaw p => cases h2; rfl
  | del_run p a' t hr ha =>
    cases h2 with
    | del_run _ a'' t' _ ha' => rw [ha] at ha'; cases ha'; rfl
    | del_stopped _ hr' => rw [hr] at hr'; cases hr'
  | del_stopped p hr =>
    cases h2 with
    | del_run _ _ _ hr' _ => rw [hr] at hr'; cases hr'
    | del_stopped => rfl
  | delRaw p a' t ha =>
    cases h2 with
    | delRaw _ a'' t' ha' => rw [ha] at ha'; cases ha'; rfl
  | sweep marks L' hs =>
    cases h2 with
    | sweep _ _ hs' => exact sweepL_det K _ L marks _ _ hL hs hs'
  | stop => cases h2; rfl
  | start => cases h2; rfl

end Cello.Registry
