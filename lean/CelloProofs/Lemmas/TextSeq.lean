/-
  Lemmas for C15 (engine `text`): sequences.  What `print_to_with` appends to a sink is the concatenation of the items' texts
  (`printItems_at_end`); on an input that shows that text `scan_from_with` stores the items' values and stops behind it
  (`scanItem_text`, `scanItems_text`), by the String, integer and floating pairs of TextString / TextInt / TextFloat and, for a
  separator, by scanf's matching of a literal against itself (`matchLit_self`).
-/
import CelloProofs.Lemmas.TextString
import CelloProofs.Lemmas.TextInt
import CelloProofs.Lemmas.TextFloat

namespace Cello.Text

theorem put_at_end (o : Sink) (t : List Nat) : o.put o.data.length t = { o with data := o.data ++ t } := by
  cases o with
  | mk k d => cases k <;> simp [Sink.put]

theorem put_of_len (o : Sink) (pos : Nat) (t : List Nat) (h : pos = o.data.length) :
    o.put pos t = { o with data := o.data ++ t } := by
  subst h; exact put_at_end o t

theorem showStringTo_at_end (esc : List (Nat × List Nat)) (opn cls s : List Nat) (o : Sink) :
    showStringTo esc opn cls s o o.data.length
      = ({ o with data := o.data ++ showString esc opn cls s }, o.data.length + (showString esc opn cls s).length) := by
  have hfold : ∀ (s : List Nat) (o : Sink),
      s.foldl (fun (st : Sink × Nat) b => (st.1.put st.2 (showByte esc b), st.2 + (showByte esc b).length)) (o, o.data.length)
        = ({ o with data := o.data ++ s.flatMap (showByte esc) }, o.data.length + (s.flatMap (showByte esc)).length) := by
    intro s
    induction s with
    | nil => intro o; simp
    | cons b s ih =>
      intro o
      simp only [List.foldl_cons, put_at_end]
      have := ih { o with data := o.data ++ showByte esc b }
      simp only [List.length_append] at this
      rw [this]
      simp [List.flatMap_cons, Nat.add_assoc]
  simp only [showStringTo, put_at_end]
  have := hfold s { o with data := o.data ++ opn }
  simp only [List.length_append] at this
  rw [this]
  rw [put_of_len _ _ _ (by simp only [List.length_append])]
  simp only [showString, List.length_append, List.append_assoc]
  congr 1; omega

theorem printItem_at_end (c : Cfg) (o : Sink) (it : Item) :
    printItem c o o.data.length it = ({ o with data := o.data ++ it.text c }, o.data.length + (it.text c).length) := by
  cases it with
  | shw v => cases v <;> simp [printItem, Item.text, showStringTo_at_end, put_at_end]
  | _ => simp [printItem, Item.text, put_at_end]

theorem printItems_at_end (c : Cfg) (its : List Item) : ∀ (o : Sink),
    printItems c o o.data.length its
      = ({ o with data := o.data ++ its.flatMap (Item.text c) }, o.data.length + (its.flatMap (Item.text c)).length) := by
  induction its with
  | nil => intro o; simp [printItems]
  | cons it its ih =>
    intro o
    simp only [printItems, printItem_at_end]
    have := ih { o with data := o.data ++ it.text c }
    simp only [List.length_append] at this
    rw [this]
    simp [List.flatMap_cons, Nat.add_assoc]

theorem view_mk (k : Kind) (pre t z : List Nat) :
    ({ kind := k, text := pre ++ t ++ z, cur := pre.length } : Input).view pre.length = some (t ++ z) := by
  cases k <;> simp [Input.view]

theorem view_adv (i : Input) (pos : Nat) (a l : List Nat) (h : i.view pos = some (a ++ l)) :
    (i.adv a.length).view (pos + a.length) = some l := by
  cases i with
  | mk k text cur =>
    cases k with
    | str =>
      simp only [Input.view, Input.adv] at h ⊢
      split at h
      · rename_i hle
        simp only [Option.some.injEq] at h
        have hlen : text.length - pos = a.length + l.length := by
          have := congrArg List.length h
          simpa [List.length_drop] using this
        have : pos + a.length ≤ text.length := by omega
        simp only [this, if_true, Option.some.injEq]
        rw [← List.drop_drop, h, List.drop_left]
      · exact absurd h (by simp)
    | file =>
      simp only [Input.view, Input.adv, Option.some.injEq] at h ⊢
      rw [← List.drop_drop, h, List.drop_left]

theorem adv_adv (i : Input) (a b : Nat) : (i.adv a).adv b = i.adv (a + b) := by
  cases i with
  | mk k text cur => cases k <;> simp [Input.adv, Nat.add_assoc]

theorem adv_zero (i : Input) : i.adv 0 = i := by
  cases i with
  | mk k text cur => cases k <;> simp [Input.adv]

theorem adv_kind (i : Input) (a : Nat) : (i.adv a).kind = i.kind := by
  cases i with
  | mk k text cur => cases k <;> simp [Input.adv]

theorem adv_str (i : Input) (h : i.kind = .str) (a b : Nat) : i.adv a = i.adv b := by
  cases i with
  | mk k text cur => simp only at h; subst h; simp [Input.adv]

theorem lastIs_cons_cons (p : Nat → Bool) (a b : Nat) (r : List Nat) : lastIs p (a :: b :: r) = lastIs p (b :: r) := by
  simp [lastIs]

/-- scanf matching of a separator against itself followed by `f` consumes exactly the separator, unless the separator ends in
    white space and `f` starts with white space (then the white-space directive swallows the beginning of `f`) -/
theorem matchLit_self (t : List Nat) : ∀ f : List Nat, ¬(lastIs isSpace t = true ∧ headIs isSpace f = true) →
    matchLit t (t ++ f) = f ∧ (headIs isSpace t = true → matchLit t (skipSpace (t ++ f)) = f) := by
  induction t with
  | nil => intro f _; simp [matchLit, headIs]
  | cons a t ih =>
    intro f hf
    by_cases ha : isSpace a = true
    · -- a white-space directive
      have key : matchLit t (skipSpace (t ++ f)) = f := by
        cases t with
        | nil =>
          have : headIs isSpace f = false := by
            cases h : headIs isSpace f with
            | false => rfl
            | true => exact absurd ⟨by simp [lastIs, ha], h⟩ hf
          simp [matchLit, skipSpace_of_head f this]
        | cons b t' =>
          have hf' : ¬(lastIs isSpace (b :: t') = true ∧ headIs isSpace f = true) := by
            rw [lastIs_cons_cons] at hf; exact hf
          by_cases hb : isSpace b = true
          · exact (ih f hf').2 (by simp [headIs, hb])
          · have hb' : isSpace b = false := by simpa using hb
            rw [skipSpace_of_head _ (by simp [headIs, hb'])]
            exact (ih f hf').1
      constructor
      · simp only [List.cons_append, matchLit, ha, if_true]
        rw [skipSpace_cons_space a _ ha]; exact key
      · intro _
        simp only [List.cons_append, matchLit, ha, if_true]
        rw [skipSpace_idem, skipSpace_cons_space a _ ha]; exact key
    · have ha' : isSpace a = false := by simpa using ha
      constructor
      · simp only [List.cons_append, matchLit, ha', Bool.false_eq_true, if_false, if_true]
        apply (ih f _).1
        cases t with
        | nil => simp [lastIs]
        | cons b t' => rw [lastIs_cons_cons] at hf; exact hf
      · intro h; simp [headIs, ha'] at h

theorem withN_ok {α : Type} (rd : List Nat → Res (α × List Nat)) (d : α) (t f : List Nat) (a : α) (pos : Nat)
    (h : rd (t ++ f) = .ok (a, f)) : withN rd d (t ++ f) pos = (a, .ok (f, pos + t.length)) := by
  simp [withN, h]

theorem run_ok {β : Type} (i : Input) (pos : Nat) (d : β) (rd : List Nat → Nat → β × Res (List Nat × Nat))
    (l rest : List Nat) (b : β) (pos' : Nat) (hv : i.view pos = some l) (hr : rd l pos = (b, .ok (rest, pos'))) :
    i.run pos d rd = (b, .ok (i.adv (l.length - rest.length), pos')) := by
  simp [Input.run, hv, hr]

theorem run_text {β : Type} (i : Input) (pos : Nat) (d : β) (rd : List Nat → Nat → β × Res (List Nat × Nat))
    (t f : List Nat) (b : β) (hv : i.view pos = some (t ++ f)) (hr : rd (t ++ f) pos = (b, .ok (f, pos + t.length))) :
    i.run pos d rd = (b, .ok (i.adv t.length, pos + t.length)) := by
  rw [run_ok i pos d rd (t ++ f) f b (pos + t.length) hv hr]
  simp

theorem scanItem_text (c : Cfg) (T : Tables c) (hc : c.look.continues = true) (hp : c.pctUsesN = true) (A : ArmsOK c)
    (it : Item) (f : List Nat) (i : Input) (pos : Nat) (hv : it.valid = true) (hs : it.safe i.kind f = true)
    (hsee : i.view pos = some (it.text c ++ f)) :
    scanItem c i pos it.shape = (it.readBack c, .ok (i.adv (it.text c).length, pos + (it.text c).length)) := by
  cases it with
  | shw v =>
    cases v with
    | str s =>
      simp only [Item.valid, List.all_eq_true, bne_iff_ne, ne_eq] at hv
      simp only [Item.text] at hsee ⊢
      have hl := lookString_show c T hc s (fun b hb => hv b hb) f pos
      simp only [Item.shape, scanItem, Item.readBack]
      rw [run_text i pos [63] (lookString c.look) _ f s hsee hl]
    | int n =>
      simp only [Item.text] at hsee ⊢
      rw [← printIntSpec_l_signed .i rfl n hv] at hsee ⊢
      have h1 := scanIntSpec_print c A .l .i n hv f hs
      rw [convInt_l .i n hv] at h1
      simp only [Item.shape, scanItem, Item.readBack]
      rw [run_text i pos 77 _ _ f n hsee (withN_ok _ _ _ _ _ _ h1)]
    | flt b =>
      simp only [Item.text] at hsee ⊢
      have h1 : scanFloatSpec c true .f (printF b ++ f) = .ok (reparseSpec (fspecNarrow c true .f) .f b, f) :=
        scanFloating_print _ .f b f hs
      simp only [Item.shape, scanItem, Item.readBack]
      rw [run_text i pos _ _ _ f _ hsee (withN_ok _ _ _ _ _ _ h1)]
  | ispec m cv n =>
    simp only [Item.text] at hsee ⊢
    have h1 := scanIntSpec_print c A m cv n hv f hs
    simp only [Item.shape, scanItem, Item.readBack]
    rw [run_text i pos 77 _ _ f _ hsee (withN_ok _ _ _ _ _ _ h1)]
  | fspec l cv b =>
    simp only [Item.text] at hsee ⊢
    have h1 : scanFloatSpec c l cv (printFloatSpec cv b ++ f) = .ok (reparseSpec (fspecNarrow c l cv) cv b, f) :=
      scanFloating_print _ cv b f hs
    simp only [Item.shape, scanItem, Item.readBack]
    rw [run_text i pos _ _ _ f _ hsee (withN_ok _ _ _ _ _ _ h1)]
  | lit t =>
    simp only [Item.text] at hsee ⊢
    simp only [Item.shape, scanItem, Item.readBack, hsee]
    cases hkk : i.kind with
    | str => rw [adv_str i hkk _ t.length]
    | file =>
      have hno : ¬(lastIs isSpace t = true ∧ headIs isSpace f = true) := by
        rw [hkk] at hs   -- `hs` is `(!(lastIs isSpace t && headIs isSpace f)) = true`, by `litSafe .file`
        rw [← Bool.and_eq_true, Bool.not_eq_true, ← Bool.not_eq_true']; exact hs
      rw [(matchLit_self t f hno).1]; simp
  | pct =>
    simp only [Item.text, List.cons_append, List.nil_append] at hsee ⊢
    simp only [Item.shape, scanItem, Item.readBack, hsee]
    rw [skipSpace_nonspace 37 _ (by decide)]
    simp [hp]

theorem scanItems_text (c : Cfg) (T : Tables c) (hc : c.look.continues = true) (hp : c.pctUsesN = true) (A : ArmsOK c)
    (its : List Item) (z : List Nat) :
    ∀ (i : Input) (pos : Nat), contractOK c i.kind its z = true →
      i.view pos = some (its.flatMap (Item.text c) ++ z) →
      scanItems c i pos (its.map Item.shape)
        = (its.filterMap (Item.readBack c), .ok (i.adv (its.flatMap (Item.text c)).length, pos + (its.flatMap (Item.text c)).length)) := by
  induction its with
  | nil => intro i pos _ _; simp [scanItems, adv_zero]
  | cons it its ih =>
    intro i pos hcon hsee
    simp only [contractOK, Bool.and_eq_true] at hcon
    obtain ⟨⟨hv, hs⟩, hrest⟩ := hcon
    simp only [List.flatMap_cons, List.append_assoc] at hsee
    have h1 := scanItem_text c T hc hp A it _ i pos hv hs hsee
    have hsee' := view_adv i pos _ _ hsee
    have h2 := ih (i.adv (it.text c).length) (pos + (it.text c).length) (by rw [adv_kind]; exact hrest) hsee'
    simp only [List.map_cons, scanItems, h1, h2, List.filterMap_cons, List.flatMap_cons, List.length_append, adv_adv, Nat.add_assoc]
    cases it.readBack c <;> simp

theorem contract_valid (c : Cfg) (k : Kind) (its : List Item) : ∀ (z : List Nat), contractOK c k its z = true → ∀ it ∈ its, it.valid = true := by
  induction its with
  | nil => intro z _ it hit; simp at hit
  | cons a r ih =>
    intro z h it hit
    simp only [contractOK, Bool.and_eq_true] at h
    rcases List.mem_cons.1 hit with rfl | hm
    · exact h.1.1
    · exact ih z h.2 it hm

def Item.isFloat : Item → Bool
  | .shw (.flt _) => true
  | .fspec _ _ _ => true
  | _ => false

theorem readBack_eq_val (c : Cfg) (it : Item) (h : it.isFloat = false) (hw : it.inWidth c = true) : it.readBack c = it.val? := by
  cases it with
  | shw v => cases v <;> simp_all [Item.readBack, Item.val?, Item.isFloat]
  | ispec m cv n => simp [Item.readBack, Item.val?, convInt_inWidth m cv n hw]
  | _ => simp_all [Item.readBack, Item.val?, Item.isFloat]

end Cello.Text
