/-
  Lemmas for C19: the collector's release paths (`finalise`, `gcRem`, `sweepLoop`, `St.collect` of Cello/Hdr.lean).

  `dealloc(destruct(x))` nests through the destructor of a Box.  `FinSpec`, `RemSpec`, `LoopSpec` say of `finalise`, `gcRem`,
  `sweepLoop`: no `ub`, the invariants are kept, the object finalised is released, objects that are alive and not listed stay
  alive (this is why the final release of an object whose destructor started a cascade is its first: it was un-listed before
  its destructor ran), and whatever was listed before the call and is not listed after it has been released (`gone`).
  Fuel: every nested call is preceded by the removal of one listed object, so `St.listed s < fuel` suffices
  (`listed_lt_fuelFor`: every top-level call has it).
-/
import CelloProofs.Lemmas.HdrBody

namespace Cello.Hdr

variable {cfg : Config}

theorem mem_strike {x a : Nat} {p : List (Option Nat)} : some a ∈ strike x p ↔ some a ∈ p ∧ a ≠ x := by
  unfold strike
  simp only [List.mem_map]
  constructor
  · rintro ⟨o, ho, h⟩
    split at h
    · cases h
    · subst h; rename_i hne; exact ⟨ho, fun e => hne (by rw [e])⟩
  · rintro ⟨h, hne⟩
    exact ⟨some a, h, by simp [hne]⟩

theorem strike_cons (x : Nat) (o : Option Nat) (r : List (Option Nat)) :
    strike x (o :: r) = (if o = some x then none else o) :: strike x r := rfl

theorem strike_count (x : Nat) (p : List (Option Nat)) :
    ((strike x p).filter Option.isSome).length + (if some x ∈ p then 1 else 0) ≤ (p.filter Option.isSome).length := by
  induction p with
  | nil => simp [strike]
  | cons o r ih =>
    rw [strike_cons]
    cases o with
    | none => simpa [List.filter_cons] using ih
    | some y =>
      by_cases hy : y = x
      · subst hy; simp; split at ih <;> omega
      · simp only [List.mem_cons, Option.some.injEq, Ne.symm hy, false_or]
        simp [hy]; omega

theorem mem_arrange (order : List Nat) : ∀ (cand : List Nat) (a : Nat), a ∈ arrange order cand ↔ a ∈ cand := by
  induction order with
  | nil => intro cand a; simp [arrange]
  | cons o os ih =>
    intro cand a
    simp only [arrange]
    split
    · rename_i hc
      have hc' : o ∈ cand := by simpa using hc
      simp only [List.mem_cons, ih]
      constructor
      · rintro (h | h)
        · subst h; exact hc'
        · exact List.mem_of_mem_erase h
      · intro h
        by_cases e : a = o
        · exact Or.inl e
        · exact Or.inr ((List.mem_erase_of_ne e).mpr h)
    · exact ih cand a

/-- the collector lists `a`: on the pending list of the sweep under way, or in the registry -/
def Listed (s : St) (a : Nat) : Prop := some a ∈ s.pending ∨ ∃ p ∈ s.reg, p.1 = a

/-- what is on the pending list is a live heap object that has left the registry -/
structure PendOK (cfg : Config) (s : St) : Prop where
  pend : ∀ a, some a ∈ s.pending → ∃ o, s.get a = some o ∧ o.hdr.alloc = cfg.cHeap ∧ o.live = true
  disj : ∀ a, some a ∈ s.pending → ∀ p ∈ s.reg, p.1 ≠ a

/-- no sweep is under way -/
def NoPend (s : St) : Prop := ∀ a, some a ∉ s.pending

theorem noPend_of_nil {s : St} (h : s.pending = []) : NoPend s := by
  intro a ha; rw [h] at ha; cases ha

theorem pendOK_of_noPend {s : St} (h : NoPend s) : PendOK cfg s :=
  ⟨fun a ha => absurd ha (h a), fun a ha => absurd ha (h a)⟩

theorem listed_live {s : St} (hw : WF cfg s) (hp : PendOK cfg s) {a : Nat} (h : Listed s a) :
    ∃ o, s.get a = some o ∧ o.hdr.alloc = cfg.cHeap ∧ o.live = true := by
  rcases h with h | ⟨p, hp', rfl⟩
  · exact hp.pend a h
  · exact hw.reg p hp'

/-- what a cascade of nested releases may do to a state; `listed` compares the counts `St.listed` (the fuel measure), for the
    predicate `Listed` see `Casc.listedSub` -/
structure Casc (cfg : Config) (s s' : St) : Prop where
  listed : s'.listed ≤ s.listed
  pendSub : ∀ a, some a ∈ s'.pending → some a ∈ s.pending
  regSub : ∀ p ∈ s'.reg, p ∈ s.reg
  freedExt : ∃ E, s'.freed = s.freed ++ E
  hdrs : ∀ k o, s.get k = some o → ∃ o', s'.get k = some o' ∧ o'.hdr = o.hdr ∧ o'.cap = o.cap
  nonheap : ∀ k o, s.get k = some o → o.hdr.alloc ≠ cfg.cHeap → s'.get k = some o

theorem Casc.refl (s : St) : Casc cfg s s :=
  ⟨Nat.le_refl _, fun _ h => h, fun _ h => h, ⟨[], by simp⟩, fun _ o h => ⟨o, h, rfl, rfl⟩, fun _ _ h _ => h⟩

theorem Casc.trans {a b c : St} (h1 : Casc cfg a b) (h2 : Casc cfg b c) : Casc cfg a c := by
  refine ⟨Nat.le_trans h2.listed h1.listed, fun x hx => h1.pendSub x (h2.pendSub x hx),
    fun p hp => h1.regSub p (h2.regSub p hp), ?_, ?_, ?_⟩
  · obtain ⟨E1, e1⟩ := h1.freedExt
    obtain ⟨E2, e2⟩ := h2.freedExt
    exact ⟨E1 ++ E2, by rw [e2, e1, List.append_assoc]⟩
  · intro k o h
    obtain ⟨o1, g1, k1⟩ := h1.hdrs k o h
    obtain ⟨o2, g2, k2⟩ := h2.hdrs k o1 g1
    exact ⟨o2, g2, k2.1.trans k1.1, k2.2.trans k1.2⟩
  · intro k o h hn
    exact h2.nonheap k o (h1.nonheap k o h hn) hn

theorem Casc.listedSub {s s' : St} (h : Casc cfg s s') {a : Nat} (ha : Listed s' a) : Listed s a := by
  rcases ha with ha | ⟨p, hp, e⟩
  · exact Or.inl (h.pendSub a ha)
  · exact Or.inr ⟨p, h.regSub p hp, e⟩

theorem Casc.freedMono {s s' : St} (h : Casc cfg s s') {a : Nat} (ha : a ∈ s.freed) : a ∈ s'.freed := by
  obtain ⟨E, e⟩ := h.freedExt
  rw [e]; exact List.mem_append_left _ ha

theorem wf_setPending {s : St} (h : WF cfg s) (p : List (Option Nat)) : WF cfg { s with pending := p } :=
  ⟨h.bodies, h.reg, h.freed, h.once, h.keys⟩

/-- clearing the pending slot of `x`; `s1` is the state after that -/
theorem strike_step {s : St} (hp : PendOK cfg s) {x : Nat} (hx : some x ∈ s.pending) {s1 : St}
    (hs1 : s1 = { s with pending := strike x s.pending }) :
    PendOK cfg s1 ∧ Casc cfg s s1 ∧ ¬ Listed s1 x ∧ s1.listed < s.listed ∧ (∀ a, a ≠ x → Listed s a → Listed s1 a) := by
  subst hs1
  have hlt : St.listed { s with pending := strike x s.pending } < s.listed := by
    have := strike_count x s.pending
    rw [if_pos hx] at this
    simp only [St.listed]; omega
  refine ⟨⟨?_, ?_⟩, ⟨Nat.le_of_lt hlt, ?_, fun _ h => h, ⟨[], by simp⟩, fun _ o h => ⟨o, h, rfl, rfl⟩, fun _ _ h _ => h⟩, ?_, hlt, ?_⟩
  · intro a ha; exact hp.pend a (mem_strike.mp ha).1
  · intro a ha; exact hp.disj a (mem_strike.mp ha).1
  · intro a ha; exact (mem_strike.mp ha).1
  · rintro (h | ⟨p, hpr, e⟩)
    · exact (mem_strike.mp h).2 rfl
    · exact hp.disj x hx p hpr e
  · intro a hne h
    rcases h with h | h
    · exact Or.inl (mem_strike.mpr ⟨h, hne⟩)
    · exact Or.inr h

theorem unreg_step {s : St} (hp : PendOK cfg s) {x : Nat} (hx : some x ∉ s.pending) (hr : ∃ p ∈ s.reg, p.1 = x) :
    PendOK cfg (s.unreg x) ∧ Casc cfg s (s.unreg x) ∧ ¬ Listed (s.unreg x) x ∧ (s.unreg x).listed < s.listed ∧
    (∀ a, a ≠ x → Listed s a → Listed (s.unreg x) a) := by
  have hlt : (s.unreg x).listed < s.listed := by
    obtain ⟨p, hpr, e⟩ := hr
    have : (s.reg.filter (fun p : Nat × Bool => p.1 != x)).length < s.reg.length :=
      List.length_filter_lt_length_iff_exists.mpr ⟨p, hpr, by simp [e]⟩
    simp only [St.listed, St.unreg]; omega
  refine ⟨⟨hp.pend, ?_⟩, ⟨Nat.le_of_lt hlt, fun _ h => h, ?_, ⟨[], by simp [St.unreg]⟩, fun _ o h => ⟨o, h, rfl, rfl⟩, fun _ _ h _ => h⟩,
    ?_, hlt, ?_⟩
  · intro a ha p hpr; exact hp.disj a ha p (List.mem_filter.mp hpr).1
  · intro p hpr; exact (List.mem_filter.mp hpr).1
  · rintro (h | ⟨p, hpr, e⟩)
    · exact hx h
    · have := (List.mem_filter.mp hpr).2
      simp [e] at this
  · intro a hne h
    rcases h with h | ⟨p, hpr, e⟩
    · exact Or.inl h
    · exact Or.inr ⟨p, List.mem_filter.mpr ⟨hpr, by simp [e, hne]⟩, e⟩

theorem dealloc_heap (F : Facts cfg) (s : St) (id : Nat) {o : Obj} (h : o.hdr.alloc = cfg.cHeap) :
    dealloc cfg s id o = (s.release id, .ok) := by
  simp [dealloc, h, F.refHeap]

/-- for an object written out field by field (`{ o with body := b }`): `rw [dealloc_heap ..]` would take the object from `h` -/
theorem dealloc_heap' (F : Facts cfg) (s : St) (id : Nat) {h : Header} (hh : h.alloc = cfg.cHeap) (c : Nat) (b : Body) (l : Bool) :
    dealloc cfg s id { hdr := h, cap := c, body := b, live := l } = (s.release id, .ok) :=
  dealloc_heap F s id hh

theorem destructBody_heap (F : Facts cfg) {hd : Header} (h : hd.alloc = cfg.cHeap) (b : Body) :
    (destructBody cfg hd b).2 = .ok := by
  have hs : cfg.cHeap ∉ cfg.sDel.classes := by simpa using (Guard.protects_iff.mp F.sDel).2.2.2.1
  have ht : cfg.cHeap ∉ cfg.tDel.classes := by simpa using (Guard.protects_iff.mp F.tDel).2.2.2.1
  cases b with
  | scalar v => cases v <;> simp [destructBody, h, hs]
  | tuple items => simp [destructBody, h, ht]
  | _ => rfl

/-- the end of `dealloc(destruct(id))`: the destructed body is stored, the block released; `s'` is the state after that -/
theorem release_step {s : St} (hw : WF cfg s) (hp : PendOK cfg s) {id : Nat} {o : Obj} (hget : s.get id = some o)
    (hlive : o.live = true) (hheap : o.hdr.alloc = cfg.cHeap) (hnl : ¬ Listed s id) (b : Body) (hb : BodyOK cfg b)
    {s' : St} (hs' : s' = (s.updBody id (fun _ => b)).release id) :
    WF cfg s' ∧ PendOK cfg s' ∧ Casc cfg s s' ∧ id ∈ s'.freed ∧ (∀ k, k ≠ id → s'.isLive k = s.isLive k) ∧
    (∀ a, Listed s a → Listed s' a) ∧ (∀ e ∈ s'.freed, e ∈ s.freed ∨ e = id) := by
  subst hs'
  have hnreg : ∀ p ∈ s.reg, p.1 ≠ id := fun p hpr e => hnl (Or.inr ⟨p, hpr, e⟩)
  have h1 : WF cfg (s.updBody id (fun _ => b)) := wf_updBody hw id _ (fun _ _ _ => hb)
  have hget1 : (s.updBody id (fun _ => b)).get id = some { o with body := b } := by
    rw [get_updBody, hget]; simp
  have hgetk : ∀ k, ((s.updBody id (fun _ => b)).release id).get k =
      (s.get k).map (fun o' => if k = id then { o' with body := b, live := false } else o') := by
    intro k
    rw [get_release, get_updBody]
    cases s.get k with
    | none => rfl
    | some o' => by_cases hk : k = id <;> simp [hk]
  refine ⟨wf_release h1 id _ hnreg hget1 hheap hlive, ⟨?_, hp.disj⟩, ⟨Nat.le_refl _, fun _ h => h, fun _ h => h, ⟨[id], rfl⟩, ?_, ?_⟩, ?_, ?_, ?_, ?_⟩
  · intro a ha
    obtain ⟨oa, hga, hha, hla⟩ := hp.pend a ha
    have hne : a ≠ id := fun e => hnl (Or.inl (e ▸ ha))
    exact ⟨oa, by rw [hgetk, hga]; simp [hne], hha, hla⟩
  · intro k o' hk
    rw [hgetk, hk]
    by_cases e : k = id
    · exact ⟨{ o' with body := b, live := false }, by simp [e], rfl, rfl⟩
    · exact ⟨o', by simp [e], rfl, rfl⟩
  · intro k o' hk hn
    have e : k ≠ id := by
      intro e; subst e; rw [hget] at hk; cases hk; exact hn hheap
    rw [hgetk, hk]; simp [e]
  · simp [St.release]
  · intro k hk
    simp only [St.isLive, hgetk]
    cases s.get k <;> simp [hk]
  · intro a ha; exact ha
  · intro e he
    simp only [St.release, St.updBody, List.mem_append, List.mem_singleton] at he
    exact he

def FinPre (cfg : Config) (s : St) (id : Nat) : Prop :=
  ∃ o, s.get id = some o ∧ o.live = true ∧ o.hdr.alloc = cfg.cHeap ∧ ¬ Listed s id

/-- what `dealloc(destruct(id))` does when it starts from a live heap object that the collector does not list
    (`FinPre`: it was un-listed before its destructor runs) -/
structure FinSpec (cfg : Config) (s : St) (id : Nat) (r : St × Outcome) : Prop where
  ok : r.2 = .ok
  wf : WF cfg r.1
  pend : PendOK cfg r.1
  casc : Casc cfg s r.1
  released : id ∈ r.1.freed
  alive : ∀ k, k ≠ id → ¬ Listed s k → s.isLive k = true → r.1.isLive k = true
  gone : ∀ a, Listed s a → Listed r.1 a ∨ a ∈ r.1.freed
  fresh : ∀ e ∈ r.1.freed, e ∈ s.freed ∨ Listed s e ∨ e = id

/-- what `GC_Rem(x)` does: nothing if `x` is not listed, otherwise `x` is un-listed and finalised -/
structure RemSpec (cfg : Config) (s : St) (x : Nat) (r : St × Outcome) : Prop where
  ok : r.2 = .ok
  wf : WF cfg r.1
  pend : PendOK cfg r.1
  casc : Casc cfg s r.1
  released : Listed s x → x ∈ r.1.freed
  alive : ∀ k, ¬ Listed s k → s.isLive k = true → r.1.isLive k = true
  gone : ∀ a, Listed s a → Listed r.1 a ∨ a ∈ r.1.freed
  fresh : ∀ e ∈ r.1.freed, e ∈ s.freed ∨ Listed s e
  same : ¬ Listed s x → r.1 = s

/-- **un-list, then finalise**: `x` is listed in `s`, `s1` is `s` with `x` struck off the pending list or erased from the
    registry (everything else still listed), and `r` is what `dealloc(destruct(x))` makes of `s1` -/
theorem RemSpec.of_unlisted {s s1 : St} {x : Nat} {r : St × Outcome} (hx : Listed s x) (hc1 : Casc cfg s s1)
    (hobjs : s1.objs = s.objs) (hfreed : s1.freed = s.freed)
    (hkeep : ∀ a, a ≠ x → Listed s a → Listed s1 a) (hs : FinSpec cfg s1 x r) : RemSpec cfg s x r := by
  refine ⟨hs.ok, hs.wf, hs.pend, hc1.trans hs.casc, fun _ => hs.released, ?_, ?_, ?_, fun h => absurd hx h⟩
  · intro k hk hl
    exact hs.alive k (fun e => hk (e ▸ hx)) (fun h => hk (hc1.listedSub h)) (by simpa only [St.isLive, St.get, hobjs] using hl)
  · intro a ha
    by_cases e : a = x
    · exact Or.inr (e ▸ hs.released)
    · exact hs.gone a (hkeep a e ha)
  · intro e he
    rcases hs.fresh e he with h | h | h
    · exact Or.inl (hfreed ▸ h)
    · exact Or.inr (hc1.listedSub h)
    · exact Or.inr (h ▸ hx)

theorem gcRem_not_listed (fin : St → Nat → St × Outcome) {s : St} {x : Nat} (hp : some x ∉ s.pending)
    (hr : s.isReg x = false) : gcRem fin cfg s x = (s, .ok) := by
  simp [gcRem, hp, hr]

theorem gcRem_spec (F : Facts cfg) {fin : St → Nat → St × Outcome} {fuel : Nat}
    (hfin : ∀ s id, WF cfg s → PendOK cfg s → FinPre cfg s id → s.listed < fuel → FinSpec cfg s id (fin s id))
    (s : St) (x : Nat) (hw : WF cfg s) (hp : PendOK cfg s) (hf : s.listed ≤ fuel) :
    RemSpec cfg s x (gcRem fin cfg s x) := by
  by_cases hpc : s.pending.contains (some x) = true
  · -- found on the pending list: struck off, finalised
    have hx : some x ∈ s.pending := by simpa using hpc
    simp only [gcRem, hpc, if_true, F.remPendFinalises, F.remPendClear]
    obtain ⟨hp1, hc1, hnl1, hlt1, hkeep1⟩ := strike_step hp hx rfl
    obtain ⟨o, hgo, hho, hlo⟩ := hp.pend x hx
    exact .of_unlisted (Or.inl hx) hc1 rfl rfl hkeep1
      (hfin _ x (wf_setPending hw _) hp1 ⟨o, hgo, hlo, hho, hnl1⟩ (Nat.lt_of_lt_of_le hlt1 hf))
  · have hx : some x ∉ s.pending := by simpa using hpc
    by_cases hr : s.isReg x = true
    · -- found in the registry: erased, finalised
      simp only [gcRem, hpc, Bool.false_eq_true, if_false, hr, if_true, F.remRegErase]
      obtain ⟨p, hpr, rfl⟩ := isReg_true hr
      obtain ⟨hp1, hc1, hnl1, hlt1, hkeep1⟩ := unreg_step hp hx ⟨p, hpr, rfl⟩
      obtain ⟨o, hgo, hho, hlo⟩ := hw.reg p hpr
      exact .of_unlisted (Or.inr ⟨p, hpr, rfl⟩) hc1 rfl rfl hkeep1
        (hfin _ p.1 (wf_unreg hw p.1) hp1 ⟨o, hgo, hlo, hho, hnl1⟩ (Nat.lt_of_lt_of_le hlt1 hf))
    · -- not listed: nothing happens
      rw [gcRem_not_listed fin hx (Bool.eq_false_iff.mpr hr)]
      have hnl : ¬ Listed s x := by
        rintro (h | ⟨p, hpr, e⟩)
        · exact hx h
        · exact isReg_false (Bool.eq_false_iff.mpr hr) p hpr e
      exact ⟨rfl, hw, hp, Casc.refl s, fun h => absurd h hnl, fun _ _ h => h, fun a ha => Or.inl ha, fun e he => Or.inl he, fun _ => rfl⟩

/-- by induction on the fuel: the `del` inside Box_Del is `gcRem_spec` over the induction hypothesis; `id` is not listed, so
    the cascade leaves it alive (`RemSpec.alive`) and its release at the end is its first -/
theorem finalise_spec (F : Facts cfg) : ∀ (fuel : Nat) (s : St) (id : Nat), WF cfg s → PendOK cfg s → FinPre cfg s id →
    s.listed < fuel → FinSpec cfg s id (finalise fuel cfg s id) := by
  intro fuel
  induction fuel with
  | zero => intro s id _ _ _ h; omega
  | succ fuel ih =>
    intro s id hw hp hpre hf
    obtain ⟨o, hget, hlive, hheap, hnl⟩ := hpre
    have hbody : BodyOK cfg o.body := bodyOK_of_get hw hget
    rw [finalise_succ]
    simp only [hget, hlive, Bool.not_true, Bool.false_eq_true, if_false]
    split
    · -- a Box that points to something: Box_Del deletes it
      rename_i x hbx
      simp only [F.boxDelDeletes, if_true]
      have hs := gcRem_spec F (fin := finalise fuel cfg) (fuel := fuel) ih s x hw hp (Nat.le_of_lt_succ hf)
      cases hr : gcRem (finalise fuel cfg) cfg s x with
      | mk s1 out =>
        rw [hr] at hs
        have hok : out = .ok := hs.ok
        subst hok
        simp only
        obtain ⟨o1, hg1, hh1, _⟩ := hs.casc.hdrs id o hget
        have hl1 : s1.isLive id = true := hs.alive id hnl (by rw [isLive_of_get hget]; exact hlive)
        have ho1live : o1.live = true := by rw [isLive_of_get hg1] at hl1; exact hl1
        have hnl1 : ¬ Listed s1 id := fun h => hnl (hs.casc.listedSub h)
        simp only [hl1, if_true]
        rw [dealloc_heap' F _ id hheap]
        obtain ⟨w2, p2, c2, r2, a2, g2, f2⟩ :=
          release_step hs.wf hs.pend hg1 ho1live (by rw [hh1]; exact hheap) hnl1 (.box none) trivial rfl
        refine ⟨rfl, w2, p2, hs.casc.trans c2, r2, ?_, ?_, ?_⟩
        · intro k hk hnk hlk
          show ((s1.updBody id (fun _ => Body.box none)).release id).isLive k = true
          rw [a2 k hk]; exact hs.alive k hnk hlk
        · intro a ha
          rcases hs.gone a ha with h | h
          · exact Or.inl (g2 a h)
          · exact Or.inr (c2.freedMono h)
        · intro e he
          rcases f2 e he with h | h
          · rcases hs.fresh e h with h | h
            · exact Or.inl h
            · exact Or.inr (Or.inl h)
          · exact Or.inr (Or.inr h)
    · -- any other body: its own destructor, then dealloc
      have hd := destructBody_heap F hheap o.body
      cases hdb : destructBody cfg o.hdr o.body with
      | mk b out =>
        have hb : BodyOK cfg (b, out).1 := hdb ▸ destructBody_ok (cfg := cfg) (h := o.hdr) hbody
        rw [hdb] at hd
        simp only at hd
        subst hd
        simp only
        rw [dealloc_heap' F _ id hheap]
        obtain ⟨w2, p2, c2, r2, a2, g2, f2⟩ := release_step hw hp hget hlive hheap hnl b hb rfl
        refine ⟨rfl, w2, p2, c2, r2, ?_, ?_, ?_⟩
        · intro k hk _ hlk
          show ((s.updBody id (fun _ => b)).release id).isLive k = true
          rw [a2 k hk]; exact hlk
        · intro a ha; exact Or.inl (g2 a ha)
        · intro e he
          rcases f2 e he with h | h
          · exact Or.inl h
          · exact Or.inr (Or.inr h)

theorem gcRem_finalise_spec (F : Facts cfg) (fuel : Nat) (s : St) (x : Nat) (hw : WF cfg s) (hp : PendOK cfg s)
    (hf : s.listed ≤ fuel) : RemSpec cfg s x (gcRem (finalise fuel cfg) cfg s x) :=
  gcRem_spec F (finalise_spec F fuel) s x hw hp hf

/-- what GC_Sweep's release loop does over the pending objects `todo`; `done` also takes an object that is no longer pending
    but released: a nested deletion may reach a victim before the loop does -/
structure LoopSpec (cfg : Config) (s : St) (todo : List Nat) (r : St × Outcome) : Prop where
  ok : r.2 = .ok
  wf : WF cfg r.1
  pend : PendOK cfg r.1
  casc : Casc cfg s r.1
  alive : ∀ k, ¬ Listed s k → s.isLive k = true → r.1.isLive k = true
  gone : ∀ a, Listed s a → Listed r.1 a ∨ a ∈ r.1.freed
  fresh : ∀ e ∈ r.1.freed, e ∈ s.freed ∨ Listed s e
  done : ∀ a ∈ todo, (some a ∈ s.pending ∨ a ∈ s.freed) → a ∈ r.1.freed

theorem sweepLoop_spec (F : Facts cfg) (fuel : Nat) : ∀ (todo : List Nat) (s : St), WF cfg s → PendOK cfg s → s.listed < fuel →
    LoopSpec cfg s todo (sweepLoop fuel cfg todo s) := by
  intro todo
  induction todo with
  | nil =>
    intro s hw hp _
    exact ⟨rfl, hw, hp, Casc.refl s, fun _ _ h => h, fun a ha => Or.inl ha, fun e he => Or.inl he, fun a ha => by cases ha⟩
  | cons a rest ih =>
    intro s hw hp hf
    rw [sweepLoop]
    by_cases hpc : s.pending.contains (some a) = true
    · -- the slot still holds `a`: cleared, `a` finalised
      have hx : some a ∈ s.pending := by simpa using hpc
      simp only [hpc, if_true, F.swFinalises, F.swClear]
      obtain ⟨hp1, hc1, hnl1, hlt1, hkeep1⟩ := strike_step hp hx rfl
      obtain ⟨o, hgo, hho, hlo⟩ := hp.pend a hx
      have hs := RemSpec.of_unlisted (Or.inl hx) hc1 rfl rfl hkeep1
        (finalise_spec F fuel _ a (wf_setPending hw _) hp1 ⟨o, hgo, hlo, hho, hnl1⟩ (Nat.lt_trans hlt1 hf))
      cases hr : finalise fuel cfg { s with pending := strike a s.pending } a with
      | mk s' out =>
        rw [hr] at hs
        have hok : out = .ok := hs.ok
        subst hok
        simp only
        have hn := ih s' hs.wf hs.pend (Nat.lt_of_le_of_lt hs.casc.listed hf)
        refine ⟨hn.ok, hn.wf, hn.pend, hs.casc.trans hn.casc, ?_, ?_, ?_, ?_⟩
        · intro k hk hl
          exact hn.alive k (fun h => hk (hs.casc.listedSub h)) (hs.alive k hk hl)
        · intro b hb
          rcases hs.gone b hb with h | h
          · exact hn.gone b h
          · exact Or.inr (hn.casc.freedMono h)
        · intro e he
          rcases hn.fresh e he with h | h
          · exact hs.fresh e h
          · exact Or.inr (hs.casc.listedSub h)
        · intro b hb hor
          by_cases e : b = a
          · exact e ▸ hn.casc.freedMono (hs.released (Or.inl hx))
          · apply hn.done b ((List.mem_cons.mp hb).resolve_left e)
            rcases hor with h | h
            · -- was pending: still pending, or released by a nested deletion
              rcases hs.gone b (Or.inl h) with (h' | ⟨p, hpr, hpe⟩) | h'
              · exact Or.inl h'
              · exact absurd hpe (hp.disj b h p (hs.casc.regSub p hpr))
              · exact Or.inr h'
            · exact Or.inr (hs.casc.freedMono h)
    · -- the slot was cleared by a nested deletion
      have hx : some a ∉ s.pending := by simpa using hpc
      simp only [hpc, Bool.false_eq_true, if_false]
      have hn := ih s hw hp hf
      refine ⟨hn.ok, hn.wf, hn.pend, hn.casc, hn.alive, hn.gone, hn.fresh, ?_⟩
      intro b hb hor
      rcases List.mem_cons.mp hb with h | h
      · subst h
        rcases hor with h | h
        · exact absurd h hx
        · exact hn.casc.freedMono h
      · exact hn.done b h hor

/-- **what GC_Sweep over the victims `vs` does** (registered objects, in any order): it runs to its end and adds a log `E` to
    the release log — every victim is in `E`, nothing twice, nothing that was released before, only blocks of registered
    objects; the pending list is empty afterwards and objects that are not on the heap are as they were.  `s'`, `E`, `out` are
    the three components `St.sweep` and `St.teardown` return. -/
structure CollectSpec (cfg : Config) (s : St) (vs : List Nat) (s' : St) (E : List Nat) (out : Outcome) : Prop where
  ok : out = .ok
  freed : s'.freed = s.freed ++ E
  nodup : E.Nodup
  all : ∀ v ∈ vs, v ∈ E
  new : ∀ e ∈ E, e ∉ s.freed
  reg : ∀ e ∈ E, ∃ p ∈ s.reg, p.1 = e
  wf : WF cfg s'
  noPend : NoPend s'
  nonheap : ∀ k o, s.get k = some o → o.hdr.alloc ≠ cfg.cHeap → s'.get k = some o

theorem listed_lt_fuelFor (s : St) : s.listed < fuelFor s := Nat.lt_add_of_pos_right (Nat.succ_pos 1)

theorem collect_spec (F : Facts cfg) (s : St) (vs : List Nat) (hw : WF cfg s)
    (hvs : ∀ v ∈ vs, ∃ p ∈ s.reg, p.1 = v) :
    CollectSpec cfg s vs (s.collect cfg vs).1 ((s.collect cfg vs).1.freed.drop s.freed.length) (s.collect cfg vs).2 := by
  -- the state after phase 1
  let s1 : St := { s with reg := s.reg.filter (fun p => !vs.contains p.1), pending := vs.map some }
  have hmem1 : ∀ a, some a ∈ s1.pending ↔ a ∈ vs := by
    intro a; simp [s1]
  have hw1 : WF cfg s1 :=
    ⟨hw.bodies, fun p hp => hw.reg p (List.mem_filter.mp hp).1, hw.freed, hw.once, hw.keys⟩
  have hp1 : PendOK cfg s1 := by
    constructor
    · intro a ha
      obtain ⟨p, hpr, e⟩ := hvs a ((hmem1 a).mp ha)
      obtain ⟨o, hg, hh, hl⟩ := hw.reg p hpr
      exact ⟨o, e ▸ hg, hh, hl⟩
    · intro a ha p hpr e
      have := (List.mem_filter.mp hpr).2
      have hav : a ∈ vs := (hmem1 a).mp ha
      simp [e, hav] at this
  have hlisted1 : ∀ a, Listed s1 a → ∃ p ∈ s.reg, p.1 = a := by
    rintro a (h | ⟨p, hpr, e⟩)
    · exact hvs a ((hmem1 a).mp h)
    · exact ⟨p, (List.mem_filter.mp hpr).1, e⟩
  have hs := sweepLoop_spec F (fuelFor s1) vs s1 hw1 hp1 (listed_lt_fuelFor s1)
  have hcol : s.collect cfg vs =
      match sweepLoop (fuelFor s1) cfg vs s1 with
      | (s2, .ok) => ({ s2 with pending := [] }, .ok)
      | r => r := rfl
  cases hr : sweepLoop (fuelFor s1) cfg vs s1 with
  | mk s2 out =>
    rw [hr] at hs hcol
    have hok : out = .ok := hs.ok
    subst hok
    simp only at hcol
    rw [hcol]
    obtain ⟨E, hE⟩ := hs.casc.freedExt
    obtain ⟨_, hndE, hdisj⟩ := List.nodup_append.mp (hE ▸ hs.wf.once)
    have hdrop : s2.freed.drop s.freed.length = E := by rw [hE, List.drop_left]
    rw [hdrop]
    have hnew : ∀ e ∈ E, e ∉ s.freed := fun e he h => hdisj e h e he rfl
    refine ⟨rfl, hE, hndE, ?_, hnew, ?_, wf_setPending hs.wf [], noPend_of_nil rfl, hs.casc.nonheap⟩
    · intro v hv
      have hin := hs.done v hv (Or.inl ((hmem1 v).mpr hv))
      rw [hE] at hin
      obtain ⟨p, hp, rfl⟩ := hvs v hv
      exact (List.mem_append.mp hin).resolve_left (not_freed_of_reg hw hp)
    · intro e he
      exact hlisted1 e ((hs.fresh e (hE ▸ List.mem_append_right _ he)).resolve_left (hnew e he))

theorem reg_of_mem_sweepVictims {s : St} {victims : List Nat} {v : Nat} (h : v ∈ s.sweepVictims victims) : ∃ p ∈ s.reg, p.1 = v := by
  simp only [St.sweepVictims, List.mem_map, List.mem_filter] at h
  obtain ⟨p, ⟨hp, _⟩, e⟩ := h
  exact ⟨p, hp, e⟩

theorem reg_of_mem_exitVictims {s : St} {v : Nat} (h : v ∈ s.exitVictims) : ∃ p ∈ s.reg, p.1 = v := by
  simp only [St.exitVictims, List.mem_map, List.mem_filter] at h
  obtain ⟨p, ⟨hp, _⟩, e⟩ := h
  exact ⟨p, hp, e⟩

theorem mem_exitVictims_of {s : St} {p : Nat × Bool} (hp : p ∈ s.reg) (hroot : p.2 = false) : p.1 ∈ s.exitVictims := by
  simp only [St.exitVictims, List.mem_map, List.mem_filter]
  exact ⟨p, ⟨hp, by simp [hroot]⟩, rfl⟩

theorem mem_sweepVictims_of {s : St} {victims : List Nat} {v : Nat} (hv : v ∈ victims) (hr : (v, false) ∈ s.reg)
    (href : s.referenced v = false) : v ∈ s.sweepVictims victims := by
  simp only [St.sweepVictims, List.mem_map, List.mem_filter]
  exact ⟨(v, false), ⟨hr, by simp [hv, href]⟩, rfl⟩

variable {s s' : St} {vs E : List Nat} {out : Outcome}

theorem CollectSpec.of_mem (h : CollectSpec cfg s vs s' E out) {ws : List Nat} (hsub : ∀ v ∈ ws, v ∈ vs) :
    CollectSpec cfg s ws s' E out :=
  { h with all := fun v hv => h.all v (hsub v hv) }

theorem CollectSpec.unreg (h : CollectSpec cfg s vs s' E out) {e : Nat} (he : e ∈ E) : s'.isReg e = false :=
  isReg_false_of_freed h.wf (h.freed ▸ List.mem_append_right _ he)

theorem CollectSpec.heap (h : CollectSpec cfg s vs s' E out) (hw : WF cfg s) {e : Nat} (he : e ∈ E) :
    ∃ o, s.get e = some o ∧ o.hdr.alloc = cfg.cHeap ∧ o.live = true := by
  obtain ⟨p, hp, rfl⟩ := h.reg e he
  exact hw.reg p hp

theorem sweep_spec (F : Facts cfg) (hw : WF cfg s) (victims order : List Nat) :
    CollectSpec cfg s (s.sweepVictims victims) (s.sweep cfg victims order).1 (s.sweep cfg victims order).2.1
      (s.sweep cfg victims order).2.2 :=
  (collect_spec F s _ hw fun _ hv => reg_of_mem_sweepVictims ((mem_arrange order _ _).mp hv)).of_mem
    fun v hv => (mem_arrange order _ v).mpr hv

theorem teardown_spec (F : Facts cfg) (hw : WF cfg s) (order : List Nat) :
    CollectSpec cfg s s.exitVictims (s.teardown cfg order).1 (s.teardown cfg order).2.1 (s.teardown cfg order).2.2 :=
  (collect_spec F s _ hw fun _ hv => reg_of_mem_exitVictims ((mem_arrange order _ _).mp hv)).of_mem
    fun v hv => (mem_arrange order _ v).mpr hv

end Cello.Hdr
