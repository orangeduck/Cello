/-
  C09: the iteration order of a Tree built by successive `set`s (`sortedInsert`, `treeOf`) under a lawful key comparison:
  strictly descending (`treeOf_descending`), and every key that was set is found again (`treeOf_finds`).
-/
import CelloProofs.Lemmas.Cmp

namespace Cello.Cmp

section tree
variable {κ ν : Type} {P : κ → Prop} {c : κ → κ → Int}

theorem mem_sortedInsert (k : κ) (v : ν) (l : List (κ × ν)) : ∀ q ∈ sortedInsert c k v l, q = (k, v) ∨ q ∈ l := by
  intro q hq
  fun_induction sortedInsert c k v l with
  | case1 => exact Or.inl (List.mem_singleton.mp hq)
  | case2 => exact (List.mem_cons.mp hq).imp_right (List.mem_cons_of_mem _)
  | case3 => exact List.mem_cons.mp hq
  | case4 _ _ _ _ _ _ ih =>
    rcases List.mem_cons.mp hq with rfl | hq
    · exact Or.inr List.mem_cons_self
    · exact (ih hq).imp_right (List.mem_cons_of_mem _)

theorem mem_sortedInsert_self (k : κ) (v : ν) (l : List (κ × ν)) : (k, v) ∈ sortedInsert c k v l := by
  fun_induction sortedInsert c k v l with
  | case1 => exact List.mem_singleton.mpr rfl
  | case2 | case3 => exact List.mem_cons_self
  | case4 _ _ _ _ _ _ ih => exact List.mem_cons_of_mem _ ih

theorem mem_sortedInsert_of_mem (k : κ) (v : ν) (l : List (κ × ν)) (q : κ × ν) (hq : q ∈ l) :
    q ∈ sortedInsert c k v l ∨ c q.1 k = 0 := by
  fun_induction sortedInsert c k v l with
  | case1 => exact absurd hq List.not_mem_nil
  | case2 _ _ _ _ h0 =>
    rcases List.mem_cons.mp hq with rfl | hq
    · exact Or.inr h0
    · exact Or.inl (List.mem_cons_of_mem _ hq)
  | case3 => exact Or.inl (List.mem_cons_of_mem _ hq)
  | case4 _ _ _ _ _ _ ih =>
    rcases List.mem_cons.mp hq with rfl | hq
    · exact Or.inl List.mem_cons_self
    · exact (ih hq).imp (List.mem_cons_of_mem _) id

theorem sortedInsert_carrier (k : κ) (v : ν) (pk : P k) :
    ∀ l : List (κ × ν), (∀ q ∈ l, P q.1) → ∀ q ∈ sortedInsert c k v l, P q.1 := by
  intro l hP q hq
  rcases mem_sortedInsert k v l q hq with rfl | h
  · exact pk
  · exact hP q h

theorem sortedInsert_descending (h : LawfulCmpOn P c) (k : κ) (v : ν) (pk : P k) (l : List (κ × ν))
    (hP : ∀ q ∈ l, P q.1) (hd : Descending c l) : Descending c (sortedInsert c k v l) := by
  fun_induction sortedInsert c k v l with
  | case1 => exact ⟨fun _ hq => absurd hq List.not_mem_nil, trivial⟩
  | case2 k' _ rest _ h0 =>
    -- equal key: replaced in place; what was below `k'` is below `k`
    obtain ⟨pk', hPr⟩ := List.forall_mem_cons.mp hP
    exact ⟨fun q hq => h.lt_of_lt_of_le (hPr q hq) pk' pk (hd.1 q hq) (Int.le_of_eq h0), hd.2⟩
  | case3 k' _ rest _ _ hlt =>
    -- node key smaller: the new entry goes in front
    obtain ⟨pk', hPr⟩ := List.forall_mem_cons.mp hP
    refine ⟨fun q hq => ?_, hd⟩
    rcases List.mem_cons.mp hq with rfl | hq
    · exact hlt
    · exact h.lt_of_lt_of_le (hPr q hq) pk' pk (hd.1 q hq) (Int.le_of_lt hlt)
  | case4 k' _ rest _ h0 hlt ih =>
    -- node key larger: the new entry goes further down, and `k` is below `k'`
    obtain ⟨pk', hPr⟩ := List.forall_mem_cons.mp hP
    refine ⟨fun q hq => ?_, ih hPr hd.2⟩
    rcases mem_sortedInsert k v rest q hq with rfl | hq'
    · have f := h.flip (a := k') (b := k) pk' pk
      show c k k' < 0; omega
    · exact hd.1 q hq'

theorem sortedInsert_keeps (h : LawfulCmpOn P c) (k : κ) (v : ν) (pk : P k) (l : List (κ × ν)) (hP : ∀ q ∈ l, P q.1)
    (k0 : κ) (pk0 : P k0) : (∃ q ∈ l, c q.1 k0 = 0) → ∃ q ∈ sortedInsert c k v l, c q.1 k0 = 0 := by
  rintro ⟨q, hq, hq0⟩
  rcases mem_sortedInsert_of_mem k v l q hq with hm | e
  · exact ⟨q, hm, hq0⟩
  · -- replaced by the entry for `k`, whose key ties with the one it replaces
    exact ⟨(k, v), mem_sortedInsert_self k v l, h.zero_trans pk (hP q hq) pk0 ((h.flip (hP q hq) pk).2.1.mp e) hq0⟩

theorem treeOf_descending (h : LawfulCmpOn P c) (kvs : List (κ × ν)) (hP : ∀ q ∈ kvs, P q.1) :
    Descending c (treeOf c kvs) :=
  (List.foldlRecOn (motive := fun acc : List (κ × ν) => (∀ q ∈ acc, P q.1) ∧ Descending c acc) kvs _
    ⟨fun _ hq => absurd hq List.not_mem_nil, trivial⟩
    fun acc ha p hp =>
      ⟨sortedInsert_carrier p.1 p.2 (hP p hp) acc ha.1, sortedInsert_descending h p.1 p.2 (hP p hp) acc ha.1 ha.2⟩).2

theorem treeOf_finds (h : LawfulCmpOn P c) (kvs : List (κ × ν)) (hP : ∀ q ∈ kvs, P q.1) :
    ∀ p ∈ kvs, ∃ q ∈ treeOf c kvs, c q.1 p.1 = 0 := by
  intro p hp
  -- `p` is found right after it was set, and stays findable through the `set`s that follow
  obtain ⟨l1, l2, rfl⟩ := List.append_of_mem hp
  have hP1 : ∀ q ∈ l1.foldl (fun acc kv => sortedInsert c kv.1 kv.2 acc) [], P q.1 :=
    List.foldlRecOn (motive := fun acc : List (κ × ν) => ∀ q ∈ acc, P q.1) l1 _ (fun _ hq => absurd hq List.not_mem_nil)
      fun acc ha r hr => sortedInsert_carrier r.1 r.2 (hP r (List.mem_append_left _ hr)) acc ha
  unfold treeOf
  rw [List.foldl_append, List.foldl_cons]
  exact (List.foldlRecOn (motive := fun acc : List (κ × ν) => (∀ q ∈ acc, P q.1) ∧ ∃ q ∈ acc, c q.1 p.1 = 0) l2 _
    ⟨sortedInsert_carrier p.1 p.2 (hP p hp) _ hP1, (p.1, p.2), mem_sortedInsert_self p.1 p.2 _, h.refl (hP p hp)⟩
    fun acc ha r hr =>
      have pr := hP r (List.mem_append_right _ (List.mem_cons_of_mem _ hr))
      ⟨sortedInsert_carrier r.1 r.2 pr acc ha.1, sortedInsert_keeps h r.1 r.2 pr acc ha.1 p.1 (hP p hp) ha.2⟩).2

end tree

end Cello.Cmp
