/-
  C20, the specification over HANDLES (`gtrack`, Cello/File.lean).  It is a fact about LOGS (`gtrack_of_proj_track`): a tagged log whose
  per-object parts are accepted by `track` is accepted as a whole by `gtrack` when stdio hands out no handle that is still open, and the
  objects go on owning exactly the open handles, one each (`Owned`); the model enters only through `Tracks` (`Tracks.global`).
-/
import CelloProofs.Lemmas.FileTrack

namespace Cello.File

variable {σ : Type}

theorem gstep_on_ne {fn : Fn} (hfn : fn ≠ .fclose) (live : List Handle) (x : Handle) : gstep live (.on fn x) = live := by
  cases fn <;> first | rfl | exact absurd rfl hfn

/-- one accepted call: a successful fopen adds a handle to the open ones, an fclose removes one that was there -/
theorem gstep_count {live : List Handle} {c : Call} (h : gok live c = true) :
    live.length + (if isOpenOk c then 1 else 0) = (gstep live c).length + (if isClose c then 1 else 0) := by
  cases c with
  | fopen k m r => cases r <;> simp [gstep, isOpenOk, isClose]
  | onNull fn => cases h
  | on fn x =>
    have hx : x ∈ live := by simpa [gok] using h
    rw [isClose_on]
    by_cases hfn : fn = .fclose
    · subst hfn
      have := List.length_erase_of_mem hx
      have := List.length_pos_of_mem hx
      simp only [gstep, isOpenOk, decide_true, if_true, Bool.false_eq_true, if_false]
      omega
    · simp [gstep_on_ne hfn, hfn, isOpenOk]

theorem gtrack_count (live L : List Handle) (calls : List Call) (h : gtrack live calls = some L) :
    live.length + (calls.filter isOpenOk).length = L.length + (calls.filter isClose).length := by
  fun_induction gtrack live calls with
  | case1 live => cases h; rfl
  | case2 live c cs hk ih =>
    have := gstep_count hk
    have := ih h
    rw [length_filter_cons, length_filter_cons]
    omega
  | case3 live c cs hk => cases h

/-- distinct objects hold distinct handles -/
def Multi.Sep (s : Multi σ) : Prop := ∀ o1 o2 h, s.held o1 = some h → s.held o2 = some h → o1 = o2

/-- `live` lists, without repetition, exactly the handles the objects hold: nothing is open that no object holds
    (no leak), nothing is held that is not open (no stale handle) -/
def Multi.LiveIs (s : Multi σ) (live : List Handle) : Prop :=
  live.Nodup ∧ ∀ h, h ∈ live ↔ ∃ o, s.held o = some h

/-- who holds what: distinct objects hold distinct handles, and `live` lists exactly the handles held, once each
    (`Owned s.held live` unfolds to `s.Sep ∧ s.LiveIs live`; stated over a map so that the induction over a log can change one entry) -/
def Owned (g : Nat → Option Handle) (live : List Handle) : Prop :=
  (∀ o1 o2 h, g o1 = some h → g o2 = some h → o1 = o2) ∧ live.Nodup ∧ ∀ h, h ∈ live ↔ ∃ o, g o = some h

def setHeld (g : Nat → Option Handle) (o : Nat) (c : Option Handle) : Nat → Option Handle := fun x => if x = o then c else g x

theorem setHeld_self (g : Nat → Option Handle) (o : Nat) (c : Option Handle) : setHeld g o c o = c := if_pos rfl

theorem setHeld_ne (g : Nat → Option Handle) {o o' : Nat} (c : Option Handle) (h : o' ≠ o) : setHeld g o c o' = g o' := if_neg h

theorem setHeld_same {g : Nat → Option Handle} {o : Nat} {c : Option Handle} (h : g o = c) : setHeld g o c = g := by
  funext x; unfold setHeld; split <;> simp [*]

theorem Owned.acquire {g : Nat → Option Handle} {live : List Handle} {o : Nat} {h : Handle} (hown : Owned g live)
    (ho : g o = none) (hh : h ∉ live) : Owned (setHeld g o (some h)) (h :: live) := by
  obtain ⟨hsep, hnd, hm⟩ := hown
  have hfree : ∀ o', g o' ≠ some h := fun o' e => hh ((hm h).2 ⟨o', e⟩)
  refine ⟨fun o1 o2 x h1 h2 => ?_, List.nodup_cons.2 ⟨hh, hnd⟩, fun x => ?_⟩
  · unfold setHeld at h1 h2
    split at h1 <;> split at h2
    · simp [*]
    · cases h1; exact absurd h2 (hfree o2)
    · cases h2; exact absurd h1 (hfree o1)
    · exact hsep o1 o2 x h1 h2
  · rw [List.mem_cons, hm x]
    constructor
    · rintro (rfl | ⟨o', ho'⟩)
      · exact ⟨o, setHeld_self g o _⟩
      · exact ⟨o', by rw [setHeld_ne g _ (fun e => by rw [e, ho] at ho'; cases ho')]; exact ho'⟩
    · rintro ⟨o', ho'⟩
      unfold setHeld at ho'
      split at ho'
      · exact Or.inl (Option.some.inj ho').symm
      · exact Or.inr ⟨o', ho'⟩

theorem Owned.release {g : Nat → Option Handle} {live : List Handle} {o : Nat} {h : Handle} (hown : Owned g live)
    (ho : g o = some h) : Owned (setHeld g o none) (live.erase h) := by
  obtain ⟨hsep, hnd, hm⟩ := hown
  refine ⟨fun o1 o2 x h1 h2 => ?_, hnd.erase h, fun x => ?_⟩
  · unfold setHeld at h1 h2
    split at h1 <;> split at h2 <;> first | cases h1 | cases h2 | exact hsep o1 o2 x h1 h2
  · rw [hnd.mem_erase_iff, hm x]
    constructor
    · rintro ⟨hne, o', ho'⟩
      exact ⟨o', by rw [setHeld_ne g _ (fun e => hne (by rw [e, ho] at ho'; exact (Option.some.inj ho').symm))]; exact ho'⟩
    · rintro ⟨o', ho'⟩
      unfold setHeld at ho'
      split at ho'
      · cases ho'
      · rename_i hne
        exact ⟨fun e => hne (hsep o' o h (e ▸ ho') ho), o', ho'⟩

/-- one call of object `o`, accepted for `o` and fresh for stdio, is accepted for the process; afterwards `o` holds what
    `trackCall` says and everybody else what they held -/
theorem trackCall_owned {g : Nat → Option Handle} {live : List Handle} {o : Nat} {c : Call} {c1 : Option Handle}
    (hs : trackCall (g o) c = some c1) (hown : Owned g live) (hf : gfresh live c = true) :
    gok live c = true ∧ Owned (setHeld g o c1) (gstep live c) := by
  rcases trackCall_cases hs with ⟨k, m, hg, rfl⟩ | ⟨h, fn, hg, rfl, rfl⟩
  · cases c1 with
    | none => exact ⟨rfl, by rw [setHeld_same hg]; exact hown⟩
    | some h => exact ⟨rfl, hown.acquire hg (by simpa [gfresh] using hf)⟩
  · have hin : gok live (.on fn h) = true := by simpa [gok] using (hown.2.2 h).2 ⟨o, hg⟩
    by_cases hfn : fn = .fclose
    · subst hfn; exact ⟨hin, hown.release hg⟩
    · exact ⟨hin, by rw [if_neg hfn, setHeld_same hg, gstep_on_ne hfn]; exact hown⟩

/-- A tagged log in which every object's own calls are well bracketed from what it held, over a stdio that hands out no handle
    still open, started where the objects own `live`: the log as a whole is accepted over handles, and the objects own what is
    open at the end. -/
theorem gtrack_of_proj_track (suf : List (Nat × Call)) : ∀ (g g' : Nat → Option Handle) (live : List Handle),
    (∀ o, track (g o) (proj o suf) = some (g' o)) → Owned g live → freshCalls live (untag suf) = true →
    ∃ L, gtrack live (untag suf) = some L ∧ Owned g' L := by
  induction suf with
  | nil =>
    intro g g' live ht hown _
    have : g = g' := funext fun o => Option.some.inj (ht o)
    exact ⟨live, rfl, this ▸ hown⟩
  | cons p rest ih =>
    obtain ⟨o, c⟩ := p
    intro g g' live ht hown hf
    simp only [untag, List.map_cons, freshCalls, Bool.and_eq_true] at hf
    obtain ⟨c1, hs, hrest⟩ := track_cons (proj_cons_self o c rest ▸ ht o)
    obtain ⟨hk, hown1⟩ := trackCall_owned hs hown hf.1
    obtain ⟨L, hg, hL⟩ := ih _ g' _ (fun o' => by
      by_cases e : o' = o
      · subst e; rw [setHeld_self]; exact hrest
      · rw [setHeld_ne g c1 e, ← proj_cons_ne e c rest]; exact ht o') hown1 hf.2
    exact ⟨L, by simp only [untag, List.map_cons, gtrack, hk, if_true]; exact hg, hL⟩

/-- **close-once between any two states related by `Tracks`** (a history, a program): each object's own calls are well bracketed,
    and — from a start where the objects own `live`, over a stdio that hands out no handle still open — the log of the process is
    accepted over handles, the objects own what is open at the end, and successful fopens and fcloses balance -/
theorem Tracks.global {s s' : Multi σ} (h : Tracks s s') :
    ∃ suf, s'.log = s.log ++ suf ∧
      (∀ live, s.Sep → s.LiveIs live → freshCalls live (untag suf) = true →
        ∃ live', gtrack live (untag suf) = some live' ∧ s'.Sep ∧ s'.LiveIs live' ∧
          live.length + ((untag suf).filter isOpenOk).length = live'.length + ((untag suf).filter isClose).length) ∧
      ∀ o, track (s.held o) (proj o suf) = some (s'.held o) := by
  obtain ⟨suf, hl, ht⟩ := h
  refine ⟨suf, hl, fun live hsep hlive hf => ?_, ht⟩
  obtain ⟨L, g, h1, h2⟩ := gtrack_of_proj_track suf _ _ live ht ⟨hsep, hlive⟩ hf
  exact ⟨L, g, h1, h2, gtrack_count live L _ g⟩

theorem Multi.closed_start (s : Multi σ) (h : ∀ o, s.held o = none) : s.Sep ∧ s.LiveIs [] := by
  refine ⟨fun o1 _ x h1 _ => by simp [h o1] at h1, List.nodup_nil, fun x => ?_⟩
  simp [h]

end Cello.File
