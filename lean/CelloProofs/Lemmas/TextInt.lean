/-
  Lemmas for C15 (engine `text`): integer specifications — every length modifier × `d i o u x X`.
  What printf writes for an `int64_t` under `%<m><c>` is read back by the integer branch of `scan_from_with` as C's conversion
  of the value to the type the modifier names, provided the branch has scanf store into an object of exactly that width
  (`ArmsOK`, decided on the arms extracted from the source).
-/
import CelloProofs.Lemmas.Text

namespace Cello.Text

/-- what the round trip needs of the integer branch, as a `Bool` (decided on the generated arms): for each of the 54 specifications
    the arm selected stores into an object of the width libc writes, a narrower object is a temporary that is widened, and `sgn`
    is the signedness of the conversion -/
def armsOK (c : Cfg) : Bool :=
  IMod.all.all fun m => IConv.all.all fun cv =>
    (match selectArm c.intArms (ispecFmt m cv ++ [37, 110]) with
     | some arm => arm.bits == m.width && (arm.widen || m.width == 64)
     | none => false) && (c.intSigned.contains cv.byte == cv.signed)

structure ArmsOK (c : Cfg) : Prop where
  sel : ∀ m cv, ∃ arm, selectArm c.intArms (ispecFmt m cv ++ [37, 110]) = some arm ∧ arm.bits = m.width ∧
          (arm.widen = true ∨ m.width = 64)
  sgn : ∀ cv : IConv, c.intSigned.contains cv.byte = cv.signed

theorem IMod.mem_all (m : IMod) : m ∈ IMod.all := by cases m <;> simp [IMod.all]
theorem IConv.mem_all (c : IConv) : c ∈ IConv.all := by cases c <;> simp [IConv.all]

theorem arms_of_ok (c : Cfg) (h : armsOK c = true) : ArmsOK c := by
  simp only [armsOK, List.all_eq_true, Bool.and_eq_true, beq_iff_eq] at h
  constructor
  · intro m cv
    have := (h m (IMod.mem_all m) cv (IConv.mem_all cv)).1
    split at this
    · rename_i arm harm
      simp only [Bool.and_eq_true, beq_iff_eq, Bool.or_eq_true] at this
      exact ⟨arm, harm, this.1, this.2⟩
    · exact absurd this (by simp)
  · intro cv
    exact (h .none (IMod.mem_all _) cv (IConv.mem_all cv)).2

theorem width_cases (m : IMod) : m.width = 8 ∨ m.width = 16 ∨ m.width = 32 ∨ m.width = 64 := by
  cases m <;> simp [IMod.width]

theorem IMod.width_range (m : IMod) : 1 ≤ m.width ∧ m.width ≤ 64 := by cases m <;> decide

theorem two_pow_pos (w : Nat) : (0 : Int) < (2 : Int) ^ w := Int.pow_pos (by decide)

theorem two_pow_le {a b : Nat} (h : a ≤ b) : (2 : Int) ^ a ≤ (2 : Int) ^ b := by
  have := Nat.pow_le_pow_right (n := 2) (by decide) h
  exact_mod_cast this

theorem two_pow_pred (w : Nat) (hw : 1 ≤ w) : (2 : Int) ^ w = 2 * (2 : Int) ^ (w - 1) := by
  have : w = (w - 1) + 1 := by omega
  rw [this, Int.pow_succ, Nat.add_sub_cancel, Int.mul_comm]

theorem zext_nonneg (w : Nat) (n : Int) : 0 ≤ zext w n := Int.emod_nonneg _ (Int.ne_of_gt (two_pow_pos w))
theorem zext_lt (w : Nat) (n : Int) : zext w n < (2 : Int) ^ w := Int.emod_lt_of_pos _ (two_pow_pos w)
theorem zext_of_range (w : Nat) (n : Int) (h0 : 0 ≤ n) (h : n < (2 : Int) ^ w) : zext w n = n := Int.emod_eq_of_lt h0 h

theorem zext_emod (w v : Nat) (h : w ≤ v) (n : Int) : zext w (n % (2 : Int) ^ v) = zext w n :=
  Int.emod_emod_of_dvd _ ⟨(2 : Int) ^ (v - w), by rw [← Int.pow_add, Nat.add_sub_cancel' h]⟩

theorem zext_zext (w : Nat) (n : Int) : zext w (zext w n) = zext w n := zext_emod w w (Nat.le_refl _) n

theorem zext_sext (w : Nat) (n : Int) : zext w (sext w n) = zext w n := by
  unfold sext; split
  · exact zext_zext w n
  · unfold zext; rw [Int.sub_emod_right]; exact zext_zext w n

theorem sext_congr (w : Nat) (a b : Int) (h : zext w a = zext w b) : sext w a = sext w b := by unfold sext; rw [h]

theorem sext_range (w : Nat) (hw : 1 ≤ w) (n : Int) : -(2 : Int) ^ (w - 1) ≤ sext w n ∧ sext w n < (2 : Int) ^ (w - 1) := by
  have := zext_nonneg w n; have := zext_lt w n; have := two_pow_pred w hw
  unfold sext; split <;> omega

theorem sext_eq_zero (w : Nat) (hw : 1 ≤ w) (n : Int) : sext w n = 0 ↔ zext w n = 0 := by
  have := zext_lt w n; have := two_pow_pred w hw; have := two_pow_pos (w - 1)
  unfold sext; split <;> omega

theorem sext_of_range (w : Nat) (hw : 1 ≤ w) (n : Int) (h1 : -(2 : Int) ^ (w - 1) ≤ n) (h2 : n < (2 : Int) ^ (w - 1)) : sext w n = n := by
  have hp := two_pow_pred w hw
  unfold sext
  by_cases h0 : 0 ≤ n
  · rw [zext_of_range w n h0 (by omega), if_pos h2]
  · have : zext w n = n + (2 : Int) ^ w := by
      unfold zext; rw [← Int.add_emod_right]; exact Int.emod_eq_of_lt (by omega) (by omega)
    rw [this, if_neg (by omega)]; omega

theorem inInt64_iff (n : Int) : inInt64 n = true ↔ -(2 : Int) ^ 63 ≤ n ∧ n < (2 : Int) ^ 63 := by
  simp only [inInt64, Bool.and_eq_true, decide_eq_true_eq]

/-- the 64-bit pattern scanf converts for what printf wrote: `strtol`'s result in two's complement, `strtoul`'s as it is -/
def pattOf (w : Nat) (sgn : Bool) (n : Int) : Nat :=
  if sgn then (sext w n % (2 : Int) ^ 64).toNat else (zext w n).toNat

theorem pattOf_low (w : Nat) (hw : w ≤ 64) (sgn : Bool) (n : Int) : ((pattOf w sgn n % 2 ^ w : Nat) : Int) = zext w n := by
  have cast : ∀ x : Int, 0 ≤ x → ((x.toNat % 2 ^ w : Nat) : Int) = zext w x := by
    intro x hx; rw [Int.natCast_emod, Int.toNat_of_nonneg hx, Int.natCast_pow]; rfl
  unfold pattOf
  cases sgn
  · rw [if_neg (by decide), cast _ (zext_nonneg w n), zext_zext]
  · rw [if_pos rfl, cast _ (Int.emod_nonneg _ (Int.ne_of_gt (two_pow_pos 64))), zext_emod w 64 hw, zext_sext]

/-- storing the pattern in `w` bits and widening it as the branch does gives C's conversion of the value -/
theorem finishInt_patt (arm : IntArm) (w : Nat) (hw : w ≤ 64) (sgn : Bool) (n : Int) (hn : inInt64 n = true)
    (hb : arm.bits = w) (hwd : arm.widen = true ∨ w = 64) :
    finishInt arm w sgn (pattOf w sgn n) = if sgn then sext w n else if w = 64 then n else zext w n := by
  rw [inInt64_iff] at hn
  have h64 : sext 64 (zext 64 n) = n := by
    rw [sext_congr 64 _ n (zext_zext 64 n)]; exact sext_of_range 64 (by decide) n hn.1 hn.2
  simp only [finishInt, pattOf_low w hw, hb]
  cases sgn
  · by_cases h : w = 64
    · subst h
      simp only [Bool.not_false, Bool.and_true, if_true, Bool.false_eq_true, if_false, zext_zext, h64, ite_self]
    · have hwid : arm.widen = true := hwd.resolve_right h
      simp only [hwid, Bool.not_false, Bool.and_true, if_true, Bool.false_eq_true, if_false, zext_zext, h]
      have := two_pow_le (show w ≤ 63 by omega)
      exact sext_of_range 64 (by decide) _ (by have := zext_nonneg w n; omega) (by have := zext_lt w n; omega)
  · simp only [Bool.not_true, Bool.and_false, Bool.false_eq_true, if_false, if_true]
    exact sext_congr w _ n (zext_zext w n)

theorem scanNumber_unsigned (c : IConv) (upper : Bool) (z : Int) (hz1 : 0 ≤ z) (hz2 : z < (2 : Int) ^ 64) (rest : List Nat)
    (hc : c.signed = false) (hnd : noDigitOf c.printBase rest)
    (hxx : c = .i ∨ c = .x ∨ c = .X → z = 0 → headIs isXx rest = false) :
    scanNumber c (digitsB c.printBase upper z.toNat ++ rest) = .ok (z.toNat, rest) := by
  have := scanNumber_digits c upper false z.toNat rest hnd fun h h0 => hxx h (by omega)
  simp only [Bool.false_eq_true, if_false, List.nil_append, finNum, hc, clampULong] at this
  rw [this, if_neg (by omega)]

theorem clampLong_natAbs (s : Int) (hs1 : -(2 : Int) ^ 63 ≤ s) (hs2 : s < (2 : Int) ^ 63) : clampLong (decide (s < 0)) s.natAbs = s := by
  unfold clampLong
  by_cases h : s < 0 <;> simp only [h, decide_true, decide_false, if_true, Bool.false_eq_true, if_false] <;> split <;> omega

theorem scanNumber_signed (c : IConv) (s : Int) (hs1 : -(2 : Int) ^ 63 ≤ s) (hs2 : s < (2 : Int) ^ 63) (rest : List Nat)
    (hc : c.signed = true) (hnd : noDigitOf 10 rest)
    (hxx : c = .i ∨ c = .x ∨ c = .X → s = 0 → headIs isXx rest = false) :
    scanNumber c (printInt s ++ rest) = .ok ((s % (2 : Int) ^ 64).toNat, rest) := by
  have hb : c.printBase = 10 := by cases c <;> first | rfl | cases hc
  have hp : printInt s = (if decide (s < 0) = true then [45] else []) ++ natDigits s.natAbs := by
    unfold printInt; by_cases h : s < 0 <;> simp [h]
  have := scanNumber_digits c false (decide (s < 0)) s.natAbs rest (hb ▸ hnd) fun h h0 => hxx h (by omega)
  rw [hb, ← natDigits_eq] at this
  rw [hp, this, finNum, hc, if_pos rfl, clampLong_natAbs s hs1 hs2]

/-- **scanf reads back the pattern of what printf wrote**, for every specification, every `int64_t` and every following text
    that does not continue the number: the digits of `zext` in base 10 / 8 / 16, or a sign and the decimal digits of `sext` -/
theorem scanNumber_print (m : IMod) (cv : IConv) (n : Int) (rest : List Nat) (hs : ispecSafe m cv n rest = true) :
    scanNumber cv (printIntSpec m cv n ++ rest) = .ok (pattOf m.width cv.signed n, rest) := by
  obtain ⟨hw1, hw64⟩ := m.width_range
  have hs0 := sext_eq_zero m.width hw1 n
  have huns := fun (c : IConv) (upper : Bool) => scanNumber_unsigned c upper (zext m.width n) (zext_nonneg _ _)
    (Int.lt_of_lt_of_le (zext_lt m.width n) (two_pow_le hw64)) rest
  have hsig := fun (c : IConv) => scanNumber_signed c (sext m.width n)
    (by have := sext_range m.width hw1 n; have := two_pow_le (show m.width - 1 ≤ 63 by omega); omega)
    (by have := sext_range m.width hw1 n; have := two_pow_le (show m.width - 1 ≤ 63 by omega); omega) rest
  cases cv with
  | d =>
    simp only [ispecSafe, Bool.not_eq_true'] at hs
    exact hsig .d rfl (noDigitOf_of_dec 10 (by omega) rest hs) (by intro h; rcases h with h | h | h <;> cases h)
  | i =>
    simp only [ispecSafe, Bool.and_eq_true, Bool.not_eq_true', Bool.and_eq_false_iff, beq_eq_false_iff_ne] at hs
    exact hsig .i rfl (noDigitOf_of_dec 10 (by omega) rest hs.1) fun _ hz => hs.2.resolve_left fun h => h (hs0.1 hz)
  | u =>
    simp only [ispecSafe, Bool.not_eq_true'] at hs
    have := huns .u false rfl (noDigitOf_of_dec 10 (by omega) rest hs) (by intro h; rcases h with h | h | h <;> cases h)
    simpa only [printIntSpec, IConv.printBase, ← natDigits_eq, pattOf, IConv.signed, Bool.false_eq_true, if_false] using this
  | o =>
    simp only [ispecSafe, Bool.not_eq_true'] at hs
    exact huns .o false rfl (noDigitOf_of_dec 8 (by omega) rest hs) (by intro h; rcases h with h | h | h <;> cases h)
  | x =>
    simp only [ispecSafe, Bool.and_eq_true, Bool.not_eq_true', Bool.and_eq_false_iff, beq_eq_false_iff_ne] at hs
    exact huns .x false rfl (noDigitOf_of_hex 16 rest hs.1) fun _ hz => hs.2.resolve_left fun h => h hz
  | X =>
    simp only [ispecSafe, Bool.and_eq_true, Bool.not_eq_true', Bool.and_eq_false_iff, beq_eq_false_iff_ne] at hs
    exact huns .X true rfl (noDigitOf_of_hex 16 rest hs.1) fun _ hz => hs.2.resolve_left fun h => h hz

theorem scanIntSpec_print (c : Cfg) (A : ArmsOK c) (m : IMod) (cv : IConv) (n : Int) (hn : inInt64 n = true) (rest : List Nat)
    (hs : ispecSafe m cv n rest = true) :
    scanIntSpec c m cv (printIntSpec m cv n ++ rest) = .ok (convInt m cv n, rest) := by
  obtain ⟨arm, hsel, hb, hwd⟩ := A.sel m cv
  simp only [scanIntSpec, hsel, hb, Nat.lt_irrefl, if_false, scanNumber_print m cv n rest hs, A.sgn cv]
  rw [finishInt_patt arm m.width m.width_range.2 cv.signed n hn hb hwd]; rfl

theorem convInt_inWidth (m : IMod) (cv : IConv) (n : Int) (h : intInWidth m cv n = true) : convInt m cv n = n := by
  obtain ⟨hw1, _⟩ := m.width_range
  unfold intInWidth at h
  unfold convInt
  by_cases h64 : m.width = 64
  · simp only [h64, if_true, inInt64_iff] at h ⊢
    split
    · exact sext_of_range 64 (by decide) n h.1 h.2
    · rfl
  · simp only [h64, if_false] at h ⊢
    split <;> rename_i hs <;> simp only [hs, if_true, Bool.false_eq_true, if_false, Bool.and_eq_true, decide_eq_true_eq] at h
    · exact sext_of_range m.width hw1 n h.1 h.2
    · exact zext_of_range m.width n h.1 h.2

theorem convInt_l (cv : IConv) (n : Int) (h : inInt64 n = true) : convInt .l cv n = n :=
  convInt_inWidth .l cv n (by simpa [intInWidth, IMod.width] using h)

theorem printIntSpec_l_signed (cv : IConv) (hcv : cv.signed = true) (n : Int) (h : inInt64 n = true) :
    printIntSpec .l cv n = printInt n := by
  have h1 := convInt_l cv n h
  simp only [convInt, hcv, if_true] at h1
  cases cv <;> simp [IConv.signed] at hcv <;> simp [printIntSpec, h1]

end Cello.Text
