/-
  C09: objects with identity (`Obj`).  `hasId` / `idsNodup` are `∈` / `Nodup` of the slot identities.  Tuple_Iter_Next from a
  slot whose object sits in no earlier slot is a step by position (`afterFirst_fresh`); a clean walk along `obj` makes no
  other step but one harmless one, so with `self` walked by position the three loops of `objCmpF` return `valCmp` of the two
  CONTENTS (`objCmpF_eq_content_clean`), whatever the operands share.
-/
import CelloProofs.Lemmas.Cmp

namespace Cello.Cmp
open CelloGen.Cmp (FloatOps Discipline)

theorem hasId_iff (i : Nat) : ∀ l : List Slot, hasId i l = true ↔ i ∈ l.map (·.1)
  | [] => by simp [hasId]
  | s :: l => by rw [hasId, Bool.or_eq_true, beq_iff_eq, hasId_iff i l, List.map_cons, List.mem_cons, eq_comm]

theorem idsNodup_iff : ∀ l : List Slot, idsNodup l = true ↔ (l.map (·.1)).Nodup
  | [] => by simp [idsNodup]
  | s :: l => by
    rw [idsNodup, Bool.and_eq_true, idsNodup_iff l, Bool.not_eq_true', ← Bool.not_eq_true, hasId_iff, List.map_cons,
      List.nodup_cons]

theorem hasId_append (i : Nat) (pre rest : List Slot) : hasId i (pre ++ rest) = (hasId i pre || hasId i rest) := by
  rw [Bool.eq_iff_iff, Bool.or_eq_true, hasId_iff, hasId_iff, hasId_iff, List.map_append, List.mem_append]

theorem idsNodup_suffix : ∀ (pre rest : List Slot), idsNodup (pre ++ rest) = true → idsNodup rest = true := by
  intro pre rest h
  rw [idsNodup_iff, List.map_append, List.nodup_append] at h
  exact (idsNodup_iff rest).2 h.2.1

theorem hasId_false_of_nodup (pre : List Slot) (s : Slot) (rest : List Slot) (h : idsNodup (pre ++ s :: rest) = true) :
    hasId s.1 pre = false := by
  rw [idsNodup_iff, List.map_append, List.nodup_append] at h
  exact Bool.eq_false_iff.2 fun hi => h.2.2 _ ((hasId_iff _ _).1 hi) _ (List.mem_map_of_mem List.mem_cons_self) rfl

theorem contents_enumSlots : ∀ (xs : List Val) (n : Nat), contents (enumSlots n xs) = xs
  | [], _ => rfl
  | x :: xs, n => by simp [enumSlots, contents, Obj.content, contents_enumSlots xs]

theorem slotsSize_enumSlots : ∀ (xs : List Val) (n : Nat), slotsSize (enumSlots n xs) = Val.sizeList xs
  | [], _ => rfl
  | x :: xs, n => by simp [enumSlots, slotsSize, Obj.size, Val.sizeList, slotsSize_enumSlots xs]

theorem ids_enumSlots : ∀ (xs : List Val) (n : Nat), (enumSlots n xs).map (·.1) = List.range' n xs.length
  | [], _ => rfl
  | x :: xs, n => by rw [enumSlots, List.map_cons, ids_enumSlots xs, List.length_cons, List.range'_succ]

theorem idsNodup_enumSlots (xs : List Val) (n : Nat) : idsNodup (enumSlots n xs) = true := by
  rw [idsNodup_iff, ids_enumSlots]; exact List.nodup_range'

theorem slotsNodup_enumSlots : ∀ (xs : List Val) (n : Nat), slotsNodup (enumSlots n xs) = true
  | [], _ => rfl
  | x :: xs, n => by simp [enumSlots, slotsNodup, Obj.nodup, slotsNodup_enumSlots xs]

theorem entContents_valEnts : ∀ kvs : List (Val × Val), entContents (valEnts kvs) = kvs
  | [] => rfl
  | (k, v) :: rest => by simp [valEnts, entContents, Obj.content, entContents_valEnts rest]

theorem entsSize_valEnts : ∀ kvs : List (Val × Val), entsSize (valEnts kvs) = Val.sizePairs kvs
  | [] => rfl
  | (k, v) :: rest => by simp [valEnts, entsSize, Obj.size, Val.sizePairs, entsSize_valEnts rest]

theorem entsNodup_valEnts : ∀ kvs : List (Val × Val), entsNodup (valEnts kvs) = true
  | [] => rfl
  | (k, v) :: rest => by simp [valEnts, entsNodup, Obj.nodup, entsNodup_valEnts rest]

theorem seqView_cases {a : Obj} {k : SeqKind} {s : List Slot} (h : a.seqView = some (k, s)) :
    (a = .tuple s ∧ k = .tuple) ∨ a = .cont k s ∨ ∃ xs, a = .val (.seq k xs) ∧ s = enumSlots 0 xs := by
  cases a with
  | tuple ss => cases h; exact Or.inl ⟨rfl, rfl⟩
  | cont k' ss => cases h; exact Or.inr (Or.inl rfl)
  | tree es => cases h
  | val v =>
    cases v with
    | seq k' xs => cases h; exact Or.inr (Or.inr ⟨xs, rfl, rfl⟩)
    | _ => cases h

theorem seqView_content {a : Obj} {k : SeqKind} {s : List Slot} (h : a.seqView = some (k, s)) :
    a.content = .seq k (contents s) := by
  rcases seqView_cases h with ⟨rfl, rfl⟩ | rfl | ⟨xs, rfl, rfl⟩ <;> simp only [Obj.content, contents_enumSlots]

theorem seqView_size {a : Obj} {k : SeqKind} {s : List Slot} (h : a.seqView = some (k, s)) :
    a.size = 2 + slotsSize s := by
  rcases seqView_cases h with ⟨rfl, rfl⟩ | rfl | ⟨xs, rfl, rfl⟩ <;> simp only [Obj.size, Val.size, slotsSize_enumSlots]

theorem seqView_nodup {b : Obj} {k : SeqKind} {s : List Slot} (h : b.seqView = some (k, s)) (hb : b.nodup = true) :
    idsNodup s = true ∧ slotsNodup s = true := by
  rcases seqView_cases h with ⟨rfl, rfl⟩ | rfl | ⟨xs, rfl, rfl⟩
  · simpa only [Obj.nodup, Bool.and_eq_true] using hb
  · simpa only [Obj.nodup, Bool.and_eq_true] using hb
  · exact ⟨idsNodup_enumSlots xs 0, slotsNodup_enumSlots xs 0⟩

theorem treeView_cases {a : Obj} {e : List (Val × Obj)} (h : a.treeView = some e) :
    a = .tree e ∨ ∃ kvs, a = .val (.tree kvs) ∧ e = valEnts kvs := by
  cases a with
  | tree es => cases h; exact Or.inl rfl
  | val v =>
    cases v with
    | tree kvs => cases h; exact Or.inr ⟨kvs, rfl, rfl⟩
    | _ => cases h
  | _ => cases h

theorem treeView_content {a : Obj} {e : List (Val × Obj)} (h : a.treeView = some e) : a.content = .tree (entContents e) := by
  rcases treeView_cases h with rfl | ⟨kvs, rfl, rfl⟩ <;> simp only [Obj.content, entContents_valEnts]

theorem treeView_size {a : Obj} {e : List (Val × Obj)} (h : a.treeView = some e) : a.size = 2 + entsSize e := by
  rcases treeView_cases h with rfl | ⟨kvs, rfl, rfl⟩ <;> simp only [Obj.size, Val.size, entsSize_valEnts]

theorem treeView_nodup {b : Obj} {e : List (Val × Obj)} (h : b.treeView = some e) (hb : b.nodup = true) : entsNodup e = true := by
  rcases treeView_cases h with rfl | ⟨kvs, rfl, rfl⟩
  · simpa only [Obj.nodup] using hb
  · exact entsNodup_valEnts kvs

theorem Val.size_pos (v : Val) : 1 ≤ v.size := by
  cases v <;> simp [Val.size] <;> omega

theorem Obj.size_pos (a : Obj) : 1 ≤ a.size := by
  cases a with
  | val v => simpa [Obj.size] using Val.size_pos v
  | tuple ss => simp [Obj.size]; omega
  | cont k ss => simp [Obj.size]; omega
  | tree es => simp [Obj.size]; omega

/-- Tuple_Iter_Next from a slot whose object sits in no EARLIER slot returns the next slot (later occurrences do not matter) -/
theorem afterFirst_fresh : ∀ (pre : List Slot) (s : Slot) (rest : List Slot),
    hasId s.1 pre = false → afterFirst s.1 (pre ++ s :: rest) = rest := by
  intro pre
  induction pre with
  | nil => intro s rest _; simp [afterFirst]
  | cons p pre ih =>
    intro s rest h
    simp only [hasId, Bool.or_eq_false_iff, beq_eq_false_iff_ne, ne_eq] at h
    simp only [List.cons_append, afterFirst, if_neg h.1]
    exact ih s rest h.2

/-- … and from a slot whose object DOES sit in an earlier slot it returns a cursor that still has the current slot ahead -/
theorem afterFirst_of_hasId (i : Nat) : ∀ (pre l : List Slot), hasId i pre = true → ∃ t, afterFirst i (pre ++ l) = t ++ l := by
  intro pre
  induction pre with
  | nil => intro l h; simp [hasId] at h
  | cons p pre ih =>
    intro l h
    by_cases e : p.1 = i
    · exact ⟨pre, by simp [afterFirst, e]⟩
    · simp only [hasId, Bool.or_eq_true, beq_iff_eq] at h
      rcases h with h | h
      · exact absurd h e
      · obtain ⟨t, ht⟩ := ih l h
        exact ⟨t, by simp [afterFirst, e, ht]⟩

/-- the step along `obj`: by position for Array / List, and for a Tuple too from a slot whose object sits in no earlier slot -/
theorem advance_obj_clean (k1 : SeqKind) (pre : List Slot) (s1 : Slot) (r1 : List Slot)
    (h : k1 = .tuple → hasId s1.1 pre = false) : advance .byIterator k1 (pre ++ s1 :: r1) s1 r1 = r1 := by
  cases k1 with
  | array => rfl
  | list => rfl
  | tuple => simp only [advance, iterNext]; exact afterFirst_fresh pre s1 r1 (h rfl)

theorem advance_obj (k1 : SeqKind) (pre : List Slot) (s1 : Slot) (r1 : List Slot)
    (h : idsNodup (pre ++ s1 :: r1) = true) : advance .byIterator k1 (pre ++ s1 :: r1) s1 r1 = r1 :=
  advance_obj_clean k1 pre s1 r1 fun _ => hasId_false_of_nodup pre s1 r1 h

/-- `self` is walked by position: Tuple_Cmp by slot index, Array_Cmp / List_Cmp by index or through a positional iterator -/
theorem advance_self {D : Discipline} (h : D.tupleSelf = .byIndex) (k0 : SeqKind) (all0 : List Slot) (s0 : Slot) (r0 : List Slot) :
    advance (selfWalk D k0) k0 all0 s0 r0 = r0 := by
  cases k0 with
  | array => cases hw : selfWalk D .array <;> rfl
  | list => cases hw : selfWalk D .list <;> rfl
  | tuple => show advance D.tupleSelf _ _ _ _ = _; rw [h]; rfl

/-- objects none of whose Tuples holds an object twice are clean against every `self`: `nodup` is the coarser hypothesis.
    Along the recursion of `walkClean` itself: objects, Tree entries, and slot lists (whatever the container, `tup`, and
    wherever the walk stands, `pre`) at once. -/
theorem walkClean_of_nodup_all (ops : FloatOps UInt64) :
    (∀ b a : Obj, b.nodup = true → b.walkClean ops a = true) ∧
    (∀ e1 e0 : List (Val × Obj), entsNodup e1 = true → entsClean ops e1 e0 = true) ∧
    (∀ (tup : Bool) (pre : List Slot) (cur1 : List (Nat × Obj)) (cur0 : List Slot), idsNodup (pre ++ cur1) = true →
      slotsNodup cur1 = true → slotsClean ops tup pre cur1 cur0 = true) := by
  refine Obj.walkClean.mutual_induct (motive1 := fun b a => b.nodup = true → b.walkClean ops a = true)
    (motive2 := fun e1 e0 => entsNodup e1 = true → entsClean ops e1 e0 = true)
    (motive3 := fun tup pre cur1 cur0 => idsNodup (pre ++ cur1) = true → slotsNodup cur1 = true →
      slotsClean ops tup pre cur1 cur0 = true) ?_ ?_ ?_ ?_ ?_ ?_ ?_ ?_ ?_ ?_ ?_ ?_ ?_
  -- cases in the order of the equations of `walkClean`, `entsClean`, `slotsClean`; only the last says something (`hid`)
  · intro v a _; rw [Obj.walkClean]
  · intro ss a k s0 ha ih hnd
    simp only [Obj.nodup, Bool.and_eq_true] at hnd
    rw [Obj.walkClean, ha]; exact ih hnd.1 hnd.2
  · intro ss a ha _; rw [Obj.walkClean, ha]
  · intro k ss a k0 s0 ha ih hnd
    simp only [Obj.nodup, Bool.and_eq_true] at hnd
    rw [Obj.walkClean, ha]; exact ih hnd.1 hnd.2
  · intro k ss a ha _; rw [Obj.walkClean, ha]
  · intro es a e0 ha ih hnd
    rw [Obj.walkClean, ha]; exact ih (by rwa [Obj.nodup] at hnd)
  · intro es a ha _; rw [Obj.walkClean, ha]
  · intro e0 _; rw [entsClean]
  · intro k1 o1 r1 _; rw [entsClean]
  · intro k1 o1 r1 q0 r0 ih1 ih2 hn
    simp only [entsNodup, Bool.and_eq_true] at hn
    simp [entsClean, ih1 hn.1, ih2 hn.2]
  · intro tup pre cur0 _ _; rw [slotsClean]
  · intro tup pre i1 o1 r1 _ _; rw [slotsClean]
  · intro tup pre i1 o1 r1 s0 r0 ih1 ih2 hn hs
    simp only [slotsNodup, Bool.and_eq_true] at hs
    have hid : hasId i1 pre = false := hasId_false_of_nodup pre (i1, o1) r1 hn
    simp [slotsClean, ih1 hs.1, ih2 (by rwa [List.append_assoc]) hs.2, hid]

theorem walkClean_of_nodup (ops : FloatOps UInt64) (a b : Obj) (hb : b.nodup = true) : b.walkClean ops a = true :=
  (walkClean_of_nodup_all ops).1 b a hb

theorem seqView_clean (ops : FloatOps UInt64) {a b : Obj} {k0 k1 : SeqKind} {s0 s1 : List Slot}
    (ha : a.seqView = some (k0, s0)) (hb : b.seqView = some (k1, s1)) (hc : b.walkClean ops a = true) :
    slotsClean ops (k1.byIdentity) [] s1 s0 = true := by
  rcases seqView_cases hb with ⟨rfl, rfl⟩ | rfl | ⟨xs, rfl, rfl⟩
  · simpa only [Obj.walkClean, ha, SeqKind.byIdentity] using hc
  · simpa only [Obj.walkClean, ha] using hc
  · -- the slots of a plain value are pairwise distinct objects
    exact (walkClean_of_nodup_all ops).2.2 _ [] _ s0 (idsNodup_enumSlots xs 0) (slotsNodup_enumSlots xs 0)

theorem treeView_clean (ops : FloatOps UInt64) {a b : Obj} {e0 e1 : List (Val × Obj)}
    (ha : a.treeView = some e0) (hb : b.treeView = some e1) (hc : b.walkClean ops a = true) : entsClean ops e1 e0 = true := by
  rcases treeView_cases hb with rfl | ⟨kvs, rfl, rfl⟩
  · simpa only [Obj.walkClean, ha] using hc
  · exact (walkClean_of_nodup_all ops).2.1 _ e0 (entsNodup_valEnts kvs)

/-- the `Option`-valued bodies of `loopF` / `treeLoopF` are `thenCmp` once the continuation, asked only on a tie, answers -/
theorem ite_thenCmp {c : Int} {k : Option Int} {k' : Int} (h : c = 0 → k = some k') :
    (if c < 0 then some (-1) else if c > 0 then some 1 else k) = some (thenCmp c k') := by
  rcases Int.lt_trichotomy c 0 with hc | hc | hc
  · rw [if_pos hc, thenCmp_of_neg k' hc]
  · rw [if_neg (by omega), if_neg (by omega), thenCmp_of_zero k' hc, h hc]
  · rw [if_neg (by omega), if_pos hc, thenCmp_of_pos k' hc]

theorem loopF_nil_left (D : Discipline) (ops : FloatOps UInt64) (k0 k1 : SeqKind) (all0 all1 : List Slot) (f : Nat)
    (s1 : Slot) (r1 : List Slot) : loopF D ops k0 k1 all0 all1 (f + 1) [] (s1 :: r1) = some (-1) := by
  rw [loopF]

/-- the three mutually recursive functions at once, by induction on the fuel: with fuel for `self` and a clean walk along
    `obj` each returns the comparison of the contents.  In the loop `pre` is what the walk along `obj` has passed. -/
theorem objCmpF_eq_content_aux (D : Discipline) (ops : FloatOps UInt64) (hD : D.tupleSelf = .byIndex) : ∀ f : Nat,
    (∀ a b, a.size ≤ f → b.walkClean ops a = true → objCmpF D ops f a b = some (valCmp ops a.content b.content)) ∧
    (∀ k0 k1 all0 pre cur0 cur1, 1 + slotsSize cur0 ≤ f → slotsClean ops k1.byIdentity pre cur1 cur0 = true →
      loopF D ops k0 k1 all0 (pre ++ cur1) f cur0 cur1 = some (seqCmp ops (contents cur0) (contents cur1))) ∧
    (∀ e0 e1, 1 + entsSize e0 ≤ f → entsClean ops e1 e0 = true →
      treeLoopF D ops f e0 e1 = some (entriesCmp ops (entContents e0) (entContents e1))) := by
  intro f
  induction f with
  | zero =>
    refine ⟨fun a b h _ => ?_, fun _ _ _ _ _ _ h _ => ?_, fun _ _ h _ => ?_⟩
    · have := Obj.size_pos a; omega
    · omega
    · omega
  | succ f ih =>
    obtain ⟨ihP, ihQ, ihT⟩ := ih
    refine ⟨fun a b hf hb => ?_, fun k0 k1 all0 pre cur0 cur1 hf hs => ?_, fun e0 e1 hf hn => ?_⟩
    · rw [objCmpF]
      split
      · next k0 s0 k1 s1 ha' hb' =>
        have := seqView_size ha'
        rw [seqView_content ha', seqView_content hb', valCmp]
        exact ihQ k0 k1 s0 [] s0 s1 (by omega) (seqView_clean ops ha' hb' hb)
      · split
        · next e0 e1 hta htb =>
          have := treeView_size hta
          rw [treeView_content hta, treeView_content htb, valCmp]
          exact ihT e0 e1 (by omega) (treeView_clean ops hta htb hb)
        · rfl
    · match cur0, cur1 with
      | [], [] => rw [loopF]; rfl
      | [], _ :: _ => rw [loopF]; rfl
      | _ :: _, [] => rw [loopF]; rfl
      | (i0, o0) :: r0, (i1, o1) :: r1 =>
        simp only [slotsSize] at hf
        simp only [slotsClean, Bool.and_eq_true, Bool.or_eq_true, bne_iff_ne, ne_eq, Bool.not_eq_true'] at hs
        rw [loopF, ihP o0 o1 (by omega) hs.1, advance_self hD k0]
        refine ite_thenCmp fun hz => ?_
        rcases hs.2 with hne | ⟨hstep, hrest⟩
        · exact absurd hz hne
        by_cases hmis : k1 = .tuple ∧ hasId i1 pre = true
        · -- the harmless mis-step: `self` ends here, `obj` does not, and the misplaced cursor is not Terminal
          obtain ⟨rfl, hid⟩ := hmis
          obtain ⟨t, ht⟩ := afterFirst_of_hasId i1 pre ((i1, o1) :: r1) hid
          have hend : r0.isEmpty = true ∧ r1.isEmpty = false := by
            rcases hstep with (hh | hh) | hh
            · cases hh
            · rw [hid] at hh; cases hh
            · exact hh
          cases r0 with
          | cons _ _ => cases hend.1
          | nil =>
            cases r1 with
            | nil => cases hend.2
            | cons s2 r2 =>
              -- fuel is left for one more round: `hf` counts `o0` (size ≥ 1) besides this step
              obtain ⟨f', rfl⟩ := Nat.exists_eq_succ_of_ne_zero (by have := Obj.size_pos o0; omega : f ≠ 0)
              simp only [advance, iterNext]
              rw [ht]
              cases t <;> exact loopF_nil_left ..
        · have hfresh : k1 = .tuple → hasId i1 pre = false := fun e => by
            cases hh : hasId i1 pre with
            | false => rfl
            | true => exact absurd ⟨e, hh⟩ hmis
          rw [advance_obj_clean k1 pre (i1, o1) r1 hfresh]
          have := ihQ k0 k1 all0 (pre ++ [(i1, o1)]) r0 r1 (by omega) hrest
          rwa [List.append_assoc] at this
    · match e0, e1 with
      | [], [] => rw [treeLoopF]; rfl
      | [], _ :: _ => rw [treeLoopF]; rfl
      | _ :: _, [] => rw [treeLoopF]; rfl
      | (k0, o0) :: r0, (k1, o1) :: r1 =>
        simp only [entsSize] at hf
        simp only [entsClean, Bool.and_eq_true, Bool.or_eq_true, bne_iff_ne, ne_eq] at hn
        rw [treeLoopF]
        refine ite_thenCmp fun gz => ?_
        rcases hn with hne | ⟨hc, hrest⟩
        · exact absurd gz hne
        rw [ihP o0 o1 (by omega) hc]
        refine ite_thenCmp fun hz => ?_
        rcases hrest with hne | hrest
        · exact absurd hz hne
        · exact ihT r0 r1 (by omega) hrest

theorem objCmpF_eq_content_clean (D : Discipline) (ops : FloatOps UInt64) (hD : D.tupleSelf = .byIndex) (f : Nat) (a b : Obj)
    (hf : a.size ≤ f) (hb : b.walkClean ops a = true) : objCmpF D ops f a b = some (valCmp ops a.content b.content) :=
  (objCmpF_eq_content_aux D ops hD f).1 a b hf hb

theorem objCmpF_eq_content (D : Discipline) (ops : FloatOps UInt64) (hD : D.tupleSelf = .byIndex) (f : Nat) (a b : Obj)
    (hf : a.size ≤ f) (hb : b.nodup = true) : objCmpF D ops f a b = some (valCmp ops a.content b.content) :=
  objCmpF_eq_content_clean D ops hD f a b hf (walkClean_of_nodup ops a b hb)

theorem objCmpF_fuelFor_clean (D : Discipline) (ops : FloatOps UInt64) (hD : D.tupleSelf = .byIndex) (a b : Obj)
    (hb : b.walkClean ops a = true) : (objCmpF D ops (fuelFor a b) a b).getD 0 = valCmp ops a.content b.content := by
  rw [objCmpF_eq_content_clean D ops hD _ a b (by unfold fuelFor; omega) hb]; rfl

/-- a slot that compares equal to itself and that both walks step back onto: the loop compares it with itself, again and again -/
theorem loopF_stuck (D : Discipline) (ops : FloatOps UInt64) (k0 k1 : SeqKind) (all0 all1 : List Slot) (s : Slot)
    (hs : ∀ f, objCmpF D ops (f + 1) s.2 s.2 = some 0)
    (h0 : ∀ rest, advance (selfWalk D k0) k0 all0 s rest = [s])
    (h1 : ∀ rest, advance .byIterator k1 all1 s rest = [s]) :
    ∀ f rest0 rest1, loopF D ops k0 k1 all0 all1 f (s :: rest0) (s :: rest1) = none := by
  intro f
  induction f with
  | zero => intro _ _; rw [loopF]
  | succ f ih =>
    intro rest0 rest1
    rw [loopF]
    cases f with
    | zero => rw [objCmpF]
    | succ f' =>
      rw [hs f']
      simp only [Int.lt_irrefl, if_false, gt_iff_lt]
      rw [h0, h1]
      exact ih [] []

end Cello.Cmp
