/-
  Lemmas about the worklist marker `Cello.Heap.dfs` (model of GC_Mark_Item / GC_Recurse), characterised once for a start from mark
  bits that are already set (`dfs_iff_from`, read off the invariant of the worklist, `WorklistInv`; `gcMarkFrom_iff`); the clean
  registry is the case of no bits (`dfs_iff_reach`, `gcMark_iff_reach`).  Then the sweep, the histories, and the tables of the source
  as it is (`Cfg.current_eq`).  Generic in the implementation `S : MarkSet σ`.
-/
import Cello.Heap

namespace Cello.Heap

variable {σ : Type} (S : MarkSet σ) (c : Cfg) (h : Heap)

/-- well-formed registry: every registered pointer is 8-aligned and within the bounds `GC_Set` maintains -/
structure Heap.WF (h : Heap) : Prop where
  aligned : ∀ a e, h.lookup a = some e → a % 8 = 0
  inRange : ∀ a e, h.lookup a = some e → h.minptr ≤ a ∧ a ≤ h.maxptr

theorem wf_of_regs {h : Heap} (hr : ∀ a ∈ h.regs, a % 8 = 0 ∧ h.minptr ≤ a ∧ a ≤ h.maxptr) : h.WF :=
  ⟨fun a e he => (hr a (h.complete a e he)).1, fun a e he => (hr a (h.complete a e he)).2⟩

theorem accepts_registered {h : Heap} {w : Word} (hw : h.accepts w = true) : (h.lookup w).isSome = true := by
  simp only [Heap.accepts, Bool.and_eq_true] at hw
  exact hw.2

theorem accepts_of_registered {h : Heap} (wf : h.WF) {w : Word} (hw : (h.lookup w).isSome = true) :
    h.accepts w = true := by
  cases hl : h.lookup w with
  | none => simp [hl] at hw
  | some e =>
    have h1 := wf.aligned w e hl
    have h2 := wf.inRange w e hl
    simp [Heap.accepts, hl, h1, h2.1, h2.2]

theorem accepts_iff {h : Heap} (wf : h.WF) (w : Word) : h.accepts w = true ↔ (h.lookup w).isSome = true :=
  ⟨accepts_registered, accepts_of_registered wf⟩

theorem fieldsAt_lookup {c : Cfg} {h : Heap} {a : Addr} {e : Entry} (hl : h.lookup a = some e) :
    h.fieldsAt c a = fields c e.obj := by simp [Heap.fieldsAt, hl]

/-- reachability as the marker sees it: from a root word that `GC_Mark_Item` accepts, through accepted words of
    traced objects -/
inductive Reach (c : Cfg) (h : Heap) (roots : List Word) : Addr → Prop
  | root {a} : a ∈ roots → h.accepts a = true → Reach c h roots a
  | step {a b} : Reach c h roots a → b ∈ h.fieldsAt c a → h.accepts b = true → Reach c h roots b

theorem dfs_nil (m : σ) : dfs S c h [] m = m := by
  rw [dfs]

theorem dfs_cons_pos (w : Word) (st : List Word) (m : σ) (hw : h.accepts w = true ∧ S.mem w m = false) :
    dfs S c h (w :: st) m = dfs S c h (h.fieldsAt c w ++ st) (S.insert w m) := by
  rw [dfs]; simp only [hw, and_self, dite_true]

theorem dfs_cons_neg (w : Word) (st : List Word) (m : σ) (hw : ¬ (h.accepts w = true ∧ S.mem w m = false)) :
    dfs S c h (w :: st) m = dfs S c h st m := by
  rw [dfs]; simp only [hw, dite_false]

/-- reachability as a marker sees it that starts with the bits `m0` set: through accepted words that are not marked in `m0` -/
inductive ReachFresh (m0 : σ) (roots : List Word) : Addr → Prop
  | root {a} : a ∈ roots → h.accepts a = true → S.mem a m0 = false → ReachFresh m0 roots a
  | step {a b} : ReachFresh m0 roots a → b ∈ h.fieldsAt c a → h.accepts b = true → S.mem b m0 = false → ReachFresh m0 roots b

theorem reachFresh_fresh {m0 : σ} {roots : List Word} {a : Addr} (hr : ReachFresh S c h m0 roots a) : S.mem a m0 = false := by
  cases hr with
  | root _ _ hf => exact hf
  | step _ _ _ hf => exact hf

theorem reachFresh_accepts {m0 : σ} {roots : List Word} {a : Addr} (hr : ReachFresh S c h m0 roots a) : h.accepts a = true := by
  cases hr with
  | root _ ha _ => exact ha
  | step _ _ ha _ => exact ha

/-- induction along the worklist: a relation between the stack and the bits that every round keeps holds, when the marker stops,
    of the empty stack and the final bits -/
theorem dfs_stack_inv {I : List Word → σ → Prop}
    (hpos : ∀ w st m, h.accepts w = true ∧ S.mem w m = false → I (w :: st) m → I (h.fieldsAt c w ++ st) (S.insert w m))
    (hneg : ∀ w st m, ¬ (h.accepts w = true ∧ S.mem w m = false) → I (w :: st) m → I st m) :
    ∀ (stack : List Word) (m : σ), I stack m → I [] (dfs S c h stack m) := by
  intro stack m
  induction stack, m using dfs.induct S c h with
  | case1 m => intro hI; rwa [dfs_nil]
  | case2 m w st hw ih => intro hI; rw [dfs_cons_pos S c h w st m hw]; exact ih (hpos w st m hw hI)
  | case3 m w st hw ih => intro hI; rw [dfs_cons_neg S c h w st m hw]; exact ih (hneg w st m hw hI)

theorem dfs_inv {I : σ → Prop} (hins : ∀ w m, h.accepts w = true ∧ S.mem w m = false → I m → I (S.insert w m)) :
    ∀ (stack : List Word) (m : σ), I m → I (dfs S c h stack m) :=
  dfs_stack_inv S c h (I := fun _ => I) (fun w _ m => hins w m) (fun _ _ _ _ hI => hI)

theorem dfs_list_nodup (c : Cfg) (h : Heap) (stack : List Word) (m : List Addr) (hn : m.Nodup) : (dfs listSet c h stack m).Nodup :=
  dfs_inv listSet c h (fun w m hw hn => List.nodup_cons.mpr ⟨by simpa [listSet] using hw.2, hn⟩) stack m hn

theorem dfs_list_regs (c : Cfg) (h : Heap) (stack : List Word) (m : List Addr) (hm : ∀ a ∈ m, a ∈ h.regs) :
    ∀ a ∈ dfs listSet c h stack m, a ∈ h.regs := by
  refine dfs_inv listSet c h (I := fun m => ∀ a ∈ m, a ∈ h.regs) (fun w m hw hm a ha => ?_) stack m hm
  rcases List.mem_cons.mp ha with h1 | h1
  · obtain ⟨e, hl⟩ := Option.isSome_iff_exists.mp (accepts_registered hw.1)
    exact h1 ▸ h.complete w e hl
  · exact hm a h1

/-- **the invariant of the worklist**, for a mark phase that starts from the bits `m0` with the words `rts`.  No bit is cleared.
    Soundness: a bit set since belongs to an entry reachable through entries unmarked in `m0`, and so does every accepted word on the
    stack that is unmarked in `m0`.  Completeness: an accepted word of an entry marked since, and an accepted root word, is marked or
    still on the stack. -/
structure WorklistInv (m0 : σ) (rts stk : List Word) (m : σ) : Prop where
  mono : ∀ a, S.mem a m0 = true → S.mem a m = true
  sound : ∀ a, S.mem a m = true → S.mem a m0 = true ∨ ReachFresh S c h m0 rts a
  stack : ∀ w ∈ stk, h.accepts w = true → S.mem w m0 = false → ReachFresh S c h m0 rts w
  closed : ∀ a, S.mem a m = true → S.mem a m0 = false → ∀ b ∈ h.fieldsAt c a, h.accepts b = true → S.mem b m = true ∨ b ∈ stk
  roots : ∀ w ∈ rts, h.accepts w = true → S.mem w m = true ∨ w ∈ stk

theorem dfs_worklistInv (m0 : σ) (roots : List Word) : WorklistInv S c h m0 roots [] (dfs S c h roots m0) := by
  refine dfs_stack_inv S c h (I := WorklistInv S c h m0 roots) (fun w st m hw hI => ?_) (fun w st m hw hI => ?_) roots m0
    ⟨fun _ h => h, fun _ h => .inl h, fun w hw ha hf => .root hw ha hf, fun a ha hf => (by rw [ha] at hf; cases hf), fun w hw _ => .inr hw⟩
  · -- `w` is marked, its words go on the stack; `w` was unmarked in `m0` too, so it is reachable as a word of the stack
    have hf : S.mem w m0 = false := by
      cases hm : S.mem w m0 with
      | false => rfl
      | true => rw [hI.mono w hm] at hw; cases hw.2
    have hrw := hI.stack w List.mem_cons_self hw.1 hf
    have ins : ∀ {a}, S.mem a m = true → S.mem a (S.insert w m) = true := fun ha => by rw [S.mem_insert, ha, Bool.or_true]
    have self : S.mem w (S.insert w m) = true := by rw [S.mem_insert]; simp
    have split : ∀ {a}, S.mem a (S.insert w m) = true → a = w ∨ S.mem a m = true := fun ha => by
      rw [S.mem_insert] at ha
      exact (Bool.or_eq_true _ _ |>.mp ha).imp (by simp) id
    -- a word that was marked or on the stack `w :: st` is marked or on the new stack
    have push : ∀ {b}, S.mem b m = true ∨ b ∈ w :: st → S.mem b (S.insert w m) = true ∨ b ∈ h.fieldsAt c w ++ st := by
      intro b hb
      rcases hb with hb | hb
      · exact .inl (ins hb)
      · rcases List.mem_cons.mp hb with rfl | hb
        · exact .inl self
        · exact .inr (List.mem_append_right _ hb)
    refine ⟨fun a ha => ins (hI.mono a ha), fun a ha => ?_, fun x hx ha hfx => ?_, fun a ha hfa b hb hab => ?_,
      fun x hx ha => push (hI.roots x hx ha)⟩
    · rcases split ha with rfl | ha
      · exact .inr hrw
      · exact hI.sound a ha
    · rcases List.mem_append.mp hx with hx | hx
      · exact .step hrw hx ha hfx
      · exact hI.stack x (List.mem_cons_of_mem _ hx) ha hfx
    · rcases split ha with rfl | ha
      · exact .inr (List.mem_append_left _ hb)
      · exact push (hI.closed a ha hfa b hb hab)
  · -- `w` is dropped: it is not accepted, or marked already
    have drop : ∀ {b}, h.accepts b = true → S.mem b m = true ∨ b ∈ w :: st → S.mem b m = true ∨ b ∈ st := by
      intro b hab hb
      rcases hb with hb | hb
      · exact .inl hb
      · rcases List.mem_cons.mp hb with rfl | hb
        · cases hm : S.mem b m with
          | true => exact .inl rfl
          | false => exact absurd ⟨hab, hm⟩ hw
        · exact .inr hb
    exact ⟨hI.mono, hI.sound, fun x hx => hI.stack x (List.mem_cons_of_mem _ hx),
      fun a ha hfa b hb hab => drop hab (hI.closed a ha hfa b hb hab), fun x hx ha => drop ha (hI.roots x hx ha)⟩

theorem dfs_iff_from (roots : List Word) (m0 : σ) (a : Addr) :
    S.mem a (dfs S c h roots m0) = true ↔ S.mem a m0 = true ∨ ReachFresh S c h m0 roots a := by
  have hI := dfs_worklistInv S c h m0 roots
  refine ⟨hI.sound a, ?_⟩
  rintro (ha | hr)
  · exact hI.mono a ha
  -- along the path: a root word, and a word of a marked entry, is marked — the stack is empty
  induction hr with
  | root hroot hacc _ => exact (hI.roots _ hroot hacc).elim id fun h => nomatch h
  | step hra hb hbr _ ih => exact (hI.closed _ ih (reachFresh_fresh S c h hra) _ hb hbr).elim id fun h => nomatch h

theorem reach_iff_fresh (roots : List Word) (a : Addr) : Reach c h roots a ↔ ReachFresh S c h S.empty roots a := by
  constructor <;> intro hr
  · induction hr with
    | root hroot hacc => exact .root hroot hacc (S.mem_empty _)
    | step _ hb hacc ih => exact .step ih hb hacc (S.mem_empty _)
  · induction hr with
    | root hroot hacc _ => exact .root hroot hacc
    | step _ hb hacc _ ih => exact .step ih hb hacc

theorem dfs_iff_reach (roots : List Word) (a : Addr) :
    S.mem a (dfs S c h roots S.empty) = true ↔ Reach c h roots a := by
  rw [dfs_iff_from, S.mem_empty, reach_iff_fresh S]; simp

theorem reach_mono {r1 r2 : List Word} (hsub : ∀ w ∈ r1, w ∈ r2) {a : Addr} (hr : Reach c h r1 a) : Reach c h r2 a := by
  induction hr with
  | root hroot hacc => exact .root (hsub _ hroot) hacc
  | step _ hb hbr ih => exact .step ih hb hbr

theorem reach_nil {a : Addr} : ¬ Reach c h [] a := by
  intro hr
  induction hr with
  | root hroot _ => cases hroot
  | step _ _ _ ih => exact ih

/-- marking from `r1 ++ r2` is marking from `r1` and then, with the bits kept, from `r2` (the phases of `GC_Mark`).  Kept over the
    rounds on `r1`: with `r2` put behind the stack, the marker ends where it ends from `r1 ++ r2` -/
theorem dfs_append (r1 : List Word) (m : σ) (r2 : List Word) :
    dfs S c h (r1 ++ r2) m = dfs S c h r2 (dfs S c h r1 m) :=
  (dfs_stack_inv S c h (I := fun st m' => dfs S c h (st ++ r2) m' = dfs S c h (r1 ++ r2) m)
    (fun w st m' hw hI => by rw [List.append_assoc, ← dfs_cons_pos S c h w (st ++ r2) m' hw]; exact hI)
    (fun w st m' hw hI => by rw [← dfs_cons_neg S c h w (st ++ r2) m' hw]; exact hI) r1 m rfl).symm

/-! the specification (`Reachable`, `ReachableUnmarked`: registered entries, `Points`) against the marker's view (`Reach`, `ReachFresh`:
    accepted words, `fieldsAt`): on a well-formed registry they are the same, shown once, for bits that are already set -/

theorem reachableUnmarked_iff_fresh {c : Cfg} {h : Heap} (wf : h.WF) (m0 : σ) (roots : List Word) (a : Addr) :
    ReachableUnmarked c h (fun x => S.mem x m0) roots a ↔ ReachFresh S c h m0 roots a := by
  constructor
  · intro hr
    induction hr with
    | root hroot hreg hf => exact .root hroot (accepts_of_registered wf hreg) hf
    | step _ hp hreg hf ih =>
      obtain ⟨e, hl, hb⟩ := hp
      exact .step ih (by rw [fieldsAt_lookup hl]; exact hb) (accepts_of_registered wf hreg) hf
  · intro hr
    induction hr with
    | root hroot hacc hf => exact .root hroot (accepts_registered hacc) hf
    | @step a b hra hb hacc hf ih =>
      have hreg := accepts_registered (reachFresh_accepts S c h hra)
      cases hl : h.lookup a with
      | none => simp [hl] at hreg
      | some e => exact .step ih ⟨e, hl, by rw [fieldsAt_lookup hl] at hb; exact hb⟩ (accepts_registered hacc) hf

theorem reachableUnmarked_none {c : Cfg} {h : Heap} (roots : List Word) (a : Addr) :
    ReachableUnmarked c h (fun _ => false) roots a ↔ Reachable c h roots a := by
  constructor
  · intro hr
    induction hr with
    | root hroot hreg _ => exact .root hroot hreg
    | step _ hp hreg _ ih => exact .step ih hp hreg
  · intro hr
    induction hr with
    | root hroot hreg => exact .root hroot hreg rfl
    | step _ hp hreg ih => exact .step ih hp hreg rfl

/-- the case of no bit set; the statement mentions no bits, so any implementation serves: `listSet`, whose `mem x empty` reduces to
    `false` (the closing `rfl`) -/
theorem reachable_iff_reach {c : Cfg} {h : Heap} (wf : h.WF) (roots : List Word) (a : Addr) :
    Reachable c h roots a ↔ Reach c h roots a := by
  rw [← reachableUnmarked_none, reach_iff_fresh listSet, ← reachableUnmarked_iff_fresh listSet wf]
  rfl

theorem reachable_registered {c : Cfg} {h : Heap} {roots : List Word} {a : Addr} (hr : Reachable c h roots a) :
    (h.lookup a).isSome = true := by
  cases hr with
  | root _ hreg => exact hreg
  | step _ _ hreg => exact hreg

/-- all root words of `GC_Mark`, in phase order -/
def rootWords (c : Cfg) (h : Heap) (thread : Obj) (stack : List Word) : List Word :=
  tlsWords c thread ++ (rootAddrs h ++ stack)

/-! `GC_Mark` is the marker on these words, started from whatever bits are set (`gcMarkFrom`: the `marked` fields survive when an
    exception leaves `GC_Mark`); `gcMark` is the case of no bits -/

theorem gcMarkFrom_eq (thread : Obj) (stack : List Word) (m0 : σ) :
    gcMarkFrom S c h thread stack m0 = dfs S c h (rootWords c h thread stack) m0 := by
  simp only [gcMarkFrom, rootWords, dfs_append]

theorem gcMarkFrom_empty (thread : Obj) (stack : List Word) :
    gcMarkFrom S c h thread stack S.empty = gcMark S c h thread stack := rfl

theorem gcMark_eq (thread : Obj) (stack : List Word) :
    gcMark S c h thread stack = dfs S c h (rootWords c h thread stack) S.empty :=
  gcMarkFrom_eq S c h thread stack S.empty

theorem gcMarkFrom_iff (wf : h.WF) (thread : Obj) (stack : List Word) (m0 : σ) (a : Addr) :
    S.mem a (gcMarkFrom S c h thread stack m0) = true ↔
      S.mem a m0 = true ∨ ReachableUnmarked c h (fun x => S.mem x m0) (rootWords c h thread stack) a := by
  rw [gcMarkFrom_eq, dfs_iff_from, reachableUnmarked_iff_fresh S wf]

theorem gcMark_iff_reach (thread : Obj) (stack : List Word) (a : Addr) :
    S.mem a (gcMark S c h thread stack) = true ↔ Reach c h (rootWords c h thread stack) a := by
  rw [gcMark_eq]; exact dfs_iff_reach S c h _ a

theorem gcMark_iff_reachable (wf : h.WF) (thread : Obj) (stack : List Word) (a : Addr) :
    S.mem a (gcMark S c h thread stack) = true ↔ Reachable c h (rootWords c h thread stack) a := by
  rw [gcMark_iff_reach, reachable_iff_reach wf]

theorem mem_seed (stale : List Addr) (a : Addr) : S.mem a (seed S stale) = stale.contains a := by
  induction stale with
  | nil => simp [seed, S.mem_empty]
  | cons x xs ih =>
    have : seed S (x :: xs) = S.insert x (seed S xs) := rfl
    rw [this, S.mem_insert, ih, List.contains_cons]

theorem seed_nil : seed S [] = S.empty := rfl

theorem mem_rootAddrs {h : Heap} {a : Addr} {e : Entry} (hl : h.lookup a = some e) (hr : e.root = true) : a ∈ rootAddrs h := by
  unfold rootAddrs
  exact List.mem_filter.mpr ⟨h.complete a e hl, by simp [hl, hr]⟩

theorem sweep_lookup (m : σ) (a : Addr) :
    (sweep S h m).1.lookup a = if sweeps S h m a then none else h.lookup a := rfl

theorem mem_pending (m : σ) (a : Addr) :
    a ∈ (sweep S h m).2 ↔ a ∈ h.regs ∧ sweeps S h m a = true := by
  simp [sweep, List.mem_filter]

theorem sweeps_iff (m : σ) (a : Addr) :
    sweeps S h m a = true ↔ ∃ e, h.lookup a = some e ∧ e.root = false ∧ S.mem a m = false := by
  unfold sweeps
  cases hl : h.lookup a with
  | none => simp
  | some e => simp

theorem not_swept_of_marked {m : σ} {a : Addr} (hm : S.mem a m = true) : sweeps S h m a = false := by
  cases hs : sweeps S h m a with
  | false => rfl
  | true =>
    obtain ⟨e, _, _, hmf⟩ := (sweeps_iff S h _ a).mp hs
    rw [hm] at hmf; cases hmf

theorem sweep_keeps_unswept {m : σ} {a : Addr} (hns : sweeps S h m a = false) :
    (sweep S h m).1.lookup a = h.lookup a ∧ a ∉ (sweep S h m).2 := by
  refine ⟨by rw [sweep_lookup, hns]; rfl, fun hp => ?_⟩
  rw [((mem_pending S h m a).mp hp).2] at hns; cases hns

theorem collect_keeps_reachable (wf : h.WF) (thread : Obj) (stack : List Word) (a : Addr)
    (hr : Reachable c h (rootWords c h thread stack) a) :
    (collect S c h thread stack).1.lookup a = h.lookup a ∧ (h.lookup a).isSome = true ∧ a ∉ (collect S c h thread stack).2 := by
  have hm := (gcMark_iff_reachable S c h wf thread stack a).mpr hr
  obtain ⟨h1, h2⟩ := sweep_keeps_unswept S h (not_swept_of_marked S h hm)
  exact ⟨h1, reachable_registered hr, h2⟩

/-- with no root word at all the marker marks nothing, and the sweep releases every registered block without the root flag -/
theorem collect_no_roots {thread : Obj} {stack : List Word} (hroots : rootWords c h thread stack = []) {a : Addr} {e : Entry}
    (hl : h.lookup a = some e) (hr : e.root = false) (hreg : a ∈ h.regs) : a ∈ (collect S c h thread stack).2 := by
  have hun : S.mem a (gcMark S c h thread stack) = false := by
    rw [← Bool.not_eq_true, gcMark_iff_reach, hroots]
    exact reach_nil c h
  exact (mem_pending S h _ a).mpr ⟨hreg, (sweeps_iff S h _ a).mpr ⟨e, hl, hr, hun⟩⟩

theorem wf_of_sub {h h' : Heap} (wf : h.WF) (hmin : h'.minptr = h.minptr) (hmax : h'.maxptr = h.maxptr)
    (hsub : ∀ x, (h'.lookup x).isSome = true → (h.lookup x).isSome = true) : h'.WF := by
  have key : ∀ a e, h'.lookup a = some e → ∃ e0, h.lookup a = some e0 :=
    fun a e he => Option.isSome_iff_exists.mp (hsub a (by rw [he]; rfl))
  constructor
  · intro a e he
    obtain ⟨e0, h0⟩ := key a e he
    exact wf.aligned a e0 h0
  · intro a e he
    obtain ⟨e0, h0⟩ := key a e he
    rw [hmin, hmax]; exact wf.inRange a e0 h0

theorem sweep_wf (wf : h.WF) (m : σ) : (sweep S h m).1.WF :=
  wf_of_sub wf rfl rfl fun x hx => by
    rw [sweep_lookup] at hx
    split at hx
    · cases hx
    · exact hx

theorem register_wf {h : Heap} (wf : h.WF) (a : Addr) (e : Entry) (ha : a % 8 = 0) : (h.register a e).WF := by
  unfold Heap.register
  split
  · exact wf
  · constructor
    · intro x e' he
      simp only at he
      by_cases hx : x = a
      · subst hx; exact ha
      · simp only [hx, if_false] at he; exact wf.aligned x e' he
    · intro x e' he
      simp only at he ⊢
      by_cases hx : x = a
      · subst hx; exact ⟨Nat.min_le_right _ _, Nat.le_max_right _ _⟩
      · simp only [hx, if_false] at he
        have := wf.inRange x e' he
        exact ⟨Nat.le_trans (Nat.min_le_left _ _) this.1, Nat.le_trans this.2 (Nat.le_max_left _ _)⟩

theorem write_lookup_self {h : Heap} {a : Addr} {e : Entry} (hl : h.lookup a = some e) (o : Obj) :
    (h.write a o).lookup a = some { e with obj := o } := by
  simp [Heap.write, hl]

theorem write_lookup_ne {h : Heap} {a x : Addr} (hx : x ≠ a) (o : Obj) : (h.write a o).lookup x = h.lookup x := by
  simp [Heap.write, hx]

theorem remove_lookup_ne {h : Heap} {b x : Addr} (hx : x ≠ b) : (h.remove b).lookup x = h.lookup x := by
  simp [Heap.remove, hx]

theorem write_isSome {h : Heap} (a x : Addr) (o : Obj) : ((h.write a o).lookup x).isSome = (h.lookup x).isSome := by
  by_cases hx : x = a
  · subst hx
    cases hl : h.lookup x with
    | none => simp [Heap.write, hl]
    | some e => simp [Heap.write, hl]
  · rw [write_lookup_ne hx]

theorem rootAddrs_write (h : Heap) (a : Addr) (o : Obj) : rootAddrs (h.write a o) = rootAddrs h := by
  unfold rootAddrs
  apply List.filter_congr
  intro x _
  by_cases hx : x = a
  · subst hx
    simp only [Heap.write, if_true]
    cases h.lookup x <;> rfl
  · simp only [Heap.write, hx, if_false]

theorem write_wf {h : Heap} (wf : h.WF) (a : Addr) (o : Obj) : (h.write a o).WF :=
  wf_of_sub wf rfl rfl fun x hx => by rw [write_isSome] at hx; exact hx

theorem remove_wf {h : Heap} (wf : h.WF) (a : Addr) : (h.remove a).WF :=
  wf_of_sub wf rfl rfl fun x hx => by
    by_cases hxa : x = a
    · simp [Heap.remove, hxa] at hx
    · rw [remove_lookup_ne hxa] at hx; exact hx

theorem step_wf {σ : Type} (S : MarkSet σ) (c : Cfg) (s : HState) (op : HOp) (wf : s.heap.WF) (hok : op.ok) :
    (s.step S c op).1.heap.WF := by
  cases op with
  | alloc a e => exact register_wf wf a e hok
  | write a o => exact write_wf wf a o
  | del a => exact remove_wf wf a
  | assign a b =>
    simp only [HState.step]
    split
    · exact write_wf wf a _
    · exact wf
  | copyTo a b =>
    simp only [HState.step]
    split
    · exact register_wf wf a _ hok
    · exact wf
  | clear a =>
    simp only [HState.step]
    split
    · exact write_wf wf a _
    · exact wf
  | setThread t => exact wf
  | setStack ws => exact wf
  | collect => exact sweep_wf S s.heap wf _

theorem step_event {σ : Type} (S : MarkSet σ) (c : Cfg) (s : HState) (op : HOp) (ev : Event)
    (he : (s.step S c op).2 = some ev) :
    ev.before = s ∧ ev.pending = (collect S c s.heap s.thread s.stack).2 := by
  cases op <;> simp only [HState.step] at he <;> (try split at he) <;> cases he
  exact ⟨rfl, rfl⟩

theorem run_events {σ : Type} (S : MarkSet σ) (c : Cfg) : ∀ (ops : List HOp) (s : HState), s.heap.WF →
    (∀ op ∈ ops, op.ok) →
    (HState.run S c ops s).1.heap.WF ∧
    ∀ ev ∈ (HState.run S c ops s).2, ev.before.heap.WF ∧
      ev.pending = (collect S c ev.before.heap ev.before.thread ev.before.stack).2 := by
  intro ops
  induction ops with
  | nil => intro s wf _; exact ⟨wf, fun ev hev => by simp [HState.run] at hev⟩
  | cons op ops ih =>
    intro s wf hok
    have wf1 := step_wf S c s op wf (hok op List.mem_cons_self)
    obtain ⟨h1, h2⟩ := ih (s.step S c op).1 wf1 (fun o ho => hok o (List.mem_cons_of_mem _ ho))
    simp only [HState.run]
    refine ⟨h1, ?_⟩
    intro ev hev
    cases hs : (s.step S c op).2 with
    | none => rw [hs] at hev; exact h2 ev hev
    | some e0 =>
      rw [hs] at hev
      rcases List.mem_cons.mp hev with heq | hmem
      · subst heq
        obtain ⟨hb, hp⟩ := step_event S c s op ev hs
        rw [hb]; exact ⟨wf, by rw [hp]⟩
      · exact h2 ev hmem

open CelloGen.GcMark in
theorem markVisitsAll_markTypes : ∀ ty ∈ markTypes, markVisitsAll ty = true := by decide

/-- `Cfg.current` with its tables evaluated.  Comparing the extracted facts of the Mark instances with the modelled ones
    (`markVisitsAll`) is dear, and every evaluation under `Cfg.current` pays for it again: facts about a concrete heap rewrite with
    this equation first. -/
theorem Cfg.current_eq : Cfg.current =
    { leaf := ["Int", "Float", "String", "Type", "File", "Process", "Function"]
      mark := ["Array", "List", "Table", "Thread", "Tree", "Tuple", "ProbeM"]
      guarded := true, tlsCallback := true, scanInclusive := true, foreignTls := true } := by
  unfold Cfg.current
  rw [List.filter_eq_self.mpr markVisitsAll_markTypes]
  rfl

end Cello.Heap
