/- Walks, for C11: a terminating walk (`Run`) is what the driver's fuelled interpreter computes, and can be read as its calls
   `0 … |l|` (`stepN`: `Run.stepN_res`, `Run.of_stepN`); `Traces` are the walks that answer Terminal again after the end; `Cursor` is the
   interface of the containers whose cursor stands on a position.  At the end the C index normalisation (`normIdx`, `getIdx`, `GetFullAs`)
   and how the parts of the property (`LawfulAs`, `LenGetAs`, the two halves) are taken apart and put together. -/
import Cello.Iter

namespace Cello.Iter

variable {σ α β : Type}

theorem Run.runFuel {step : σ → σ × Res α} {r : σ × Res α} {l : List α} (h : Run step r l) :
    ∀ n, l.length < n → runFuel step n r = (l, .term) := by
  induction h with
  | term s => intro n hn; cases n with
    | zero => omega
    | succ n => rfl
  | item s a l _ ih =>
    intro n hn
    cases n with
    | zero => omega
    | succ n =>
      have := ih n (by simp at hn; omega)
      simp [Cello.Iter.runFuel, this]

theorem Run.of_runFuel {step : σ → σ × Res α} : ∀ (n : Nat) (r : σ × Res α) (l : List α),
    Cello.Iter.runFuel step n r = (l, .term) → Run step r l
  | 0, _, _, h => by cases h
  | n + 1, (s, .item a), l, h => by
    simp only [Cello.Iter.runFuel] at h
    obtain ⟨rfl, h2⟩ := Prod.mk.inj h
    exact Run.item s a _ (Run.of_runFuel n _ _ (Prod.ext rfl h2))
  | _ + 1, (s, .term), l, h => by cases h; exact Run.term s
  | _ + 1, (_, .undef), _, h => by cases h
  | _ + 1, (_, .hang), _, h => by cases h

theorem Run.unique {step : σ → σ × Res α} {r : σ × Res α} {l l' : List α} (h : Run step r l) (h' : Run step r l') :
    l = l' := by
  have a := h.runFuel (l.length + l'.length + 1) (by omega)
  have b := h'.runFuel (l.length + l'.length + 1) (by omega)
  rw [a] at b; exact (Prod.mk.inj b).1

theorem Run.inv_nil {step : σ → σ × Res α} {r : σ × Res α} (h : Run step r []) : r.2 = .term := by
  cases h; rfl

theorem Run.inv_cons {step : σ → σ × Res α} {r : σ × Res α} {a : α} {l : List α} (h : Run step r (a :: l)) :
    r.2 = .item a ∧ Run step (step r.1) l := by
  cases h with
  | item s a l h => exact ⟨rfl, h⟩

theorem Run.of_term {step : σ → σ × Res α} {r : σ × Res α} (h : r.2 = .term) : Run step r [] := by
  obtain ⟨s, x⟩ := r
  simp only at h; subst h; exact Run.term s

/-- a terminating walk carries over to a second step function that agrees with the first on the item states of the walk -/
theorem Run.transfer {step step' : σ → σ × Res α} (P : σ × Res α → Prop)
    (hP : ∀ s a, P (s, .item a) → step' s = step s ∧ P (step s)) :
    ∀ (r : σ × Res α) (l : List α), Run step r l → P r → Run step' r l := by
  intro r l h
  induction h with
  | term s => intro _; exact Run.term s
  | item s a l _ ih =>
    intro hp
    obtain ⟨e, hp'⟩ := hP s a hp
    refine Run.item s a l ?_
    rw [e]; exact ih hp'

/-- A container whose cursor stands on a position of `l`: `pos i` is the state in which item `i` has just been handed out (an index, a
    pointer into a store, the element pointer itself).  What such a container owes of its four protocol functions; both walks follow
    (`Cursor.fwd`, `Cursor.bwd`).  Array, Tuple and the Array with its backing store are instances. -/
structure Cursor (I : Iterable α) (l : List α) (pos : Nat → I.σ) : Prop where
  init_nil : l = [] → ∀ s, (I.init s).2 = .term
  last_nil : l = [] → ∀ s, (I.last s).2 = .term
  init : ∀ (h : 0 < l.length) s, I.init s = (pos 0, .item (l[0]'h))
  last : ∀ (h : 0 < l.length) s, I.last s = (pos (l.length - 1), .item (l[l.length - 1]'(Nat.sub_lt h Nat.one_pos)))
  next : ∀ i (h : i + 1 < l.length), I.next (pos i) = (pos (i + 1), .item (l[i + 1]'h))
  prev : ∀ i (h : i + 1 < l.length), I.prev (pos (i + 1)) = (pos i, .item (l[i]'(Nat.lt_of_succ_lt h)))
  next_end : ∀ i, i + 1 = l.length → (I.next (pos i)).2 = .term
  prev_end : 0 < l.length → (I.prev (pos 0)).2 = .term

theorem Cursor.run_from {I : Iterable α} {l : List α} {pos : Nat → I.σ} (c : Cursor I l pos) :
    ∀ (i : Nat) (h : i < l.length), Run I.next (pos i, .item l[i]) (l.drop i) := by
  intro i h
  induction hm : l.length - i generalizing i with
  | zero => omega
  | succ m ih =>
    rw [List.drop_eq_getElem_cons h]
    refine Run.item _ _ _ ?_
    by_cases hl : i + 1 < l.length
    · rw [c.next i hl]; exact ih (i + 1) hl (by omega)
    · rw [List.drop_eq_nil_of_le (by omega)]; exact Run.of_term (c.next_end i (by omega))

theorem Cursor.run_back {I : Iterable α} {l : List α} {pos : Nat → I.σ} (c : Cursor I l pos) :
    ∀ (i : Nat) (h : i < l.length), Run I.prev (pos i, .item l[i]) (l.take (i + 1)).reverse := by
  intro i
  induction i with
  | zero =>
    intro h
    rw [List.take_add_one, List.getElem?_eq_getElem h]
    exact Run.item _ _ _ (Run.of_term (c.prev_end h))
  | succ i ih =>
    intro h
    rw [List.take_add_one, List.getElem?_eq_getElem h, List.reverse_append]
    refine Run.item _ _ _ ?_
    rw [c.prev i h]; exact ih (by omega)

theorem Cursor.fwd {I : Iterable α} {l : List α} {pos : Nat → I.σ} (c : Cursor I l pos) : FwdAs I l := by
  intro s
  rcases Nat.eq_zero_or_pos l.length with h0 | h
  · have e := List.length_eq_zero_iff.mp h0
    have := c.init_nil e s
    subst e; exact Run.of_term this
  · rw [c.init h]; exact c.run_from 0 h

theorem Cursor.bwd {I : Iterable α} {l : List α} {pos : Nat → I.σ} (c : Cursor I l pos) : BwdAs I l := by
  intro s
  rcases Nat.eq_zero_or_pos l.length with h0 | h
  · have e := List.length_eq_zero_iff.mp h0
    have := c.last_nil e s
    subst e; exact Run.of_term this
  · have := c.run_back (l.length - 1) (by omega)
    rw [show l.length - 1 + 1 = l.length by omega, List.take_length] at this
    rw [c.last h]; exact this

theorem Run.map (f : α → β) {step : σ → σ × Res α} {r : σ × Res α} {l : List α} (h : Run step r l) :
    Run (fun s => ((step s).1, (step s).2.map f)) (r.1, r.2.map f) (l.map f) := by
  induction h with
  | term s => exact Run.term s
  | item s a l _ ih => exact Run.item s (f a) (l.map f) ih

/-- `k` is the fuel left to the skipping loop in progress, `fuel` what every later call starts with; each exceeds the number of items
    still to come, so neither loop runs out -/
theorem Run.skip (p : α → Bool) (step : σ → σ × Res α) (fuel : Nat) {r : σ × Res α} {l : List α}
    (h : Run step r l) : l.length < fuel → ∀ k, l.length < k →
    Run (fun s => skipLoop p step fuel (step s)) (skipLoop p step k r) (l.filter p) := by
  induction h with
  | term s =>
    intro _ k hk
    cases k with
    | zero => simp at hk
    | succ k => simpa [skipLoop] using Run.term s
  | item s a l h ih =>
    intro hf k hk
    cases k with
    | zero => simp at hk
    | succ k =>
      simp only [List.length_cons] at hf hk
      by_cases hp : p a = true
      · simp only [skipLoop, hp, if_true, List.filter_cons_of_pos]
        exact Run.item s a _ (ih (by omega) fuel (by omega))
      · simp only [skipLoop, hp, List.filter_cons_of_neg, Bool.false_eq_true, if_false, not_false_eq_true]
        exact ih (by omega) k (by omega)

theorem stepN_undef (step : σ → σ × Res α) (s : σ) : ∀ k, stepN step k (s, .undef) = (s, .undef)
  | 0 => rfl
  | _ + 1 => rfl

theorem stepN_hang (step : σ → σ × Res α) (s : σ) : ∀ k, stepN step k (s, .hang) = (s, .hang)
  | 0 => rfl
  | _ + 1 => rfl

@[simp] theorem stepN_zero (step : σ → σ × Res α) (r : σ × Res α) : stepN step 0 r = r := rfl

theorem stepN_succ_item (step : σ → σ × Res α) (k : Nat) (s : σ) (a : α) :
    stepN step (k + 1) (s, .item a) = stepN step k (step s) := rfl

theorem stepN_succ_term (step : σ → σ × Res α) (k : Nat) (s : σ) :
    stepN step (k + 1) (s, .term) = stepN step k (step s) := rfl

theorem stepN_add (step : σ → σ × Res α) : ∀ (a b : Nat) (r : σ × Res α),
    stepN step (a + b) r = stepN step b (stepN step a r)
  | 0, b, r => by simp
  | a + 1, b, (s, .item x) => by
    have : a + 1 + b = (a + b) + 1 := by omega
    rw [this, stepN_succ_item, stepN_succ_item]; exact stepN_add step a b _
  | a + 1, b, (s, .term) => by
    have : a + 1 + b = (a + b) + 1 := by omega
    rw [this, stepN_succ_term, stepN_succ_term]; exact stepN_add step a b _
  | a + 1, b, (s, .undef) => by rw [stepN_undef, stepN_undef, stepN_undef]
  | a + 1, b, (s, .hang) => by rw [stepN_hang, stepN_hang, stepN_hang]

@[simp] theorem resAt_nil (k : Nat) : resAt ([] : List α) k = .term := by simp [resAt]
@[simp] theorem resAt_cons_zero (a : α) (t : List α) : resAt (a :: t) 0 = .item a := by simp [resAt]
@[simp] theorem resAt_cons_succ (a : α) (t : List α) (k : Nat) : resAt (a :: t) (k + 1) = resAt t k := by simp [resAt]

theorem resAt_map (f : α → β) (l : List α) (k : Nat) : resAt (l.map f) k = (resAt l k).map f := by
  unfold resAt; rw [List.getElem?_map]; cases l[k]? <;> rfl

theorem resAt_of_getElem? {l l' : List α} {k k' : Nat} (h : l[k]? = l'[k']?) : resAt l k = resAt l' k' := by
  unfold resAt; rw [h]

theorem resAt_map_range (f : Nat → α) (n k : Nat) :
    resAt ((List.range n).map f) k = if k < n then .item (f k) else .term := by
  unfold resAt
  by_cases h : k < n
  · rw [if_pos h, List.getElem?_map, List.getElem?_range h]; rfl
  · rw [if_neg h, List.getElem?_eq_none (by simpa using h)]

theorem Run.stepN_res {step : σ → σ × Res α} {r : σ × Res α} {l : List α} (h : Run step r l) :
    ∀ k, k ≤ l.length → (Cello.Iter.stepN step k r).2 = resAt l k := by
  induction h with
  | term s =>
    intro k hk
    have : k = 0 := by simpa using hk
    subst this; rfl
  | item s a l _ ih =>
    intro k hk
    cases k with
    | zero => rfl
    | succ k => rw [stepN_succ_item, resAt_cons_succ]; exact ih k (by simpa using hk)

theorem Run.of_stepN {step : σ → σ × Res α} : ∀ {l : List α} {r : σ × Res α},
    (∀ k, k ≤ l.length → (Cello.Iter.stepN step k r).2 = resAt l k) → Run step r l
  | [], r, h => Run.of_term (by simpa using h 0 (Nat.le_refl _))
  | a :: t, (s, x), h => by
    have h0 : x = .item a := by simpa using h 0 (Nat.zero_le _)
    subst h0
    refine Run.item s a t (Run.of_stepN fun k hk => ?_)
    have := h (k + 1) (by simpa using hk)
    rwa [stepN_succ_item, resAt_cons_succ] at this

theorem Traces.head {step : σ → σ × Res α} {r : σ × Res α} {l : List α} (h : Traces step r l) : r.2 = resAt l 0 := h 0

theorem Traces.tail {step : σ → σ × Res α} {s : σ} {a : α} {t : List α} (h : Traces step (s, .item a) (a :: t)) :
    Traces step (step s) t := by
  intro k
  have := h (k + 1)
  rwa [stepN_succ_item, resAt_cons_succ] at this

theorem Traces.run {step : σ → σ × Res α} {l : List α} {r : σ × Res α} (h : Traces step r l) : Run step r l :=
  Run.of_stepN fun k _ => h k

theorem Traces.drop {step : σ → σ × Res α} {r : σ × Res α} {l : List α} (h : Traces step r l) (a : Nat) :
    Traces step (stepN step a r) (l.drop a) := by
  intro k
  rw [← stepN_add, h (a + k)]
  exact resAt_of_getElem? (by rw [List.getElem?_drop])

/-- a walk that ends in a state from which every further call answers Terminal (and stays in such states) is traced -/
theorem Run.traces {step : σ → σ × Res α} (P : σ → Prop) (hP : ∀ s, P s → (step s).2 = .term ∧ P (step s).1)
    (hend : ∀ s, (step s).2 = .term → P (step s).1) {r : σ × Res α} {l : List α} (h : Run step r l)
    (hr : r.2 = .term → P r.1) : Traces step r l := by
  induction h with
  | term s =>
    have hs : P s := hr rfl
    intro k
    rw [resAt_nil]
    induction k generalizing s with
    | zero => rfl
    | succ k ih =>
      rw [stepN_succ_term]
      obtain ⟨h1, h2⟩ := hP s hs
      have e : step s = ((step s).1, .term) := by rw [← h1]
      rw [e]; exact ih _ (fun _ => h2) h2
  | item s a l _ ih =>
    intro k
    cases k with
    | zero => rw [stepN_zero, resAt_cons_zero]
    | succ k =>
      rw [stepN_succ_item, resAt_cons_succ]
      exact ih (hend s) k

/-- a step function that moves from state `st k` to `st (k+1)` and answers item `f (k+1)` as long as `k+1 < n`, Terminal from
    then on (at every further call too): the `k`-th call from `st 0` is in state `st k` -/
theorem stepN_indexed (step : σ → σ × Res α) (st : Nat → σ) (f : Nat → α) (n : Nat)
    (hstep : ∀ k, step (st k) = (st (k + 1), if k + 1 < n then .item (f (k + 1)) else .term)) :
    ∀ k, stepN step k (st 0, if 0 < n then .item (f 0) else .term) = (st k, if k < n then .item (f k) else .term)
  | 0 => rfl
  | k + 1 => by
    rw [stepN_add step k 1, stepN_indexed step st f n hstep k, ← hstep k]
    split <;> rfl

theorem traces_indexed (step : σ → σ × Res α) (st : Nat → σ) (f : Nat → α) (n : Nat)
    (hstep : ∀ k, step (st k) = (st (k + 1), if k + 1 < n then .item (f (k + 1)) else .term)) :
    Traces step (st 0, if 0 < n then .item (f 0) else .term) ((List.range n).map f) := by
  intro k
  rw [stepN_indexed step st f n hstep k, resAt_map_range]

theorem stepN_map (f : α → β) (step : σ → σ × Res α) : ∀ (k : Nat) (r : σ × Res α),
    stepN (fun s => ((step s).1, (step s).2.map f)) k (r.1, r.2.map f) =
      ((stepN step k r).1, (stepN step k r).2.map f)
  | 0, _ => rfl
  | k + 1, (s, .item a) => by
    show stepN _ k (_, _) = _
    rw [stepN_succ_item]; exact stepN_map f step k (step s)
  | k + 1, (s, .term) => by
    show stepN _ k (_, _) = _
    rw [stepN_succ_term]; exact stepN_map f step k (step s)
  | k + 1, (s, .undef) => by simp [Res.map, stepN_undef]
  | k + 1, (s, .hang) => by simp [Res.map, stepN_hang]

theorem Traces.map (f : α → β) {step : σ → σ × Res α} {r : σ × Res α} {l : List α} (h : Traces step r l) :
    Traces (fun s => ((step s).1, (step s).2.map f)) (r.1, r.2.map f) (l.map f) := by
  intro k
  rw [stepN_map, resAt_map, h k]

/-- from a state in which Terminal is answered for ever, the skipping loop answers Terminal for ever -/
theorem sticky_skip (p : α → Bool) (step : σ → σ × Res α) (fuel : Nat) (hfuel : 0 < fuel) :
    ∀ (k : Nat) (s : σ), Traces step (s, .term) [] →
      (stepN (fun s => skipLoop p step fuel (step s)) k (s, .term)).2 = .term
  | 0, _, _ => rfl
  | k + 1, s, h => by
    rw [stepN_succ_term]
    have h1 : (step s).2 = .term := by have := h 1; rwa [stepN_succ_term, stepN_zero, resAt_nil] at this
    have e : step s = ((step s).1, .term) := by rw [← h1]
    obtain ⟨f', rfl⟩ : ∃ f', fuel = f' + 1 := ⟨fuel - 1, by omega⟩
    have hs : skipLoop p step (f' + 1) (step s) = ((step s).1, .term) := by rw [e]; rfl
    rw [hs]
    refine sticky_skip p step (f' + 1) hfuel k _ ?_
    intro j
    have := h (j + 1)
    rw [stepN_succ_term, e] at this
    simpa using this

theorem Traces.skip (p : α → Bool) (step : σ → σ × Res α) (fuel : Nat) {r : σ × Res α} {l : List α}
    (ht : Traces step r l) : l.length < fuel → ∀ k, l.length < k →
    Traces (fun s => skipLoop p step fuel (step s)) (skipLoop p step k r) (l.filter p) := by
  induction ht.run with
  | term s =>
    intro hf k hk
    obtain ⟨k', rfl⟩ : ∃ k', k = k' + 1 := ⟨k - 1, by simp at hk; omega⟩
    intro j
    have : skipLoop p step (k' + 1) (s, .term) = (s, .term) := rfl
    rw [this, List.filter_nil, resAt_nil]
    exact sticky_skip p step fuel (by omega) j s ht
  | item s a l _ ih =>
    intro hf k hk
    obtain ⟨k', rfl⟩ : ∃ k', k = k' + 1 := ⟨k - 1, by simp at hk; omega⟩
    simp only [List.length_cons] at hf hk
    by_cases hp : p a = true
    · simp only [skipLoop, hp, if_true, List.filter_cons_of_pos]
      intro j
      cases j with
      | zero => rw [stepN_zero, resAt_cons_zero]
      | succ j =>
        rw [stepN_succ_item, resAt_cons_succ]
        exact ih ht.tail (by omega) fuel (by omega) j
    · simp only [skipLoop, hp, List.filter_cons_of_neg, Bool.false_eq_true, if_false, not_false_eq_true]
      exact ih ht.tail (by omega) k' (by omega)

/-- stepping `c` at a time from the `a`-th call: the `k`-th stride is the `(a + k*c)`-th call, whatever the walk does (a Terminal is
    handed on as a cursor, `undef` / `hang` stay on both sides) -/
theorem stepN_stride (step : σ → σ × Res α) (c : Nat) (hc : 1 ≤ c) (r : σ × Res α) :
    ∀ (k a : Nat), stepN (fun s => stepN step (c - 1) (step s)) k (stepN step a r) = stepN step (a + k * c) r
  | 0, a => by simp
  | k + 1, a => by
    have e : a + (k + 1) * c = (a + c) + k * c := by rw [Nat.succ_mul]; omega
    rw [e, ← stepN_stride step c hc r k (a + c), stepN_add step a c]
    obtain ⟨c', rfl⟩ : ∃ c', c = c' + 1 := ⟨c - 1, by omega⟩
    rcases stepN step a r with ⟨s, x⟩
    cases x with
    | item y => rfl
    | term => rfl
    | undef => rw [stepN_undef, stepN_undef, stepN_undef]
    | hang => rw [stepN_hang, stepN_hang, stepN_hang]

theorem Traces.stride (step : σ → σ × Res α) (c : Nat) (hc : 1 ≤ c) {r : σ × Res α} {l : List α} (h : Traces step r l)
    (a : Nat) (m : List α) (hm : ∀ k, m[k]? = l[a + k * c]?) :
    Traces (fun s => stepN step (c - 1) (step s)) (stepN step a r) m := by
  intro k
  rw [stepN_stride step c hc r k a, h (a + k * c)]
  exact resAt_of_getElem? (hm k).symm

theorem normIdx_some {n : Nat} {k : Int} {i : Nat} (h : normIdx n k = some i) :
    (if k < 0 then (n : Int) + k else k) = (i : Int) ∧ i < n := by
  simp only [normIdx] at h
  generalize (if k < 0 then (n : Int) + k else k) = j at h ⊢
  by_cases hj : j < 0 ∨ j ≥ (n : Int)
  · rw [if_pos hj] at h; simp at h
  · rw [if_neg hj] at h; simp only [Option.some.injEq] at h; omega

theorem normIdx_lt {n : Nat} {k : Int} {i : Nat} (h : normIdx n k = some i) : i < n := (normIdx_some h).2

theorem normIdx_none {n : Nat} {k : Int} (h : normIdx n k = none) :
    (if k < 0 then (n : Int) + k else k) < 0 ∨ (if k < 0 then (n : Int) + k else k) ≥ (n : Int) := by
  simp only [normIdx] at h
  generalize (if k < 0 then (n : Int) + k else k) = j at h ⊢
  by_cases hj : j < 0 ∨ j ≥ (n : Int)
  · exact hj
  · rw [if_neg hj] at h; cases h

theorem normIdx_ofNat {n i : Nat} (h : i < n) : normIdx n (Int.ofNat i) = some i := by
  simp only [normIdx, Int.ofNat_eq_natCast]
  have h1 : ¬ ((i : Int) < 0) := by omega
  rw [if_neg h1]
  have h2 : ¬ ((i : Int) < 0 ∨ (i : Int) ≥ (n : Int)) := by omega
  rw [if_neg h2]; simp

theorem normIdx_isSome_iff (n : Nat) (k : Int) : (normIdx n k).isSome ↔ -(n : Int) ≤ k ∧ k < (n : Int) := by
  cases h : normIdx n k with
  | none => have := normIdx_none h; simp only [Option.isSome_none, Bool.false_eq_true, false_iff]; omega
  | some i => have := normIdx_some h; simp only [Option.isSome_some, true_iff]; omega

/-- `getIdx` is the element at the normalised index; the other lemmas about `getIdx` go through this one and do not unfold it -/
theorem getIdx_eq_norm (l : List α) (k : Int) : getIdx l k = (normIdx l.length k).bind (fun i => l[i]?) := by
  simp only [getIdx, normIdx]
  generalize (if k < 0 then (l.length : Int) + k else k) = j
  by_cases h : j < 0 ∨ j ≥ (l.length : Int)
  · rw [if_pos h, if_pos h]; rfl
  · rw [if_neg h, if_neg h]; rfl

theorem getIdx_ofNat (l : List α) (i : Nat) (h : i < l.length) : getIdx l (Int.ofNat i) = some l[i] := by
  rw [getIdx_eq_norm, normIdx_ofNat h]; exact List.getElem?_eq_getElem h

theorem getIdx_isSome_iff (l : List α) (k : Int) :
    (getIdx l k).isSome ↔ -(l.length : Int) ≤ k ∧ k < (l.length : Int) := by
  rw [getIdx_eq_norm, ← normIdx_isSome_iff]
  cases h : normIdx l.length k with
  | none => rfl
  | some i => simp [List.getElem?_eq_getElem (normIdx_lt h)]

theorem getIdx_norm (l : List α) (k : Int) (i : Nat) (h : normIdx l.length k = some i) :
    getIdx l k = getIdx l (Int.ofNat i) := by
  rw [getIdx_eq_norm, getIdx_eq_norm, h, normIdx_ofNat (normIdx_lt h)]

theorem getIdx_map (f : α → β) (l : List α) (k : Int) : getIdx (l.map f) k = (getIdx l k).map f := by
  rw [getIdx_eq_norm, getIdx_eq_norm, List.length_map]
  cases normIdx l.length k with
  | none => rfl
  | some i => simp

theorem getIdx_mem (l : List α) (k : Int) (p : α) (h : getIdx l k = some p) : p ∈ l := by
  rw [getIdx_eq_norm] at h
  cases hn : normIdx l.length k with
  | none => rw [hn] at h; cases h
  | some i => rw [hn] at h; exact List.mem_of_getElem? h

/-- `get` agrees with the sequence at EVERY index: negative = from the end, outside `[-len, len)` = IndexOutOfBoundsError -/
def GetFullAs (I : Iterable α) (l : List α) : Prop := ∀ g, I.get = some g → ∀ k : Int, g k = getIdx l k

/-- … of which the `get` clause of `LawfulAs` / `LenGetAs` is the part `0 ≤ k < len` -/
theorem GetFullAs.get {I : Iterable α} {l : List α} (h : GetFullAs I l) :
    ∀ g, I.get = some g → ∀ i (hi : i < l.length), g (Int.ofNat i) = some l[i] :=
  fun g hg i hi => (h g hg _).trans (getIdx_ofNat l i hi)

theorem LawfulAs.lg {I : Iterable α} {l : List α} (h : LawfulAs I l) : LenGetAs I l := ⟨h.len, h.get⟩

theorem LawfulAs.of_lg {I : Iterable α} {l : List α} (fwd : FwdAs I l) (bwd : BwdAs I l) (lg : LenGetAs I l) : LawfulAs I l :=
  ⟨fwd, bwd, lg.len, lg.get⟩

theorem lawfulAs_iff (I : Iterable α) (l : List α) : LawfulAs I l ↔ LawfulFwdAs I l ∧ LawfulBwdAs I l :=
  ⟨fun h => ⟨⟨h.fwd, h.lg⟩, ⟨h.bwd, h.lg⟩⟩, fun h => .of_lg h.1.fwd h.2.bwd h.1.lg⟩

theorem LenGetAs.len_eq {I : Iterable α} {l : List α} (h : LenGetAs I l) {n : Nat} (e : I.len = some n) :
    I.len = some l.length := by rw [e, h.len n e]

theorem LawfulAs.and_len {I : Iterable α} {l : List α} (h : LawfulAs I l) {n : Nat} (hn : I.len = some n) :
    LawfulAs I l ∧ I.len = some l.length :=
  ⟨h, h.lg.len_eq hn⟩

end Cello.Iter
