/-
  CelloProofs/Lemmas/TableSpec.lean — the association-list specification by itself: `Spec.get/set/rem` on lists with
  distinct keys, in the two readings the proofs use (membership of a pair, for the representation relation; `Spec.get`,
  for what `specStep` observes), and the map a pair list denotes (`Spec.ofPairs`).
-/
import Cello.Table
import Mathlib.Data.List.Nodup
namespace Cello.Table
variable {κ ν : Type} [DecidableEq κ]

theorem mem_spec_rem (m : Spec κ ν) (k k' : κ) (v' : ν) : (k', v') ∈ Spec.rem m k ↔ k' ≠ k ∧ (k', v') ∈ m := by
  simp [Spec.rem, List.mem_filter, and_comm]

theorem mem_spec_set (m : Spec κ ν) (k k' : κ) (v v' : ν) :
    (k', v') ∈ Spec.set m k v ↔ (k' = k ∧ v' = v) ∨ (k' ≠ k ∧ (k', v') ∈ m) := by
  simp [Spec.set, mem_spec_rem]

theorem spec_get_none (m : Spec κ ν) (k : κ) : Spec.get m k = none ↔ ∀ v, (k, v) ∉ m := by
  unfold Spec.get
  rw [Option.map_eq_none_iff, List.find?_eq_none]
  constructor
  · intro h v hv; exact h (k, v) hv (by simp)
  · intro h p hp hpk
    simp at hpk
    apply h p.2
    rw [← hpk]; exact hp

theorem spec_get_some_mem (m : Spec κ ν) (k : κ) (v : ν) (h : Spec.get m k = some v) : (k, v) ∈ m := by
  obtain ⟨p, hp, rfl⟩ := Option.map_eq_some_iff.mp h
  have h1 := List.find?_some hp
  rw [decide_eq_true_eq] at h1
  exact h1 ▸ List.mem_of_find?_eq_some hp

omit [DecidableEq κ] in
theorem nodup_keys_unique (m : Spec κ ν) (hnd : (m.map Prod.fst).Nodup) (k : κ) (v v' : ν)
    (h : (k, v) ∈ m) (h' : (k, v') ∈ m) : v = v' :=
  congrArg Prod.snd (List.inj_on_of_nodup_map hnd h h' rfl)

theorem spec_get_some (m : Spec κ ν) (hnd : (m.map Prod.fst).Nodup) (k : κ) (v : ν) :
    Spec.get m k = some v ↔ (k, v) ∈ m := by
  constructor
  · exact spec_get_some_mem m k v
  · intro h
    cases hg : Spec.get m k with
    | none => exact absurd h ((spec_get_none m k).mp hg v)
    | some v' => rw [nodup_keys_unique m hnd k v v' h (spec_get_some_mem m k v' hg)]

theorem nodup_spec_rem (m : Spec κ ν) (hnd : (m.map Prod.fst).Nodup) (k : κ) :
    ((Spec.rem m k).map Prod.fst).Nodup :=
  hnd.sublist (List.filter_sublist.map _)

theorem not_mem_keys_spec_rem (m : Spec κ ν) (k : κ) : k ∉ (Spec.rem m k).map Prod.fst := by
  intro h
  obtain ⟨p, hp, hpk⟩ := List.mem_map.mp h
  have := (mem_spec_rem m k p.1 p.2).mp hp
  exact this.1 hpk

theorem nodup_spec_set (m : Spec κ ν) (hnd : (m.map Prod.fst).Nodup) (k : κ) (v : ν) :
    ((Spec.set m k v).map Prod.fst).Nodup := by
  unfold Spec.set
  rw [List.map_cons, List.nodup_cons]
  exact ⟨not_mem_keys_spec_rem m k, nodup_spec_rem m hnd k⟩

theorem spec_rem_absent (m : Spec κ ν) (k : κ) (h : ∀ v, (k, v) ∉ m) : Spec.rem m k = m := by
  unfold Spec.rem
  rw [List.filter_eq_self]
  intro p hp
  simp
  intro hpk
  apply h p.2; rw [← hpk]; exact hp

theorem length_spec_rem_present (m : Spec κ ν) (hnd : (m.map Prod.fst).Nodup) (k : κ) (v : ν) (h : (k, v) ∈ m) :
    (Spec.rem m k).length + 1 = m.length := by
  -- exactly one pair has key `k`; `Spec.rem` keeps the others
  have h1 : m.countP (fun p => decide (p.1 = k)) = 1 := by
    have := List.count_eq_one_of_mem hnd (List.mem_map_of_mem (f := Prod.fst) h)
    rwa [List.count, List.countP_map] at this
  rw [Spec.rem, ← List.countP_eq_length_filter, List.length_eq_countP_add_countP (fun p => decide (p.1 = k)) (l := m), h1,
    Nat.add_comm]
  congr 2; funext p; cases decide (p.1 = k) <;> rfl

theorem length_spec_set_le (m : Spec κ ν) (k : κ) (v : ν) : (Spec.set m k v).length ≤ m.length + 1 := by
  simp only [Spec.set, Spec.rem, List.length_cons]
  exact Nat.succ_le_succ (List.length_filter_le _ _)

theorem spec_get_set (m : Spec κ ν) (k k' : κ) (v : ν) :
    Spec.get (Spec.set m k v) k' = if k' = k then some v else Spec.get m k' := by
  unfold Spec.get Spec.set Spec.rem
  by_cases h : k' = k
  · subst h; simp
  · have h' : ¬ k = k' := fun e => h e.symm
    simp only [List.find?_cons, h', decide_false, if_neg h, List.find?_filter]
    congr 2
    funext p
    by_cases hp : p.1 = k' <;> simp [hp, h]

theorem spec_get_rem (m : Spec κ ν) (k k' : κ) :
    Spec.get (Spec.rem m k) k' = if k' = k then none else Spec.get m k' := by
  unfold Spec.get Spec.rem
  by_cases h : k' = k
  · subst h
    simp only [if_true, Option.map_eq_none_iff, List.find?_eq_none]
    intro p hp
    simp [List.mem_filter] at hp
    simpa using hp.2
  · simp only [if_neg h, List.find?_filter]
    congr 2
    funext p
    by_cases hp : p.1 = k' <;> simp [hp, h]

theorem foldl_set_get (k : κ) : ∀ (kvs : List (κ × ν)) (m : Spec κ ν),
    Spec.get (kvs.foldl (fun m p => Spec.set m p.1 p.2) m) k =
      match kvs.reverse.find? (fun p => decide (p.1 = k)) with
      | some p => some p.2
      | none => Spec.get m k := by
  intro kvs
  induction kvs with
  | nil => intro m; rfl
  | cons p kvs ih =>
    intro m
    rw [List.foldl_cons, ih, List.reverse_cons, List.find?_append]
    cases h : kvs.reverse.find? (fun p => decide (p.1 = k)) with
    | some q => rfl
    | none =>
      simp only [Option.none_or, spec_get_set, List.find?_cons, List.find?_nil]
      by_cases e : p.1 = k
      · simp [e]
      · have e' : ¬ k = p.1 := fun h => e h.symm
        simp [e, e']

/-- **a later pair wins**: the map of a pair list (`Table_New` with pairs, `Table_Assign` from another kind of map) binds `k`
    to the value of the last pair whose key is `k` -/
theorem ofPairs_get (kvs : List (κ × ν)) (k : κ) :
    Spec.get (Spec.ofPairs kvs) k = (kvs.reverse.find? (fun p => decide (p.1 = k))).map (·.2) := by
  unfold Spec.ofPairs
  rw [foldl_set_get]
  cases kvs.reverse.find? (fun p => decide (p.1 = k)) <;> rfl

theorem foldl_set_of_nodup : ∀ (kvs : List (κ × ν)) (m : Spec κ ν), (kvs.map Prod.fst).Nodup →
    (∀ p ∈ kvs, ∀ v, (p.1, v) ∉ m) → kvs.foldl (fun m p => Spec.set m p.1 p.2) m = kvs.reverse ++ m := by
  intro kvs
  induction kvs with
  | nil => intro m _ _; rfl
  | cons p kvs ih =>
    intro m hnd hfresh
    rw [List.map_cons, List.nodup_cons] at hnd
    have hset : Spec.set m p.1 p.2 = p :: m := by
      unfold Spec.set
      rw [spec_rem_absent m p.1 (hfresh p List.mem_cons_self)]
    rw [List.foldl_cons, hset, ih (p :: m) hnd.2, List.reverse_cons, List.append_assoc]; rfl
    intro q hq v hv
    rcases List.mem_cons.mp hv with h | h
    · apply hnd.1
      have : q.1 = p.1 := by rw [← h]
      rw [← this]; exact List.mem_map.mpr ⟨q, hq, rfl⟩
    · exact hfresh q (List.mem_cons_of_mem _ hq) v h

theorem ofPairs_of_nodup (kvs : List (κ × ν)) (hnd : (kvs.map Prod.fst).Nodup) : Spec.ofPairs kvs = kvs.reverse := by
  unfold Spec.ofPairs
  rw [foldl_set_of_nodup kvs [] hnd (fun _ _ _ h => by cases h), List.append_nil]

-- a `List` fact; here because Lemmas/TableRefine.lean and Lemmas/TableLastWrite.lean both use it and meet in this file
theorem set_self_of_getElem? {α : Type} {l : List α} {i : Nat} {a : α} (h : l[i]? = some a) : l.set i a = l := by
  obtain ⟨hi, rfl⟩ := List.getElem?_eq_some_iff.mp h
  exact List.set_getElem_self hi

end Cello.Table
