/-
  Lemmas for C15 (engine `text`): rounding to the nearest integer, ties to even.

  `Rhe k ρ`: `k` is the rational `ρ` rounded that way, as a relation.  What the later files use follows from its being monotone
  (`Rhe.mono`); `Rhe.of_nearer` is why a text read back prints as the same text.  The model's `roundHalfEven` is unfolded in one
  place (`rhe_is`).
-/
import Cello.Text
import Mathlib.Tactic.Linarith
import Mathlib.Tactic.Ring
import Mathlib.Tactic.Push
import Mathlib.Algebra.Order.Field.Basic

namespace Cello.Text

/-- `k` is `ρ` rounded to the nearest integer, ties to even.  `roundHalfEven`, `fScaled`, `scaleRound` and the significand of
    `roundRat` each stand in this relation to the quotient they round. -/
def Rhe (k : ℕ) (ρ : ℚ) : Prop := |(k : ℚ) - ρ| ≤ 1 / 2 ∧ (|(k : ℚ) - ρ| = 1 / 2 → k % 2 = 0)

theorem half_gap (ρ ρ' a b : ℚ) (ha : |a - ρ'| ≤ 1 / 2) (hb : |b - ρ| ≤ 1 / 2) (hρ : ρ ≤ ρ') (hq : a + 1 ≤ b) :
    b = a + 1 ∧ |a - ρ'| = 1 / 2 ∧ |b - ρ| = 1 / 2 := by
  have a1 := (abs_le.1 ha).1
  have a2 := (abs_le.1 hb).2
  have t1 : a - ρ' = -(1 / 2) := le_antisymm (by linarith only [a2, hq, hρ]) a1
  have t2 : b - ρ = 1 / 2 := le_antisymm a2 (by linarith only [a1, hq, hρ])
  exact ⟨le_antisymm (by linarith only [t1, t2, hρ]) hq, by rw [t1, abs_neg, abs_of_pos (by norm_num)], by rw [t2, abs_of_pos (by norm_num)]⟩

/-- rounding is monotone: a greater rounded value of a smaller number would make both ties, one of them odd -/
theorem Rhe.mono {k k' : ℕ} {ρ ρ' : ℚ} (h : Rhe k ρ) (h' : Rhe k' ρ') (hρ : ρ ≤ ρ') : k ≤ k' := by
  by_contra hlt
  obtain ⟨e, t1, t2⟩ := half_gap ρ ρ' k' k h'.1 h.1 hρ (by exact_mod_cast Nat.lt_of_not_le hlt)
  have e : k = k' + 1 := by exact_mod_cast e
  have := h'.2 t1; have := h.2 t2; omega

theorem Rhe.unique {k k' : ℕ} {ρ : ℚ} (h : Rhe k ρ) (h' : Rhe k' ρ) : k = k' :=
  Nat.le_antisymm (h.mono h' le_rfl) (h'.mono h le_rfl)

theorem Rhe.natCast (N : ℕ) : Rhe N (N : ℚ) := by simp [Rhe]

theorem Rhe.le_nat {k : ℕ} {ρ : ℚ} (h : Rhe k ρ) (N : ℕ) (hρ : ρ ≤ N) : k ≤ N := h.mono (Rhe.natCast N) hρ

theorem Rhe.nat_le {k : ℕ} {ρ : ℚ} (h : Rhe k ρ) (N : ℕ) (hρ : (N : ℚ) ≤ ρ) : N ≤ k := (Rhe.natCast N).mono h hρ

theorem Rhe.of_closer {k : ℕ} {ρ ρ' : ℚ} (h : Rhe k ρ) (hle : |(k : ℚ) - ρ'| ≤ |(k : ℚ) - ρ|) : Rhe k ρ' :=
  ⟨le_trans hle h.1, fun ht => h.2 (le_antisymm h.1 (ht ▸ hle))⟩

theorem Rhe.nearest {r : ℕ} {ρ : ℚ} (h : Rhe r ρ) (k : ℤ) : |(r : ℚ) - ρ| ≤ |(k : ℚ) - ρ| := by
  have g1 := h.1
  by_cases hk : k = (r : ℤ)
  · subst hk; simp
  · have : (1 : ℚ) ≤ |(k : ℚ) - r| := by
      have : (1 : ℤ) ≤ |k - (r : ℤ)| := by
        have : k - (r : ℤ) ≠ 0 := sub_ne_zero.2 hk
        exact Int.one_le_abs this
      have h2 : ((1 : ℤ) : ℚ) ≤ ((|k - (r : ℤ)| : ℤ) : ℚ) := Int.cast_le.2 this
      simpa using h2
    have tri := abs_sub_le (k : ℚ) ρ r
    have e : |ρ - (r : ℚ)| = |(r : ℚ) - ρ| := abs_sub_comm _ _
    linarith only [this, tri, e, g1]

theorem abs_sub_div (q x u : ℚ) (hu : 0 < u) : |q - x / u| = |x - q * u| / u := by
  rw [abs_sub_comm, eq_div_iff hu.ne']
  calc |x / u - q| * u = |(x / u - q) * u| := by rw [abs_mul, abs_of_pos hu]
    _ = _ := by rw [sub_mul, div_mul_cancel₀ _ hu.ne']

theorem Rhe.err {k : ℕ} {x u : ℚ} (h : Rhe k (x / u)) (hu : 0 < u) : |x - (k : ℚ) * u| ≤ u / 2 := by
  have := h.1
  rw [abs_sub_div _ _ _ hu, div_le_iff₀ hu] at this
  linarith only [this]

/-- a number `y` at least as near to `k` units as `x` rounds to `k` units as well, and is within one unit of `x`: both are within half
    a unit of `k` units -/
theorem Rhe.of_nearer {k : ℕ} {x y u : ℚ} (h : Rhe k (x / u)) (hu : 0 < u) (hle : |y - (k : ℚ) * u| ≤ |x - (k : ℚ) * u|) :
    Rhe k (y / u) ∧ |y - x| ≤ u := by
  refine ⟨h.of_closer (by rw [abs_sub_div _ _ _ hu, abs_sub_div _ _ _ hu]; exact div_le_div_of_nonneg_right hle hu.le), ?_⟩
  have tri := abs_sub_le y ((k : ℚ) * u) x
  rw [abs_sub_comm ((k : ℚ) * u) x] at tri
  linarith only [tri, hle, h.err hu]

theorem rhe_cases (num den : ℕ) (hden : 0 < den) :
    ∃ (q : ℕ) (φ : ℚ), (num : ℚ) / den = q + φ ∧ 0 ≤ φ ∧ φ < 1 ∧
      roundHalfEven num den = (if φ > 1/2 ∨ (φ = 1/2 ∧ q % 2 = 1) then q + 1 else q) := by
  have hd : (0 : ℚ) < den := by positivity
  refine ⟨num / den, ((num % den : ℕ) : ℚ) / den, ?_, by positivity, ?_, ?_⟩
  · rw [div_eq_iff hd.ne', add_mul, div_mul_cancel₀ _ hd.ne']
    exact_mod_cast (Nat.div_add_mod' num den).symm
  · rw [div_lt_one hd]
    exact_mod_cast Nat.mod_lt _ hden
  · have e1 : (((num % den : ℕ) : ℚ) / den > 1 / 2) ↔ 2 * (num % den) > den := by
      rw [gt_iff_lt, div_lt_div_iff₀ (by norm_num) hd]; norm_cast; omega
    have e2 : (((num % den : ℕ) : ℚ) / den = 1 / 2) ↔ 2 * (num % den) = den := by
      rw [div_eq_div_iff hd.ne' (by norm_num)]; norm_cast; omega
    simp only [roundHalfEven, e1, e2]

theorem rhe_is (num den : ℕ) (hden : 0 < den) : Rhe (roundHalfEven num den) ((num : ℚ) / den) := by
  obtain ⟨q, φ, hρ, h0, h1, hr⟩ := rhe_cases num den hden
  unfold Rhe
  rw [hr, hρ]
  by_cases hc : (φ > 1/2 ∨ (φ = 1/2 ∧ q % 2 = 1))
  · -- rounded up: the distance is `1 - φ`, and `φ ≥ 1/2`
    have hφ : 1 / 2 ≤ φ := hc.elim le_of_lt (fun h => h.1.ge)
    rw [if_pos hc]; push_cast
    rw [show ((q : ℚ) + 1 - (q + φ)) = 1 - φ by ring, abs_of_nonneg (sub_nonneg.2 h1.le)]
    refine ⟨by linarith only [hφ], fun ht => ?_⟩
    have hq := (hc.resolve_left (by linarith only [ht])).2
    omega
  · -- rounded down: the distance is `φ ≤ 1/2`
    rw [if_neg hc]
    push Not at hc
    rw [show ((q : ℚ) - (q + φ)) = -φ by ring, abs_neg, abs_of_nonneg h0]
    exact ⟨hc.1, fun ht => by have := hc.2 ht; omega⟩

end Cello.Text
