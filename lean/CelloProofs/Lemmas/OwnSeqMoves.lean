/-
  CelloProofs/Lemmas/OwnSeqMoves.lean — C05, "internal moves neither duplicate nor drop an element" for **Array**: growth /
  shrink (`realloc` into a new block), the `memmove` of push_at / pop_at, the in-place write of `set`, the record exchanges
  of the sort.

  The sequence steps of Cello/Own.lean (list surgery on tokens) are tied to the STORE-level Array of property C04
  (Cello/SeqStore.lean `ArrS`: a block of record cells) at token-valued records.  C04's `ArrS.step_sim` and
  `Arr.step_refines` / `Arr.step_out_of_range` are generic in the element type; what is proved here is that the abstract
  sequence step they arrive at IS the ownership step on the same tokens (`arraySpec`).
  (List: C04's node-level model `LstS` is not composed here.)
-/
import CelloProofs.Lemmas.Own
import CelloProofs.Lemmas.SeqStoreArr

namespace Cello.Own
open List

/-- `eq(item, obj)` on probe elements compares payloads (the probe's `Cmp`); identities play no part -/
@[instance_reducible] def payBEq : BEq Tok := ⟨fun a b => a.pay == b.pay⟩

/-- the operations on one Array of probe elements (arguments as in `Op`; `concat` / `assign` carry the source's elements) -/
inductive SOp where
  | push (p : Nat) | pushAt (i : Int) (p : Nat) | pop | popAt (i : Int) | set (i : Int) (p : Nat) | rem (p : Nat)
  | resize (n : Nat) | sort | concat (src : List Tok) | assign (src : List Tok)

/-- the ownership step of Cello/Own.lean for each of them (what `step` commits for an Array of probes) -/
def arrayAbs (next : Nat) (xs : List Tok) : SOp → Res (List Tok)
  | .push p => seqPush next xs p
  | .pushAt i p => arrayPushAt next xs i p
  | .pop => seqPop xs
  | .popAt i => seqPopAt xs i
  | .set i p => seqSetProbe next xs i p
  | .rem p => seqRem xs p
  | .resize n => arrayResize xs n
  | .sort => seqSort xs
  | .concat src => seqConcatProbe next xs src
  | .assign src => seqAssignProbe next xs src

/-- the same call as an operation on the block of records (C04's `Op`, records = tokens): the record written by `push` /
    `push_at` / `concat` / `assign` is the freshly constructed element, the record `set` leaves is what the element's own
    `Assign` makes of the stored record in place (`assignProbe`: a constructed element keeps its identity and takes the
    new payload, a zero-filled record is constructed; out of range the record is not used), `rem` scans with the payload
    comparison, so the identity 0 of its argument plays no part -/
def arrayStoreOp (next : Nat) (xs : List Tok) : SOp → Seq.Op Tok
  | .push p => .push ⟨next, p⟩
  | .pushAt i p => .pushAt ⟨next, p⟩ i
  | .pop => .pop
  | .popAt i => .popAt i
  | .set i p =>
    .set i (match xs[(Seq.normIdx xs.length i).toNat]? with
      | some old => (assignProbe next old p).val
      | none => ⟨next, p⟩)
  | .rem p => .rem ⟨0, p⟩
  | .resize n => .resize n
  | .sort => .sort tokLt
  | .concat src => .concat (mkFresh next (src.map (·.pay)))
  | .assign src => .assign (mkFresh next (src.map (·.pay))) true

/-- C04's three steps at the payload comparison (`payBEq` is not declared as an instance) -/
def arrSpecStep (xs : List Tok) (op : Seq.Op Tok) : Option (List Tok) := @Seq.Spec.arrStep Tok payBEq xs op
def arrListStep (a : Seq.Arr Tok) (op : Seq.Op Tok) : Seq.Arr Tok × Seq.Res Unit := @Seq.Arr.step Tok payBEq a op
def arrStoreStep (s : Seq.ArrS Tok) (op : Seq.Op Tok) : Seq.ArrS Tok × Seq.Res Unit := @Seq.ArrS.step Tok payBEq s op

theorem arrayAbs_spec (next : Nat) (xs : List Tok) (op : SOp) (hraw : 0 ∉ ids xs) :
    Conserves xs (arrayAbs next xs op).val (arrayAbs next xs op).issued (arrayAbs next xs op).retired ∧
    FreshFrom next (arrayAbs next xs op).issued := by
  cases op with
  | push p => exact seqPush_spec _ _ _
  | pushAt i p => exact (arrayPushAt_spec ..).1
  | pop => exact (seqPop_spec xs).1.imp_right fresh_of_eq_nil
  | popAt i => exact (seqPopAt_spec xs i).1.imp_right fresh_of_eq_nil
  | set i p => exact (seqSetProbe_spec ..).1 hraw
  | rem p => exact (seqRem_spec xs p).1.imp_right fresh_of_eq_nil
  | resize n => exact (arrayResize_spec xs n).1.imp_right fresh_of_eq_nil
  | sort => exact (seqSort_spec xs).imp_right fresh_of_eq_nil
  | concat src => exact seqConcatProbe_spec _ _ _
  | assign src => exact seqAssignProbe_spec _ _ _

theorem takeFirst_pay_none {p : Nat} {xs : List Tok} (h : takeFirst (fun t => t.pay == p) xs = none) :
    xs.any (fun a => a.pay == p) = false :=
  List.any_eq_false.mpr fun a ha => (Bool.not_eq_true _).mpr (takeFirst_none h a ha)

theorem takeFirst_pay_some {p : Nat} {xs : List Tok} {t : Tok} {rest : List Tok}
    (h : takeFirst (fun t => t.pay == p) xs = some (t, rest)) :
    xs.any (fun a => a.pay == p) = true ∧ @List.erase Tok payBEq xs ⟨0, p⟩ = rest := by
  obtain ⟨hf, he⟩ := takeFirst_eq_some h
  exact ⟨List.any_eq_true.mpr ⟨t, List.mem_of_find?_eq_some hf, (List.find?_some hf :)⟩,
    (@List.erase_eq_eraseP' Tok payBEq ⟨0, p⟩ xs).trans he⟩

/-- C04's index rules (`Seq.Src.insPick_spec`, `Seq.Src.stdPick_spec`) with the normalisation written out as in Cello/Own.lean -/
theorem arrInsIdx_of (n : Nat) (i : Int) :
    Seq.Spec.arrInsIdx n i =
      if (if i < 0 then ((n : Int) + 1) + i else i) < 0 ∨ (if i < 0 then ((n : Int) + 1) + i else i) > (n : Int) then none
      else some (if i < 0 then ((n : Int) + 1) + i else i).toNat :=
  (Seq.Src.insPick_spec n i).symm

theorem idx_of (n : Nat) (i : Int) :
    Seq.Spec.idx n i =
      if (if i < 0 then (n : Int) + i else i) < 0 ∨ (if i < 0 then (n : Int) + i else i) ≥ (n : Int) then none
      else some (if i < 0 then (n : Int) + i else i).toNat :=
  (Seq.Src.stdPick_spec n i).symm

/-- For every Array operation: when the ownership step succeeds, C04's abstract step on the same tokens is defined and
    yields the ownership step's contents (for `sort`: a permutation of them — C04's quicksort model and the one of
    Cello/Own.lean are two transcriptions of Array_Sort_By and are not identified here; both permute); when the ownership
    step raises, C04's abstract step is out of range and the ownership step left the contents alone. -/
theorem arraySpec (next : Nat) (xs : List Tok) (op : SOp) :
    ((arrayAbs next xs op).out = .ok →
      ∃ l, arrSpecStep xs (arrayStoreOp next xs op) = some l ∧ l ~ (arrayAbs next xs op).val ∧
        (op ≠ .sort → l = (arrayAbs next xs op).val)) ∧
    ((arrayAbs next xs op).out ≠ .ok →
      arrSpecStep xs (arrayStoreOp next xs op) = none ∧ (arrayAbs next xs op).val = xs) := by
  cases op with
  | push p =>
    refine ⟨fun _ => ⟨_, rfl, Perm.refl _, fun _ => rfl⟩, fun h => absurd rfl h⟩
  | concat src =>
    refine ⟨fun _ => ⟨_, rfl, Perm.refl _, fun _ => rfl⟩, fun h => absurd rfl h⟩
  | assign src =>
    refine ⟨fun _ => ⟨_, rfl, Perm.refl _, fun _ => rfl⟩, fun h => absurd rfl h⟩
  | sort =>
    refine ⟨fun _ => ⟨_, rfl, ?_, fun h => absurd rfl h⟩, fun h => absurd rfl h⟩
    exact (Cello.Sort.sortList_perm tokLt xs).trans (seqSort_perm xs).symm
  | resize n =>
    refine ⟨fun _ => ⟨xs.take n, rfl, ?_, fun _ => ?_⟩, fun h => ?_⟩
    · simp only [arrayAbs, arrayResize, seqClear]; split
      · rename_i h0; subst h0; simp
      · exact Perm.refl _
    · simp only [arrayAbs, arrayResize, seqClear]; split
      · rename_i h0; subst h0; simp
      · rfl
    · exfalso; apply h; simp only [arrayAbs, arrayResize, seqClear]; split <;> rfl
  | pop =>
    simp only [arrayAbs, arrayStoreOp, arrSpecStep, Seq.Spec.arrStep, seqPop]
    cases hl : xs.getLast? with
    | none =>
      have : xs = [] := List.getLast?_eq_none_iff.mp hl
      subst this
      exact ⟨fun h => by simp at h, fun _ => ⟨by simp, rfl⟩⟩
    | some t =>
      have hne : xs ≠ [] := by intro h; subst h; simp at hl
      refine ⟨fun _ => ⟨xs.dropLast, by simp [hne], Perm.refl _, fun _ => rfl⟩, fun h => absurd rfl h⟩
  | pushAt i p =>
    simp only [arrayAbs, arrayStoreOp, arrSpecStep, Seq.Spec.arrStep, arrayPushAt, arrInsIdx_of]
    generalize (if i < 0 then ((xs.length : Int) + 1) + i else i) = j
    by_cases hb : j < 0 ∨ j > (xs.length : Int)
    · simp only [if_pos hb]
      exact ⟨fun h => by simp at h, fun _ => ⟨rfl, trivial⟩⟩
    · simp only [if_neg hb]
      exact ⟨fun _ => ⟨_, rfl, Perm.refl _, fun _ => rfl⟩, fun h => absurd rfl h⟩
  | popAt i =>
    simp only [arrayAbs, arrayStoreOp, arrSpecStep, Seq.Spec.arrStep, seqPopAt, idx_of]
    generalize (if i < 0 then (xs.length : Int) + i else i) = j
    by_cases hb : j < 0 ∨ j ≥ (xs.length : Int)
    · simp only [if_pos hb]
      exact ⟨fun h => by simp at h, fun _ => ⟨rfl, trivial⟩⟩
    · have hlt : j.toNat < xs.length := by omega
      simp only [if_neg hb, List.getElem?_eq_getElem hlt]
      exact ⟨fun _ => ⟨_, rfl, Perm.refl _, fun _ => rfl⟩, fun h => absurd rfl h⟩
  | set i p =>
    simp only [arrayAbs, arrayStoreOp, arrSpecStep, Seq.Spec.arrStep, seqSetProbe, idx_of, Seq.normIdx]
    generalize (if i < 0 then (xs.length : Int) + i else i) = j
    by_cases hb : j < 0 ∨ j ≥ (xs.length : Int)
    · simp only [if_pos hb]
      exact ⟨fun h => by simp at h, fun _ => ⟨rfl, trivial⟩⟩
    · have hlt : j.toNat < xs.length := by omega
      simp only [if_neg hb, List.getElem?_eq_getElem hlt]
      exact ⟨fun _ => ⟨_, rfl, Perm.refl _, fun _ => rfl⟩, fun h => absurd rfl h⟩
  | rem p =>
    simp only [arrayAbs, arrayStoreOp, arrSpecStep, Seq.Spec.arrStep, seqRem, Seq.Spec.mem]
    cases ht : takeFirst (fun t => t.pay == p) xs with
    | none =>
      have hany := takeFirst_pay_none ht
      have : (xs.any fun a => @BEq.beq Tok payBEq a ⟨0, p⟩) = false := hany
      refine ⟨fun h => by simp at h, fun _ => ⟨by simp [this], rfl⟩⟩
    | some tr =>
      obtain ⟨t, rest⟩ := tr
      obtain ⟨hany, her⟩ := takeFirst_pay_some ht
      have : (xs.any fun a => @BEq.beq Tok payBEq a ⟨0, p⟩) = true := hany
      refine ⟨fun _ => ⟨rest, by simp [this, her], Perm.refl _, fun _ => rfl⟩, fun h => absurd rfl h⟩

/-- The composition, for a store state `s` that holds the list-level Array `a` (`ArrS.Abs`) of constructed elements (`hraw`):
    `ArrS.step_sim` (cells ⇒ list-level Array), then `Arr.step_refines` when the ownership step succeeds and
    `Arr.step_out_of_range` when it raises (list-level Array ⇒ abstract sequence step), `arraySpec` (that step is the
    ownership step) and `arrayAbs_spec` (which conserves).  Spelt out in the terms of Array.c at `C05_moves_array`. -/
theorem arrayMoves {s : Seq.ArrS Tok} {a : Seq.Arr Tok} (h : s.Abs a) (next : Nat) (op : SOp) (hraw : 0 ∉ ids a.items) :
    let r := arrayAbs next a.items op
    let c := arrStoreStep s (arrayStoreOp next a.items op)
    s.items? = some a.items ∧ c.2 ≠ .ub ∧ (c.2 = .ok () ↔ r.out = .ok) ∧
    ∃ l a', c.1.Abs a' ∧ c.1.items? = some l ∧ a'.items = l ∧ l ~ r.val ∧ (op ≠ .sort → l = r.val) ∧
      Conserves a.items l r.issued r.retired ∧ FreshFrom next r.issued := by
  intro r c
  have hsim := @Seq.ArrS.step_sim Tok payBEq s a h (arrayStoreOp next a.items op)
  have hcons := arrayAbs_spec next a.items op hraw
  obtain ⟨hok, hbad⟩ := arraySpec next a.items op
  have hitems := Seq.ArrS.items?_eq hsim.1
  refine ⟨Seq.ArrS.items?_eq h, ?_⟩
  by_cases hout : r.out = .ok
  · obtain ⟨l, hl, hperm, heq⟩ := hok hout
    obtain ⟨g1, g2⟩ := @Seq.Arr.step_refines Tok payBEq a (arrayStoreOp next a.items op) l hl
    have hc2 : c.2 = .ok () := by show (arrStoreStep s _).2 = _; unfold arrStoreStep; rw [hsim.2]; exact g1
    refine ⟨(by rw [hc2]; intro h; cases h), ⟨fun _ => hout, fun _ => hc2⟩, l, _, hsim.1, ?_, g2, hperm, heq, ?_, hcons.2⟩
    · show (arrStoreStep s _).1.items? = _; unfold arrStoreStep; rw [hitems, g2]
    · exact hcons.1.congr (.refl _) hperm (.refl _)
  · obtain ⟨hnone, hval⟩ := hbad hout
    obtain ⟨g1, e, g2⟩ := @Seq.Arr.step_out_of_range Tok payBEq a (arrayStoreOp next a.items op) hnone
    have hc2 : c.2 = .raised e := by show (arrStoreStep s _).2 = _; unfold arrStoreStep; rw [hsim.2]; exact g2
    refine ⟨(by rw [hc2]; intro h; cases h), ⟨(fun h => by rw [hc2] at h; cases h), fun h => absurd h hout⟩,
      a.items, _, hsim.1, ?_, by rw [g1], by rw [hval], fun _ => hval.symm, ?_, hcons.2⟩
    · show (arrStoreStep s _).1.items? = _; unfold arrStoreStep; rw [hitems, g1]
    · have := hcons.1; rw [hval] at this; exact this

end Cello.Own
