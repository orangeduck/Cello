/-
  The quicksort of Cello/Sort.lean reaches its result by swaps inside the index range it is called on, whatever
  the comparison function (`SwapsIn`, `sortPart_spec`, `sortBy_swaps`), so the result is a permutation of the input, of the same
  size; and it orders that range when the comparison function is asymmetric and transitive (the Lomuto partition invariant).
  Core Lean only.

  Everything is phrased with `a[k]?` and universally quantified element values, so that no statement depends on a proof
  of an index bound.
-/
import Cello.Sort

namespace Cello.Sort
variable {α : Type}

theorem swapIB_other (a : Array α) (i j k : Nat) (hi : k ≠ i) (hj : k ≠ j) : (a.swapIfInBounds i j)[k]? = a[k]? := by
  unfold Array.swapIfInBounds
  split
  · split
    · rw [Array.getElem?_swap]
      rw [if_neg (fun h => hj h.symm), if_neg (fun h => hi h.symm)]
    · rfl
  · rfl

theorem swapIB_left (a : Array α) (i j : Nat) (hi : i < a.size) (hj : j < a.size) : (a.swapIfInBounds i j)[i]? = a[j]? := by
  unfold Array.swapIfInBounds
  rw [dif_pos hi, dif_pos hj, Array.getElem?_swap]
  by_cases h : j = i
  · subst h; simp
  · rw [if_neg h, if_pos rfl]; simp [hj]

theorem swapIB_right (a : Array α) (i j : Nat) (hi : i < a.size) (hj : j < a.size) : (a.swapIfInBounds i j)[j]? = a[i]? := by
  unfold Array.swapIfInBounds
  rw [dif_pos hi, dif_pos hj, Array.getElem?_swap, if_pos rfl]; simp [hi]

theorem swapIfInBounds_perm (a : Array α) (i j : Nat) : (a.swapIfInBounds i j).Perm a := by
  unfold Array.swapIfInBounds
  split
  · split
    · exact Array.swap_perm _ _
    · exact Array.Perm.refl _
  · exact Array.Perm.refl _

/-- `b` is `a` after a sequence of swaps of positions in `[lo, hi)`, all inside the store -/
inductive SwapsIn (lo hi : Nat) : Array α → Array α → Prop where
  | refl (a : Array α) : SwapsIn lo hi a a
  | step {a b : Array α} (h : SwapsIn lo hi a b) (i j : Nat) (hi1 : lo ≤ i) (hi2 : i < hi) (hj1 : lo ≤ j) (hj2 : j < hi)
      (hib : i < b.size) (hjb : j < b.size) : SwapsIn lo hi a (b.swapIfInBounds i j)

theorem SwapsIn.trans {lo hi : Nat} {a b c : Array α} (h1 : SwapsIn lo hi a b) (h2 : SwapsIn lo hi b c) : SwapsIn lo hi a c := by
  induction h2 with
  | refl => exact h1
  | step _ i j a1 a2 a3 a4 a5 a6 ih => exact .step ih i j a1 a2 a3 a4 a5 a6

theorem SwapsIn.mono {lo hi lo' hi' : Nat} {a b : Array α} (h : SwapsIn lo hi a b) (hl : lo' ≤ lo) (hh : hi ≤ hi') :
    SwapsIn lo' hi' a b := by
  induction h with
  | refl => exact .refl _
  | step _ i j a1 a2 a3 a4 a5 a6 ih => exact .step ih i j (Nat.le_trans hl a1) (Nat.lt_of_lt_of_le a2 hh) (Nat.le_trans hl a3) (Nat.lt_of_lt_of_le a4 hh) a5 a6

theorem SwapsIn.size {lo hi : Nat} {a b : Array α} (h : SwapsIn lo hi a b) : b.size = a.size := by
  induction h with
  | refl => rfl
  | step _ i j _ _ _ _ _ _ ih => rw [Array.size_swapIfInBounds, ih]

theorem SwapsIn.perm {lo hi : Nat} {a b : Array α} (h : SwapsIn lo hi a b) : b.Perm a := by
  induction h with
  | refl => exact .refl _
  | step _ i j _ _ _ _ _ _ ih => exact (swapIfInBounds_perm _ i j).trans ih

theorem SwapsIn.outside {lo hi : Nat} {a b : Array α} (h : SwapsIn lo hi a b) (k : Nat) (hk : k < lo ∨ hi ≤ k) :
    b[k]? = a[k]? := by
  induction h with
  | refl => rfl
  | step _ i j _ _ _ _ _ _ ih => rw [swapIB_other _ _ _ _ (by omega) (by omega), ih]

/-- every element found in the range afterwards was in the range before -/
theorem SwapsIn.within {lo hi : Nat} {a b : Array α} (h : SwapsIn lo hi a b) (k : Nat) (hk1 : lo ≤ k) (hk2 : k < hi) :
    ∃ k', lo ≤ k' ∧ k' < hi ∧ b[k]? = a[k']? := by
  induction h generalizing k with
  | refl => exact ⟨k, hk1, hk2, rfl⟩
  | @step b0 _ i j a1 a2 a3 a4 a5 a6 ih =>
    by_cases hki : k = i
    · subst hki
      obtain ⟨k', h1, h2, h3⟩ := ih j a3 a4
      exact ⟨k', h1, h2, by rw [swapIB_left _ _ _ a5 a6, h3]⟩
    · by_cases hkj : k = j
      · subst hkj
        obtain ⟨k', h1, h2, h3⟩ := ih i a1 a2
        exact ⟨k', h1, h2, by rw [swapIB_right _ _ _ a5 a6, h3]⟩
      · obtain ⟨k', h1, h2, h3⟩ := ih k hk1 hk2
        exact ⟨k', h1, h2, by rw [swapIB_other _ _ _ _ hki hkj, h3]⟩

/-- every element at a position in `[lo, hi)` satisfies `P` -/
def All (P : α → Prop) (a : Array α) (lo hi : Nat) : Prop :=
  ∀ k x, lo ≤ k → k < hi → a[k]? = some x → P x

/-- swaps in a range that lies inside `[lo, hi)` or beside it carry no element into `[lo, hi)` or out of it -/
theorem SwapsIn.all {P : α → Prop} {lo hi lo' hi' : Nat} {a b : Array α} (h : SwapsIn lo' hi' a b)
    (hr : lo ≤ lo' ∧ hi' ≤ hi ∨ hi ≤ lo' ∨ hi' ≤ lo) (ha : All P a lo hi) : All P b lo hi := by
  intro k x h1 h2 hx
  by_cases hk : lo' ≤ k ∧ k < hi'
  · obtain ⟨k', g1, g2, g3⟩ := h.within k hk.1 hk.2
    have : lo ≤ k' ∧ k' < hi := by omega
    exact ha k' x this.1 this.2 (g3 ▸ hx)
  · rw [h.outside k (by omega)] at hx
    exact ha k x h1 h2 hx

/-- the loop invariant of `*_Sort_Partition`; where the boundary ends up is `partLoop_snd` of Cello/Sort.lean -/
theorem partLoop_spec (f : α → α → Bool) (l r : Nat) (p : α) :
    ∀ (n i : Nat) (a : Array α) (s : Nat), l ≤ s → s ≤ i → i + n = r → r < a.size → a[r]? = some p →
      All (f · p = true) a l s → All (f · p = false) a s i →
      SwapsIn l r a (partLoop f r n i a s).1 ∧
      All (f · p = true) (partLoop f r n i a s).1 l (partLoop f r n i a s).2 ∧
      All (f · p = false) (partLoop f r n i a s).1 (partLoop f r n i a s).2 r := by
  intro n
  induction n with
  | zero =>
    intro i a s h1 h2 h3 h4 h5 hlo hhi
    obtain rfl : i = r := h3
    exact ⟨.refl _, hlo, hhi⟩
  | succ n ih =>
    intro i a s h1 h2 h3 h4 h5 hlo hhi
    have hir : i < r := by omega
    have his : i < a.size := Nat.lt_trans hir h4
    have hss : s < a.size := Nat.lt_of_le_of_lt h2 his
    unfold partLoop
    rw [h5, Array.getElem?_eq_getElem his]
    simp only
    by_cases hf : f a[i] p = true
    · rw [if_pos hf]
      have hr' : (a.swapIfInBounds i s)[r]? = some p := by rw [swapIB_other _ _ _ _ (Nat.ne_of_gt hir) (Nat.ne_of_gt (Nat.lt_of_le_of_lt h2 hir))]; exact h5
      have hlo' : All (f · p = true) (a.swapIfInBounds i s) l (s + 1) := by
        intro k x g1 g2 gx
        by_cases hks : k = s
        · subst hks
          rw [swapIB_right _ _ _ his hss, Array.getElem?_eq_getElem his] at gx
          cases gx; exact hf
        · have hk : k < s := Nat.lt_of_le_of_ne (Nat.le_of_lt_succ g2) hks
          rw [swapIB_other _ _ _ _ (Nat.ne_of_lt (Nat.lt_of_lt_of_le hk h2)) hks] at gx
          exact hlo k x g1 hk gx
      have hhi' : All (f · p = false) (a.swapIfInBounds i s) (s + 1) (i + 1) := by
        intro k x g1 g2 gx
        by_cases hki : k = i
        · subst hki
          rw [swapIB_left _ _ _ his hss] at gx
          exact hhi s x (Nat.le_refl _) g1 gx
        · rw [swapIB_other _ _ _ _ hki (Nat.ne_of_gt g1)] at gx
          exact hhi k x (Nat.le_of_succ_le g1) (Nat.lt_of_le_of_ne (Nat.le_of_lt_succ g2) hki) gx
      obtain ⟨g1, g4, g5⟩ := ih (i + 1) (a.swapIfInBounds i s) (s + 1) (Nat.le_succ_of_le h1) (Nat.succ_le_succ h2) (by omega)
        (by rw [Array.size_swapIfInBounds]; exact h4) hr' hlo' hhi'
      exact ⟨SwapsIn.trans (.step (.refl a) i s (Nat.le_trans h1 h2) hir h1 (Nat.lt_of_le_of_lt h2 hir) his hss) g1, g4, g5⟩
    · have hf' : f a[i] p = false := by simpa using hf
      rw [if_neg hf]
      have hhi' : All (f · p = false) a s (i + 1) := by
        intro k x g1 g2 gx
        by_cases hki : k = i
        · subst hki; rw [Array.getElem?_eq_getElem his] at gx; cases gx; exact hf'
        · exact hhi k x g1 (Nat.lt_of_le_of_ne (Nat.le_of_lt_succ g2) hki) gx
      exact ih (i + 1) a s h1 (Nat.le_succ_of_le h2) (by omega) h4 h5 hlo hhi'

theorem partition_eq (f : α → α → Bool) (a : Array α) (l r : Nat) :
    partition f a l r =
      ((partLoop f r (r - l) l (a.swapIfInBounds (l + (r - l) / 2) r) l).1.swapIfInBounds
        (partLoop f r (r - l) l (a.swapIfInBounds (l + (r - l) / 2) r) l).2 r,
       (partLoop f r (r - l) l (a.swapIfInBounds (l + (r - l) / 2) r) l).2) := by
  unfold partition
  dsimp only

/-- postcondition of `*_Sort_Partition(a, l, r, f)` for `l < r` inside the store: the pivot value `p` sits at the
    returned position `s` (which lies in `[l, r]`: `partition_snd`), everything in `[l, s)` is `f`-below it, nothing in `(s, r]` is -/
theorem partition_spec (f : α → α → Bool) (a : Array α) (l r : Nat) (hlr : l < r) (hr : r < a.size)
    {a1 : Array α} {s : Nat} (hp : partition f a l r = (a1, s)) (hs : l ≤ s ∧ s ≤ r) :
    ∃ p, SwapsIn l (r + 1) a a1 ∧ a1[s]? = some p ∧ All (f · p = true) a1 l s ∧ All (f · p = false) a1 (s + 1) (r + 1) := by
  have hm2 : l ≤ l + (r - l) / 2 := Nat.le_add_right ..
  have hm3 : l + (r - l) / 2 ≤ r := by omega
  have hm1 : l + (r - l) / 2 < a.size := Nat.lt_of_le_of_lt hm3 hr
  refine ⟨a[l + (r - l) / 2], ?_⟩
  rw [partition_eq] at hp
  generalize hm : l + (r - l) / 2 = m at *
  have hsz0 : (a.swapIfInBounds m r).size = a.size := Array.size_swapIfInBounds
  have hpiv : (a.swapIfInBounds m r)[r]? = some a[m] := by
    rw [swapIB_right _ _ _ hm1 hr, Array.getElem?_eq_getElem hm1]
  have hspec := partLoop_spec f l r a[m] (r - l) l (a.swapIfInBounds m r) l (Nat.le_refl _) (Nat.le_refl _)
    (Nat.add_sub_of_le (Nat.le_of_lt hlr))
    (by rw [hsz0]; exact hr) hpiv (fun k x g1 g2 => absurd g2 (Nat.not_lt.2 g1))
    (fun k x g1 g2 => absurd g2 (Nat.not_lt.2 g1))
  generalize partLoop f r (r - l) l (a.swapIfInBounds m r) l = res at hspec hp
  obtain ⟨a', s'⟩ := res
  cases hp
  obtain ⟨g3, g2⟩ := hs
  obtain ⟨g1, g4, g5⟩ := hspec
  have hsz1 : a'.size = a.size := by rw [g1.size, hsz0]
  have hrb : r < a'.size := by rw [hsz1]; exact hr
  have hs'b : s' < a'.size := Nat.lt_of_le_of_lt g2 hrb
  have hpiv' : a'[r]? = some a[m] := by rw [g1.outside r (Or.inr (Nat.le_refl _))]; exact hpiv
  refine ⟨?_, ?_, ?_, ?_⟩
  · exact .step (SwapsIn.trans (.step (.refl a) m r hm2 (Nat.lt_succ_of_le hm3) (Nat.le_of_lt hlr) (Nat.lt_succ_self r) hm1 hr)
      (g1.mono (Nat.le_refl _) (Nat.le_succ r))) s' r g3 (Nat.lt_succ_of_le g2) (Nat.le_of_lt hlr) (Nat.lt_succ_self r) hs'b hrb
  · rw [swapIB_left _ _ _ hs'b hrb]; exact hpiv'
  · intro k x q1 q2 qx
    rw [swapIB_other _ _ _ _ (Nat.ne_of_lt q2) (Nat.ne_of_lt (Nat.lt_of_lt_of_le q2 g2))] at qx
    exact g4 k x q1 q2 qx
  · intro k x q1 q2 qx
    by_cases hkr : k = r
    · subst hkr
      rw [swapIB_right _ _ _ hs'b hrb] at qx
      exact g5 s' x (Nat.le_refl _) q1 qx
    · rw [swapIB_other _ _ _ _ (Nat.ne_of_gt q1) hkr] at qx
      exact g5 k x (Nat.le_of_succ_le q1) (Nat.lt_of_le_of_ne (Nat.le_of_lt_succ q2) hkr) qx

/-- no inversion with respect to `f` among positions `[lo, hi)` -/
def Sorted (f : α → α → Bool) (a : Array α) (lo hi : Nat) : Prop :=
  ∀ i j x y, lo ≤ i → i < j → j < hi → a[i]? = some x → a[j]? = some y → f y x = false

theorem SwapsIn.sorted {f : α → α → Bool} {lo hi lo' hi' : Nat} {a b : Array α} (h : SwapsIn lo' hi' a b)
    (hr : hi ≤ lo' ∨ hi' ≤ lo) (hs : Sorted f a lo hi) : Sorted f b lo hi := by
  intro i j x y g1 g2 g3 gx gy
  have : (i < lo' ∨ hi' ≤ i) ∧ (j < lo' ∨ hi' ≤ j) := by omega
  rw [h.outside i this.1] at gx
  rw [h.outside j this.2] at gy
  exact hs i j x y g1 g2 g3 gx gy

theorem Sorted.glue {f : α → α → Bool}
    (hasym : ∀ x y, f x y = true → f y x = false)
    (htrans : ∀ x y z, f x y = true → f y z = true → f x z = true)
    {a : Array α} {l s hi : Nat} {p : α} (hpiv : a[s]? = some p)
    (hlo : All (f · p = true) a l s) (hhi : All (f · p = false) a (s + 1) hi)
    (h1 : Sorted f a l s) (h2 : Sorted f a (s + 1) hi) : Sorted f a l hi := by
  intro i j x y g1 g2 g3 gx gy
  by_cases hjs : j < s
  · exact h1 i j x y g1 g2 hjs gx gy
  · by_cases his : s < i
    · exact h2 i j x y his g2 g3 gx gy
    · by_cases hie : i = s
      · subst hie
        rw [hpiv] at gx; cases gx
        exact hhi j y g2 g3 gy
      · have hfx : f x p = true := hlo i x g1 (Nat.lt_of_le_of_ne (Nat.not_lt.1 his) hie) gx
        by_cases hje : j = s
        · subst hje
          rw [hpiv] at gy; cases gy
          exact hasym _ _ hfx
        · have hfy : f y p = false := hhi j y (Nat.lt_of_le_of_ne (Nat.not_lt.1 hjs) (Ne.symm hje)) g3 gy
          cases hyx : f y x with
          | false => rfl
          | true => rw [htrans y x p hyx hfx] at hfy; cases hfy

/-- `*_Sort_Part(a, l, r, f)` with `r = hi - 1` only swaps inside `[l, hi)`, whatever `f` is, and orders that range when `f` is a
    strict partial order.  The half-open bound takes care of `r = -1` in the C code (an empty left part at `s = 0`, an empty
    container): with truncated subtraction `hi = 0` gives `r = 0` and the call returns at once. -/
theorem sortPart_spec (f : α → α → Bool) :
    ∀ (a : Array α) (l r hi : Nat), r = hi - 1 → hi ≤ a.size →
      SwapsIn l hi a (sortPart f a l r) ∧
      ((∀ x y, f x y = true → f y x = false) → (∀ x y z, f x y = true → f y z = true → f x z = true) →
        Sorted f (sortPart f a l r) l hi) := by
  intro a l r
  induction a, l, r using sortPart.induct f with
  | case2 a l r h =>
    intro hi hr _
    rw [sortPart, dif_neg h]
    exact ⟨.refl _, fun _ _ i j x y g1 g2 g3 => absurd g3 (by omega)⟩
  | case1 a l r h a1 s hp hs a2 ih1 ih2 =>
    intro hi hr hsz
    obtain rfl : hi = r + 1 := by omega
    rw [sortPart, dif_pos h]
    simp only [hp]
    obtain ⟨p, q1, q4, q5, q6⟩ := partition_spec f a l r h hsz hp hs
    obtain ⟨l1, l2⟩ := ih1 s rfl (by rw [q1.size]; exact Nat.le_trans hs.2 (Nat.le_of_succ_le hsz))
    obtain ⟨r1, r2⟩ := ih2 (r + 1) rfl (by rw [l1.size, q1.size]; exact hsz)
    refine ⟨(q1.trans (l1.mono (Nat.le_refl _) (Nat.le_succ_of_le hs.2))).trans (r1.mono (Nat.le_succ_of_le hs.1) (Nat.le_refl _)), fun hasym htrans => ?_⟩
    -- the partition's postcondition survives both calls: each one only swaps on its own side of `s`
    refine Sorted.glue hasym htrans (p := p) ?_ ?_ ?_ ?_ (r2 hasym htrans)
    · rw [r1.outside s (Or.inl (Nat.lt_succ_self s)), l1.outside s (Or.inr (Nat.le_refl _))]; exact q4
    · exact r1.all (Or.inr (Or.inl (Nat.le_succ s))) (l1.all (Or.inl ⟨Nat.le_refl _, Nat.le_refl _⟩) q5)
    · exact r1.all (Or.inl ⟨Nat.le_refl _, Nat.le_refl _⟩) (l1.all (Or.inr (Or.inr (Nat.le_succ s))) q6)
    · exact r1.sorted (Or.inl (Nat.le_succ s)) (l2 hasym htrans)

theorem sortBy_swaps (f : α → α → Bool) (a : Array α) : SwapsIn 0 a.size a (sortBy f a) :=
  (sortPart_spec f a 0 _ a.size rfl (Nat.le_refl _)).1

theorem sortBy_perm (f : α → α → Bool) (a : Array α) : (sortBy f a).Perm a := (sortBy_swaps f a).perm

theorem sortList_perm (f : α → α → Bool) (l : List α) : (sortList f l).Perm l := by
  unfold sortList
  have := sortBy_perm f l.toArray
  simpa [Array.perm_iff_toList_perm] using this

theorem sortList_length (f : α → α → Bool) (l : List α) : (sortList f l).length = l.length :=
  (sortList_perm f l).length_eq

theorem sortBy_sorted (f : α → α → Bool)
    (hasym : ∀ x y, f x y = true → f y x = false)
    (htrans : ∀ x y z, f x y = true → f y z = true → f x z = true) (a : Array α) :
    Sorted f (sortBy f a) 0 a.size :=
  (sortPart_spec f a 0 _ a.size rfl (Nat.le_refl _)).2 hasym htrans

theorem sortList_sorted (f : α → α → Bool)
    (hasym : ∀ x y, f x y = true → f y x = false)
    (htrans : ∀ x y z, f x y = true → f y z = true → f x z = true) (l : List α) :
    (sortList f l).Pairwise (fun x y => f y x = false) := by
  have hs := sortBy_sorted f hasym htrans l.toArray
  have hsz := (sortBy_swaps f l.toArray).size
  unfold sortList
  rw [List.pairwise_iff_getElem]
  intro i j hi hj hij
  have hi' : i < (sortBy f l.toArray).size := by simpa using hi
  have hj' : j < (sortBy f l.toArray).size := by simpa using hj
  exact hs i j _ _ (Nat.zero_le _) hij (by omega) (Array.getElem?_eq_getElem hi') (Array.getElem?_eq_getElem hj')

end Cello.Sort
