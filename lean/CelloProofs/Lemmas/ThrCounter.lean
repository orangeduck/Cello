/-
  C13 (threads), guarded counter: increments of a plain counter made inside sections of one Mutex are never lost
  (`run_counter`, by the invariant `CInv` along a schedule that keeps the discipline `Disc`; rests on ThrFrame).
  The non-atomic `counter++` is two events, `ld` (reg := counter) and `st` (counter := reg + 1).
-/
import CelloProofs.Lemmas.ThrFrame

namespace Cello.Thr

/-- number of completed increments of counter `c` in a trace -/
def incs (c : Nat) : List (Ev × Out) → Nat
  | [] => 0
  | (.st _ c', .num _) :: tr => (if c' = c then 1 else 0) + incs c tr
  | (.winc _ _ c', .num _) :: tr => (if c' = c then 1 else 0) + incs c tr
  | _ :: tr => incs c tr

/-- the locking discipline for counter `c` guarded by Mutex `m`, checked at event `e` in state `g`
    (`pend t`: thread `t` has loaded `c` and not yet stored it):
    a load or store of `c` is made by the holder of `m`, a store completes a load, a `with`-increment of `c` uses `m`,
    the holder does not release `m` between its load and its store, and does not reuse its register meanwhile -/
def discOk (m c : Nat) (g : G) (pend : Tid → Bool) : Ev → Prop
  | .ld t c' => running g t = true → if c' = c then g.holder m = some t else pend t = false
  | .st t c' => running g t = true → c' = c → (g.holder m = some t ∧ pend t = true)
  | .winc t m' c' => running g t = true → g.holder m' = none → if c' = c then m' = m else pend t = false
  | .unlock t m' => running g t = true → m' = m → g.holder m = some t → pend t = false
  | _ => True

def pendNext (c : Nat) (g : G) (pend : Tid → Bool) : Ev → (Tid → Bool)
  | .ld t c' => if running g t = true ∧ c' = c then upd pend t true else pend
  | .st t c' => if running g t = true ∧ c' = c then upd pend t false else pend
  | _ => pend

/-- the whole schedule keeps the discipline -/
def Disc (cfg : Cfg) (m c : Nat) : List Ev → G → (Tid → Bool) → Prop
  | [], _, _ => True
  | e :: s, g, pend => discOk m c g pend e ∧ Disc cfg m c s (step cfg g e).1 (pendNext c g pend e)

/-- a thread with a pending load holds the Mutex and its register is the current counter value -/
def CInv (m c : Nat) (g : G) (pend : Tid → Bool) : Prop :=
  ∀ t, pend t = true → g.holder m = some t ∧ g.reg t = g.counter c

/-- acquiring a free Mutex keeps `CInv`: if it is `m`, no thread has a pending load under a free `m` -/
theorem cinv_acquire {m c : Nat} {g : G} {pend : Tid → Bool} (hI : CInv m c g pend) (m' : Nat) (t : Tid)
    (hh : g.holder m' = none) : CInv m c { g with holder := upd g.holder m' (some t) } pend := by
  intro t' hp
  have := hI t' hp
  by_cases hm : m = m'
  · subst hm; rw [hh] at this; cases this.1
  · simpa [upd, hm] using this

theorem CInv.congr {m c : Nat} {g g' : G} {pend pend' : Tid → Bool} (hI : CInv m c g pend)
    (hh : g'.holder m = g.holder m) (hc : g'.counter c = g.counter c)
    (hp : ∀ t, pend' t = true → pend t = true ∧ g'.reg t = g.reg t) : CInv m c g' pend' := by
  intro t ht
  obtain ⟨hpt, hr⟩ := hp t ht
  rw [hh, hc, hr]
  exact hI t hpt

theorem CInv.holder_of_pend {m c : Nat} {g : G} {pend : Tid → Bool} (hI : CInv m c g pend) {t t' : Tid}
    (hh : g.holder m = some t) (hp : pend t' = true) : t' = t :=
  Option.some.inj ((hI t' hp).1.symm.trans hh)

/-- stated with the rest of the trace, so that the induction over schedules needs no additivity lemma for `incs` -/
theorem step_counter (cfg : Cfg) (m c : Nat) (g : G) (pend : Tid → Bool) (e : Ev) (tr : List (Ev × Out))
    (hI : CInv m c g pend) (hd : discOk m c g pend e) :
    CInv m c (step cfg g e).1 (pendNext c g pend e) ∧
    (step cfg g e).1.counter c + incs c tr = g.counter c + incs c ((e, (step cfg g e).2) :: tr) := by
  have hf := step_frame cfg g e
  cases e with
  | lock t m' | trylock t m' =>
    refine ⟨?_, by rw [hf.counter rfl]; rfl⟩
    dsimp only [step]
    split
    · exact hI
    · split
      · rename_i hh; exact cinv_acquire hI m' t hh
      · exact hI
  | unlock t m' =>
    refine ⟨?_, by rw [hf.counter rfl]; rfl⟩
    dsimp only [step]
    split
    · exact hI
    · rename_i hrun
      split
      · rename_i hh
        by_cases hm : m' = m
        · subst hm
          have hpt := hd (by simpa using hrun) rfl hh
          intro t' (hp : pend t' = true)
          rw [hI.holder_of_pend hh hp, hpt] at hp
          cases hp
        · exact hI.congr (upd_other _ _ _ _ (fun h => hm h.symm)) rfl (fun _ h => ⟨h, rfl⟩)
      · exact hI
  | winc t m' c' =>
    dsimp only [step]
    split
    · exact ⟨hI, rfl⟩
    · rename_i hrun
      split
      · rename_i hh
        have hd' := hd (by simpa using hrun) hh
        by_cases hc : c' = c
        · subst hc
          rw [if_pos rfl] at hd'
          subst hd'
          exact ⟨fun t' hp => absurd (hh.symm.trans (hI t' hp).1) (Option.some_ne_none _).symm, by simp [incs, upd]; omega⟩
        · rw [if_neg hc] at hd'
          have hc' : c ≠ c' := fun h => hc h.symm
          refine ⟨hI.congr rfl (upd_other _ _ _ _ hc') fun t' (hp : pend t' = true) => ⟨hp, upd_other _ _ _ _ ?_⟩,
            by simp [incs, upd, hc, hc']⟩
          rintro rfl
          rw [hd'] at hp
          cases hp
      · exact ⟨hI, rfl⟩
  | ld t c' =>
    refine ⟨?_, by rw [hf.counter rfl]; rfl⟩
    dsimp only [step]
    split
    · rename_i hrun
      have : ¬ (running g t = true) := by simpa using hrun
      simpa [pendNext, this] using hI
    · rename_i hrun
      have hrun' : running g t = true := by simpa using hrun
      have hd' := hd hrun'
      by_cases hc : c' = c
      · subst hc
        rw [if_pos rfl] at hd'
        intro t' hp
        simp only [pendNext, hrun', and_self, if_true] at hp
        by_cases htt : t' = t
        · subst htt; exact ⟨hd', upd_same _ _ _⟩
        · rw [upd_other _ _ _ _ htt] at hp
          exact absurd (hI.holder_of_pend hd' hp) htt
      · rw [if_neg hc] at hd'
        refine hI.congr rfl rfl fun t' hp => ?_
        simp only [pendNext, hc, and_false, if_false] at hp
        exact ⟨hp, upd_other _ _ _ _ (by rintro rfl; rw [hd'] at hp; cases hp)⟩
  | st t c' =>
    dsimp only [step]
    split
    · rename_i hrun
      have : ¬ (running g t = true) := by simpa using hrun
      exact ⟨by simpa [pendNext, this] using hI, rfl⟩
    · rename_i hrun
      have hrun' : running g t = true := by simpa using hrun
      by_cases hc : c' = c
      · subst hc
        obtain ⟨hh, hp⟩ := hd hrun' rfl
        refine ⟨fun t' hp' => ?_, by simp [incs, upd, (hI t hp).2]; omega⟩
        simp only [pendNext, hrun', and_self, if_true] at hp'
        by_cases htt : t' = t
        · subst htt; simp [upd] at hp'
        · rw [upd_other _ _ _ _ htt] at hp'
          exact absurd (hI.holder_of_pend hh hp') htt
      · have hc' : c ≠ c' := fun h => hc h.symm
        refine ⟨hI.congr rfl (upd_other _ _ _ _ hc') fun t' hp' => ?_, by simp [incs, upd, hc, hc']⟩
        simp only [pendNext, hc, and_false, if_false] at hp'
        exact ⟨hp', rfl⟩
  | _ =>
    exact ⟨hI.congr (by rw [hf.holder rfl]) (by rw [hf.counter rfl]) fun t hp => ⟨hp, by rw [hf.reg rfl]⟩,
      by rw [hf.counter rfl]; rfl⟩

theorem run_counter (cfg : Cfg) (m c : Nat) (s : List Ev) : ∀ (g : G) (pend : Tid → Bool),
    CInv m c g pend → Disc cfg m c s g pend →
    (run cfg s g).1.counter c = g.counter c + incs c (run cfg s g).2 := by
  induction s with
  | nil => intro g pend _ _; simp [run_nil, incs]
  | cons e s ih =>
    intro g pend hI hD
    obtain ⟨hd, hD'⟩ := hD
    have hs := step_counter cfg m c g pend e (run cfg s (step cfg g e).1).2 hI hd
    rw [run_cons, ih _ _ hs.1 hD', ← hs.2]

instance discOkDec (m c : Nat) (g : G) (pend : Tid → Bool) (e : Ev) : Decidable (discOk m c g pend e) := by
  cases e <;> simp only [discOk] <;> infer_instance

instance discDec (cfg : Cfg) (m c : Nat) : ∀ (s : List Ev) (g : G) (pend : Tid → Bool), Decidable (Disc cfg m c s g pend)
  | [], _, _ => isTrue trivial
  | e :: s, g, pend =>
    have := discDec cfg m c s (step cfg g e).1 (pendNext c g pend e)
    by simp only [Disc]; infer_instance

end Cello.Thr
