/-
  Lemmas/RBCheck.lean — what the driver and the op files compute, against what the theorems are about.
  `Tree.validB`, which the driver evaluates on every state, decides `Valid`; well-typedness of a concrete history can be
  computed (`wellTypedB` for `Op`, `wellTypedAB` for `AOp`; the `B` is for `Bool`, not for the third layer); and the comparisons
  in use satisfy `Std.TransCmp`, the only thing the theorems of C03 ask of the order: `Key.cmp` of the op files, and the sign
  (`ordOf`) of any three-way comparison `c : α → α → Int` that is lawful in the sense of C09 (`LawfulCmpOn`), such as `Int_Cmp`
  and `strcmp` (`intCmp_strict`, `bytesCmp_strict` of Lemmas/Cmp.lean).
-/
import CelloProofs.Lemmas.Cmp
import CelloProofs.Lemmas.RBArgs

namespace Cello.RB
open Std
variable {α β : Type} {cmp : α → α → Ordering}

theorem bhOf_of_bal (t : T α β) (h : Bal t) : bhOf t = some (bh t) := by
  induction t with
  | nil => rfl
  | node c l k v r ihl ihr =>
    simp only [bhOf, ihl h.2.1, ihr h.2.2, if_pos h.1]
    cases c <;> rfl

theorem bal_of_bhOf (t : T α β) (n : Nat) (h : bhOf t = some n) : Bal t ∧ bh t = n := by
  fun_induction bhOf t generalizing n with
  | case1 => cases h; exact ⟨trivial, rfl⟩
  | case2 c l k v r a hr hl ihl ihr =>
    cases h
    obtain ⟨la, ea⟩ := ihl a hl
    obtain ⟨ra, eb⟩ := ihr a hr
    exact ⟨⟨ea.trans eb.symm, la, ra⟩, by rw [bh_node, ea]; cases c <;> rfl⟩
  | case3 => cases h
  | case4 => cases h

theorem bhOf_iff (t : T α β) (n : Nat) : bhOf t = some n ↔ (Bal t ∧ bh t = n) :=
  ⟨bal_of_bhOf t n, fun ⟨h, e⟩ => e ▸ bhOf_of_bal t h⟩

theorem bhOf_isSome_iff (t : T α β) : (bhOf t).isSome ↔ Bal t := by
  simp only [Option.isSome_iff_exists, bhOf_iff, exists_and_left, exists_eq', and_true]

theorem noRedRed_iff (t : T α β) : noRedRed t = true ↔ RRt t := by
  induction t with
  | nil => simp [noRedRed]
  | node c l k v r ihl ihr =>
    simp only [noRedRed, RRt_node, Bool.and_eq_true, Bool.or_eq_true, decide_eq_true_eq, ihl, ihr]
    cases c <;> simp [and_assoc]

theorem descending_iff [TransCmp cmp] (l : List (α × β)) : descending cmp l = true ↔ Desc cmp l := by
  fun_induction descending cmp l with
  | case1 => simp [Desc]
  | case2 => simp [Desc]
  | case3 a b l ih =>
    simp only [Bool.and_eq_true, decide_eq_true_eq, ih]
    rw [desc_cons (a := a), desc_cons (a := b)]
    constructor
    · rintro ⟨h1, h2, h3⟩
      refine ⟨fun x hx => ?_, h2, h3⟩
      rcases List.mem_cons.mp hx with rfl | hx
      · exact h1
      · exact TransCmp.gt_trans h1 (h2 x hx)
    · rintro ⟨h1, h2, h3⟩
      exact ⟨h1 b (by simp), h2, h3⟩

theorem sizedB_iff [Packed α] [Packed β] (sz : Nat × Nat) (l : List (α × β)) :
    sizedB sz l = true ↔ ∀ e ∈ l, Fits sz e := by
  simp [sizedB, Fits]

/-- the `ok=` flag of the driver is exactly `Valid` -/
theorem validB_iff [Packed α] [Packed β] [TransCmp cmp] (m : Tree α β) : m.validB cmp = true ↔ Valid cmp m := by
  simp only [Tree.validB, Bool.and_eq_true, decide_eq_true_eq, noRedRed_iff, bhOf_isSome_iff, descending_iff,
    sizedB_iff]
  constructor
  · rintro ⟨⟨⟨⟨⟨h1, h2⟩, h3⟩, h4⟩, h5⟩, h6⟩; exact ⟨⟨h1, h2, h3⟩, h4, h5, h6⟩
  · rintro ⟨⟨h1, h2, h3⟩, h4, h5, h6⟩; exact ⟨⟨⟨⟨⟨h1, h2⟩, h3⟩, h4⟩, h5⟩, h6⟩

instance : OrientedCmp Key.cmp where
  eq_swap := by
    intro a b
    cases a <;> cases b <;> simp only [Key.cmp, Ordering.swap]
    · exact OrientedCmp.eq_swap (cmp := (compare : Int → Int → Ordering))
    · exact OrientedCmp.eq_swap (cmp := (compare : String → String → Ordering))
    · exact OrientedCmp.eq_swap (cmp := (compare : List Int → List Int → Ordering))

/- Across kinds (Ints before Strings before structs) `Key.cmp` is a constant, so the hypotheses refute the triples that
   descend in kind and evaluation settles those that ascend; the three triples within one kind are `compare`'s own law. -/
instance : TransCmp Key.cmp where
  isLE_trans := by
    intro a b c h1 h2
    cases a <;> cases b <;> (try cases h1) <;>
      cases c <;> (try cases h2) <;> (try rfl)
    · exact TransCmp.isLE_trans (cmp := (compare : Int → Int → Ordering)) h1 h2
    · exact TransCmp.isLE_trans (cmp := (compare : String → String → Ordering)) h1 h2
    · exact TransCmp.isLE_trans (cmp := (compare : List Int → List Int → Ordering)) h1 h2

instance : LawfulEqCmp Key.cmp where
  eq_of_compare := by
    intro a b h
    cases a <;> cases b <;> simp only [Key.cmp] at h <;> try (cases h; done)
    · rw [LawfulEqCmp.eq_of_compare (cmp := (compare : Int → Int → Ordering)) h]
    · rw [LawfulEqCmp.eq_of_compare (cmp := (compare : String → String → Ordering)) h]
    · have := LawfulEqCmp.eq_of_compare (cmp := (compare : List Int → List Int → Ordering)) h
      simp only [List.cons.injEq] at this
      obtain ⟨rfl, rfl, rfl⟩ := this
      rfl

theorem intsOf_map (l : List Int) : intsOf (l.map Word.int) = some l := by
  induction l with
  | nil => rfl
  | cons a l ih => simp [intsOf, ih]

instance : LawfulPacked Key where
  ofWords_words := by
    intro x
    cases x with
    | i n => rfl
    | s x => rfl
    | w a b r => simp [Packed.words, Packed.ofWords, intsOf_map]

/-! values of the op files are of the same kinds as the keys (`Val = Key`): the instance above serves both -/

def wellTypedB : Store (Nat × Nat) → List (Op Key Val) → Bool
  | _, [] => true
  | env, op :: ops =>
    (match op with
     | .new _ ks vs init => sizedB (ks, vs) init
     | .set t k v => match env.get? t with | none => true | some z => sizedB z [(k, v)]
     | _ => true) && wellTypedB (tyStep env op) ops

theorem wellTypedB_sound (env : Store (Nat × Nat)) (ops : List (Op Key Val)) (h : wellTypedB env ops = true) :
    WellTyped env ops := by
  induction ops generalizing env with
  | nil => trivial
  | cons op ops ih =>
    simp only [wellTypedB, Bool.and_eq_true] at h
    refine ⟨?_, ih _ h.2⟩
    cases op <;> dsimp only [Op.typed] <;> try trivial
    · exact (sizedB_iff _ _).mp h.1
    · intro z hz
      have h1 := h.1
      simp only [hz] at h1
      exact (sizedB_iff _ _).mp h1 _ (by simp)

def wellTypedAB : Store (Nat × Nat) → List (AOp Key Val) → Bool
  | _, [] => true
  | env, op :: ops =>
    (match op with
     | .base (.new _ ks vs init) => sizedB (ks, vs) init
     | .base (.set t k v) => match env.get? t with | none => true | some z => sizedB z [(k, v)]
     | .setA t ka va =>
       (match env.get? t with
        | none => true
        | some z =>
          (match ka with | .val k => 8 * (Packed.words k).length == z.1 | .own _ => true) &&
          (match va with | .val v => 8 * (Packed.words v).length == z.2 | .own _ => true))
     | .assignMap _ ks vs kvs => sizedB (ks, vs) kvs
     | _ => true) && wellTypedAB (tyStepA env op) ops

theorem wellTypedAB_sound (env : Store (Nat × Nat)) (ops : List (AOp Key Val)) (h : wellTypedAB env ops = true) :
    WellTypedA env ops := by
  induction ops generalizing env with
  | nil => trivial
  | cons op ops ih =>
    simp only [wellTypedAB, Bool.and_eq_true] at h
    refine ⟨?_, ih _ h.2⟩
    have h1 := h.1
    cases op with
    | base op =>
      cases op <;> dsimp only [AOp.typed, Op.typed] <;> try trivial
      · exact (sizedB_iff _ _).mp h1
      · intro z hz
        simp only [hz] at h1
        exact (sizedB_iff _ _).mp h1 _ (by simp)
    | setA t ka va =>
      intro z hz
      simp only [hz, Bool.and_eq_true] at h1
      constructor
      · intro k hk; subst hk; simpa using h1.1
      · intro v hv; subst hv; simpa using h1.2
    | assignMap t ks vs kvs => exact (sizedB_iff _ _).mp h1
    | getK => trivial
    | memK => trivial
    | remK => trivial
    | newOdd => trivial

section
open Cello.Cmp

/-- the `Ordering` a C comparison result stands for: `c < 0`, `c = 0`, `c > 0` (the three tests of the descent loops) -/
def ordOf {α : Type} (c : α → α → Int) (a b : α) : Ordering :=
  if c a b < 0 then .lt else if c a b = 0 then .eq else .gt

theorem ordOf_isLE {α : Type} (c : α → α → Int) (a b : α) : (ordOf c a b).isLE = true ↔ c a b ≤ 0 := by
  unfold ordOf
  split
  · rename_i h; exact ⟨fun _ => Int.le_of_lt h, fun _ => rfl⟩
  · split
    · rename_i h; exact ⟨fun _ => Int.le_of_eq h, fun _ => rfl⟩
    · rename_i h1 h2; exact ⟨nofun, fun h => absurd (Int.le_iff_lt_or_eq.mp h) (not_or.mpr ⟨h1, h2⟩)⟩

theorem transCmp_of_lawful {α κ : Type} (c : α → α → Int) (h : LawfulCmp c) (view : κ → α) :
    TransCmp (fun a b : κ => ordOf c (view a) (view b)) where
  eq_swap := by
    intro a b
    have f := h.flip (a := view a) (b := view b) trivial trivial
    rcases Int.lt_trichotomy (c (view a) (view b)) 0 with p | p | p
    · have q := f.1.mp p
      simp only [ordOf, if_pos p, if_neg (Int.lt_asymm q), if_neg (Int.ne_of_gt q), Ordering.swap]
    · simp only [ordOf, p, f.2.1.mp p, Int.lt_irrefl, if_false, if_true, Ordering.swap]
    · have q := f.2.2.mp p
      simp only [ordOf, if_neg (Int.lt_asymm p), if_neg (Int.ne_of_gt p), if_pos q, Ordering.swap]
  isLE_trans := by
    intro a b d h1 h2
    rw [ordOf_isLE] at h1 h2 ⊢
    exact h.le_trans _ _ _ trivial trivial trivial h1 h2

end

end Cello.RB
