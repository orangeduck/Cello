/-
  Lemmas for C10: the Tree as its iteration sequence, a list of entries with strictly descending keys (`TreeSeq`: every earlier
  key lies `Above` every later one, HashVal.lean). `treeSet` / `treeRem` keep it so; the sequence is determined by its set of
  entries; re-inserting it reproduces it, and inserting entries with pairwise different keys (`KeysApart`) keeps them all
  (`foldl_insert_perm`, stated for any container: HashTable.lean uses it too). `seqGet`: the look-up the sequence answers.
-/
import Cello.Hash
import CelloProofs.Lemmas.HashVal
import Mathlib.Data.List.Perm.Basic

namespace Cello.Hash

-- `Desc addr a b` unfolds to `Above addr a.1 b.1`: the `Above` lemmas are applied to it as they stand
/-- `a` is iterated before `b` in a Tree: its key is strictly greater -/
def Desc (addr : Nat → Bytes) (a b : Scalar × Scalar) : Prop := ∃ c, scalarCmp addr a.1 b.1 = some c ∧ 0 < c

/-- the iteration sequence of a Tree: keys strictly descending -/
def TreeSeq (addr : Nat → Bytes) (es : List (Scalar × Scalar)) : Prop := es.Pairwise (Desc addr)

/-- the test `treeSeqB` and `treeSeqAdjB` evaluate on two keys -/
theorem above_iff_test {addr : Nat → Bytes} {a b : Scalar} :
    (match scalarCmp addr a b with | some c => decide (0 < c) | none => false) = true ↔ Above addr a b := by
  unfold Above; cases scalarCmp addr a b <;> simp

/-- the check the driver evaluates on every Tree state is the hypothesis of the Tree theorems -/
theorem treeSeqB_iff (addr : Nat → Bytes) (es : List (Scalar × Scalar)) : treeSeqB addr es = true ↔ TreeSeq addr es := by
  induction es with
  | nil => simp [treeSeqB, TreeSeq]
  | cons e es ih =>
    simp only [treeSeqB, Bool.and_eq_true, List.all_eq_true, ih, TreeSeq, List.pairwise_cons]
    exact and_congr_left' (forall₂_congr fun x _ => above_iff_test)

/-- the linear check the driver evaluates on Tree states implies the Tree invariant -/
theorem treeSeqAdjB_sound (addr : Nat → Bytes) : ∀ (es : List (Scalar × Scalar)), treeSeqAdjB addr es = true → TreeSeq addr es := by
  intro es h
  match es, h with
  | [], _ | [_], _ => simp [TreeSeq]
  | e :: f :: rest, h =>
    simp only [treeSeqAdjB, Bool.and_eq_true] at h
    have hef : Above addr e.1 f.1 := above_iff_test.mp h.1
    have hseq : TreeSeq addr (f :: rest) := treeSeqAdjB_sound addr _ h.2
    refine List.pairwise_cons.mpr ⟨fun g hg => ?_, hseq⟩
    rcases List.mem_cons.mp hg with rfl | hg
    · exact hef
    · exact hef.trans ((List.pairwise_cons.mp hseq).1 g hg)

theorem treeSeq_unique {addr : Nat → Bytes} {xs ys : List (Scalar × Scalar)} (hx : TreeSeq addr xs) (hy : TreeSeq addr ys)
    (h : ∀ e, e ∈ xs ↔ e ∈ ys) : xs = ys := by
  have irrefl : ∀ a, ¬ Desc addr a a := fun a ha => Above.asymm ha ha
  have nx : xs.Nodup := List.Pairwise.imp (fun {a b} (hab : Desc addr a b) (e : a = b) => irrefl a (by subst e; exact hab)) hx
  have ny : ys.Nodup := List.Pairwise.imp (fun {a b} (hab : Desc addr a b) (e : a = b) => irrefl a (by subst e; exact hab)) hy
  exact List.Perm.eq_of_pairwise (fun a b _ _ h1 h2 => (Above.asymm h1 h2).elim) hx hy
    ((List.perm_ext_iff_of_nodup nx ny).mpr h)

theorem TreeSeq.above {addr : Nat → Bytes} {l r : List (Scalar × Scalar)} {e : Scalar × Scalar} (h : TreeSeq addr (l ++ e :: r))
    {k : Scalar} (hk : k.isNaN = false) {c : Int} (hc : scalarCmp addr e.1 k = some c) (h0 : 0 ≤ c) :
    ∀ x ∈ l, Above addr x.1 k := by
  intro x hx
  have hxe : Above addr x.1 e.1 := (List.pairwise_append.mp h).2.2 x hx e (by simp)
  by_cases hc0 : c = 0
  · subst hc0; exact hxe.congr_right hk hc
  · exact hxe.trans ⟨c, hc, by omega⟩

theorem TreeSeq.below {addr : Nat → Bytes} {l r : List (Scalar × Scalar)} {e : Scalar × Scalar} (h : TreeSeq addr (l ++ e :: r))
    {k : Scalar} {c : Int} (hc : scalarCmp addr e.1 k = some c) (hneg : c < 0) :
    ∀ y ∈ r, Above addr k y.1 :=
  fun y hy => (Above.of_neg hc hneg).trans ((List.pairwise_cons.mp (List.pairwise_append.mp h).2.1).1 y hy)

theorem treeSet_append_lt (addr : Nat → Bytes) (xs ys : List (Scalar × Scalar)) (e : Scalar × Scalar) (k v : Scalar) (c : Int)
    (hc : scalarCmp addr e.1 k = some c) (hneg : c < 0) :
    treeSet addr (xs ++ e :: ys) k v = treeSet addr xs k v ++ e :: ys := by
  -- the cases of `treeSet`: the empty list; the first key is eq (overwritten), below `k` (inserted in front), above `k` (on into
  -- the rest), incomparable (nothing happens)
  fun_induction treeSet addr xs k v with
  | case1 => simp [treeSet, hc, hneg, show ¬ c = 0 by omega]
  | case2 x xs k v hx => simp [treeSet, hx]
  | case3 x xs k v d hx h0 hl => simp [treeSet, hx, h0, hl]
  | case4 x xs k v d hx h0 hl ih => simp [treeSet, hx, h0, hl, ih hc]
  | case5 x xs k v hx => simp [treeSet, hx]

theorem treeSet_append_gt (addr : Nat → Bytes) (xs ys : List (Scalar × Scalar)) (k v : Scalar)
    (h : ∀ x ∈ xs, Above addr x.1 k) :
    treeSet addr (xs ++ ys) k v = xs ++ treeSet addr ys k v := by
  induction xs with
  | nil => rfl
  | cons x xs ih =>
    obtain ⟨c, hc, hpos⟩ := h x (by simp)
    have hne : ¬ c = 0 := by omega
    have hnl : ¬ c < 0 := by omega
    simp only [List.cons_append, treeSet, hc, hne, hnl, if_false]
    rw [ih (fun y hy => h y (by simp [hy]))]

theorem treeRem_append (addr : Nat → Bytes) (xs ys : List (Scalar × Scalar)) (k : Scalar) :
    treeRem addr (xs ++ ys) k =
      match treeRem addr xs k with
      | some r => some (r ++ ys)
      | none => (treeRem addr ys k).map (xs ++ ·) := by
  -- the cases of `treeRem`: the empty list; the first key is eq (removed); it is not (on into the rest)
  fun_induction treeRem addr xs k with
  | case1 => simp
  | case2 x xs k hx => simp [treeRem, hx]
  | case3 x xs k hx ih =>
    simp only [List.cons_append, treeRem, hx, ih]
    cases treeRem addr xs k with
    | some r => simp
    | none => cases treeRem addr ys k <;> simp

theorem treeRem_none_of_ne (addr : Nat → Bytes) (ys : List (Scalar × Scalar)) (k : Scalar)
    (h : ∀ y ∈ ys, keyEq addr y.1 k = false) : treeRem addr ys k = none := by
  fun_induction treeRem addr ys k with
  | case1 => rfl
  | case2 e _ _ he => rw [h e (by simp)] at he; cases he
  | case3 e es k _ ih => rw [ih fun z hz => h z (by simp [hz])]; rfl

theorem mem_treeSet (addr : Nat → Bytes) (es : List (Scalar × Scalar)) (k v : Scalar) (x : Scalar × Scalar)
    (h : x ∈ treeSet addr es k v) : x = (k, v) ∨ x ∈ es := by
  fun_induction treeSet addr es k v with
  | case1 => exact .inl (List.mem_singleton.mp h)
  | case2 | case3 => rcases List.mem_cons.mp h with rfl | h <;> simp [*]
  | case4 _ _ _ _ _ _ _ _ ih =>
    rcases List.mem_cons.mp h with rfl | h
    · simp
    · rcases ih h with rfl | h <;> simp [*]
  | case5 => exact .inr h

theorem treeSet_treeSeq (addr : Nat → Bytes) (es : List (Scalar × Scalar)) (k v : Scalar) (hk : k.isNaN = false)
    (h : TreeSeq addr es) : TreeSeq addr (treeSet addr es k v) := by
  fun_induction treeSet addr es k v with
  | case1 => exact List.pairwise_singleton _ _
  | case2 e es k v hc =>
    -- replaced
    obtain ⟨he, hes⟩ := List.pairwise_cons.mp h
    exact List.pairwise_cons.mpr ⟨fun f hf => Above.congr_left hk hc (he f hf), hes⟩
  | case3 e es k v c hc _ hneg =>
    -- inserted before e
    have hke : Desc addr (k, v) e := Above.of_neg hc hneg
    refine List.pairwise_cons.mpr ⟨fun f hf => ?_, h⟩
    rcases List.mem_cons.mp hf with rfl | hf
    · exact hke
    · exact Above.trans hke ((List.pairwise_cons.mp h).1 f hf)
  | case4 e es k v c hc h0 hneg ih =>
    -- goes further down
    obtain ⟨he, hes⟩ := List.pairwise_cons.mp h
    refine List.pairwise_cons.mpr ⟨fun f hf => ?_, ih hk hes⟩
    rcases mem_treeSet addr es k v f hf with rfl | hf
    · exact ⟨c, hc, by omega⟩
    · exact he f hf
  | case5 => exact h

theorem treeRem_sublist (addr : Nat → Bytes) (es : List (Scalar × Scalar)) (k : Scalar) (r : List (Scalar × Scalar))
    (h : treeRem addr es k = some r) : r.Sublist es := by
  fun_induction treeRem addr es k generalizing r with
  | case1 => cases h
  | case2 e es => cases h; exact List.sublist_cons_self e es
  | case3 e es k _ ih =>
    obtain ⟨r', hr, rfl⟩ := Option.map_eq_some_iff.mp h
    exact (ih r' hr).cons_cons e

theorem treeRem_treeSeq (addr : Nat → Bytes) (es : List (Scalar × Scalar)) (k : Scalar) (r : List (Scalar × Scalar))
    (hr : treeRem addr es k = some r) (h : TreeSeq addr es) : TreeSeq addr r :=
  List.Pairwise.sublist (treeRem_sublist addr es k r hr) h

/-- one operation of a Tree history (a history: `List TreeOp`) -/
inductive TreeOp where
  | set (k v : Scalar)
  | rem (k : Scalar)

def TreeOp.keyOk : TreeOp → Bool
  | .set k _ => !k.isNaN
  | .rem _ => true

/-- run a history (a failing `rem` — KeyError — leaves the Tree unchanged) -/
def runTreeOps (addr : Nat → Bytes) (es : List (Scalar × Scalar)) : List TreeOp → List (Scalar × Scalar)
  | [] => es
  | .set k v :: ops => runTreeOps addr (treeSet addr es k v) ops
  | .rem k :: ops => runTreeOps addr ((treeRem addr es k).getD es) ops

theorem runTreeOps_treeSeq (addr : Nat → Bytes) (ops : List TreeOp) : ∀ (es : List (Scalar × Scalar)),
    TreeSeq addr es → (∀ o ∈ ops, o.keyOk = true) → TreeSeq addr (runTreeOps addr es ops) := by
  induction ops with
  | nil => intro es h _; exact h
  | cons o ops ih =>
    intro es h hok
    cases o with
    | set k v =>
      have hk : k.isNaN = false := by simpa [TreeOp.keyOk] using hok (.set k v) (by simp)
      exact ih _ (treeSet_treeSeq addr es k v hk h) (fun o ho => hok o (by simp [ho]))
    | rem k =>
      simp only [runTreeOps]
      cases hr : treeRem addr es k with
      | none => simpa using ih es h (fun o ho => hok o (by simp [ho]))
      | some r => simpa using ih r (treeRem_treeSeq addr es k r hr h) (fun o ho => hok o (by simp [ho]))

theorem foldl_treeSet (addr : Nat → Bytes) (es acc : List (Scalar × Scalar)) (h : TreeSeq addr (acc ++ es)) :
    es.foldl (fun acc e => treeSet addr acc e.1 e.2) acc = acc ++ es := by
  induction es generalizing acc with
  | nil => simp
  | cons e es ih =>
    have h1 : treeSet addr acc e.1 e.2 = acc ++ [e] := by
      simpa [treeSet] using treeSet_append_gt addr acc [] e.1 e.2 fun x hx => (List.pairwise_append.mp h).2.2 x hx e (by simp)
    rw [List.foldl_cons, h1, ih _ (by simpa [TreeSeq] using h), List.append_assoc]
    rfl

/-- re-inserting the iteration sequence of a Tree into an empty Tree reproduces it (what `Tree_Assign` does) -/
theorem treeOfEntries_of_treeSeq (addr : Nat → Bytes) (es : List (Scalar × Scalar)) (h : TreeSeq addr es) :
    treeOfEntries addr es = es := by
  unfold treeOfEntries
  simpa using foldl_treeSet addr es [] (by simpa using h)

/-- the two keys are comparable (same type) and different, in both argument orders -/
def KeysApart (addr : Nat → Bytes) (a b : Scalar × Scalar) : Prop :=
  (∃ c, scalarCmp addr a.1 b.1 = some c ∧ c ≠ 0) ∧ (∃ c, scalarCmp addr b.1 a.1 = some c ∧ c ≠ 0)

theorem treeSet_perm (addr : Nat → Bytes) (acc : List (Scalar × Scalar)) (k v : Scalar)
    (h : ∀ e ∈ acc, ∃ c, scalarCmp addr e.1 k = some c ∧ c ≠ 0) : (treeSet addr acc k v).Perm ((k, v) :: acc) := by
  fun_induction treeSet addr acc k v with
  | case1 | case3 => exact List.Perm.refl _
  | case2 e _ _ _ hc => obtain ⟨c, hc', hne⟩ := h e (by simp); exact absurd (Option.some.inj (hc ▸ hc')).symm hne
  | case4 e _ _ _ _ _ _ _ ih => exact ((ih fun e' he' => h e' (by simp [he'])).cons e).trans (List.Perm.swap _ _ _)
  | case5 e _ _ _ hc => obtain ⟨c, hc', -⟩ := h e (by simp); cases hc ▸ hc'

/-- inserting the elements of a list one by one into a container ends with all of them in it, when an insertion adds exactly the
    new element as long as everything held and that element are pairwise `R`-apart (`Inv`: what else the insertion asks of the
    container and the elements still to come) -/
theorem foldl_insert_perm {α β : Type} (f : β → α → β) (toL : β → List α) {R : α → α → Prop} (hsym : ∀ {x y}, R x y → R y x)
    (Inv : β → List α → Prop)
    (step : ∀ acc e rest, Inv acc (e :: rest) → (e :: toL acc).Pairwise R →
      (toL (f acc e)).Perm (e :: toL acc) ∧ Inv (f acc e) rest) :
    ∀ (es : List α) (acc : β), Inv acc es → (toL acc ++ es).Pairwise R → (toL (es.foldl f acc)).Perm (toL acc ++ es)
  | [], acc, _, _ => by simp
  | e :: es, acc, hi, hd => by
    have hmid : (e :: (toL acc ++ es)).Pairwise R := (List.Perm.pairwise_iff hsym List.perm_middle).mp hd
    obtain ⟨hp, hi'⟩ := step acc e es hi (hmid.sublist ((List.sublist_append_left _ _).cons_cons e))
    have hp' : (toL (f acc e) ++ es).Perm (toL acc ++ e :: es) := (hp.append_right es).trans List.perm_middle.symm
    exact (foldl_insert_perm f toL hsym Inv step es _ hi' ((List.Perm.pairwise_iff hsym hp'.symm).mp hd)).trans hp'

theorem treeOfEntries_perm (addr : Nat → Bytes) (es : List (Scalar × Scalar)) (hd : es.Pairwise (KeysApart addr)) :
    (treeOfEntries addr es).Perm es :=
  foldl_insert_perm (α := Scalar × Scalar) (fun acc e => treeSet addr acc e.1 e.2) id (fun h => ⟨h.2, h.1⟩) (fun _ _ => True)
    (fun acc e _ _ h => ⟨treeSet_perm addr acc e.1 e.2 fun x hx => ((List.pairwise_cons.mp h).1 x hx).2, trivial⟩) es [] trivial hd

/-- the reference: the value of the first entry whose key is eq to `k` -/
def seqGet (addr : Nat → Bytes) (es : List (Scalar × Scalar)) (k : Scalar) : Option Scalar :=
  (es.find? (fun e => keyEq addr e.1 k)).map (·.2)

theorem seqGet_append (addr : Nat → Bytes) (xs ys : List (Scalar × Scalar)) (k : Scalar) :
    seqGet addr (xs ++ ys) k = (seqGet addr xs k).or (seqGet addr ys k) := by
  unfold seqGet
  rw [List.find?_append]
  cases List.find? (fun e => keyEq addr e.1 k) xs <;> simp

theorem seqGet_none_of_ne (addr : Nat → Bytes) (xs : List (Scalar × Scalar)) (k : Scalar)
    (h : ∀ x ∈ xs, keyEq addr x.1 k = false) : seqGet addr xs k = none := by
  unfold seqGet
  rw [List.find?_eq_none.mpr (fun x hx => by simp [h x hx])]
  rfl

theorem seqGet_isSome (addr : Nat → Bytes) (es : List (Scalar × Scalar)) (k : Scalar) :
    (seqGet addr es k).isSome = es.any fun e => keyEq addr e.1 k := by
  rw [seqGet, Option.isSome_map, Bool.eq_iff_iff, List.find?_isSome, List.any_eq_true]

theorem treeSet_length (addr : Nat → Bytes) (k v : Scalar) (es : List (Scalar × Scalar)) (hseq : TreeSeq addr es)
    (hty : ∀ e ∈ es, e.1.ty = k.ty) :
    (treeSet addr es k v).length = if es.any (fun e => keyEq addr e.1 k) then es.length else es.length + 1 := by
  fun_induction treeSet addr es k v with
  | case1 => rfl
  | case2 e es k v hc => simp [show keyEq addr e.1 k = true by simp [keyEq, hc]]
  | case3 e es k v c hc _ hneg =>
    have hno : (e :: es).any (fun e => keyEq addr e.1 k) = false := List.any_eq_false.mpr fun y hy => by
      rcases List.mem_cons.mp hy with rfl | hy
      · simp [(Above.of_neg hc hneg).keyEq_false.2]
      · simp [(TreeSeq.below (l := []) hseq hc hneg y hy).keyEq_false.2]
    rw [hno]; rfl
  | case4 e es k v c hc h0 hneg ih =>
    have hke : keyEq addr e.1 k = false := (Above.keyEq_false ⟨c, hc, by omega⟩).1
    rw [List.length_cons, ih (List.pairwise_cons.mp hseq).2 (fun x hx => hty x (by simp [hx])), List.any_cons, hke, Bool.false_or]
    split <;> rfl
  | case5 e es k v hc =>
    obtain ⟨c, hc'⟩ := scalarCmp_isSome_of_ty addr e.1 k (hty e (by simp))
    cases hc ▸ hc'

end Cello.Hash
