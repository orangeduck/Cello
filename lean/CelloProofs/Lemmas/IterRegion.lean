/- The Slice regions against the model's walks, for C11: the verdicts of the model that Props/C11 compares with the regions (`sliceFwdOk` …
   over an Array, `sliceFwdOkT` … over a Tuple).  Over a Tuple the absorbing regions are exact for EVERY length: the walk is known for
   all parameters (`slice_abs_visits_fwd / _bwd`) and over `0, …, n-1` equal elements are equal positions.  Then the two regions in arithmetic. -/
import CelloProofs.Lemmas.IterContainers
import CelloProofs.Lemmas.IterSlice

namespace Cello.Iter

/-- does the model's forward / backward walk of `slice(array [0..n), a, b, c)` produce the defined sequence and Terminal -/
def sliceFwdOk (n a b : Nat) (c : Int) : Bool :=
  (sliceI (arrayI (List.range n)) n a b c).forward (n + 2) == (sliceSpec (List.range n) a b c, End.term)
def sliceBwdOk (n a b : Nat) (c : Int) : Bool :=
  (sliceI (arrayI (List.range n)) n a b c).backward (n + 2) == ((sliceSpec (List.range n) a b c).reverse, End.term)

/-- the same over a Tuple (which absorbs a Terminal cursor) -/
def sliceFwdOkT (n a b : Nat) (c : Int) : Bool :=
  (sliceI (tupleI (List.range n)) n a b c).forward (n + 2) == (sliceSpec (List.range n) a b c, End.term)
def sliceBwdOkT (n a b : Nat) (c : Int) : Bool :=
  (sliceI (tupleI (List.range n)) n a b c).backward (n + 2) == ((sliceSpec (List.range n) a b c).reverse, End.term)

/-- the steps `-k … k` of the `_small` statements of Props/C11.lean -/
def stepsUpTo (k : Nat) : List Int := (List.range (2 * k + 1)).map (fun (i : Nat) => (i : Int) - k)

theorem all_range_succ {n : Nat} {p : Nat → Bool} (h : ∀ a, a ≤ n → p a = true) : (List.range (n + 1)).all p = true :=
  List.all_eq_true.mpr fun a ha => h a (Nat.le_of_lt_succ (List.mem_range.mp ha))

/-- over `0, …, n-1` the elements at positions inside `[0, n)` are the positions themselves -/
theorem atPositions_range (n : Nat) (P : List Int) (h : ∀ p ∈ P, 0 ≤ p ∧ p < n) :
    (atPositions (List.range n) P).map Int.ofNat = P := by
  rw [atPositions, List.map_filterMap]
  conv => rhs; rw [← List.filterMap_some (l := P)]
  apply filterMap_congr'
  intro p hp
  obtain ⟨h0, h1⟩ := h p hp
  have : p.toNat < n := by omega
  simp only [if_neg (show ¬ p < 0 by omega), List.getElem?_range this, Option.map_some, Int.ofNat_eq_natCast]
  congr 1; omega

theorem sliceVisit_in_range (n A B : Nat) (c : Int) (hB : B ≤ n) :
    (∀ p ∈ sliceVisitFwd n A B c, 0 ≤ p ∧ p < n) ∧ (∀ p ∈ sliceVisitBwd n A B c, 0 ≤ p ∧ p < n) := by
  unfold sliceVisitFwd sliceVisitBwd
  refine ⟨?_, ?_⟩ <;> split
  · exact rangeList_in_range n A n c (Nat.le_refl n)
  · split
    · exact rangeList_in_range n 0 B c hB
    · intro p hp; cases hp
  · exact rangeList_in_range n 0 B (-c) hB
  · split
    · exact rangeList_in_range n A n (-c) (Nat.le_refl n)
    · intro p hp; cases hp

/-- a walk known to yield the elements of `0, …, n-1` at the positions `V` is reported by the interpreter as the walk over those at
    the positions `P` exactly when `V = P` -/
theorem runFuel_positions_iff {σ : Type} {step : σ → σ × Res Nat} {r : σ × Res Nat} {n fuel : Nat} {V P : List Int}
    (hv : Run step r (atPositions (List.range n) V)) (hV : ∀ p ∈ V, 0 ≤ p ∧ p < n) (hP : ∀ p ∈ P, 0 ≤ p ∧ p < n)
    (hlen : P.length < fuel) :
    (runFuel step fuel r == (atPositions (List.range n) P, End.term)) = true ↔ V = P := by
  rw [beq_iff_eq]
  constructor
  · intro h
    have e := congrArg (List.map Int.ofNat) (hv.unique (Run.of_runFuel _ _ _ h))
    rwa [atPositions_range n V hV, atPositions_range n P hP] at e
  · rintro rfl
    exact hv.runFuel _ (by rwa [← List.length_map (f := Int.ofNat), atPositions_range n V hV])

/-- over the Tuple `0, …, n-1` the absorbing regions are exact, for every length -/
theorem slice_region_abs_exact (n A B : Nat) (c : Int) (hA : A ≤ n) (hB : B ≤ n) :
    (sliceFwdOkT n A B c = true ↔ SliceRegionFwdAbs n A B c) ∧ (sliceBwdOkT n A B c = true ↔ SliceRegionBwdAbs n A B c) := by
  have hlen : (List.range n).length = n := List.length_range
  have habs := tuple_abs (List.range n) List.nodup_range
  have hvf := (slice_abs_visits_fwd (tupleI (List.range n)) (c := c) (fun _ => habs.1) (fun _ => habs.2) A B (by omega) (by omega)).1
  have hvb := (slice_abs_visits_bwd (tupleI (List.range n)) (c := c) (fun _ => habs.2) (fun _ => habs.1) A B (by omega) (by omega)).1
  rw [hlen] at hvf hvb
  have hP := rangeList_in_range n A B c hB
  have hl : (rangeList A B c).length < n + 2 := by
    rw [length_rangeList]; exact Nat.lt_succ_of_le (Nat.le_succ_of_le (rangeLen_le n A B c hB))
  constructor
  · exact runFuel_positions_iff (hvf _) (sliceVisit_in_range n A B c hB).1 hP hl
  · unfold sliceBwdOkT Iterable.backward SliceRegionBwdAbs
    rw [sliceSpec_eq, ← atPositions_reverse]
    refine runFuel_positions_iff ?_ (sliceVisit_in_range n A B c hB).2 (fun p hp => hP p (List.mem_reverse.mp hp)) ?_
    · have := hvb (sliceI (tupleI (List.range n)) n A B c).s0
      rwa [List.reverse_reverse] at this
    · rwa [List.length_reverse]

/-- the progression from `u` with step `-c` is the progression from `w` with step `c` read backwards exactly when they have one length and
    `u` is the last element of the other -/
theorem progression_eq_reverse_iff (u w c : Int) (m m' : Nat) :
    (List.range m').map (fun k : Nat => u + -c * k) = ((List.range m).map (fun k : Nat => w + c * k)).reverse ↔
      m' = m ∧ (0 < m → u = w + c * ((m : Int) - 1)) := by
  rw [map_range_reverse, map_range_eq_iff]
  constructor
  · rintro ⟨rfl, h⟩
    refine ⟨rfl, fun hm => ?_⟩
    have := h 0 hm
    simp only [Int.natCast_zero, Int.mul_zero, Int.add_zero, Nat.sub_zero] at this
    rwa [show ((m' - 1 : Nat) : Int) = (m' : Int) - 1 by omega] at this
  · rintro ⟨rfl, h⟩
    refine ⟨rfl, fun k hk => ?_⟩
    have e := h (by omega)
    rw [show ((m' - 1 - k : Nat) : Int) = (m' : Int) - 1 - k by omega, Int.mul_sub, Int.neg_mul]
    omega

theorem ediv_facts (x K : Int) (hK : 0 < K) : K * (x / K) + x % K = x ∧ 0 ≤ x % K ∧ x % K < K :=
  ⟨Int.mul_ediv_add_emod x K, Int.emod_nonneg x (Int.ne_of_gt hK), Int.emod_lt_of_pos x hK⟩

theorem ediv_eq_of {x K q r : Int} (hK : 0 < K) (h1 : r + K * q = x) (h2 : 0 ≤ r) (h3 : r < K) : x / K = q :=
  ((Int.ediv_emod_unique hK).mpr ⟨h1, h2, h3⟩).1

/-- taking `A ≥ 0` off `x` keeps the quotient by `K` exactly when `A` fits under the remainder -/
theorem ediv_sub_eq_iff (x A K : Int) (hK : 0 < K) (hA : 0 ≤ A) : (x - A) / K = x / K ↔ A ≤ x % K := by
  obtain ⟨e, r0, r1⟩ := ediv_facts x K hK
  constructor
  · intro h
    obtain ⟨e', r0', _⟩ := ediv_facts (x - A) K hK
    rw [h] at e'
    omega
  · intro h
    exact ediv_eq_of hK (r := x % K - A) (by omega) (by omega) (by omega)

/-- forward, positive step: one start, one step — the two Ranges are equal exactly when their lengths are -/
theorem visitFwd_pos_iff (n A B : Nat) (c : Int) (hc : 0 < c) (hA : A ≤ n) (hB : B ≤ n) :
    rangeList A n c = rangeList A B c ↔ ((A : Int) = n ∨ (A < B ∧ ((n : Int) - 1 - A) / c = ((B : Int) - 1 - A) / c)) := by
  rw [rangeList_of_pos _ _ _ hc, rangeList_of_pos _ _ _ hc, map_range_eq_iff]
  have hlen : rangeLen A n c = rangeLen A B c ↔ ((A : Int) = n ∨ (A < B ∧ ((n : Int) - 1 - A) / c = ((B : Int) - 1 - A) / c)) := by
    rcases rangeLen_quot A n c hc with ⟨_, m1⟩ | ⟨_, m1, _⟩ <;> rcases rangeLen_quot A B c hc with ⟨_, m2⟩ | ⟨_, m2, _⟩ <;> omega
  exact ⟨fun h => hlen.mp h.1, fun h => ⟨hlen.mpr h, fun _ _ => rfl⟩⟩

/-- forward, negative step: the lowest position reached from `stop - 1` is not below `start` -/
theorem visitFwd_neg_iff (A B : Nat) (c : Int) (hc : c < 0) :
    rangeList 0 B c = rangeList A B c ↔ ((B : Int) = 0 ∨ (A < B ∧ ((B : Int) - 1) % (-c) ≥ A)) := by
  have hK : 0 < -c := by omega
  rw [rangeList_of_neg _ _ _ hc, rangeList_of_neg _ _ _ hc, map_range_eq_iff, ← rangeLen_neg 0, ← rangeLen_neg A]
  have hd := ediv_sub_eq_iff ((B : Int) - 1) A (-c) hK (by omega)
  have c0 := rangeLen_quot 0 B (-c) hK
  rw [Int.sub_zero] at c0
  -- one start `stop - 1`, one step: only the lengths are compared; without `start` the quotient is that of `stop - 1` (`hd`)
  have hlen : rangeLen 0 B (-c) = rangeLen A B (-c) ↔ ((B : Int) = 0 ∨ (A < B ∧ ((B : Int) - 1) % (-c) ≥ A)) := by
    rcases c0 with ⟨_, m0⟩ | ⟨_, m0, _⟩ <;> rcases rangeLen_quot A B (-c) hK with ⟨_, m2⟩ | ⟨_, m2, _⟩ <;> omega
  exact ⟨fun h => hlen.mp h.1, fun h => ⟨hlen.mpr h, fun _ _ => rfl⟩⟩

/-- backward: the walk comes down from `u` in steps of `c` through `m'` positions, the definition selects `m` positions up from `w`;
    with `x = u - w` the two agree exactly when `c` divides `x` and the walk from `u` has no room for a further step below `w` -/
theorem visitBwd_iff (u w c : Int) (hc : 0 < c) (m m' : Nat) (x y : Int)
    (hm : (x < 0 ∧ m = 0) ∨ (0 ≤ x ∧ (m : Int) = x / c + 1 ∧ 0 ≤ x / c))
    (hm' : (y < 0 ∧ m' = 0) ∨ (0 ≤ y ∧ (m' : Int) = y / c + 1 ∧ 0 ≤ y / c)) (hx : x = u - w) (hy : x ≤ y) :
    (m' = m ∧ (0 < m → u = w + c * ((m : Int) - 1))) ↔ (y < 0 ∨ (0 ≤ x ∧ y - x < c ∧ x % c = 0)) := by
  rcases hm' with ⟨_, m0⟩ | ⟨_, m0, _⟩ <;> rcases hm with ⟨_, m2⟩ | ⟨_, m2, _⟩
  · -- nothing visited, nothing selected
    exact ⟨fun _ => Or.inl (by omega), fun _ => ⟨by omega, fun h => by omega⟩⟩
  · -- something selected and nothing visited: excluded by `x ≤ y`
    omega
  · -- something visited, nothing selected: both sides fail
    exact ⟨fun ⟨h, _⟩ => by omega, fun h => by omega⟩
  · obtain ⟨e, r0, r1⟩ := ediv_facts x c hc
    obtain ⟨e', s0, s1⟩ := ediv_facts y c hc
    constructor
    · rintro ⟨h, h'⟩
      have hq : y / c = x / c := by omega
      have := h' (by omega)
      rw [show (m : Int) - 1 = x / c by omega] at this
      rw [hq] at e'
      omega
    · rintro (h | ⟨_, h2, h3⟩)
      · omega
      · rw [h3] at e
        have hq : y / c = x / c := ediv_eq_of hc (r := y - x) (by omega) (by omega) h2
        refine ⟨by omega, fun _ => ?_⟩
        rw [show (m : Int) - 1 = x / c by omega]
        omega

/-- **the absorbing regions in arithmetic, for every length** (clamped start and stop); the four cases are put in words at
    `C11_slice_region_abs_arith_small` -/
theorem slice_region_abs_arith (n A B : Nat) (c : Int) (hA : A ≤ n) (hB : B ≤ n) :
    (SliceRegionFwdAbs n A B c ↔
      (c > 0 ∧ ((A : Int) = n ∨ (A < B ∧ ((n : Int) - 1 - A) / c = ((B : Int) - 1 - A) / c))) ∨
      (c < 0 ∧ ((B : Int) = 0 ∨ (A < B ∧ ((B : Int) - 1) % (-c) ≥ A))) ∨ c = 0) ∧
    (SliceRegionBwdAbs n A B c ↔
      (c > 0 ∧ ((B : Int) = 0 ∨ (A < B ∧ (A : Int) < c ∧ ((B : Int) - 1 - A) % c = 0))) ∨
      (c < 0 ∧ ((A : Int) = n ∨ (A < B ∧ (B : Int) > n + c ∧ ((B : Int) - 1 - A) % (-c) = 0))) ∨ c = 0) := by
  unfold SliceRegionFwdAbs SliceRegionBwdAbs sliceVisitFwd sliceVisitBwd
  rcases Int.lt_trichotomy c 0 with hc | rfl | hc
  · have hK : 0 < -c := by omega
    have L : ∀ P Q : Prop, ((c > 0 ∧ P) ∨ (c < 0 ∧ Q) ∨ c = 0) ↔ Q := fun P Q =>
      ⟨fun h => by rcases h with ⟨h, _⟩ | ⟨_, h⟩ | h <;> first | exact h | omega, fun h => Or.inr (Or.inl ⟨hc, h⟩)⟩
    rw [if_neg (by omega), if_pos hc, if_neg (by omega), if_pos hc, L, L]
    refine ⟨visitFwd_neg_iff A B c hc, ?_⟩
    -- the walk goes up from `start` in steps of `-c`, the definition selects down from `stop - 1`
    rw [rangeList_of_pos _ _ _ hK, rangeList_of_neg _ _ _ hc, progression_eq_reverse_iff, ← rangeLen_neg A B]
    have hm := Int.neg_mul c ((rangeLen A B (-c) : Int) - 1)
    have := visitBwd_iff ((B : Int) - 1) A (-c) hK (rangeLen A B (-c)) (rangeLen A n (-c)) _ _ (rangeLen_quot A B (-c) hK)
      (rangeLen_quot A n (-c) hK) rfl (by omega)
    constructor
    · intro h; have := this.mp ⟨h.1, fun hp => by have := h.2 hp; omega⟩; omega
    · intro h; have := this.mpr (by omega); exact ⟨this.1, fun hp => by have := this.2 hp; omega⟩
  · exact ⟨⟨fun _ => Or.inr (Or.inr rfl), fun _ => rfl⟩, ⟨fun _ => Or.inr (Or.inr rfl), fun _ => rfl⟩⟩
  · have L : ∀ P Q : Prop, ((c > 0 ∧ P) ∨ (c < 0 ∧ Q) ∨ c = 0) ↔ P := fun P Q =>
      ⟨fun h => by rcases h with ⟨_, h⟩ | ⟨h, _⟩ | h <;> first | exact h | omega, fun h => Or.inl ⟨hc, h⟩⟩
    rw [if_pos hc, if_pos hc, L, L]
    refine ⟨visitFwd_pos_iff n A B c hc hA hB, ?_⟩
    -- the walk comes down from `stop - 1` in steps of `c`, the definition selects up from `start`
    rw [rangeList_of_neg _ _ _ (show -c < 0 by omega), rangeList_of_pos _ _ _ hc, progression_eq_reverse_iff, rangeLen_neg]
    have h0 := rangeLen_quot 0 B c hc
    rw [Int.sub_zero] at h0
    have := visitBwd_iff ((B : Int) - 1) A c hc (rangeLen A B c) (rangeLen 0 B c) _ _ (rangeLen_quot A B c hc) h0 rfl (by omega)
    rw [this]
    constructor <;> intro h <;> omega

end Cello.Iter
