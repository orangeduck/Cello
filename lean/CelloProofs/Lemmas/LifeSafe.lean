/-
  Lemmas for C06: *safety* of every piece of the collector, from every state — destructors that allocate included.

  A destructor that allocates re-enters `GC_Set` and may run a nested collection that replaces the pending list of the
  sweep in progress (known finding KF-C06-dtor-alloc): objects are lost.  The exact effect (`Eff` with `Good`, LifeFin) does not
  survive that.  What does survive is safety: no object is ever finalised or released twice, none is released
  before it is finalised.  The argument: an object is finalised only at the moment it leaves the collector's tables (or,
  raw, when the program releases it), nothing that has left them ever comes back, and what enters them (the objects that
  destructors allocate) has fresh identities.

  Proved for every configuration with both halves of fix 5c00ad8, with or without the repair proposed for
  KF-C06-dtor-alloc (`c.setGuardsSweep`, `c.teardownRepeats`).
-/
import CelloProofs.Lemmas.LifeBasic

namespace Cello.Life

/-- appending `E` to a ledger `L` keeps "every object: no event, or exactly one `fin` then one `free`" -/
def GoodExt (L E : List Ev) : Prop := ∀ x, Clean x E ∨ (Clean x L ∧ Once x E)

theorem GoodExt.nil (L : List Ev) : GoodExt L [] := fun x => Or.inl (Clean.nil x)

theorem GoodExt.append {L E1 E2 : List Ev} (h1 : GoodExt L E1) (h2 : GoodExt (L ++ E1) E2) : GoodExt L (E1 ++ E2) := by
  intro x
  rcases h1 x with c1 | ⟨cl, o1⟩
  · rcases h2 x with c2 | ⟨cl2, o2⟩
    · exact Or.inl (clean_append.2 ⟨c1, c2⟩)
    · exact Or.inr ⟨(clean_append.1 cl2).1, Once.append_left c1 o2⟩
  · rcases h2 x with c2 | ⟨cl2, _⟩
    · exact Or.inr ⟨cl, o1.append_right c2⟩
    · exact absurd (clean_append.1 cl2).2 o1.not_clean

theorem GoodExt.bracket {L E : List Ev} {a : Addr} (h : GoodExt (L ++ [Ev.fin a]) E) (ha : Clean a L) :
    GoodExt L (Ev.fin a :: (E ++ [Ev.free a])) := by
  intro x
  by_cases hx : x = a
  · subst hx
    rcases h x with c | ⟨cl, _⟩
    · exact Or.inr ⟨ha, Once.own_bracket c⟩
    · exact absurd List.mem_cons_self (clean_append.1 cl).2.1
  · rcases h x with c | ⟨cl, o⟩
    · exact Or.inl (clean_bracket hx c)
    · exact Or.inr ⟨(clean_append.1 cl).1, o.bracket hx⟩

theorem GoodExt.total {L E : List Ev} (hL : ∀ x, Clean x L ∨ Once x L) (h : GoodExt L E) :
    ∀ x, Clean x (L ++ E) ∨ Once x (L ++ E) := by
  intro x
  rcases h x with c | ⟨cl, o⟩
  · rcases hL x with c0 | o0
    · exact Or.inl (clean_append.2 ⟨c0, c⟩)
    · exact Or.inr (o0.append_right c)
  · exact Or.inr (Once.append_left cl o)

def kidsOf (p : Addr × List DAlloc) : List Addr := p.2.map (·.addr)

/-- `x` will be allocated by a destructor that has not run yet -/
def Kids (s : St) (x : Addr) : Prop := ∃ p ∈ s.dalloc, Clean p.1 s.log ∧ x ∈ kidsOf p

/-- the objects the collector may still finalise: those in its tables and those destructors will allocate -/
def Pot (s : St) (x : Addr) : Prop := Tracked s x ∨ Kids s x

/-- holds of the collector state at every moment, the middle of a sweep or of a destructor included (unlike `Inv` of
    LifeInv, the invariant between two operations, which needs an empty pending list) -/
structure Safe (s : St) : Prop where
  /-- nothing the collector may still finalise has a ledger event yet -/
  inert : ∀ x, Pot s x → Clean x s.log
  disj : Disj s
  nodup : s.regAddrs.Nodup
  kids_untracked : ∀ x, Kids s x → ¬ Tracked s x
  kids_nodup : ∀ p ∈ s.dalloc, (kidsOf p).Nodup
  kids_disj : ∀ p ∈ s.dalloc, ∀ p' ∈ s.dalloc, p.1 ≠ p'.1 → ∀ x, x ∈ kidsOf p → x ∉ kidsOf p'

/-- a piece of collector work from `s` to `s'` that appended `E`; `A` = objects besides the potential ones of `s` that it
    may have finalised (`ev`) or taken into its tables (`pot`).  An upper bound on what was touched, where `Worked`
    (LifeFin) gives the exact set -/
structure Work (A : Addr → Prop) (s s' : St) (E : List Ev) : Prop where
  log : s'.log = s.log ++ E
  running : s'.running = s.running
  owns : s'.owns = s.owns
  dalloc : s'.dalloc = s.dalloc
  pot : ∀ x, Pot s' x → Pot s x ∨ A x
  ev : ∀ x, ¬ Clean x E → Pot s x ∨ A x
  good : GoodExt s.log E
  safe : Safe s'

theorem Work.refl {A : Addr → Prop} {s : St} (h : Safe s) : Work A s s [] :=
  ⟨by simp, rfl, rfl, rfl, fun x hx => Or.inl hx, fun x hx => absurd (Clean.nil x) hx, GoodExt.nil _, h⟩

theorem Work.weaken {A B : Addr → Prop} {s s' : St} {E : List Ev} (h : Work A s s' E) (hab : ∀ x, A x → Pot s x ∨ B x) :
    Work B s s' E :=
  ⟨h.log, h.running, h.owns, h.dalloc,
   fun x hx => (h.pot x hx).elim Or.inl (hab x), fun x hx => (h.ev x hx).elim Or.inl (hab x), h.good, h.safe⟩

theorem Work.trans {A : Addr → Prop} {s s1 s2 : St} {E1 E2 : List Ev} (h1 : Work A s s1 E1) (h2 : Work A s1 s2 E2) :
    Work A s s2 (E1 ++ E2) := by
  refine ⟨by rw [h2.log, h1.log, List.append_assoc], by rw [h2.running, h1.running], by rw [h2.owns, h1.owns],
    by rw [h2.dalloc, h1.dalloc], ?_, ?_, ?_, h2.safe⟩
  · intro x hx
    rcases h2.pot x hx with h | h
    · exact h1.pot x h
    · exact Or.inr h
  · intro x hx
    by_cases hx1 : Clean x E1
    · have hx2 : ¬ Clean x E2 := fun c => hx (clean_append.2 ⟨hx1, c⟩)
      rcases h2.ev x hx2 with h | h
      · exact h1.pot x h
      · exact Or.inr h
    · exact h1.ev x hx1
  · exact h1.good.append (by rw [← h1.log]; exact h2.good)

theorem Work.untouched {A : Addr → Prop} {s s' : St} {E : List Ev} (w : Work A s s' E) {x : Addr} (hp : ¬ Pot s x)
    (ha : ¬ A x) (hc : Clean x s.log) : ¬ Pot s' x ∧ Clean x s'.log :=
  ⟨fun hp' => (w.pot x hp').elim hp ha,
   by rw [w.log]; exact clean_append.2 ⟨hc, Classical.byContradiction fun hnc => (w.ev x hnc).elim hp ha⟩⟩

theorem Kids.mono {s s' : St} {E : List Ev} (hd : s'.dalloc = s.dalloc) (hl : s'.log = s.log ++ E) {x : Addr}
    (h : Kids s' x) : Kids s x := by
  obtain ⟨p, hp, hc, hx⟩ := h
  rw [hd] at hp
  rw [hl] at hc
  exact ⟨p, hp, (clean_append.1 hc).1, hx⟩

theorem Kids.congr {s s' : St} (hl : s'.log = s.log) (hd : s'.dalloc = s.dalloc) {x : Addr} : Kids s' x ↔ Kids s x := by
  unfold Kids; rw [hl, hd]

theorem Safe.of_sub {s s1 : St} (h : Safe s) (hl : s1.log = s.log) (hd : s1.dalloc = s.dalloc)
    (ht : ∀ x, Tracked s1 x → Tracked s x) (hdj : Disj s1) (hn : s1.regAddrs.Nodup) : Safe s1 := by
  have hk : ∀ x, Kids s1 x ↔ Kids s x := fun x => Kids.congr hl hd
  refine ⟨?_, hdj, hn, ?_, by rw [hd]; exact h.kids_nodup, by rw [hd]; exact h.kids_disj⟩
  · intro x hx
    rw [hl]
    rcases hx with hx | hx
    · exact h.inert x (Or.inl (ht x hx))
    · exact h.inert x (Or.inr ((hk x).1 hx))
  · intro x hx htx
    exact h.kids_untracked x ((hk x).1 hx) (ht x htx)

theorem Pot.of_sub {s s1 : St} (hl : s1.log = s.log) (hd : s1.dalloc = s.dalloc)
    (ht : ∀ x, Tracked s1 x → Tracked s x) {x : Addr} (hx : Pot s1 x) : Pot s x := by
  rcases hx with hx | hx
  · exact Or.inl (ht x hx)
  · exact Or.inr ((Kids.congr hl hd).1 hx)

/-- a step that only shrinks the tables -/
theorem Work.of_sub {A : Addr → Prop} {s s1 : St} (h : Safe s) (hl : s1.log = s.log) (hd : s1.dalloc = s.dalloc)
    (hru : s1.running = s.running) (ho : s1.owns = s.owns)
    (ht : ∀ x, Tracked s1 x → Tracked s x) (hdj : Disj s1) (hn : s1.regAddrs.Nodup) : Work A s s1 [] :=
  ⟨by simp [hl], hru, ho, hd, fun x hx => Or.inl (Pot.of_sub hl hd ht hx), fun x hx => absurd (Clean.nil x) hx,
   GoodExt.nil _, h.of_sub hl hd ht hdj hn⟩

theorem Work.of_eff {A : Addr → Prop} {s s1 : St} {D : List Addr} (h : Safe s) (he : Eff s s1 D []) : Work A s s1 [] :=
  Work.of_sub h (he.log.trans (List.append_nil _)) he.dalloc he.running he.owns (fun x hx => ((he.tracked x).1 hx).1)
    (he.disj h.disj) (he.nodup h.nodup)

theorem Work.set_mitems {A : Addr → Prop} {s s' : St} {E : List Ev} (h : Work A s s' E) (m : Nat) :
    Work A s { s' with mitems := m } E :=
  ⟨h.log, h.running, h.owns, h.dalloc, fun x hx => h.pot x (Pot.of_sub rfl rfl (fun _ h => h) hx), h.ev, h.good,
   h.safe.of_sub rfl rfl (fun _ h => h) h.safe.disj h.safe.nodup⟩

/-- what a finaliser (`dealloc(destruct(·))`) must guarantee: called on an object that is in no table, that no destructor
    will allocate and that has no ledger event, it does safe work and touches nothing else but potential objects -/
def FinOK (fin : St → Addr → St) : Prop :=
  ∀ s a, Safe s → ¬ Pot s a → Clean a s.log → ∃ E, Work (· = a) s (fin s a) E

/-- what a sweep must guarantee: from any safe state it does safe work and touches potential objects only -/
def SweepOK (sw : St → List Addr → List Addr → St) : Prop :=
  ∀ s marks order, Safe s → ∃ E, Work (fun _ => False) s (sw s marks order) E

theorem foldl_safe {α : Type} {f : St → α → St} (hf : ∀ s x, Safe s → ∃ E, Work (fun _ => False) s (f s x) E)
    (l : List α) : ∀ s, Safe s → ∃ E, Work (fun _ => False) s (l.foldl f s) E := by
  induction l with
  | nil => intro s h; exact ⟨[], Work.refl h⟩
  | cons x l ih =>
    intro s h
    obtain ⟨E1, w1⟩ := hf s x h
    obtain ⟨E2, w2⟩ := ih _ w1.safe
    exact ⟨E1 ++ E2, w1.trans w2⟩

section
variable {fin : St → Addr → St} (hfin : FinOK fin)
include hfin

/-- an object has just been taken off the tables (`s1`) and is handed to the finaliser -/
theorem work_remove {s s1 : St} {a : Addr} (h : Safe s) (ha : Tracked s a) (he : Eff s s1 [a] []) :
    ∃ E, Work (fun _ => False) s (fin s1 a) E := by
  have w1 : Work (· = a) s s1 [] := Work.of_eff h he
  have hnp : ¬ Pot s1 a := by
    rintro (hx | hx)
    · exact ((he.tracked a).1 hx).2 (List.mem_singleton.2 rfl)
    · exact h.kids_untracked a (Kids.mono he.dalloc he.log hx) ha
  have hcl : Clean a s1.log := by rw [he.log, List.append_nil]; exact h.inert a (Or.inl ha)
  obtain ⟨E, w2⟩ := hfin s1 a w1.safe hnp hcl
  refine ⟨[] ++ E, (w1.trans w2).weaken ?_⟩
  intro x hx; subst hx; exact Or.inl (Or.inl ha)

theorem gcRem_safe {c : Cfg} (hc : c.remFinalisesPending = true) (s : St) (x : Addr) (h : Safe s) :
    ∃ E, Work (fun _ => False) s (gcRem fin c s x) E := by
  by_cases hr : s.running = true
  · rw [gcRem_running hr]
    suffices hs : ∃ E, Work (fun _ => False) s (gcRemPtr fin c s x) E from hs.imp fun E w => w.set_mitems _
    by_cases hp : some x ∈ s.pending
    · rw [gcRemPtr_pending hc hp]
      exact work_remove hfin h (Or.inl hp) (Eff.strike h.disj hp)
    · by_cases hg : x ∈ s.regAddrs
      · rw [gcRemPtr_reg hp hg]
        exact work_remove hfin h (Or.inr hg) (Eff.erase hp)
      · rw [gcRemPtr_untracked (not_or.2 ⟨hp, hg⟩)]
        exact ⟨[], Work.refl h⟩
  · rw [gcRem_stopped (by simpa using hr)]
    exact ⟨[], Work.refl h⟩

theorem sweepLoopWith_safe {c : Cfg} (hc : c.sweepNullsSlot = true) (todo : List Addr) :
    ∀ s, Safe s → ∃ E, Work (fun _ => False) s (sweepLoopWith fin c todo s) E := by
  induction todo with
  | nil => intro s h; exact ⟨[], Work.refl h⟩
  | cons a rest ih =>
    intro s h
    by_cases hp : some a ∈ s.pending
    · rw [sweepLoopWith_cons_pending hc hp]
      obtain ⟨E1, w1⟩ := work_remove hfin h (Or.inl hp) (Eff.strike h.disj hp)
      obtain ⟨E2, w2⟩ := ih _ w1.safe
      exact ⟨E1 ++ E2, w1.trans w2⟩
    · rw [sweepLoopWith_cons_gone hp]
      exact ih s h

/-- **a sweep is safe from any state** — also from the middle of another sweep, whose pending list it replaces: the objects
    that were waiting on it are simply in no table any more -/
theorem sweepWith_safe {c : Cfg} (hc : c.sweepNullsSlot = true) : SweepOK (sweepWith fin c) := by
  intro s marks order h
  have w1 : Work (fun _ => False) s (sweep1 s marks order) [] :=
    Work.of_sub h rfl rfl rfl rfl (fun x hx => Or.inr (tracked_sweep1.1 hx)) (disj_sweep1 h.nodup marks order)
      (nodup_sweep1 h.nodup marks order)
  obtain ⟨E, w2⟩ := sweepLoopWith_safe hfin hc (pendingOf s marks order) _ w1.safe
  have w3 : Work (fun _ => False) (sweepLoopWith fin c (pendingOf s marks order) (sweep1 s marks order))
      { sweepLoopWith fin c (pendingOf s marks order) (sweep1 s marks order) with pending := [] } [] :=
    Work.of_sub w2.safe rfl rfl rfl rfl (fun x hx => hx.elim (fun h => by simp at h) Or.inr) (fun a ha => by simp at ha)
      w2.safe.nodup
  rw [sweepWith_eq]
  exact ⟨[] ++ E ++ [], (w1.trans w2).trans w3⟩

end

theorem Work.register {s : St} {a : Addr} (h : Safe s) (ha : ¬ Pot s a) (hcl : Clean a s.log) (root : Bool) :
    Work (· = a) s { s with reg := s.reg ++ [⟨a, root⟩] } [] := by
  have htr : ∀ x, Tracked { s with reg := s.reg ++ [⟨a, root⟩] } x → Tracked s x ∨ x = a := fun x hx =>
    hx.elim (fun hp => Or.inl (Or.inl hp)) fun hr => (mem_regAddrs_register.1 hr).imp_left Or.inr
  have hpot : ∀ x, Pot { s with reg := s.reg ++ [⟨a, root⟩] } x → Pot s x ∨ x = a := fun x hx =>
    hx.elim (fun ht => (htr x ht).imp_left Or.inl) fun hk => Or.inl (Or.inr hk)
  exact {
    log := (List.append_nil _).symm, running := rfl, owns := rfl, dalloc := rfl
    pot := hpot
    ev := fun x hx => absurd (Clean.nil x) hx
    good := GoodExt.nil _
    safe := {
      inert := fun x hx => (hpot x hx).elim (h.inert x) fun e => e ▸ hcl
      disj := fun x hx hr => (mem_regAddrs_register.1 hr).elim (h.disj x hx) fun e => ha (Or.inl (Or.inl (e ▸ hx)))
      nodup := nodup_regAddrs_register h.nodup (fun hr => ha (Or.inl (Or.inr hr))) root
      kids_untracked := fun x hk ht => (htr x ht).elim (h.kids_untracked x hk) fun e => ha (Or.inr (e ▸ hk))
      kids_nodup := h.kids_nodup
      kids_disj := h.kids_disj } }

theorem gcSet_safe {sw : St → List Addr → List Addr → St} (hsw : SweepOK sw) (c : Cfg)
    (s : St) (a : Addr) (root : Bool) (marks order : List Addr) (h : Safe s) (ha : ¬ Pot s a) (hcl : Clean a s.log) :
    ∃ E, Work (· = a) s (gcSet sw c s a root marks order) E := by
  by_cases hr : s.running = true
  · have w1 := Work.register h ha hcl root
    rw [gcSet_running hr]
    split
    · obtain ⟨E, w2⟩ := hsw _ (markBits c { s with reg := s.reg ++ [⟨a, root⟩] } marks) order w1.safe
      exact ⟨[] ++ E, w1.trans (w2.weaken fun _ hx => hx.elim)⟩
    · exact ⟨[], w1⟩
  · rw [gcSet_stopped (by simpa using hr)]
    exact ⟨[], Work.refl h⟩

theorem Safe.log_append {t : St} (h : Safe t) (E : List Ev) (hE : ∀ y, Pot t y → Clean y E) :
    Safe { t with log := t.log ++ E } ∧ ∀ y, Pot { t with log := t.log ++ E } y → Pot t y := by
  have hk : ∀ y, Kids { t with log := t.log ++ E } y → Kids t y := fun y =>
    Kids.mono (s := t) (s' := { t with log := t.log ++ E }) rfl rfl
  have hp : ∀ y, Pot { t with log := t.log ++ E } y → Pot t y := fun y => Or.imp_right (hk y)
  exact ⟨⟨fun y hy => clean_append.2 ⟨h.inert y (hp y hy), hE y (hp y hy)⟩, h.disj, h.nodup,
    fun y hy => h.kids_untracked y (hk y hy), h.kids_nodup, h.kids_disj⟩, hp⟩

theorem kidsFold_safe {sw : St → List Addr → List Addr → St} (hsw : SweepOK sw) (c : Cfg) (l : List DAlloc) :
    ∀ t : St, Safe t → (l.map (·.addr)).Nodup → (∀ d ∈ l, ¬ Pot t d.addr ∧ Clean d.addr t.log) →
      ∃ E, Work (fun x => x ∈ l.map (·.addr)) t
        (l.foldl (fun st d => gcSet sw c st d.addr false d.marks d.order) t) E := by
  induction l with
  | nil => intro t h _ _; exact ⟨[], Work.refl h⟩
  | cons d l ih =>
    intro t h hnd hv
    rw [List.map_cons, List.nodup_cons] at hnd
    obtain ⟨hd1, hd2⟩ := hv d List.mem_cons_self
    obtain ⟨E1, w1⟩ := gcSet_safe hsw c t d.addr false d.marks d.order h hd1 hd2
    have hv' : ∀ d' ∈ l, ¬ Pot (gcSet sw c t d.addr false d.marks d.order) d'.addr ∧
        Clean d'.addr (gcSet sw c t d.addr false d.marks d.order).log := fun d' hd' =>
      have hne : d'.addr ≠ d.addr := fun e => hnd.1 (e ▸ List.mem_map.2 ⟨d', hd', rfl⟩)
      w1.untouched (hv d' (List.mem_cons_of_mem _ hd')).1 hne (hv d' (List.mem_cons_of_mem _ hd')).2
    obtain ⟨E2, w2⟩ := ih _ w1.safe hnd.2 hv'
    exact ⟨E1 ++ E2, (w1.weaken fun x hx => Or.inr (List.mem_cons.2 (Or.inl hx))).trans
      (w2.weaken fun x hx => Or.inr (List.mem_cons_of_mem _ hx))⟩

theorem dallocOf_mem (s : St) (a : Addr) : s.dallocOf a = [] ∨ (a, s.dallocOf a) ∈ s.dalloc := by
  unfold St.dallocOf
  cases hf : s.dalloc.find? (fun p => p.1 == a) with
  | none => exact Or.inl rfl
  | some p =>
    have hp : p.1 = a := by simpa using List.find?_some hf
    exact Or.inr (hp ▸ List.mem_of_find?_eq_some hf)

/-- a destructor's bracket around safe work: `fin a` is logged, the body works (touching, besides potential objects of the
    state after the `fin`, only `B`), `free a` is logged -/
theorem Work.bracket {B : Addr → Prop} {s t : St} {a : Addr} {E : List Ev} (hnp : ¬ Pot s a) (hcl : Clean a s.log)
    (w : Work B { s with log := s.log ++ [Ev.fin a] } t E) (hB : ∀ x, B x → Pot s x) :
    Work (· = a) s { t with log := t.log ++ [Ev.free a] } (Ev.fin a :: (E ++ [Ev.free a])) := by
  have hpot1 : ∀ y, Pot { s with log := s.log ++ [Ev.fin a] } y ∨ B y → Pot s y := fun y hy =>
    hy.elim (Or.imp_right (Kids.mono (s := s) (s' := { s with log := s.log ++ [Ev.fin a] }) rfl rfl)) (hB y)
  obtain ⟨hsafe, hpot⟩ := w.safe.log_append [Ev.free a] fun y hy => by
    rw [clean_cons_free]
    exact ⟨fun e => hnp (e ▸ hpot1 y (w.pot y hy)), Clean.nil y⟩
  refine ⟨?_, w.running, w.owns, w.dalloc, fun y hy => Or.inl (hpot1 y (w.pot y (hpot y hy))), ?_, w.good.bracket hcl, hsafe⟩
  · show t.log ++ [Ev.free a] = _
    rw [w.log]; simp
  · intro y hy
    by_cases hya : y = a
    · exact Or.inr hya
    · exact Or.inl (hpot1 y (w.ev y fun hc => hy (clean_bracket hya hc)))

section
-- both halves of fix 5c00ad8 are present
variable {c : Cfg} (hc1 : c.remFinalisesPending = true) (hc2 : c.sweepNullsSlot = true)
include hc1 hc2

theorem finalise_safe : ∀ f : Nat, FinOK (finalise f c) := by
  intro f
  induction f with
  | zero => intro s a h _ _; exact ⟨[], Work.refl h⟩
  | succ f ih =>
    intro s a h hnp hcl
    -- the objects the destructor of `a` allocates
    have hmem : ∀ d ∈ s.dallocOf a, (a, s.dallocOf a) ∈ s.dalloc ∧ d.addr ∈ kidsOf (a, s.dallocOf a) := fun d hd =>
      ⟨(dallocOf_mem s a).resolve_left (List.ne_nil_of_mem hd), List.mem_map.2 ⟨d, hd, rfl⟩⟩
    have hkids : ∀ d ∈ s.dallocOf a, Kids s d.addr := fun d hd => ⟨_, (hmem d hd).1, hcl, (hmem d hd).2⟩
    have hknd : ((s.dallocOf a).map (·.addr)).Nodup := by
      rcases dallocOf_mem s a with he | hp
      · rw [he]; exact List.nodup_nil
      · exact h.kids_nodup _ hp
    -- `fin a` is logged; what the destructor allocates is not potential any more
    obtain ⟨hsafe1, _⟩ := h.log_append [Ev.fin a] fun y hy => by
      rw [clean_cons_fin]
      exact ⟨fun e => hnp (e ▸ hy), Clean.nil y⟩
    have hv : ∀ d ∈ s.dallocOf a, ¬ Pot { s with log := s.log ++ [Ev.fin a] } d.addr ∧
        Clean d.addr (s.log ++ [Ev.fin a]) := by
      intro d hd
      have hk := hkids d hd
      refine ⟨?_, ?_⟩
      · rintro (ht | ⟨p', hp', hc', hx'⟩)
        · exact h.kids_untracked _ hk ht
        · have hne' : a ≠ p'.1 := fun e => (clean_append.1 (e ▸ hc')).2.1 (by simp)
          exact h.kids_disj _ (hmem d hd).1 p' hp' hne' d.addr (hmem d hd).2 hx'
      · have hne : d.addr ≠ a := fun e => hnp (Or.inr (e ▸ hk))
        exact clean_append.2 ⟨h.inert _ (Or.inr hk), by rw [clean_cons_fin]; exact ⟨hne, Clean.nil _⟩⟩
    obtain ⟨E1, w1⟩ := kidsFold_safe (sweepWith_safe ih hc2) c (s.dallocOf a) _ hsafe1 hknd hv
    obtain ⟨E2, w2⟩ := foldl_safe (f := fun st x => gcRem (finalise f c) c st x)
      (fun st x hst => gcRem_safe ih hc1 st x hst) (s.ownsOf a) _ w1.safe
    have w := w1.trans (w2.weaken fun _ hx => hx.elim)
    have w := w.trans (Work.of_eff w.safe (Eff.maybe_null c (s.nulldel.contains a) _))
    rw [List.append_nil] at w
    refine ⟨_, w.bracket hnp hcl fun x hx => ?_⟩
    obtain ⟨d, hd, rfl⟩ := List.mem_map.1 hx
    exact Or.inr (hkids d hd)

theorem sweep_safe : SweepOK (sweep c) :=
  fun s marks order h => sweepWith_safe (finalise_safe hc1 hc2 _) hc2 s marks order h

theorem sweepAll_safe (order : List Addr) :
    ∀ (n : Nat) (s : St), Safe s → ∃ E, Work (fun _ => False) s (sweepAll c n s order) E := by
  intro n
  induction n with
  | zero => intro s h; exact ⟨[], Work.refl h⟩
  | succ n ih =>
    intro s h
    obtain ⟨E1, w1⟩ := sweep_safe hc1 hc2 s [] order h
    show ∃ E, Work _ s (if ((sweep c s [] order).reg.any fun e => !e.root) = true
      then sweepAll c n (sweep c s [] order) order else sweep c s [] order) E
    split
    · obtain ⟨E2, w2⟩ := ih _ w1.safe
      exact ⟨E1 ++ E2, w1.trans w2⟩
    · exact ⟨E1, w1⟩

theorem allocBy_safe (s : St) (a : Addr) (k : Kind) (marks order : List Addr) (h : Safe s) (ha : ¬ Pot s a) (hcl : Clean a s.log) :
    ∃ E, Work (· = a) s (allocBy c s a k marks order) E := by
  cases k with
  | raw => exact ⟨[], Work.refl h⟩
  | _ => exact gcSet_safe (sweep_safe hc1 hc2) c s a _ marks order h ha hcl

/-- the operations that hand objects already in the tables to the collector — `collect`, `teardown`, `del`/`del_root` — are
    safe work that touches potential objects only (allocations: `allocBy_safe`; releases of raw objects: `finalise_safe`) -/
theorem step_safe (s : St) (h : Safe s) :
    (∀ marks order, ∃ E, Work (fun _ => False) s (step c s (.collect marks order)) E) ∧
    (∀ order, ∃ E, Work (fun _ => False) s (step c s (.teardown order)) E) ∧
    (∀ a k, k ≠ Kind.raw → ∃ E, Work (fun _ => False) s (step c s (.del a k)) E) := by
  refine ⟨fun marks order => sweep_safe hc1 hc2 s (markBits c s marks) order h, ?_, ?_⟩
  · intro order
    show ∃ E, Work _ s (if c.teardownRepeats then sweepAll c (fuelFor s) s order else sweep c s (teardownBits c s) order) E
    split
    · exact sweepAll_safe hc1 hc2 order _ s h
    · exact sweep_safe hc1 hc2 s (teardownBits c s) order h
  · intro a k hk
    rw [step_del c s a hk]
    exact gcRem_safe (finalise_safe hc1 hc2 _) hc1 s a h

end

end Cello.Life
