/- What the specifications of the mutated containers are written in, for C11: the position a C index names (`idxOf`), what it means that a
   mutation meets its specification (`Meets`, for any container and invariant), and why every history then does (`history_meets`,
   `history_no_undef`).  List, Array and Table are its instances (IterMutListOps, IterMutArray, IterMutKeyed). -/
import Cello.IterMut
import CelloProofs.Lemmas.IterRun

namespace Cello.Iter

/-- `i = i < 0 ? n+i : i` -/
def normI (n : Nat) (i : Int) : Int := if i < 0 then (n : Int) + i else i

/-- the position a C index names in a sequence of `n` elements, `none` = out of bounds -/
def idxOf (n : Nat) (i : Int) : Option Nat :=
  if normI n i < 0 ∨ normI n i ≥ (n : Int) then none else some (normI n i).toNat

-- `idxOf n i` is the model's `normIdx n i` with `normI` named (the two are equal by `rfl`): its lemmas are those of `normIdx`
theorem idxOf_eq_some {n : Nat} {i : Int} {k : Nat} (h : idxOf n i = some k) : normI n i = k ∧ k < n :=
  normIdx_some h

theorem idxOf_ofNat {n i : Nat} (h : i < n) : idxOf n (Int.ofNat i) = some i := normIdx_ofNat h

/-- from a state `s` that stands for the abstract value `v` (`R s v`: the invariant of the container), the result `r` of a mutation is what
    `sp` — the new abstract value and the outcome — prescribes: that outcome, a state that stands for that value, and `s` itself when the
    outcome is an exception -/
def Meets {S V : Type} (R : S → V → Prop) (s : S) (r : S × MOut) (sp : V × MOut) : Prop :=
  ∃ s', r = (s', sp.2) ∧ R s' sp.1 ∧ (sp.2 ≠ .ok → s' = s)

theorem Meets.ok {S V : Type} {R : S → V → Prop} {s s' : S} {v' : V} {sp : V × MOut} (h : R s' v') (hs : sp = (v', .ok)) :
    Meets R s (s', .ok) sp :=
  hs ▸ ⟨s', rfl, h, fun c => absurd rfl c⟩

theorem Meets.raise {S V : Type} {R : S → V → Prop} {s : S} {v : V} {e : MOut} {sp : V × MOut} (h : R s v) (hs : sp = (v, e)) :
    Meets R s (s, e) sp :=
  hs ▸ ⟨s, rfl, h, fun _ => rfl⟩

/-- **histories**: `run` is any machine that carries out a history, `specRun` the abstract run of `spec` (its two equations hold by `rfl`
    for `LL.specRun`, `AR.specRun`, `keyedRun`).  All that is asked of `run`: from a state that stands for `v`, one operation takes it to a
    state that stands for the value `spec` prescribes, with the outcome it prescribes. -/
theorem history_meets {S V Op : Type} (R : S → V → Prop) (spec : V → Op → V × MOut)
    (run : S → List Op → S × List MOut) (specRun : V → List Op → V × List MOut)
    (run_nil : ∀ s, run s [] = (s, []))
    (spec_nil : ∀ v, specRun v [] = (v, []))
    (spec_cons : ∀ v op ops, specRun v (op :: ops) =
      ((specRun (spec v op).1 ops).1, (spec v op).2 :: (specRun (spec v op).1 ops).2))
    (hstep : ∀ s v op, R s v → ∃ s1, R s1 (spec v op).1 ∧
      ∀ ops, run s (op :: ops) = ((run s1 ops).1, (spec v op).2 :: (run s1 ops).2)) :
    ∀ (ops : List Op) (s : S) (v : V), R s v → ∃ s', run s ops = (s', (specRun v ops).2) ∧ R s' (specRun v ops).1 := by
  intro ops
  induction ops with
  | nil => intro s v h; rw [run_nil, spec_nil]; exact ⟨s, rfl, h⟩
  | cons op ops ih =>
    intro s v h
    obtain ⟨s1, r1, e1⟩ := hstep s v op h
    obtain ⟨s2, e2, r2⟩ := ih s1 _ r1
    rw [e1, spec_cons, e2]
    exact ⟨s2, rfl, r2⟩

/-- … and the abstract run of a specification that never answers `undef` does not either -/
theorem history_no_undef {V Op : Type} (spec : V → Op → V × MOut) (specRun : V → List Op → V × List MOut)
    (spec_nil : ∀ v, specRun v [] = (v, []))
    (spec_cons : ∀ v op ops, specRun v (op :: ops) =
      ((specRun (spec v op).1 ops).1, (spec v op).2 :: (specRun (spec v op).1 ops).2))
    (hne : ∀ v op, (spec v op).2 ≠ .undef) : ∀ (ops : List Op) (v : V), (specRun v ops).2.contains .undef = false := by
  intro ops
  induction ops with
  | nil => intro v; rw [spec_nil]; rfl
  | cons op ops ih =>
    intro v
    rw [spec_cons, List.contains_cons, Bool.or_eq_false_iff]
    exact ⟨by simpa using fun e => hne v op e.symm, ih _⟩

end Cello.Iter
