/-
  What object domain and depth budget of a construct give its parts; one equation per way a step of the reference
  `eval` or of the machine of Cello/Exn.lean (`throwObj`, `catchPhase`, `runWith` on `seq` and `tryCatch`) can end, so that
  the inductions over programs rewrite and never unfold. Only the endings the proofs meet have an equation: `.nullCmp` and
  a matched NULL object need a program outside `inDomain`; under a filter walk that terminates a body ends `normal`, by a
  jump to this block's buffer, or `abort` (`runWith_safe`, ExnSafe.lean). Last, `tower` and `normalizeMsg`.
-/
import Cello.Exn

namespace Cello.Exn

theorem inDomain_seq {p q : Prog} (hd : inDomain (.seq p q) = true) : inDomain p = true ∧ inDomain q = true :=
  Bool.and_eq_true_iff.mp hd

theorem inDomain_try {b h : Prog} {f : List Nat} (hd : inDomain (.tryCatch b f h) = true) :
    inDomain b = true ∧ 0 ∉ f ∧ inDomain h = true := by
  simpa [inDomain, and_assoc] using hd

theorem evalM_exc_ne_zero (m : List Nat → Nat → Bool) (p : Prog) (x : Nat) :
    ∀ e, x ≠ 0 → inDomain p = true → (evalM m p x).2 = some e → e ≠ 0 := by
  -- the equations of `evalM` in order: 1–4 the leaves, 5 / 6 `seq` (first part raises / completes), 7 `call`,
  -- 8 / 9 / 10 `tryCatch` (body completes / raises and the filter matches / does not match)
  fun_induction evalM m p x with
  | case1 | case8 => intro e _ _ h; cases h
  | case2 e0 => intro e _ hd h; cases h; simpa [inDomain] using hd
  | case3 => intro e _ hd; cases hd
  | case4 x => intro e hx _ h; cases h; exact hx
  | case5 p q x t1 e1 hev ihp => intro e hx hd; exact hev ▸ ihp e hx (inDomain_seq hd).1
  | case6 p q x t1 hev t2 r hev2 _ ihq => intro e hx hd he; exact ihq e hx (inDomain_seq hd).2 (hev2 ▸ he)
  | case7 p x ih => exact ih
  | case9 b f h x t e1 hev hm t2 r hev2 ihb ihh =>
    intro e hx hd he
    exact ihh e (ihb e1 hx (inDomain_try hd).1 (by rw [hev])) (inDomain_try hd).2.2 (hev2 ▸ he)
  | case10 b f h x t e1 hev hm ihb =>
    intro e hx hd he
    cases he
    exact ihb e1 hx (inDomain_try hd).1 (by rw [hev])

theorem evalM_fmatch (p : Prog) (x : Nat) : evalM fmatch p x = eval p x := by
  fun_induction eval p x <;> simp [evalM, *]

theorem eval_exc_ne_zero (p : Prog) (x e : Nat) : x ≠ 0 → inDomain p = true → (eval p x).2 = some e → e ≠ 0 :=
  evalM_fmatch p x ▸ evalM_exc_ne_zero fmatch p x e

section
variable {p b : Prog} {x e : Nat}

-- used by the Props file (three of the four): the induction of ExnRefine.lean runs over `evalM m` and splits on its outcome itself
theorem eval_seq_of_none (q : Prog) (hp : (eval p x).2 = none) :
    eval (.seq p q) x = ((eval p x).1 ++ (eval q x).1, (eval q x).2) := by
  rw [eval, show eval p x = ((eval p x).1, none) from Prod.ext rfl hp]

theorem eval_try_of_none (f : List Nat) (h : Prog) (hb : (eval b x).2 = none) :
    eval (.tryCatch b f h) x = ((eval b x).1, none) := by
  rw [eval, show eval b x = ((eval b x).1, none) from Prod.ext rfl hb]

theorem eval_try_of_match {f : List Nat} (h : Prog) (hb : (eval b x).2 = some e) (hm : fmatch f e = true) :
    eval (.tryCatch b f h) x = ((eval b x).1 ++ [.handler e] ++ (eval h e).1, (eval h e).2) := by
  rw [eval, show eval b x = ((eval b x).1, some e) from Prod.ext rfl hb]
  simp only [hm, if_true]

theorem eval_try_of_nomatch {f : List Nat} (h : Prog) (hb : (eval b x).2 = some e) (hm : fmatch f e = false) :
    eval (.tryCatch b f h) x = ((eval b x).1, some e) := by
  rw [eval, show eval b x = ((eval b x).1, some e) from Prod.ext rfl hb]
  simp only [hm, Bool.false_eq_true, if_false]
end

theorem fits_seq {d m : Nat} {p q : Prog} (hn : d + nest (.seq p q) ≤ m) : d + nest p ≤ m ∧ d + nest q ≤ m :=
  ⟨Nat.le_trans (Nat.add_le_add_left (Nat.le_max_left ..) d) hn,
   Nat.le_trans (Nat.add_le_add_left (Nat.le_max_right ..) d) hn⟩

theorem fits_try {d m : Nat} {b h : Prog} {f : List Nat} (hn : d + nest (.tryCatch b f h) ≤ m) :
    d ≠ m ∧ d + 1 + nest b ≤ m ∧ d + nest h ≤ m := by
  have hb : d + (nest b + 1) ≤ m := Nat.le_trans (Nat.add_le_add_left (Nat.le_max_left ..) d) hn
  have hh : d + nest h ≤ m := Nat.le_trans (Nat.add_le_add_left (Nat.le_max_right ..) d) hn
  exact ⟨Nat.ne_of_lt (Nat.lt_of_lt_of_le (Nat.lt_add_of_pos_right (Nat.succ_pos _)) hb),
    by rwa [Nat.add_assoc, Nat.add_comm 1], hh⟩

theorem throwObj_eq (e : Nat) (s : St) :
    throwObj e s = ({ s with obj := e }, [], if s.depth ≥ 1 then .jump (s.depth - 1) else .fatal) := by
  simp only [throwObj]; split <;> rfl

/-- "escape": `if d ≥ 1 then .jump (d - 1) else .fatal`, how an exception leaves a construct at depth `d` — through the
    innermost enclosing buffer, or out of the program (`throwObj_eq`, `catchPhase_nomatch`, `catchPhase_raises`, `Agrees`;
    `throwObj` itself, the three escaping arms of `catchPhase` and `Safe.escape` have the `if` around the whole result) -/
theorem escape_ne_normal (d : Nat) : (if d ≥ 1 then Sig.jump (d - 1) else .fatal) ≠ .normal := by
  split <;> exact Sig.noConfusion

theorem escape_ne_abort (d : Nat) : (if d ≥ 1 then Sig.jump (d - 1) else .fatal) ≠ .abort := by
  split <;> exact Sig.noConfusion

section
variable {dec : List Nat → Nat → Walk} {c : Bool} {runH : Nat → St → St × List Ev × Sig} {f : List Nat} {t : List Ev}
  {d e : Nat}

/-- after a body that completed: nothing is pending, nothing happens -/
theorem catchPhase_inactive (s3 : St) (hd : s3.depth = d + 1) (ha : s3.active = false) :
    catchPhase dec c runH f s3 t = ({ s3 with depth := d }, t, .normal) := by
  simp [catchPhase, hd, ha]

/-- after the else-branch (`exception_try_fail`: one level in, `e` pending), real object, the filter walk finds it: the
    handler runs with the object bound, one level further out, and nothing is pending (`consume = true`; at `false` the
    flag stays set for the enclosing block, defect F01: `C07_nonconsuming_refuted`) -/
theorem catchPhase_match (he : e ≠ 0) (hm : dec f e = .matched) :
    catchPhase dec true runH f ⟨d + 1, true, e⟩ t =
      ((runH e ⟨d, false, e⟩).1, t ++ [.handler e] ++ (runH e ⟨d, false, e⟩).2.1, (runH e ⟨d, false, e⟩).2.2) := by
  simp [catchPhase, hm, he]

theorem catchPhase_nomatch (hm : dec f e = .exhausted) :
    catchPhase dec c runH f ⟨d + 1, true, e⟩ t = (⟨d, true, e⟩, t, if d ≥ 1 then .jump (d - 1) else .fatal) := by
  simp only [catchPhase, hm]
  by_cases h : d ≥ 1 <;> simp [h]

theorem catchPhase_hangs (hm : dec f e = .hang) :
    catchPhase dec c runH f ⟨d + 1, true, e⟩ t = (⟨d, true, e⟩, t, .hang) := by
  simp [catchPhase, hm]

theorem catchPhase_raises {exc : Nat} (hm : dec f e = .cmpRaises exc) :
    catchPhase dec c runH f ⟨d + 1, true, e⟩ t = (⟨d, true, exc⟩, t, if d ≥ 1 then .jump (d - 1) else .fatal) := by
  simp only [catchPhase, hm]
  by_cases h : d ≥ 1 <;> simp [h]

end

section
variable {dec : List Nat → Nat → Walk} {c : Bool} {m : Nat} {p q b h : Prog} {f : List Nat} {x : Nat} {s s1 s2 : St}
  {t t1 : List Ev} {g : Sig}

theorem runWith_seq_normal (hr : runWith dec c m p x s = (s1, t1, .normal)) :
    runWith dec c m (.seq p q) x s =
      ((runWith dec c m q x s1).1, t1 ++ (runWith dec c m q x s1).2.1, (runWith dec c m q x s1).2.2) := by
  rw [runWith, hr]

theorem runWith_seq_stop (hr : runWith dec c m p x s = (s1, t1, g)) (hg : g ≠ .normal) :
    runWith dec c m (.seq p q) x s = (s1, t1, g) := by
  rw [runWith, hr]; cases g <;> first | rfl | exact absurd rfl hg

theorem runWith_try_full (hd : s.depth = m) : runWith dec c m (.tryCatch b f h) x s = (s, [], .abort) := by
  rw [runWith, if_pos hd]

theorem runWith_try_normal (hd : s.depth ≠ m)
    (hr : runWith dec c m b x { s with depth := s.depth + 1, active := false } = (s2, t, .normal)) :
    runWith dec c m (.tryCatch b f h) x s = catchPhase dec c (runWith dec c m h) f s2 t := by
  rw [runWith, if_neg hd]; simp only [hr]

/-- the body jumps to this block's buffer: `exception_try_fail`, then the catch phase -/
theorem runWith_try_landed (hd : s.depth ≠ m)
    (hr : runWith dec c m b x { s with depth := s.depth + 1, active := false } = (s2, t, .jump s.depth)) :
    runWith dec c m (.tryCatch b f h) x s = catchPhase dec c (runWith dec c m h) f { s2 with active := true } t := by
  rw [runWith, if_neg hd]; simp only [hr, if_true]

theorem runWith_try_abort (hd : s.depth ≠ m)
    (hr : runWith dec c m b x { s with depth := s.depth + 1, active := false } = (s2, t, .abort)) :
    runWith dec c m (.tryCatch b f h) x s = (s2, t, .abort) := by
  rw [runWith, if_neg hd]; simp only [hr]

end

theorem nest_tower (n : Nat) (p : Prog) : nest (tower n p) = nest p + n := by
  induction n with
  | zero => rfl
  | succ n ih => rw [tower, nest, ih, nest, Nat.max_eq_left (Nat.zero_le _)]; rfl

theorem inDomain_tower (n : Nat) (p : Prog) : inDomain (tower n p) = inDomain p := by
  induction n with
  | zero => rfl
  | succ n ih => simp [tower, inDomain, ih]

theorem runWith_normalizeMsg (dec : List Nat → Nat → Walk) (c : Bool) (m : Nat) (p : Prog) :
    runWith dec c m (normalizeMsg p) = runWith dec c m p := by
  induction p with
  | throwBad e => funext x s; simp only [normalizeMsg, runWith, throwObj]
  | call p ih => funext x s; simp only [normalizeMsg, runWith, ih]
  | seq p q ihp ihq => funext x s; simp only [normalizeMsg, runWith, ihp, ihq]
  | tryCatch b f h ihb ihh => funext x s; simp only [normalizeMsg, runWith, ihb, ihh]
  | _ => rfl

theorem nest_normalizeMsg (p : Prog) : nest (normalizeMsg p) = nest p := by
  induction p with
  | call p ih => exact ih
  | seq p q ihp ihq => simp only [normalizeMsg, nest, ihp, ihq]
  | tryCatch b f h ihb ihh => simp only [normalizeMsg, nest, ihb, ihh]
  | _ => rfl

theorem nodupFilters_normalizeMsg (p : Prog) : nodupFilters (normalizeMsg p) = nodupFilters p := by
  induction p with
  | call p ih => exact ih
  | seq p q ihp ihq => simp only [normalizeMsg, nodupFilters, ihp, ihq]
  | tryCatch b f h ihb ihh => simp only [normalizeMsg, nodupFilters, ihb, ihh]
  | _ => rfl

end Cello.Exn
