/- Views, for C11: Map, the embedding, Filter, Zip and enumerate — each closure PER DIRECTION (the forward walk of the view needs only
   the forward walk of its input), closure of `len` / `get` and of Terminal-absorption, and from these the two-directional versions -/
import CelloProofs.Lemmas.IterRun
import CelloProofs.Lemmas.IterRange

namespace Cello.Iter

variable {α β : Type}

theorem map_fwdAs (I : Iterable α) (f : α → β) {l : List α} (h : FwdAs I l) : FwdAs (mapI I f) (l.map f) :=
  fun s => Run.map f (h s)

theorem map_bwdAs (I : Iterable α) (f : α → β) {l : List α} (h : BwdAs I l) : BwdAs (mapI I f) (l.map f) := by
  intro s
  have := Run.map f (h s)
  rw [List.map_reverse] at this; exact this

theorem map_lenGet (I : Iterable α) (f : α → β) {l : List α} (h : LenGetAs I l) : LenGetAs (mapI I f) (l.map f) := by
  refine ⟨fun n hn => by simp [h.len n hn], fun g hg i hi => ?_⟩
  simp only [mapI] at hg
  split at hg
  · next g0 hIg =>
    cases hg
    show Option.map f (g0 (Int.ofNat i)) = _
    rw [h.get g0 hIg i (by simpa using hi)]; simp
  · cases hg

/-- `embI` has the four protocol functions, `len` and `get` of `mapI` (it differs in `getSt` and the two flags, which the `*As` predicates do not read), so each `emb_*` is
    the `map_*` lemma read at `embI` -/
theorem emb_fwdAs (I : Iterable α) (f : α → β) {l : List α} (h : FwdAs I l) : FwdAs (embI I f) (l.map f) := map_fwdAs I f h
theorem emb_bwdAs (I : Iterable α) (f : α → β) {l : List α} (h : BwdAs I l) : BwdAs (embI I f) (l.map f) := map_bwdAs I f h
theorem emb_lenGet (I : Iterable α) (f : α → β) {l : List α} (h : LenGetAs I l) : LenGetAs (embI I f) (l.map f) :=
  let m := map_lenGet I f h
  ⟨m.len, m.get⟩

theorem map_absFwd (I : Iterable α) (f : α → β) {l : List α} (h : AbsFwdAs I l) : AbsFwdAs (mapI I f) (l.map f) :=
  ⟨map_fwdAs I f h.1, fun hne s => Traces.map f (h.2 (mt List.map_eq_nil_iff.mpr hne) s)⟩

theorem map_absBwd (I : Iterable α) (f : α → β) {l : List α} (h : AbsBwdAs I l) : AbsBwdAs (mapI I f) (l.map f) :=
  ⟨map_bwdAs I f h.1, fun hne s => by
    have := Traces.map f (h.2 (mt List.map_eq_nil_iff.mpr hne) s)
    rw [List.map_reverse] at this; exact this⟩

theorem emb_absFwd (I : Iterable α) (f : α → β) {l : List α} (h : AbsFwdAs I l) : AbsFwdAs (embI I f) (l.map f) :=
  let m := map_absFwd I f h
  ⟨m.1, m.2⟩
theorem emb_absBwd (I : Iterable α) (f : α → β) {l : List α} (h : AbsBwdAs I l) : AbsBwdAs (embI I f) (l.map f) :=
  let m := map_absBwd I f h
  ⟨m.1, m.2⟩

theorem filter_fwdAs (I : Iterable α) (p : α → Bool) (fuel : Nat) {l : List α} (h : FwdAs I l) (hf : l.length < fuel) :
    FwdAs (filterI I p fuel) (l.filter p) :=
  fun s => Run.skip p I.next fuel (h s) hf fuel hf

theorem filter_bwdAs (I : Iterable α) (p : α → Bool) (fuel : Nat) {l : List α} (h : BwdAs I l) (hf : l.length < fuel) :
    BwdAs (filterI I p fuel) (l.filter p) := by
  intro s
  have := Run.skip p I.prev fuel (h s) (by simpa using hf) fuel (by simpa using hf)
  rw [List.filter_reverse] at this; exact this

theorem filter_lenGet (I : Iterable α) (p : α → Bool) (fuel : Nat) (l : List α) : LenGetAs (filterI I p fuel) l :=
  ⟨fun n hn => by simp [filterI] at hn, fun g hg => by simp [filterI] at hg⟩

theorem filter_ne_nil {p : α → Bool} {l : List α} (h : l.filter p ≠ []) : l ≠ [] := by
  intro e; exact h (by simp [e])

theorem filter_absFwd (I : Iterable α) (p : α → Bool) (fuel : Nat) {l : List α} (h : AbsFwdAs I l) (hf : l.length < fuel) :
    AbsFwdAs (filterI I p fuel) (l.filter p) :=
  ⟨filter_fwdAs I p fuel h.1 hf, fun hne s => Traces.skip p I.next fuel (h.2 (filter_ne_nil hne) s) hf fuel hf⟩

theorem filter_absBwd (I : Iterable α) (p : α → Bool) (fuel : Nat) {l : List α} (h : AbsBwdAs I l) (hf : l.length < fuel) :
    AbsBwdAs (filterI I p fuel) (l.filter p) :=
  ⟨filter_bwdAs I p fuel h.1 hf, fun hne s => by
    have := Traces.skip p I.prev fuel (h.2 (filter_ne_nil hne) s) (by simpa using hf) fuel (by simpa using hf)
    rw [List.filter_reverse] at this; exact this⟩

theorem map_lawfulAs (I : Iterable α) (f : α → β) {l : List α} (h : LawfulAs I l) : LawfulAs (mapI I f) (l.map f) :=
  .of_lg (map_fwdAs I f h.fwd) (map_bwdAs I f h.bwd) (map_lenGet I f h.lg)

theorem emb_lawfulAs (I : Iterable α) (f : α → β) {l : List α} (h : LawfulAs I l) : LawfulAs (embI I f) (l.map f) :=
  .of_lg (emb_fwdAs I f h.fwd) (emb_bwdAs I f h.bwd) (emb_lenGet I f h.lg)

theorem filter_lawfulAs (I : Iterable α) (p : α → Bool) (fuel : Nat) {l : List α} (h : LawfulAs I l)
    (hf : l.length < fuel) : LawfulAs (filterI I p fuel) (l.filter p) :=
  .of_lg (filter_fwdAs I p fuel h.fwd hf) (filter_bwdAs I p fuel h.bwd hf) (filter_lenGet I p fuel _)

theorem All₂.imp_mem {γ δ : Type _} {R S : γ → δ → Prop} {as : List γ} {bs : List δ} (h : All₂ R as bs) :
    (∀ a b, b ∈ bs → R a b → S a b) → All₂ S as bs := by
  induction h with
  | nil => intro _; exact All₂.nil
  | cons hab _ ih =>
    intro hRS
    exact All₂.cons (hRS _ _ (List.mem_cons_self ..) hab) (ih fun a b hb => hRS a b (List.mem_cons_of_mem _ hb))

theorem All₂.imp {γ δ : Type _} {R S : γ → δ → Prop} (hRS : ∀ a b, R a b → S a b) {as : List γ} {bs : List δ}
    (h : All₂ R as bs) : All₂ S as bs :=
  h.imp_mem fun a b _ => hRS a b

theorem All₂.ne_nil {γ δ : Type _} {R : γ → δ → Prop} {as : List γ} {bs : List δ} (h : All₂ R as bs) (hne : as ≠ []) :
    bs ≠ [] := by
  rintro rfl; cases h; exact hne rfl

theorem All₂.replicate {γ δ : Type _} {R : γ → δ → Prop} {a : γ} {b : δ} (h : R a b) :
    ∀ k, All₂ R (List.replicate k a) (List.replicate k b)
  | 0 => All₂.nil
  | k + 1 => All₂.cons h (All₂.replicate h k)

theorem All₂.map_right {γ δ ε : Type _} {R : γ → ε → Prop} (f : δ → ε) {as : List γ} {bs : List δ}
    (h : All₂ (fun a b => R a (f b)) as bs) : All₂ R as (bs.map f) := by
  induction h with
  | nil => exact All₂.nil
  | cons hab _ ih => exact All₂.cons hab ih

/-- how `zipStep` combines the result of the first input with the result of the remaining ones -/
def zcomb {I : Iterable α} {Is : List (Iterable α)} (rA : I.σ × Res α) (ss0 : ZipSt Is)
    (rB : ZipSt Is × Res (List α)) : ZipSt (I :: Is) × Res (List α) :=
  match rA with
  | (s', .item a) =>
    match rB with
    | (ss', .item as) => ((s', ss'), .item (a :: as))
    | (ss', .term) => ((s', ss'), .term)
    | (ss', .undef) => ((s', ss'), .undef)
    | (ss', .hang) => ((s', ss'), .hang)
  | (s', .term) => ((s', ss0), .term)
  | (s', .undef) => ((s', ss0), .undef)
  | (s', .hang) => ((s', ss0), .hang)

theorem zipStep_cons (f : (I : Iterable α) → I.σ → I.σ × Res α) (I : Iterable α) (Is : List (Iterable α))
    (s : I.σ) (ss : ZipSt Is) :
    zipStep f (I :: Is) (s, ss) = zcomb (f I s) ss (zipStep f Is ss) := rfl

/-- the walk of `I :: Is` is the walk of `I` zipped with the walk of `Is`: it ends where the first of the two ends -/
theorem zip_prod (g : (I : Iterable α) → I.σ → I.σ × Res α) (I : Iterable α) (Is : List (Iterable α))
    {rA : I.σ × Res α} {l : List α} (hA : Run (g I) rA l) :
    ∀ (ss0 : ZipSt Is) {rB : ZipSt Is × Res (List α)} {L : List (List α)}, Run (zipStep g Is) rB L →
      Run (zipStep g (I :: Is)) (zcomb rA ss0 rB) (List.zipWith (fun a as => a :: as) l L) := by
  induction hA with
  | term s => intro ss0 rB L _; exact Run.term _
  | item s a l _ ih =>
    intro ss0 rB L hB
    cases hB with
    | term ssb => exact Run.term _
    | item ssb as L' hB' => exact Run.item _ _ _ (ih ssb hB')

theorem zip_single (g : (I : Iterable α) → I.σ → I.σ × Res α) (I : Iterable α)
    {rA : I.σ × Res α} {l : List α} (hA : Run (g I) rA l) (u : ZipSt ([] : List (Iterable α))) :
    Run (zipStep g [I]) (zcomb (Is := []) rA u (u, .item [])) (l.map (fun a => [a])) := by
  induction hA with
  | term s => exact Run.term _
  | item s a l _ ih => exact Run.item _ _ _ ih

/-- lock-step walk: if every input walks its list from the result `f` gives, the zipped walk yields the tuples up to
    the shortest -/
theorem zipStep_runs (f g : (I : Iterable α) → I.σ → I.σ × Res α) :
    ∀ (Is : List (Iterable α)) (ls : List (List α)),
      All₂ (fun I l => ∀ s, Run (g I) (f I s) l) Is ls → Is ≠ [] →
      ∀ ss : ZipSt Is, Run (zipStep g Is) (zipStep f Is ss) (zipLists ls) := by
  intro Is ls h
  induction h with
  | nil => intro hne; exact absurd rfl hne
  | @cons I l Is' ls' hI hrest ih =>
    intro _ ss
    obtain ⟨s, ss'⟩ := ss
    cases hrest with
    | nil =>
      rw [zipStep_cons]
      exact zip_single g I (hI s) ss'
    | @cons J l' Js ls'' hJ hrest' =>
      rw [zipStep_cons]
      exact zip_prod g I (J :: Js) (hI s) ss' (ih (List.cons_ne_nil _ _) ss')

/-- the test `Is.length = 0` that each function of `zipI` begins with, for inputs that are there -/
theorem ite_len_ne_nil {γ A : Type _} {Is : List γ} (hne : Is ≠ []) (x y : A) : (if Is.length = 0 then x else y) = y :=
  if_neg (mt List.length_eq_zero_iff.mp hne)

/-- while items are handed out the flag of `zipI` stays `false`, so `nx` (its `next` or `prev`) walks like `zipStep g` -/
theorem zipI_wrap {Is : List (Iterable α)} {g : (I : Iterable α) → I.σ → I.σ × Res α}
    {nx : Bool × ZipSt Is → (Bool × ZipSt Is) × Res (List α)}
    (hnx : ∀ ss, nx (false, ss) = ((!(zipStep g Is ss).2.isItem, (zipStep g Is ss).1), (zipStep g Is ss).2))
    {r : ZipSt Is × Res (List α)} {L : List (List α)} (h : Run (zipStep g Is) r L) :
    Run nx ((!r.2.isItem, r.1), r.2) L := by
  induction h with
  | term s => exact Run.term _
  | item s a L _ ih =>
    refine Run.item _ _ _ ?_
    show Run nx (nx (false, s)) L
    rw [hnx]; exact ih

/-- any number of inputs: with none, every function of `zipI` answers Terminal at once and `zipLists [] = []` -/
theorem zip_fwdAs (Is : List (Iterable α)) (ls : List (List α))
    (h : All₂ (fun I l => FwdAs I l) Is ls) : FwdAs (zipI Is) (zipLists ls) := by
  intro s
  by_cases hne : Is = []
  · subst hne; cases h; exact Run.term _
  · rw [show (zipI Is).init s = _ from ite_len_ne_nil hne _ _]
    exact zipI_wrap (fun ss => ite_len_ne_nil hne _ _) (zipStep_runs (fun I => I.init) (fun I => I.next) Is ls h hne s.2)

theorem zipLists_induct {P : List (List α) → Prop} (one : ∀ l, P [l])
    (more : ∀ l l' ls, P (l' :: ls) → P (l :: l' :: ls)) : ∀ ls, ls ≠ [] → P ls
  | [], h => absurd rfl h
  | [l], _ => one l
  | l :: l' :: ls, _ => more l l' ls (zipLists_induct one more (l' :: ls) (List.cons_ne_nil _ _))

theorem zipLists_length (n : Nat) : ∀ (ls : List (List α)), ls ≠ [] → (∀ l ∈ ls, l.length = n) →
    (zipLists ls).length = n := by
  refine zipLists_induct (fun l hall => ?_) (fun l l' ls ih hall => ?_)
  · simp [zipLists, hall l]
  · have hall' := List.forall_mem_cons.mp hall
    simp only [zipLists, List.length_zipWith, ih hall'.2, hall'.1, Nat.min_self]

theorem zipLists_reverse (n : Nat) : ∀ (ls : List (List α)), ls ≠ [] → (∀ l ∈ ls, l.length = n) →
    zipLists (ls.map List.reverse) = (zipLists ls).reverse := by
  refine zipLists_induct (fun l _ => ?_) (fun l l' ls ih hall => ?_)
  · simp [zipLists]
  · have hall' := List.forall_mem_cons.mp hall
    have e := ih hall'.2
    simp only [List.map_cons] at e ⊢
    simp only [zipLists]
    rw [e, List.reverse_zipWith]
    rw [zipLists_length n (l' :: ls) (by simp) hall'.2, hall'.1]

theorem zipLists_nil_of_mem (ls : List (List α)) (h : [] ∈ ls) : zipLists ls = [] := by
  refine zipLists_induct (P := fun ls => [] ∈ ls → zipLists ls = []) (fun l h => ?_) (fun l l' ls ih h => ?_)
    ls (List.ne_nil_of_mem h) h
  · cases List.mem_singleton.mp h; rfl
  · simp only [zipLists]
    rcases List.mem_cons.mp h with rfl | h'
    · rfl
    · rw [ih h', List.zipWith_nil_right]

/-- reversing commutes with zipping when no input is cut short: all inputs have one length, or one of them is empty (then both
    sides are empty; Zip_Iter_Last answers Terminal at once) -/
theorem zipLists_map_reverse (ls : List (List α)) (h : (∃ n, ∀ l ∈ ls, l.length = n) ∨ (∃ l ∈ ls, l = [])) :
    zipLists (ls.map List.reverse) = (zipLists ls).reverse := by
  rcases h with ⟨n, hn⟩ | ⟨l, hl, rfl⟩
  · by_cases hls : ls = []
    · subst hls; rfl
    · exact zipLists_reverse n ls hls hn
  · rw [zipLists_nil_of_mem _ (List.mem_map.mpr ⟨[], hl, rfl⟩), zipLists_nil_of_mem ls hl]; rfl

/-- the backward walk of a Zip yields the zip of the reversed inputs, whatever their lengths -/
theorem zip_bwd_reversed (Is : List (Iterable α)) (ls : List (List α))
    (h : All₂ (fun I l => BwdAs I l) Is ls) (s : (zipI Is).σ) :
    Run (zipI Is).prev ((zipI Is).last s) (zipLists (ls.map List.reverse)) := by
  by_cases hne : Is = []
  · subst hne; cases h; exact Run.term _
  · rw [show (zipI Is).last s = _ from ite_len_ne_nil hne _ _]
    exact zipI_wrap (fun ss => ite_len_ne_nil hne _ _)
      (zipStep_runs (fun I => I.last) (fun I => I.prev) Is _ (h.map_right List.reverse) hne s.2)

/-- … so it is right whenever reversing commutes with zipping (`zipLists_map_reverse`: no input is cut) -/
theorem zip_bwdAs (Is : List (Iterable α)) (ls : List (List α))
    (hrev : zipLists (ls.map List.reverse) = (zipLists ls).reverse)
    (h : All₂ (fun I l => BwdAs I l) Is ls) : BwdAs (zipI Is) (zipLists ls) :=
  fun s => hrev ▸ zip_bwd_reversed Is ls h s

theorem zip_len : ∀ (Is : List (Iterable α)) (ls : List (List α)),
    All₂ (fun I l => LenGetAs I l) Is ls →
    ∀ m, zipLen Is = some m → m = (zipLists ls).length := by
  intro Is ls h
  induction h with
  | nil => intro m hm; cases hm; rfl
  | @cons I l Is' ls' hI hrest ih =>
    intro m hm
    cases hrest with
    | nil => exact (hI.len m hm).trans (List.length_map _).symm
    | @cons J l' Js ls'' hJ hrest' =>
      simp only [zipLen] at hm
      split at hm
      · next a b ha hb =>
        cases hm
        simp only [zipLists, List.length_zipWith]
        rw [← hI.len a ha, ← ih b hb]
      · cases hm

theorem zipLen_of_all : ∀ (Is : List (Iterable α)) (ls : List (List α)),
    All₂ (fun (I : Iterable α) l => I.len = some l.length) Is ls → zipLen Is = some (zipLists ls).length := by
  intro Is ls h
  induction h with
  | nil => rfl
  | @cons I l Is' ls' hI hrest ih =>
    cases hrest with
    | nil => simp [zipLen, zipLists, hI]
    | @cons J l' Js ls'' hJ hrest' =>
      simp only [zipLen] at ih ⊢
      simp only [hI, ih, zipLists, List.length_zipWith]

/-- the `i`-th element of every list, `none` when one of them is too short: what Zip_Get assembles -/
def column : List (List α) → Nat → Option (List α)
  | [], _ => some []
  | l :: ls, i => match l[i]?, column ls i with
    | some a, some as => some (a :: as)
    | _, _ => none

/-- Zip_Get at the index `k`, when for every input `k` denotes position `i` of its sequence (beyond its end: the input raises) -/
theorem zip_get_column (k : Int) (i : Nat) : ∀ (Is : List (Iterable α)) (ls : List (List α)),
    All₂ (fun I l => ∀ g, I.get = some g → g k = l[i]?) Is ls →
    ∀ G, zipGet Is = some G → G k = column ls i := by
  intro Is ls h
  induction h with
  | nil => intro G hG; cases hG; rfl
  | @cons I l Is' ls' hI _ ih =>
    intro G hG
    simp only [zipGet] at hG
    split at hG
    · next g gs hg hgs =>
      cases hG
      simp only [hI g hg, ih gs hgs, column]
      cases l[i]? <;> cases column ls' i <;> rfl
    · cases hG

theorem getElem?_zipLists : ∀ (ls : List (List α)), ls ≠ [] → ∀ i, (zipLists ls)[i]? = column ls i := by
  refine zipLists_induct (fun l i => ?_) (fun l l' ls ih i => ?_)
  · simp only [zipLists, column, List.getElem?_map]
    cases l[i]? <;> rfl
  · show (List.zipWith _ l (zipLists (l' :: ls)))[i]? =
      match l[i]?, column (l' :: ls) i with | some a, some as => some (a :: as) | _, _ => none
    rw [List.getElem?_zipWith, ih i]
    cases l[i]? <;> cases column (l' :: ls) i <;> rfl

theorem column_some : ∀ {ls : List (List α)} {i : Nat} {c : List α}, column ls i = some c → ∀ l ∈ ls, i < l.length
  | [], _, _, _, _, hl => by cases hl
  | l0 :: ls, i, c, h, l, hl => by
    rw [column] at h
    split at h
    · next a as h0 hs =>
      rcases List.mem_cons.mp hl with rfl | hl'
      · exact (List.getElem?_eq_some_iff.mp h0).1
      · exact column_some hs l hl'
    · cases h

theorem zip_lenGet (Is : List (Iterable α)) (ls : List (List α))
    (h : All₂ (fun I l => LenGetAs I l) Is ls) : LenGetAs (zipI Is) (zipLists ls) := by
  refine ⟨zip_len Is ls h, fun g hg i hi => ?_⟩
  have e := getElem?_zipLists ls (by rintro rfl; simp [zipLists] at hi) i
  rw [List.getElem?_eq_getElem hi] at e
  rw [e]
  refine zip_get_column _ i Is ls (h.imp_mem fun I l hl hI g0 hg0 => ?_) g hg
  have hil := column_some e.symm l hl
  rw [hI.get g0 hg0 i hil, List.getElem?_eq_getElem hil]

/-- Zip of lawful inputs; only the backward walk needs a condition on the lengths -/
theorem zip_lawfulAs (Is : List (Iterable α)) (ls : List (List α))
    (hrev : zipLists (ls.map List.reverse) = (zipLists ls).reverse) (h : All₂ (fun I l => LawfulAs I l) Is ls) :
    LawfulAs (zipI Is) (zipLists ls) :=
  .of_lg (zip_fwdAs Is ls (h.imp fun _ _ x => x.fwd)) (zip_bwdAs Is ls hrev (h.imp fun _ _ x => x.bwd))
    (zip_lenGet Is ls (h.imp fun _ _ x => x.lg))

/-- Zip_Get of a Zip of no inputs answers the empty tuple for EVERY index (the loop over the inputs is empty and nothing tests
    the index) -/
theorem zip_nil_get (k : Int) : (zipI ([] : List (Iterable α))).get.map (fun g => g k) = some (some []) := by
  simp [zipI, zipGet]

/-- the sequence enumerate is defined to yield: the pairs `(i, x_i)` -/
def enumSpec (inj : Int → α) (l : List α) : List (List α) :=
  zipLists [(List.range l.length).map (fun (j : Nat) => inj (j : Int)), l]

theorem enum_counter (inj : Int → α) (n : Nat) :
    LawfulAs (embI (rangeI 0 n 1) inj) ((List.range n).map (fun (j : Nat) => inj (j : Int))) := by
  have hr := emb_lawfulAs (rangeI 0 n 1) inj (range_lawfulAs 0 n 1)
  rw [rangeList_count, List.map_map] at hr
  exact hr

theorem enum_fwdAs (I : Iterable α) (inj : Int → α) {l : List α} (h : FwdAs I l) :
    FwdAs (enumI I l.length inj) (enumSpec inj l) :=
  zip_fwdAs _ _ (All₂.cons (enum_counter inj l.length).fwd (All₂.cons h All₂.nil))

theorem enum_bwdAs (I : Iterable α) (inj : Int → α) {l : List α} (h : BwdAs I l) :
    BwdAs (enumI I l.length inj) (enumSpec inj l) :=
  zip_bwdAs _ _ (zipLists_map_reverse _ (Or.inl ⟨l.length, by simp⟩)) (All₂.cons (enum_counter inj l.length).bwd (All₂.cons h All₂.nil))

theorem enum_lenGet (I : Iterable α) (inj : Int → α) {l : List α} (h : LenGetAs I l) :
    LenGetAs (enumI I l.length inj) (enumSpec inj l) :=
  zip_lenGet _ _ (All₂.cons (enum_counter inj l.length).lg (All₂.cons h All₂.nil))

theorem enum_lawfulAs (I : Iterable α) (inj : Int → α) {l : List α} (h : LawfulAs I l) :
    LawfulAs (enumI I l.length inj) (enumSpec inj l) :=
  .of_lg (enum_fwdAs I inj h.fwd) (enum_bwdAs I inj h.bwd) (enum_lenGet I inj h.lg)

end Cello.Iter
