/-
  Lemmas for C06: with the NULL guard of `GC_Rem_Ptr` (fix d3e4e44, `c.remGuardsNull`) no piece of the collector executes
  `dealloc(destruct(NULL))`, i.e. sets `St.ub`, whatever the destructors and the nested collections do; and a mark phase that
  an exception leaves (`Op.markAbort`) changes nothing but `St.marked`.
-/
import CelloProofs.Lemmas.LifeBasic

namespace Cello.Life

theorem foldl_ub {α : Type} {f : St → α → St} (hf : ∀ s x, (f s x).ub = s.ub) (l : List α) :
    ∀ s, (l.foldl f s).ub = s.ub := by
  induction l with
  | nil => intro s; rfl
  | cons x l ih => intro s; rw [List.foldl_cons, ih, hf]

section
variable {fin : St → Addr → St} (hfin : ∀ s a, (fin s a).ub = s.ub)
include hfin

theorem gcRemPtr_ub (c : Cfg) (s : St) (x : Addr) :
    (gcRemPtr fin c s x).ub = s.ub := by
  unfold gcRemPtr
  split
  · split
    · rw [hfin]
    · rfl
  · split
    · rw [hfin]
    · rfl

theorem gcRem_ub (c : Cfg) (s : St) (x : Addr) :
    (gcRem fin c s x).ub = s.ub := by
  unfold gcRem
  split
  · rfl
  · exact gcRemPtr_ub hfin c s x

theorem sweepLoopWith_ub (c : Cfg) (todo : List Addr) :
    ∀ s, (sweepLoopWith fin c todo s).ub = s.ub := by
  induction todo with
  | nil => intro s; rfl
  | cons a rest ih =>
    intro s
    unfold sweepLoopWith
    rw [ih]
    split
    · rw [hfin]; split <;> rfl
    · rfl

theorem sweepWith_ub (c : Cfg) (s : St)
    (marks order : List Addr) : (sweepWith fin c s marks order).ub = s.ub := by
  unfold sweepWith
  show (sweepLoopWith fin c _ _).ub = s.ub
  rw [sweepLoopWith_ub hfin]

end

theorem gcSet_ub {sw : St → List Addr → List Addr → St} (hsw : ∀ s m o, (sw s m o).ub = s.ub) (c : Cfg) (s : St)
    (a : Addr) (root : Bool) (marks order : List Addr) : (gcSet sw c s a root marks order).ub = s.ub := by
  cases hr : s.running
  · rw [gcSet_stopped hr]
  · rw [gcSet_running hr]
    split
    · rw [hsw]
    · rfl

section
-- the guard of fix d3e4e44 is present
variable {c : Cfg} (hc : c.remGuardsNull = true)
include hc

theorem gcRemNull_ub (s : St) : (gcRemNull c s).ub = s.ub := by
  obtain ⟨m, h⟩ := gcRemNull_guarded hc s
  rw [h]

theorem finalise_ub : ∀ (f : Nat) (s : St) (a : Addr), (finalise f c s a).ub = s.ub := by
  intro f
  induction f with
  | zero => intro s a; rfl
  | succ f ih =>
    intro s a
    unfold finalise
    show (if s.nulldel.contains a then gcRemNull c _ else _).ub = s.ub
    have hfold : ((s.ownsOf a).foldl (fun st x => gcRem (finalise f c) c st x)
        ((s.dallocOf a).foldl (fun st d => gcSet (sweepWith (finalise f c) c) c st d.addr false d.marks d.order)
          { s with log := s.log ++ [Ev.fin a] })).ub = s.ub := by
      rw [foldl_ub (fun st x => gcRem_ub ih c st x)]
      rw [foldl_ub (f := fun st (d : DAlloc) => gcSet (sweepWith (finalise f c) c) c st d.addr false d.marks d.order)
        (fun st d => gcSet_ub (fun s m o => sweepWith_ub ih c s m o) c st d.addr false d.marks d.order)]
    split
    · rw [gcRemNull_ub hc, hfold]
    · exact hfold

theorem sweep_ub (s : St) (marks order : List Addr) :
    (sweep c s marks order).ub = s.ub :=
  sweepWith_ub (finalise_ub hc _) c s marks order

theorem sweepAll_ub (order : List Addr) :
    ∀ (n : Nat) (s : St), (sweepAll c n s order).ub = s.ub := by
  intro n
  induction n with
  | zero => intro s; rfl
  | succ n ih =>
    intro s
    show (if ((sweep c s [] order).reg.any fun e => !e.root) = true
      then sweepAll c n (sweep c s [] order) order else sweep c s [] order).ub = s.ub
    split
    · rw [ih, sweep_ub hc]
    · exact sweep_ub hc s [] order

theorem allocBy_ub (s : St) (a : Addr) (k : Kind) (marks order : List Addr) :
    (allocBy c s a k marks order).ub = s.ub := by
  cases k with
  | raw => rfl
  | _ => exact gcSet_ub (fun s m o => sweep_ub hc s m o) c s a _ marks order

theorem step_ub (s : St) (op : Op) : (step c s op).ub = s.ub := by
  cases op with
  | new a k owned marks order => exact allocBy_ub hc s a k marks order
  | alloc a k marks order => exact allocBy_ub hc s a k marks order
  | del a k =>
    cases k with
    | raw => exact finalise_ub hc _ s a
    | _ => exact gcRem_ub (finalise_ub hc _) c s a
  | dealloc a k => exact finalise_ub hc _ s a
  | collect marks order => exact sweep_ub hc s _ order
  | teardown order =>
    show (if c.teardownRepeats then sweepAll c (fuelFor s) s order else sweep c s (teardownBits c s) order).ub = s.ub
    split
    · exact sweepAll_ub hc order _ s
    · exact sweep_ub hc s _ order
  | delNull => exact gcRemNull_ub hc s
  | _ => rfl

theorem run_ub : ∀ (ops : List Op) (s : St), (run c s ops).ub = s.ub := by
  intro ops
  induction ops with
  | nil => intro s; rfl
  | cons op ops ih =>
    intro s
    show (run c (step c s op) ops).ub = s.ub
    rw [ih, step_ub hc]

end

theorem step_markAbort_fields (c : Cfg) (s : St) (marks : List Addr) :
    (step c s (.markAbort marks)).reg = s.reg ∧ (step c s (.markAbort marks)).pending = s.pending ∧
    (step c s (.markAbort marks)).running = s.running ∧ (step c s (.markAbort marks)).mitems = s.mitems ∧
    (step c s (.markAbort marks)).owns = s.owns ∧ (step c s (.markAbort marks)).log = s.log ∧
    (step c s (.markAbort marks)).dalloc = s.dalloc ∧ (step c s (.markAbort marks)).nulldel = s.nulldel ∧
    (step c s (.markAbort marks)).ub = s.ub :=
  ⟨rfl, rfl, rfl, rfl, rfl, rfl, rfl, rfl, rfl⟩

/-- in every configuration: a sweep is given the mark bits it reads (`markBits`, `teardownBits` decide which) and clears
    those of the state; it never reads `St.marked` itself -/
theorem sweep_ignores_marked (c : Cfg) (s : St) (stale marks order : List Addr) :
    sweep c { s with marked := stale } marks order = sweep c s marks order := rfl

end Cello.Life
