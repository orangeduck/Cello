/-
  C13 (threads), Mutex: `inside t m` of a trace is the indicator of "`t` holds `m`" (`step_inside`, `run_inside`); a
  `with`-increment runs only on a free Mutex (`step_winc_num`).
-/
import CelloProofs.Lemmas.ThrFrame

namespace Cello.Thr

/-- 1 if the holder `h` of a mutex is thread `t`, 0 otherwise: the value `inside t m` has to have -/
def ind (h : Option Tid) (t : Tid) : Int := if h = some t then 1 else 0

theorem ind_acquire (holder : Nat → Option Tid) (m m' : Nat) (t t' : Tid) (hf : holder m' = none) :
    ind (holder m) t + (if t' = t ∧ m' = m then 1 else 0) = ind (upd holder m' (some t') m) t := by
  by_cases hm : m = m'
  · subst hm; simp [ind, upd, hf, eq_comm]
  · have : ¬ m' = m := fun h => hm h.symm
    simp [ind, upd, hm, this]

theorem ind_release (holder : Nat → Option Tid) (m m' : Nat) (t t' : Tid) (hh : holder m' = some t') :
    ind (holder m) t + (if t' = t ∧ m' = m then -1 else 0) = ind (upd holder m' none m) t := by
  by_cases hm : m = m'
  · subst hm
    by_cases ht : t' = t <;> simp [ind, upd, hh, ht]
  · have : ¬ m' = m := fun h => hm h.symm
    simp [ind, upd, hm, this]

/-- stated with the rest of the trace, so that the induction over schedules needs no additivity lemma for `inside` -/
theorem step_inside (cfg : Cfg) (g : G) (e : Ev) (t : Tid) (m : Nat) (tr : List (Ev × Out)) :
    ind (g.holder m) t + inside t m ((e, (step cfg g e).2) :: tr) = ind ((step cfg g e).1.holder m) t + inside t m tr := by
  cases e with
  | lock t' m' | trylock t' m' =>
    dsimp only [step]
    split
    · rfl
    · split
      · rename_i hh; simp only [inside]; rw [← Int.add_assoc, ind_acquire g.holder m m' t t' hh]
      · rfl
  | unlock t' m' =>
    dsimp only [step]
    split
    · rfl
    · split
      · rename_i hh; simp only [inside]; rw [← Int.add_assoc, ind_release g.holder m m' t t' hh]
      · rfl
  | _ => rw [(step_frame cfg g _).holder rfl]; rfl

theorem run_inside (cfg : Cfg) (t : Tid) (m : Nat) (s : List Ev) : ∀ g : G,
    ind (g.holder m) t + inside t m (run cfg s g).2 = ind ((run cfg s g).1.holder m) t := by
  induction s with
  | nil => intro g; simp [run_nil, inside]
  | cons e s ih => intro g; rw [run_cons, step_inside, ih]

theorem run_inside_init (cfg : Cfg) (t : Tid) (m : Nat) (s : List Ev) :
    inside t m (run cfg s G.init).2 = if (run cfg s G.init).1.holder m = some t then 1 else 0 := by
  have h := run_inside cfg t m s G.init
  have h0 : ind (G.init.holder m) t = 0 := by simp [ind, G.init]
  rw [h0] at h
  simpa [ind] using h

theorem step_winc_num (cfg : Cfg) (g : G) (t : Tid) (m c n : Nat) (h : (step cfg g (.winc t m c)).2 = .num n) :
    g.holder m = none := by
  dsimp only [step] at h
  split at h
  · cases h
  · split at h
    · assumption
    · cases h

end Cello.Thr
