/-
  The signal mask of Cello/ExnSignal.lean, over any machine `M`: as long as no signal is raised while it is blocked, the
  mask is invisible and `runS` is `runSeq` (Cello/Exn.lean) on the corresponding `throw` constructs.
-/
import Cello.ExnSignal

namespace Cello.Exn

theorem runS_eq_runSeq (u : Bool) (M : Prog → Nat → St → St × List Ev × Sig) (x : Nat) :
    ∀ (ops : List SOp) (s : SigSt), u = true ∨ (ops.map (fun o => sigIdx o.sig)).Nodup →
      (∀ o ∈ ops, sigIdx o.sig ∉ s.blocked) →
      ((runS u M ops x s).1.st, (runS u M ops x s).2) = runSeq M (ops.map SOp.delivered) x s.st := by
  intro ops
  induction ops with
  | nil => intro s _ _; rfl
  | cons o os ih =>
    intro s hnd hbl
    have ho : sigIdx o.sig ∉ s.blocked := hbl o (List.mem_cons_self ..)
    simp only [runS, stepS, if_neg ho, List.map_cons, runSeq]
    rcases hM : M o.delivered x s.st with ⟨s1, t1, g1⟩
    cases g1 with
    | normal =>
      -- the mask still blocks none of the later signals: it is unchanged (`u`), or it gained a signal that does not recur
      have hbl' : ∀ o' ∈ os, sigIdx o'.sig ∉ (if u then s.blocked else sigIdx o.sig :: s.blocked) := by
        intro o' ho' hmem
        have hb := hbl o' (List.mem_cons_of_mem _ ho')
        cases u with
        | true => exact hb hmem
        | false =>
          rcases hnd with h | hnd
          · cases h
          · rcases List.mem_cons.mp hmem with h | h
            · exact (List.nodup_cons.mp hnd).1 (List.mem_map.mpr ⟨o', ho', h⟩)
            · exact hb h
      have := ih ⟨s1, if u then s.blocked else sigIdx o.sig :: s.blocked⟩
        (hnd.imp_right fun h => (List.nodup_cons.mp h).2) hbl'
      simp only [← this]
    | _ => rfl

theorem stepS_blocked (u : Bool) (M : Prog → Nat → St → St × List Ev × Sig) (x : Nat) (s : SigSt) (o : SOp)
    (h : sigIdx o.sig ∈ s.blocked) :
    ((stepS u M x s o).1.st, (stepS u M x s o).2) = M o.skipped x s.st ∧ (stepS u M x s o).1.blocked = s.blocked := by
  simp only [stepS, if_pos h]
  rcases M o.skipped x s.st with ⟨s1, t1, g1⟩
  simp

end Cello.Exn
