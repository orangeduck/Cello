/-
  C18, value objects: what the program can observe of a state (`Equiv`), the invariants (`WF`), one fact per switch, and the relation
  `Agree c` between a state of the default build and one of build `c`, with one lemma per effect of a step.
-/
import Cello.Config
import CelloGen.Cfg

namespace Cello.Config
open CelloGen.Cfg

theorem Cfg.mem_all (cfg : Cfg) : cfg ∈ Cfg.all := by
  obtain ⟨a, b, c⟩ := cfg
  cases a <;> cases b <;> cases c <;> decide

/-- so that a decidable fact about every configuration is one evaluation over `Cfg.all` -/
theorem Cfg.forall_of_all {p : Cfg → Prop} (h : ∀ cfg ∈ Cfg.all, p cfg) (cfg : Cfg) : p cfg := h cfg (Cfg.mem_all cfg)

theorem lookup_mem {α β : Type} [BEq α] [LawfulBEq α] (a : α) (b : β) (l : List (α × β)) (h : l.lookup a = some b) : (a, b) ∈ l := by
  obtain ⟨l₁, l₂, rfl, _⟩ := List.lookup_eq_some_iff.mp h
  exact List.mem_append_right _ (List.mem_cons_self ..)

theorem fst_nodup_unique {α β : Type} (a : α) (b b' : β) :
    ∀ (l : List (α × β)), (l.map (·.1)).Nodup → (a, b) ∈ l → (a, b') ∈ l → b = b'
  | [], _, h, _ => by simp at h
  | x :: l, hn, h1, h2 => by
    simp only [List.map_cons, List.nodup_cons] at hn
    rcases List.mem_cons.mp h1 with h1 | h1 <;> rcases List.mem_cons.mp h2 with h2 | h2
    · rw [← h1] at h2; exact (Prod.mk.inj h2).2.symm ▸ rfl
    · exfalso; apply hn.1; rw [← h1]; exact List.mem_map.mpr ⟨(a, b'), h2, rfl⟩
    · exfalso; apply hn.1; rw [← h2]; exact List.mem_map.mpr ⟨(a, b), h1, rfl⟩
    · exact fst_nodup_unique a b b' l hn.2 h1 h2

/-- `cases` on `Option.Rel` wants variables for the two options; this form does not -/
theorem optRel_cases {α β : Type} {R : α → β → Prop} {x : Option α} {y : Option β} (h : Option.Rel R x y) :
    (x = none ∧ y = none) ∨ ∃ a b, x = some a ∧ y = some b ∧ R a b := by
  cases h with
  | none => exact .inl ⟨rfl, rfl⟩
  | some hr => exact .inr ⟨_, _, rfl, rfl, hr⟩

theorem findObj_cons (o : Obj) (heap : List Obj) (i : Nat) :
    findObj (o :: heap) i = if o.id == i then some o else findObj heap i := by
  simp only [findObj, List.find?_cons]
  cases h : (o.id == i) <;> simp

theorem findObj_some_id {heap : List Obj} {i : Nat} {o : Obj} (h : findObj heap i = some o) : o.id = i := by
  have := List.find?_some h
  simpa using this

theorem findObj_filter (q : Obj → Bool) (i : Nat) (heap : List Obj) (hq : ∀ o, o.id = i → q o = true) :
    findObj (heap.filter q) i = findObj heap i := by
  simp only [findObj, List.find?_filter]
  congr 1
  funext o
  cases h : o.id == i
  · simp
  · simp [hq o (by simpa using h)]

theorem findObj_filter_ne (j i : Nat) (heap : List Obj) :
    findObj (heap.filter (fun o => !(o.id == j))) i = if i = j then none else findObj heap i := by
  simp only [findObj, List.find?_filter]
  split
  · subst i
    rw [List.find?_eq_none]
    intro o _
    cases o.id == j <;> simp
  · congr 1
    funext o
    cases h : o.id == i
    · simp
    · have : o.id = i := by simpa using h
      subst this
      simp [*]

theorem findObj_setBody (i : Nat) (b : Body) (j : Nat) (heap : List Obj) :
    findObj (setBody heap i b) j = (findObj heap j).map (fun o => if o.id == i then { o with body := b } else o) := by
  simp only [findObj, setBody, List.find?_map]
  congr 2
  funext o
  simp only [Function.comp]
  split <;> rfl

/-- the two states show the program the same thing: same handles, and behind every handle an object with the same
    identity, type and contents (headers, registry, cache and garbage may differ) -/
def Equiv (s t : St) : Prop :=
  s.next = t.next ∧ s.live = t.live ∧
  ∀ p ∈ s.live, (findObj s.heap p.2).map Obj.proj = (findObj t.heap p.2).map Obj.proj

theorem Equiv.refl (s : St) : Equiv s s := ⟨rfl, rfl, fun _ _ => rfl⟩

theorem Equiv.symm {s t : St} (h : Equiv s t) : Equiv t s :=
  ⟨h.1.symm, h.2.1.symm, fun p hp => (h.2.2 p (h.2.1 ▸ hp)).symm⟩

theorem Equiv.trans {s t u : St} (h1 : Equiv s t) (h2 : Equiv t u) : Equiv s u :=
  ⟨h1.1.trans h2.1, h1.2.1.trans h2.2.1, fun p hp => (h1.2.2 p hp).trans (h2.2.2 p (h1.2.1 ▸ hp))⟩

/-- whatever is computed from what the program can observe of the object behind each handle (`St.view`: the contents;
    `St.observe`: all of it) comes out the same -/
theorem Equiv.map_proj {γ : Type} {s t : St} (h : Equiv s t) (f : Nat × String × Body → γ) :
    s.live.map (fun p => (p.1, (findObj s.heap p.2).map fun o => f o.proj)) =
      t.live.map (fun p => (p.1, (findObj t.heap p.2).map fun o => f o.proj)) := by
  rw [← h.2.1]
  refine List.map_congr_left fun p hp => ?_
  have := congrArg (Option.map f) (h.2.2 p hp)
  rw [Option.map_map, Option.map_map] at this
  exact congrArg (p.1, ·) this

/-- every filled cache slot holds what `Type_Scan` returns for the class that owns the slot -/
def MemoOK (memo : List ((String × Nat) × String)) : Prop :=
  ∀ ty i inst, ((ty, i), inst) ∈ memo → ∃ cls, (i, cls) ∈ cacheSlots ∧ scan ty cls = some inst

/-- every object behind a live handle passes `type_of`'s checks of this configuration (its header was written by
    `header_init` of the same build) -/
def HdrOK (cfg : Cfg) (s : St) : Prop :=
  ∀ p ∈ s.live, ∀ o, findObj s.heap p.2 = some o → o.hdr = headerInit cfg o.hdr.type heapClass

def WF (cfg : Cfg) (s : St) : Prop := MemoOK s.memo ∧ HdrOK cfg s

theorem WF_init (cfg : Cfg) : WF cfg St.init :=
  ⟨fun _ _ _ h => by simp [St.init] at h, fun p h => by simp [St.init] at h⟩

theorem typeOf_ok {cfg : Cfg} {o : Obj} {ty : String} (h : typeOf cfg o = .ok ty) : ty = o.hdr.type := by
  unfold typeOf at h
  split at h
  · split at h
    · exact (Outcome.ok.inj h).symm
    · cases h
  · exact (Outcome.ok.inj h).symm

theorem typeOf_of_hdr {cfg : Cfg} {o : Obj} {c : AllocClass} (h : o.hdr = headerInit cfg o.hdr.type c) :
    typeOf cfg o = .ok o.hdr.type := by
  have hm := congrArg Hdr.magic h
  simp only [headerInit] at hm
  unfold typeOf
  cases hmac : macroOn cfg "CELLO_MAGIC_CHECK"
  · simp
  · simp only [hmac, if_true] at hm ⊢
    simp [hm]

theorem typeOf_headerInit (cfg : Cfg) (i : Nat) (ty : String) (c : AllocClass) (b : Body) :
    typeOf cfg { id := i, hdr := headerInit cfg ty c, body := b } = .ok ty :=
  typeOf_of_hdr (o := { id := i, hdr := headerInit cfg ty c, body := b }) rfl

/-- under CELLO_ALLOC_CHECK the field holds the class `alloc_by` stamps; without it there is no field and `siteClass` falls back
    to that same class -/
theorem siteClass_self_of_hdr {cfg : Cfg} {o : Obj} (h : o.hdr = headerInit cfg o.hdr.type heapClass) :
    siteClass o .self = heapClass := by
  have ha := congrArg Hdr.alloc h
  simp only [headerInit] at ha
  unfold siteClass
  rw [ha]
  cases macroOn cfg "CELLO_ALLOC_CHECK" <;> rfl

theorem siteClass_self_headerInit (cfg : Cfg) (i : Nat) (ty : String) (b : Body) :
    siteClass { id := i, hdr := headerInit cfg ty heapClass, body := b } .self = heapClass :=
  siteClass_self_of_hdr (cfg := cfg) (o := { id := i, hdr := headerInit cfg ty heapClass, body := b }) rfl

theorem sitesFire_congr {o₁ o₂ : Obj} (h : siteClass o₁ .self = siteClass o₂ .self) :
    ∀ (l : List (String × Where)), sitesFire o₁ l = sitesFire o₂ l
  | [] => rfl
  | (fn, w) :: rest => by
    have hw : siteClass o₁ w = siteClass o₂ w := by
      cases w with
      | self => exact h
      | elem f k => rfl
    simp only [sitesFire, hw, sitesFire_congr h rest]

theorem sitesFire_of_hdr {c₁ c₂ : Cfg} {o₁ o₂ : Obj} (h₁ : o₁.hdr = headerInit c₁ o₁.hdr.type heapClass)
    (h₂ : o₂.hdr = headerInit c₂ o₂.hdr.type heapClass) (l : List (String × Where)) : sitesFire o₁ l = sitesFire o₂ l :=
  sitesFire_congr (by rw [siteClass_self_of_hdr h₁, siteClass_self_of_hdr h₂]) l

theorem slotOf_mem {cls : String} {i : Nat} (h : slotOf cls = some i) : (i, cls) ∈ cacheSlots := by
  unfold slotOf at h
  rcases hf : cacheSlots.find? (fun e => e.2 == cls) with _ | ⟨j, c⟩
  · rw [hf] at h; simp at h
  · rw [hf] at h
    have hj : j = i := by simpa using h
    have hc : c = cls := by simpa using List.find?_some hf
    subst hj hc
    exact List.mem_of_find?_eq_some hf

/-- about the generated `Type_Cache_Entry` table: were two classes to share a slot index, a slot filled for one would answer for
    the other (last case of `typeInstance_spec`) -/
theorem cacheSlots_idx_nodup : (cacheSlots.map (·.1)).Nodup := by decide +kernel

theorem typeInstance_spec (cfg : Cfg) (memo : List ((String × Nat) × String)) (ty cls : String) (hm : MemoOK memo) :
    (typeInstance cfg memo ty cls).2 = scan ty cls ∧ MemoOK (typeInstance cfg memo ty cls).1 := by
  unfold typeInstance
  rcases hs : (if cfg.cache then slotOf cls else none) with _ | i
  · exact ⟨rfl, hm⟩
  · have hslot : slotOf cls = some i := by
      cases hc : cfg.cache <;> simp [hc] at hs
      exact hs
    have hmem := slotOf_mem hslot
    simp only
    rcases hl : memo.lookup (ty, i) with _ | inst
    · simp only
      rcases hsc : scan ty cls with _ | inst
      · exact ⟨rfl, hm⟩
      · refine ⟨rfl, ?_⟩
        intro ty' i' inst' h
        rcases List.mem_cons.mp h with h | h
        · have h1 : ty' = ty ∧ i' = i ∧ inst' = inst := by
            have := Prod.mk.inj h
            have h2 := Prod.mk.inj this.1
            exact ⟨h2.1, h2.2, this.2⟩
          obtain ⟨rfl, rfl, rfl⟩ := h1
          exact ⟨cls, hmem, hsc⟩
        · exact hm ty' i' inst' h
    · simp only
      refine ⟨?_, hm⟩
      obtain ⟨cls', hc', hsc'⟩ := hm ty i inst (lookup_mem _ _ _ hl)
      have : cls' = cls := fst_nodup_unique i cls' cls cacheSlots cacheSlots_idx_nodup hc' hmem
      rw [← this, hsc']

theorem collect_find (s : St) : ∀ p ∈ s.live, findObj (collect s).heap p.2 = findObj s.heap p.2 := by
  intro p hp
  simp only [collect]
  rw [findObj_filter]
  intro o ho
  simp only [List.contains_eq_mem, List.mem_append, List.mem_map, Bool.or_eq_true, Bool.not_eq_true', decide_eq_false_iff_not,
    decide_eq_true_eq]
  right
  left
  exact ⟨p, hp, ho.symm⟩

/-- `t` is `s` after registrations and collections: counter, handles and cache are those of `s`, and behind every handle is the
    object that was there -/
def Collected (s t : St) : Prop :=
  t.next = s.next ∧ t.live = s.live ∧ t.memo = s.memo ∧ ∀ p ∈ s.live, findObj t.heap p.2 = findObj s.heap p.2

theorem Collected.refl (s : St) : Collected s s := ⟨rfl, rfl, rfl, fun _ _ => rfl⟩

theorem collect_collected (s : St) : Collected s (collect s) := ⟨rfl, rfl, rfl, collect_find s⟩

theorem gcSet_collected (s : St) (i : Nat) : Collected s (gcSet s i) := by
  unfold gcSet
  simp only
  split
  · exact collect_collected { s with reg := i :: s.reg }
  · exact .refl s

theorem register_collected (cfg : Cfg) (mode : AMode) (s : St) (i : Nat) : Collected s (register cfg mode s i) := by
  unfold register
  cases cfg.gc
  · exact .refl s
  · simp only [if_true]
    cases mode
    · exact gcSet_collected s i
    · exact .refl s
    · exact gcSet_collected { s with roots := i :: s.roots } i

theorem memo_collect (s : St) : (collect s).memo = s.memo := rfl

/-- the objects the two builds hold behind a handle: the same to the program, each with the header its own `header_init` writes -/
def ObjR (c : Cfg) (a b : Obj) : Prop :=
  a.proj = b.proj ∧ a.hdr = headerInit Cfg.default a.hdr.type heapClass ∧ b.hdr = headerInit c b.hdr.type heapClass

theorem ObjR.same {c : Cfg} {a b : Obj} (hr : ObjR c a b) : b.id = a.id ∧ b.hdr.type = a.hdr.type ∧ b.body = a.body :=
  ⟨(congrArg (·.1) hr.1).symm, (congrArg (·.2.1) hr.1).symm, (congrArg (·.2.2) hr.1).symm⟩

theorem ObjR.typeOf {c : Cfg} {a b : Obj} (hr : ObjR c a b) :
    typeOf Cfg.default a = .ok a.hdr.type ∧ typeOf c b = .ok a.hdr.type :=
  ⟨typeOf_of_hdr hr.2.1, hr.same.2.1 ▸ typeOf_of_hdr hr.2.2⟩

theorem ObjR.sitesFire {c : Cfg} {a b : Obj} (hr : ObjR c a b) (l : List (String × Where)) : sitesFire b l = sitesFire a l :=
  sitesFire_of_hdr hr.2.2 hr.2.1 l

/-- **The default build and build `c` agree**: the two states show the program the same objects, and each is well-formed for
    its build.  The cache occurs only in `MemoOK`: neither `Equiv` nor `HdrOK` mentions `memo`, so a phase of a step that fills
    cache slots and touches nothing else keeps the relation as soon as the new caches are memos again (`Agree.memo`). -/
def Agree (c : Cfg) (s₁ s₂ : St) : Prop := Equiv s₁ s₂ ∧ WF Cfg.default s₁ ∧ WF c s₂

/-- **`Agree`, handle by handle**: same counter, same handles, each cache a memo, and behind every live handle the two builds hold
    nothing, or related objects.  The effects of a step are proved against this form, once each. -/
theorem agree_iff {c : Cfg} {s₁ s₂ : St} : Agree c s₁ s₂ ↔
    s₁.next = s₂.next ∧ s₁.live = s₂.live ∧ MemoOK s₁.memo ∧ MemoOK s₂.memo ∧
      ∀ p ∈ s₁.live, Option.Rel (ObjR c) (findObj s₁.heap p.2) (findObj s₂.heap p.2) := by
  constructor
  · rintro ⟨⟨hn, hl, hp⟩, ⟨m₁, h₁⟩, ⟨m₂, h₂⟩⟩
    refine ⟨hn, hl, m₁, m₂, fun p hm => ?_⟩
    have e := hp p hm
    have k₁ := h₁ p hm
    have k₂ := h₂ p (hl ▸ hm)
    revert e k₁ k₂
    rcases findObj s₁.heap p.2 with _ | o₁ <;> rcases findObj s₂.heap p.2 with _ | o₂ <;> intro e k₁ k₂
    · exact .none
    · cases e
    · cases e
    · exact .some ⟨Option.some.inj e, k₁ o₁ rfl, k₂ o₂ rfl⟩
  · rintro ⟨hn, hl, m₁, m₂, hp⟩
    refine ⟨⟨hn, hl, fun p hm => ?_⟩, ⟨m₁, fun p hm o ho => ?_⟩, ⟨m₂, fun p hm o ho => ?_⟩⟩
    · have := hp p hm
      generalize findObj s₁.heap p.2 = x, findObj s₂.heap p.2 = y at this ⊢
      cases this with
      | none => rfl
      | some hr => exact congrArg some hr.1
    · have := hp p hm
      rw [ho] at this
      generalize findObj s₂.heap p.2 = y at this
      cases this with
      | some hr => exact hr.2.1
    · have := hp p (hl ▸ hm)
      rw [ho] at this
      generalize findObj s₁.heap p.2 = x at this
      cases this with
      | some hr => exact hr.2.2

namespace Agree
variable {c : Cfg} {s₁ s₂ : St}

theorem init (c : Cfg) : Agree c St.init St.init := ⟨.refl _, WF_init _, WF_init _⟩

theorem live (h : Agree c s₁ s₂) : s₂.live = s₁.live := h.1.2.1.symm

theorem view (h : Agree c s₁ s₂) : s₂.view = s₁.view := (h.1.map_proj (·.2.2)).symm

theorem find (h : Agree c s₁ s₂) {x i : Nat} (hm : (x, i) ∈ s₁.live) :
    (findObj s₁.heap i = none ∧ findObj s₂.heap i = none) ∨
      ∃ o₁ o₂, findObj s₁.heap i = some o₁ ∧ findObj s₂.heap i = some o₂ ∧ ObjR c o₁ o₂ :=
  optRel_cases ((agree_iff.mp h).2.2.2.2 (x, i) hm)

theorem memo (h : Agree c s₁ s₂) {m₁ m₂ : List ((String × Nat) × String)} (h₁ : MemoOK m₁) (h₂ : MemoOK m₂) :
    Agree c { s₁ with memo := m₁ } { s₂ with memo := m₂ } :=
  ⟨h.1, ⟨h₁, h.2.1.2⟩, ⟨h₂, h.2.2.2⟩⟩

theorem typeInstance (h : Agree c s₁ s₂) (ty cls : String) :
    (Config.typeInstance Cfg.default s₁.memo ty cls).2 = scan ty cls ∧ (Config.typeInstance c s₂.memo ty cls).2 = scan ty cls ∧
      Agree c { s₁ with memo := (Config.typeInstance Cfg.default s₁.memo ty cls).1 }
              { s₂ with memo := (Config.typeInstance c s₂.memo ty cls).1 } :=
  have h₁ := typeInstance_spec Cfg.default s₁.memo ty cls h.2.1.1
  have h₂ := typeInstance_spec c s₂.memo ty cls h.2.2.1
  ⟨h₁.1, h₂.1, h.memo h₁.2 h₂.2⟩

theorem setBody (h : Agree c s₁ s₂) (i : Nat) (b : Body) :
    Agree c { s₁ with heap := Config.setBody s₁.heap i b } { s₂ with heap := Config.setBody s₂.heap i b } := by
  obtain ⟨hn, hl, m₁, m₂, hp⟩ := agree_iff.mp h
  refine agree_iff.mpr ⟨hn, hl, m₁, m₂, fun p hm => ?_⟩
  simp only [findObj_setBody]
  rcases optRel_cases (hp p hm) with ⟨e₁, e₂⟩ | ⟨o₁, o₂, e₁, e₂, hr⟩ <;> rw [e₁, e₂]
  · exact .none
  · obtain ⟨hid, hty, -⟩ := hr.same
    simp only [Option.map_some, hid]
    refine .some ?_
    split
    · exact ⟨by simp only [Obj.proj, hty], hr.2.1, hr.2.2⟩
    · exact hr

theorem drop (h : Agree c s₁ s₂) (x : Nat) :
    Agree c { s₁ with live := s₁.live.filter (fun p => !(p.1 == x)) } { s₂ with live := s₂.live.filter (fun p => !(p.1 == x)) } := by
  obtain ⟨hn, hl, m₁, m₂, hp⟩ := agree_iff.mp h
  exact agree_iff.mpr ⟨hn, by simp only [hl], m₁, m₂, fun p hm => hp p (List.mem_filter.mp hm).1⟩

/-- a freed block (registry and root list may be filtered or not: `GC_Rem` exists only with the collector) -/
theorem free (h : Agree c s₁ s₂) (x i : Nat) (r₁ r₂ q₁ q₂ : List Nat) :
    Agree c { s₁ with heap := s₁.heap.filter (fun o => !(o.id == i)), reg := r₁, roots := q₁, live := s₁.live.filter (fun p => !(p.1 == x)) }
            { s₂ with heap := s₂.heap.filter (fun o => !(o.id == i)), reg := r₂, roots := q₂, live := s₂.live.filter (fun p => !(p.1 == x)) } := by
  obtain ⟨hn, hl, m₁, m₂, hp⟩ := agree_iff.mp h
  refine agree_iff.mpr ⟨hn, by simp only [hl], m₁, m₂, fun p hm => ?_⟩
  simp only [findObj_filter_ne]
  split
  · exact .none
  · exact hp p (List.mem_filter.mp hm).1

theorem alloc (h : Agree c s₁ s₂) (d : Nat) (ty : String) (b : Body) :
    Agree c { s₁ with next := s₁.next + 1, heap := { id := s₁.next, hdr := headerInit Cfg.default ty heapClass, body := b } :: s₁.heap,
                      live := (d, s₁.next) :: s₁.live }
            { s₂ with next := s₂.next + 1, heap := { id := s₂.next, hdr := headerInit c ty heapClass, body := b } :: s₂.heap,
                      live := (d, s₂.next) :: s₂.live } := by
  obtain ⟨hn, hl, m₁, m₂, hp⟩ := agree_iff.mp h
  refine agree_iff.mpr ⟨by simp only [hn], by simp only [hn, hl], m₁, m₂, fun p hm => ?_⟩
  simp only [findObj_cons, ← hn]
  split
  · exact .some ⟨by simp only [Obj.proj, headerInit, hn], rfl, rfl⟩
  · rename_i hne
    rcases List.mem_cons.mp hm with rfl | hm
    · simp at hne
    · exact hp p hm

theorem collected (h : Agree c s₁ s₂) {t₁ t₂ : St} (h₁ : Collected s₁ t₁) (h₂ : Collected s₂ t₂) : Agree c t₁ t₂ := by
  obtain ⟨hn, hl, m₁, m₂, hp⟩ := agree_iff.mp h
  refine agree_iff.mpr ⟨by rw [h₁.1, h₂.1, hn], by rw [h₁.2.1, h₂.2.1, hl], h₁.2.2.1 ▸ m₁, h₂.2.2.1 ▸ m₂, fun p hm => ?_⟩
  rw [h₁.2.1] at hm
  rw [h₁.2.2.2 p hm, h₂.2.2.2 p (hl ▸ hm)]
  exact hp p hm

end Agree

end Cello.Config
