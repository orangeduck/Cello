/-
  Lemmas/RBSource.lean — `SourceOk`: what the proofs ask of the data the model reads from the source (CelloGen/Tree.lean:
  offsets and widths of the node payload, the turns of the four descent loops, the guard of `Tree_Assign`).  The lemma files
  never look at the values; Props/C03.lean proves it (`C03_current_source`).

  And what the layout gives.  `relocate` moves the block the `memcpy` of `Tree_Rem` moves; under `LayoutOk`, when the
  predecessor's key and value have the sizes of the Tree's types, that block is the whole entry (`relocate_fits`, for every
  width of header, key and value), and a shorter block is not (`valAt_short`).  So `remHere` / `remAt` are `remHereA` /
  `remAtA`, which move the binding itself (`remHere_eq`, `remAt_eq`); RBRefine and RBDel are stated about these.
-/
import CelloProofs.Lemmas.RBList

namespace Cello.RB
open CelloGen.Tree (Descent)
variable {α β : Type}

/-- **the node layout**: `Tree_Alloc` puts the key header at the start of the payload, the key (`Tree_Key`) after it, the value
    header after the key, the value (`Tree_Val`) after that header; it reserves room for exactly these four, and the `memcpy`
    of `Tree_Rem` moves exactly these four — for every width of header, key and value. -/
def LayoutOk : Prop := ∀ y : Lay,
  y.keyHdrOff = 0 ∧ y.keyOff = y.hdr ∧ y.valHdrOff = y.hdr + y.ks ∧ y.valOff = y.hdr + y.ks + y.hdr ∧
  y.entryLen = y.hdr + y.ks + y.hdr + y.vs ∧ y.moveLen = y.hdr + y.ks + y.hdr + y.vs

theorem LayoutOk.keyHdrOff (h : LayoutOk) (y : Lay) : y.keyHdrOff = 0 := (h y).1
theorem LayoutOk.keyOff (h : LayoutOk) (y : Lay) : y.keyOff = y.hdr := (h y).2.1
theorem LayoutOk.valHdrOff (h : LayoutOk) (y : Lay) : y.valHdrOff = y.hdr + y.ks := (h y).2.2.1
theorem LayoutOk.valOff (h : LayoutOk) (y : Lay) : y.valOff = y.hdr + y.ks + y.hdr := (h y).2.2.2.1
theorem LayoutOk.entryLen (h : LayoutOk) (y : Lay) : y.entryLen = y.hdr + y.ks + y.hdr + y.vs := (h y).2.2.2.2.1
theorem LayoutOk.moveLen (h : LayoutOk) (y : Lay) : y.moveLen = y.hdr + y.ks + y.hdr + y.vs := (h y).2.2.2.2.2

/-- the descent the model's `insAt` / `find` / `remAt` are written for: `c = cmp(Tree_Key(m, node), key)`, `c < 0` → left,
    `c > 0` → right -/
def Descent.std : Descent := ⟨true, .left, .right⟩

/-- **the four descent loops** (`Tree_Set`, `Tree_Get`, `Tree_Mem`, `Tree_Rem`) all compare the node's key with the key, in this
    order, and all go left for `c < 0` and right for `c > 0` -/
def DescentOk : Prop :=
  CelloGen.Tree.setDescent = Descent.std ∧ CelloGen.Tree.getDescent = Descent.std ∧
  CelloGen.Tree.memDescent = Descent.std ∧ CelloGen.Tree.remDescent = Descent.std

/-- what the refinement proof uses of src/Tree.c beyond the control flow mirrored by the model -/
structure SourceOk : Prop where
  layout : LayoutOk
  descent : DescentOk
  /-- `Tree_Assign` starts with `if (self is obj) { return; }` -/
  selfGuard : CelloGen.Tree.assignGuardsSelf = true

theorem orient_std (cmp : α → α → Ordering) : orient Descent.std cmp = cmp := by
  funext nk k
  simp only [orient, Descent.std]
  cases cmp nk k <;> rfl

theorem SourceOk.orient_set (h : SourceOk) (cmp : α → α → Ordering) : orient CelloGen.Tree.setDescent cmp = cmp := by
  rw [h.descent.1, orient_std]

theorem SourceOk.orient_get (h : SourceOk) (cmp : α → α → Ordering) : orient CelloGen.Tree.getDescent cmp = cmp := by
  rw [h.descent.2.1, orient_std]

theorem SourceOk.orient_mem (h : SourceOk) (cmp : α → α → Ordering) : orient CelloGen.Tree.memDescent cmp = cmp := by
  rw [h.descent.2.2.1, orient_std]

theorem SourceOk.orient_rem (h : SourceOk) (cmp : α → α → Ordering) : orient CelloGen.Tree.remDescent cmp = cmp := by
  rw [h.descent.2.2.2, orient_std]

/-- a descent that turns the other way (right for `c < 0`, left for `c > 0`) is a different function: on a two-node tree it
    misses a key that is there -/
theorem orient_flipped_differs :
    find (orient ⟨true, .right, .left⟩ (compare : Nat → Nat → Ordering))
      (T.node .B (T.node .R .nil 2 "two" .nil) 1 "one" .nil) 2 = none ∧
    find (orient Descent.std (compare : Nat → Nat → Ordering))
      (T.node .B (T.node .R .nil 2 "two" .nil) 1 "one" .nil) 2 = some "two" := by
  decide

/-- the key and the value have the widths of the layout (in words) -/
def FitsLay [Packed α] [Packed β] (y : Lay) (e : α × β) : Prop :=
  (Packed.words e.1).length = y.ks ∧ (Packed.words e.2).length = y.vs

theorem writeAt_skip (a b ws : List Word) (off : Nat) (h : a.length ≤ off) :
    writeAt off ws (a ++ b) = a ++ writeAt (off - a.length) ws b := by
  obtain ⟨d, rfl⟩ := Nat.exists_eq_add_of_le h
  unfold writeAt
  rw [Nat.add_sub_cancel_left, List.length_append, Nat.add_assoc, Nat.add_sub_add_left]
  simp only [List.append_assoc, List.take_length_add_append, List.drop_length_add_append]

theorem writeAt_here (m c ws : List Word) (h : ws.length = m.length) : writeAt 0 ws (m ++ c) = ws ++ c := by
  unfold writeAt
  rw [Nat.zero_add, List.length_append, h, Nat.sub_eq_zero_of_le (Nat.le_add_right _ _), List.replicate_zero,
    List.append_nil, List.take_zero, List.nil_append, List.drop_left]

theorem writeAt_all (m ws : List Word) (h : ws.length = m.length) : writeAt 0 ws m = ws := by
  rw [← List.append_nil m, writeAt_here m [] ws h, List.append_nil]

theorem entryWords_std [Packed α] [Packed β] (hl : LayoutOk) (y : Lay) (e : α × β) (h : FitsLay y e) :
    entryWords y e = List.replicate y.hdr (Word.hdr true) ++ Packed.words e.1 ++
      (List.replicate y.hdr (Word.hdr false) ++ Packed.words e.2) := by
  unfold entryWords
  rw [hl.keyHdrOff, hl.keyOff, hl.valHdrOff, hl.valOff, hl.entryLen]
  -- the zeroed payload is header | key | header | value (`replicate_append_replicate`); each of the four stores skips the
  -- parts in front of its offset (`writeAt_skip`) and replaces one part of its own length (`writeAt_here`, the last one
  -- `writeAt_all`); what remains of the set computes the lengths and offsets these three ask for
  simp only [← List.replicate_append_replicate, List.append_assoc, writeAt_skip, writeAt_here, writeAt_all,
    List.length_replicate, h.1, h.2, Nat.le_add_right, Nat.le_add_left, Std.le_refl, Nat.add_sub_cancel_left,
    Nat.add_sub_cancel, Nat.sub_self]

theorem entryWords_length [Packed α] [Packed β] (hl : LayoutOk) (y : Lay) (e : α × β) (h : FitsLay y e) :
    (entryWords y e).length = y.moveLen := by
  rw [entryWords_std hl y e h, hl.moveLen]
  simp only [List.length_append, List.length_replicate, h.1, h.2]
  exact (Nat.add_assoc _ _ _).symm

theorem memcpyW_all (n : Nat) (dst src : List Word) (h : src.length = n) :
    memcpyW n dst src = src ++ dst.drop n := by
  simp [memcpyW, ← h]

theorem keyAt_entry [Packed α] [Packed β] (hl : LayoutOk) (y : Lay) (e : α × β) (tail : List Word) (h : FitsLay y e) :
    keyAt y (entryWords y e ++ tail) = Packed.words e.1 := by
  rw [entryWords_std hl y e h]
  unfold keyAt
  rw [hl.keyOff, List.append_assoc, List.append_assoc, List.drop_left' (by simp), List.take_left' h.1]

/-- header, key, header: the `valOff` words in front of the value -/
theorem entryWords_pre [Packed α] [Packed β] (hl : LayoutOk) (y : Lay) (e : α × β) (h : FitsLay y e) :
    ∃ pre, entryWords y e = pre ++ Packed.words e.2 ∧ pre.length = y.valOff :=
  ⟨List.replicate y.hdr (Word.hdr true) ++ Packed.words e.1 ++ List.replicate y.hdr (Word.hdr false),
    by rw [entryWords_std hl y e h]; simp, by rw [hl.valOff]; simp only [List.length_append, List.length_replicate, h.1]⟩

theorem valAt_entry [Packed α] [Packed β] (hl : LayoutOk) (y : Lay) (e : α × β) (tail : List Word) (h : FitsLay y e) :
    valAt y (entryWords y e ++ tail) = Packed.words e.2 := by
  obtain ⟨pre, e1, e2⟩ := entryWords_pre hl y e h
  unfold valAt
  rw [e1, List.append_assoc, List.drop_left' e2, List.take_left' h.2]

theorem relocate_fits [Packed α] [Packed β] [LawfulPacked α] [LawfulPacked β] (hl : LayoutOk) (y : Lay) (dst src : α × β)
    (h : FitsLay y src) : relocate y dst src = some src := by
  unfold relocate
  simp only
  rw [memcpyW_all _ _ _ (entryWords_length hl y src h), keyAt_entry hl y src _ h, valAt_entry hl y src _ h,
    LawfulPacked.ofWords_words, LawfulPacked.ofWords_words]

/-- `remHere` with the relocation as a move of the abstract key and value -/
def remHereA (c : Color) (l : T α β) (nk : α) (nv : β) (r : T α β) (p : Path α β) : Option (T α β) :=
  match l, r with
  | .node .., .node .. =>
    match maxLoc l [] with
    | none => none
    | some pr => spliceOut { pr with path := pr.path ++ { dir := .L, c := c, k := pr.k, v := pr.v, sib := r } :: p }
  | _, _ => spliceOut ⟨c, l, nk, nv, r, p⟩

def remAtA (cmp : α → α → Ordering) : T α β → Path α β → α → Option (Option (T α β))
  | .nil, _, _ => some none
  | .node c l nk nv r, p, k =>
    match cmp nk k with
    | .eq => (remHereA c l nk nv r p).map some
    | .lt => remAtA cmp l ({ dir := .L, c := c, k := nk, v := nv, sib := r } :: p) k
    | .gt => remAtA cmp r ({ dir := .Rt, c := c, k := nk, v := nv, sib := l } :: p) k

theorem remHere_eq [Packed α] [Packed β] [LawfulPacked α] [LawfulPacked β] (hy : LayoutOk) (y : Lay) (c : Color) (l : T α β)
    (nk : α) (nv : β) (r : T α β) (p : Path α β) (hl : ∀ e ∈ toList l, FitsLay y e) :
    remHere y c l nk nv r p = remHereA c l nk nv r p := by
  cases l with
  | nil => cases r <;> rfl
  | node lc ll lk lv lr =>
    cases r with
    | nil => rfl
    | node rc rl rk rv rr =>
      simp only [remHere, remHereA]
      cases hm : maxLoc (T.node lc ll lk lv lr) ([] : Path α β) with
      | none => rfl
      | some pr =>
        simp only
        rw [relocate_fits hy y (nk, nv) (pr.k, pr.v) (hl _ (maxLoc_mem _ _ _ hm))]

theorem remAt_eq [Packed α] [Packed β] [LawfulPacked α] [LawfulPacked β] (hy : LayoutOk) (cmp : α → α → Ordering) (y : Lay)
    (t : T α β) (p : Path α β) (k : α) (ht : ∀ e ∈ toList t, FitsLay y e) :
    remAt cmp y t p k = remAtA cmp t p k := by
  induction t generalizing p with
  | nil => rfl
  | node c l nk nv r ihl ihr =>
    simp only [toList, List.mem_append, List.mem_cons] at ht
    simp only [remAt, remAtA]
    cases cmp nk k with
    | eq => simp only; rw [remHere_eq hy y c l nk nv r p (fun e he => ht e (Or.inl he))]
    | lt => exact ihl _ (fun e he => ht e (Or.inl he))
    | gt => exact ihr _ (fun e he => ht e (Or.inr (Or.inr he)))

/-- a copy that stops `d` words into the value leaves `d` words of the source's value, then the destination's
    (`ps`, `pd`: the words in front of the values) -/
theorem block_short (ps pd vs' vd : List Word) (d v : Nat) (hp : pd.length = ps.length)
    (hs : vs'.length = v) (hd : vd.length = v) (hdv : d ≤ v) :
    (((ps ++ vs').take (ps.length + d) ++ (pd ++ vd).drop (ps.length + d)).drop ps.length).take v
      = vs'.take d ++ vd.drop d := by
  rw [List.take_length_add_append, ← hp, List.drop_length_add_append, hp, List.append_assoc,
    List.drop_left' rfl, List.take_of_length_le]
  rw [List.length_append, List.length_take, List.length_drop, hs, hd, Nat.min_eq_left hdv, Nat.add_sub_cancel' hdv]
  exact Nat.le_refl _

theorem valAt_short [Packed α] [Packed β] (hl : LayoutOk) (y : Lay) (dst src : α × β) (hd : FitsLay y dst) (hs : FitsLay y src)
    (n : Nat) (h1 : y.valOff ≤ n) (h2 : n ≤ y.entryLen) :
    valAt y (memcpyW n (entryWords y dst) (entryWords y src)) =
      (Packed.words src.2).take (n - y.valOff) ++ (Packed.words dst.2).drop (n - y.valOff) := by
  obtain ⟨ps, es, ls⟩ := entryWords_pre hl y src hs
  obtain ⟨pd, ed, ld⟩ := entryWords_pre hl y dst hd
  obtain ⟨d, rfl⟩ : ∃ d, n = y.valOff + d := ⟨n - y.valOff, (Nat.add_sub_cancel' h1).symm⟩
  have hdv : d ≤ y.vs := by rw [hl.entryLen, hl.valOff] at h2; exact Nat.le_of_add_le_add_left h2
  unfold valAt memcpyW
  rw [ed, es, Nat.add_sub_cancel_left, ← ls]
  exact block_short _ _ _ _ d y.vs (ld.trans ls.symm) hs.2 hd.2 hdv

end Cello.RB
