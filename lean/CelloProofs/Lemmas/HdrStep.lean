/-
  Lemmas for C19: whatever an operation does (`Does`, HdrMoves.lean), hence every operation (`step`), preserves
  the invariant `WF` and leaves no sweep under way (`NoPend`); every reachable state is well formed.  The release paths
  come first, at the top level and for objects of any class (`finalise_top`, `gcRem_top`: HdrRelease.lean speaks of heap
  objects the collector has un-listed).  Then: an operation that is left out (`Obs.skip`) changes nothing (`step_skip`);
  which freeing calls are left out (`freeSkip_reasons`, `freeSkip_nonheap_none`).
-/
import CelloProofs.Lemmas.HdrRelease
import CelloProofs.Lemmas.HdrMoves

namespace Cello.Hdr

variable {cfg : Config}

theorem wf_rtSizes {s : St} (h : WF cfg s) (x : List (Nat × Nat)) : WF cfg { s with rtSizes := x } :=
  ⟨h.bodies, h.reg, h.freed, h.once, h.keys⟩

theorem wf_destruct_dealloc {s : St} (h : WF cfg s) {id : Nat} {o : Obj} (hget : s.get id = some o) (hlive : o.live = true)
    (hnreg : ∀ p ∈ s.reg, p.1 ≠ id) (b : Body) (hb : BodyOK cfg b) :
    WF cfg (dealloc cfg (s.updBody id (fun _ => b)) id { o with body := b }).1 :=
  wf_store_dealloc h hget (o' := { o with body := b }) rfl hlive hnreg b hb

theorem pending_updBody (s : St) (id : Nat) (f : Body → Body) : (s.updBody id f).pending = s.pending := rfl

theorem noPend_dealloc {s : St} (hn : NoPend s) (id : Nat) (o : Obj) : NoPend (dealloc cfg s id o).1 :=
  fun a ha => hn a (pending_dealloc s id o ▸ ha)

/-- `dealloc(destruct(id))` at the top level (`del_raw`): the object is live and not listed as in `finalise_spec`, but of
    any class, so its destructor may refuse and `dealloc` may too -/
theorem finalise_top (F : Facts cfg) {s : St} {id : Nat} {o : Obj} (hw : WF cfg s) (hnp : NoPend s)
    (hget : s.get id = some o) (hlive : o.live = true) (hnreg : ∀ p ∈ s.reg, p.1 ≠ id) (fuel : Nat) (hf : s.listed < fuel) :
    WF cfg (finalise fuel cfg s id).1 ∧ NoPend (finalise fuel cfg s id).1 := by
  have hnl : ¬ Listed s id := by
    rintro (h | ⟨p, hpr, e⟩)
    · exact hnp id h
    · exact hnreg p hpr e
  cases fuel with
  | zero => omega
  | succ fuel =>
    rw [finalise_succ]
    simp only [hget, hlive, Bool.not_true, Bool.false_eq_true, if_false]
    split
    · rename_i x hbx
      simp only [F.boxDelDeletes, if_true]
      have hs := gcRem_finalise_spec F fuel s x hw (pendOK_of_noPend hnp) (Nat.le_of_lt_succ hf)
      cases hr : gcRem (finalise fuel cfg) cfg s x with
      | mk s1 out =>
        rw [hr] at hs
        have hok : out = .ok := hs.ok
        subst hok
        obtain ⟨o1, hg1, hh1, _⟩ := hs.casc.hdrs id o hget
        have hl1 : s1.isLive id = true := hs.alive id hnl (by rw [isLive_of_get hget]; exact hlive)
        simp only [hl1, if_true]
        exact ⟨wf_store_dealloc hs.wf hg1 (o' := { o with body := .box none }) hh1.symm (isLive_of_get hg1 ▸ hl1)
            (fun p hpr => hnreg p (hs.casc.regSub p hpr)) (.box none) trivial,
          noPend_dealloc (s := s1.updBody id _) (fun a ha => hnp a (hs.casc.pendSub a ha)) _ _⟩
    · cases hdb : destructBody cfg o.hdr o.body with
      | mk b out =>
        have hb : BodyOK cfg (b, out).1 := hdb ▸ destructBody_ok (cfg := cfg) (h := o.hdr) (bodyOK_of_get hw hget)
        cases out with
        | ok => exact ⟨wf_store_dealloc hw hget (o' := { o with body := b }) rfl hlive hnreg b hb, noPend_dealloc (s := s.updBody id _) hnp _ _⟩
        | raised e => exact ⟨hw, hnp⟩
        | ub => exact ⟨hw, hnp⟩

theorem gcRem_top (F : Facts cfg) {s : St} (hw : WF cfg s) (hnp : NoPend s) (x : Nat) (fuel : Nat) (hf : s.listed ≤ fuel) :
    WF cfg (gcRem (finalise fuel cfg) cfg s x).1 ∧ NoPend (gcRem (finalise fuel cfg) cfg s x).1 := by
  have hs := gcRem_finalise_spec F fuel s x hw (pendOK_of_noPend hnp) hf
  exact ⟨hs.wf, fun a ha => hnp a (hs.casc.pendSub a ha)⟩

/-- `destruct` of a whole live object (Box_Del deletes the pointee through the collector, then clears the Box) -/
theorem wf_destructObj (F : Facts cfg) {s : St} (h : WF cfg s) (hnp : NoPend s) {id : Nat} {o : Obj}
    (hget : s.get id = some o) : WF cfg (destructObj cfg s id o).1 ∧ NoPend (destructObj cfg s id o).1 := by
  have hd : BodyOK cfg (destructBody cfg o.hdr o.body).1 := destructBody_ok (bodyOK_of_get h hget)
  unfold destructObj
  split
  · rename_i x _
    split
    · have ht := gcRem_top F h hnp x (fuelFor s) (Nat.le_of_lt (listed_lt_fuelFor s))
      split
      · rename_i s1 heq
        rw [heq] at ht
        exact ⟨wf_updBody ht.1 id (fun _ => Body.box none) (fun _ _ _ => trivial), ht.2⟩
      · exact ht
    · exact ⟨wf_updBody h id (fun _ => Body.box none) (fun _ _ _ => trivial), hnp⟩
  · exact ⟨wf_updBody h id (fun _ => (destructBody cfg o.hdr o.body).1) (fun _ _ _ => hd), hnp⟩

theorem wf_freeObj (F : Facts cfg) {s : St} (h : WF cfg s) (hnp : NoPend s) {f : FreeOp} {id : Nat} {o : Obj}
    (hget : s.get id = some o) (hlive : o.live = true) (hguard : f.viaCollector = false → s.isReg id = false) :
    WF cfg (freeObj cfg s f id o).1 ∧ NoPend (freeObj cfg s f id o).1 := by
  cases f with
  | dealloc | deallocRaw | deallocRoot =>
    exact ⟨wf_dealloc h hget rfl hlive (isReg_false (hguard rfl)), noPend_dealloc hnp id o⟩
  | destruct =>
    simp only [freeObj]
    exact wf_destructObj F h hnp hget
  | delRaw =>
    simp only [freeObj]
    split
    · exact ⟨wf_dealloc h hget rfl hlive (isReg_false (hguard rfl)), noPend_dealloc hnp id o⟩
    · exact finalise_top F h hnp hget hlive (isReg_false (hguard rfl)) _ (listed_lt_fuelFor s)
  | del | delRoot =>
    simp only [freeObj, F.delViaCollector, if_true]
    exact gcRem_top F h hnp id _ (Nat.le_of_lt (listed_lt_fuelFor s))

/-- the element a target designates sits in the body of the (only) entry with that handle -/
theorem elemAt_of_elemOf {s : St} (h : WF cfg s) {t : Target} {e : Elem} (he : s.elemOf t = some e)
    {p : Nat × Obj} (hp : p ∈ s.objs) (hk : p.1 = t.id) : p.2.body.elemAt t = some e := by
  have hg := get_of_mem h hp
  rw [hk] at hg
  unfold St.elemOf at he
  cases t with
  | obj id => cases he
  | _ => simp only [Target.id] at hg he; rw [hg] at he; simp only at he; split at he <;> simp_all

theorem wf_setElem {s : St} (h : WF cfg s) {t : Target} {e e1 : Elem} (he : s.elemOf t = some e) (hh : e1.hdr = e.hdr) :
    WF cfg (s.updBody t.id (fun b => b.setElemAt t e1)) :=
  wf_updBody h t.id _ (fun p hp hk => bodyOK_setElemAt (h.bodies p hp) (elemAt_of_elemOf h he hp hk) hh)

theorem registers_isHeap (F : Facts cfg) {r : Route} {root : Bool} (h : r.registers cfg = some root) : r.isHeap = true := by
  cases r <;> simp_all [Route.registers, Route.isHeap, F.regRaw]

theorem birth_alloc_heap (F : Facts cfg) (s : St) {r : Route} (ty : Ty) (h : r.isHeap = true) :
    (birthHeader cfg s r ty).1.alloc = cfg.cHeap := by
  rw [birthHeader_hdr F]
  cases r <;> first | rfl | cases h

theorem wf_sweep (F : Facts cfg) {s : St} (h : WF cfg s) (victims order : List Nat) :
    WF cfg (s.sweep cfg victims order).1 ∧ NoPend (s.sweep cfg victims order).1 :=
  ⟨(sweep_spec F h victims order).wf, (sweep_spec F h victims order).noPend⟩

theorem isReg_false_of_freeSkip {s : St} {f : FreeOp} {id : Nat} {o : Obj} (hskip : s.freeSkip cfg f id o = none)
    (hv : f.viaCollector = false) : s.isReg id = false := by
  cases hr : s.isReg id with
  | false => rfl
  | true => simp [St.freeSkip, hv, hr] at hskip

theorem wf_does (F : Facts cfg) {s : St} (h : WF cfg s) (hnp : NoPend s) {op : Op} {s' : St} {obs : Obs}
    (m : Does cfg s op (s', obs)) : WF cfg s' ∧ NoPend s' := by
  have heap : ∀ {r : Route} (ty : Ty) (root : Bool), r.registers cfg = some root → (birthHeader cfg s r ty).1.alloc = cfg.cHeap :=
    fun ty _ hr => birth_alloc_heap F s ty (registers_isHeap F hr)
  cases m with
  | same => exact ⟨h, hnp⟩
  | make hfresh hb x => exact ⟨wf_rtSizes (wf_birth h _ _ _ _ hfresh (buildBody_ok F hb) (heap _)) x, hnp⟩
  | static hfresh => exact ⟨wf_addObj h _ _ hfresh trivial, hnp⟩
  | copy hfresh _ hcp => exact ⟨wf_birth h _ _ _ _ hfresh (copyBody_ok F hcp) (heap _), hnp⟩
  | free hget hlive hskip => exact wf_freeObj F h hnp hget hlive (isReg_false_of_freeSkip hskip)
  | elem he hh => exact ⟨wf_setElem h he hh, hnp⟩
  | inplace hget hip => exact ⟨wf_updBody h _ _ (fun _ _ _ => inPlaceObj_ok F (bodyOK_of_get h hget) hip), hnp⟩
  | own id v => exact ⟨wf_updBody h id _ (fun _ _ _ => trivial), hnp⟩
  | sweep how victims order => exact wf_sweep F h victims order

theorem wf_step (F : Facts cfg) {s : St} (h : WF cfg s) (hnp : NoPend s) (op : Op) :
    WF cfg (step cfg s op).1 ∧ NoPend (step cfg s op).1 :=
  wf_does F h hnp (step_does s op)

theorem wf_run (F : Facts cfg) (ops : List Op) : ∀ {s : St}, WF cfg s → NoPend s →
    WF cfg (run cfg s ops) ∧ NoPend (run cfg s ops) := by
  induction ops with
  | nil => intro s h hnp; exact ⟨h, hnp⟩
  | cons op r ih => intro s h hnp; exact ih (wf_step F h hnp op).1 (wf_step F h hnp op).2

/-- **an operation that both sides skip is a no-op of the model**: whatever changes the state reports something else -/
theorem step_skip {s : St} {op : Op} {why : String} (h : (step cfg s op).2 = .skip why) : (step cfg s op).1 = s := by
  have m := step_does (cfg := cfg) s op
  generalize step cfg s op = r at m h
  cases m <;> first | rfl | cases h

theorem ite_some_cases {α : Type} {c : Prop} [Decidable c] {a w : α} {x : Option α}
    (h : (if c then some a else x) = some w) : w = a ∨ x = some w := by
  split at h
  · exact Or.inl (Option.some.inj h).symm
  · exact Or.inr h

/-- the reasons a freeing operation on a whole live object is left out: the five tests of `freeSkip`, in order -/
theorem freeSkip_reasons {s : St} {f : FreeOp} {id : Nat} {o : Obj} {why : String}
    (h : s.freeSkip cfg f id o = some why) : why = "misuse" ∨ why = "referenced" ∨ why = "dangling" := by
  unfold St.freeSkip at h
  obtain rfl | h := ite_some_cases h; · exact Or.inl rfl
  obtain rfl | h := ite_some_cases h; · exact Or.inl rfl
  obtain rfl | h := ite_some_cases h; · exact Or.inl rfl
  obtain rfl | h := ite_some_cases h; · exact Or.inr (Or.inl rfl)
  obtain rfl | h := ite_some_cases h; · exact Or.inr (Or.inr rfl)
  cases h

theorem freeSkip_nonheap_none {s : St} (hw : WF cfg s) {id : Nat} {o : Obj} (f : FreeOp)
    (hget : s.get id = some o) (hnh : o.hdr.alloc ≠ cfg.cHeap) (hty : s.isTypeInUse id = false)
    (hdb : s.danglingBox o = false) :
    s.freeSkip cfg f id o = none := by
  have hnr : s.isReg id = false := isReg_false_of_nonheap hw hget hnh
  have hb : (o.hdr.alloc == cfg.cHeap) = false := by simpa using hnh
  simp [St.freeSkip, hnr, hty, hb, hdb]

end Cello.Hdr
