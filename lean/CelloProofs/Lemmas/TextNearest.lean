/-
  Lemmas for C15 (engine `text`): what `strtod` / `strtof` return, in exact rational arithmetic.

  `roundRat` returns the nearest `m · 2^e` (`val m e`) of a given precision and minimal exponent (`RoundOK`), because its significand
  is the scaled quotient rounded (`Rhe`).  A decimal that does not exceed the destination's largest number therefore stays in the
  exponent range, where the bits `encode64` builds decode to what was encoded (`fDecode_encode`), and is read as the nearest `double` /
  `float` (`decToBitsW_near`); a finite double is itself a candidate (`float_fits`).
-/
import CelloProofs.Lemmas.TextRhe
import Mathlib.Tactic.FieldSimp
import Mathlib.Tactic.Positivity
import Mathlib.Tactic.NormNum
import Mathlib.Algebra.Order.Field.Power

namespace Cello.Text

theorem two_zpow_pos (e : ℤ) : (0 : ℚ) < (2 : ℚ) ^ e := by positivity

theorem zpow_of_nonneg (b : ℚ) (e : ℤ) (h : 0 ≤ e) : b ^ e = b ^ e.toNat := by
  conv_lhs => rw [← Int.toNat_of_nonneg h]
  exact zpow_natCast b _

theorem zpow_of_neg (b : ℚ) (e : ℤ) (h : e < 0) : b ^ e = 1 / b ^ (-e).toNat := by
  have : e = -((-e).toNat : ℤ) := by rw [Int.toNat_of_nonneg (by omega)]; omega
  conv_lhs => rw [this]
  rw [zpow_neg, zpow_natCast, one_div]

theorem natCast_two_pow (k : ℕ) : ((2 ^ k : ℕ) : ℚ) = (2 : ℚ) ^ (k : ℤ) := by
  rw [zpow_natCast]; push_cast; rfl

theorem natCast_two_pow_pred (k : ℕ) (hk : 1 ≤ k) : ((2 ^ (k - 1) : ℕ) : ℚ) = (2 : ℚ) ^ ((k : ℤ) - 1) := by
  rw [natCast_two_pow]; congr 1; omega

def val (m : ℕ) (e : ℤ) : ℚ := (m : ℚ) * (2 : ℚ) ^ e

theorem val_zero (e : ℤ) : val 0 e = 0 := by simp [val]

theorem val_mono_exp (m : ℕ) (e e' : ℤ) (h : e ≤ e') : val m e ≤ val m e' := by
  unfold val
  exact mul_le_mul_of_nonneg_left (zpow_le_zpow_right₀ (by norm_num) h) (by positivity)

theorem val_lt (m : ℕ) (e : ℤ) (p : ℕ) (hm : m < 2 ^ p) : val m e < (2 : ℚ) ^ ((p : ℤ) + e) := by
  unfold val
  rw [zpow_add₀ (by norm_num : (2 : ℚ) ≠ 0)]
  have : (m : ℚ) < (2 : ℚ) ^ (p : ℤ) := by rw [← natCast_two_pow]; exact_mod_cast hm
  exact mul_lt_mul_of_pos_right this (two_zpow_pos e)

theorem val_ge (m : ℕ) (e : ℤ) (p : ℕ) (hm : 2 ^ p ≤ m) : (2 : ℚ) ^ ((p : ℤ) + e) ≤ val m e := by
  unfold val
  rw [zpow_add₀ (by norm_num : (2 : ℚ) ≠ 0)]
  have : (2 : ℚ) ^ (p : ℤ) ≤ (m : ℚ) := by rw [← natCast_two_pow]; exact_mod_cast hm
  exact mul_le_mul_of_nonneg_right this (le_of_lt (two_zpow_pos e))

/-- trailing zero bits of a significand can be moved into the exponent -/
theorem val_shift (m : ℕ) (e : ℤ) (t : ℕ) (h : m / 2 ^ t * 2 ^ t = m) : val m e = val (m / 2 ^ t) (e + t) := by
  unfold val
  rw [zpow_add₀ (by norm_num : (2 : ℚ) ≠ 0), zpow_natCast]
  conv_lhs => rw [← h]
  push_cast; ring

theorem val_natCast (m e : ℕ) : val m (e : ℤ) = ((m * 2 ^ e : ℕ) : ℚ) := by
  unfold val; rw [zpow_natCast]; push_cast; rfl

theorem val_le_max (m : ℕ) (e : ℤ) (p : ℕ) (emax : ℤ) (hm : m < 2 ^ p) (he : e ≤ emax) : val m e ≤ val (2 ^ p - 1) emax := by
  refine le_trans (val_mono_exp m e emax he) ?_
  unfold val
  exact mul_le_mul_of_nonneg_right (by exact_mod_cast Nat.le_pred_of_lt hm) (le_of_lt (two_zpow_pos _))

theorem scalePair_val (n d : ℕ) (hd : 0 < d) (e : ℤ) :
    0 < (scalePair n d e).2 ∧ ((scalePair n d e).1 : ℚ) / (scalePair n d e).2 = (n : ℚ) / d / (2 : ℚ) ^ e := by
  unfold scalePair
  have hdq : (d : ℚ) ≠ 0 := by positivity
  by_cases h : e ≥ 0
  · simp only [h, if_true]
    refine ⟨by positivity, ?_⟩
    rw [zpow_of_nonneg 2 e h]; push_cast; field_simp
  · simp only [h, if_false]
    refine ⟨hd, ?_⟩
    rw [zpow_of_neg 2 e (by omega)]; push_cast; field_simp

/-- `n/d` in units of `2^e`: at the exponent `roundRat` settles on, the quotient it rounds to its significand -/
def rho (n d : ℕ) (e : ℤ) : ℚ := (n : ℚ) / d / (2 : ℚ) ^ e

theorem rho_pred (n d : ℕ) (e : ℤ) : rho n d (e - 1) = rho n d e * 2 := by
  unfold rho
  rw [zpow_sub₀ (by norm_num : (2 : ℚ) ≠ 0), zpow_one]
  have := two_zpow_pos e
  field_simp

theorem log2_bounds (n : ℕ) (hn : 0 < n) : (2 : ℚ) ^ (n.log2 : ℤ) ≤ n ∧ (n : ℚ) < (2 : ℚ) ^ ((n.log2 : ℤ) + 1) := by
  constructor
  · rw [zpow_natCast]; exact_mod_cast Nat.log2_self_le (by omega : n ≠ 0)
  · have : ((n.log2 : ℤ) + 1) = ((n.log2 + 1 : ℕ) : ℤ) := by push_cast; rfl
    rw [this, zpow_natCast]; exact_mod_cast (Nat.lt_log2_self (n := n))

theorem quot_zpow_bounds (b n d : ℚ) (hb : 0 < b) (a c : ℤ) (n1 : b ^ a ≤ n) (n2 : n < b ^ (a + 1)) (d1 : b ^ c ≤ d) (d2 : d < b ^ (c + 1)) :
    b ^ (a - c - 1) < n / d ∧ n / d < b ^ (a - c + 1) := by
  have hd : 0 < d := lt_of_lt_of_le (zpow_pos hb c) d1
  have hbn : b ≠ 0 := hb.ne'
  constructor
  · rw [lt_div_iff₀ hd]
    calc b ^ (a - c - 1) * d < b ^ (a - c - 1) * b ^ (c + 1) := mul_lt_mul_of_pos_left d2 (zpow_pos hb _)
      _ = b ^ a := by rw [← zpow_add₀ hbn]; congr 1; ring
      _ ≤ n := n1
  · rw [div_lt_iff₀ hd]
    calc n < b ^ (a + 1) := n2
      _ = b ^ (a - c + 1) * b ^ c := by rw [← zpow_add₀ hbn]; congr 1; ring
      _ ≤ b ^ (a - c + 1) * d := mul_le_mul_of_nonneg_left d1 (zpow_pos hb _).le

/-- the exponent `e0` that `roundRat` estimates from the bit lengths is off by at most one -/
theorem rho_e0 (n d prec : ℕ) (hn : 0 < n) (hd : 0 < d) :
    (2 : ℚ) ^ ((prec : ℤ) - 2) < rho n d ((n.log2 : ℤ) - d.log2 - ((prec : ℤ) - 1)) ∧
    rho n d ((n.log2 : ℤ) - d.log2 - ((prec : ℤ) - 1)) < (2 : ℚ) ^ (prec : ℤ) := by
  obtain ⟨n1, n2⟩ := log2_bounds n hn
  obtain ⟨d1, d2⟩ := log2_bounds d hd
  obtain ⟨lo, hi⟩ := quot_zpow_bounds 2 n d (by norm_num) _ _ n1 n2 d1 d2
  have hE := two_zpow_pos ((n.log2 : ℤ) - d.log2 - ((prec : ℤ) - 1))
  have h2 : (2 : ℚ) ≠ 0 := by norm_num
  unfold rho
  constructor
  · rw [lt_div_iff₀ hE, ← zpow_add₀ h2]
    rwa [show (prec : ℤ) - 2 + ((n.log2 : ℤ) - d.log2 - ((prec : ℤ) - 1)) = (n.log2 : ℤ) - d.log2 - 1 by ring]
  · rw [div_lt_iff₀ hE, ← zpow_add₀ h2]
    rwa [show (prec : ℤ) + ((n.log2 : ℤ) - d.log2 - ((prec : ℤ) - 1)) = (n.log2 : ℤ) - d.log2 + 1 by ring]

theorem nat_div_lt_iff (a b K : ℕ) (hb : 0 < b) : a / b < K ↔ (a : ℚ) / b < K := by
  have hbq : (0 : ℚ) < b := by positivity
  rw [Nat.div_lt_iff_lt_mul hb, div_lt_iff₀ hbq]
  constructor
  · intro h; exact_mod_cast h
  · intro h; exact_mod_cast h

/-- the exponent `e1` chosen by `roundRat` puts the quotient into `[2^(prec-1), 2^prec)` -/
theorem rho_e1 (n d prec : ℕ) (hn : 0 < n) (hd : 0 < d) (hp : 1 ≤ prec) (e0 : ℤ) (he0 : e0 = (n.log2 : ℤ) - d.log2 - ((prec : ℤ) - 1))
    (q0 : ℕ) (hq0 : q0 = (scalePair n d e0).1 / (scalePair n d e0).2) (e1 : ℤ)
    (he1 : e1 = if q0 ≥ 2 ^ prec then e0 + 1 else if q0 < 2 ^ (prec - 1) then e0 - 1 else e0) :
    (2 : ℚ) ^ ((prec : ℤ) - 1) ≤ rho n d e1 ∧ rho n d e1 < (2 : ℚ) ^ (prec : ℤ) := by
  obtain ⟨lo, hi⟩ := rho_e0 n d prec hn hd
  rw [← he0] at lo hi
  obtain ⟨hden, hval⟩ := scalePair_val n d hd e0
  have hfl : ∀ K : ℕ, q0 < K ↔ rho n d e0 < K := by
    intro K; rw [hq0, nat_div_lt_iff _ _ K hden, hval]; rfl
  have c1 : ¬ q0 ≥ 2 ^ prec := by
    rw [not_le, hfl, natCast_two_pow]; exact hi
  rw [if_neg c1] at he1
  by_cases c2 : q0 < 2 ^ (prec - 1)
  · rw [if_pos c2] at he1
    rw [hfl, natCast_two_pow_pred prec hp] at c2
    rw [he1, rho_pred]
    have e : (2 : ℚ) ^ ((prec : ℤ) - 1) = (2 : ℚ) ^ ((prec : ℤ) - 2) * 2 := by
      have : (prec : ℤ) - 1 = ((prec : ℤ) - 2) + 1 := by ring
      rw [this, zpow_add₀ (by norm_num : (2 : ℚ) ≠ 0), zpow_one]
    have e' : (2 : ℚ) ^ (prec : ℤ) = (2 : ℚ) ^ ((prec : ℤ) - 1) * 2 := by
      have : (prec : ℤ) = ((prec : ℤ) - 1) + 1 := by ring
      conv_lhs => rw [this]
      rw [zpow_add₀ (by norm_num : (2 : ℚ) ≠ 0), zpow_one]
    constructor
    · rw [e]; linarith only [lo]
    · rw [e']; linarith only [c2]
  · rw [if_neg c2] at he1
    rw [hfl, natCast_two_pow_pred prec hp, not_lt] at c2
    rw [he1]; exact ⟨c2, hi⟩

/-- what `roundRat` returns: a significand below `2^prec` at an exponent not below `emin`, normalised above `emin`, and no
    number of that shape is closer to `n/d` -/
structure RoundOK (prec : ℕ) (emin : ℤ) (n d m : ℕ) (e : ℤ) : Prop where
  emin_le : emin ≤ e
  lt : m < 2 ^ prec
  normal : emin < e → 2 ^ (prec - 1) ≤ m
  nearest : ∀ (mz : ℕ) (ez : ℤ), mz < 2 ^ prec → emin ≤ ez → |val m e - (n : ℚ) / d| ≤ |val mz ez - (n : ℚ) / d|

/-- a competitor at an exponent `ez ≥ e2` is an integer multiple of `2^e2`; one at a finer exponent lies below `2^(prec-1) · 2^e2`,
    which is such a multiple and not above `ρ · 2^e2` -/
theorem scaled_nearest (prec : ℕ) (hp : 1 ≤ prec) (emin e2 : ℤ) (ρ : ℚ) (mr : ℕ)
    (hnear : ∀ k : ℤ, |(mr : ℚ) - ρ| ≤ |(k : ℚ) - ρ|) (hρlo : emin < e2 → (2 : ℚ) ^ ((prec : ℤ) - 1) ≤ ρ)
    (mz : ℕ) (ez : ℤ) (hmz : mz < 2 ^ prec) (hez : emin ≤ ez) :
    |(mr : ℚ) * (2 : ℚ) ^ e2 - ρ * (2 : ℚ) ^ e2| ≤ |val mz ez - ρ * (2 : ℚ) ^ e2| := by
  have h2ne : (2 : ℚ) ≠ 0 := by norm_num
  have hE2 := two_zpow_pos e2
  -- divide by 2^e2
  have hfac : ∀ x : ℚ, |x * (2 : ℚ) ^ e2 - ρ * (2 : ℚ) ^ e2| = |x - ρ| * (2 : ℚ) ^ e2 := by
    intro x; rw [← sub_mul, abs_mul, abs_of_pos hE2]
  have hz : val mz ez = ((mz : ℚ) * (2 : ℚ) ^ (ez - e2)) * (2 : ℚ) ^ e2 := by
    unfold val; rw [mul_assoc, ← zpow_add₀ h2ne]; congr 2; ring
  rw [hfac, hz, hfac]
  apply mul_le_mul_of_nonneg_right _ (le_of_lt hE2)
  by_cases hc : e2 ≤ ez
  · have : (mz : ℚ) * (2 : ℚ) ^ (ez - e2) = (((mz * 2 ^ (ez - e2).toNat : ℕ) : ℤ) : ℚ) := by
      rw [zpow_of_nonneg 2 (ez - e2) (by omega)]; push_cast; ring
    rw [this]; exact hnear _
  · have hlt : emin < e2 := by omega
    have hlo := hρlo hlt
    have hP := hnear ((2 ^ (prec - 1) : ℕ) : ℤ)
    have hPc : (((2 ^ (prec - 1) : ℕ) : ℤ) : ℚ) = (2 : ℚ) ^ ((prec : ℤ) - 1) := by
      rw [Int.cast_natCast, natCast_two_pow_pred prec hp]
    rw [hPc] at hP
    have hζ : (mz : ℚ) * (2 : ℚ) ^ (ez - e2) < (2 : ℚ) ^ ((prec : ℤ) - 1) := by
      have h1 : (2 : ℚ) ^ (ez - e2) ≤ (2 : ℚ) ^ (-1 : ℤ) := zpow_le_zpow_right₀ (by norm_num) (by omega)
      have h2 : (mz : ℚ) < (2 : ℚ) ^ (prec : ℤ) := by rw [← natCast_two_pow]; exact_mod_cast hmz
      have h3 : (2 : ℚ) ^ (prec : ℤ) * (2 : ℚ) ^ (-1 : ℤ) = (2 : ℚ) ^ ((prec : ℤ) - 1) := by
        rw [← zpow_add₀ h2ne]; congr 1
      have h4 : (0 : ℚ) < (2 : ℚ) ^ (-1 : ℤ) := two_zpow_pos _
      calc (mz : ℚ) * (2 : ℚ) ^ (ez - e2) ≤ (mz : ℚ) * (2 : ℚ) ^ (-1 : ℤ) := mul_le_mul_of_nonneg_left h1 (by positivity)
        _ < (2 : ℚ) ^ (prec : ℤ) * (2 : ℚ) ^ (-1 : ℤ) := mul_lt_mul_of_pos_right h2 h4
        _ = (2 : ℚ) ^ ((prec : ℤ) - 1) := h3
    have a1 : |(2 : ℚ) ^ ((prec : ℤ) - 1) - ρ| = ρ - (2 : ℚ) ^ ((prec : ℤ) - 1) := by
      rw [abs_sub_comm]; exact abs_of_nonneg (sub_nonneg.2 hlo)
    have a2 : |(mz : ℚ) * (2 : ℚ) ^ (ez - e2) - ρ| = ρ - (mz : ℚ) * (2 : ℚ) ^ (ez - e2) := by
      rw [abs_sub_comm]; exact abs_of_nonneg (sub_nonneg.2 (hζ.le.trans hlo))
    rw [a2]; rw [a1] at hP; linarith only [hP, hζ]

theorem roundRat_ok (prec : ℕ) (emin : ℤ) (n d : ℕ) (hn : 0 < n) (hd : 0 < d) (hp : 1 ≤ prec) :
    RoundOK prec emin n d (roundRat prec emin n d).1 (roundRat prec emin n d).2 := by
  -- name the intermediate values of the definition
  obtain ⟨e1, he1lo, he1hi, hdef⟩ : ∃ e1 : ℤ, (2 : ℚ) ^ ((prec : ℤ) - 1) ≤ rho n d e1 ∧ rho n d e1 < (2 : ℚ) ^ (prec : ℤ) ∧
      roundRat prec emin n d =
        (let e2 : ℤ := if e1 < emin then emin else e1
         let m := roundHalfEven (scalePair n d e2).1 (scalePair n d e2).2
         if m ≥ 2 ^ prec then (2 ^ (prec - 1), e2 + 1) else (m, e2)) := by
    refine ⟨_, (rho_e1 n d prec hn hd hp _ rfl _ rfl _ rfl).1, (rho_e1 n d prec hn hd hp _ rfl _ rfl _ rfl).2, rfl⟩
  rw [hdef]
  simp only
  generalize he2 : (if e1 < emin then emin else e1) = e2
  have h2ne : (2 : ℚ) ≠ 0 := by norm_num
  have hE2 := two_zpow_pos e2
  obtain ⟨hemin, hle, hnorm⟩ : emin ≤ e2 ∧ e1 ≤ e2 ∧ (emin < e2 → e2 = e1) := by rw [← he2]; split <;> omega
  obtain ⟨hden, hval⟩ := scalePair_val n d hd e2
  have hρdef : rho n d e2 = (n : ℚ) / d / (2 : ℚ) ^ e2 := rfl
  -- the scaled quotient is below 2^prec, and at least 2^(prec-1) above `emin`
  have hρhi : rho n d e2 < (2 : ℚ) ^ (prec : ℤ) := by
    have : rho n d e2 ≤ rho n d e1 := by
      unfold rho
      have hnd : (0 : ℚ) ≤ (n : ℚ) / d := by positivity
      exact div_le_div_of_nonneg_left hnd (two_zpow_pos e1) (zpow_le_zpow_right₀ (by norm_num) hle)
    exact lt_of_le_of_lt this he1hi
  have hρlo : emin < e2 → (2 : ℚ) ^ ((prec : ℤ) - 1) ≤ rho n d e2 := by
    intro h; rw [hnorm h]; exact he1lo
  have hs := rhe_is (scalePair n d e2).1 (scalePair n d e2).2 hden
  rw [hval, ← hρdef] at hs
  generalize roundHalfEven (scalePair n d e2).1 (scalePair n d e2).2 = mr at *
  generalize hρ : rho n d e2 = ρ at *
  have hnear := hs.nearest
  have hmr_le : mr ≤ 2 ^ prec := hs.le_nat _ (by rw [natCast_two_pow]; exact hρhi.le)
  have hmr_ge : emin < e2 → 2 ^ (prec - 1) ≤ mr := fun h => hs.nat_le _ (by rw [natCast_two_pow_pred prec hp]; exact hρlo h)
  have hpow : 2 ^ prec = 2 * 2 ^ (prec - 1) := by
    have : prec = (prec - 1) + 1 := by omega
    conv_lhs => rw [this, pow_succ]
    ring
  have hr : (n : ℚ) / d = ρ * (2 : ℚ) ^ e2 := by
    rw [hρdef]; field_simp
  have hnearest : ∀ (mz : ℕ) (ez : ℤ), mz < 2 ^ prec → emin ≤ ez → |(mr : ℚ) * (2 : ℚ) ^ e2 - (n : ℚ) / d| ≤ |val mz ez - (n : ℚ) / d| :=
    fun mz ez hmz hez => hr ▸ scaled_nearest prec hp emin e2 ρ mr hnear hρlo mz ez hmz hez
  by_cases hc : mr ≥ 2 ^ prec
  · rw [if_pos hc]
    have hmr : mr = 2 ^ prec := by omega
    have hv : val (2 ^ (prec - 1)) (e2 + 1) = (mr : ℚ) * (2 : ℚ) ^ e2 := by
      unfold val
      rw [hmr, zpow_add₀ h2ne, zpow_one, hpow]; push_cast; ring
    refine ⟨by simp only; omega, ?_, fun _ => le_refl _, ?_⟩
    · simp only; rw [hpow]; have : 0 < 2 ^ (prec - 1) := by positivity
      omega
    · intro mz ez hmz hez
      simp only
      rw [hv]; exact hnearest mz ez hmz hez
  · rw [if_neg hc]
    refine ⟨hemin, by simp only; omega, hmr_ge, ?_⟩
    intro mz ez hmz hez
    exact hnearest mz ez hmz hez

/-- no overflow: the largest number of the format is a candidate, and nearer to anything below it than a number with a greater
    exponent -/
theorem RoundOK.le_emax {prec : ℕ} {emin : ℤ} {n d m : ℕ} {e : ℤ} (R : RoundOK prec emin n d m e) (emax : ℤ)
    (hemax : emin ≤ emax) (ht : (n : ℚ) / d ≤ val (2 ^ prec - 1) emax) : e ≤ emax := by
  by_contra hov
  have hy : (2 : ℚ) ^ ((prec : ℤ) + emax) ≤ val m e :=
    le_trans (zpow_le_zpow_right₀ (by norm_num) (by omega)) (val_ge m e (prec - 1) (R.normal (by omega)))
  have hpos : 0 < 2 ^ prec := by positivity
  have hM := val_lt (2 ^ prec - 1) emax prec (by omega)
  have hn := R.nearest (2 ^ prec - 1) emax (by omega) hemax
  rw [abs_of_nonneg (by linarith only [hy, hM, ht]), abs_of_nonneg (sub_nonneg.2 ht)] at hn
  linarith only [hn, hy, hM]

theorem bits_fields (bits sgn E f : ℕ) (hb : bits = sgn * 2 ^ 63 + E * 2 ^ 52 + f) (hs : sgn ≤ 1) (hE : E < 2048) (hf : f < 2 ^ 52) :
    bits / 2 ^ 63 % 2 = sgn ∧ bits / 2 ^ 52 % 2048 = E ∧ bits % 2 ^ 52 = f ∧ bits < 2 ^ 64 := by
  -- the fields are read off `2^52 · (sgn · 2^11 + E) + f`
  have hA : bits = 2 ^ 52 * (sgn * 2048 + E) + f := by omega
  have hd : bits / 2 ^ 52 = sgn * 2048 + E := by
    rw [hA, Nat.mul_add_div (Nat.two_pow_pos 52), Nat.div_eq_of_lt hf, Nat.add_zero]
  refine ⟨?_, by rw [hd]; omega, by rw [hA, Nat.mul_add_mod]; exact Nat.mod_eq_of_lt hf, by omega⟩
  rw [show (2 : ℕ) ^ 63 = 2 ^ 52 * 2048 from rfl, ← Nat.div_div_eq_div_mul, hd]; omega

theorem fDecode_of_fields (bits sgn E f : ℕ) (hb : bits = sgn * 2 ^ 63 + E * 2 ^ 52 + f) (hs : sgn ≤ 1) (hE : E < 2048) (hf : f < 2 ^ 52) :
    fDecode bits = (decide (sgn = 1), (if E = 0 then f else f + 2 ^ 52), (if E = 0 then -1074 else (E : ℤ) - 1075)) ∧
    (E < 2047 → fFinite bits = true) := by
  obtain ⟨h1, h2, h3, h4⟩ := bits_fields bits sgn E f hb hs hE hf
  constructor
  · unfold fDecode
    simp only [h1, h2, h3]
    split <;> rfl
  · intro hE'
    simp only [fFinite, h2, h4, decide_true, Bool.true_and, decide_eq_true_eq]
    exact Nat.ne_of_lt hE'

theorem fDecode_encode (sg : Bool) (m : ℕ) (e : ℤ) (hm : m < 2 ^ 53) (hsub : m < 2 ^ 52 → e = -1074)
    (hnorm : 2 ^ 52 ≤ m → -1074 ≤ e ∧ e + 1075 < 2047) :
    fDecode (encode64 sg m e) = (sg, m, e) ∧ fFinite (encode64 sg m e) = true := by
  have hsg : (if sg then 1 else 0) ≤ 1 ∧ decide ((if sg then 1 else 0) = 1) = sg := by cases sg <;> decide
  by_cases h : m < 2 ^ 52
  · have he := hsub h
    subst he
    have hb : encode64 sg m (-1074) = (if sg then 1 else 0) * 2 ^ 63 + 0 * 2 ^ 52 + m := by
      simp only [encode64, h, if_true, signBit]; cases sg <;> simp
    obtain ⟨hd, hf⟩ := fDecode_of_fields _ _ 0 m hb hsg.1 (by omega) h
    exact ⟨by rw [hd, hsg.2]; rfl, hf (by omega)⟩
  · obtain ⟨h1, h2⟩ := hnorm (by omega)
    obtain ⟨E, hEe, hEz, hE1, hE2⟩ : ∃ E : ℕ, (e + 1075).toNat = E ∧ (E : ℤ) = e + 1075 ∧ 1 ≤ E ∧ E < 2047 :=
      ⟨(e + 1075).toNat, rfl, by omega, by omega, by omega⟩
    have hb : encode64 sg m e = (if sg then 1 else 0) * 2 ^ 63 + E * 2 ^ 52 + (m - 2 ^ 52) := by
      have hE : ¬ (e + 1075 ≥ 2047) := by omega
      simp only [encode64, h, if_false, hE, hEe, signBit]; cases sg <;> simp
    obtain ⟨hd, hf⟩ := fDecode_of_fields _ _ E (m - 2 ^ 52) hb hsg.1 (by omega) (by omega)
    refine ⟨?_, hf hE2⟩
    rw [hd, hsg.2, if_neg (by omega), if_neg (by omega), show m - 2 ^ 52 + 2 ^ 52 = m by omega, show (E : ℤ) - 1075 = e by omega]

theorem fDecode_finite (bits : ℕ) (h : fFinite bits = true) :
    (fDecode bits).2.1 < 2 ^ 53 ∧ -1074 ≤ (fDecode bits).2.2 ∧ (fDecode bits).2.2 ≤ 971 := by
  unfold fFinite at h
  simp only [Bool.and_eq_true, decide_eq_true_eq, ne_eq] at h
  have hf := Nat.mod_lt bits (Nat.two_pow_pos 52)
  have hE := Nat.mod_lt (bits / 2 ^ 52) (show 0 < 2048 by decide)
  unfold fDecode
  generalize bits / 2 ^ 52 % 2048 = E at *
  generalize bits % 2 ^ 52 = f at *
  simp only
  split <;> simp only <;> omega

theorem fDecode_signBit (sg : Bool) : fDecode (signBit sg) = (sg, 0, -1074) ∧ fFinite (signBit sg) = true := by
  have := fDecode_encode sg 0 (-1074) (by norm_num) (fun _ => rfl) (fun h => absurd h (by norm_num))
  simpa [encode64] using this

/-- precision, least and greatest exponent of the destination: `float` (`narrow`) or `double` -/
def binFmt : Bool → ℕ × ℤ × ℤ
  | true => (24, -149, 104)
  | false => (53, -1074, 971)

/-- the largest finite number of the destination: DBL_MAX, FLT_MAX -/
def fmtMax : Bool → ℕ
  | true => (2 ^ 24 - 1) * 2 ^ 104
  | false => (2 ^ 53 - 1) * 2 ^ 971

theorem val_fmtMax (narrow : Bool) : val (2 ^ (binFmt narrow).1 - 1) (binFmt narrow).2.2 = fmtMax narrow := by
  cases narrow <;> simp only [binFmt, fmtMax]
  · exact val_natCast (2 ^ 53 - 1) 971
  · exact val_natCast (2 ^ 24 - 1) 104

theorem ratToBits_near (sg : Bool) (n d : ℕ) (hn : 0 < n) (hd : 0 < d) (ht : (n : ℚ) / d ≤ val (2 ^ 53 - 1) 971) :
    ∃ (my : ℕ) (ey : ℤ), fDecode (ratToBits sg n d) = (sg, my, ey) ∧ fFinite (ratToBits sg n d) = true ∧
      ∀ (mz : ℕ) (ez : ℤ), mz < 2 ^ 53 → -1074 ≤ ez → |val my ey - (n : ℚ) / d| ≤ |val mz ez - (n : ℚ) / d| := by
  have R := roundRat_ok 53 (-1074) n d hn hd (by norm_num)
  have hmax := R.le_emax 971 (by norm_num) ht
  have hn0 : ¬ n = 0 := by omega
  simp only [ratToBits, hn0, if_false]
  generalize (roundRat 53 (-1074) n d).1 = my at *
  generalize (roundRat 53 (-1074) n d).2 = ey at *
  have hsub : my < 2 ^ 52 → ey = -1074 := by
    intro hmy
    by_contra hne
    have := R.normal (by have := R.emin_le; omega)
    omega
  obtain ⟨hdec, hfin⟩ := fDecode_encode sg my ey R.lt hsub (fun _ => ⟨R.emin_le, by omega⟩)
  exact ⟨my, ey, hdec, hfin, R.nearest⟩

theorem widen32_spec (m : ℕ) (e : ℤ) (hm : m < 2 ^ 24) (hpos : 0 < m) :
    val (widen32 m e).1 (widen32 m e).2 = val m e ∧ 2 ^ 52 ≤ (widen32 m e).1 ∧ (widen32 m e).1 < 2 ^ 53 ∧
      e - 52 ≤ (widen32 m e).2 ∧ (widen32 m e).2 ≤ e := by
  have hL1 : 2 ^ m.log2 ≤ m := Nat.log2_self_le (by omega)
  have hL2 : m < 2 ^ (m.log2 + 1) := Nat.lt_log2_self
  have hL : m.log2 < 24 := by
    by_contra hc
    have : 2 ^ 24 ≤ 2 ^ m.log2 := Nat.pow_le_pow_right (by norm_num) (by omega)
    omega
  have hne : ¬ m = 0 := by omega
  simp only [widen32, hne, if_false]
  generalize hs : 52 - m.log2 = s
  have hsL : m.log2 + s = 52 := by omega
  refine ⟨?_, ?_, ?_, by omega, by omega⟩
  · rw [val_shift (m * 2 ^ s) _ s (by rw [Nat.mul_div_cancel _ (Nat.two_pow_pos s)]), Nat.mul_div_cancel _ (Nat.two_pow_pos s),
      sub_add_cancel]
  · calc 2 ^ 52 = 2 ^ m.log2 * 2 ^ s := by rw [← pow_add, hsL]
      _ ≤ m * 2 ^ s := Nat.mul_le_mul_right _ hL1
  · calc m * 2 ^ s < 2 ^ (m.log2 + 1) * 2 ^ s := Nat.mul_lt_mul_of_pos_right hL2 (by positivity)
      _ = 2 ^ 53 := by rw [← pow_add]; congr 1; omega

theorem ratToBits32_near (sg : Bool) (n d : ℕ) (hn : 0 < n) (hd : 0 < d) (ht : (n : ℚ) / d ≤ val (2 ^ 24 - 1) 104) :
    ∃ (my : ℕ) (ey : ℤ), fDecode (ratToBits32 sg n d) = (sg, my, ey) ∧ fFinite (ratToBits32 sg n d) = true ∧
      ∀ (mz : ℕ) (ez : ℤ), mz < 2 ^ 24 → -149 ≤ ez → |val my ey - (n : ℚ) / d| ≤ |val mz ez - (n : ℚ) / d| := by
  have R := roundRat_ok 24 (-149) n d hn hd (by norm_num)
  have hmax := R.le_emax 104 (by norm_num) ht
  have hn0 : ¬ n = 0 := by omega
  have hno : ¬ (roundRat 24 (-149) n d).2 ≥ 105 := by omega
  simp only [ratToBits32, hn0, hno, if_false]
  generalize (roundRat 24 (-149) n d).1 = m' at *
  generalize (roundRat 24 (-149) n d).2 = e' at *
  by_cases hm0 : m' = 0
  · -- underflow to ±0
    subst hm0
    have hw : widen32 0 e' = (0, -1074) := by simp [widen32]
    rw [hw]
    obtain ⟨hdec, hfin⟩ := fDecode_encode sg 0 (-1074) (by norm_num) (fun _ => rfl) (fun h => absurd h (by norm_num))
    refine ⟨0, -1074, hdec, hfin, ?_⟩
    have : val 0 (-1074) = val 0 e' := by rw [val_zero, val_zero]
    rw [this]; exact R.nearest
  · obtain ⟨hv, hw1, hw2, hw3, hw4⟩ := widen32_spec m' e' R.lt (by omega)
    have hemin := R.emin_le
    obtain ⟨hdec, hfin⟩ := fDecode_encode sg (widen32 m' e').1 (widen32 m' e').2 hw2
      (fun h => absurd h (by omega)) (fun _ => ⟨by omega, by omega⟩)
    refine ⟨_, _, hdec, hfin, ?_⟩
    rw [hv]; exact R.nearest

theorem decToBitsW_zero (narrow neg : Bool) (k : ℤ) : decToBitsW narrow neg 0 k = signBit neg := by simp [decToBitsW]

theorem decToBitsW_rat (narrow neg : Bool) (mant : ℕ) (k : ℤ) (hm : 0 < mant)
    (hlo : -400 ≤ k + ((natDigits mant).length : ℤ)) (hhi : k + ((natDigits mant).length : ℤ) ≤ 400) :
    ∃ n d : ℕ, 0 < n ∧ 0 < d ∧ (n : ℚ) / d = mant * (10 : ℚ) ^ k ∧
      decToBitsW narrow neg mant k = (if narrow then ratToBits32 else ratToBits) neg n d := by
  unfold decToBitsW
  have c0 : ¬ mant = 0 := by omega
  have c1 : ¬ (k + ((natDigits mant).length : ℤ) > 400) := by omega
  have c2 : ¬ (k + ((natDigits mant).length : ℤ) < -400) := by omega
  simp only [c0, c1, c2, if_false]
  by_cases hk : k ≥ 0
  · refine ⟨mant * 10 ^ k.toNat, 1, by positivity, by norm_num, ?_, by simp only [hk, if_true]⟩
    rw [zpow_of_nonneg 10 _ hk]; push_cast; ring
  · refine ⟨mant, 10 ^ (-k).toNat, hm, by positivity, ?_, by simp only [hk, if_false]⟩
    rw [zpow_of_neg 10 _ (by omega)]; push_cast; ring

/-- **`strtod` / `strtof` return the nearest number of the destination** -/
theorem decToBitsW_near (narrow neg : Bool) (mant : ℕ) (k : ℤ) (hm : 0 < mant)
    (hlo : -400 ≤ k + ((natDigits mant).length : ℤ)) (hhi : k + ((natDigits mant).length : ℤ) ≤ 400)
    (ht : mant * (10 : ℚ) ^ k ≤ fmtMax narrow) :
    ∃ (my : ℕ) (ey : ℤ), fDecode (decToBitsW narrow neg mant k) = (neg, my, ey) ∧ fFinite (decToBitsW narrow neg mant k) = true ∧
      ∀ (mz : ℕ) (ez : ℤ), mz < 2 ^ (binFmt narrow).1 → (binFmt narrow).2.1 ≤ ez →
        |val my ey - mant * (10 : ℚ) ^ k| ≤ |val mz ez - mant * (10 : ℚ) ^ k| := by
  obtain ⟨n, d, hn, hd, hnd, hre⟩ := decToBitsW_rat narrow neg mant k hm hlo hhi
  rw [hre, ← hnd]
  rw [← hnd, ← val_fmtMax] at ht
  cases narrow
  · exact ratToBits_near neg n d hn hd ht
  · exact ratToBits32_near neg n d hn hd ht

theorem isFloat32_spec (bits : ℕ) (hfin : fFinite bits = true) (h : isFloat32 bits = true) :
    ∃ (k : ℕ) (E : ℤ), k < 2 ^ 24 ∧ -149 ≤ E ∧ E ≤ 104 ∧ val (fDecode bits).2.1 (fDecode bits).2.2 = val k E := by
  obtain ⟨hm, he1, he2⟩ := fDecode_finite bits hfin
  unfold isFloat32 at h
  generalize fDecode bits = d at *
  obtain ⟨sg, m, e⟩ := d
  simp only at hm he1 he2 h ⊢
  simp only [Bool.or_eq_true, Bool.and_eq_true, beq_iff_eq, decide_eq_true_eq] at h
  -- with at least 29 trailing zero bits moved into the exponent, 24 bits are left
  have hk : ∀ t, 29 ≤ t → m / 2 ^ t < 2 ^ 24 := fun t ht => by
    rw [Nat.div_lt_iff_lt_mul (by positivity)]
    calc m < 2 ^ 53 := hm
      _ = 2 ^ 24 * 2 ^ 29 := by norm_num
      _ ≤ 2 ^ 24 * 2 ^ t := Nat.mul_le_mul_left _ (Nat.pow_le_pow_right (by norm_num) ht)
  rcases h with (h | h) | h
  · subst h; exact ⟨0, 0, by norm_num, by norm_num, by norm_num, by rw [val_zero, val_zero]⟩
  · obtain ⟨⟨⟨h1, h2⟩, h3⟩, h4⟩ := h
    exact ⟨m / 2 ^ 29, e + 29, hk 29 le_rfl, by omega, by omega, by exact_mod_cast val_shift m e 29 h1⟩
  · obtain ⟨⟨⟨h1, h2⟩, h3⟩, h4⟩ := h
    obtain ⟨t, ht, ht1, ht2⟩ : ∃ t : ℕ, (-149 - e).toNat = t ∧ (t : ℤ) = -149 - e ∧ 30 ≤ t :=
      ⟨(-149 - e).toNat, rfl, by omega, by omega⟩
    rw [ht] at h4
    have hdiv : m / 2 ^ t * 2 ^ t = m := by
      have := Nat.div_add_mod m (2 ^ t); rw [h4, Nat.add_zero, Nat.mul_comm] at this; exact this
    exact ⟨m / 2 ^ t, -149, hk t (by omega), by omega, by omega, by rw [show (-149 : ℤ) = e + t by omega]; exact val_shift m e t hdiv⟩

theorem float_fits (narrow : Bool) (bits : ℕ) (hfin : fFinite bits = true) (h32 : narrow = true → isFloat32 bits = true) :
    (∃ (c : ℕ) (E : ℤ), c < 2 ^ (binFmt narrow).1 ∧ (binFmt narrow).2.1 ≤ E ∧ val (fDecode bits).2.1 (fDecode bits).2.2 = val c E) ∧
      val (fDecode bits).2.1 (fDecode bits).2.2 ≤ fmtMax narrow := by
  obtain ⟨k, E, hk, hE1, hE2, hkE⟩ : ∃ (k : ℕ) (E : ℤ), k < 2 ^ (binFmt narrow).1 ∧ (binFmt narrow).2.1 ≤ E ∧ E ≤ (binFmt narrow).2.2 ∧
      val (fDecode bits).2.1 (fDecode bits).2.2 = val k E := by
    cases narrow
    · obtain ⟨hm, h1, h2⟩ := fDecode_finite bits hfin
      exact ⟨_, _, hm, h1, h2, rfl⟩
    · exact isFloat32_spec bits hfin (h32 rfl)
  exact ⟨⟨k, E, hk, hE1, hkE⟩, by rw [hkE, ← val_fmtMax]; exact val_le_max k E _ _ hk hE2⟩

end Cello.Text
