/-
  C20, over the model Cello/File.lean alone and for every stdio: the File_* wrappers as equations in stdio's answers; association lists.
-/
import Cello.File

namespace Cello.File

/-! ### the wrappers in terms of stdio's answers

  Each wrapper destructures what stdio returned; written with projections the right-hand sides can be rewritten with the facts
  known about that answer.  On a File that is not open only File_Open has an equation: the wrappers that need an open File are
  `refused l` there by `rfl`, `fileClose` once `closeGuard` is known (`step_refused`, Lemmas/FileTrack.lean). -/

section Equations
variable {σ : Type} (io : Stdio σ) (cfg : Cfg) (l : σ) (h : Handle)

theorem fileClose_some_fixed :
    fileClose io Cfg.fixed l (some h) =
      ⟨(io.fclose l h).1, none, if (io.fclose l h).2 then .ok () else .raised .IOError, [.on .fclose h]⟩ := by
  simp only [fileClose, Cfg.fixed]; cases (io.fclose l h).2 <;> rfl

theorem fileOpen_none (k : Nat) (m : Mode) :
    fileOpen io cfg l none k m =
      ⟨(io.fopen l k m).1, (io.fopen l k m).2, if (io.fopen l k m).2.isSome then .ok () else .raised .IOError,
        [.fopen k m (io.fopen l k m).2]⟩ := by
  rcases ho : io.fopen l k m with ⟨l2, r⟩
  cases r <;> simp [fileOpen, ho]

theorem fileOpen_some_fixed (k : Nat) (m : Mode) :
    fileOpen io Cfg.fixed l (some h) k m =
      if (io.fclose l h).2 then
        ⟨(io.fopen (io.fclose l h).1 k m).1, (io.fopen (io.fclose l h).1 k m).2,
          if (io.fopen (io.fclose l h).1 k m).2.isSome then .ok () else .raised .IOError,
          [.on .fclose h, .fopen k m (io.fopen (io.fclose l h).1 k m).2]⟩
      else ⟨(io.fclose l h).1, none, .raised .IOError, [.on .fclose h]⟩ := by
  rcases hc : io.fclose l h with ⟨l1, ok⟩
  cases ok
  · simp [fileOpen, fileClose, Cfg.fixed, hc]
  · rcases ho : io.fopen l1 k m with ⟨l2, r⟩
    cases r <;> simp [fileOpen, fileClose, hc, ho]

theorem fileSeek_some (off : Int) (wh : Whence) :
    fileSeek io l (some h) off wh =
      ⟨(io.fseek l h off wh).1, some h, if (io.fseek l h off wh).2 then .ok () else .raised .IOError, [.on .fseek h]⟩ := rfl

theorem fileTell_some :
    fileTell io l (some h) =
      ⟨(io.ftell l h).1, some h, match (io.ftell l h).2 with | some p => .ok p | none => .raised .IOError, [.on .ftell h]⟩ := rfl

theorem fileFlush_some :
    fileFlush io l (some h) =
      ⟨(io.fflush l h).1, some h, if (io.fflush l h).2 then .ok () else .raised .IOError, [.on .fflush h]⟩ := rfl

theorem fileEof_some : fileEof io l (some h) = ⟨(io.feof l h).1, some h, .ok (io.feof l h).2, [.on .feof h]⟩ := rfl

theorem fileRead_some (n : Nat) :
    fileRead io l (some h) n =
      if (io.fread l h n).2.1 ≠ 1 ∧ n ≠ 0 then
        ⟨(io.feof (io.fread l h n).1 h).1, some h,
          if (io.feof (io.fread l h n).1 h).2 then .ok (io.fread l h n).2 else .raised .IOError, [.on .fread h, .on .feof h]⟩
      else ⟨(io.fread l h n).1, some h, .ok (io.fread l h n).2, [.on .fread h]⟩ := rfl

theorem fileWrite_some (d : List Byte) :
    fileWrite io l (some h) d =
      ⟨(io.fwrite l h d).1, some h, if (io.fwrite l h d).2 ≠ 1 ∧ d.length ≠ 0 then .raised .IOError else .ok (io.fwrite l h d).2,
        [.on .fwrite h]⟩ := rfl

theorem fileScanInt_some :
    fileScanInt io l (some h) =
      match (io.vfscanfInt l h).2 with
      | none => ⟨(io.vfscanfInt l h).1, some h, .raised .FormatError, [.on .vfscanf h]⟩
      | some v => ⟨io.vfscanfWs (io.vfscanfInt l h).1 h, some h, .ok v, [.on .vfscanf h, .on .vfscanf h]⟩ := by
  rcases hv : io.vfscanfInt l h with ⟨l1, r⟩
  cases r <;> simp [fileScanInt, hv]

theorem writeAll_cons (f : Option Handle) (d : List Byte) (cs : List (List Byte)) :
    writeAll io l f (d :: cs) =
      ((writeAll io (fileWrite io l f d).lib f cs).1, (fileWrite io l f d).out :: (writeAll io (fileWrite io l f d).lib f cs).2) := rfl

theorem readAll_cons (f : Option Handle) (n : Nat) (ns : List Nat) :
    readAll io l f (n :: ns) =
      ((readAll io (fileRead io l f n).lib f ns).1, (fileRead io l f n).out :: (readAll io (fileRead io l f n).lib f ns).2) := rfl
end Equations

theorem lookup_erase_ne {α : Type} (k k' : Nat) (l : List (Nat × α)) (h : k' ≠ k) :
    lookup k' (erase k l) = lookup k' l := by
  induction l with
  | nil => rfl
  | cons p rest ih =>
    obtain ⟨a, v⟩ := p
    by_cases ha : a = k
    · subst ha
      have : lookup k' ((a, v) :: rest) = lookup k' rest := by simp [lookup, Ne.symm h]
      rw [this, ← ih]; simp [erase, List.filter]
    · have e : erase k ((a, v) :: rest) = (a, v) :: erase k rest := by simp [erase, List.filter, ha]
      rw [e]; simp only [lookup]; rw [ih]

@[simp] theorem lookup_insert_self {α : Type} (k : Nat) (v : α) (l : List (Nat × α)) :
    lookup k (insert k v l) = some v := by simp [insert, lookup]

theorem lookup_insert_ne {α : Type} (k k' : Nat) (v : α) (l : List (Nat × α)) (h : k' ≠ k) :
    lookup k' (insert k v l) = lookup k' l := by
  simp only [insert, lookup, Ne.symm h, if_false]; exact lookup_erase_ne k k' l h

@[simp] theorem lookup_erase_self {α : Type} (k : Nat) (l : List (Nat × α)) : lookup k (erase k l) = none := by
  induction l with
  | nil => rfl
  | cons p rest ih =>
    obtain ⟨a, v⟩ := p
    by_cases ha : a = k
    · subst ha; simpa [erase, List.filter] using ih
    · have e : erase k ((a, v) :: rest) = (a, v) :: erase k rest := by simp [erase, List.filter, ha]
      rw [e]; simp [lookup, ha, ih]

theorem lookup_none_of_gt {α : Type} (l : List (Nat × α)) (k : Nat) (h : maxKey l < k) : lookup k l = none := by
  induction l with
  | nil => rfl
  | cons p rest ih =>
    obtain ⟨a, v⟩ := p
    simp only [maxKey] at h
    have h1 : a ≠ k := by omega
    have h2 : maxKey rest < k := by omega
    simp [lookup, h1, ih h2]

theorem freshName_free {α : Type} (l : List (Nat × α)) (want : Nat) : lookup (freshName l want) l = none := by
  simp only [freshName]
  cases h : lookup want l with
  | none => simpa using h
  | some v => exact lookup_none_of_gt l _ (Nat.lt_succ_self _)

theorem freshName_of_free {α : Type} (l : List (Nat × α)) (want : Nat) (h : lookup want l = none) :
    freshName l want = want := by
  simp [freshName, h]

end Cello.File
