/-
  Lemmas for C16: operands that alias the target (known finding KF-C16-alias-operand).  Such an operand is a pointer at an offset
  of the block: a moving `realloc` leaves it dangling, one in place leaves of it what `Holds.inBlock_realloc` says, and either
  way the copy that follows is undefined (`aliased_ub`) — unless nothing is reallocated (`remA_eq`) or the call returns first
  (`assignA_self`).  Calls in contract therefore refine the by-value step on the text; the proposed repair does so for every operand
  form.  Last, `show_to(s, s, pos)` (`showSelf_moved_ub`, `showSelf_inplace`; for it alone the file rests on StrItems.lean).
-/
import CelloProofs.Lemmas.StrOps
import CelloProofs.Lemmas.StrItems
namespace Cello.Str

theorem Src.Disjoint.eq_val {src : Src} (h : src.Disjoint) : ∃ x, src = .val x := by
  cases src with
  | val x => exact ⟨x, rfl⟩
  | _ => exact h.elim

/-- the four readings of an operation agree with the by-value operation `op.plain` -/
structure AOp.ByValue (op : AOp) : Prop where
  toOp_eq : ∀ s, op.toOp s = op.plain
  absOp_eq : ∀ a, op.absOp a = op.plain
  stepA_eq : ∀ P J mv s, stepA P J mv s op = step P J s op.plain
  stepFix_eq : ∀ P J mv s, stepFix P J mv s op = step P J s op.plain

theorem AOp.NoAlias.byValue {op : AOp} (h : op.NoAlias) : op.ByValue := by
  cases op with
  | assign src | concat src | append src | rem src =>
    obtain ⟨x, rfl⟩ := Src.Disjoint.eq_val h; exact ⟨fun _ => rfl, fun _ => rfl, fun _ _ _ _ => rfl, fun _ _ _ _ => rfl⟩
  | formatS _ src =>
    obtain ⟨x, rfl⟩ := Src.Disjoint.eq_val h
    exact ⟨fun _ => rfl, fun _ => rfl, fun _ _ _ _ => rfl, fun _ _ _ _ => by simp [stepFix, formatFix]; rfl⟩
  | _ => exact ⟨fun _ => rfl, fun _ => rfl, fun _ _ _ _ => rfl, fun _ _ _ _ => rfl⟩

theorem runA_eq_run (P : Params) (J : Nat → Byte) (mv : Nat → Bool) :
    ∀ (ops : List AOp) (i : Nat) (s : Str), (∀ op ∈ ops, op.NoAlias) → runA P J mv i s ops = run P J s (ops.map AOp.plain)
  | [], _, _, _ => rfl
  | op :: ops, i, s, h => by
    obtain ⟨h1, hr⟩ := List.forall_mem_cons.mp h
    simp only [runA, run, List.map_cons, h1.byValue.stepA_eq P J (mv i) s, runA_eq_run P J mv ops (i + 1) _ hr]

theorem nulFree_plain {op : AOp} (h : op.NoAlias) (s : Str) (hn : op.NulFree s) : op.plain.NulFree := by
  rw [← h.byValue.toOp_eq s]; exact hn

/-- `concat(s, s)`: whether or not the block moves, `strcat` gets the same pointer twice -/
theorem concatA_self_ub {P : Params} (hP : P.Lawful) (J : Nat → Byte) (mv : Bool) (s : Str) (hs : s.WF) :
    (concatA P J mv s .self).out = .ub .overlap := by
  have h := hs.holds
  have hn : s.abs.length < s.abs.length + s.abs.length + 1 := by omega
  have h1 := h.realloc J hn
  -- both strings are inside the new block (`h1`) and both start at offset 0: the ranges `disjointRanges` compares meet
  simp [concatA, strcatWithin, h.strlen0, hP.concat, h1.inBlock, h1.strlen0, disjointRanges]

theorem moved_is_useAfterFree (P : Params) (J : Nat → Byte) (s : Str) (off : Nat) (h : inBlock s.buf off = true)
    (pos : Nat) (render : List Byte → List Byte) :
    (assignAt P J true s off).out = .ub .useAfterFree ∧ (concatA P J true s (.view off)).out = .ub .useAfterFree ∧
    (formatAt P J true s pos render off).out = .ub .useAfterFree := by
  simp [assignAt, concatA, formatAt, h]

/-- an aliased `assign`, `concat` / `append` through a view and `print_to(s, pos, "%s", obj)` at a position inside the text are
    undefined whatever the allocator does.  Moved: the copy reads the freed block.  In place:
    * `assign`: the block was cut to `strlen(val) + 1` bytes, so `val` is either the block itself (`strcpy(p, p)`) or its
      terminator is gone;
    * `concat`: the source ends exactly where the destination's terminator is, the first byte copied destroys it;
    * `%s`: either the block was cut in front of the argument's terminator (`pos < off`) or the text written overlaps the
      argument it is read from. -/
theorem aliased_ub {P : Params} (hP : P.Lawful) (J : Nat → Byte) (mv : Bool) (s : Str) (hs : s.WF) (off : Nat)
    (hoff : off ≤ s.abs.length) (pos : Nat) (hpos : pos ≤ s.abs.length) :
    (assignAt P J mv s off).out.isUB = true ∧ (concatA P J mv s (.view off)).out.isUB = true ∧
    (formatAt P J mv s pos id off).out.isUB = true := by
  have h := hs.holds
  have hin := h.inBlock hoff
  cases mv with
  | true =>
    obtain ⟨h1, h2, h3⟩ := moved_is_useAfterFree P J _ off hin pos id
    rw [h1, h2, h3]; exact ⟨rfl, rfl, rfl⟩
  | false =>
    refine ⟨?_, ?_, ?_⟩
    · -- `inBlock_realloc`: of the block cut to `|a| - off + 1` bytes the view is still a C string iff `|a| < |a| - off + 1`
      simp only [assignAt, hin, h.strlen hoff, hP.assign, h.inBlock_realloc J _ hoff]
      by_cases h0 : off = 0
      · subst h0; simp [disjointRanges, Outcome.isUB]                                       -- source = destination
      · simp [show ¬ s.abs.length < s.abs.length - off + 1 by omega, Outcome.isUB]         -- the terminator is gone
    · have hn : s.abs.length < s.abs.length + (s.abs.length - off) + 1 := by omega
      have h1 := h.realloc J hn
      -- the source `[off, |a| + 1)` lies inside the destination after the copy, `[0, |a| + (|a| - off) + 1)`
      have hd : disjointRanges off (s.abs.length - off + 1) 0 (s.abs.length + (s.abs.length - off) + 1) = false := by
        simp only [disjointRanges, Bool.or_eq_false_iff, decide_eq_false_iff_not]; omega
      simp [concatA, hin, strcatWithin, h.strlen hoff, h.strlen0, hP.concat, h1.inBlock, h1.strlen hoff, h1.strlen0, hoff, hd,
        Outcome.isUB]
    · simp only [formatAt, hin, h.cstrAt hoff, id, List.length_drop, hP.format, h.inBlock_realloc J _ hoff]
      by_cases hpo : off ≤ pos
      · -- the new block keeps the terminator (`hn`), so the argument is read as before; it meets the text written at `pos`
        have hn : s.abs.length < pos + (s.abs.length - off) + 1 := by omega
        have hd : disjointRanges off (s.abs.length - off + 1) pos (s.abs.length - off + 1) = false := by
          simp only [disjointRanges, Bool.or_eq_false_iff, decide_eq_false_iff_not]; omega
        simp [hn, (h.realloc J hn).cstrAt hoff, hd, Outcome.isUB]
      · simp [show ¬ s.abs.length < pos + (s.abs.length - off) + 1 by omega, Outcome.isUB]  -- the terminator is gone

/-- `rem` with an operand inside the text is `rem` of the bytes it denotes: no `realloc`, all reads before the one `memmove` -/
theorem remA_eq (P : Params) {s : Str} (hs : s.WF) (src : Src) (h : src.off ≤ s.abs.length) :
    remA P s src = rem P s (src.read s) := by
  cases src with
  | view off => simp [remA, hs.holds.inBlock (show off ≤ _ from h), Src.read]
  | _ => rfl

/-- `c_str(obj)` is `s->val` (the target itself or a view at offset 0): the early return of 744a45f -/
theorem assignA_self {P : Params} (hP : P.Lawful) (J : Nat → Byte) (mv : Bool) (s : Str) (src : Src) (hv : ¬ src.Disjoint)
    (h0 : src.off = 0) : assignA P J mv s src = { st := s, out := .ok 0, log := [] } := by
  cases src with
  | val x => exact absurd trivial hv
  | self => simp [assignA, hP.assignSelf, Src.off]
  | view off => obtain rfl : off = 0 := h0; simp [assignA, hP.assignSelf, Src.off]

/-- a view at an offset > 0 is a different pointer: the guard does not fire -/
theorem assignA_view_pos (P : Params) (J : Nat → Byte) (mv : Bool) (s : Str) (off : Nat) (h : 0 < off) :
    assignA P J mv s (.view off) = assignAt P J mv s off := by
  have : (off == 0) = false := by simp; omega
  simp [assignA, Src.off, this]

theorem read_eq_readAbs {s : Str} (hs : s.WF) (src : Src) (h : src.off ≤ s.abs.length) : src.read s = src.readAbs s.abs := by
  cases src with
  | view off => exact hs.holds.cstrAt h
  | _ => rfl

theorem toOp_eq_absOp {s : Str} (hs : s.WF) {op : AOp} (h : op.InText s) : op.toOp s = op.absOp s.abs := by
  cases op with
  | assign src | concat src | append src | rem src | formatS _ src => simp only [AOp.toOp, AOp.absOp, read_eq_readAbs hs src h]
  | _ => rfl

theorem absOp_nulFree {a : List Byte} (ha : NulFree a) {op : AOp} (h : op.plain.NulFree) : (op.absOp a).NulFree := by
  cases op with
  | assign src | concat src | append src | rem src | formatS _ src =>
    cases src with
    | val x => exact h
    | self => exact ha
    | view off => exact ha.drop off
  | _ => exact h

theorem inContract_of_noAlias {op : AOp} (h : op.NoAlias) (a : List Byte) : op.InContract a := by
  cases op with
  | assign src => exact Or.inl h
  | concat src | append src | formatS _ src => exact h
  | rem src => obtain ⟨x, rfl⟩ := Src.Disjoint.eq_val h; exact Nat.zero_le _
  | _ => trivial

theorem histOK_of_noAlias : ∀ (ops : List AOp) (a : List Byte), (∀ op ∈ ops, op.NoAlias) →
    HistOK a ops ∧ Spec.runA a ops = Spec.run a (ops.map AOp.plain)
  | [], _, _ => ⟨trivial, rfl⟩
  | op :: ops, a, h => by
    obtain ⟨h1, hr⟩ := List.forall_mem_cons.mp h
    have ih := histOK_of_noAlias ops (Spec.step a (op.absOp a)) hr
    refine ⟨⟨inContract_of_noAlias h1 a, ih.1⟩, ?_⟩
    simp only [Spec.runA, List.map_cons, Spec.run]
    rw [ih.2, h1.byValue.absOp_eq]

theorem stepA_ok {P : Params} (hP : P.Lawful) (J : Nat → Byte) (mv : Bool) (s : Str) (op : AOp) (hs : s.WF)
    (hc : op.InContract s.abs) (hn : (op.absOp s.abs).NulFree) :
    StepOK s (op.absOp s.abs) (stepA P J mv s op) ∧ (stepA P J mv s op).out.isUB = false := by
  by_cases hna : op.NoAlias
  · rw [hna.byValue.absOp_eq] at hn ⊢
    rw [hna.byValue.stepA_eq P J mv s]
    exact ⟨step_ok hP J s _ hs hn, step_not_ub P J s _⟩
  cases op with
  | assign src =>
    -- the early return: the by-value `assign` of the text to itself
    have h0 : src.off = 0 := hc.resolve_left hna
    have ea : (AOp.assign src).absOp s.abs = .assign s.abs := by
      cases src with
      | val x => exact absurd trivial hna
      | self => rfl
      | view off => obtain rfl : off = 0 := h0; rfl
    rw [show stepA P J mv s (.assign src) = _ from assignA_self hP J mv s src hna h0, ea]
    exact ⟨⟨hs, rfl, rfl, by simp [Spec.raises], fun _ => rfl⟩, rfl⟩
  | rem src =>
    rw [show stepA P J mv s (.rem src) = _ from remA_eq P hs src hc, read_eq_readAbs hs src hc]
    exact ⟨step_ok hP J s _ hs hn, step_not_ub P J s (.rem _)⟩
  | concat src | append src | formatS _ src => exact absurd hc hna
  | resize _ | clear | format _ _ => exact absurd trivial hna

theorem runA_length (P : Params) (J : Nat → Byte) (mv : Nat → Bool) : ∀ (ops : List AOp) (i : Nat) (s : Str),
    (runA P J mv i s ops).2.length = ops.length
  | [], _, _ => rfl
  | op :: ops, i, s => congrArg (· + 1) (runA_length P J mv ops (i + 1) (stepA P J (mv i) s op).st)

theorem runA_ok {P : Params} (hP : P.Lawful) (J : Nat → Byte) (mv : Nat → Bool) : ∀ (ops : List AOp) (i : Nat) (s : Str) (a : List Byte),
    Holds s.buf a → HistOK a ops → (∀ op ∈ ops, op.plain.NulFree) →
    Holds (runA P J mv i s ops).1.buf (Spec.runA a ops) ∧
    ∀ r ∈ (runA P J mv i s ops).2, r.safe = true ∧ r.st.WF ∧ r.out.isUB = false
  | [], _, _, _, h, _, _ => ⟨h, fun _ hr => absurd hr List.not_mem_nil⟩
  | op :: ops, i, s, a, h, hok, hops => by
    obtain ⟨hop, hr⟩ := List.forall_mem_cons.mp hops
    obtain rfl := h.abs
    obtain ⟨h1, hub⟩ := stepA_ok hP J (mv i) s op h.wf hok.1 (absOp_nulFree h.nf hop)
    have ih := runA_ok hP J mv ops (i + 1) (stepA P J (mv i) s op).st _ h1.holds hok.2 hr
    exact ⟨ih.1, List.forall_mem_cons.mpr ⟨⟨h1.safe, h1.wf, hub⟩, ih.2⟩⟩

/-- the repaired functions read `src.off` only: for them the target itself is the view at offset 0 -/
theorem aliased_as_view {src : Src} (h : ¬ src.Disjoint) (P : Params) (J : Nat → Byte) (s : Str) :
    src.read s = cstrAt s.buf src.off ∧ assignFix P J s src = assignFix P J s (.view src.off) ∧
      concatFix P J s src = concatFix P J s (.view src.off) := by
  cases src with
  | val x => exact absurd trivial h
  | _ => exact ⟨rfl, rfl, rfl⟩

theorem assignFix_view_ok {P : Params} (hP : P.Lawful) (J : Nat → Byte) {s : Str} {a : List Byte} (h : Holds s.buf a) (off : Nat)
    (hoff : off ≤ a.length) :
    (assignFix P J s (.view off)).Ok (a.drop off) 0 := by
  have hl := h.lt_length
  simp only [assignFix, Src.off, h.inBlock hoff, h.strlen hoff, h.strlen0, (h.readAt (Nat.add_sub_cancel' hoff)).2, hP.assign,
    Bool.not_true, Bool.false_eq_true, if_false]
  -- `memmove` to the front, then the block is cut behind the terminator just moved
  exact .of_mk ((Holds.store List.nil_prefix nulFree_nil (h.nf.drop off) rfl (by simp; omega)).realloc J (by simp))
    (by simp; omega)

theorem concatFix_view_ok {P : Params} (hP : P.Lawful) (J : Nat → Byte) {s : Str} {a : List Byte} (h : Holds s.buf a) (off : Nat)
    (hoff : off ≤ a.length) :
    (concatFix P J s (.view off)).Ok (a ++ a.drop off) 0 := by
  have hl := h.lt_length
  have h1 := h.realloc J (show a.length < a.length + (a.length - off) + 1 by omega)
  simp only [concatFix, Src.off, h.inBlock hoff, h.strlen hoff, h.strlen0, hP.concat, (h1.readAt (Nat.add_sub_cancel' hoff)).1,
    Bool.not_true, Bool.false_eq_true, if_false]
  -- `memmove` extends the text over the old terminator; the terminator store ends it
  have h2 := prefix_store h1.text (a.drop off) (by simp [realloc_length])
  have h3 := Holds.store (y := []) h2 (nulFree_append h.nf (h.nf.drop off)) nulFree_nil
    (off := a.length + (a.length - off)) (by simp) (by simp [writeAt_length, realloc_length])
  exact .of_mk (by simpa using h3) (by simp [realloc_length]; omega)

theorem stepFix_defined {P : Params} (hP : P.Lawful) (J : Nat → Byte) (mv : Bool) (s : Str) (op : AOp) (hs : s.WF)
    (hin : op.InText s) (hnf : op.NulFree s) :
    (stepFix P J mv s op).defined = true ∧ (stepFix P J mv s op).st.WF ∧
      (stepFix P J mv s op).st.abs = Spec.step s.abs (op.toOp s) := by
  have byval := fun o => step_defined hP J s o hs
  by_cases hna : op.NoAlias
  · rw [hna.byValue.stepFix_eq P J mv s, hna.byValue.toOp_eq s]; exact byval _ (nulFree_plain hna s hnf)
  have h := hs.holds
  cases op with
  | assign src =>
    obtain ⟨hread, hassign, _⟩ := aliased_as_view hna P J s
    rw [show stepFix P J mv s (.assign src) = _ from hassign, AOp.toOp, hread, h.cstrAt hin]
    exact (assignFix_view_ok hP J h _ hin).defined
  | concat src | append src =>
    obtain ⟨hread, _, hconcat⟩ := aliased_as_view hna P J s
    rw [show stepFix P J mv s _ = concatFix P J s src from rfl, hconcat, AOp.toOp, hread, h.cstrAt hin]
    exact (concatFix_view_ok hP J h _ hin).defined
  | rem src => rw [show stepFix P J mv s (.rem src) = _ from remA_eq P hs src hin]; exact byval (.rem _) hnf
  | formatS pos src =>
    have e : stepFix P J mv s (.formatS pos src) = step P J s (.format pos (src.read s)) := by
      simp [stepFix, formatFix, h.inBlock hin, step]
    rw [e]; exact byval _ hnf
  | resize _ | clear | format _ _ => exact absurd trivial hna

/-- one turn of the walk of `show_to(s, s, pos)` while the cursor stands inside the text `d`, the position is the end of the text
    and the block is still there: the character under the cursor is printed behind the text -/
theorem showSelfLoop_step {P : Params} (hP : P.Lawful) (J : Nat → Byte) (mv : Nat → Bool) (fuel i : Nat) {s : Str} {d : List Byte}
    (h : Holds s.buf d) (voff : Nat) (hv : voff < d.length) (lg : List Acc) :
    ∃ s' lg', Holds s'.buf (d ++ (showChar d[voff]).text) ∧
      showSelfLoop P J mv (fuel + 1) i s d.length voff false lg =
        showSelfLoop P J mv fuel (i + 1) s' (d.length + (showChar d[voff]).text.length) (voff + 1) (mv i) lg' := by
  have hb : d[voff] ≠ 0 := h.nf.ne_zero (List.getElem_mem hv)
  have hget : s.buf[voff]? = some d[voff] := by
    obtain ⟨r, e⟩ := h.text; rw [← e, List.getElem?_append_left hv, List.getElem?_eq_getElem hv]
  have h1 := (format_ok hP J h d.length (showChar_ok _ hb).text_nulFree).holds
  rw [if_pos (Nat.le_refl _), List.take_length] at h1
  simp only [showSelfLoop, Bool.false_eq_true, if_false, hget, beq_eq_false_iff_ne.mpr hb]
  exact ⟨_, _, h1, rfl⟩

/-- the opening quote of `show_to(s, s, pos)` establishes what `showSelfLoop_step` asks for: a non-empty text (cut at `pos`, then the
    quote), the cursor inside it, the position at its end -/
theorem showSelf_start {P : Params} (hP : P.Lawful) (J : Nat → Byte) (mv : Nat → Bool) (fuel : Nat) {s : Str} (hs : s.WF) {pos : Nat}
    (hpos : pos ≤ s.abs.length) :
    ∃ s' lg d, Holds s'.buf d ∧ 0 < d.length ∧ showSelf P J mv fuel s pos = showSelfLoop P J mv fuel 1 s' d.length 0 false lg := by
  have h0 := (format_ok hP J hs.holds pos (f := [34]) (by decide)).holds
  rw [if_pos hpos] at h0
  exact ⟨_, (formatTo P J s pos [34]).log, _, h0, by simp, by simp [showSelf, Nat.min_eq_left hpos]⟩

/-- `show_to(s, s, pos)` at a position inside the text: the block is never empty when the walk starts (it holds the opening
    quote at least), so one `print_to` is made; if that `realloc` moves the block the next `*v` reads freed memory -/
theorem showSelf_moved_ub {P : Params} (hP : P.Lawful) (J : Nat → Byte) (mv : Nat → Bool) (hmv : mv 1 = true) (fuel : Nat)
    (s : Str) (hs : s.WF) (pos : Nat) (hpos : pos ≤ s.abs.length) :
    ∃ r, showSelf P J mv (fuel + 2) s pos = some r ∧ r.out = .ub .useAfterFree := by
  obtain ⟨s', lg, d, h, hd, e⟩ := showSelf_start hP J mv (fuel + 2) hs hpos
  obtain ⟨s'', lg', _, e'⟩ := showSelfLoop_step hP J mv (fuel + 1) 1 h 0 hd lg
  rw [e, e', hmv]
  exact ⟨_, rfl, rfl⟩

/-- with an allocator that never moves the block the walk never ends: the cursor stands inside the text (`voff < |d|`) and
    every character it reads is printed as at least one character behind the text, so the text grows at least as fast as the
    cursor advances -/
theorem showSelfLoop_inplace {P : Params} (hP : P.Lawful) (J : Nat → Byte) (mv : Nat → Bool) (hmv : ∀ i, mv i = false) :
    ∀ (fuel i : Nat) (s : Str) (d : List Byte), Holds s.buf d → ∀ (voff : Nat), voff < d.length → ∀ lg,
      showSelfLoop P J mv fuel i s d.length voff false lg = none
  | 0, _, _, _, _, _, _, _ => rfl
  | fuel + 1, i, s, d, h, voff, hv, lg => by
    obtain ⟨s', lg', h', e⟩ := showSelfLoop_step hP J mv fuel i h voff hv lg
    rw [e, hmv, ← List.length_append]
    exact showSelfLoop_inplace hP J mv hmv fuel (i + 1) s' _ h' _
      (by have := List.length_pos_iff.mpr (showChar_text_ne_nil d[voff]); simp; omega) _

theorem showSelf_inplace {P : Params} (hP : P.Lawful) (J : Nat → Byte) (mv : Nat → Bool) (hmv : ∀ i, mv i = false) (fuel : Nat)
    (s : Str) (hs : s.WF) (pos : Nat) (hpos : pos ≤ s.abs.length) : showSelf P J mv fuel s pos = none := by
  obtain ⟨s', lg, d, h, hd, e⟩ := showSelf_start hP J mv fuel hs hpos
  rw [e]; exact showSelfLoop_inplace hP J mv hmv fuel 1 s' d h 0 hd lg

end Cello.Str
