/- Tree, for C11: iteration (successor / predecessor through child and parent pointers) is the in-order walk, subtree by subtree -/
import CelloProofs.Lemmas.IterRun

namespace Cello.Iter

variable {α : Type}

theorem T.size_eq_length (t : T α) : t.size = t.inorder.length := by
  induction t with
  | nil => rfl
  | node l k r ihl ihr => simp [T.size, T.inorder, ihl, ihr]; omega

/-- the forward walk through ONE SUBTREE `node l k r` hanging in the context `ctx`: entered at its leftmost node it yields the subtree's
    in-order sequence and then goes on as it does once it has climbed out of the subtree — the rest of the walk is a hypothesis,
    so nothing has to describe what the path to the root still holds.  Descending into `l` puts `L k r` on the path, so
    climbing out of `l` stands on `k` (`visit`); from `k` the walk enters `r` with `R l k` on the path, and climbing out of `r` is
    climbing out of the whole subtree. -/
theorem tree_walk_fwd (t0 : T α) (l : T α) (k : α) (r : T α) : ∀ (ctx : List (Frame α)) (rest : List α),
    Run (treeI t0).next (locRes (climbNext ctx (.node l k r))) rest →
    Run (treeI t0).next (locRes (some (leftmost l k r ctx))) ((T.node l k r).inorder ++ rest) := by
  generalize ht : T.node l k r = t
  induction t generalizing l k r with
  | nil => cases ht
  | node l k r ihl ihr =>
    cases ht    -- identifies the generalised `l k r` with the fields of the same names
    intro ctx rest h
    have visit : Run (treeI t0).next (some ⟨l, k, r, ctx⟩, .item k) (k :: r.inorder ++ rest) := by
      refine Run.item _ _ _ ?_
      cases r with
      | nil => exact h
      | node rl rk rr => exact ihr rl rk rr rfl (.R l k :: ctx) rest h
    rw [T.inorder, List.append_assoc]
    cases l with
    | nil => exact visit
    | node ll lk lr => exact ihl ll lk lr rfl (.L k r :: ctx) _ visit

/-- … and the backward walk, entered at the rightmost node -/
theorem tree_walk_bwd (t0 : T α) (l : T α) (k : α) (r : T α) : ∀ (ctx : List (Frame α)) (rest : List α),
    Run (treeI t0).prev (locRes (climbPrev ctx (.node l k r))) rest →
    Run (treeI t0).prev (locRes (some (rightmost l k r ctx))) ((T.node l k r).inorder.reverse ++ rest) := by
  generalize ht : T.node l k r = t
  induction t generalizing l k r with
  | nil => cases ht
  | node l k r ihl ihr =>
    cases ht
    intro ctx rest h
    have visit : Run (treeI t0).prev (some ⟨l, k, r, ctx⟩, .item k) (k :: l.inorder.reverse ++ rest) := by
      refine Run.item _ _ _ ?_
      cases l with
      | nil => exact h
      | node ll lk lr => exact ihl ll lk lr rfl (.L k r :: ctx) rest h
    rw [T.inorder, List.reverse_append, List.reverse_cons, List.append_assoc, List.append_assoc, List.singleton_append]
    cases r with
    | nil => exact visit
    | node rl rk rr => exact ihr rl rk rr rfl (.R l k :: ctx) _ visit

theorem tree_lawfulAs (t : T α) : LawfulAs (treeI t) t.inorder := by
  refine ⟨fun s => ?_, fun s => ?_, fun n hn => ?_, fun g hg => by cases hg⟩
  · cases t with
    | nil => exact Run.term _
    | node l k r =>
      have := tree_walk_fwd (.node l k r) l k r [] [] (Run.term _)
      rwa [List.append_nil] at this
  · cases t with
    | nil => exact Run.term _
    | node l k r =>
      have := tree_walk_bwd (.node l k r) l k r [] [] (Run.term _)
      rwa [List.append_nil] at this
  · rw [← Option.some.inj hn]; exact T.size_eq_length t

end Cello.Iter
