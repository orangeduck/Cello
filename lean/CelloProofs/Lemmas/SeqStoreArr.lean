/-
  The store-level Array (`ArrS`) simulates the list-level `Arr` operation by operation, and never leaves the
  block; so every step keeps the list-level capacity invariant (`Arr.step_capOk`).  What the block operations do to the
  items held is in SeqBlock; a proof here computes the state an operation produces (`wr_eq`, `memmove_eq`, `wrFrom_eq`:
  the guards hold) and reads the three parts of `Abs` off it.
-/
import Cello.SeqStore
import CelloProofs.Lemmas.SeqArr
import CelloProofs.Lemmas.SeqBlock
import CelloProofs.Lemmas.SortSorted

namespace Cello.Seq
variable {α : Type}

namespace ArrS

/-- `Block.Holds s.cells l`, written out -/
def Pre (s : ArrS α) (l : List α) : Prop := ∀ k, k < l.length → s.cells[k]? = some (l[k]?)

/-- the abstraction relation: capacity, counter, and the records in use are the items -/
structure Abs (s : ArrS α) (a : Arr α) : Prop where
  size : s.cells.size = a.nslots
  len : s.nitems = a.items.length
  cell : s.Pre a.items

theorem Pre.holds {s : ArrS α} {l : List α} (h : s.Pre l) : Block.Holds s.cells l := h

theorem Pre.le_size {s : ArrS α} {l : List α} (h : s.Pre l) : l.length ≤ s.cells.size := h.holds.le_size

theorem Pre.rd {s : ArrS α} {l : List α} (h : s.Pre l) (k : Nat) (hk : k < l.length) : s.rd k = l[k]? := h.holds.getD hk

theorem Abs.capOk {s : ArrS α} {a : Arr α} (h : s.Abs a) : a.CapOk := by
  unfold Arr.CapOk; rw [← h.size]; exact h.cell.le_size

theorem wr_eq (s : ArrS α) {k : Nat} (x : α) (hk : k < s.cells.size) :
    s.wr k x = some { s with cells := s.cells.setIfInBounds k (some x) } := if_pos hk

theorem wr_inv {s s' : ArrS α} {k : Nat} {x : α} (h : s.wr k x = some s') :
    k < s.cells.size ∧ s' = { s with cells := s.cells.setIfInBounds k (some x) } := by
  unfold wr at h
  split at h
  · cases h; exact ⟨‹_›, rfl⟩
  · cases h

theorem memmove_eq (s : ArrS α) {d sr c : Nat} (h1 : sr + c ≤ s.cells.size) (h2 : d + c ≤ s.cells.size) :
    s.memmove d sr c = some { s with cells := Block.move s.cells d sr c } := if_pos ⟨h1, h2⟩

theorem memmove_inv {s s' : ArrS α} {d sr c : Nat} (h : s.memmove d sr c = some s') :
    sr + c ≤ s.cells.size ∧ d + c ≤ s.cells.size ∧ s' = { s with cells := Block.move s.cells d sr c } := by
  unfold memmove at h
  split at h
  · cases h; exact ⟨(‹_ ∧ _›).1, (‹_ ∧ _›).2, rfl⟩
  · cases h

theorem wrFrom_eq : ∀ (ys : List α) (s : ArrS α) (k : Nat), k + ys.length ≤ s.cells.size →
    s.wrFrom k ys = some { s with cells := Block.fill s.cells k ys }
  | [], _, _, _ => by rw [Block.fill_nil]; rfl
  | y :: ys, s, k, h => by
    rw [List.length_cons] at h
    rw [wrFrom, wr_eq s y (by omega), Block.fill_cons]
    exact wrFrom_eq ys _ (k + 1) (by rw [Array.size_setIfInBounds]; omega)

theorem realloc_nitems (s : ArrS α) (n : Nat) : (s.realloc n).nitems = s.nitems := rfl

theorem reserveMore_nitems (s : ArrS α) : s.reserveMore.nitems = s.nitems := by
  unfold ArrS.reserveMore; split <;> rfl

theorem Pre.realloc {s : ArrS α} {l : List α} (h : s.Pre l) (n : Nat) (hn : l.length ≤ n) : (s.realloc n).Pre l :=
  h.holds.resize hn

theorem Pre.insert {s s1 s2 : ArrS α} {l : List α} {x : α} {k : Nat} (h : s.Pre l) (hk : k ≤ l.length)
    (hm : s.memmove (k + 1) k (l.length - k) = some s1) (hw : s1.wr k x = some s2) :
    s2.Pre (l.take k ++ x :: l.drop k) := by
  obtain ⟨_, h2, rfl⟩ := memmove_inv hm
  obtain ⟨_, rfl⟩ := wr_inv hw
  exact h.holds.insert x hk (by omega)

/-- `nitems += m; Array_Reserve_More`: the block keeps the items and has the capacity the list level computes, which is
    enough for `m` more records; it is a new block (the generation is bumped) exactly when it had to grow -/
theorem Abs.reserveMore {s : ArrS α} {a : Arr α} (h : s.Abs a) (m : Nat) :
    (ArrS.reserveMore { s with nitems := s.nitems + m }).Pre a.items ∧
    (ArrS.reserveMore { s with nitems := s.nitems + m }).nitems = a.items.length + m ∧
    (ArrS.reserveMore { s with nitems := s.nitems + m }).cells.size = Seq.reserveMore (a.items.length + m) a.nslots ∧
    a.items.length + m ≤ Seq.reserveMore (a.items.length + m) a.nslots ∧
    (ArrS.reserveMore { s with nitems := s.nitems + m }).blk = if a.items.length + m > a.nslots then s.blk + 1 else s.blk := by
  unfold ArrS.reserveMore Seq.reserveMore
  simp only [h.len, h.size]
  split
  · exact ⟨h.cell.holds.resize (by omega), rfl, Block.size_resize _ _, by omega, rfl⟩
  · exact ⟨h.cell, rfl, h.size, by omega, rfl⟩

/-- `nitems = n; Array_Reserve_Less` on a block that holds the `n` items `l` -/
theorem reserveLess_abs {s : ArrS α} {l : List α} {n cap : Nat} (hp : s.Pre l) (hn : s.nitems = n) (hl : l.length = n)
    (hs : s.cells.size = cap) : s.reserveLess.Abs ⟨l, Seq.reserveLess n cap⟩ := by
  subst hn hs
  unfold ArrS.reserveLess Seq.reserveLess
  split
  · exact ⟨Block.size_resize _ _, hl.symm, hp.holds.resize (Nat.le_of_eq hl)⟩
  · exact ⟨rfl, hl.symm, hp⟩

theorem pop_sim {s : ArrS α} {a : Arr α} (h : s.Abs a) :
    s.pop.1.Abs a.pop.1 ∧ s.pop.2 = a.pop.2 := by
  unfold ArrS.pop Arr.pop Arr.nitems
  rw [h.len]
  by_cases h0 : a.items.length = 0
  · rw [if_pos h0, if_pos h0]; exact ⟨h, rfl⟩
  · have hlast : a.items.length - 1 < a.items.length := Nat.sub_one_lt h0
    rw [if_neg h0, if_neg h0, h.cell.rd _ hlast, List.getElem?_eq_getElem hlast]
    refine ⟨?_, rfl⟩
    exact reserveLess_abs (s := { s with nitems := a.items.length - 1 })
      (by rw [List.dropLast_eq_take]; exact h.cell.holds.take _) rfl List.length_dropLast h.size

theorem pushAt_sim {s : ArrS α} {a : Arr α} (h : s.Abs a) (x : α) (i : Int) :
    (s.pushAt x i).1.Abs (a.pushAt x i).1 ∧ (s.pushAt x i).2 = (a.pushAt x i).2 := by
  obtain ⟨hp, hni, hsz, hge, _⟩ := h.reserveMore 1
  unfold ArrS.pushAt Arr.pushAt Arr.nitems
  simp only [h.len] at hp hni hsz ⊢
  by_cases hc : pushIdx a.items.length i < 0 ∨ pushIdx a.items.length i > (a.items.length : Int)
  · rw [if_pos hc, if_pos hc]; exact ⟨h, rfl⟩
  · rw [if_neg hc, if_neg hc, hni, Nat.add_sub_cancel]
    have hkl := toNat_pushIdx_le hc
    generalize (pushIdx a.items.length i).toNat = k at *
    -- the state after `Array_Reserve_More` as a variable with the facts of `Abs.reserveMore`: a projection of `s.reserveMore` would be
    -- unfolded by every unification
    generalize ArrS.reserveMore { s with nitems := a.items.length + 1 } = s1 at *
    clear hc
    have hlt : a.items.length < s1.cells.size := by rw [hsz]; exact hge
    rw [memmove_eq s1 (by rw [Nat.add_sub_of_le hkl]; exact Nat.le_of_lt hlt)
      (by rw [Nat.add_right_comm, Nat.add_sub_of_le hkl]; exact hlt)]
    dsimp only
    rw [wr_eq _ x (by rw [Block.size_move]; exact Nat.lt_of_le_of_lt hkl hlt)]
    refine ⟨⟨?_, ?_, hp.holds.insert x hkl hlt⟩, rfl⟩
    · exact (Array.size_setIfInBounds ..).trans ((Block.size_move ..).trans hsz)
    · show s1.nitems = _
      rw [hni, take_cons_drop_eq_insertIdx _ _ _ hkl, List.length_insertIdx_of_le_length hkl]

theorem popAt_sim {s : ArrS α} {a : Arr α} (h : s.Abs a) (i : Int) :
    (s.popAt i).1.Abs (a.popAt i).1 ∧ (s.popAt i).2 = (a.popAt i).2 := by
  unfold ArrS.popAt Arr.popAt Arr.nitems
  simp only [h.len]
  by_cases hc : normIdx a.items.length i < 0 ∨ normIdx a.items.length i ≥ (a.items.length : Int)
  · rw [if_pos hc, if_pos hc]; exact ⟨h, rfl⟩
  · rw [if_neg hc, if_neg hc]
    have hkl := toNat_normIdx_lt hc
    generalize (normIdx a.items.length i).toNat = k at *
    clear hc
    have hle := h.cell.le_size
    have hsrc : k + 1 + (a.items.length - 1 - k) ≤ s.cells.size := by
      rw [Nat.sub_sub, Nat.add_comm 1 k, Nat.add_sub_of_le hkl]; exact hle
    rw [h.cell.rd k hkl, List.getElem?_eq_getElem hkl,
      memmove_eq s hsrc (Nat.le_trans (Nat.add_le_add_right (Nat.le_succ k) _) hsrc)]
    refine ⟨?_, rfl⟩
    have hlen : (a.items.take k ++ a.items.drop (k + 1)).length = a.items.length - 1 := by
      rw [← List.eraseIdx_eq_take_drop_succ, List.length_eraseIdx_of_lt hkl]
    exact reserveLess_abs (s := { s with cells := Block.move s.cells k (k + 1) (a.items.length - 1 - k), nitems := s.nitems - 1 })
      (h.cell.holds.erase hkl) (congrArg (· - 1) h.len) hlen ((Block.size_move ..).trans h.size)

theorem get_sim {s : ArrS α} {a : Arr α} (h : s.Abs a) (i : Int) : s.get i = a.get i := by
  unfold ArrS.get Arr.get Arr.nitems
  simp only [h.len]
  by_cases hc : normIdx a.items.length i < 0 ∨ normIdx a.items.length i ≥ (a.items.length : Int)
  · rw [if_pos hc, if_pos hc]
  · rw [if_neg hc, if_neg hc, h.cell.rd _ (toNat_normIdx_lt hc)]
    cases a.items[(normIdx a.items.length i).toNat]? <;> rfl

theorem set_sim {s : ArrS α} {a : Arr α} (h : s.Abs a) (i : Int) (x : α) :
    (s.set i x).1.Abs (a.set i x).1 ∧ (s.set i x).2 = (a.set i x).2 := by
  unfold ArrS.set Arr.set Arr.nitems
  simp only [h.len]
  by_cases hc : normIdx a.items.length i < 0 ∨ normIdx a.items.length i ≥ (a.items.length : Int)
  · rw [if_pos hc, if_pos hc]; exact ⟨h, rfl⟩
  · rw [if_neg hc, if_neg hc]
    have hkl := toNat_normIdx_lt hc
    generalize (normIdx a.items.length i).toNat = k at *
    have hks : k < s.cells.size := Nat.lt_of_lt_of_le hkl h.cell.le_size
    rw [h.cell.rd k hkl, List.getElem?_eq_getElem hkl, wr_eq s x hks]
    exact ⟨⟨(Array.size_setIfInBounds ..).trans h.size, h.len.trans (List.length_set ..).symm, h.cell.holds.set x hks⟩, rfl⟩

theorem readFrom_eq {s : ArrS α} {l : List α} (h : s.Pre l) : ∀ (n i : Nat), i + n ≤ l.length →
    s.readFrom i n = some ((l.drop i).take n) := by
  intro n
  induction n with
  | zero => intro i _; simp [ArrS.readFrom]
  | succ n ih =>
    intro i hi
    have hil : i < l.length := by omega
    simp only [ArrS.readFrom, h.rd i hil, List.getElem?_eq_getElem hil, ih (i + 1) (by omega)]
    simp only [Option.map_some]
    rw [List.drop_eq_getElem_cons hil, List.take_succ_cons]

theorem items?_eq {s : ArrS α} {a : Arr α} (h : s.Abs a) : s.items? = some a.items := by
  unfold ArrS.items?
  rw [readFrom_eq h.cell s.nitems 0 (by rw [h.len]; omega), h.len]
  simp

theorem allLive_true {s : ArrS α} {l : List α} (h : s.Pre l) (i j : Nat) (hj : j ≤ l.length) : s.allLive i j = true := by
  unfold ArrS.allLive
  by_cases hij : i ≤ j
  · rw [readFrom_eq h (j - i) i (by omega)]; rfl
  · have : j - i = 0 := by omega
    rw [this]; rfl

theorem scan_eq [BEq α] {s : ArrS α} {l : List α} (h : s.Pre l) (x : α) : ∀ (n i : Nat), i + n = l.length →
    s.scan x n i = .ok (((l.drop i).findIdx? (· == x)).map (· + i)) := by
  intro n
  induction n with
  | zero => intro i hi; simp [ArrS.scan, List.drop_eq_nil_of_le (show l.length ≤ i by omega)]
  | succ n ih =>
    intro i hi
    have hil : i < l.length := by omega
    simp only [ArrS.scan, h.rd i hil, List.getElem?_eq_getElem hil]
    rw [List.drop_eq_getElem_cons hil, List.findIdx?_cons]
    by_cases hx : (l[i] == x) = true
    · simp [hx]
    · simp only [hx, Bool.false_eq_true, if_false]
      rw [ih (i + 1) (by omega)]
      cases (List.drop (i + 1) l).findIdx? (· == x) with
      | none => rfl
      | some j => simp only [Option.map_some]; congr 2; omega

theorem scan_sim [BEq α] {s : ArrS α} {a : Arr α} (h : s.Abs a) (x : α) :
    s.scan x s.nitems 0 = .ok (a.items.findIdx? (· == x)) := by
  rw [scan_eq h.cell x s.nitems 0 (by rw [h.len]; omega)]
  simp

theorem mem_sim [BEq α] {s : ArrS α} {a : Arr α} (h : s.Abs a) (x : α) : s.mem x = .ok (a.mem x) := by
  unfold ArrS.mem Arr.mem
  rw [scan_sim h x]
  simp only
  cases hf : a.items.findIdx? (· == x) with
  | none => rw [(findIdx?_none_any _ _).1 hf]; rfl
  | some i => rw [findIdx?_some_any _ _ _ hf]; rfl

theorem rem_sim [BEq α] {s : ArrS α} {a : Arr α} (h : s.Abs a) (x : α) :
    (s.rem x).1.Abs (a.rem x).1 ∧ (s.rem x).2 = (a.rem x).2 := by
  unfold ArrS.rem Arr.rem
  rw [scan_sim h x]
  cases hf : a.items.findIdx? (· == x) with
  | none => exact ⟨h, rfl⟩
  | some i => exact popAt_sim h _

theorem clear_eq {s : ArrS α} {a : Arr α} (h : s.Abs a) : s.clear = (⟨#[], 0, s.blk + 1⟩, .ok ()) := by
  unfold ArrS.clear
  rw [allLive_true h.cell 0 s.nitems (Nat.le_of_eq h.len), if_pos rfl]

theorem nil_abs (blk : Nat) : (⟨#[], 0, blk⟩ : ArrS α).Abs ⟨[], 0⟩ := ⟨rfl, rfl, Block.Holds.nil _⟩

theorem clear_sim {s : ArrS α} {a : Arr α} (h : s.Abs a) :
    s.clear.1.Abs a.clear ∧ s.clear.2 = .ok () := by
  rw [clear_eq h]; exact ⟨nil_abs _, rfl⟩

theorem concat_sim {s : ArrS α} {a : Arr α} (h : s.Abs a) (ys : List α) :
    (s.concat ys).1.Abs (a.concat ys).1 ∧ (s.concat ys).2 = (a.concat ys).2 := by
  obtain ⟨hp, hni, hsz, hge, _⟩ := h.reserveMore ys.length
  unfold ArrS.concat
  simp only [hni, Nat.add_sub_cancel]
  generalize ArrS.reserveMore { s with nitems := s.nitems + ys.length } = s1 at *
  have hfit : a.items.length + ys.length ≤ s1.cells.size := by rw [hsz]; exact hge
  rw [wrFrom_eq ys s1 _ hfit]
  exact ⟨⟨(Block.size_fill ..).trans hsz, hni.trans (List.length_append (as := a.items) (bs := ys)).symm, hp.holds.fill ys hfit⟩, rfl⟩

/-- `Array_Push` is one turn of the loop of `Array_Concat` (as `Arr.push a x` is `a.concat [x]`, by `rfl`) -/
theorem push_eq (s : ArrS α) (x : α) : s.push x = s.concat [x] := by
  unfold ArrS.push ArrS.concat ArrS.wrFrom ArrS.wrFrom
  dsimp only [List.length_singleton]
  cases ArrS.wr _ _ x <;> rfl

theorem push_sim {s : ArrS α} {a : Arr α} (h : s.Abs a) (x : α) :
    (s.push x).1.Abs (a.push x).1 ∧ (s.push x).2 = (a.push x).2 := by
  rw [push_eq]; exact concat_sim h [x]

theorem resize_sim {s : ArrS α} {a : Arr α} (h : s.Abs a) (n : Nat) :
    (s.resize n).1.Abs (a.resize n).1 ∧ (s.resize n).2 = (a.resize n).2 := by
  unfold ArrS.resize Arr.resize
  by_cases h0 : n = 0
  · rw [if_pos h0, if_pos h0]; exact clear_sim h
  · rw [if_neg h0, if_neg h0, allLive_true h.cell n s.nitems (Nat.le_of_eq h.len), if_pos rfl]
    refine ⟨⟨Block.size_resize _ _, ?_, (h.cell.holds.take n).resize (List.length_take_le ..)⟩, rfl⟩
    show min n s.nitems = (a.items.take n).length
    rw [h.len, List.length_take]

theorem pushAll_sim : ∀ (ys : List α) {s : ArrS α} {a : Arr α}, s.Abs a →
    (s.pushAll ys).1.Abs (ys.foldl (fun a y => (a.push y).1) a) ∧ (s.pushAll ys).2 = .ok () := by
  intro ys
  induction ys with
  | nil => intro s a h; exact ⟨h, rfl⟩
  | cons y ys ih =>
    intro s a h
    obtain ⟨h1, h2⟩ := push_sim h y
    rw [ArrS.pushAll, show s.push y = ((s.push y).1, .ok ()) from Prod.ext rfl h2]
    exact ih h1

theorem assign_sim {s : ArrS α} {a : Arr α} (h : s.Abs a) (ys : List α) (b : Bool) :
    (s.assign ys b).1.Abs (a.assign ys b).1 ∧ (s.assign ys b).2 = (a.assign ys b).2 := by
  unfold ArrS.assign Arr.assign
  rw [clear_eq h]
  cases b with
  | false => exact pushAll_sim ys (nil_abs _)
  | true =>
    simp only [if_true]
    by_cases h0 : ys.length = 0
    · rw [if_pos h0, List.eq_nil_of_length_eq_zero h0]
      exact ⟨nil_abs _, rfl⟩
    · rw [if_neg h0, wrFrom_eq ys _ 0 (by rw [Nat.zero_add, Array.size_replicate]; exact Nat.le_refl _)]
      exact ⟨⟨(Block.size_fill ..).trans Array.size_replicate, rfl, (Block.Holds.nil _).fill ys (by rw [Array.size_replicate]; exact Nat.le_of_eq (Nat.zero_add _))⟩, rfl⟩

theorem sortBy_sim {s : ArrS α} {a : Arr α} (h : s.Abs a) (f : α → α → Bool) :
    (s.sortBy f).1.Abs (a.sortBy f).1 ∧ (s.sortBy f).2 = (a.sortBy f).2 := by
  have hfit : 0 + (Sort.sortList f a.items).length ≤ s.cells.size := by
    rw [Nat.zero_add, Sort.sortList_length]; exact h.cell.le_size
  unfold ArrS.sortBy Arr.sortBy
  rw [items?_eq h]
  simp only
  rw [wrFrom_eq _ s 0 hfit]
  -- the sorted list is written over every record in use: nothing has to be known of what the block held (`Holds.nil`)
  exact ⟨⟨(Block.size_fill ..).trans h.size, h.len.trans (Sort.sortList_length f a.items).symm, (Block.Holds.nil _).fill _ hfit⟩, rfl⟩

theorem step_sim [BEq α] {s : ArrS α} {a : Arr α} (h : s.Abs a) (op : Op α) :
    (s.step op).1.Abs (a.step op).1 ∧ (s.step op).2 = (a.step op).2 := by
  cases op with
  | push x => exact push_sim h x
  | append x => exact push_sim h x
  | pop => exact pop_sim h
  | pushAt x i => exact pushAt_sim h x i
  | popAt i => exact popAt_sim h i
  | set i x => exact set_sim h i x
  | rem x => exact rem_sim h x
  | concat ys => exact concat_sim h ys
  | resize n => exact resize_sim h n
  | sort f => exact sortBy_sim h f
  | assign ys b => exact assign_sim h ys b

/-- from ANY block that holds an Array, whatever the next operation: no record outside the block is touched, no unwritten one read -/
theorem step_ne_ub [BEq α] {s : ArrS α} {a : Arr α} (h : s.Abs a) (op : Op α) : (s.step op).2 ≠ .ub := by
  rw [(step_sim h op).2]; exact Arr.step_ne_ub a op

theorem new_abs (xs : List α) : (ArrS.new xs).Abs (Arr.new xs) := by
  refine ⟨by simp [ArrS.new, Arr.new], by simp [ArrS.new, Arr.new], ?_⟩
  intro k hk
  simp only [ArrS.new, Arr.new, List.getElem?_toArray, List.getElem?_map] at *
  rw [List.getElem?_eq_getElem hk]; rfl

/-- every list-level Array within capacity is held by a block: that of `Array_New` over its items, reallocated to `nslots` cells -/
theorem exists_abs (a : Arr α) (h : a.CapOk) : ∃ s : ArrS α, s.Abs a :=
  ⟨(ArrS.new a.items).realloc a.nslots, Block.size_resize _ _, (new_abs a.items).len, (new_abs a.items).cell.realloc _ h⟩

/-- the capacity invariant of the list-level model is kept by every step, whatever its arguments: the block that holds the Array
    holds the result (`step_sim`), and what a block of `nslots` cells holds is within capacity -/
theorem _root_.Cello.Seq.Arr.step_capOk [BEq α] (a : Arr α) (op : Op α) (h : a.CapOk) : (a.step op).1.CapOk :=
  have ⟨_, hs⟩ := exists_abs a h
  (step_sim hs op).1.capOk

theorem iterFwd_sim {s : ArrS α} {a : Arr α} (h : s.Abs a) : s.iterFwd = some a.items := by
  unfold ArrS.iterFwd ArrS.iterInit; rw [h.len]
  exact collect_upto a.items s.iterNext s.rd
    (fun _ hk => if_neg (by rw [h.len]; exact Nat.not_le.2 (Nat.lt_sub_of_add_lt hk)))
    (fun _ hk => if_pos (by rw [h.len]; exact Nat.le_of_eq (Nat.sub_eq_of_eq_add hk.symm)))
    fun k hk => (h.cell.rd k hk).trans (List.getElem?_eq_getElem hk)

theorem iterBwd_sim {s : ArrS α} {a : Arr α} (h : s.Abs a) : s.iterBwd = some a.items.reverse := by
  unfold ArrS.iterBwd ArrS.iterLast; rw [h.len]
  exact collect_downto a.items s.iterPrev s.rd (fun _ => rfl) rfl
    fun k hk => (h.cell.rd k hk).trans (List.getElem?_eq_getElem hk)

theorem copy_sim {s : ArrS α} {a : Arr α} (h : s.Abs a) : s.copy.1.Abs a.copy ∧ s.copy.2 = .ok () := by
  unfold ArrS.copy Arr.copy
  rw [items?_eq h]
  exact assign_sim (nil_abs 0) a.items true

end ArrS
end Cello.Seq
