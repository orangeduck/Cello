/-
  Lemmas for C06, the collector's own tables (Cello/LifecycleMem.lean): with the statement lists read from the source, the
  invariant `MSt.good` is kept by every event but the end of `GC_Del`, which takes a good state to a released one.  Both
  are evaluations of the *generated* programs on the good pointer states: a source whose `GC_Rehash`/`GC_Sweep`/`GC_Del`
  handle the tables differently fails here.  That the TLS slot is left alone needs no evaluation: only `.remTls` writes it.
-/
import Cello.LifecycleMem
namespace Cello.Life.Mem
open CelloGen.Life

/-- what lets `decide` go through the `∀ e f : PS` of `step_good` and `delEnd_released` -/
instance PS.decForall (p : PS → Prop) [DecidablePred p] : Decidable (∀ x, p x) :=
  if h1 : p .null then
    if h2 : p .live then
      if h3 : p .dangling then isTrue (fun x => by cases x <;> assumption)
      else isFalse (fun h => h3 (h _))
    else isFalse (fun h => h2 (h _))
  else isFalse (fun h => h1 (h _))

def allEvs : List Ev := [.set true, .set false, .rem true, .rem false, .sweepBegin true, .sweepBegin false, .sweepEnd,
  .delBegin true, .delBegin false, .delEnd]

theorem mem_allEvs (e : Ev) : e ∈ allEvs := by
  cases e with
  | set b | rem b | sweepBegin b | delBegin b => cases b <;> decide
  | _ => decide

theorem stmt_tls (s : MSt) {st : MemStmt} (h : st ≠ .remTls) : (stmt s st).tls = s.tls := by
  cases st with
  | remTls => exact absurd rfl h
  | reallocFreelist => simp only [stmt]; split <;> rfl
  | _ => rfl

theorem foldl_tls {f : MSt → MemStmt → MSt} {p : List MemStmt} (hf : ∀ s, ∀ st ∈ p, (f s st).tls = s.tls) (s : MSt) :
    (p.foldl f s).tls = s.tls := by
  induction p generalizing s with
  | nil => rfl
  | cons st p ih =>
    rw [List.foldl_cons, ih fun s x hx => hf s x (List.mem_cons_of_mem _ hx), hf s st List.mem_cons_self]

theorem runPlain_tls {p : List MemStmt} (h : .remTls ∉ p) (s : MSt) : (runPlain s p).tls = s.tls :=
  foldl_tls (fun s _ hst => stmt_tls s fun e => h (e ▸ hst)) s

theorem resize_tls {P : Progs} (h : .remTls ∉ P.rehash) (s : MSt) (go : Bool) : (resize P s go).tls = s.tls := by
  cases go
  · rfl
  · exact runPlain_tls h s

theorem step_tls {P : Progs} (hr : .remTls ∉ P.rehash) (hs : .remTls ∉ P.sweep) (s : MSt) {ev : Ev}
    (hw : ev.working = true) : (step P s ev).tls = s.tls := by
  cases ev with
  | set grow => exact resize_tls hr s grow
  | rem shrink => exact resize_tls hr s shrink
  | sweepBegin shrink =>
    refine foldl_tls (fun s st hst => ?_) s
    have hne : st ≠ .remTls := fun e => hs (e ▸ (List.takeWhile_sublist _).subset hst)
    cases st with
    | resizeLess => exact resize_tls hr s shrink
    | remTls => exact absurd rfl hne
    | _ => exact stmt_tls s hne
  | sweepEnd => exact runPlain_tls (fun h => hs ((List.dropWhile_sublist _).subset (List.mem_of_mem_drop h))) s
  | delBegin _ => cases hw
  | delEnd => cases hw

/-- the TLS slot is only touched by `GC_Del` -/
theorem step_tls_all : ∀ (e f o : PS) (a l b t : Bool), ∀ ev ∈ allEvs, ev.working = true →
    (step Progs.source (MSt.mk e f o a l b t) ev).tls = t := by
  intro e f o a l b t ev _ hw
  exact step_tls (by decide) (by decide) _ hw

/-- a good state is determined by its entry table, its pending list (neither dangling) and the TLS slot -/
theorem MSt.eq_of_good {s : MSt} (h : s.good = true) :
    s = ⟨s.entries, s.freelist, .null, false, false, false, s.tls⟩ ∧ s.entries ≠ .dangling ∧ s.freelist ≠ .dangling := by
  obtain ⟨e, f, o, a, l, b, t⟩ := s
  simp only [MSt.good, Bool.and_eq_true, Bool.not_eq_true', bne_iff_ne, beq_iff_eq] at h
  obtain ⟨⟨⟨⟨⟨rfl, rfl⟩, he⟩, hf⟩, rfl⟩, rfl⟩ := h
  exact ⟨rfl, he, hf⟩

theorem MSt.live_of_good {s : MSt} (h : s.good = true) :
    s.bad = false ∧ s.leaked = false ∧ s.liveEntries ≤ 1 ∧ s.liveFreelist ≤ 1 := by
  rw [(MSt.eq_of_good h).1]
  refine ⟨rfl, rfl, ?_, ?_⟩
  · show (if _ then 1 else 0) + 0 + 0 ≤ 1
    split <;> decide
  · show (if _ then 1 else 0) ≤ 1
    split <;> decide

theorem step_good (s : MSt) (ev : Ev) (hev : ev ≠ .delEnd) (h : s.good = true) : (step Progs.source s ev).good = true := by
  -- 180 runs of the generated programs: `+kernel` leaves them to the kernel, the elaborator would evaluate them once more
  have run : ∀ (e f : PS) (t : Bool), e ≠ .dangling → f ≠ .dangling → ∀ ev ∈ allEvs, ev ≠ .delEnd →
      (step Progs.source ⟨e, f, .null, false, false, false, t⟩ ev).good = true := by decide +kernel
  obtain ⟨hs, he, hf⟩ := MSt.eq_of_good h
  rw [hs]
  exact run _ _ _ he hf ev (mem_allEvs ev) hev

theorem delEnd_released (s : MSt) (h : s.good = true) : (step Progs.source s .delEnd).released = true := by
  have run : ∀ (e f : PS) (t : Bool), e ≠ .dangling → f ≠ .dangling →
      (step Progs.source ⟨e, f, .null, false, false, false, t⟩ .delEnd).released = true := by decide
  obtain ⟨hs, he, hf⟩ := MSt.eq_of_good h
  rw [hs]
  exact run _ _ _ he hf

theorem working_ne_delEnd {e : Ev} (h : e.working = true) : e ≠ .delEnd := by
  intro he; subst he; simp [Ev.working] at h

theorem run_good (evs : List Ev) (s : MSt) (hev : ∀ e ∈ evs, e.working = true) (h : s.good = true) :
    (run Progs.source s evs).good = true := by
  induction evs generalizing s with
  | nil => exact h
  | cons e es ih =>
    simp only [run, List.foldl_cons]
    exact ih _ (fun x hx => hev x (List.mem_cons_of_mem _ hx))
      (step_good s e (working_ne_delEnd (hev e (List.mem_cons_self ..))) h)

theorem run_append (P : Progs) (s : MSt) (a b : List Ev) : run P s (a ++ b) = run P (run P s a) b := by
  simp [run, List.foldl_append]

theorem run_snoc (P : Progs) (s : MSt) (evs : List Ev) (e : Ev) : run P s (evs ++ [e]) = step P (run P s evs) e := by
  rw [run_append]; rfl

end Cello.Life.Mem
