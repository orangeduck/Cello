/-
  Lemmas/RBValid.lean — the Tree object (`root`, `nitems`, the two sizes): `Valid`, and per operation one theorem that joins
  its shape lemma (RBBal, RBDel: from `Pos.root`) with its sequence lemma (RBRefine): defined on a valid tree, valid afterwards,
  and the specification's operation on the in-order sequence.  `SourceOk` (RBSource) is asked where the operation descends by
  `cmp` or moves node payload; its third part, the `self is obj` test of `Tree_Assign`, is a matter of the store (RBStore).
-/
import CelloProofs.Lemmas.RBDel
import CelloProofs.Lemmas.RBRefine

namespace Cello.RB
open Std
variable {α β : Type} {cmp : α → α → Ordering}

/-- `sz` = `(ksize, vsize)`, in bytes -/
def Fits [Packed α] [Packed β] (sz : Nat × Nat) (e : α × β) : Prop :=
  8 * (Packed.words e.1).length = sz.1 ∧ 8 * (Packed.words e.2).length = sz.2

/-- a valid Tree; `shape`: black root, no red node with a red child, equal black heights (RBBal) -/
structure Valid [Packed α] [Packed β] (cmp : α → α → Ordering) (m : Tree α β) : Prop where
  shape : ValidT m.root
  ordered : Desc cmp (toList m.root)
  count : size m.root = m.nitems
  sized : ∀ e ∈ toList m.root, Fits m.sizes e

section
variable [Packed α] [Packed β]

@[reducible] def Tree.abs (m : Tree α β) : List (α × β) := toList m.root

theorem valid_mk0 (ks vs : Nat) : Valid cmp (Tree.mk0 ks vs : Tree α β) :=
  ⟨⟨rfl, trivial, trivial⟩, Desc.nil, rfl, fun _ h => by cases h⟩

theorem valid_empty : Valid cmp (Tree.empty : Tree α β) := valid_mk0 0 0

theorem Valid.fitsLay {m : Tree α β} (h : Valid cmp m) : ∀ e ∈ toList m.root, FitsLay m.lay e := by
  intro e he
  obtain ⟨h1, h2⟩ := h.sized e he
  -- `Fits` is in bytes and says `ksize = 8 * length`, so the `/ 8` of `Tree.lay` (words) is exact
  exact ⟨(Nat.div_eq_of_eq_mul_right (by decide) h1.symm).symm, (Nat.div_eq_of_eq_mul_right (by decide) h2.symm).symm⟩

theorem Valid.len_eq {m : Tree α β} (h : Valid cmp m) : m.len = m.abs.length := by
  rw [Tree.len, ← h.count, size_eq_length]

theorem set_valid [TransCmp cmp] (hsrc : SourceOk) (m : Tree α β) (k : α) (v : β) (h : Valid cmp m) (hkv : Fits m.sizes (k, v)) :
    ∃ m', m.set cmp k v = some m' ∧ Valid cmp m' ∧ m'.abs = Spec.set cmp k v m.abs ∧ m'.sizes = m.sizes := by
  obtain ⟨t', fresh, e, hv⟩ := insAt_valid cmp m.root [] k v (Pos.root _ h.shape)
  obtain ⟨h1, h2⟩ := toList_insAt m.root [] k v t' fresh h.ordered e
  simp only [ctxL_nil, ctxR_nil, List.nil_append, List.append_nil] at h1
  refine ⟨{ m with root := t', nitems := if fresh then m.nitems + 1 else m.nitems }, by simp [Tree.set, hsrc.orient_set, e],
    ⟨hv, ?_, ?_, ?_⟩, h1, rfl⟩
  · simp only; rw [h1]; exact Spec.desc_set k v _ h.ordered
  · simp only
    rw [size_eq_length, h1, Spec.length_set k v _ h.ordered, h2, ← h.count, size_eq_length]
    cases (Spec.get cmp k (toList m.root)).isNone <;> simp
  · intro e he
    simp only at he
    rw [h1] at he
    rcases Spec.mem_set he with rfl | he
    · exact hkv
    · exact h.sized e he

/-! `Tree_Get` and `Tree_Mem` need the order of the keys only: they are right on every search tree, balanced or not -/
section
omit [Packed α] [Packed β]

theorem get_eq [TransCmp cmp] (hsrc : SourceOk) (m : Tree α β) (k : α) (hd : Desc cmp m.abs) :
    m.get cmp k = match Spec.get cmp k m.abs with | some v => .ok v | none => .raised .KeyError := by
  simp only [Tree.get, hsrc.orient_get, find_eq_get m.root k hd, Tree.abs]
  cases Spec.get cmp k (toList m.root) <;> rfl

theorem get_of_mem [TransCmp cmp] (hsrc : SourceOk) (m : Tree α β) (hd : Desc cmp m.abs) {k : α} {v : β}
    (hm : (k, v) ∈ m.abs) : m.get cmp k = .ok v := by
  rw [get_eq hsrc m k hd, Spec.get_of_mem k v _ hd hm]

theorem mem_eq [TransCmp cmp] (hsrc : SourceOk) (m : Tree α β) (k : α) (hd : Desc cmp m.abs) :
    m.mem cmp k = (Spec.get cmp k m.abs).isSome := by
  simp only [Tree.mem, hsrc.orient_mem, find_eq_get m.root k hd, Tree.abs]

end

theorem rem_valid [LawfulPacked α] [LawfulPacked β] [TransCmp cmp] (hsrc : SourceOk) (m : Tree α β) (k : α) (h : Valid cmp m) :
    ∃ m' o, m.rem cmp k = some (m', o) ∧ Valid cmp m' ∧ m'.sizes = m.sizes ∧
      ((Spec.get cmp k m.abs = none ∧ m' = m ∧ o = .raised .KeyError) ∨
       ((Spec.get cmp k m.abs).isSome ∧ o = .ok () ∧ m'.abs = Spec.rem cmp k m.abs)) := by
  obtain ⟨r, e, hv⟩ := remAtA_valid cmp m.root [] k (Pos.root _ h.shape)
  obtain ⟨h1, h2⟩ := toList_remAtA (cmp := cmp) m.root [] k h.ordered
  -- the block that `Tree_Rem` moves is the whole entry, because every entry has the sizes of the tree's types
  rw [← remAt_eq hsrc.layout cmp m.lay m.root [] k h.fitsLay] at e
  rw [← remAt_eq hsrc.layout cmp m.lay m.root [] k h.fitsLay] at h1 h2
  cases r with
  | none =>
    exact ⟨m, _, by simp [Tree.rem, hsrc.orient_rem, e], h, rfl, Or.inl ⟨h1 e, rfl, rfl⟩⟩
  | some t' =>
    obtain ⟨g1, g2⟩ := h2 t' e
    simp only [ctxL_nil, ctxR_nil, List.nil_append, List.append_nil] at g2
    refine ⟨{ m with root := t', nitems := m.nitems - 1 }, _, by simp [Tree.rem, hsrc.orient_rem, e], ⟨hv t' rfl, ?_, ?_, ?_⟩, rfl,
      Or.inr ⟨g1, rfl, g2⟩⟩
    · simp only; rw [g2]; exact Spec.desc_rem k _ h.ordered
    · simp only
      rw [size_eq_length, g2, ← h.count, size_eq_length]
      exact Nat.eq_sub_of_add_eq (Spec.length_rem k _ g1)
    · intro e he
      simp only at he
      rw [g2] at he
      exact h.sized e ((Spec.rem_sublist k _).subset he)

theorem clear_valid (m : Tree α β) : Valid cmp m.clear ∧ m.clear.abs = [] ∧ m.clear.sizes = m.sizes :=
  ⟨valid_mk0 m.ksize m.vsize, rfl, rfl⟩

theorem new_valid [TransCmp cmp] (hsrc : SourceOk) (ks vs : Nat) (init : List (α × β)) (hfit : ∀ e ∈ init, Fits (ks, vs) e) :
    ∃ m, Tree.new cmp ks vs init = some m ∧ Valid cmp m ∧
      m.abs = init.foldl (fun l kv => Spec.set cmp kv.1 kv.2 l) [] ∧ m.sizes = (ks, vs) := by
  have key : ∀ (init : List (α × β)) (m0 : Tree α β), Valid cmp m0 → (∀ e ∈ init, Fits m0.sizes e) →
      ∃ m, init.foldlM (fun m kv => m.set cmp kv.1 kv.2) m0 = some m ∧ Valid cmp m ∧
        m.abs = init.foldl (fun l kv => Spec.set cmp kv.1 kv.2 l) m0.abs ∧ m.sizes = m0.sizes := by
    intro init
    induction init with
    | nil => intro m0 h0 _; exact ⟨m0, rfl, h0, rfl, rfl⟩
    | cons kv init ih =>
      intro m0 h0 hf
      obtain ⟨m1, e1, v1, a1, s1⟩ := set_valid hsrc m0 kv.1 kv.2 h0 (hf kv (by simp))
      obtain ⟨m, e, v, a, s⟩ := ih m1 v1 (fun e he => by rw [s1]; exact hf e (by simp [he]))
      exact ⟨m, by simp [List.foldlM, e1, e], v, by rw [a, a1]; rfl, by rw [s, s1]⟩
  exact key init (Tree.mk0 ks vs) (valid_mk0 ks vs) hfit

/-- the loop of `Tree_Assign`: setting the bindings of a strictly descending list, in order, appends them -/
theorem assignLoop_valid [TransCmp cmp] (hsrc : SourceOk) (src : Tree α β) (hs : Valid cmp src) (ks : List (α × β)) (m : Tree α β)
    (hm : Valid cmp m) (hpre : m.abs ++ ks = src.abs) (hsz : m.sizes = src.sizes) :
    ∃ m', assignLoop cmp src ks m = some (m', .ok ()) ∧ Valid cmp m' ∧ m'.abs = src.abs ∧ m'.sizes = src.sizes := by
  induction ks generalizing m with
  | nil => exact ⟨m, rfl, hm, by simpa using hpre, hsz⟩
  | cons kv ks ih =>
    obtain ⟨k, v⟩ := kv
    have hd : Desc cmp (m.abs ++ (k, v) :: ks) := by rw [hpre]; exact hs.ordered
    have hmem : (k, v) ∈ src.abs := by rw [← hpre]; simp
    have hget := get_of_mem hsrc src hs.ordered hmem
    obtain ⟨m1, e1, v1, a1, s1⟩ := set_valid hsrc m k v hm (by rw [hsz]; exact hs.sized _ hmem)
    have hgt : ∀ a ∈ m.abs, cmp a.1 k = .gt := (desc_mid_iff.mp hd).2.2.1
    rw [Spec.set_all_gt k v _ hgt] at a1
    obtain ⟨m', e, hv, ha, hz⟩ := ih m1 v1 (by rw [a1, ← hpre]; simp) (by rw [s1, hsz])
    exact ⟨m', by simp [assignLoop, hget, e1, e], hv, ha, hz⟩

theorem assign_valid [TransCmp cmp] (hsrc : SourceOk) (dst src : Tree α β) (hs : Valid cmp src) :
    ∃ m', Tree.assign cmp dst src = some (m', .ok ()) ∧ Valid cmp m' ∧ m'.abs = src.abs ∧ m'.sizes = src.sizes := by
  obtain ⟨m', e, hv, ha, hz⟩ := assignLoop_valid hsrc src hs src.abs
    { dst.clear with ksize := src.ksize, vsize := src.vsize }
    (valid_mk0 src.ksize src.vsize) (by simp [Tree.abs, Tree.clear]) rfl
  exact ⟨m', by simp [Tree.assign, iterFwd_eq src hs.count, e], hv, ha, hz⟩

theorem copy_valid [TransCmp cmp] (hsrc : SourceOk) (src : Tree α β) (hs : Valid cmp src) :
    ∃ m', Tree.copy cmp src = some (m', .ok ()) ∧ Valid cmp m' ∧ m'.abs = src.abs ∧ m'.sizes = src.sizes :=
  assign_valid hsrc Tree.empty src hs

end

end Cello.RB
