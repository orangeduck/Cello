/-
  Lemmas/RBBal.lean — the red-black invariants of the zipper model of Tree.c: black heights (`bh`, `Bal`), no red node with
  a red child (`RRt`), their versions for paths (`PathBal`, `PathRR`), and the bundles the shape proofs go through: `WF n t`
  (a subtree), `CtxOK p n` (a context), `Pos t p` (a subtree in its context, the invariant of a descent).  `Tree_Set_Fix`
  and `Tree_Set` re-establish them (`setFix_valid`, `insAt_valid`; removal is RBDel.lean); they bound the height
  logarithmically (`height_le_log`).
-/
import Cello.RBTree

namespace Cello.RB
variable {α β : Type}

/-- weight of a colour in the black height -/
def cw : Color → Nat
  | .R => 0
  | .B => 1

/-- black height along the left spine (all paths agree when `Bal`) -/
def bh : T α β → Nat
  | .nil => 0
  | .node c l _ _ _ => bh l + cw c

def Bal : T α β → Prop
  | .nil => True
  | .node _ l _ _ r => bh l = bh r ∧ Bal l ∧ Bal r

/-- no red node has a red child -/
def RRt : T α β → Prop
  | .nil => True
  | .node c l _ _ r => (c = .R → color l = .B ∧ color r = .B) ∧ RRt l ∧ RRt r

/-- the frames of a path have siblings of the right black height, for a hole of black height `n` -/
def PathBal : Path α β → Nat → Prop
  | [], _ => True
  | f :: p, n => bh f.sib = n ∧ Bal f.sib ∧ PathBal p (n + cw f.c)

def headB : Path α β → Prop
  | [] => False
  | g :: _ => g.c = .B

/-- no red-red along the path, and a red frame has a (black) parent: the root frame is black -/
def PathRR : Path α β → Prop
  | [] => True
  | f :: p => RRt f.sib ∧ (f.c = .R → color f.sib = .B ∧ headB p) ∧ PathRR p

/-- the shape part of `Valid` (RBValid) -/
def ValidT (t : T α β) : Prop := color t = .B ∧ RRt t ∧ Bal t

@[simp] theorem cw_R : cw .R = 0 := rfl
@[simp] theorem cw_B : cw .B = 1 := rfl
@[simp] theorem bh_nil : bh (T.nil : T α β) = 0 := rfl
@[simp] theorem bh_node (c : Color) (l : T α β) (k : α) (v : β) (r : T α β) : bh (T.node c l k v r) = bh l + cw c := rfl
@[simp] theorem Bal_nil : Bal (T.nil : T α β) = True := rfl
@[simp] theorem Bal_node (c : Color) (l : T α β) (k : α) (v : β) (r : T α β) :
    Bal (T.node c l k v r) = (bh l = bh r ∧ Bal l ∧ Bal r) := rfl
@[simp] theorem RRt_nil : RRt (T.nil : T α β) = True := rfl
@[simp] theorem RRt_node (c : Color) (l : T α β) (k : α) (v : β) (r : T α β) :
    RRt (T.node c l k v r) = ((c = .R → color l = .B ∧ color r = .B) ∧ RRt l ∧ RRt r) := rfl
@[simp] theorem color_nil : color (T.nil : T α β) = .B := rfl
@[simp] theorem color_node (c : Color) (l : T α β) (k : α) (v : β) (r : T α β) : color (T.node c l k v r) = c := rfl
@[simp] theorem PathBal_nil (n : Nat) : PathBal ([] : Path α β) n = True := rfl
@[simp] theorem PathBal_cons (f : Frame α β) (p : Path α β) (n : Nat) :
    PathBal (f :: p) n = (bh f.sib = n ∧ Bal f.sib ∧ PathBal p (n + cw f.c)) := rfl
@[simp] theorem PathRR_nil : PathRR ([] : Path α β) = True := rfl
@[simp] theorem PathRR_cons (f : Frame α β) (p : Path α β) :
    PathRR (f :: p) = (RRt f.sib ∧ (f.c = .R → color f.sib = .B ∧ headB p) ∧ PathRR p) := rfl
@[simp] theorem headB_nil : headB ([] : Path α β) = False := rfl
@[simp] theorem headB_cons (f : Frame α β) (p : Path α β) : headB (f :: p) = (f.c = .B) := rfl

theorem Color.ne_R {c : Color} : ¬ c = .R ↔ c = .B := by cases c <;> simp
theorem Color.ne_B {c : Color} : ¬ c = .B ↔ c = .R := by cases c <;> simp

@[simp] theorem color_setColor_node (c c' : Color) (l : T α β) (k : α) (v : β) (r : T α β) :
    setColor c (T.node c' l k v r) = T.node c l k v r := rfl
@[simp] theorem setColor_nil (c : Color) : setColor c (T.nil : T α β) = .nil := rfl

theorem Bal_setColor (c : Color) (t : T α β) : Bal (setColor c t) = Bal t := by cases t <;> rfl
theorem RRt_setColor_B (t : T α β) (h : RRt t) : RRt (setColor .B t) := by
  cases t with
  | nil => trivial
  | node c l k v r => simp at h ⊢; exact ⟨h.2.1, h.2.2⟩
theorem color_setColor_B (t : T α β) : color (setColor .B t) = .B := by cases t <;> rfl
theorem bh_setColor_B_of_red (t : T α β) (h : color t = .R) : bh (setColor .B t) = bh t + 1 := by
  cases t with
  | nil => simp at h
  | node c l k v r => simp at h; subst h; simp

theorem color_mk (f : Frame α β) (t : T α β) : color (mk f t) = f.c := by
  unfold mk; split <;> rfl

/-! `bh` follows the left spine and `Bal` says `bh l = bh r`, so the predicates above treat the two children of a node
    differently.  `WF n t` names the height: a node is well formed of height `n + cw c` iff BOTH children are well formed of
    height `n` (`WF.node`, `WF.children`), so the mirrored halves of a rotation are the same term with the sides exchanged, and
    the side of a hole is looked at only where a frame is closed or opened (`WF.frame`, `WF.of_frame`).  `CtxOK p n` is the same
    for a path (`ctxOK_cons`). -/

structure WF (n : Nat) (t : T α β) : Prop where
  height : bh t = n
  bal : Bal t
  rr : RRt t

theorem WF.nil : WF 0 (T.nil : T α β) := ⟨rfl, trivial, trivial⟩

theorem WF.node {n : Nat} {c : Color} {l r : T α β} (hl : WF n l) (hr : WF n r)
    (hc : c = .R → color l = .B ∧ color r = .B) (k : α) (v : β) : WF (n + cw c) (.node c l k v r) :=
  ⟨congrArg (· + cw c) hl.height, ⟨hl.height.trans hr.height.symm, hl.bal, hr.bal⟩, hc, hl.rr, hr.rr⟩

theorem WF.children {m : Nat} {c : Color} {l r : T α β} {k : α} {v : β} (h : WF m (.node c l k v r)) :
    ∃ n, m = n + cw c ∧ WF n l ∧ WF n r ∧ (c = .R → color l = .B ∧ color r = .B) :=
  ⟨bh l, h.height.symm, ⟨rfl, h.bal.2.1, h.rr.2.1⟩, ⟨h.bal.1.symm, h.bal.2.2, h.rr.2.2⟩, h.rr.1⟩

theorem ValidT.wf {t : T α β} (h : ValidT t) : WF (bh t) t := ⟨rfl, h.2.2, h.2.1⟩

theorem WF.blacken {n : Nat} {t : T α β} (h : WF n t) (hc : color t = .R) : WF (n + 1) (setColor .B t) :=
  ⟨(bh_setColor_B_of_red t hc).trans (congrArg (· + 1) h.height), by rw [Bal_setColor]; exact h.bal, RRt_setColor_B t h.rr⟩

theorem WF.validT_setColor_B {n : Nat} {t : T α β} (h : WF n t) : ValidT (setColor .B t) :=
  ⟨color_setColor_B t, RRt_setColor_B t h.rr, by rw [Bal_setColor]; exact h.bal⟩

theorem WF.frame {n : Nat} {f : Frame α β} {t : T α β} (ht : WF n t) (hs : WF n f.sib)
    (hc : f.c = .R → color t = .B ∧ color f.sib = .B) : WF (n + cw f.c) (RB.mk f t) := by
  unfold RB.mk; split
  · exact ht.node hs hc ..
  · exact hs.node ht (fun h => (hc h).symm) ..

theorem WF.of_frame {m : Nat} {f : Frame α β} {t : T α β} (h : WF m (RB.mk f t)) :
    ∃ n, m = n + cw f.c ∧ WF n t ∧ WF n f.sib ∧ (f.c = .R → color t = .B ∧ color f.sib = .B) := by
  unfold RB.mk at h; split at h
  · exact h.children
  · obtain ⟨n, e, a, b, c⟩ := h.children; exact ⟨n, e, b, a, fun h => (c h).symm⟩

/-- a well-formed context around a hole of black height `n` -/
def CtxOK (p : Path α β) (n : Nat) : Prop := PathBal p n ∧ PathRR p

theorem CtxOK.nil (n : Nat) : CtxOK ([] : Path α β) n := ⟨trivial, trivial⟩

theorem ctxOK_cons {f : Frame α β} {p : Path α β} {n : Nat} :
    CtxOK (f :: p) n ↔ WF n f.sib ∧ (f.c = .R → color f.sib = .B ∧ headB p) ∧ CtxOK p (n + cw f.c) :=
  ⟨fun ⟨⟨a, b, c⟩, d, e, g⟩ => ⟨⟨a, b, d⟩, e, c, g⟩, fun ⟨⟨a, b, d⟩, e, c, g⟩ => ⟨⟨a, b, c⟩, d, e, g⟩⟩

theorem plug_valid {n : Nat} (t : T α β) (p : Path α β) (h : WF n t) (hp : CtxOK p n) (htop : color t = .R → headB p) :
    ValidT (plug t p) := by
  induction p generalizing t n with
  | nil => exact ⟨Color.ne_R.mp htop, h.rr, h.bal⟩
  | cons f p ih =>
    obtain ⟨hs, hc, hp⟩ := ctxOK_cons.mp hp
    exact ih (mk f t)
      (h.frame hs fun hfc => ⟨Color.ne_R.mp fun ht => (nomatch hfc.symm.trans (htop ht : f.c = .B)), (hc hfc).1⟩)
      hp (by rw [color_mk]; exact fun hfc => (hc hfc).2)

/-- a red frame `f` below a frame `g`: `f.sib` is the sibling, `g.sib` the uncle; `g` is black, so the rest of the path
    expects `n + 1` -/
theorem red_parent {f g : Frame α β} {up : Path α β} {n : Nat} (hfc : f.c = .R) (hp : CtxOK (f :: g :: up) n) :
    WF n f.sib ∧ color f.sib = .B ∧ WF n g.sib ∧ CtxOK up (n + 1) := by
  obtain ⟨hs, hc, hp⟩ := ctxOK_cons.mp hp
  obtain ⟨hgs, -, hup⟩ := ctxOK_cons.mp hp
  obtain ⟨c1, c2⟩ := hc hfc
  rw [hfc] at hgs hup
  rw [(c2 : g.c = .B)] at hup
  exact ⟨hs, c1, hgs, hup⟩

/-- every rotation of `Tree_Set_Fix` produces a black node over two red nodes over four black subtrees of the one height `n` -/
theorem setFix_valid {n : Nat} (t : T α β) (p : Path α β) (hc : color t = .R) (h : WF n t) (hp : CtxOK p n) :
    ∃ t', setFix t p = some t' ∧ ValidT t' := by
  fun_induction setFix t p generalizing n with
  | case1 t => exact ⟨_, rfl, h.validT_setColor_B⟩
  | case2 t f hfc => exact ⟨_, rfl, plug_valid t [f] h hp (fun _ => hfc)⟩
  | case3 t f hfc => exact absurd ((ctxOK_cons.mp hp).2.1 (Color.ne_B.mp hfc)).2 id
  | case4 t f g up hfc => exact ⟨_, rfl, plug_valid t _ h hp (fun _ => hfc)⟩
  | case5 t f g up hfc hu ih =>
    -- red uncle: parent and uncle become black, the grandparent red; go on from the grandparent
    obtain ⟨F, -, G, hup⟩ := red_parent (Color.ne_B.mp hfc) hp
    exact ih (color_mk _ _) ((h.frame (f := { f with c := .B }) F nofun).frame
      (f := { g with c := .R, sib := setColor .B g.sib }) (G.blacken hu) fun _ => ⟨color_mk _ _, color_setColor_B _⟩) hup
  | case6 f g up hfc hu t hf hg =>
    obtain ⟨F, Fb, G, hup⟩ := red_parent (Color.ne_B.mp hfc) hp
    exact ⟨_, rfl, plug_valid _ up
      (h.node (c := .B) (F.node (c := .R) G (fun _ => ⟨Fb, Color.ne_R.mp hu⟩) ..) nofun ..) hup nofun⟩
  | case7 f g up hfc hu c a nk nv b hf hg =>
    obtain ⟨F, Fb, G, hup⟩ := red_parent (Color.ne_B.mp hfc) hp
    cases (hc : c = .R)
    obtain ⟨_, rfl, A, B, hab⟩ := h.children
    rw [Color.ne_B.mp hfc]
    exact ⟨_, rfl, plug_valid _ up ((F.node (c := .R) A (fun _ => ⟨Fb, (hab rfl).1⟩) ..).node (c := .B)
      (B.node (c := .R) G (fun _ => ⟨(hab rfl).2, Color.ne_R.mp hu⟩) ..) nofun ..) hup nofun⟩
  | case8 f g up hfc hu t hf hg =>
    obtain ⟨F, Fb, G, hup⟩ := red_parent (Color.ne_B.mp hfc) hp
    exact ⟨_, rfl, plug_valid _ up
      ((G.node (c := .R) F (fun _ => ⟨Color.ne_R.mp hu, Fb⟩) ..).node (c := .B) h nofun ..) hup nofun⟩
  | case9 f g up hfc hu c a nk nv b hf hg =>
    obtain ⟨F, Fb, G, hup⟩ := red_parent (Color.ne_B.mp hfc) hp
    cases (hc : c = .R)
    obtain ⟨_, rfl, A, B, hab⟩ := h.children
    rw [Color.ne_B.mp hfc]
    exact ⟨_, rfl, plug_valid _ up ((G.node (c := .R) A (fun _ => ⟨Color.ne_R.mp hu, (hab rfl).1⟩) ..).node (c := .B)
      (B.node (c := .R) F (fun _ => ⟨(hab rfl).2, Fb⟩) ..) nofun ..) hup nofun⟩
  | case10 f g up hfc hu x y => cases hc

/-- the invariant of a descent: a well-formed subtree in a well-formed context that expects its height; a red root hangs
    under a black parent -/
structure Pos (t : T α β) (p : Path α β) : Prop where
  wf : WF (bh t) t
  ctx : CtxOK p (bh t)
  top : color t = .R → headB p

theorem Pos.root (t : T α β) (h : ValidT t) : Pos t [] :=
  ⟨h.wf, CtxOK.nil _, fun hc => by rw [h.1] at hc; cases hc⟩

/-- one step down, to either side: `.node c l k v r` is `mk ⟨.L, c, k, v, r⟩ l` and `mk ⟨.Rt, c, k, v, l⟩ r` -/
theorem Pos.down {f : Frame α β} {t : T α β} {p : Path α β} (h : Pos (RB.mk f t) p) : Pos t (f :: p) := by
  obtain ⟨n, e, ht, hs, hc⟩ := h.wf.of_frame
  cases ht.height
  refine ⟨ht, ctxOK_cons.mpr ⟨hs, fun hfc => ⟨(hc hfc).2, h.top (by rw [color_mk]; exact hfc)⟩, e ▸ h.ctx⟩,
    fun hr => Color.ne_R.mp fun hfc => nomatch hr.symm.trans (hc hfc).1⟩

theorem maxLoc_pos (t : T α β) (p : Path α β) (x : Loc α β) (hz : Pos t p) (h : maxLoc t p = some x) :
    Pos x.tree x.path := by
  fun_induction maxLoc t p with
  | case1 => cases h
  | case2 => cases h; exact hz
  | case3 c l k v p _ _ _ _ _ ih => exact ih (Pos.down (f := ⟨.Rt, c, k, v, l⟩) hz) h

theorem Pos.rekey {c : Color} {l : T α β} {k : α} {v : β} {r : T α β} {p : Path α β} (k' : α) (v' : β)
    (h : Pos (.node c l k v r) p) : Pos (.node c l k' v' r) p :=
  ⟨⟨h.wf.height, h.wf.bal, h.wf.rr⟩, h.ctx, h.top⟩

theorem Pos.plug {t : T α β} {p : Path α β} (h : Pos t p) : ValidT (plug t p) := plug_valid t p h.wf h.ctx h.top

theorem insAt_valid (cmp : α → α → Ordering) (t : T α β) (p : Path α β) (k : α) (v : β) (h : Pos t p) :
    ∃ t' fresh, insAt cmp t p k v = some (t', fresh) ∧ ValidT t' := by
  induction t generalizing p with
  | nil =>
    obtain ⟨t', h1, h2⟩ := setFix_valid (.node .R .nil k v .nil) p rfl (WF.nil.node (c := .R) WF.nil (fun _ => ⟨rfl, rfl⟩) k v) h.ctx
    exact ⟨t', true, by simp [insAt, h1], h2⟩
  | node c l nk nv r ihl ihr =>
    simp only [insAt]
    cases cmp nk k with
    | eq => exact ⟨_, false, rfl, (h.rekey k v).plug⟩
    | lt => exact ihl _ (Pos.down (f := ⟨.L, c, nk, nv, r⟩) h)
    | gt => exact ihr _ (Pos.down (f := ⟨.Rt, c, nk, nv, l⟩) h)

theorem height_le_bh {n : Nat} (t : T α β) (h : WF n t) : height t ≤ 2 * n + 1 ∧ (color t = .B → height t ≤ 2 * n) := by
  induction t generalizing n with
  | nil => exact ⟨Nat.zero_le _, fun _ => Nat.zero_le _⟩
  | node c l k v r ihl ihr =>
    obtain ⟨m, rfl, L, R, hc⟩ := h.children
    cases c with
    | B =>
      -- a black node adds one to the black height, which pays for itself and for a red child
      have hb : height (T.node .B l k v r) ≤ 2 * (m + 1) := Nat.succ_le_succ (Nat.max_le.mpr ⟨(ihl L).1, (ihr R).1⟩)
      exact ⟨Nat.le_succ_of_le hb, fun _ => hb⟩
    | R =>
      -- the children of a red node are black: one more than their bound
      obtain ⟨cl, cr⟩ := hc rfl
      exact ⟨Nat.succ_le_succ (Nat.max_le.mpr ⟨(ihl L).2 cl, (ihr R).2 cr⟩), nofun⟩

theorem pow_bh_le_size {n : Nat} (t : T α β) (h : WF n t) : 2 ^ n ≤ size t + 1 := by
  induction t generalizing n with
  | nil => cases h.height; exact Nat.le_refl 1
  | node c l k v r ihl ihr =>
    obtain ⟨m, rfl, L, R, -⟩ := h.children
    cases c with
    | R => exact Nat.le_trans (ihl L) (Nat.le_succ_of_le (Nat.le_add_right _ _))
    | B =>
      show 2 ^ (m + 1) ≤ (size l + 1) + (size r + 1)
      rw [Nat.pow_succ, Nat.mul_two]
      exact Nat.add_le_add (ihl L) (ihr R)

theorem height_le_two_bh (t : T α β) (h : ValidT t) : height t ≤ 2 * bh t := (height_le_bh t h.wf).2 h.1

theorem height_le_log (t : T α β) (h : ValidT t) : height t ≤ 2 * Nat.log2 (size t + 1) :=
  Nat.le_trans (height_le_two_bh t h)
    (Nat.mul_le_mul_left 2 ((Nat.le_log2 (Nat.succ_ne_zero _)).mpr (pow_bh_le_size t h.wf)))

theorem pow_height_le_sq (t : T α β) (h : ValidT t) : 2 ^ height t ≤ (size t + 1) ^ 2 :=
  calc 2 ^ height t ≤ 2 ^ (2 * bh t) := Nat.pow_le_pow_right (by decide) (height_le_two_bh t h)
    _ = (2 ^ bh t) ^ 2 := by rw [Nat.mul_comm, Nat.pow_mul]
    _ ≤ (size t + 1) ^ 2 := Nat.pow_le_pow_left (pow_bh_le_size t h.wf) 2

end Cello.RB
