/-
  CelloProofs/Lemmas/TableSetMove.lean — `Table_Set_Move`, from its loop to the map.  `setLoop` (Cello/Table.lean) is the
  displacement loop `RH.insertLoop` plus the equal-key branch, and is read through both interfaces of the core: for a new
  key it is an `RH.InsLoop` (either tie rule); for a stored key, under the strict rule only, an `RH.ProbeWalk` to that key.
-/
import CelloProofs.Lemmas.RHIns
import CelloProofs.Lemmas.TableRep
namespace Cello.Table
open RH
variable {κ ν : Type} [DecidableEq κ] {n : Nat}

theorem insLoop_setLoop (ge : Bool) : InsLoop ge (fun s => (s, true)) (setLoop (κ := κ) (ν := ν) (n := n) ge) := by
  refine ⟨?_, ?_, ?_⟩
  · intro fuel s c i j hi h; simp only [setLoop, h]
  · intro fuel s c i j hi r h hk hc; simp only [setLoop, h, if_neg hk, if_pos hc]
  · intro fuel s c i j hi r h hk hc; simp only [setLoop, h, if_neg hk, if_neg hc]

/-- Under the strict rule the loop, on its way to a resident with the carried key, makes the find loop's two tests in the
    opposite order with the same outcome: it passes what the find loop passes, and at the key replaces the record in place.
    (Under `j >= p` the `miss` law fails at `j = p`, where the loop displaces an entry the find loop passes: defect F02.) -/
theorem probeWalk_setLoop (s : Slots κ ν n) (c : Entry κ ν) :
    ProbeWalk s (·.key = c.key) (fun i hi _ => (s.set i (some c) hi, false)) (fun fuel => setLoop false fuel s c) := by
  refine ⟨?_, ?_⟩
  · intro fuel i j hi e h _ hk; simp only [setLoop, h, if_pos hk]
  · intro fuel i j hi e h hj hk; simp only [setLoop, h, if_neg hk, Bool.false_eq_true, if_false, if_neg hj]

/-- **F02's fix as a theorem.** Under the invariant, `Table_Set_Move` with the strict test `j > p`, given a key that is
    already stored at slot `p`, replaces the record at `p` and nothing else (and reports "no new item"): the probe reaches
    `p` before any displacement and before an empty slot (`RH.ProbeWalk.reaches`). -/
theorem update_hits_existing (hash : κ → Nat) (s : Slots κ ν n) (inv : Inv0 hash s) (hn : 0 < n) (k : κ) (v : ν)
    (p : Nat) (hp : p < n) (e : Entry κ ν) (hpe : s[p] = some e) (hk : e.key = k) :
    setLoop false n s ⟨k, hash k % n, v⟩ (hash k % n) 0 (Nat.mod_lt _ hn)
      = some (s.set p (some ⟨k, hash k % n, v⟩) hp, false) := by
  subst hk
  exact (probeWalk_setLoop s ⟨e.key, hash e.key % n, v⟩).reaches_from_home inv hn hp hpe rfl fun _ h => h

theorem setMove_fresh (cfg : Cfg) (hash : κ → Nat) (t : Tab κ ν) (w : WF hash t) (hroom : t.nitems < t.n)
    (k : κ) (v : ν) (hfresh : ¬ Present t.slots k) :
    ∃ t', setMove cfg hash t k v = .ok t' ∧ t'.n = t.n ∧ WF hash t' ∧
      ∀ k' v', Has t'.slots k' v' ↔ Has t.slots k' v' ∨ (k' = k ∧ v' = v) := by
  have hn : t.n ≠ 0 := by omega
  obtain ⟨z, hz, hze⟩ := w.exists_empty hroom
  have P := Pending.start w.inv0 ⟨k, hash k % t.n, v⟩ rfl ((not_present_iff _ k).mp hfresh) hz hze
  obtain ⟨s', hs', hinv, hmem, hcnt⟩ := (insLoop_setLoop cfg.ge).spec hash t.n t.slots _ _ 0 z (Nat.mod_lt _ (Nat.pos_of_ne_zero hn)) P
    (dist_lt hz (Nat.mod_lt _ (Nat.pos_of_ne_zero hn)))
  refine ⟨⟨t.n, s', t.nitems + 1⟩, ?_, rfl, ⟨hinv, by rw [count_eq, hcnt, ← count_eq, w.cnt]⟩, ?_⟩
  · simp only [setMove, dif_neg hn, hs', if_true]
  · intro k' v'
    simp only [Has, mem_iff, hmem, or_and_right, exists_or, exists_eq_left, eq_comm (a := k'), eq_comm (a := v')]

theorem setMove_update (cfg : Cfg) (hge : cfg.ge = false) (hash : κ → Nat) (t : Tab κ ν) (w : WF hash t)
    (k : κ) (v : ν) (hk : Present t.slots k) :
    ∃ t', setMove cfg hash t k v = .ok t' ∧ t'.n = t.n ∧ WF hash t' ∧
      ∀ k' v', Has t'.slots k' v' ↔ (k' = k ∧ v' = v) ∨ (k' ≠ k ∧ Has t.slots k' v') := by
  obtain ⟨p, hp, e, hpe, hek⟩ := hk
  have hn : t.n ≠ 0 := by omega
  have hpos := Nat.pos_of_ne_zero hn
  have hloop := update_hits_existing hash t.slots w.inv0 hpos k v p hp e hpe hek
  have hh : e.home = hash k % t.n := by rw [← hek]; exact w.inv0.home_ok p hp e hpe
  refine ⟨⟨t.n, t.slots.set p (some ⟨k, hash k % t.n, v⟩) hp, t.nitems⟩, ?_, rfl,
    ⟨w.inv0.set_same hp hpe _ hek.symm hh.symm, ?_⟩, ?_⟩
  · simp only [setMove, dif_neg hn, hge, hloop]; rfl
  · exact (occ_set_some_some t.slots p hp _ e hpe).trans w.cnt
  · intro k' v'
    simp only [Has, mem_set_replace w.inv0 hp hpe, or_and_right, exists_or, exists_eq_left, has_mem_ne_iff w.inv0 ⟨p, hp, hpe⟩, hek,
      eq_comm (a := k), eq_comm (a := v)]

/-- `Table_Set_Move` on a represented map with room: the map gains / updates the binding — under the strict rule for any
    key, under either rule for a key that is not bound -/
theorem setMove_rep0_strict_or_fresh (cfg : Cfg) (hash : κ → Nat) (t : Tab κ ν) (m : Spec κ ν)
    (r : Rep0 hash t m) (hroom : t.nitems < t.n) (k : κ) (v : ν) (h : cfg.ge = false ∨ Spec.get m k = none) :
    ∃ t', setMove cfg hash t k v = .ok t' ∧ t'.n = t.n ∧ Rep0 hash t' (Spec.set m k v) := by
  by_cases hk : Present t.slots k
  · obtain ⟨v0, hv0⟩ := (present_iff_spec r k).mp hk
    have hge : cfg.ge = false := h.resolve_right fun hn => (spec_get_none m k).mp hn v0 hv0
    obtain ⟨t', h1, h2, h3, h5⟩ := setMove_update cfg hge hash t r.toWF k v hk
    exact ⟨t', h1, h2, Rep0.of_has h3 (nodup_spec_set m r.nodup k v) fun k' v' => by rw [h5, mem_spec_set, r.has]⟩
  · obtain ⟨t', h1, h2, h3, h5⟩ := setMove_fresh cfg hash t r.toWF hroom k v hk
    have habs : ∀ v, (k, v) ∉ m := fun v hv => hk ((present_iff_spec r k).mpr ⟨v, hv⟩)
    exact ⟨t', h1, h2, Rep0.of_has h3 (nodup_spec_set m r.nodup k v) fun k' v' => by
      rw [h5, mem_spec_set, r.has, or_comm, and_iff_right_of_imp fun h (e : k' = k) => habs v' (e ▸ h)]⟩

theorem setMove_rep0 (cfg : Cfg) (hge : cfg.ge = false) (hash : κ → Nat) (t : Tab κ ν) (m : Spec κ ν)
    (r : Rep0 hash t m) (hroom : t.nitems < t.n) (k : κ) (v : ν) :
    ∃ t', setMove cfg hash t k v = .ok t' ∧ t'.n = t.n ∧ Rep0 hash t' (Spec.set m k v) :=
  setMove_rep0_strict_or_fresh cfg hash t m r hroom k v (Or.inl hge)

/-- the insertion loop of `Table_New` / `Table_Assign` / `Table_Rehash` (no growth in between): as long as the array has
    room for all pairs, every `Table_Set_Move` succeeds and the table represents the pairs folded into the map, a later pair
    replacing an earlier one for the same key — under the strict rule for any pairs, under either rule for pairs with
    distinct keys none of which is bound.  (From `m = []` the fold in the conclusion is `Spec.ofPairs kvs` by definition: that is
    how `rehash_rep` and `fill_rep` read it.) -/
theorem insertAll_rep0_strict_or_fresh (cfg : Cfg) (hash : κ → Nat) :
    ∀ (kvs : List (κ × ν)) (t : Tab κ ν) (m : Spec κ ν), Rep0 hash t m → t.nitems + kvs.length < t.n →
      (cfg.ge = false ∨ ((kvs.map Prod.fst).Nodup ∧ ∀ p ∈ kvs, Spec.get m p.1 = none)) →
      ∃ t', insertAll cfg hash t kvs = .ok t' ∧ t'.n = t.n ∧ t'.nitems ≤ t.nitems + kvs.length ∧
        Rep0 hash t' (kvs.foldl (fun m p => Spec.set m p.1 p.2) m) := by
  intro kvs
  induction kvs with
  | nil => intro t m r _ _; exact ⟨t, rfl, rfl, by simp, r⟩
  | cons p kvs ih =>
    intro t m r hroom h
    simp only [List.length_cons] at hroom
    obtain ⟨t1, e1, n1, r1⟩ := setMove_rep0_strict_or_fresh cfg hash t m r (by omega) p.1 p.2 (h.imp_right fun h => h.2 p List.mem_cons_self)
    have hl : t1.nitems ≤ t.nitems + 1 := by
      have := length_spec_set_le m p.1 p.2
      rw [r1.len, r.len] at this; exact this
    -- the remaining keys differ from `p.1`, so they are still unbound after it is set
    obtain ⟨t', e2, n2, l2, r2⟩ := ih t1 (Spec.set m p.1 p.2) r1 (by rw [n1]; omega) (h.imp_right fun ⟨nd, hf⟩ => by
      rw [List.map_cons, List.nodup_cons] at nd
      refine ⟨nd.2, fun q hq => ?_⟩
      rw [spec_get_set, if_neg fun (e : q.1 = p.1) => nd.1 (e ▸ List.mem_map_of_mem hq)]
      exact hf q (List.mem_cons_of_mem _ hq))
    refine ⟨t', ?_, by rw [n2, n1], by simp only [List.length_cons]; omega, r2⟩
    unfold insertAll at e2 ⊢
    rw [List.foldlM_cons]; simp only [e1]; exact e2

theorem foldlM_reinsert (cfg : Cfg) (hash : κ → Nat) : ∀ (l : List (Option (Entry κ ν))) (t : Tab κ ν),
    l.foldlM (reinsert cfg hash) t = insertAll cfg hash t (l.filterMap (Option.map kv)) := by
  intro l
  induction l with
  | nil => intro t; rfl
  | cons a l ih =>
    intro t
    cases a with
    | none => rw [List.foldlM_cons]; exact ih t
    | some e =>
      simp only [List.foldlM_cons, List.filterMap_cons_some (Option.map_some ..), insertAll, reinsert, kv]
      cases setMove cfg hash t e.key e.val with
      | error f => rfl
      | ok t1 => exact ih t1

theorem rehash_eq_insertAll (cfg : Cfg) (hash : κ → Nat) (t : Tab κ ν) (newSize : Nat) :
    rehash cfg hash t newSize = insertAll cfg hash (Tab.empty newSize) (entriesList t.slots) :=
  foldlM_reinsert cfg hash _ _

/-- **`Table_Rehash`**: the abstraction is preserved and the invariant is established in the fresh array (either tie rule:
    the bindings of a table have distinct keys) -/
theorem rehash_rep (cfg : Cfg) (hash : κ → Nat) (t : Tab κ ν) (m : Spec κ ν) (r : Rep0 hash t m)
    (newSize : Nat) (hbig : t.nitems < newSize) :
    ∃ t', rehash cfg hash t newSize = .ok t' ∧ t'.n = newSize ∧ Rep hash t' m := by
  obtain ⟨t', e, n, _, r'⟩ := insertAll_rep0_strict_or_fresh cfg hash (entriesList t.slots) (Tab.empty newSize) []
    (rep0_empty hash newSize) (by rw [r.length_entriesList]; simpa [Tab.empty] using hbig)
    (Or.inr ⟨keys_entriesList_nodup hash t.slots r.inv0, fun _ _ => rfl⟩)
  have r'' := r'.perm (ofPairs_entriesList_perm r)
  exact ⟨t', by rw [rehash_eq_insertAll]; exact e, n, r'', Or.inl (by rw [← r''.len, r.len, n]; exact hbig)⟩

end Cello.Table
