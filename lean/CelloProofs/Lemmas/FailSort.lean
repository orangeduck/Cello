import CelloProofs.Lemmas.Fail
/-
  C12, `sort` (Tuple_Sort_* / Array_Sort_*): the quicksort of the model (`sortItems`) completes — no exception, no fuel exhaustion —
  on every list whose elements are pairwise comparable (all `Int`, all `String` with a buffer, all `Plain`), and keeps the length and
  the element property.  The territory of finding KF-C12-sort-partial (`sortKf`) is the complement: at least two items, not of one type.
-/
namespace Cello.Fail

def Val.isInt : Val → Bool | .int _ => true | _ => false
def Val.isStr : Val → Bool | .str _ => true | _ => false
def Val.isPlain : Val → Bool | .plain _ => true | _ => false

/-- all items of one of the three comparable kinds -/
def homogeneous (xs : List Val) : Bool := xs.all Val.isInt || xs.all Val.isStr || xs.all Val.isPlain

/-- territory of finding KF-C12-sort-partial: a comparison can raise after elements were exchanged — at least two items that are
    not all of one type (fewer than two items: no comparison is made) -/
def sortKf (xs : List Val) : Bool := decide (2 ≤ xs.length) && !homogeneous xs

def Comparable (P : Val → Prop) : Prop := ∀ a b, P a → P b → ∃ r, ltv a b = .ok r

theorem comparable_int : Comparable (fun v => v.isInt = true) := by
  intro a b ha hb; cases a <;> cases b <;> simp_all [Val.isInt, ltv]
theorem comparable_str : Comparable (fun v => v.isStr = true) := by
  intro a b ha hb; cases a <;> cases b <;> simp_all [Val.isStr, ltv]
theorem comparable_plain : Comparable (fun v => v.isPlain = true) := by
  intro a b ha hb; cases a <;> cases b <;> simp_all [Val.isPlain, ltv]

/-- the elements of a typed Array are of one type, and none is the NULL-buffer String: `lt` answers on any two of them -/
theorem comparable_elemOf (ty : Ty) : Comparable (·.elemOf ty) := by
  intro a b ⟨ha, ha'⟩ ⟨hb, hb'⟩
  cases ty <;> cases a <;> cases b <;> simp_all [Val.ty?, ltv]

theorem swapAt_length (xs : List Val) (i j : Nat) : (swapAt xs i j).length = xs.length := by
  unfold swapAt; split <;> simp

theorem swapAt_mem (xs : List Val) (i j : Nat) (x : Val) (h : x ∈ swapAt xs i j) : x ∈ xs := by
  unfold swapAt at h
  split at h
  · rename_i a b ha hb
    rcases List.mem_or_eq_of_mem_set h with h1 | h1
    · rcases List.mem_or_eq_of_mem_set h1 with h2 | h2
      · exact h2
      · subst h2; exact List.mem_of_getElem? hb
    · subst h1; exact List.mem_of_getElem? ha
  · exact h

theorem getD_mem {α : Type} (xs : List α) (i : Nat) (d : α) (h : i < xs.length) : xs.getD i d ∈ xs := by
  simp only [List.getD_eq_getElem?_getD, List.getElem?_eq_getElem h, Option.getD_some]; exact List.getElem_mem h

theorem partLoop_ok (P : Val → Prop) (hP : Comparable P) (r : Nat) :
    ∀ (fuel i s : Nat) (xs : List Val), (∀ x ∈ xs, P x) → r < xs.length → s ≤ i → i ≤ r →
      ∃ xs' s', partLoop r fuel i s xs = (xs', .ok s') ∧ (∀ x ∈ xs', P x) ∧ xs'.length = xs.length ∧ s ≤ s' ∧ s' ≤ r := by
  intro fuel
  induction fuel with
  | zero => intro i s xs hx _ hsi hir; exact ⟨xs, s, rfl, hx, rfl, Nat.le_refl _, Nat.le_trans hsi hir⟩
  | succ fuel ih =>
    intro i s xs hx hr hsi hir
    unfold partLoop
    by_cases hlt : i < r
    · simp only [hlt, if_true]
      obtain ⟨b, hb⟩ := hP _ _ (hx _ (getD_mem xs i _ (by omega))) (hx _ (getD_mem xs r _ hr))
      rw [hb]
      cases b with
      | true =>
        simp only
        have hx' : ∀ x ∈ swapAt xs i s, P x := fun x h => hx x (swapAt_mem xs i s x h)
        obtain ⟨xs', s', h1, h2, h3, h4, h5⟩ := ih (i + 1) (s + 1) (swapAt xs i s) hx' (by rw [swapAt_length]; exact hr) (by omega) (by omega)
        exact ⟨xs', s', h1, h2, by rw [h3, swapAt_length], by omega, h5⟩
      | false =>
        simp only
        obtain ⟨xs', s', h1, h2, h3, h4, h5⟩ := ih (i + 1) s xs hx hr (by omega) (by omega)
        exact ⟨xs', s', h1, h2, h3, h4, h5⟩
    · simp only [hlt, if_false]
      exact ⟨xs, s, rfl, hx, rfl, Nat.le_refl _, by omega⟩

theorem sortPartition_ok (P : Val → Prop) (hP : Comparable P) (xs : List Val) (l r : Nat)
    (hx : ∀ x ∈ xs, P x) (hr : r < xs.length) (hlr : l ≤ r) :
    ∃ xs' s, sortPartition xs l r = (xs', .ok s) ∧ (∀ x ∈ xs', P x) ∧ xs'.length = xs.length ∧ l ≤ s ∧ s ≤ r := by
  unfold sortPartition
  have hx1 : ∀ x ∈ swapAt xs (l + (r - l) / 2) r, P x := fun x h => hx x (swapAt_mem _ _ _ x h)
  obtain ⟨xs2, s, h1, h2, h3, h4, h5⟩ :=
    partLoop_ok P hP r (r - l) l l _ hx1 (by rw [swapAt_length]; exact hr) (Nat.le_refl _) hlr
  simp only [h1]
  exact ⟨swapAt xs2 s r, s, rfl, fun x h => h2 x (swapAt_mem _ _ _ x h), by rw [swapAt_length, h3, swapAt_length], h4, h5⟩

theorem sortPart_ok (P : Val → Prop) (hP : Comparable P) :
    ∀ (fuel : Nat) (xs : List Val) (l r : Int), (∀ x ∈ xs, P x) → 0 ≤ l → r < xs.length → 1 ≤ fuel → r - l + 1 ≤ fuel →
      ∃ xs', sortPart fuel xs l r = (xs', .ok ()) ∧ (∀ x ∈ xs', P x) ∧ xs'.length = xs.length := by
  -- the measure is the width `r - l + 1`: the pivot position `s` lies in `[l, r]`, so both recursive intervals are narrower;
  -- an empty interval still costs the one unit that looks at it (`1 ≤ fuel`)
  intro fuel
  induction fuel with
  | zero => intro xs l r _ _ _ h1 _; omega
  | succ fuel ih =>
    intro xs l r hx hl hr _ hf
    unfold sortPart
    by_cases hlr : l < r
    · simp only [hlr, if_true]
      obtain ⟨xs1, s, h1, h2, h3, h4, h5⟩ := sortPartition_ok P hP xs l.toNat r.toNat hx (by omega) (by omega)
      simp only [h1]
      obtain ⟨xs2, g1, g2, g3⟩ := ih xs1 l ((s : Int) - 1) h2 hl (by omega) (by omega) (by omega)
      simp only [g1]
      obtain ⟨xs3, k1, k2, k3⟩ := ih xs2 ((s : Int) + 1) r g2 (by omega) (by omega) (by omega) (by omega)
      exact ⟨xs3, k1, k2, by omega⟩
    · simp only [hlr, if_false]
      exact ⟨xs, rfl, hx, rfl⟩

theorem sortItems_ok (P : Val → Prop) (hP : Comparable P) (xs : List Val) (hx : ∀ x ∈ xs, P x) :
    ∃ xs', sortItems xs = (xs', .ok ()) ∧ (∀ x ∈ xs', P x) ∧ xs'.length = xs.length := by
  unfold sortItems
  exact sortPart_ok P hP (xs.length + 1) xs 0 ((xs.length : Int) - 1) hx (by omega) (by omega) (by omega) (by omega)

theorem sortItems_short (xs : List Val) (h : xs.length < 2) : sortItems xs = (xs, .ok ()) := by
  unfold sortItems sortPart
  have : ¬ ((0 : Int) < (xs.length : Int) - 1) := by omega
  rw [if_neg this]

end Cello.Fail
