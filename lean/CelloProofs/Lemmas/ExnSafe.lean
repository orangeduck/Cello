/-
  What holds of the machine `runWith dec` of Cello/Exn.lean on EVERY program (no object domain, no hypothesis on the
  filters), for any filter walk `dec`, through the step equations of CelloProofs/Lemmas/ExnSteps.lean: safety (`Safe`,
  for a walk that ends) together with independence of the capacity within it, and abort of a tower of blocks beyond it.
-/
import Cello.Exn
import CelloProofs.Lemmas.ExnSteps

namespace Cello.Exn

/-- How a construct may end from `s` when nothing is assumed about the program: `normal` (depth restored, nothing
    pending), a jump to exactly the innermost enclosing live buffer (depth restored), `fatal` only at depth 0, `abort`
    (buffer overflow) — never a `longjmp` into a block that has been left, never a buffer underflow, and never a
    filter walk that does not end. -/
def Safe (s : St) (r : St × List Ev × Sig) : Prop :=
  match r.2.2 with
  | .normal => r.1.depth = s.depth ∧ r.1.active = false
  | .jump t => 1 ≤ s.depth ∧ t = s.depth - 1 ∧ r.1.depth = s.depth
  | .fatal => s.depth = 0
  | .abort => True
  | .hang => False
  | .ub => False

theorem Safe.congr {s s1 : St} {r r' : St × List Ev × Sig} (h : Safe s1 r) (hd : s1.depth = s.depth)
    (h1 : r'.1 = r.1) (h2 : r'.2.2 = r.2.2) : Safe s r' := by
  unfold Safe at *; rw [h1, h2, ← hd]; exact h

theorem Safe.escape {s s' : St} (t : List Ev) (hd : s'.depth = s.depth) :
    Safe s (if s.depth ≥ 1 then (s', t, .jump (s.depth - 1)) else (s', t, .fatal)) := by
  split
  · exact ⟨‹_›, rfl, hd⟩
  · exact Nat.eq_zero_of_not_pos ‹_›

theorem catchPhase_safe {dec : List Nat → Nat → Walk} {runH : Nat → St → St × List Ev × Sig} {f : List Nat} {s s3 : St}
    (t : List Ev) (hdec : ∀ obj, dec f obj ≠ .hang) (hd : s3.depth = s.depth + 1)
    (hH : ∀ y s', s'.active = false → Safe s' (runH y s')) :
    Safe s (catchPhase dec true runH f s3 t) := by
  have hH' := hH s3.obj { depth := s.depth, active := false, obj := s3.obj } rfl
  -- `exception_try_end` brings the depth back to `s.depth`: every arm below is the handler's run from there (`hH'`) or an
  -- escape from there
  simp only [catchPhase, hd, Nat.add_one_ne_zero, if_false, Nat.add_sub_cancel]
  cases s3.active with
  | false => exact ⟨rfl, rfl⟩
  | true =>
    simp only [Bool.not_true, Bool.false_eq_true, if_false, if_true]
    cases hdc : dec f s3.obj with
    | matched =>
      simp only
      split
      · exact ⟨rfl, rfl⟩
      · exact hH'.congr rfl rfl rfl
    | hang => exact absurd hdc (hdec _)
    | exhausted | nullCmp | cmpRaises => exact Safe.escape t rfl

theorem catchPhase_congr_runner {dec : List Nat → Nat → Walk} {R1 R2 : Nat → St → St × List Ev × Sig} {f : List Nat}
    {s3 : St} (t : List Ev) {d : Nat} (hd : s3.depth = d + 1)
    (h : ∀ (y : Nat) (s : St), s.active = false → s.depth = d → R1 y s = R2 y s ∧ (R1 y s).2.2 ≠ .abort) :
    catchPhase dec true R1 f s3 t = catchPhase dec true R2 f s3 t ∧ (catchPhase dec true R1 f s3 t).2.2 ≠ .abort := by
  obtain ⟨key, hna⟩ := h s3.obj { depth := d, active := false, obj := s3.obj } rfl rfl
  cases hact : s3.active with
  | false => simp [catchPhase, hd, hact]
  | true =>
    simp only [catchPhase, hd, hact, Nat.add_one_ne_zero, if_false, Nat.add_sub_cancel, Bool.not_true, Bool.false_eq_true,
      if_true]
    -- only the `matched` arm calls the runner, and only at the state `key` and `hna` speak of
    refine ⟨by rw [key], ?_⟩
    cases dec f s3.obj with
    | matched =>
      simp only
      split
      · exact Sig.noConfusion
      · exact hna
    | hang => exact Sig.noConfusion
    | exhausted | nullCmp | cmpRaises => simp only; split <;> exact Sig.noConfusion

/-- Safety, and within the nesting budget no abort and no dependence on the capacity, in one induction: both go by how
    the first part of a construct ends, and the second needs the first there — where the first part leaves the depth is
    where the hypothesis for the second part applies. -/
theorem runWith_safe_and_capacity (dec : List Nat → Nat → Walk) (hdec : ∀ f obj, dec f obj ≠ .hang) (m1 m2 : Nat)
    (p : Prog) :
    ∀ (x : Nat) (s : St), s.active = false →
      Safe s (runWith dec true m1 p x s) ∧
      (s.depth + nest p ≤ m1 → s.depth + nest p ≤ m2 →
        runWith dec true m1 p x s = runWith dec true m2 p x s ∧ (runWith dec true m1 p x s).2.2 ≠ .abort) := by
  induction p with
  | stmt t => intro x s h; exact ⟨⟨rfl, h⟩, fun _ _ => ⟨rfl, Sig.noConfusion⟩⟩
  | throw | throwBad | rethrow =>
    intro x s h
    exact ⟨Safe.escape [] rfl, fun _ _ => ⟨rfl, by rw [runWith, throwObj_eq]; exact escape_ne_abort _⟩⟩
  | call p ih => exact ih
  | seq p q ihp ihq =>
    intro x s h
    obtain ⟨hp, hpc⟩ := ihp x s h
    rcases hr : runWith dec true m1 p x s with ⟨s1, t1, g1⟩
    rw [hr] at hp hpc
    by_cases hg : g1 = .normal
    · subst hg
      obtain ⟨hq, hqc⟩ := ihq x s1 hp.2
      rw [runWith_seq_normal hr]
      refine ⟨hq.congr hp.1 rfl rfl, fun h1 h2 => ?_⟩
      obtain ⟨e1, -⟩ := hpc (fits_seq h1).1 (fits_seq h2).1
      obtain ⟨e2, na⟩ := hqc (hp.1 ▸ (fits_seq h1).2) (hp.1 ▸ (fits_seq h2).2)
      rw [runWith_seq_normal e1.symm, e2]
      exact ⟨rfl, e2 ▸ na⟩
    · rw [runWith_seq_stop hr hg]
      refine ⟨hp, fun h1 h2 => ?_⟩
      obtain ⟨e1, na⟩ := hpc (fits_seq h1).1 (fits_seq h2).1
      rw [runWith_seq_stop e1.symm hg]
      exact ⟨rfl, na⟩
  | tryCatch b f h ihb ihh =>
    intro x s _
    by_cases hlt : s.depth = m1
    · rw [runWith_try_full hlt]
      exact ⟨trivial, fun h1 _ => absurd hlt (fits_try h1).1⟩
    · obtain ⟨hb, hbc⟩ := ihb x { s with depth := s.depth + 1, active := false } rfl
      have hH := fun y s' ha => (ihh y s' ha).1
      rcases hr : runWith dec true m1 b x { s with depth := s.depth + 1, active := false } with ⟨s2, t, g⟩
      rw [hr] at hb hbc
      -- `hb` leaves the body three ways to end: normally, by a jump to this block's buffer, or `abort`
      cases g with
      | normal =>
        rw [runWith_try_normal hlt hr]
        refine ⟨catchPhase_safe t (hdec f) hb.1 hH, fun h1 h2 => ?_⟩
        obtain ⟨-, hb1, hh1⟩ := fits_try h1
        obtain ⟨hlt2, hb2, hh2⟩ := fits_try h2
        rw [runWith_try_normal hlt2 (hbc hb1 hb2).1.symm]
        exact catchPhase_congr_runner t hb.1 fun y s' ha hd => (ihh y s' ha).2 (hd ▸ hh1) (hd ▸ hh2)
      | jump tgt =>
        obtain ⟨_, rfl, hd2⟩ := hb
        rw [runWith_try_landed hlt hr]
        refine ⟨catchPhase_safe t (hdec f) hd2 hH, fun h1 h2 => ?_⟩
        obtain ⟨-, hb1, hh1⟩ := fits_try h1
        obtain ⟨hlt2, hb2, hh2⟩ := fits_try h2
        rw [runWith_try_landed hlt2 (hbc hb1 hb2).1.symm]
        exact catchPhase_congr_runner t hd2 fun y s' ha hd => (ihh y s' ha).2 (hd ▸ hh1) (hd ▸ hh2)
      | abort =>
        rw [runWith_try_abort hlt hr]
        exact ⟨trivial, fun h1 h2 => absurd rfl (hbc (fits_try h1).2.1 (fits_try h2).2.1).2⟩
      | fatal => exact absurd hb (Nat.succ_ne_zero _)
      | hang => exact hb.elim
      | ub => exact hb.elim

theorem runWith_safe (dec : List Nat → Nat → Walk) (hdec : ∀ f obj, dec f obj ≠ .hang) (maxDepth : Nat) (p : Prog) :
    ∀ (x : Nat) (s : St), s.active = false → Safe s (runWith dec true maxDepth p x s) :=
  fun x s h => (runWith_safe_and_capacity dec hdec maxDepth maxDepth p x s h).1

theorem runWith_within_capacity (dec : List Nat → Nat → Walk) (hdec : ∀ f obj, dec f obj ≠ .hang) (m1 m2 : Nat)
    (p : Prog) :
    ∀ (x : Nat) (s : St), s.active = false → s.depth + nest p ≤ m1 → s.depth + nest p ≤ m2 →
      runWith dec true m1 p x s = runWith dec true m2 p x s ∧ (runWith dec true m1 p x s).2.2 ≠ .abort :=
  fun x s h => (runWith_safe_and_capacity dec hdec m1 m2 p x s h).2

theorem runWith_tower_aborts (dec : List Nat → Nat → Walk) (c : Bool) (maxDepth : Nat) (p : Prog) (x : Nat) :
    ∀ (n : Nat) (s : St), s.depth ≤ maxDepth → maxDepth < s.depth + n →
      (runWith dec c maxDepth (tower n p) x s).2 = ([], .abort) := by
  intro n
  induction n with
  | zero => intro s h1 h2; omega
  | succ n ih =>
    intro s h1 h2
    rw [tower]
    by_cases hlt : s.depth = maxDepth
    · rw [runWith_try_full hlt]
    · have := ih { s with depth := s.depth + 1, active := false } (Nat.succ_le_of_lt (Nat.lt_of_le_of_ne h1 hlt))
        (by simp only; omega)
      rcases hr : runWith dec c maxDepth (tower n p) x { s with depth := s.depth + 1, active := false } with ⟨s2, t, g⟩
      rw [hr] at this
      cases this
      rw [runWith_try_abort hlt hr]

end Cello.Exn
