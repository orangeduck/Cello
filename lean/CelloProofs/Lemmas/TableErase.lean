/-
  CelloProofs/Lemmas/TableErase.lean — `Table_Rem`: the model's `shiftBack` is the core's `RH.shiftLoop` (`shiftBack_eq`), so
  `RH.eraseAt_spec` (Lemmas/RHErase.lean) gives the refinement of `rem`.
-/
import CelloProofs.Lemmas.TableOps
import CelloProofs.Lemmas.RHErase
namespace Cello.Table
open RH
variable {κ ν : Type} [DecidableEq κ]

omit [DecidableEq κ] in
theorem shiftBack_eq {n : Nat} : ∀ (fuel : Nat) (s : Slots κ ν n) (i : Nat) (hi : i < n),
    shiftBack fuel s i hi = RH.shiftLoop fuel s i hi := by
  intro fuel
  induction fuel with
  | zero => intro s i hi; rfl
  | succ fuel ih =>
    intro s i hi
    simp only [shiftBack, RH.shiftLoop, ih]
    split <;> rename_i h <;> simp only [h]

/-- `Table_Rem` on a table that represents `m`: an absent key raises KeyError and leaves the table as it is; a stored key is
    removed (zeroing, backward shift, then the shrinking `Table_Resize_Less`: `resizeLess_rep`) and the result represents
    `Spec.rem m k` -/
theorem rem_rep (cfg : Cfg) (g : GoodCfg cfg) (hash : κ → Nat) (t : Tab κ ν) (m : Spec κ ν) (r : Rep hash t m) (k : κ) :
    ∃ t', rem cfg hash t k = .ok (t', match Spec.get m k with | none => .raised .KeyError | some _ => .done) ∧
      Rep hash t' (match Spec.get m k with | none => m | some _ => Spec.rem m k) := by
  rcases find_rep hash t m r k with ⟨h1, h2⟩ | ⟨v, p, hp, x, h1, h2, h3, h4, h5⟩
  · exact ⟨t, by simp only [rem, h2, h1], by simp only [h1]; exact r⟩
  · have room := r.room.resolve_right (Nat.ne_of_gt (Nat.zero_lt_of_lt hp))
    obtain ⟨z, hz, hze⟩ := r.toWF.exists_empty room
    obtain ⟨s', e1, inv', -, hmem, hcnt, -⟩ := eraseAt_spec hash t.slots r.inv0 p hp x h3 z hz hze
    rw [eraseAt, ← shiftBack_eq] at e1
    have hc := r.cnt
    rw [count_eq] at hc
    have r1 : Rep hash ⟨t.n, s', t.nitems - 1⟩ (Spec.rem m k) := by
      refine ⟨Rep0.of_has ⟨inv', by simp only [count_eq]; omega⟩ (nodup_spec_rem m r.nodup k) fun k' v' => ?_, Or.inl (by simp only; omega)⟩
      rw [mem_spec_rem, ← r.has, ← h4, ← has_mem_ne_iff r.inv0 ⟨p, hp, h3⟩]
      simp only [Has, mem_iff, hmem]
    obtain ⟨t', e2, r2⟩ := resizeLess_rep cfg g hash _ _ r1
    refine ⟨t', ?_, by simp only [h1]; exact r2⟩
    simp only [rem, h2, h1]
    simp only [e1, e2]

end Cello.Table
