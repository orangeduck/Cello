/-
  C14 helper lemmas: `dispatch` and the reference run `refRun` as `andThen`-sequences of `format_to` calls, early exits and the
  arguments' own `show`, so that every class of sink actions closed under sequencing (`SeqClosed`) contains them (`refRun_in`).
  An argument only matters through the dispatch kinds of the specification that fetches it (`UseOk`, `KindOk`).
-/
import Cello.Fmt

namespace Cello.Fmt

variable (cfg : Cfg) (prim : Prim) (shw : Obj → Out → Out × Outcome)

theorem andThen_ok (f : Out → Out × Outcome) : andThen f (fun o => (o, .ok)) = f := by
  funext o
  unfold andThen
  rcases f o with ⟨o', oc⟩
  cases oc <;> rfl

theorem andThen_assoc (f g h : Out → Out × Outcome) : andThen (andThen f g) h = andThen f (andThen g h) := by
  funext o
  unfold andThen
  rcases f o with ⟨o', oc⟩
  cases oc <;> rfl

theorem dispatch_cons (m : Matcher) (k : Kind) (r : List (Matcher × Kind)) (c : Char) (buf : Str) (a : Obj) :
    dispatch prim shw ((m, k) :: r) c buf a =
      if m.hit c then andThen (action prim shw k buf a) (dispatch prim shw r c buf a) else dispatch prim shw r c buf a := by
  funext o
  by_cases h : m.hit c = true <;> simp only [dispatch, h, if_true, Bool.false_eq_true, if_false, andThen]

variable (args : List Obj)

theorem refRun_nil (k : Nat) : refRun cfg prim shw args [] k = fun o => (o, .ok) := rfl

theorem refRun_lit (s : Str) (r : List Seg) (k : Nat) :
    refRun cfg prim shw args (.lit s :: r) k = andThen (fun o => o.call prim s .none) (refRun cfg prim shw args r k) := by
  funext o; simp only [refRun, andThen]

theorem refRun_pct (r : List Seg) (k : Nat) :
    refRun cfg prim shw args (.pct :: r) k = andThen (fun o => o.call prim ['%', '%'] .none) (refRun cfg prim shw args r k) := by
  funext o; simp only [refRun, andThen]

theorem refRun_spec (b : Str) (c : Char) (r : List Seg) (k : Nat) :
    refRun cfg prim shw args (.spec b c :: r) k =
      match args[k]? with
      | none => fun o => (o, .raised .FormatError)
      | some a => andThen (dispatch prim shw cfg.disp c ('%' :: (b ++ [c])) a) (refRun cfg prim shw args r (k + 1)) := by
  funext o
  cases h : args[k]? <;> simp only [refRun, h, andThen]

theorem refRun_append (rest : List Seg) : ∀ (pre : List Seg) (k : Nat),
    refRun cfg prim shw args (pre ++ rest) k =
      andThen (refRun cfg prim shw args pre k) (refRun cfg prim shw args rest (k + nspecs pre))
  | [], k => rfl
  | .lit s :: r, k => by rw [List.cons_append, refRun_lit, refRun_lit, refRun_append rest r k, andThen_assoc]; rfl
  | .pct :: r, k => by rw [List.cons_append, refRun_pct, refRun_pct, refRun_append rest r k, andThen_assoc]; rfl
  | .spec b c :: r, k => by
    rw [List.cons_append, refRun_spec, refRun_spec, refRun_append rest r (k + 1), Nat.add_right_comm k 1, Nat.add_assoc k]
    cases args[k]? with
    | none => rfl
    | some a => exact (andThen_assoc ..).symm

/-- a property of sink actions that holds of every `format_to` call and of stopping with an outcome other than `oob`, and that
    sequencing keeps -/
structure SeqClosed (P : (Out → Out × Outcome) → Prop) : Prop where
  call : ∀ frag v, P fun o => o.call prim frag v
  stop : ∀ oc, oc ≠ .oob → P fun o => (o, oc)
  seq : ∀ {f g}, P f → P g → P (andThen f g)

/-- what the dispatch `if` of kind `k` needs of its argument for its action to be in `P`: `show_to` of it is in `P`; `c_str` is
    not fetched from the destination itself (undefined behaviour, see `action`); every other kind (`c_int`, `c_float`, the
    pointer) is harmless whatever the object is — also when it is the destination -/
def KindOk (P : (Out → Out × Outcome) → Prop) (k : Kind) (a : Obj) : Prop :=
  match k with
  | .show => P (shw a)
  | .cstr => a.isSink = false
  | _ => True

/-- every specification's argument (the k-th specification fetches the k-th argument) satisfies `P kind` for the kind of every dispatch `if`
    that fires (here `P` relates a kind and an object: `KindOk shw _`, or in `C14_position` `KindPure`, which is `KindOk shw (Pure prim)`) -/
def UseOk (P : Kind → Obj → Prop) (args : List Obj) : List Seg → Nat → Prop
  | [], _ => True
  | .spec _ c :: r, k => (∀ a, args[k]? = some a → ∀ mk ∈ cfg.disp, mk.1.hit c = true → P mk.2 a) ∧ UseOk P args r (k + 1)
  | .lit _ :: r, k => UseOk P args r k
  | .pct :: r, k => UseOk P args r k

/-- the sufficient condition that does not look at the format: such an argument is `KindOk` for every kind (`ArgOk.kind`) -/
def ArgOk (P : (Out → Out × Outcome) → Prop) (a : Obj) : Prop := a.isSink = false ∧ P (shw a)

variable {shw} {P : (Out → Out × Outcome) → Prop}

theorem ArgOk.kind {a : Obj} (h : ArgOk shw P a) (k : Kind) : KindOk shw P k a := by
  cases k <;> first | exact h.2 | exact h.1 | trivial

theorem useOk_of_args {args : List Obj} (h : ∀ a ∈ args, ArgOk shw P a) :
    ∀ (segs : List Seg) (k : Nat), UseOk cfg (KindOk shw P) args segs k
  | [], _ => trivial
  | .lit _ :: r, k => useOk_of_args h r k
  | .pct :: r, k => useOk_of_args h r k
  | .spec _ _ :: r, k => ⟨fun a ha mk _ _ => (h a (List.mem_of_getElem? ha)).kind mk.2, useOk_of_args h r (k + 1)⟩

variable {prim} (C : SeqClosed prim P)
include C

theorem action_in (k : Kind) (buf : Str) (a : Obj) (ha : KindOk shw P k a) : P (action prim shw k buf a) := by
  cases k with
  | «show» => exact ha
  | cstr =>
    have e : action prim shw .cstr buf a = fun o =>
        match cStr a with
        | .ok s => o.call prim buf (.cstr s)
        | .error e => (o, .raised e) := by
      funext o
      cases a <;> first | rfl | exact absurd (show Obj.isSink .sink = false from ha) (by decide)
    rw [e]
    cases cStr a with
    | ok s => exact C.call buf _
    | error e => exact C.stop _ nofun
  | cint =>
    unfold action; dsimp only
    cases cInt a with
    | ok v => exact C.call buf _
    | error e => exact C.stop _ nofun
  | cfloat =>
    unfold action; dsimp only
    cases cFloat a with
    | ok v => exact C.call buf _
    | error e => exact C.stop _ nofun
  | obj => exact C.call buf _

theorem dispatch_in (c : Char) (buf : Str) (a : Obj) :
    ∀ d : List (Matcher × Kind), (∀ mk ∈ d, mk.1.hit c = true → KindOk shw P mk.2 a) → P (dispatch prim shw d c buf a)
  | [], _ => C.stop .ok nofun
  | (m, k) :: r, h => by
    have ih := dispatch_in c buf a r fun mk hmk => h mk (List.mem_cons_of_mem _ hmk)
    rw [dispatch_cons]
    split
    · exact C.seq (action_in C k buf a (h (m, k) List.mem_cons_self ‹_›)) ih
    · exact ih

theorem refRun_in (args : List Obj) :
    ∀ (segs : List Seg) (k : Nat), UseOk cfg (KindOk shw P) args segs k → P (refRun cfg prim shw args segs k)
  | [], _, _ => C.stop .ok nofun
  | .lit s :: r, k, h => by rw [refRun_lit]; exact C.seq (C.call s _) (refRun_in args r k h)
  | .pct :: r, k, h => by rw [refRun_pct]; exact C.seq (C.call _ _) (refRun_in args r k h)
  | .spec b c :: r, k, h => by
    rw [refRun_spec]
    cases hk : args[k]? with
    | none => exact C.stop _ nofun
    | some a => exact C.seq (dispatch_in C c _ a cfg.disp (h.1 a hk)) (refRun_in args r (k + 1) h.2)

end Cello.Fmt
