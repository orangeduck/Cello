/-
  C09, Float, the bit layout.  A binary64 bit pattern is a sign bit and a 63-bit magnitude field (`low63`); `fkey` reads the
  pair as a signed integer, `fval` decodes the field by the IEEE formula, which is strictly monotone in the field: the order of
  the values is the order of the keys.  Core Lean only: the lemmas of engine C10 about its own `floatKey` / `floatVal`
  (Lemmas/HashVal.lean, HashFloat.lean) are these, carried over.
-/
import Cello.Cmp

namespace Cello.Cmp

/-- the magnitude field: exponent and mantissa side by side -/
def low63 (b : UInt64) : Nat := (b &&& 0x7fffffffffffffff).toNat

theorem low63_eq (b : UInt64) : low63 b = b.toNat % 2 ^ 63 := by
  unfold low63; rw [UInt64.toNat_and]
  exact Nat.and_two_pow_sub_one_eq_mod b.toNat 63

theorem signBit_iff (b : UInt64) : b ≥ 0x8000000000000000 ↔ 2 ^ 63 ≤ b.toNat := by
  show (0x8000000000000000 : UInt64) ≤ b ↔ _
  rw [UInt64.le_iff_toNat_le]; rfl

/-- every later fact about `toNat` goes through this one, so that the arithmetic is about the small terms `low63 b`,
    never about `b.toNat % 2^63` (dear for `omega`) -/
theorem toNat_eq_sign_low63 (b : UInt64) :
    low63 b < 2 ^ 63 ∧
    b.toNat = (if b ≥ 0x8000000000000000 then 2 ^ 63 else 0) + low63 b := by
  have := b.toNat_lt
  rw [low63_eq]; split
  · have := (signBit_iff b).1 ‹_›; omega
  · have := mt (signBit_iff b).2 ‹_›; omega

theorem sign_low63_of_toNat {b : UInt64} {n : Nat} (hn : n < 2 ^ 63) :
    (b.toNat = n → ¬ b ≥ 0x8000000000000000 ∧ low63 b = n) ∧
    (b.toNat = 2 ^ 63 + n → b ≥ 0x8000000000000000 ∧ low63 b = n) := by
  obtain ⟨hl, e⟩ := toNat_eq_sign_low63 b
  by_cases s : b ≥ 0x8000000000000000
  · rw [if_pos s] at e; exact ⟨fun h => by omega, fun h => ⟨s, by omega⟩⟩
  · rw [if_neg s] at e; exact ⟨fun h => ⟨s, by omega⟩, fun h => by omega⟩

theorem fkey_eq_low63 (b : UInt64) :
    fkey b = if b ≥ 0x8000000000000000 then -(low63 b : Int) else (low63 b : Int) := rfl

theorem fkey_zero : fkey 0 = 0 := by decide

theorem fkey_inj {a b : UInt64} (h : fkey a = fkey b) (hz : fkey a ≠ 0) : a = b := by
  obtain ⟨_, ea⟩ := toNat_eq_sign_low63 a
  obtain ⟨_, eb⟩ := toNat_eq_sign_low63 b
  rw [fkey_eq_low63 a] at h hz; rw [fkey_eq_low63 b] at h
  apply UInt64.toNat_inj.mp
  by_cases sa : a ≥ 0x8000000000000000 <;> by_cases sb : b ≥ 0x8000000000000000 <;>
    simp only [sa, sb, if_true, if_false] at h hz ea eb <;> omega

theorem fkey_eq_iff_bits (a b : UInt64) : fkey a = fkey b ↔ (a = b ∨ (fkey a = 0 ∧ fkey b = 0)) := by
  constructor
  · intro h
    by_cases hz : fkey a = 0
    · exact Or.inr ⟨hz, h ▸ hz⟩
    · exact Or.inl (fkey_inj h hz)
  · rintro (rfl | ⟨h1, h2⟩)
    · rfl
    · rw [h1, h2]

/-- … with the two zeros (`0.0`, `-0.0`) identified the way `norm` does it -/
theorem fkey_eq_iff (a b : UInt64) :
    fkey a = fkey b ↔ (if fkey a = 0 then (0 : UInt64) else a) = (if fkey b = 0 then 0 else b) := by
  by_cases hz : fkey a = 0 <;> by_cases hz' : fkey b = 0
  · rw [if_pos hz, if_pos hz']; exact ⟨fun _ => rfl, fun _ => hz.trans hz'.symm⟩
  · rw [if_pos hz, if_neg hz']
    exact ⟨fun h => absurd (h ▸ hz) hz', fun h => absurd (by rw [← h]; exact fkey_zero) hz'⟩
  · rw [if_neg hz, if_pos hz']
    exact ⟨fun h => absurd (h.trans hz') hz, fun h => absurd (by rw [h]; exact fkey_zero) hz⟩
  · rw [if_neg hz, if_neg hz']; exact ⟨fun h => fkey_inj h hz, fun h => h ▸ rfl⟩

theorem fkey_neg_flip (b : UInt64) : fkey (b + 0x8000000000000000) = - fkey b := by
  obtain ⟨hl, e⟩ := toNat_eq_sign_low63 b
  have hadd : (b + 0x8000000000000000).toNat = (b.toNat + 2 ^ 63) % 2 ^ 64 := by
    rw [UInt64.toNat_add]; rfl
  rw [fkey_eq_low63 b]
  -- adding 2^63 (mod 2^64) clears a set top bit and sets a clear one; the field stays
  split at e
  · obtain ⟨s, l⟩ := (sign_low63_of_toNat hl).1 (by omega : (b + 0x8000000000000000).toNat = low63 b)
    rw [fkey_eq_low63, if_neg s, l, if_pos ‹_›]; omega
  · obtain ⟨s, l⟩ := (sign_low63_of_toNat hl).2 (by omega : (b + 0x8000000000000000).toNat = _ + low63 b)
    rw [fkey_eq_low63, if_pos s, l, if_neg ‹_›]

-- 9218868437227405312 = 0x7ff0000000000000, the field of the infinities
theorem fIsNaN_iff (b : UInt64) : fIsNaN b = false ↔ low63 b ≤ 9218868437227405312 := by
  unfold fIsNaN; rw [decide_eq_false_iff_not]
  show ¬ ((0x7ff0000000000000 : UInt64) < (b &&& 0x7fffffffffffffff)) ↔ _
  rw [UInt64.lt_iff_toNat_lt, Nat.not_lt]; rfl

theorem fIsNaN_iff_fkey (b : UInt64) :
    fIsNaN b = false ↔ -9218868437227405312 ≤ fkey b ∧ fkey b ≤ 9218868437227405312 := by
  rw [fIsNaN_iff, fkey_eq_low63]; split <;> omega

theorem fIsInf_iff_fkey (b : UInt64) :
    fIsInf b = true ↔ fkey b = 9218868437227405312 ∨ fkey b = -9218868437227405312 := by
  have : fIsInf b = true ↔ low63 b = 9218868437227405312 := by
    unfold fIsInf; rw [beq_iff_eq, ← UInt64.toNat_inj]; rfl
  rw [this, fkey_eq_low63]; split <;> omega

theorem fNeg_iff_fkey {b : UInt64} (hz : fkey b ≠ 0) : fNeg b = true ↔ fkey b < 0 := by
  unfold fNeg; rw [decide_eq_true_eq]
  rw [fkey_eq_low63] at hz ⊢; split <;> simp only [*, true_iff, false_iff] <;> omega

theorem fMant_eq (b : UInt64) : fMant b = b.toNat % 2 ^ 52 := by
  unfold fMant
  rw [UInt64.toNat_and]
  exact Nat.and_two_pow_sub_one_eq_mod b.toNat 52

theorem fExp_eq (b : UInt64) : fExp b = b.toNat / 2 ^ 52 % 2048 := by
  unfold fExp
  rw [UInt64.toNat_and, UInt64.toNat_shiftRight]
  have h : (0x7ff : UInt64).toNat = 2 ^ 11 - 1 := by decide
  have h52 : (52 : UInt64).toNat % 64 = 52 := by decide
  rw [h, h52, Nat.and_two_pow_sub_one_eq_mod, Nat.shiftRight_eq_div_pow]

theorem low63_fields (b : UInt64) : low63 b = fExp b * 2 ^ 52 + fMant b ∧ fMant b < 2 ^ 52 := by
  rw [low63_eq, fExp_eq, fMant_eq]; omega

/-- exponent `e` holds the magnitudes in `[2^52 · 2^(e-1), 2^52 · 2^e)`: the binades are stacked -/
theorem fmagOf_lt_pow {e m : Nat} (hm : m < 2 ^ 52) : fmagOf e m < 2 ^ 52 * 2 ^ e := by
  unfold fmagOf; split
  · subst e; omega
  · have hpe : 2 ^ e = 2 * 2 ^ (e - 1) := by
      have : e = (e - 1) + 1 := by omega
      conv => lhs; rw [this, Nat.pow_succ]
      omega
    calc (4503599627370496 + m) * 2 ^ (e - 1)
        < 2 ^ 53 * 2 ^ (e - 1) := Nat.mul_lt_mul_of_pos_right (by omega) (Nat.two_pow_pos _)
      _ = 2 ^ 52 * 2 ^ e := by rw [hpe]; omega

theorem pow_le_fmagOf {e : Nat} (m : Nat) (he : e ≠ 0) : 2 ^ 52 * 2 ^ (e - 1) ≤ fmagOf e m := by
  unfold fmagOf; rw [if_neg he]; exact Nat.mul_le_mul_right _ (by omega)

theorem fmagOf_lt {e m e' m' : Nat} (hm : m < 2 ^ 52) (hm' : m' < 2 ^ 52)
    (h : e * 2 ^ 52 + m < e' * 2 ^ 52 + m') : fmagOf e m < fmagOf e' m' := by
  by_cases he : e = e'
  · subst he
    unfold fmagOf; split
    · omega
    · exact Nat.mul_lt_mul_of_pos_right (by omega) (Nat.two_pow_pos _)
  · have hlt : e < e' := by omega
    calc fmagOf e m < 2 ^ 52 * 2 ^ e := fmagOf_lt_pow hm
      _ ≤ 2 ^ 52 * 2 ^ (e' - 1) := Nat.mul_le_mul_left _ (Nat.pow_le_pow_right (by decide) (by omega))
      _ ≤ fmagOf e' m' := pow_le_fmagOf m' (by omega)

theorem fmag_lt_iff (a b : UInt64) : fmag a < fmag b ↔ low63 a < low63 b := by
  obtain ⟨ha, hma⟩ := low63_fields a
  obtain ⟨hb, hmb⟩ := low63_fields b
  have mono : ∀ {a b : UInt64}, low63 a < low63 b → fmag a < fmag b := fun {a b} h =>
    fmagOf_lt (low63_fields a).2 (low63_fields b).2 (by rw [← (low63_fields a).1, ← (low63_fields b).1]; exact h)
  refine ⟨fun h => ?_, mono⟩
  rcases Nat.lt_trichotomy (low63 a) (low63 b) with h1 | h1 | h1
  · exact h1
  · have e1 : fExp a = fExp b := by omega
    have e2 : fMant a = fMant b := by omega
    unfold fmag at h; rw [e1, e2] at h; omega
  · have := mono h1; omega

theorem fmag_eq_zero_iff (a : UInt64) : fmag a = 0 ↔ low63 a = 0 := by
  have h : fmag 0 = 0 ∧ low63 0 = 0 := by decide
  have := fmag_lt_iff 0 a
  omega

theorem fval_eq (b : UInt64) :
    fval b = if b ≥ 0x8000000000000000 then -((fmag b : Nat) : Int) else ((fmag b : Nat) : Int) := by
  unfold fval fNeg
  by_cases h : b ≥ 0x8000000000000000
  · rw [if_pos (decide_eq_true h), if_pos h]
  · rw [if_neg (by simpa using h), if_neg h]

/-- **the numeric order of the values is the sign-magnitude order of the bit patterns** (no hypothesis: the formula is
    monotone over all 2^64 patterns; for NaN patterns `fval` is a number without meaning) -/
theorem fval_lt_iff_fkey_lt (a b : UInt64) : fval a < fval b ↔ fkey a < fkey b := by
  rw [fval_eq a, fval_eq b, fkey_eq_low63 a, fkey_eq_low63 b]
  split <;> split
  · have := fmag_lt_iff b a; omega
  · have := fmag_eq_zero_iff a; have := fmag_eq_zero_iff b; omega
  · omega
  · have := fmag_lt_iff a b; omega

theorem fval_eq_iff_fkey_eq (a b : UInt64) : fval a = fval b ↔ fkey a = fkey b := by
  have h1 := fval_lt_iff_fkey_lt a b
  have h2 := fval_lt_iff_fkey_lt b a
  omega

theorem fval_zero : fval 0 = 0 := by decide

theorem fval_pos_iff (a : UInt64) : 0 < fval a ↔ 0 < fkey a := by
  have := fval_lt_iff_fkey_lt 0 a
  rw [fval_zero, fkey_zero] at this; exact this

theorem fval_neg_iff (a : UInt64) : fval a < 0 ↔ fkey a < 0 := by
  have := fval_lt_iff_fkey_lt a 0
  rw [fval_zero, fkey_zero] at this; exact this

theorem fval_eq_iff_bits (a b : UInt64) :
    fval a = fval b ↔ (a = b ∨ (fval a = 0 ∧ fval b = 0)) := by
  have za := fval_eq_iff_fkey_eq a 0
  have zb := fval_eq_iff_fkey_eq b 0
  rw [fval_zero, fkey_zero] at za zb
  rw [fval_eq_iff_fkey_eq, za, zb]
  exact fkey_eq_iff_bits a b

end Cello.Cmp
