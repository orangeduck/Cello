/- Range, for C11.  `rangeAt a b c j` is the element of index `j`; Range_Len counts the indices whose element passes the bound test
   of Range_Iter_Next (`rangeAt_in_iff`), so the four protocol functions are described at `rangeAt j` for both signs of the step at
   once.  The Range on int64_t (`rangeI64`) walks as the Range on ℤ as long as the walk stays inside int64_t. -/
import CelloProofs.Lemmas.IterRun

namespace Cello.Iter

theorem lt_rangeLen_iff_of_pos (a b c : Int) (hc : 0 < c) (j : Nat) : a + c * (j : Int) < b ↔ j < rangeLen a b c := by
  have hc0 : c ≠ 0 := by omega
  have hcj : 0 ≤ c * (j : Int) := Int.mul_nonneg (by omega) (by omega)
  unfold rangeLen
  simp only [hc0, if_false, hc, if_true]
  by_cases hba : b ≤ a
  · simp only [hba, if_true]; omega
  · simp only [hba, if_false]
    have hn : 0 ≤ b - 1 - a := by omega
    rw [Int.tdiv_eq_ediv_of_nonneg hn, Int.lt_toNat]
    have hq : 0 ≤ (b - 1 - a) / c := Int.ediv_nonneg hn (by omega)
    have key : (j : Int) ≤ (b - 1 - a) / c ↔ (j : Int) * c ≤ b - 1 - a := Int.le_ediv_iff_mul_le hc
    have hm : (j : Int) * c = c * (j : Int) := Int.mul_comm _ _
    omega

/-- Range_Len divides by `-step` for a negative step: the length is that of the mirrored range -/
theorem rangeLen_neg (a b c : Int) : rangeLen a b (-c) = rangeLen a b c := by
  rcases Int.lt_trichotomy c 0 with hc | hc | hc
  · simp only [rangeLen, show -c ≠ 0 by omega, show c ≠ 0 by omega, show -c > 0 by omega, show ¬ c > 0 by omega, if_true, if_false]
  · subst hc; rfl
  · simp only [rangeLen, show -c ≠ 0 by omega, show c ≠ 0 by omega, show ¬ -c > 0 by omega, hc, if_true, if_false, Int.neg_neg]

theorem lt_rangeLen_iff_of_neg (a b c : Int) (hc : c < 0) (j : Nat) : b - 1 + c * (j : Int) ≥ a ↔ j < rangeLen a b c := by
  rw [← rangeLen_neg, ← lt_rangeLen_iff_of_pos a b (-c) (by omega) j, Int.neg_mul]
  omega

theorem rangeLen_zero_step (a b : Int) : rangeLen a b 0 = 0 := by simp [rangeLen]

/-- a Range inside `[0, n]` has at most `n` elements: index `n` lies `n` steps of size `≥ 1` from the first element, outside
    `[start, stop)` -/
theorem rangeLen_le (n A B : Nat) (c : Int) (hB : B ≤ n) : rangeLen A B c ≤ n := by
  rcases Int.lt_trichotomy c 0 with hc | rfl | hc
  · have := lt_rangeLen_iff_of_neg A B c hc n
    have := Int.mul_le_mul_of_nonneg_right (show c ≤ -1 by omega) (Int.natCast_nonneg n)
    omega
  · rw [rangeLen_zero_step]; omega
  · have := lt_rangeLen_iff_of_pos A B c hc n
    have := Int.mul_le_mul_of_nonneg_right (show 1 ≤ c by omega) (Int.natCast_nonneg n)
    omega

theorem rangeLen_of_lt (a b c : Int) (hab : a < b) (hc : 0 < c) : (rangeLen a b c : Int) = (b - 1 - a) / c + 1 := by
  have hn : 0 ≤ b - 1 - a := by omega
  have hq : 0 ≤ (b - 1 - a) / c := Int.ediv_nonneg hn (by omega)
  unfold rangeLen
  rw [if_neg (by omega), if_neg (by omega), if_pos hc, Int.tdiv_eq_ediv_of_nonneg hn, Int.toNat_of_nonneg (by omega)]

theorem rangeLen_of_ge (a b c : Int) (hab : b ≤ a) : rangeLen a b c = 0 := by
  unfold rangeLen; split <;> rfl

theorem rangeLen_quot (a b c : Int) (hc : 0 < c) :
    (b - 1 - a < 0 ∧ rangeLen a b c = 0) ∨ (0 ≤ b - 1 - a ∧ (rangeLen a b c : Int) = (b - 1 - a) / c + 1 ∧ 0 ≤ (b - 1 - a) / c) := by
  by_cases h : a < b
  · exact Or.inr ⟨by omega, rangeLen_of_lt a b c h hc, Int.ediv_nonneg (by omega) (by omega)⟩
  · exact Or.inl ⟨by omega, rangeLen_of_ge a b c (by omega)⟩

theorem rangeLen_count (n : Nat) : rangeLen 0 n 1 = n := by
  unfold rangeLen
  by_cases h : (n : Int) ≤ 0
  · simp; omega
  · simp [Int.tdiv_one]; omega

theorem length_rangeList (a b c : Int) : (rangeList a b c).length = rangeLen a b c := by simp [rangeList]

theorem rangeList_eq_nil {a b c : Int} (h : rangeLen a b c = 0) : rangeList a b c = [] := by rw [rangeList, h]; rfl

theorem rangeList_count (n : Nat) : rangeList 0 n 1 = (List.range n).map (fun (j : Nat) => (j : Int)) := by
  simp [rangeList, rangeLen_count]

theorem map_range_reverse {α : Type} (f : Nat → α) (n : Nat) :
    ((List.range n).map f).reverse = (List.range n).map (fun k => f (n - 1 - k)) := by
  apply List.ext_getElem (by simp)
  intro i h1 h2
  simp only [List.length_reverse, List.length_map, List.length_range] at h1
  simp only [List.getElem_reverse, List.getElem_map, List.getElem_range, List.length_map, List.length_range]

theorem map_range_eq_iff {β : Type} (f g : Nat → β) (m m' : Nat) :
    (List.range m).map f = (List.range m').map g ↔ m = m' ∧ ∀ k, k < m → f k = g k := by
  constructor
  · intro h
    have hl : m = m' := by simpa using congrArg List.length h
    subst hl
    exact ⟨rfl, fun k hk => by simpa [hk] using congrArg (·[k]?) h⟩
  · rintro ⟨rfl, h⟩
    exact List.map_congr_left fun k hk => h k (List.mem_range.mp hk)

/-- the element of a Range at index `j`; the arithmetic of a walk goes on outside `0 ≤ j < rangeLen` -/
def rangeAt (a b c : Int) (j : Int) : Int := if c > 0 then a + c * j else b - 1 + c * j

theorem rangeList_eq (a b c : Int) :
    rangeList a b c = (List.range (rangeLen a b c)).map (fun j : Nat => rangeAt a b c j) := rfl

theorem rangeList_of_pos (a b c : Int) (hc : 0 < c) :
    rangeList a b c = (List.range (rangeLen a b c)).map (fun k : Nat => a + c * k) := by
  simp only [rangeList, hc, if_true]

theorem rangeList_of_neg (a b c : Int) (hc : c < 0) :
    rangeList a b c = (List.range (rangeLen a b c)).map (fun k : Nat => b - 1 + c * k) := by
  simp only [rangeList, if_neg (show ¬ c > 0 by omega)]

theorem rangeAt_add_one (a b c j : Int) : rangeAt a b c (j + 1) = rangeAt a b c j + c := by
  unfold rangeAt; rw [Int.mul_add, Int.mul_one]; omega

theorem rangeAt_sub_one (a b c j : Int) : rangeAt a b c (j - 1) = rangeAt a b c j - c := by
  unfold rangeAt; rw [Int.mul_sub, Int.mul_one]; omega

/-- an index `j ≥ 0` is below Range_Len iff its element passes the bound test of Range_Iter_Init / _Next -/
theorem rangeAt_in_iff (a b c : Int) (hc : c ≠ 0) (j : Nat) :
    j < rangeLen a b c ↔ ¬ (c > 0 ∧ rangeAt a b c j ≥ b) ∧ ¬ (c < 0 ∧ rangeAt a b c j < a) := by
  unfold rangeAt
  rcases Int.lt_trichotomy c 0 with h | h | h
  · have := lt_rangeLen_iff_of_neg a b c h j
    rw [if_neg (show ¬ c > 0 by omega)]; omega
  · exact absurd h hc
  · have := lt_rangeLen_iff_of_pos a b c h j
    rw [if_pos h]; omega

/-- an index is `≥ 0` iff its element passes the bound test of Range_Iter_Prev -/
theorem rangeAt_nonneg_iff (a b c : Int) (hc : c ≠ 0) (j : Int) :
    0 ≤ j ↔ ¬ (c > 0 ∧ rangeAt a b c j < a) ∧ ¬ (c < 0 ∧ rangeAt a b c j ≥ b) := by
  unfold rangeAt
  rcases Int.lt_or_gt_of_ne hc with h | h
  · have e : 0 ≤ j * -c ↔ 0 ≤ j := Int.mul_nonneg_iff_of_pos_right (by omega)
    rw [Int.mul_neg, Int.mul_comm] at e
    rw [if_neg (by omega)]; omega
  · have e : 0 ≤ j * c ↔ 0 ≤ j := Int.mul_nonneg_iff_of_pos_right h
    rw [Int.mul_comm] at e
    rw [if_pos h]; omega

theorem rangeAt_mem (a b c : Int) (j : Nat) (hj : j < rangeLen a b c) : a ≤ rangeAt a b c j ∧ rangeAt a b c j < b := by
  have hc : c ≠ 0 := by intro h; subst h; rw [rangeLen_zero_step] at hj; omega
  have h1 := (rangeAt_in_iff a b c hc j).mp hj
  have h2 := (rangeAt_nonneg_iff a b c hc j).mp (by omega)
  omega

theorem rangeList_mem (start stop step x : Int) :
    x ∈ rangeList start stop step ↔
      (step > 0 ∧ ∃ j : Nat, x = start + step * j ∧ x < stop) ∨
      (step < 0 ∧ ∃ j : Nat, x = stop - 1 + step * j ∧ x ≥ start) := by
  simp only [rangeList, List.mem_map, List.mem_range]
  rcases Int.lt_trichotomy step 0 with hc | hc | hc
  · have hnc : ¬ (step > 0) := by omega
    simp only [hnc, if_false, false_and, false_or, hc, true_and]
    constructor
    · rintro ⟨j, hj, rfl⟩; exact ⟨j, rfl, (lt_rangeLen_iff_of_neg start stop step hc j).mpr hj⟩
    · rintro ⟨j, rfl, hx⟩; exact ⟨j, (lt_rangeLen_iff_of_neg start stop step hc j).mp hx, rfl⟩
  · subst hc; simp [rangeLen]
  · have hnc : ¬ (step < 0) := by omega
    simp only [hc, if_true, true_and, hnc, false_and, or_false]
    constructor
    · rintro ⟨j, hj, rfl⟩; exact ⟨j, rfl, (lt_rangeLen_iff_of_pos start stop step hc j).mpr hj⟩
    · rintro ⟨j, rfl, hx⟩; exact ⟨j, (lt_rangeLen_iff_of_pos start stop step hc j).mp hx, rfl⟩

/-- the `if` cascade of Range_Iter_Init / _Next at the element of index `j` -/
theorem range_cascade (a b c : Int) (hc : c ≠ 0) (j : Nat) :
    (if c > 0 ∧ rangeAt a b c j ≥ b then (rangeAt a b c j, Res.term)
      else if c < 0 ∧ rangeAt a b c j < a then (rangeAt a b c j, .term) else (rangeAt a b c j, .item (rangeAt a b c j))) =
    (rangeAt a b c j, if j < rangeLen a b c then .item (rangeAt a b c j) else .term) := by
  have h := rangeAt_in_iff a b c hc j
  by_cases h1 : c > 0 ∧ rangeAt a b c j ≥ b
  · rw [if_pos h1, if_neg (fun hj => (h.mp hj).1 h1)]
  · by_cases h2 : c < 0 ∧ rangeAt a b c j < a
    · rw [if_neg h1, if_pos h2, if_neg (fun hj => (h.mp hj).2 h2)]
    · rw [if_neg h1, if_neg h2, if_pos (h.mpr ⟨h1, h2⟩)]

theorem range_init (a b c : Int) (hc : c ≠ 0) (s : Int) :
    (rangeI a b c).init s = (rangeAt a b c (0 : Nat), if 0 < rangeLen a b c then .item (rangeAt a b c (0 : Nat)) else .term) := by
  have e : (if c > 0 then a else b - 1) = rangeAt a b c (0 : Nat) := by
    unfold rangeAt; rw [Int.natCast_zero, Int.mul_zero]; omega
  simp only [rangeI, if_neg hc, e]
  exact range_cascade a b c hc 0

/-- Range_Iter_Next ignores its cursor argument and goes on from the Int cell: also beyond the end -/
theorem range_next_at (a b c : Int) (hc : c ≠ 0) (j : Nat) :
    (rangeI a b c).next (rangeAt a b c j) =
      (rangeAt a b c (j + 1 : Nat), if j + 1 < rangeLen a b c then .item (rangeAt a b c (j + 1 : Nat)) else .term) := by
  have e : rangeAt a b c j + c = rangeAt a b c (j + 1 : Nat) := by rw [Int.natCast_succ, rangeAt_add_one]
  simp only [rangeI, if_neg hc, e]
  exact range_cascade a b c hc (j + 1)

theorem range_last (a b c s : Int) :
    (rangeI a b c).last s = if rangeLen a b c = 0 then (s, .term)
      else (rangeAt a b c ((rangeLen a b c : Int) - 1), .item (rangeAt a b c ((rangeLen a b c : Int) - 1))) := rfl

/-- Range_Iter_Prev tests the lower end only; before the first element it answers Terminal for ever -/
theorem range_prev_at (a b c : Int) (hc : c ≠ 0) (j : Int) :
    (rangeI a b c).prev (rangeAt a b c j) =
      (rangeAt a b c (j - 1), if 0 ≤ j - 1 then .item (rangeAt a b c (j - 1)) else .term) := by
  have h := rangeAt_nonneg_iff a b c hc (j - 1)
  simp only [rangeI, if_neg hc, ← rangeAt_sub_one]
  by_cases h1 : c > 0 ∧ rangeAt a b c (j - 1) < a
  · rw [if_pos h1, if_neg (fun hj => (h.mp hj).1 h1)]
  · by_cases h2 : c < 0 ∧ rangeAt a b c (j - 1) ≥ b
    · rw [if_neg h1, if_pos h2, if_neg (fun hj => (h.mp hj).2 h2)]
    · rw [if_neg h1, if_neg h2, if_pos (h.mpr ⟨h1, h2⟩)]

theorem range_fwd_traces (a b c : Int) (hc : c ≠ 0) (s : Int) :
    Traces (rangeI a b c).next ((rangeI a b c).init s) (rangeList a b c) := by
  rw [range_init a b c hc, rangeList_eq]
  exact traces_indexed _ (fun k : Nat => rangeAt a b c k) (fun k : Nat => rangeAt a b c k) _ (range_next_at a b c hc)

/-- the backward walk from the last element: the `k`-th call is at index `len - 1 - k`, Terminal from index `-1` downwards -/
theorem range_bwd_traces (a b c : Int) (hc : c ≠ 0) (hn : rangeLen a b c ≠ 0) (s : Int) :
    Traces (rangeI a b c).prev ((rangeI a b c).last s) (rangeList a b c).reverse := by
  have h := traces_indexed (rangeI a b c).prev (fun k : Nat => rangeAt a b c ((rangeLen a b c : Int) - 1 - k))
    (fun k : Nat => rangeAt a b c ((rangeLen a b c - 1 - k : Nat) : Int)) (rangeLen a b c) (fun k => by
      rw [range_prev_at a b c hc, show (rangeLen a b c : Int) - 1 - k - 1 = (rangeLen a b c : Int) - 1 - (k + 1 : Nat) by omega]
      by_cases hk : k + 1 < rangeLen a b c
      · rw [if_pos hk, if_pos (by omega),
          show ((rangeLen a b c - 1 - (k + 1) : Nat) : Int) = (rangeLen a b c : Int) - 1 - (k + 1 : Nat) by omega]
        rfl
      · rw [if_neg hk, if_neg (by omega)]; rfl)
  rw [range_last, if_neg hn, rangeList_eq, map_range_reverse]
  rw [if_pos (by omega), show ((rangeLen a b c - 1 - 0 : Nat) : Int) = (rangeLen a b c : Int) - 1 by omega,
    Int.natCast_zero, Int.sub_zero] at h
  exact h

/-- the cursor argument is ignored and the arithmetic stays beyond the end -/
theorem range_abs (a b c : Int) :
    AbsFwdAs (rangeI a b c) (rangeList a b c) ∧ AbsBwdAs (rangeI a b c) (rangeList a b c) := by
  have hbwd0 : rangeLen a b c = 0 → AbsBwdAs (rangeI a b c) (rangeList a b c) := fun h => by
    rw [rangeList_eq_nil h]
    exact ⟨fun (s : Int) => Run.of_term (by rw [range_last, if_pos h]), fun h => absurd rfl h⟩
  by_cases hc : c = 0
  · subst hc
    refine ⟨?_, hbwd0 (rangeLen_zero_step a b)⟩
    rw [rangeList_eq_nil (rangeLen_zero_step a b)]
    exact ⟨fun s => Run.of_term rfl, fun h => absurd rfl h⟩
  · refine ⟨⟨fun s => (range_fwd_traces a b c hc s).run, fun _ s => range_fwd_traces a b c hc s⟩, ?_⟩
    by_cases hn : rangeLen a b c = 0
    · exact hbwd0 hn
    · exact ⟨fun s => (range_bwd_traces a b c hc hn s).run, fun _ s => range_bwd_traces a b c hc hn s⟩

theorem rangeGet_eq_getIdx (a b c k : Int) : rangeGet a b c k = getIdx (rangeList a b c) k := by
  rw [getIdx_eq_norm, length_rangeList]
  simp only [rangeGet]
  cases hn : normIdx (rangeLen a b c) k with
  | none =>
    have := normIdx_none hn
    rw [if_neg (by omega), if_neg (by omega)]; rfl
  | some j =>
    obtain ⟨e, hj⟩ := normIdx_some hn
    have hc : c ≠ 0 := by intro h0; subst h0; rw [rangeLen_zero_step] at hj; omega
    rw [e, Option.bind_some, rangeList_eq, List.getElem?_map, List.getElem?_range hj, Option.map_some]
    unfold rangeAt
    by_cases hp : c > 0
    · rw [if_pos ⟨hp, by omega, by omega⟩, if_pos hp]
    · rw [if_neg (fun x => hp x.1), if_pos ⟨by omega, by omega, by omega⟩, if_neg hp]

theorem range_getFull (a b c : Int) : GetFullAs (rangeI a b c) (rangeList a b c) :=
  fun _ hg k => Option.some.inj hg ▸ rangeGet_eq_getIdx a b c k

theorem range_lawfulAs (a b c : Int) : LawfulAs (rangeI a b c) (rangeList a b c) :=
  ⟨(range_abs a b c).1.1, (range_abs a b c).2.1,
    fun n hn => by rw [length_rangeList]; exact (Option.some.inj hn).symm, (range_getFull a b c).get⟩

theorem isI64_iff (x : Int) : isI64 x = true ↔ -(2 ^ 63 : Int) ≤ x ∧ x < (2 ^ 63 : Int) := by
  simp [isI64]

theorem range64_next_eq (a b c v : Int) (h : isI64 (v + c) = true) : (rangeI64 a b c).next v = (rangeI a b c).next v := by
  simp [rangeI64, rangeI, h]

theorem range64_prev_eq (a b c v : Int) (h : isI64 (v - c) = true) : (rangeI64 a b c).prev v = (rangeI a b c).prev v := by
  simp [rangeI64, rangeI, h]

/-- the item states of a walk over a Range: the cursor holds one of its elements -/
def RangeAtElem (a b c : Int) (r : Int × Res Int) : Prop :=
  ∀ x, r.2 = .item x → ∃ j : Nat, j < rangeLen a b c ∧ r.1 = rangeAt a b c j

theorem rangeAtElem_at (a b c : Int) (j : Nat) (p : Prop) [Decidable p] (hp : p → j < rangeLen a b c) :
    RangeAtElem a b c (rangeAt a b c j, if p then .item (rangeAt a b c j) else .term) := by
  intro x hx
  by_cases h : p
  · exact ⟨j, hp h, rfl⟩
  · simp only [if_neg h] at hx; cases hx

/-- under `RangeFitsFwd` every value the forward walk computes — the elements and the one beyond the last — is an int64_t:
    they lie between the first element and the value one step beyond the last, which the hypothesis bounds -/
theorem rangeAt_fits_fwd (a b c : Int) (hf : RangeFitsFwd a b c) (hc0 : c ≠ 0) (j : Nat) (hj : j ≤ rangeLen a b c) :
    isI64 (rangeAt a b c j) = true := by
  obtain ⟨ha, hb, -, hpos, hneg⟩ := hf
  rw [isI64_iff] at ha hb ⊢
  have hjn : (j : Int) ≤ (rangeLen a b c : Int) := by omega
  unfold rangeAt
  by_cases hc : c > 0
  · have h1 : 0 ≤ c * (j : Int) := Int.mul_nonneg (by omega) (by omega)
    have h2 : c * (j : Int) ≤ c * (rangeLen a b c : Int) := Int.mul_le_mul_of_nonneg_left hjn (by omega)
    have := hpos hc
    rw [if_pos hc]; omega
  · have h1 : c * (j : Int) ≤ 0 := Int.mul_nonpos_of_nonpos_of_nonneg (by omega) (by omega)
    have h2 : c * (rangeLen a b c : Int) ≤ c * (j : Int) := Int.mul_le_mul_of_nonpos_left (by omega) hjn
    obtain ⟨hb1, hlow⟩ := hneg (by omega)
    rw [isI64_iff] at hb1
    rw [if_neg hc]; omega

theorem range64_fwdAs (a b c : Int) (hf : RangeFitsFwd a b c) : FwdAs (rangeI64 a b c) (rangeList a b c) := by
  by_cases hc : c = 0
  · subst hc; intro s; rw [rangeList_eq_nil (rangeLen_zero_step a b)]; exact Run.of_term rfl
  intro (s : Int)
  have hinit : (rangeI64 a b c).init s = (rangeI a b c).init s := by
    have h1 : ¬ (c < 0 ∧ (!isI64 (b - 1)) = true) := fun h => by simp [(hf.2.2.2.2 h.1).1] at h
    simp only [rangeI64, rangeI, if_neg hc, if_neg h1]
  rw [hinit]
  refine Run.transfer (RangeAtElem a b c) ?_ _ _ ((range_lawfulAs a b c).fwd s) ?_
  · intro v x hp
    obtain ⟨j, hj, hv⟩ := hp x rfl
    simp only at hv; subst hv
    have hfit : isI64 (rangeAt a b c j + c) = true := by
      rw [← rangeAt_add_one, ← Int.natCast_succ]; exact rangeAt_fits_fwd a b c hf hc (j + 1) hj
    rw [range64_next_eq a b c _ hfit, range_next_at a b c hc]
    exact ⟨rfl, rangeAtElem_at a b c (j + 1) _ id⟩
  · rw [range_init a b c hc]; exact rangeAtElem_at a b c 0 _ id

theorem rangeLenOk_spec (a b c : Int) (h : rangeLenOk a b c = true) (hc : c ≠ 0) (hab : ¬ (b ≤ a)) :
    isI64 (b - 1) = true ∧ isI64 (b - 1 - a) = true := by
  simp only [rangeLenOk, hc, if_false, hab] at h
  split at h <;> simp only [Bool.and_eq_true] at h
  · exact ⟨h.1, h.2⟩
  · exact ⟨h.1.1, h.1.2⟩

/-- under `RangeFitsBwd` every value Range_Iter_Prev computes is an int64_t: the elements lie in `[start, stop)`, the value
    before the first one is bounded by the hypothesis -/
theorem rangeAt_fits_bwd (a b c : Int) (hf : RangeFitsBwd a b c) (j : Nat) (hj : j < rangeLen a b c) :
    isI64 (rangeAt a b c j - c) = true := by
  obtain ⟨ha, hb, -, -, hpos, hneg⟩ := hf
  rw [isI64_iff] at ha hb ⊢
  cases j with
  | zero =>
    have hc0 : c ≠ 0 := by intro h; subst h; rw [rangeLen_zero_step] at hj; omega
    unfold rangeAt
    rw [Int.natCast_zero, Int.mul_zero]
    by_cases hc : c > 0
    · have := hpos hc hj
      rw [if_pos hc]; omega
    · have := hneg (by omega) hj
      rw [if_neg hc]; omega
  | succ i =>
    have := rangeAt_mem a b c i (by omega)
    rw [Int.natCast_succ, rangeAt_add_one]; omega

/-- Range_Iter_Last: the product `step * (len-1)` is the distance between two elements, bounded by `rangeLenOk` -/
theorem range64_last_eq (a b c : Int) (hf : RangeFitsBwd a b c) (s : Int) :
    (rangeI64 a b c).last s = (rangeI a b c).last s := by
  obtain ⟨ha, hb, -, hok, -, -⟩ := hf
  by_cases hn : rangeLen a b c = 0
  · simp [rangeI64, rangeI, hok, hn]
  · have hc0 : c ≠ 0 := by intro h; subst h; exact hn (rangeLen_zero_step a b)
    have hab : ¬ (b ≤ a) := fun h => hn (rangeLen_of_ge a b c h)
    obtain ⟨hb1, hw⟩ := rangeLenOk_spec a b c hok hc0 hab
    have h0 := rangeAt_mem a b c 0 (by omega)
    have hm := rangeAt_mem a b c (rangeLen a b c - 1) (by omega)
    have e : ((rangeLen a b c - 1 : Nat) : Int) = (rangeLen a b c : Int) - 1 := by omega
    rw [isI64_iff] at ha hb hb1 hw
    unfold rangeAt at h0 hm
    rw [Int.natCast_zero, Int.mul_zero] at h0
    rw [e] at hm
    have f1 : isI64 (c * ((rangeLen a b c : Int) - 1)) = true := by rw [isI64_iff]; omega
    have f2 : isI64 (if c > 0 then a + c * ((rangeLen a b c : Int) - 1) else b - 1 + c * ((rangeLen a b c : Int) - 1)) = true := by
      rw [isI64_iff]; omega
    simp [rangeI64, rangeI, hok, hn, f1, f2]

theorem range64_bwdAs (a b c : Int) (hf : RangeFitsBwd a b c) : BwdAs (rangeI64 a b c) (rangeList a b c) := by
  intro (s : Int)
  rw [range64_last_eq a b c hf]
  by_cases hn : rangeLen a b c = 0
  · rw [rangeList_eq_nil hn]; exact Run.of_term (by rw [range_last, if_pos hn])
  have hc : c ≠ 0 := by intro h; subst h; exact hn (rangeLen_zero_step a b)
  refine Run.transfer (RangeAtElem a b c) ?_ _ _ ((range_lawfulAs a b c).bwd s) ?_
  · intro v x hp
    obtain ⟨j, hj, hv⟩ := hp x rfl
    simp only at hv; subst hv
    rw [range64_prev_eq a b c _ (rangeAt_fits_bwd a b c hf j hj), range_prev_at a b c hc]
    refine ⟨rfl, ?_⟩
    cases j with
    | zero => intro y hy; rw [if_neg (by omega)] at hy; cases hy
    | succ i =>
      rw [Int.natCast_succ, Int.add_sub_cancel]
      exact rangeAtElem_at a b c i _ (fun _ => by omega)
  · rw [range_last, if_neg hn, show (rangeLen a b c : Int) - 1 = ((rangeLen a b c - 1 : Nat) : Int) by omega]
    exact rangeAtElem_at a b c _ True (fun _ => by omega)

-- `len` and `get` of `rangeI64` are those of `rangeI`, term for term
theorem range64_lenGet (a b c : Int) : LenGetAs (rangeI64 a b c) (rangeList a b c) :=
  ⟨(range_lawfulAs a b c).len, (range_lawfulAs a b c).get⟩

end Cello.Iter
