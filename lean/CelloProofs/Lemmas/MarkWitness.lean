/-
  Concrete heaps and histories for C01: a garbage Box on a shared target (the release loop frees a reachable object),
  stale mark bits left by a mark phase that an exception left (before fix d8f0c4f the next collection freed a reachable
  object), a Thread object other than `current(Thread)` as the sole path to an object stored in its table, an
  in-contract Box, the re-typed Tables.  (The heaps of the depth witnesses are in Lemmas/MarkRec.lean, `typeHeap` and `extHeap` in
  Cello/HeapRec.lean.)
  `dfs` recurses on a measure and does not compute in the kernel; `dfsFuel` does.  A concrete heap is marked once, by evaluation
  (`boxHeap_run`, `staleHeap2_run`, …); what is reachable on it, what is not, and what a collection does with it are read off the result.
-/
import Cello.Heap
import CelloProofs.Lemmas.Mark

namespace Cello.Heap

/-- the worklist marker on list bits with a step budget -/
def dfsFuel (c : Cfg) (h : Heap) : Nat → List Word → List Addr → Option (List Addr)
  | _, [], m => some m
  | 0, _ :: _, _ => none
  | n + 1, w :: st, m =>
    if h.accepts w = true ∧ listSet.mem w m = false then dfsFuel c h n (h.fieldsAt c w ++ st) (listSet.insert w m)
    else dfsFuel c h n st m

theorem dfs_of_dfsFuel (c : Cfg) (h : Heap) : ∀ (n : Nat) (stack : List Word) (m r : List Addr),
    dfsFuel c h n stack m = some r → dfs listSet c h stack m = r
  | _, [], m, r, hr => by rw [dfs_nil]; simpa [dfsFuel] using hr
  | 0, _ :: _, _, _, hr => by simp [dfsFuel] at hr
  | n + 1, w :: st, m, r, hr => by
    unfold dfsFuel at hr
    split at hr
    · rename_i hw; rw [dfs_cons_pos listSet c h w st m hw]; exact dfs_of_dfsFuel c h n _ _ r hr
    · rename_i hw; rw [dfs_cons_neg listSet c h w st m hw]; exact dfs_of_dfsFuel c h n _ _ r hr

theorem gcMarkFrom_of_dfsFuel {c : Cfg} {h : Heap} {thread : Obj} {stack : List Word} {m0 r : List Addr} {n : Nat}
    (hr : dfsFuel c h n (rootWords c h thread stack) m0 = some r) : gcMarkFrom listSet c h thread stack m0 = r := by
  rw [gcMarkFrom_eq]; exact dfs_of_dfsFuel c h n _ _ r hr

theorem gcMark_of_dfsFuel {c : Cfg} {h : Heap} {thread : Obj} {stack : List Word} {r : List Addr} {n : Nat}
    (hr : dfsFuel c h n (rootWords c h thread stack) [] = some r) : gcMark listSet c h thread stack = r := by
  rw [← gcMarkFrom_empty]; exact gcMarkFrom_of_dfsFuel hr

/-- on a well-formed concrete heap the marker's run decides reachability (`gcMark_iff_reachable` read from right to left) -/
theorem reachable_iff_of_dfsFuel {c : Cfg} {h : Heap} (wf : h.WF) {thread : Obj} {stack : List Word} {r : List Addr} {n : Nat}
    (hr : dfsFuel c h n (rootWords c h thread stack) [] = some r) (a : Addr) :
    Reachable c h (rootWords c h thread stack) a ↔ a ∈ r := by
  rw [← gcMark_iff_reachable listSet c h wf, gcMark_of_dfsFuel hr]
  exact List.contains_iff_mem

def emptyThread : Obj := .thr "Thread" (.cont "Table" [])

/-- 4096 ↦ a root-registered Ref to the Probe at 4160; 4224 ↦ a Box on the same Probe that nothing refers to -/
def boxHeap : Heap where
  lookup a :=
    if a = 4096 then some ⟨.raw "Ref" [4160], true⟩
    else if a = 4160 then some ⟨.raw "Probe" [7], false⟩
    else if a = 4224 then some ⟨.raw "Box" [4160], false⟩
    else none
  regs := [4096, 4160, 4224]
  minptr := 4096
  maxptr := 4224
  complete := by
    intro a e he
    by_cases h1 : a = 4096; · simp [h1]
    by_cases h2 : a = 4160; · simp [h2]
    by_cases h3 : a = 4224; · simp [h3]
    simp [h1, h2, h3] at he

theorem boxHeap_wf : boxHeap.WF := wf_of_regs (by decide)

theorem boxHeap_run : dfsFuel Cfg.current boxHeap 4 (rootWords Cfg.current boxHeap emptyThread []) [] = some [4160, 4096] := by
  rw [Cfg.current_eq]; decide

theorem boxHeap_reach : Reachable Cfg.current boxHeap (rootWords Cfg.current boxHeap emptyThread []) 4160 :=
  (reachable_iff_of_dfsFuel boxHeap_wf boxHeap_run 4160).mpr (by decide)

theorem boxHeap_collect :
    4160 ∈ (collectAll listSet Cfg.current boxHeap emptyThread [] []).finalised ∧
    4160 ∉ (collectAll listSet Cfg.current boxHeap emptyThread [] []).pending ∧
    boxExclusive listSet Cfg.current boxHeap emptyThread [] [] = false := by
  simp only [collectAll, collectFrom, boxExclusive, gcMarkFrom_of_dfsFuel boxHeap_run]
  decide

/-- 4096 ↦ a root-registered Ref (empty); 4160 ↦ a heap Tuple whose only item (4288) has been deleted by hand; 4224 ↦ a Probe -/
def staleHeap : Heap where
  lookup a :=
    if a = 4096 then some ⟨.raw "Ref" [0], true⟩
    else if a = 4160 then some ⟨.tup "Tuple" [4288], false⟩
    else if a = 4224 then some ⟨.raw "Probe" [7], false⟩
    else none
  regs := [4096, 4160, 4224]
  minptr := 4096
  maxptr := 4288
  complete := by
    intro a e he
    by_cases h1 : a = 4096; · simp [h1]
    by_cases h2 : a = 4160; · simp [h2]
    by_cases h3 : a = 4224; · simp [h3]
    simp [h1, h2, h3] at he

theorem staleHeap_wf : staleHeap.WF := wf_of_regs (by decide)

/-- the mutator holds the Tuple and the Probe on the stack; no mark bit is set -/
def staleStart : GState := { heap := staleHeap, thread := emptyThread, stack := [4160, 4224], stale := [] }

/-- the marking events of the first collection, had it completed: the root Ref, the Tuple, the Probe -/
theorem staleHeap_events : markEvents Cfg.current staleHeap emptyThread [4160, 4224] [] = [4096, 4160, 4224] := by
  have e : gcMarkFrom listSet Cfg.current staleHeap emptyThread [4160, 4224] [] = [4224, 4160, 4096] :=
    gcMarkFrom_of_dfsFuel (n := 6) (by rw [Cfg.current_eq]; decide)
  simp only [markEvents, e]
  rfl

def staleOps : List GOp :=
  [.raise 2, .base (.write 4160 (.tup "Tuple" [])), .base (.write 4096 (.raw "Ref" [4224])), .base (.setStack [4160]), .base .collect]

def staleHeap2 : Heap := (staleHeap.write 4160 (.tup "Tuple" [])).write 4096 (.raw "Ref" [4224])

theorem staleRun_events (cf : Bool) :
    (GState.run listSet Cfg.current cf staleOps staleStart).2 =
      [⟨⟨staleHeap2, emptyThread, [4160], [4096, 4160]⟩, if cf then [] else [4096, 4160],
        (collectAll listSet Cfg.current staleHeap2 emptyThread [4160] (seed listSet (if cf then [] else [4096, 4160]))).pending,
        (collectAll listSet Cfg.current staleHeap2 emptyThread [4160] (seed listSet (if cf then [] else [4096, 4160]))).finalised,
        (collectAll listSet Cfg.current staleHeap2 emptyThread [4160] (seed listSet (if cf then [] else [4096, 4160]))).heap⟩] := by
  have h2 : (staleHeap.write 4160 (Obj.tup "Tuple" [])).write 4096 (Obj.raw "Ref" [4224]) = staleHeap2 := rfl
  -- `raise 2` leaves the bits of the first two marking events set, and 4096 and 4160 are registered in front of and behind every
  -- operation that follows, so both stay on the list; the rest of the event is what `GState.step` writes down
  have hst : ∀ p : Addr → Bool, p 4096 = true → p 4160 = true → List.filter p (List.take 2 [4096, 4160, 4224]) = [4096, 4160] := by
    intro p h1 h2; simp [List.filter, h1, h2]
  cases cf <;>
  · simp only [staleOps, GState.run, GState.step, staleStart, HState.step, GState.hstate]
    simp only [staleHeap_events, Bool.false_eq_true, if_false, if_true, List.append_nil, List.filter_filter, h2]
    rw [hst _ (by decide) (by decide)]

theorem staleHeap2_wf : staleHeap2.WF := write_wf (write_wf staleHeap_wf _ _) _ _

theorem staleHeap2_run :
    dfsFuel Cfg.current staleHeap2 5 (rootWords Cfg.current staleHeap2 emptyThread [4160]) [] = some [4160, 4224, 4096] := by
  rw [Cfg.current_eq]; decide

theorem staleHeap2_reach : Reachable Cfg.current staleHeap2 (rootWords Cfg.current staleHeap2 emptyThread [4160]) 4224 :=
  (reachable_iff_of_dfsFuel staleHeap2_wf staleHeap2_run 4224).mpr (by decide)

/-- with the bits of the root Ref and of the Tuple still set, the marker skips both roots: the Probe the root Ref now points to is swept -/
theorem staleHeap2_swept :
    4224 ∈ (collectAll listSet Cfg.current staleHeap2 emptyThread [4160] (seed listSet [4096, 4160])).pending := by
  have e : gcMarkFrom listSet Cfg.current staleHeap2 emptyThread [4160] (seed listSet [4096, 4160]) = [4096, 4160] :=
    gcMarkFrom_of_dfsFuel (n := 2) (by rw [Cfg.current_eq]; decide)
  simp only [collectAll, collectFrom, e]
  decide

theorem staleHeap2_kept :
    4224 ∉ (collectAll listSet Cfg.current staleHeap2 emptyThread [4160] (seed listSet [])).pending := by
  simp only [collectAll, collectFrom, show seed listSet [] = ([] : List Addr) from rfl, gcMarkFrom_of_dfsFuel staleHeap2_run]
  decide

theorem staleHeap2_no_owner : ∀ b ∈ staleHeap2.regs, staleHeap2.ownsAt b = [] := by decide

/-- that the operations of a literal history are admissible is decided by evaluation -/
instance (op : HOp) : Decidable op.ok := by unfold HOp.ok; split <;> infer_instance
instance (op : GOp) : Decidable op.ok := by unfold GOp.ok; split <;> infer_instance

theorem staleOps_ok : ∀ op ∈ staleOps, op.ok := by decide

/-- 4096 ↦ a Thread object that is not `current(Thread)` (`new(Thread, f)`, not started) whose table holds, under one key, a Ref
    to the Probe at 4160 (`set(t, key, probe)`); nothing else refers to the Probe -/
def threadHeap : Heap where
  lookup a :=
    if a = 4096 then some ⟨.thr "Thread" (.cont "Table" [.raw "String" [0], .raw "Ref" [4160]]), false⟩
    else if a = 4160 then some ⟨.raw "Probe" [7], false⟩
    else none
  regs := [4096, 4160]
  minptr := 4096
  maxptr := 4160
  complete := by
    intro a e he
    by_cases h1 : a = 4096; · simp [h1]
    by_cases h2 : a = 4160; · simp [h2]
    simp [h1, h2] at he

theorem threadHeap_wf : threadHeap.WF := wf_of_regs (by decide)

/-- an in-contract Box: 4096 ↦ root-registered Ref → 4160 ↦ Box → 4224 ↦ Probe (owned by the Box only); 4288 ↦ garbage -/
def okBoxHeap : Heap where
  lookup a :=
    if a = 4096 then some ⟨.raw "Ref" [4160], true⟩
    else if a = 4160 then some ⟨.raw "Box" [4224], false⟩
    else if a = 4224 then some ⟨.raw "Probe" [7], false⟩
    else if a = 4288 then some ⟨.raw "Probe" [9], false⟩
    else none
  regs := [4096, 4160, 4224, 4288]
  minptr := 4096
  maxptr := 4288
  complete := by
    intro a e he
    by_cases h1 : a = 4096; · simp [h1]
    by_cases h2 : a = 4160; · simp [h2]
    by_cases h3 : a = 4224; · simp [h3]
    by_cases h4 : a = 4288; · simp [h4]
    simp [h1, h2, h3, h4] at he

theorem okBoxHeap_wf : okBoxHeap.WF := wf_of_regs (by decide)

theorem okBoxHeap_run :
    dfsFuel Cfg.current okBoxHeap 5 (rootWords Cfg.current okBoxHeap emptyThread []) [] = some [4224, 4160, 4096] := by
  rw [Cfg.current_eq]; decide

theorem okBoxHeap_box_reach : Reachable Cfg.current okBoxHeap (rootWords Cfg.current okBoxHeap emptyThread []) 4160 :=
  (reachable_iff_of_dfsFuel okBoxHeap_wf okBoxHeap_run 4160).mpr (by decide)

theorem okBoxHeap_target_reach : Reachable Cfg.current okBoxHeap (rootWords Cfg.current okBoxHeap emptyThread []) 4224 :=
  (reachable_iff_of_dfsFuel okBoxHeap_wf okBoxHeap_run 4224).mpr (by decide)

theorem okBoxHeap_contract : ∀ b v, v ∈ okBoxHeap.ownsAt b →
    Reachable Cfg.current okBoxHeap (rootWords Cfg.current okBoxHeap emptyThread []) v →
    Reachable Cfg.current okBoxHeap (rootWords Cfg.current okBoxHeap emptyThread []) b := by
  intro b v hv _
  have hb : b = 4160 := by
    unfold Heap.ownsAt at hv
    by_cases h1 : b = 4096; · subst h1; simp [okBoxHeap, owns] at hv
    by_cases h2 : b = 4160; · exact h2
    by_cases h3 : b = 4224; · subst h3; simp [okBoxHeap, owns] at hv
    by_cases h4 : b = 4288; · subst h4; simp [okBoxHeap, owns] at hv
    simp [okBoxHeap, h1, h2, h3, h4] at hv
  subst hb
  exact okBoxHeap_box_reach

/-- 4096 ↦ a Table constructed as String → Int (one entry), 4160 ↦ a Table String → Ref whose value points to 4224,
    4224 ↦ a Probe; nothing is root-flagged -/
def retypeHeap : Heap where
  lookup a :=
    if a = 4096 then some ⟨.cont "Table" (mapElems "String" "Int" [([0], [4224])]), false⟩
    else if a = 4160 then some ⟨.cont "Table" (mapElems "String" "Ref" [([0], [4224])]), false⟩
    else if a = 4224 then some ⟨.raw "Probe" [7], false⟩
    else none
  regs := [4096, 4160, 4224]
  minptr := 4096
  maxptr := 4224
  complete := by
    intro a e he
    by_cases h1 : a = 4096; · simp [h1]
    by_cases h2 : a = 4160; · simp [h2]
    by_cases h3 : a = 4224; · simp [h3]
    simp [h1, h2, h3] at he

theorem retypeHeap_wf : retypeHeap.WF := wf_of_regs (by decide)

end Cello.Heap
