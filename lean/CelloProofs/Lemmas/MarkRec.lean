/-
  Lemmas tying the recursive marker with the call structure of GC.c (`Cello.Heap.level`, Cello/HeapRec.lean) to the
  worklist marker `Cello.Heap.dfs`: whenever the recursion completes it has set the worklist's bits (`level_agree`,
  `gcMarkRec_agree`), and with the guarded callback it completes at some depth budget on every heap whose Tuples hold
  registered pointers (`rec_completes`).  The depth: the un-repaired callback diverges on a self-containing Tuple
  (`selfTuple_diverges`), no fixed budget suffices for all chains (`chain_exceeds_budget`, F27), and a Tuple that holds an
  unregistered pointer takes the recursion out of the model (`tuple_unregistered_item_ub`).  Last the heap `demoHeap` of the
  non-vacuity examples.
-/
import Cello.Heap
import Cello.HeapRec
import CelloProofs.Lemmas.Mark
import CelloProofs.Lemmas.MarkFields

namespace Cello.Heap

section agree
variable {σ : Type} (S : MarkSet σ) (c : Cfg) (h : Heap)

theorem dfs_singleton_append (w : Word) (ws : List Word) (m : σ) :
    dfs S c h (w :: ws) m = dfs S c h ws (dfs S c h [w] m) := by
  have := dfs_append S c h [w] m ws
  simpa using this

theorem Res.bind_eq_ok {r : Res σ} {f : σ → Res σ} {m' : σ} : r.bind f = .ok m' ↔ ∃ m1, r = .ok m1 ∧ f m1 = .ok m' := by
  cases r <;> simp [Res.bind]

theorem foldRes_map {α β : Type} (f : β → σ → Res σ) (g : α → β) (xs : List α) (m : σ) :
    foldRes f (xs.map g) m = foldRes (fun x => f (g x)) xs m := by
  induction xs generalizing m with
  | nil => rfl
  | cons x xs ih => simp only [List.map_cons, foldRes]; congr 1; funext m'; exact ih m'

theorem foldRes_append {α : Type} (f : α → σ → Res σ) (xs ys : List α) (m : σ) :
    foldRes f (xs ++ ys) m = (foldRes f xs m).bind (foldRes f ys) := by
  induction xs generalizing m with
  | nil => rfl
  | cons x xs ih =>
    simp only [List.cons_append, foldRes]
    cases f x m with
    | ok m1 => simp only [Res.bind]; exact ih m1
    | deep => rfl
    | ub => rfl

theorem foldRes_append_ok {α : Type} (f : α → σ → Res σ) (xs ys : List α) (m r : σ)
    (hok : foldRes f (xs ++ ys) m = .ok r) : ∃ m1, foldRes f xs m = .ok m1 ∧ foldRes f ys m1 = .ok r := by
  rw [foldRes_append] at hok
  exact Res.bind_eq_ok.mp hok

theorem foldRes_mono {α : Type} (f g : α → σ → Res σ) (xs : List α)
    (hfg : ∀ x ∈ xs, ∀ m r, f x m = .ok r → g x m = .ok r) :
    ∀ m r, foldRes f xs m = .ok r → foldRes g xs m = .ok r := by
  induction xs with
  | nil => intro m r hok; exact hok
  | cons x xs ih =>
    intro m r hok
    obtain ⟨m1, hx, hrest⟩ := Res.bind_eq_ok.mp hok
    exact Res.bind_eq_ok.mpr ⟨m1, hfg x List.mem_cons_self m m1 hx, ih (fun y hy => hfg y (List.mem_cons_of_mem _ hy)) m1 r hrest⟩

theorem foldRes_congr {α : Type} {f g : α → σ → Res σ} : ∀ {xs : List α}, (∀ x ∈ xs, ∀ m, f x m = g x m) →
    ∀ m, foldRes f xs m = foldRes g xs m
  | [], _, _ => rfl
  | x :: xs, hfg, m => by
    show (f x m).bind (foldRes f xs) = (g x m).bind (foldRes g xs)
    rw [hfg x List.mem_cons_self, funext (foldRes_congr fun y hy => hfg y (List.mem_cons_of_mem _ hy))]

theorem foldRes_agree {α : Type} (f : α → σ → Res σ) (g : α → List Word)
    (hf : ∀ x m m', f x m = .ok m' → m' = dfs S c h (g x) m) :
    ∀ (xs : List α) (m m' : σ), foldRes f xs m = .ok m' → m' = dfs S c h (xs.flatMap g) m := by
  intro xs
  induction xs with
  | nil => intro m m' hok; cases hok; rw [List.flatMap_nil, dfs_nil]
  | cons x xs ih =>
    intro m m' hok
    obtain ⟨m1, hx, hrest⟩ := Res.bind_eq_ok.mp hok
    rw [List.flatMap_cons, dfs_append, ← hf x m m1 hx]
    exact ih m1 m' hrest

theorem level_item_succ (d : Nat) (w : Word) (m : σ) :
    (level S c h (d + 1)).item w m =
      if w % 8 == 0 && decide (h.minptr ≤ w) && decide (w ≤ h.maxptr) then
        match h.lookup w with
        | some e => if S.mem w m then .ok m else (level S c h d).recurse e.obj (S.insert w m)
        | none => .ok m
      else .ok m := rfl

theorem level_item_pos (d : Nat) {w : Word} {m : σ} {e : Entry} (hw : h.accepts w = true ∧ S.mem w m = false)
    (hl : h.lookup w = some e) : (level S c h (d + 1)).item w m = (level S c h d).recurse e.obj (S.insert w m) := by
  have hchk := hw.1
  simp only [Heap.accepts, hl, Option.isSome_some, Bool.and_true] at hchk
  simp [level_item_succ, hchk, hl, hw.2]

theorem level_item_neg (d : Nat) {w : Word} {m : σ} (hw : ¬ (h.accepts w = true ∧ S.mem w m = false)) :
    (level S c h (d + 1)).item w m = .ok m := by
  rw [level_item_succ]
  split
  · rename_i hchk
    cases hl : h.lookup w with
    | none => rfl
    | some e =>
      cases hm : S.mem w m with
      | true => rfl
      | false => exact absurd ⟨by simp [Heap.accepts, hchk, hl], hm⟩ hw
  · rfl

theorem level_recurse_succ (d : Nat) (o : Obj) (m : σ) :
    (level S c h (d + 1)).recurse o m =
      if c.isLeaf o.ty then .ok m
      else if c.hasMark o.ty then markInst c false (level S c h d).recurse (callback c h (level S c h d)) o m
      else match o with
        | .raw _ ws => foldRes (level S c h d).item (scanWords c ws) m
        | _ => .ok m := rfl

/-! `GC_Recurse` by the kind of the object's type, in step with `fields_leaf` / `fields_mark` / `fields_scan` -/

theorem level_recurse_leaf (d : Nat) {o : Obj} (m : σ) (hl : c.isLeaf o.ty = true) : (level S c h (d + 1)).recurse o m = .ok m := by
  simp [level_recurse_succ, hl]

theorem level_recurse_mark (d : Nat) {o : Obj} (m : σ) (hl : c.isLeaf o.ty = false) (hm : c.hasMark o.ty = true) :
    (level S c h (d + 1)).recurse o m = markInst c false (level S c h d).recurse (callback c h (level S c h d)) o m := by
  simp [level_recurse_succ, hl, hm]

theorem level_recurse_scan (d : Nat) {o : Obj} (m : σ) (hl : c.isLeaf o.ty = false) (hm : c.hasMark o.ty = false) :
    (level S c h (d + 1)).recurse o m = foldRes (level S c h d).item (fields c o) m := by
  rw [level_recurse_succ, fields_scan c o hl hm]
  cases o <;> simp [hl, hm, foldRes]

/-- what a Mark instance does, as a list: the embedded elements it hands to `rec`, the stored pointers it hands to the callback -/
def markActs (c : Cfg) : Bool → Obj → List (Obj ⊕ Word)
  | _, .raw _ _ => []
  | _, .cont _ es => es.map .inl
  | _, .tup _ items => items.map .inr
  | own, .thr _ tls => if own || c.foreignTls then (if c.hasMark tls.ty then markActs c true tls else []) else []

/-- **the Mark instance is a loop over its acts**: what is proved of `foldRes` holds of every Mark instance -/
theorem markInst_eq (rec : Obj → σ → Res σ) (cb : Word → σ → Res σ) :
    ∀ (own : Bool) (o : Obj) (m : σ), markInst c own rec cb o m = foldRes (Sum.elim rec cb) (markActs c own o) m
  | _, .raw _ _, m => rfl
  | _, .cont _ es, m => by simp only [markInst, markActs, foldRes_map, Sum.elim_inl]
  | _, .tup _ items, m => by simp only [markInst, markActs, foldRes_map, Sum.elim_inr]
  | own, .thr _ tls, m => by
    simp only [markInst, markActs]
    split
    · split
      · exact markInst_eq rec cb true tls m
      · rfl
    · rfl

theorem markBody_eq : ∀ (own : Bool) (o : Obj), markBody c own o = (markActs c own o).flatMap (Sum.elim (fields c) fun w => [w])
  | _, .raw _ _ => rfl
  | _, .cont _ es => by simp [markBody, markActs, fieldsL_eq_flatMap, List.flatMap_map]
  | _, .tup _ items => by simp [markBody, markActs, List.flatMap_map]
  | own, .thr _ tls => by
    simp only [markBody, markActs]
    split
    · rw [viaMark_eq]
      split
      · exact markBody_eq true tls
      · rfl
    · rfl

theorem markInst_agree (rec : Obj → σ → Res σ) (cb : Word → σ → Res σ)
    (hrec : ∀ o m m', rec o m = .ok m' → m' = dfs S c h (fields c o) m)
    (hcb : ∀ w m m', cb w m = .ok m' → m' = dfs S c h [w] m)
    (own : Bool) (o : Obj) (m m' : σ) (hok : markInst c own rec cb o m = .ok m') : m' = dfs S c h (markBody c own o) m := by
  rw [markInst_eq] at hok
  rw [markBody_eq]
  exact foldRes_agree S c h _ _ (fun x => match x with | .inl o => hrec o | .inr w => hcb w) _ m m' hok

theorem callback_guarded (hg : c.guarded = true) (L : Level σ) (w : Word) (m : σ) :
    callback c h L w m = if (h.lookup w).isSome then L.item w m else .ub := by
  simp only [callback, hg, if_true]

theorem callback_agree (hg : c.guarded = true) (L : Level σ) (hI : ∀ w m m', L.item w m = .ok m' → m' = dfs S c h [w] m)
    (w : Word) (m m' : σ) (hcb : callback c h L w m = .ok m') : m' = dfs S c h [w] m := by
  rw [callback_guarded c h hg] at hcb
  split at hcb
  · exact hI w m m' hcb
  · cases hcb

theorem level_agree (hg : c.guarded = true) : ∀ d : Nat,
    (∀ w m m', (level S c h d).item w m = .ok m' → m' = dfs S c h [w] m) ∧
    (∀ o m m', (level S c h d).recurse o m = .ok m' → m' = dfs S c h (fields c o) m) := by
  intro d
  induction d with
  | zero => exact ⟨fun w m m' hok => by simp [level] at hok, fun o m m' hok => by simp [level] at hok⟩
  | succ d ih =>
    obtain ⟨ihI, ihR⟩ := ih
    constructor
    · intro w m m' hok
      by_cases hw : h.accepts w = true ∧ S.mem w m = false
      · obtain ⟨e, hl⟩ := Option.isSome_iff_exists.mp (accepts_registered hw.1)
        rw [level_item_pos S c h d hw hl] at hok
        rw [dfs_cons_pos S c h w [] m hw, fieldsAt_lookup hl, List.append_nil]
        exact ihR e.obj _ m' hok
      · rw [level_item_neg S c h d hw] at hok
        cases hok
        rw [dfs_cons_neg S c h w [] m hw, dfs_nil]
    · intro o m m' hok
      cases hleaf : c.isLeaf o.ty with
      | true =>
        rw [level_recurse_leaf S c h d m hleaf] at hok
        cases hok
        rw [fields_leaf c o hleaf, dfs_nil]
      | false =>
        cases hmk : c.hasMark o.ty with
        | true =>
          rw [level_recurse_mark S c h d m hleaf hmk] at hok
          rw [fields_mark c o hleaf hmk]
          exact markInst_agree S c h _ _ ihR (callback_agree S c h hg _ ihI) false o m m' hok
        | false =>
          rw [level_recurse_scan S c h d m hleaf hmk] at hok
          simpa using foldRes_agree S c h _ (fun w => [w]) ihI (fields c o) m m' hok

theorem rec_items_agree (hg : c.guarded = true) (d : Nat) (ws : List Word) (m m' : σ)
    (hok : foldRes (level S c h d).item ws m = .ok m') : m' = dfs S c h ws m := by
  have := foldRes_agree S c h _ (fun w => [w]) (level_agree S c h hg d).1 ws m m' hok
  simpa using this

end agree

section phases
variable {σ : Type} (S : MarkSet σ) (c : Cfg) (h : Heap)

theorem tlsPhase_agree (hg : c.guarded = true) (ht : c.tlsCallback = true) (d : Nat) (thread : Obj) (m m' : σ)
    (hok : tlsPhase c h (level S c h d) thread m = .ok m') : m' = dfs S c h (tlsWords c thread) m := by
  unfold tlsPhase at hok
  simp only [tlsWords, ht, if_true, viaMark_eq]
  obtain ⟨ihI, ihR⟩ := level_agree S c h hg d
  by_cases hm : c.hasMark thread.ty = true
  · simp only [hm, if_true, ht] at hok ⊢
    exact markInst_agree S c h _ _ ihR (callback_agree S c h hg _ ihI) true thread m m' hok
  · simp only [hm] at hok ⊢
    cases hok
    simp [dfs_nil]

theorem rootPhase_agree (hg : c.guarded = true) (wf : h.WF) (d : Nat) (m m' : σ)
    (hok : rootPhase S h (level S c h d) m = .ok m') : m' = dfs S c h (rootAddrs h) m := by
  unfold rootPhase at hok
  obtain ⟨_, ihR⟩ := level_agree S c h hg d
  have := foldRes_agree S c h _ (fun a => [a]) ?_ (rootAddrs h) m m' hok
  · simpa using this
  · intro a m1 m2 hf
    cases hl : h.lookup a with
    | none =>
      rw [hl] at hf
      cases hf
      rw [dfs_cons_neg S c h a [] m1 (by simp [Heap.accepts, hl]), dfs_nil]
    | some e =>
      rw [hl] at hf
      simp only at hf
      cases hmem : S.mem a m1 with
      | true =>
        simp only [hmem, if_true] at hf
        cases hf
        rw [dfs_cons_neg S c h a [] m1 (by simp [hmem]), dfs_nil]
      | false =>
        simp only [hmem] at hf
        have hacc : h.accepts a = true ∧ S.mem a m1 = false :=
          ⟨accepts_of_registered wf (by simp [hl]), hmem⟩
        rw [dfs_cons_pos S c h a [] m1 hacc, fieldsAt_lookup hl, List.append_nil]
        exact ihR e.obj _ m2 (by simpa using hf)

theorem gcMarkRec_agree (hg : c.guarded = true) (ht : c.tlsCallback = true) (wf : h.WF) (d : Nat) (thread : Obj)
    (stack : List Word) (m' : σ) (hok : gcMarkRec S c h d thread stack = .ok m') : m' = gcMark S c h thread stack := by
  unfold gcMarkRec at hok
  obtain ⟨m2, h12, h3⟩ := Res.bind_eq_ok.mp hok
  obtain ⟨m1, h1, h2⟩ := Res.bind_eq_ok.mp h12
  rw [gcMark, rec_items_agree S c h hg d stack m2 m' h3, rootPhase_agree S c h hg wf d m1 m2 h2,
    tlsPhase_agree S c h hg ht d thread _ m1 h1]

end phases

mutual
/-- every stored pointer that a Mark instance inside this object (at any nesting) hands to the callback -/
def handed : Obj → List Word
  | .raw _ _ => []
  | .cont _ es => handedL es
  | .tup _ items => items
  | .thr _ tls => handed tls
def handedL : List Obj → List Word
  | [] => []
  | o :: os => handed o ++ handedL os
end

/-- the pointers that Tuples (and user Mark instances) hand to the callback are registered objects: otherwise the C
    code reads memory the model knows nothing about (`Res.ub`) -/
def Heap.CallbackSafe (h : Heap) : Prop :=
  ∀ a e, h.lookup a = some e → ∀ w ∈ handed e.obj, (h.lookup w).isSome = true

section complete
variable {σ : Type} (S : MarkSet σ) (c : Cfg) (h : Heap)

theorem markInst_mono (rec rec' : Obj → σ → Res σ) (cb cb' : Word → σ → Res σ)
    (hrec : ∀ o m r, rec o m = .ok r → rec' o m = .ok r) (hcb : ∀ w m r, cb w m = .ok r → cb' w m = .ok r)
    (own : Bool) (o : Obj) (m r : σ) (hok : markInst c own rec cb o m = .ok r) : markInst c own rec' cb' o m = .ok r := by
  rw [markInst_eq] at hok ⊢
  exact foldRes_mono _ _ _ (fun x _ => match x with | .inl o => hrec o | .inr w => hcb w) m r hok

theorem callback_mono (L L' : Level σ) (hi : ∀ w m r, L.item w m = .ok r → L'.item w m = .ok r)
    (hr : ∀ o m r, L.recurse o m = .ok r → L'.recurse o m = .ok r) :
    ∀ w m r, callback c h L w m = .ok r → callback c h L' w m = .ok r := by
  intro w m r hok
  cases hg : c.guarded with
  | true =>
    rw [callback_guarded c h hg] at hok ⊢
    split at hok
    · rename_i hreg; rw [if_pos hreg]; exact hi w m r hok
    · cases hok
  | false =>
    simp only [callback, hg] at hok ⊢
    obtain ⟨m1, hx, hrest⟩ := Res.bind_eq_ok.mp hok
    refine Res.bind_eq_ok.mpr ⟨m1, hi w m m1 hx, ?_⟩
    cases hl : h.lookup w with
    | none => rw [hl] at hrest; cases hrest
    | some e => rw [hl] at hrest; exact hr e.obj m1 r hrest

theorem level_mono : ∀ d : Nat,
    (∀ w m r, (level S c h d).item w m = .ok r → (level S c h (d + 1)).item w m = .ok r) ∧
    (∀ o m r, (level S c h d).recurse o m = .ok r → (level S c h (d + 1)).recurse o m = .ok r) := by
  intro d
  induction d with
  | zero => exact ⟨fun w m r hok => by simp [level] at hok, fun o m r hok => by simp [level] at hok⟩
  | succ d ih =>
    obtain ⟨ihI, ihR⟩ := ih
    constructor
    · intro w m r hok
      by_cases hw : h.accepts w = true ∧ S.mem w m = false
      · obtain ⟨e, hl⟩ := Option.isSome_iff_exists.mp (accepts_registered hw.1)
        rw [level_item_pos S c h _ hw hl] at hok ⊢
        exact ihR _ _ _ hok
      · rw [level_item_neg S c h _ hw] at hok ⊢
        exact hok
    · intro o m r hok
      cases hleaf : c.isLeaf o.ty with
      | true => rw [level_recurse_leaf S c h _ m hleaf] at hok ⊢; exact hok
      | false =>
        cases hmk : c.hasMark o.ty with
        | true =>
          rw [level_recurse_mark S c h _ m hleaf hmk] at hok ⊢
          exact markInst_mono c _ _ _ _ ihR (callback_mono c h _ _ ihI ihR) false o m r hok
        | false =>
          rw [level_recurse_scan S c h _ m hleaf hmk] at hok ⊢
          exact foldRes_mono _ _ _ (fun w _ => ihI w) m r hok

theorem level_mono_le {d d' : Nat} (hle : d ≤ d') :
    (∀ w m r, (level S c h d).item w m = .ok r → (level S c h d').item w m = .ok r) ∧
    (∀ o m r, (level S c h d).recurse o m = .ok r → (level S c h d').recurse o m = .ok r) := by
  induction hle with
  | refl => exact ⟨fun _ _ _ h => h, fun _ _ _ h => h⟩
  | step _ ih =>
    exact ⟨fun w m r hok => (level_mono S c h _).1 w m r (ih.1 w m r hok), fun o m r hok => (level_mono S c h _).2 o m r (ih.2 o m r hok)⟩

/-- tracing an object (`InstOK`: running its Mark instance; `RecLOK`: tracing each of a list of embedded elements) completes at a
    budget `k` above one at which presenting its words one by one completes, with the same mark bits -/
def RecOK (o : Obj) (k : Nat) : Prop :=
  ∀ d m1 m2, foldRes (level S c h d).item (fields c o) m1 = .ok m2 → (level S c h (d + k)).recurse o m1 = .ok m2
def InstOK (own : Bool) (o : Obj) (k : Nat) : Prop :=
  ∀ d m1 m2, foldRes (level S c h d).item (markBody c own o) m1 = .ok m2 →
    markInst c own (level S c h (d + k)).recurse (callback c h (level S c h (d + k))) o m1 = .ok m2
def RecLOK (es : List Obj) (k : Nat) : Prop :=
  ∀ d m1 m2, foldRes (level S c h d).item (fieldsL c es) m1 = .ok m2 → foldRes (level S c h (d + k)).recurse es m1 = .ok m2

theorem recOK_of_instOK (o : Obj) (k : Nat) (hi : InstOK S c h false o k) : RecOK S c h o (k + 1) := by
  intro d m1 m2 hok
  rw [← Nat.add_assoc]
  cases hleaf : c.isLeaf o.ty with
  | true => rw [level_recurse_leaf S c h _ m1 hleaf]; rw [fields_leaf c o hleaf] at hok; exact hok
  | false =>
    cases hmk : c.hasMark o.ty with
    | true =>
      rw [level_recurse_mark S c h _ m1 hleaf hmk]
      rw [fields_mark c o hleaf hmk] at hok
      exact hi d m1 m2 hok
    | false =>
      rw [level_recurse_scan S c h _ m1 hleaf hmk]
      exact foldRes_mono _ _ _ (fun w _ => (level_mono_le S c h (Nat.le_add_right d k)).1 w) m1 m2 hok

/-! such a `k` exists by recursion over the object: 0 for a Tuple (the guarded callback on a registered pointer is `item` itself), the
    sum over the elements, each one level deeper (`recOK_of_instOK`), for a container -/

mutual
theorem instOK_exists (hg : c.guarded = true) :
    ∀ (own : Bool) (o : Obj), (∀ w ∈ handed o, (h.lookup w).isSome = true) → ∃ k, InstOK S c h own o k
  | _, .raw _ _, _ => ⟨0, fun d m1 m2 hok => by simpa [markInst, markBody, foldRes] using hok⟩
  | _, .cont _ es, hreg => by
    obtain ⟨k, hk⟩ := recLOK_exists hg es (by simpa [handed] using hreg)
    exact ⟨k, fun d m1 m2 hok => by
      simp only [markInst]
      exact hk d m1 m2 (by simpa [markBody] using hok)⟩
  | _, .tup _ items, hreg => ⟨0, fun d m1 m2 hok => by
      simp only [markInst, Nat.add_zero]
      rw [foldRes_congr fun w hw m => by rw [callback_guarded c h hg, if_pos (hreg w (by simpa [handed] using hw))]]
      simpa [markBody] using hok⟩
  | own, .thr ty tls, hreg => by
    obtain ⟨k, hk⟩ := instOK_exists hg true tls (by simpa [handed] using hreg)
    refine ⟨k, fun d m1 m2 hok => ?_⟩
    simp only [markBody] at hok
    simp only [markInst]
    by_cases hw : (own || c.foreignTls) = true
    · simp only [hw, if_true] at hok ⊢
      rw [viaMark_eq] at hok
      by_cases hm : c.hasMark tls.ty = true
      · simp only [hm, if_true] at hok ⊢; exact hk d m1 m2 hok
      · simp only [hm] at hok ⊢; simpa [foldRes] using hok
    · simp only [hw] at hok ⊢; simpa [foldRes] using hok
theorem recLOK_exists (hg : c.guarded = true) :
    ∀ (es : List Obj), (∀ w ∈ handedL es, (h.lookup w).isSome = true) → ∃ k, RecLOK S c h es k
  | [], _ => ⟨0, fun d m1 m2 hok => by simpa [fieldsL, foldRes] using hok⟩
  | o :: os, hreg => by
    have hreg1 : ∀ w ∈ handed o, (h.lookup w).isSome = true := fun w hw => hreg w (by simp [handedL, hw])
    have hreg2 : ∀ w ∈ handedL os, (h.lookup w).isSome = true := fun w hw => hreg w (by simp [handedL, hw])
    obtain ⟨k1, hk1⟩ := instOK_exists hg false o hreg1
    obtain ⟨k2, hk2⟩ := recLOK_exists hg os hreg2
    have hr1 := recOK_of_instOK S c h o k1 hk1
    refine ⟨k1 + 1 + k2, fun d m1 m2 hok => ?_⟩
    simp only [fieldsL] at hok
    obtain ⟨m', h1, h2⟩ := foldRes_append_ok _ _ _ m1 m2 hok
    simp only [foldRes]
    have e1 : (level S c h (d + (k1 + 1 + k2))).recurse o m1 = .ok m' := by
      have := hr1 d m1 m' h1
      have hle : d + (k1 + 1) ≤ d + (k1 + 1 + k2) := by omega
      exact (level_mono_le S c h hle).2 o m1 m' this
    rw [e1]
    simp only [Res.bind]
    have := hk2 d m' m2 h2
    have hle : d + k2 ≤ d + (k1 + 1 + k2) := by omega
    exact foldRes_mono _ _ os (fun x _ => (level_mono_le S c h hle).2 x) m' m2 this
end

theorem rec_completes (hg : c.guarded = true) (safe : h.CallbackSafe) :
    ∀ (stack : List Word) (m : σ), ∃ d, foldRes (level S c h d).item stack m = .ok (dfs S c h stack m) := by
  intro stack m
  induction stack, m using dfs.induct S c h with
  | case1 m => exact ⟨0, by rw [dfs_nil]; rfl⟩
  | case2 m w st hw ih =>
    obtain ⟨d, hd⟩ := ih
    have hreg := accepts_registered hw.1
    cases hl : h.lookup w with
    | none => simp [hl] at hreg
    | some e =>
      rw [fieldsAt_lookup hl] at hd
      obtain ⟨m2, h1, h2⟩ := foldRes_append_ok _ _ _ _ _ hd
      -- `d` suffices for the new stack word by word; tracing the object of `w` takes `k + 1` levels more (`recOK_of_instOK`), `GC_Mark_Item`
      -- on `w` one more; the rest of the stack completes at the larger budget too (`level_mono_le`)
      obtain ⟨k, hk⟩ := instOK_exists S c h hg false e.obj (safe w e hl)
      have hr := recOK_of_instOK S c h e.obj k hk d _ m2 h1
      refine ⟨d + (k + 1) + 1, ?_⟩
      rw [dfs_cons_pos S c h w st m hw, fieldsAt_lookup hl]
      simp only [foldRes]
      rw [level_item_pos S c h _ hw hl, hr]
      simp only [Res.bind]
      have hle : d ≤ d + (k + 1) + 1 := by omega
      exact foldRes_mono _ _ st (fun x _ => (level_mono_le S c h hle).1 x) m2 _ h2
  | case3 m w st hw ih =>
    obtain ⟨d, hd⟩ := ih
    refine ⟨d + 1, ?_⟩
    rw [dfs_cons_neg S c h w st m hw]
    simp only [foldRes]
    rw [level_item_neg S c h d hw]
    simp only [Res.bind]
    exact foldRes_mono _ _ st (fun x _ => (level_mono S c h d).1 x) m _ hd

end complete

/-! ### the un-repaired callback on a Tuple that contains itself -/

def selfTupleHeap : Heap where
  lookup a := if a = 4096 then some ⟨.tup "Tuple" [4096], false⟩ else none
  regs := [4096]
  minptr := 4096
  maxptr := 4096
  complete := by
    intro a e he
    by_cases h1 : a = 4096
    · simp [h1]
    · simp [h1] at he

theorem selfTuple_recurse_deep {σ : Type} (S : MarkSet σ) (c : Cfg) (hl : c.isLeaf "Tuple" = false)
    (hk : c.hasMark "Tuple" = true) (hg : c.guarded = false) (m : σ) (hm : S.mem 4096 m = true) :
    ∀ d, (level S c selfTupleHeap d).recurse (.tup "Tuple" [4096]) m = .deep := by
  intro d
  induction d with
  | zero => rfl
  | succ d ih =>
    rw [level_recurse_succ]
    simp only [Obj.ty, hl, hk, if_true, markInst, foldRes, callback, hg]
    cases d with
    | zero => rfl
    | succ d =>
      -- the unguarded callback: `GC_Mark_Item` finds the Tuple marked, `GC_Recurse` traces it again
      rw [level_item_neg S c selfTupleHeap d (by simp [hm]), show selfTupleHeap.lookup 4096 = some ⟨.tup "Tuple" [4096], false⟩ from rfl]
      simp only [Res.bind]
      rw [ih]
      rfl

theorem selfTuple_diverges {σ : Type} (S : MarkSet σ) (c : Cfg) (hl : c.isLeaf "Tuple" = false)
    (hk : c.hasMark "Tuple" = true) (hg : c.guarded = false) (d : Nat) :
    (level S c selfTupleHeap d).item 4096 S.empty = .deep := by
  cases d with
  | zero => rfl
  | succ d =>
    rw [level_item_pos S c selfTupleHeap d (e := ⟨.tup "Tuple" [4096], false⟩) ⟨by decide, S.mem_empty _⟩ rfl]
    exact selfTuple_recurse_deep S c hl hk hg _ (by rw [S.mem_insert]; simp) d

/-! ### F27: the recursion depth grows with the length of a chain (no fixed stack bound suffices) -/

/-- `n` Refs at addresses 8, 16, …, 8n, each pointing to the next; the last one points past the heap -/
def chainHeap (n : Nat) : Heap where
  lookup := fun (a : Nat) => if a % 8 = 0 ∧ 8 ≤ a ∧ a ≤ 8 * n then some ⟨.raw "Ref" [a + 8], false⟩ else none
  regs := (List.range n).map (fun k => 8 * (k + 1))
  minptr := 8
  maxptr := 8 * n
  complete := by
    intro (a : Nat) e he
    by_cases hc : a % 8 = 0 ∧ 8 ≤ a ∧ a ≤ 8 * n
    · obtain ⟨h1, h2, h3⟩ := hc
      simp only [List.mem_map, List.mem_range]
      refine ⟨a / 8 - 1, ?_, ?_⟩
      · show (a / 8 - 1 : Nat) < n
        omega
      · show (8 * (a / 8 - 1 + 1) : Nat) = a
        omega
    · simp [hc] at he

theorem chainHeap_wf (n : Nat) : (chainHeap n).WF := by
  constructor <;> intro a e he <;> simp only [chainHeap] at he ⊢ <;> split at he <;> first | (cases he) | skip
  · rename_i hc; exact hc.1
  · rename_i hc; exact ⟨hc.2.1, hc.2.2⟩

theorem chainHeap_safe (n : Nat) : (chainHeap n).CallbackSafe := by
  intro a e he w hw
  simp only [chainHeap] at he
  split at he
  · cases he; simp [handed] at hw
  · cases he

section chain
variable {σ : Type} (S : MarkSet σ) (c : Cfg)

theorem chainHeap_lookup {n k : Nat} (hkn : k < n) :
    (chainHeap n).lookup (8 * (k + 1)) = some ⟨.raw "Ref" [8 * (k + 1 + 1)], false⟩ :=
  if_pos ⟨Nat.mul_mod_right 8 _, Nat.le_mul_of_pos_right 8 (Nat.succ_pos k), Nat.mul_le_mul_left 8 hkn⟩

/-- two levels per link: `GC_Mark_Item` on a Ref of the chain calls `GC_Recurse`, which hands the next Ref to `GC_Mark_Item` -/
theorem chain_item_deep (hl : c.isLeaf "Ref" = false) (hk : c.hasMark "Ref" = false) (hs : c.scanInclusive = true)
    (n : Nat) : ∀ (d k : Nat) (m : σ), d ≤ 2 * (n - k) →
      (∀ j, k ≤ j → j < n → S.mem (8 * (j + 1)) m = false) →
      (level S c (chainHeap n) d).item (8 * (k + 1)) m = .deep
  | 0, _, _, _, _ => rfl
  | 1, k, m, hd, hm => by
    have hkn : k < n := by omega
    have hlook := chainHeap_lookup (n := n) hkn
    rw [level_item_pos S c _ 0 ⟨accepts_of_registered (chainHeap_wf n) (by rw [hlook]; rfl), hm k (Nat.le_refl k) hkn⟩ hlook]
    rfl
  | d + 2, k, m, hd, hm => by
    have hkn : k < n := by omega
    have hlook := chainHeap_lookup (n := n) hkn
    rw [level_item_pos S c _ (d + 1) ⟨accepts_of_registered (chainHeap_wf n) (by rw [hlook]; rfl), hm k (Nat.le_refl k) hkn⟩ hlook,
      level_recurse_scan S c _ d (o := .raw "Ref" [8 * (k + 1 + 1)]) _ hl hk, fields_scan c (.raw "Ref" [8 * (k + 1 + 1)]) hl hk]
    show foldRes _ (scanWords c [8 * (k + 1 + 1)]) _ = _
    rw [scanWords, if_pos hs]
    show ((level S c (chainHeap n) d).item (8 * (k + 1 + 1)) _).bind _ = .deep
    rw [chain_item_deep hl hk hs n d (k + 1) _ (by omega) fun j hj1 hj2 => ?_]
    · rfl
    · rw [S.mem_insert, hm j (by omega) hj2, Bool.or_false]
      exact beq_false_of_ne (show 8 * (j + 1) ≠ 8 * (k + 1) by omega)

theorem chain_exceeds_budget (hl : c.isLeaf "Ref" = false) (hk : c.hasMark "Ref" = false) (hs : c.scanInclusive = true)
    (d : Nat) : (level S c (chainHeap (d + 1)) d).item 8 S.empty = .deep := by
  have := chain_item_deep S c hl hk hs (d + 1) d 0 S.empty (by omega) (fun j _ _ => S.mem_empty _)
  simpa using this

end chain

/-! ### a Tuple holding a pointer to an object that was deleted by hand (known finding KF-C01-dangling-tuple-item) -/

/-- 4096 ↦ heap Tuple [4160]; 4160 was registered once (the bounds still include it) and has been deleted -/
def danglingHeap : Heap where
  lookup a := if a = 4096 then some ⟨.tup "Tuple" [4160], false⟩ else none
  regs := [4096]
  minptr := 4096
  maxptr := 4160
  complete := by
    intro a e he
    by_cases h1 : a = 4096
    · simp [h1]
    · simp [h1] at he

theorem danglingHeap_wf : danglingHeap.WF := wf_of_regs (by decide)

/-- a Tuple whose first stored pointer is not a registered object (a deleted one as in `danglingHeap`; what `Tuple_Assign` from an Array /
    List produces): the guarded callback calls `GC_Recurse` on it -/
theorem tuple_unregistered_item_ub {σ : Type} (S : MarkSet σ) (c : Cfg) (h : Heap) (wf : h.WF)
    (hl : c.isLeaf "Tuple" = false) (hk : c.hasMark "Tuple" = true) (hg : c.guarded = true)
    (a w : Addr) (rest : List Word) (r : Bool)
    (ha : h.lookup a = some ⟨.tup "Tuple" (w :: rest), r⟩) (hw : h.lookup w = none) (d : Nat) :
    (level S c h (d + 2)).item a S.empty = .ub := by
  rw [level_item_pos S c h _ ⟨accepts_of_registered wf (by rw [ha]; rfl), S.mem_empty a⟩ ha,
    level_recurse_mark S c h d (o := .tup "Tuple" (w :: rest)) _ hl hk]
  show (callback c h _ w _).bind _ = .ub
  rw [callback_guarded c h hg, hw]
  rfl

/-- a small heap: 4096 ↦ Array [Ref → 4160], 4160 ↦ Tuple [4160, 4224] (contains itself), 4224 ↦ Probe whose words
    are no pointers the registry accepts (7, the unaligned 4100, 0), 4288 ↦ Probe referenced only from thread-local storage
    (`demoThread`), 4352 ↦ garbage -/
def demoHeap : Heap where
  lookup a :=
    if a = 4096 then some ⟨.cont "Array" [.raw "Ref" [4160]], false⟩
    else if a = 4160 then some ⟨.tup "Tuple" [4160, 4224], false⟩
    else if a = 4224 then some ⟨.raw "Probe" [7, 4100, 0], false⟩
    else if a = 4288 then some ⟨.raw "Probe" [4224], false⟩
    else if a = 4352 then some ⟨.raw "Ref" [4096], false⟩
    else none
  regs := [4096, 4160, 4224, 4288, 4352]
  minptr := 4096
  maxptr := 4352
  complete := by
    intro a e he
    by_cases h1 : a = 4096; · simp [h1]
    by_cases h2 : a = 4160; · simp [h2]
    by_cases h3 : a = 4224; · simp [h3]
    by_cases h4 : a = 4288; · simp [h4]
    by_cases h5 : a = 4352; · simp [h5]
    simp [h1, h2, h3, h4, h5] at he

def demoThread : Obj := .thr "Thread" (.cont "Table" [.raw "String" [0], .raw "Ref" [4288]])

theorem demoHeap_wf : demoHeap.WF := wf_of_regs (by decide)

theorem demoHeap_safe : demoHeap.CallbackSafe := by
  intro a e he w hw
  -- a registered address is one of the five of `regs`; only the Tuple at 4160 hands anything to the callback: itself and the Probe at 4224
  have ha := demoHeap.complete a e he
  simp only [demoHeap, List.mem_cons, List.not_mem_nil, or_false] at ha
  rcases ha with rfl | rfl | rfl | rfl | rfl <;> cases he <;>
    simp only [handed, handedL, List.append_nil, List.mem_cons, List.not_mem_nil, or_false] at hw
  rcases hw with rfl | rfl <;> decide

end Cello.Heap
