/- The mutations of a List, for C11: each keeps the doubly-linked invariant `Chain` and has the effect `listSpec` on the sequence of
   elements; hence every history does -/
import CelloProofs.Lemmas.IterMutList

namespace Cello.Iter

/-- List: the abstract effect and the outcome of one mutation (`z` = a zeroed element) -/
def listSpec {α : Type} [DecidableEq α] (z : α) (vs : List α) : SOp α → List α × MOut
  | .push v => (vs ++ [v], .ok)
  | .pop => if vs.length = 0 then (vs, .index) else (vs.take (vs.length - 1), .ok)
  | .pushAt v i =>
    if i = 0 then (v :: vs, .ok)
    else match idxOf vs.length i with
      | none => (vs, .index)
      | some k => (vs.take k ++ v :: vs.drop k, .ok)
  | .popAt i => match idxOf vs.length i with
    | none => (vs, .index)
    | some k => (vs.take k ++ vs.drop (k + 1), .ok)
  | .rem v => if v ∈ vs then (vs.erase v, .ok) else (vs, .value)
  | .put i v => match idxOf vs.length i with
    | none => (vs, .index)
    | some k => (vs.take k ++ v :: vs.drop (k + 1), .ok)
  | .concat ws => (vs ++ ws, .ok)
  | .resize n => (vs.take n ++ List.replicate (n - vs.length) z, .ok)

namespace LL

variable {α : Type}

theorem push_chain (l : LL α) (xs : List (Nat × α)) (h : Chain l xs) (v : α) :
    ∃ l', l.push v = (l', .ok) ∧ Chain l' (xs ++ [(l.brk, v)]) := by
  have h' : Chain l (xs ++ []) := by simpa using h
  exact insert_chain l xs [] v h' _ _ (by simpa [alloc, store] using h.tail) rfl

theorem findFrom_seg [DecidableEq α] (l : LL α) (v : α) : ∀ (xs : List (Nat × α)) (p : Option Nat) (fuel : Nat),
    Seg l.mem p xs none → xs.length < fuel →
    (v ∉ vals xs ∧ l.findFrom v fuel (firstAddr xs none) = some none) ∨
    (∃ pre x post, xs = pre ++ x :: post ∧ x.2 = v ∧ v ∉ vals pre ∧
      l.findFrom v fuel (firstAddr xs none) = some (some x.1)) := by
  intro xs
  induction xs with
  | nil =>
    intro p fuel _ _
    exact Or.inl ⟨by simp [vals], by cases fuel <;> rfl⟩
  | cons x r ih =>
    intro p fuel h hf
    cases fuel with
    | zero => simp at hf
    | succ fuel =>
      simp only [firstAddr, findFrom, h.1]
      by_cases hv : x.2 = v
      · exact Or.inr ⟨[], x, r, rfl, hv, by simp [vals], by simp [hv]⟩
      · simp only [hv, if_false]
        rcases ih (some x.1) fuel h.2 (by simpa using hf) with ⟨h1, h2⟩ | ⟨pre, y, post, h1, h2, h3, h4⟩
        · refine Or.inl ⟨?_, h2⟩
          simp only [vals_cons, List.mem_cons, not_or]
          exact ⟨fun e => hv e.symm, h1⟩
        · refine Or.inr ⟨x :: pre, y, post, by simp [h1], h2, ?_, h4⟩
          simp only [vals_cons, List.mem_cons, not_or]
          exact ⟨fun e => hv e.symm, h3⟩

theorem concat_chain (ws : List α) : ∀ (l : LL α) (xs : List (Nat × α)), Chain l xs →
    ∃ l' xs', l.concat ws = (l', .ok) ∧ Chain l' xs' ∧ vals xs' = vals xs ++ ws := by
  induction ws with
  | nil => intro l xs h; exact ⟨l, xs, rfl, h, by simp⟩
  | cons w ws ih =>
    intro l xs h
    obtain ⟨l1, e1, c1⟩ := push_chain l xs h w
    obtain ⟨l2, xs2, e2, c2, v2⟩ := ih l1 _ c1
    exact ⟨l2, xs2, by simp only [concat, e1, e2], c2, by rw [v2, vals_append]; simp [vals]⟩

theorem clearLoop_seg : ∀ (xs : List (Nat × α)) (l : LL α) (p : Option Nat) (fuel : Nat), Seg l.mem p xs none →
    (addrs xs).Nodup → xs.length < fuel →
    ∃ l', l.clearLoop fuel (firstAddr xs none) = some l' ∧ l'.brk = l.brk := by
  intro xs
  induction xs with
  | nil => intro l p fuel _ _ _; exact ⟨l, by cases fuel <;> rfl, rfl⟩
  | cons x r ih =>
    intro l p fuel h hnd hf
    cases fuel with
    | zero => simp at hf
    | succ fuel =>
      have hr : Seg (l.free x.1).mem (some x.1) r none := Seg_store none (List.nodup_cons.mp hnd).1 h.2
      obtain ⟨l', e, b⟩ := ih (l.free x.1) (some x.1) fuel hr (List.nodup_cons.mp hnd).2 (by simpa using hf)
      exact ⟨l', by simp only [firstAddr_cons, clearLoop, h.1]; exact e, b⟩

theorem clear_chain (l : LL α) (xs : List (Nat × α)) (h : Chain l xs) : ∃ l', l.clear = (l', .ok) ∧ Chain l' [] := by
  obtain ⟨l1, e, b⟩ := clearLoop_seg xs l none (l.brk + 1) h.seg h.nodup (Nat.lt_succ_of_le h.room)
  refine ⟨{ l1 with head := none, tail := none, nitems := 0 }, by simp only [clear, h.head, e], trivial, rfl, rfl, ?_, ?_, ?_, rfl⟩
  · simp [addrs]
  · intro a ha; simp [addrs] at ha
  · simp

theorem shrink_chain : ∀ (k : Nat) (l : LL α) (xs : List (Nat × α)), Chain l xs → k ≤ xs.length →
    ∃ l', l.shrink k = (l', .ok) ∧ Chain l' (xs.take (xs.length - k)) := by
  intro k
  induction k with
  | zero => intro l xs h _; exact ⟨l, rfl, by simpa using h⟩
  | succ k ih =>
    intro l xs h hk
    have hne : xs ≠ [] := by intro e; subst e; simp at hk
    obtain ⟨ini, w, rfl⟩ := snoc_of_ne_nil xs hne
    obtain ⟨l1, e1, c1⟩ := dropNode_chain l ini [] w h
    rw [List.append_nil] at c1
    simp only [List.length_append, List.length_singleton] at hk
    obtain ⟨l2, e2, c2⟩ := ih l1 ini c1 (by omega)
    refine ⟨l2, by simp only [shrink, h.tail, lastAddr_snoc, e1, e2], ?_⟩
    have : (ini ++ [w]).length - (k + 1) = ini.length - k := by simp
    rw [this, List.take_append_of_le_length (by omega)]
    exact c2

theorem grow_chain (z : α) : ∀ (k : Nat) (l : LL α) (xs : List (Nat × α)), Chain l xs →
    ∃ l' xs', l.grow z k = (l', .ok) ∧ Chain l' xs' ∧ vals xs' = vals xs ++ List.replicate k z := by
  intro k
  induction k with
  | zero => intro l xs h; exact ⟨l, xs, rfl, h, by simp⟩
  | succ k ih =>
    intro l xs h
    obtain ⟨l1, e1, c1⟩ := push_chain l xs h z
    obtain ⟨l2, xs2, e2, c2, v2⟩ := ih l1 _ c1
    refine ⟨l2, xs2, by simp only [grow, e1, e2], c2, ?_⟩
    rw [v2, vals_append, List.replicate_succ]
    simp [vals]

theorem resize_chain (z : α) (l : LL α) (xs : List (Nat × α)) (h : Chain l xs) (n : Nat) :
    ∃ l' xs', l.resize z n = (l', .ok) ∧ Chain l' xs' ∧
      vals xs' = (vals xs).take n ++ List.replicate (n - xs.length) z := by
  by_cases hn : n = 0
  · obtain ⟨l', e, c⟩ := clear_chain l xs h
    exact ⟨l', [], by simp only [resize, hn, if_true, e], c, by simp [hn, vals]⟩
  · obtain ⟨l1, e1, c1⟩ := shrink_chain (l.nitems - n) l xs h (by rw [h.count]; omega)
    obtain ⟨l2, xs2, e2, c2, v2⟩ := grow_chain z (n - l1.nitems) l1 _ c1
    refine ⟨l2, xs2, by simp only [resize, hn, if_false, e1, e2], c2, ?_⟩
    rw [v2, vals_take, c1.count, h.count, List.length_take]
    -- shrinking leaves `min n |xs|` elements, growing adds the `n - min n |xs|` missing ones
    rw [Nat.sub_sub_eq_min, Nat.min_comm xs.length n, Nat.min_assoc, Nat.min_self, ← vals_length xs, ← List.take_eq_take_min,
      show n - min n (vals xs).length = n - (vals xs).length by omega]

section
variable [DecidableEq α] (z : α) {l : LL α} {xs : List (Nat × α)}

theorem push_meets (h : Chain l xs) (v : α) : Meets Chained l (l.push v) (listSpec z (vals xs) (.push v)) := by
  obtain ⟨l', e, c⟩ := push_chain l xs h v
  rw [e]; exact .ok c.chained (by simp [listSpec, vals])

theorem pop_meets (h : Chain l xs) : Meets Chained l l.pop (listSpec z (vals xs) .pop) := by
  by_cases e : xs = []
  · subst e
    rw [show l.pop = (l, .index) by simp [pop, h.nil_iff.mpr rfl]]
    exact .raise h.chained rfl
  · obtain ⟨ini, w, rfl⟩ := snoc_of_ne_nil xs e
    obtain ⟨l', e1, c1⟩ := dropNode_chain l ini [] w h
    have hn : l.nitems ≠ 0 := fun c => e (h.nil_iff.mp c)
    rw [show l.pop = (l', .ok) by simp only [pop, hn, if_false, h.tail, lastAddr_snoc, e1]]
    exact .ok c1.chained (by simp [listSpec, vals])

theorem pushAt_meets (h : Chain l xs) (v : α) (i : Int) : Meets Chained l (l.pushAt v i) (listSpec z (vals xs) (.pushAt v i)) := by
  by_cases hi : i = 0
  · obtain ⟨l', e, c⟩ := insert_chain l [] xs v h (fun _ => none) (fun l1 => l1.head) rfl (by simpa [alloc, store] using h.head)
    rw [show l.pushAt v i = (l', .ok) by simp only [pushAt, hi, if_true, e]]
    exact .ok c.chained (by simp [listSpec, hi, vals])
  · cases hk : idxOf xs.length i with
    | none =>
      rw [show l.pushAt v i = (l, .index) by simp only [pushAt, hi, if_false, nodeAt_oob l xs h i hk]]
      exact .raise h.chained (by simp only [listSpec, hi, if_false, vals_length, hk])
    | some k =>
      obtain ⟨hkl, en, h'⟩ := nodeAt_node l xs h i k hk
      obtain ⟨_, hx, _⟩ := h'.split
      obtain ⟨l', e, c⟩ := insert_chain l (xs.take k) (xs[k] :: xs.drop (k + 1)) v h' (fun _ => lastAddr (xs.take k) none)
        (fun _ => some xs[k].1) rfl rfl
      rw [show l.pushAt v i = (l', .ok) by simp only [pushAt, hi, if_false, en, hx, e]]
      rw [← List.drop_eq_getElem_cons hkl] at c
      exact .ok c.chained (by simp only [listSpec, hi, if_false, vals_length, hk, vals_append, vals_cons, vals_take, vals_drop])

theorem popAt_meets (h : Chain l xs) (i : Int) : Meets Chained l (l.popAt i) (listSpec z (vals xs) (.popAt i)) := by
  cases hk : idxOf xs.length i with
  | none =>
    rw [show l.popAt i = (l, .index) by simp only [popAt, nodeAt_oob l xs h i hk]]
    exact .raise h.chained (by simp only [listSpec, vals_length, hk])
  | some k =>
    obtain ⟨hkl, en, h'⟩ := nodeAt_node l xs h i k hk
    obtain ⟨l', e, c⟩ := dropNode_chain l _ _ _ h'
    rw [show l.popAt i = (l', .ok) by simp only [popAt, en, e]]
    exact .ok c.chained (by simp only [listSpec, vals_length, hk, vals_append, vals_take, vals_drop])

theorem rem_meets (h : Chain l xs) (v : α) : Meets Chained l (l.rem v) (listSpec z (vals xs) (.rem v)) := by
  rcases findFrom_seg l v xs none (l.brk + 1) h.seg (Nat.lt_succ_of_le h.room) with ⟨h1, h2⟩ | ⟨pre, x, post, rfl, h2, h3, h4⟩
  · rw [show l.rem v = (l, .value) by simp only [rem, h.head, h2]]
    exact .raise h.chained (by simp only [listSpec, h1, if_false])
  · obtain ⟨l', e, c⟩ := dropNode_chain l pre post x h
    rw [show l.rem v = (l', .ok) by simp only [rem, h.head, h4, e]]
    refine .ok c.chained ?_
    have hv : v ∈ vals (pre ++ x :: post) := by simp [vals_append, vals_cons, h2]
    simp only [listSpec, hv, if_true]
    rw [vals_append, vals_append, vals_cons, List.erase_append_right _ h3, ← h2, List.erase_cons_head]

/-- List_Set overwrites the element of one node: no link word, `head`, `tail` or address changes -/
theorem put_meets (h : Chain l xs) (i : Int) (v : α) : Meets Chained l (l.put i v) (listSpec z (vals xs) (.put i v)) := by
  cases hk : idxOf xs.length i with
  | none =>
    rw [show l.put i v = (l, .index) by simp only [put, nodeAt_oob l xs h i hk]]
    exact .raise h.chained (by simp only [listSpec, vals_length, hk])
  | some k =>
    obtain ⟨hkl, en, h'⟩ := nodeAt_node l xs h i k hk
    obtain ⟨sx, hx, sy, hh, ht, ndx, ndy, nx, ny, dis⟩ := h'.split
    rw [show l.put i v = (l.store xs[k].1 (some ⟨v, firstAddr (xs.drop (k + 1)) none, lastAddr (xs.take k) none⟩), .ok) by
      simp only [put, en, hx]]
    have ha : addrs (xs.take k ++ (xs[k].1, v) :: xs.drop (k + 1)) = addrs (xs.take k ++ xs[k] :: xs.drop (k + 1)) := by
      simp only [addrs, List.map_append, List.map_cons]
    have hl : (xs.take k ++ (xs[k].1, v) :: xs.drop (k + 1)).length = (xs.take k ++ xs[k] :: xs.drop (k + 1)).length := by
      simp only [List.length_append, List.length_cons]
    refine .ok (Chain.chained (xs := xs.take k ++ (xs[k].1, v) :: xs.drop (k + 1)) ⟨?_, ?_, ?_, ha ▸ h'.nodup, ha ▸ h'.fresh, ?_, ?_⟩)
      (by simp only [listSpec, vals_length, hk, vals_append, vals_cons, vals_take, vals_drop])
    · rw [Seg_append]
      exact ⟨Seg_store _ nx sx, by simp [store], Seg_store _ ny sy⟩
    · simp only [store, hh, firstAddr_append]; rfl
    · simp only [store, ht, lastAddr_append, lastAddr_cons]
    · rw [hl]; exact h'.room
    · rw [hl]; exact h'.count

/-- **one mutation** of a chained list meets `listSpec`; in particular the model of List.c never leaves the object (no `undef`) -/
theorem step_meets {vs : List α} (h : Chained l vs) (op : SOp α) : Meets Chained l (LL.step z l op) (listSpec z vs op) := by
  obtain ⟨xs, h, rfl⟩ := h
  cases op with
  | push v => exact push_meets z h v
  | pop => exact pop_meets z h
  | pushAt v i => exact pushAt_meets z h v i
  | popAt i => exact popAt_meets z h i
  | rem v => exact rem_meets z h v
  | put i v => exact put_meets z h i v
  | concat ws =>
    obtain ⟨l', xs', e, c, hv⟩ := concat_chain ws l xs h
    show Meets Chained l (l.concat ws) _
    rw [e]; exact .ok c.chained (by rw [hv]; rfl)
  | resize n =>
    obtain ⟨l', xs', e, c, hv⟩ := resize_chain z l xs h n
    show Meets Chained l (l.resize z n) _
    rw [e]; exact .ok c.chained (by rw [hv, ← vals_length xs]; rfl)

theorem step_chain (l : LL α) (xs : List (Nat × α)) (h : Chain l xs) (op : SOp α) :
    ∃ l' xs', LL.step z l op = (l', (listSpec z (vals xs) op).2) ∧ Chain l' xs' ∧
      vals xs' = (listSpec z (vals xs) op).1 ∧ ((listSpec z (vals xs) op).2 ≠ .ok → l' = l) :=
  let ⟨l', e, ⟨xs', c, hv⟩, hl⟩ := step_meets z h.chained op
  ⟨l', xs', e, c, hv, hl⟩

end

/-- the abstract run of a history: the sequence of elements after it and the outcome of every mutation -/
def specRun {α : Type} [DecidableEq α] (z : α) : List α → List (SOp α) → List α × List MOut
  | vs, [] => (vs, [])
  | vs, op :: ops =>
    let (vs1, o) := listSpec z vs op
    let (vs2, os) := specRun z vs1 ops
    (vs2, o :: os)

theorem listSpec_ne_undef [DecidableEq α] (z : α) (vs : List α) (op : SOp α) : (listSpec z vs op).2 ≠ .undef := by
  cases op <;> simp only [listSpec] <;> (repeat' split) <;> simp

theorem run_cons [DecidableEq α] (z : α) {l l1 : LL α} {op : SOp α} {o : MOut} (h : LL.step z l op = (l1, o)) (ho : o ≠ .undef)
    (ops : List (SOp α)) : LL.run z l (op :: ops) = ((LL.run z l1 ops).1, o :: (LL.run z l1 ops).2) := by
  cases o <;> first | exact absurd rfl ho | simp only [run, h]

theorem run_chain [DecidableEq α] (z : α) (ops : List (SOp α)) (l : LL α) (xs : List (Nat × α)) (h : Chain l xs) :
    ∃ l' xs', LL.run z l ops = (l', (specRun z (vals xs) ops).2) ∧ Chain l' xs' ∧
      vals xs' = (specRun z (vals xs) ops).1 :=
  let ⟨l', e, xs', c, hv⟩ := history_meets Chained (listSpec z) (LL.run z) (specRun z) (fun _ => rfl) (fun _ => rfl) (fun _ _ _ => rfl)
    (fun _ vs op h => let ⟨l1, e, r1, _⟩ := step_meets z h op; ⟨l1, r1, run_cons z e (listSpec_ne_undef z vs op)⟩) ops l _ h.chained
  ⟨l', xs', e, c, hv⟩

theorem specRun_no_undef [DecidableEq α] (z : α) : ∀ (ops : List (SOp α)) (vs : List α),
    (specRun z vs ops).2.contains .undef = false :=
  history_no_undef (listSpec z) (specRun z) (fun _ => rfl) (fun _ _ _ => rfl) (listSpec_ne_undef z)

theorem chain_empty : Chain (empty : LL α) [] :=
  ⟨trivial, rfl, rfl, by simp [addrs], fun a ha => by simp [addrs] at ha, by simp, rfl⟩

/-- `new(List, T, v…)` -/
theorem new_chain (vs : List α) : ∃ l xs, LL.new vs = (l, .ok) ∧ Chain l xs ∧ vals xs = vs := by
  obtain ⟨l, xs, e, c, v⟩ := concat_chain vs empty [] chain_empty
  exact ⟨l, xs, e, c, by simpa [vals] using v⟩

theorem new_run_chain [DecidableEq α] (z : α) (init : List α) (ops : List (SOp α)) :
    ∃ l0 l xs, LL.new init = (l0, .ok) ∧ LL.run z l0 ops = (l, (specRun z init ops).2) ∧ Chain l xs ∧
      vals xs = (specRun z init ops).1 := by
  obtain ⟨l0, xs0, e0, c0, rfl⟩ := new_chain init
  obtain ⟨l, xs, e, c, v⟩ := run_chain z ops l0 xs0 c0
  exact ⟨l0, l, xs, e0, e, c, v⟩

end LL
end Cello.Iter
