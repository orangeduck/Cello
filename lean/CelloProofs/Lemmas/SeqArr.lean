/-
  One step of the Array model against the abstract step; observations; the capacity invariant and what the two
  policy functions guarantee (that every step keeps the invariant is read off the blocks, in SeqStoreArr).
-/
import CelloProofs.Lemmas.SeqBasic

namespace Cello.Seq
variable {α : Type}

namespace Arr

/-- the push loop of `Array_Assign` from an iterator-only source (and of any `foreach … push`): contents -/
theorem foldl_push_items (ys : List α) : ∀ (a : Arr α),
    (ys.foldl (fun a y => (a.push y).1) a).items = a.items ++ ys := by
  induction ys with
  | nil => intro a; simp
  | cons y ys ih => intro a; rw [List.foldl_cons, ih]; simp [push]

theorem pushAt_eq (a : Arr α) (x : α) (i : Int) :
    a.pushAt x i = (Spec.arrInsIdx a.items.length i).elim (a, .raised .indexOutOfBounds) (fun k =>
      ({ items := a.items.take k ++ x :: a.items.drop k, nslots := reserveMore (a.items.length + 1) a.nslots }, .ok ())) :=
  by rw [arrInsIdx_elim]; rfl

theorem popAt_eq (a : Arr α) (i : Int) :
    a.popAt i = (Spec.idx a.items.length i).elim (a, .raised .indexOutOfBounds) (fun k =>
      ({ items := a.items.take k ++ a.items.drop (k + 1), nslots := reserveLess (a.items.length - 1) a.nslots }, .ok ())) :=
  by rw [idx_elim]; rfl

theorem set_eq (a : Arr α) (i : Int) (x : α) :
    a.set i x = (Spec.idx a.items.length i).elim (a, .raised .indexOutOfBounds) (fun k =>
      ({ a with items := a.items.set k x }, .ok ())) :=
  by rw [idx_elim]; rfl

theorem step_spec [BEq α] (a : Arr α) (op : Op α) :
    match Spec.arrStep a.items op with
    | some l' => (a.step op).2 = .ok () ∧ (a.step op).1.items = l'
    | none => (a.step op).1 = a ∧ ∃ e, (a.step op).2 = .raised e := by
  cases op with
  | push x => exact ⟨rfl, rfl⟩
  | append x => exact ⟨rfl, rfl⟩
  | concat ys => exact ⟨rfl, rfl⟩
  | sort f => exact ⟨rfl, rfl⟩
  | pop =>
    obtain ⟨l, s⟩ := a
    cases l with
    | nil => exact ⟨rfl, _, rfl⟩
    | cons y ys => exact ⟨rfl, rfl⟩
  | pushAt x i =>
    simp only [Spec.arrStep, step, pushAt_eq]
    cases hk : Spec.arrInsIdx a.items.length i with
    | none => exact ⟨rfl, _, rfl⟩
    | some k => exact ⟨rfl, take_cons_drop_eq_insertIdx _ _ _ (arrInsIdx_some _ _ _ hk).2.2⟩
  | popAt i =>
    simp only [Spec.arrStep, step, popAt_eq]
    cases Spec.idx a.items.length i with
    | none => exact ⟨rfl, _, rfl⟩
    | some k => exact ⟨rfl, (List.eraseIdx_eq_take_drop_succ ..).symm⟩
  | set i x =>
    simp only [Spec.arrStep, step, set_eq]
    cases Spec.idx a.items.length i with
    | none => exact ⟨rfl, _, rfl⟩
    | some k => exact ⟨rfl, rfl⟩
  | rem x =>
    simp only [Spec.arrStep, step, rem]
    cases hf : a.items.findIdx? (· == x) with
    | none => rw [show Spec.mem a.items x = false from (findIdx?_none_any _ _).1 hf]; exact ⟨rfl, _, rfl⟩
    | some k =>
      obtain ⟨hk, he⟩ := findIdx?_erase _ _ _ hf
      rw [show Spec.mem a.items x = true from findIdx?_some_any _ _ _ hf]
      show (a.popAt k).2 = .ok () ∧ (a.popAt k).1.items = a.items.erase x
      rw [popAt_eq, idx_natCast hk]
      exact ⟨rfl, (List.eraseIdx_eq_take_drop_succ ..).symm.trans he⟩
  | resize n =>
    cases n with
    | zero => exact ⟨rfl, List.take_zero.symm⟩
    | succ n => exact ⟨rfl, rfl⟩
  | assign ys b =>
    cases b with
    | true => exact ⟨rfl, rfl⟩
    | false => exact ⟨rfl, (foldl_push_items ys _).trans (List.nil_append ys)⟩

theorem step_refines [BEq α] (a : Arr α) (op : Op α) (l' : List α)
    (h : Spec.arrStep a.items op = some l') : (a.step op).2 = .ok () ∧ (a.step op).1.items = l' := by
  have := step_spec a op; rwa [h] at this

theorem step_out_of_range [BEq α] (a : Arr α) (op : Op α) (h : Spec.arrStep a.items op = none) :
    (a.step op).1 = a ∧ ∃ e, (a.step op).2 = .raised e := by
  have := step_spec a op; rwa [h] at this

theorem step_ne_ub [BEq α] (a : Arr α) (op : Op α) : (a.step op).2 ≠ .ub := by
  cases hs : Spec.arrStep a.items op with
  | some l' => rw [(step_refines a op l' hs).1]; intro h; cases h
  | none => obtain ⟨_, e, he⟩ := step_out_of_range a op hs; rw [he]; intro h; cases h

theorem get_eq (a : Arr α) (i : Int) :
    a.get i = match Spec.get a.items i with
      | some x => .ok x
      | none => .raised .indexOutOfBounds :=
  get_spec a.items i

theorem iterFwd_eq (a : Arr α) : a.iterFwd = some a.items :=
  collect_upto a.items a.iterNext _ (fun _ hk => if_neg (Nat.not_le.2 (Nat.lt_sub_of_add_lt hk)))
    (fun _ hk => if_pos (Nat.le_of_eq (Nat.sub_eq_of_eq_add hk.symm))) fun _ hk => List.getElem?_eq_getElem hk

theorem iterBwd_eq (a : Arr α) : a.iterBwd = some a.items.reverse :=
  collect_downto a.items a.iterPrev _ (fun _ => rfl) rfl fun _ hk => List.getElem?_eq_getElem hk

/-- the capacity invariant: no element record lies outside the backing store -/
def CapOk (a : Arr α) : Prop := a.items.length ≤ a.nslots

theorem reserveMore_ge (n s : Nat) : n ≤ reserveMore n s := by unfold reserveMore; split <;> omega
theorem reserveLess_ge (n s : Nat) (h : n ≤ s) : n ≤ reserveLess n s := by unfold reserveLess; split <;> omega

end Arr
end Cello.Seq
