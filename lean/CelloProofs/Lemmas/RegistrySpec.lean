/-
  The ledger of the property text ("allocated and neither deleted nor reclaimed"), which does not look at the collector's
  `running` flag, and the two regions in which the code departs from it: allocation / deletion while the collector is
  stopped (`ReachI` against `ReachQ`), and `dealloc` / `dealloc_root` of a registered object (`ReachD`).
-/
import Cello.Registry
import CelloProofs.Lemmas.RegistryKillsHist
namespace Cello.Registry

/-- the ledger of the property text together with the `running` flag the history itself determines (`stop` / `start`).
    Every managed allocation adds its object and every `del` removes it, whatever the flag; a collection triggered by an
    allocation happens only while running.  The only thing read from the model state is *when* an allocation collects. -/
def idealStep (r : Reg) (S : Ledger × Bool) : Op → Ledger × Bool
  | .new p root marks =>
    (if S.2 && decide (r.nitems + 1 > r.mitems) then collectL ((p, root) :: S.1) marks else (p, root) :: S.1, S.2)
  | .newRaw _ => S
  | .del p => (S.1.filter (fun y => y.1 != p), S.2)
  | .delRaw _ => S
  | .sweep marks => (collectL S.1 marks, S.2)
  | .stop => (S.1, false)
  | .start => (S.1, true)

/-- all histories, against the ledger of the property text -/
inductive ReachI (c : Cfg) : Reg → Ledger × Bool → Prop where
  | init : ReachI c Reg.init ([], true)
  | step {r : Reg} {S : Ledger × Bool} {op : Op} {r' : Reg} :
      ReachI c r S → okOp S.1 op → step c r op = some r' → ReachI c r' (idealStep r S op)

/-- no allocation and no deletion through the collector while it is stopped -/
def Quiet (S : Ledger × Bool) : Op → Prop
  | .new _ _ _ => S.2 = true
  | .del _ => S.2 = true
  | _ => True

/-- the histories that keep out of the stopped window -/
inductive ReachQ (c : Cfg) : Reg → Ledger × Bool → Prop where
  | init : ReachQ c Reg.init ([], true)
  | step {r : Reg} {S : Ledger × Bool} {op : Op} {r' : Reg} :
      ReachQ c r S → okOp S.1 op → Quiet S op → step c r op = some r' → ReachQ c r' (idealStep r S op)

theorem idealStep_quiet (r : Reg) (S : Ledger × Bool) (op : Op) (hrun : r.running = S.2) (hq : Quiet S op) :
    idealStep r S op = (ledgerStep r S.1 op, runAfter S.2 op) := by
  cases op with
  | new p root marks =>
    have hq' : S.2 = true := hq
    simp only [idealStep, ledgerStep, runAfter, hrun, hq', Bool.true_and, if_true, decide_eq_true_eq]
  | del p =>
    have hq' : S.2 = true := hq
    simp only [idealStep, ledgerStep, runAfter, hrun, hq', if_true]
  | _ => rfl

theorem reachQ_reach (c : Cfg) (g : GoodCfg c) (r : Reg) (S : Ledger × Bool) (h : ReachQ c r S) :
    Reach c r S.1 ∧ r.running = S.2 := by
  induction h with
  | init => exact ⟨Reach.init, rfl⟩
  | @step r S op r' _ hok hq hstep ih =>
    obtain ⟨hr, hrun⟩ := ih
    obtain ⟨r'', h1, _, h3⟩ := step_wf c g r S.1 (reach_wf c g r S.1 hr) op hok
    rw [hstep] at h1; cases h1
    rw [idealStep_quiet r S op hrun hq]
    exact ⟨Reach.step hr hok hstep, by rw [h3, hrun]⟩

/-- histories that also use `dealloc` / `dealloc_raw` / `dealloc_root` (src/Alloc.c) on managed objects: the block is
    released — the object is no longer live — and the collector is not told.  `del_raw` of a managed object is the same
    transition (`del_raw` is `dealloc(destruct(self))` without GC_Rem; `okOp (.delRaw p)` keeps it out of the histories of
    `Reach`): constructor `dealloc` models both entrances to KF-C17-dealloc-stale (for the `del_raw` one see also
    `C17_del_raw_managed_refuted`). -/
inductive ReachD (c : Cfg) : Reg → Ledger → Prop where
  | init : ReachD c Reg.init []
  | step {r : Reg} {L : Ledger} {op : Op} {r' : Reg} :
      ReachD c r L → okOp L op → step c r op = some r' → ReachD c r' (ledgerStep r L op)
  | dealloc {r : Reg} {L : Ledger} (p : Nat) : ReachD c r L → ReachD c r (L.filter (fun y => y.1 != p))

theorem reach_reachD (c : Cfg) (r : Reg) (L : Ledger) (h : Reach c r L) : ReachD c r L := by
  induction h with
  | init => exact ReachD.init
  | step _ hok hstep ih => exact ReachD.step ih hok hstep

end Cello.Registry
