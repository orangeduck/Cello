/-
  CelloProofs/Lemmas/RHErase.lean — backward-shift deletion (`RH.shiftLoop`, `RH.eraseAt`, defined in Cello/Registry.lean:
  the inner loop of GC_Rem_Ptr / GC_Sweep; Table_Rem's `shiftBack` is the same loop, `shiftBack_eq` in
  Lemmas/TableErase.lean), followed through `Hole` states: `eraseAt_spec`.
-/
import CelloProofs.Lemmas.RHMem
namespace RH
variable {κ ε : Type} {n : Nat}

theorem getElem_set_none {s : Slots κ ε n} {i q : Nat} {hi : i < n} {hq : q < n} {e : Entry κ ε}
    (h : (s.set i none hi)[q] = some e) : q ≠ i ∧ s[q] = some e :=
  (getElem_set_some h).resolve_left fun h => nomatch h.2

theorem getElem_set2 (s : Slots κ ε n) (j nj : Nat) (hj : j < n) (hnj : nj < n) (v : Option (Entry κ ε)) (q : Nat) (hq : q < n) :
    ((s.set j v hj).set nj none hnj)[q] = if nj = q then none else if j = q then v else s[q] := by
  rw [Vector.getElem_set]; split
  · rfl
  · rw [Vector.getElem_set]

/-- what the table holds after one move of the backward shift: the moved entry in slot `j`, old entries elsewhere, nothing
    in the new hole -/
theorem getElem_shifted {s : Slots κ ε n} {j nj : Nat} {hj : j < n} {hnj : nj < n} {e x : Entry κ ε} {q : Nat} {hq : q < n}
    (hx : ((s.set j (some e) hj).set nj none hnj)[q] = some x) : (q = j ∧ x = e) ∨ (q ≠ j ∧ q ≠ nj ∧ s[q] = some x) := by
  obtain ⟨h1, hx⟩ := getElem_set_none hx
  exact (getElem_set_some hx).imp (And.imp_right fun h => (Option.some.inj h).symm) fun ⟨h2, hx⟩ => ⟨h2, h1, hx⟩

/-- State of the backward shift: slot `j` is a hole; the invariant holds everywhere except possibly at the slot after the
    hole, which is supported by a *ghost* entry at distance `g` from its home sitting in the hole. -/
structure Hole (hash : κ → Nat) (s : Slots κ ε n) (j g : Nat) : Prop where
  hj : j < n
  home_ok : ∀ i (hi : i < n) e, s[i] = some e → e.home = hash e.key % n
  distinct : ∀ a b (ha : a < n) (hb : b < n) e e', s[a] = some e → s[b] = some e' → e.key = e'.key → a = b
  empty : s[j]'hj = none
  loc : ∀ q (hq : q < n) e, s[q] = some e → 0 < dist n q e.home → q ≠ next n j →
          ∃ e', s[prev n q]'(prev_lt hq) = some e' ∧ dist n q e.home ≤ dist n (prev n q) e'.home + 1
  ghost_next : ∀ e, s[next n j]'(next_lt hj) = some e → dist n (next n j) e.home ≤ g + 1
  ghost_prev : 0 < g → ∃ e', s[prev n j]'(prev_lt hj) = some e' ∧ g ≤ dist n (prev n j) e'.home + 1

/-- zeroing an occupied slot of a table that satisfies the invariant gives a hole state, the ghost being the entry that was
    there -/
theorem hole_init (hash : κ → Nat) (s : Slots κ ε n) (inv : Inv0 hash s) (i : Nat) (hi : i < n) (x : Entry κ ε)
    (hx : s[i] = some x) : Hole hash (s.set i none hi) i (dist n i x.home) := by
  refine ⟨hi, ?_, ?_, ?_, ?_, ?_, ?_⟩
  · intro q hq e he; exact inv.home_ok q hq e (getElem_set_none he).2
  · intro a b ha hb e e' hea heb hk
    exact inv.distinct a b ha hb e e' (getElem_set_none hea).2 (getElem_set_none heb).2 hk
  · rw [Vector.getElem_set_self]
  · intro q hq e he hpos hne
    obtain ⟨e', he', hle⟩ := inv.loc q hq e (getElem_set_none he).2 hpos
    refine ⟨e', ?_, hle⟩
    rw [Vector.getElem_set_ne hi (prev_lt hq) (fun h => hne (eq_next_of_prev_eq hq h.symm))]; exact he'
  · intro e he
    by_cases hpos : 0 < dist n (next n i) e.home
    · obtain ⟨e', he', hle⟩ := inv.loc (next n i) (next_lt hi) e (getElem_set_none he).2 hpos
      rw [getElem_congr_idx prev_next, hx] at he'
      cases he'
      rw [prev_next] at hle; exact hle
    · omega
  · intro hg
    obtain ⟨e', he', hle⟩ := inv.loc i hi x hx hg
    have hne : i ≠ prev n i := by
      intro h
      have h1 := dist_next_slot hi (home_lt inv.home_ok hi hx)
      rw [(congrArg (next n) h).trans (next_prev hi)] at h1
      omega
    refine ⟨e', ?_, hle⟩
    rw [Vector.getElem_set_ne hi (prev_lt hi) hne]; exact he'

/-- one move of the backward shift keeps the hole state (hole advances, ghost = the moved entry's old distance) -/
theorem hole_step (hash : κ → Nat) (s : Slots κ ε n) (j g : Nat) (H : Hole hash s j g) (e : Entry κ ε)
    (he : s[next n j]'(next_lt H.hj) = some e) (hd : 0 < dist n (next n j) e.home) :
    Hole hash ((s.set j (some e) H.hj).set (next n j) none (next_lt H.hj)) (next n j) (dist n (next n j) e.home) := by
  have hj := H.hj
  have hnj := next_lt hj
  have hne : next n j ≠ j := ne_of_occ_empty s hnj hj he H.empty
  have heh : e.home < n := home_lt H.home_ok hnj he
  have hdj : dist n j e.home + 1 = dist n (next n j) e.home := by have := dist_next_slot hj heh; omega
  have keep : ∀ q (hq : q < n), q ≠ j → q ≠ next n j →
      ((s.set j (some e) hj).set (next n j) none hnj)[q] = s[q] := by
    intro q hq h1 h2; rw [getElem_set2, if_neg (Ne.symm h2), if_neg (Ne.symm h1)]
  refine ⟨hnj, ?_, ?_, ?_, ?_, ?_, ?_⟩
  · intro q hq x hx
    rcases getElem_shifted hx with ⟨_, rfl⟩ | ⟨_, _, h⟩
    · exact H.home_ok _ hnj x he
    · exact H.home_ok q hq x h
  · -- the moved entry is still the only one with its key: as an old entry it sat in slot `next j`
    intro a b ha hb x y hx hy hk
    rcases getElem_shifted hx with ⟨ha', hxe⟩ | ⟨_, ha', hx'⟩ <;> rcases getElem_shifted hy with ⟨hb', hye⟩ | ⟨_, hb', hy'⟩
    · rw [ha', hb']
    · exact absurd (H.distinct (next n j) b hnj hb e y he hy' (hxe ▸ hk)).symm hb'
    · exact absurd (H.distinct a (next n j) ha hnj x e hx' he (hye ▸ hk)) ha'
    · exact H.distinct a b ha hb x y hx' hy' hk
  · rw [Vector.getElem_set_self]
  · intro q hq x hx hpos hqn
    rcases getElem_shifted hx with ⟨rfl, rfl⟩ | ⟨hq1, hq2, hx⟩
    · -- the moved entry, one slot closer to home, is supported by what supported the ghost
      have hgn := H.ghost_next x he
      obtain ⟨e', he', hle⟩ := H.ghost_prev (by omega)
      have hp1 : prev n q ≠ q := ne_of_occ_empty s (prev_lt hq) hq he' H.empty
      have hp2 : prev n q ≠ next n q := by
        intro h
        have h1 := dist_next_slot hnj heh
        rw [show next n (next n q) = q by rw [← h, next_prev hq]] at h1
        omega
      exact ⟨e', by rw [keep _ _ hp1 hp2]; exact he', by omega⟩
    · obtain ⟨e', he', hle⟩ := H.loc q hq x hx hpos hq2
      refine ⟨e', ?_, hle⟩
      rw [keep _ _ (fun h => hq2 (eq_next_of_prev_eq hq h)) (fun h => hqn (eq_next_of_prev_eq hq h))]; exact he'
  · -- the slot after the new hole is supported by the moved entry's old position
    intro f hf
    rcases getElem_shifted hf with ⟨h, rfl⟩ | ⟨_, h2, hf⟩
    · rw [h]; omega
    · by_cases hpos : 0 < dist n (next n (next n j)) f.home
      · obtain ⟨e', he', hle⟩ := H.loc _ (next_lt hnj) f hf hpos h2
        rw [getElem_congr_idx prev_next, he] at he'
        cases he'
        rw [prev_next] at hle; exact hle
      · omega
  · intro _
    refine ⟨e, ?_, by rw [prev_next]; omega⟩
    rw [getElem_congr_idx prev_next, getElem_set2, if_neg hne, if_pos rfl]

/-- when the shift stops (the slot after the hole is empty or holds an entry at its home) the invariant holds again -/
theorem hole_stop (hash : κ → Nat) (s : Slots κ ε n) (j g : Nat) (H : Hole hash s j g)
    (hstop : ∀ e, s[next n j]'(next_lt H.hj) = some e → dist n (next n j) e.home = 0) : Inv0 hash s := by
  refine ⟨H.home_ok, H.distinct, ?_⟩
  intro q hq e he hpos
  by_cases hqn : q = next n j
  · subst hqn
    have := hstop e he; omega
  · exact H.loc q hq e he hpos hqn

theorem hole_step_mem (s : Slots κ ε n) (j : Nat) (hj : j < n) (hempty : s[j] = none) (e : Entry κ ε)
    (he : s[next n j]'(next_lt hj) = some e) (e0 : Entry κ ε) :
    Mem ((s.set j (some e) hj).set (next n j) none (next_lt hj)) e0 ↔ Mem s e0 := by
  have hnj := next_lt hj
  have hne : next n j ≠ j := ne_of_occ_empty s hnj hj he hempty
  constructor
  · rintro ⟨q, hq, h⟩
    rcases getElem_shifted h with ⟨_, rfl⟩ | ⟨_, _, h⟩
    · exact ⟨_, hnj, he⟩
    · exact ⟨q, hq, h⟩
  · rintro ⟨q, hq, h⟩
    by_cases h1 : next n j = q
    · subst h1
      rw [he] at h; cases h
      exact ⟨j, hj, by rw [getElem_set2, if_neg hne]; simp⟩
    · by_cases h2 : j = q
      · subst h2; rw [hempty] at h; cases h
      · exact ⟨q, hq, by rw [getElem_set2, if_neg h1, if_neg h2]; exact h⟩

theorem hole_step_occ (s : Slots κ ε n) (j : Nat) (hj : j < n) (hempty : s[j] = none) (e : Entry κ ε)
    (he : s[next n j]'(next_lt hj) = some e) :
    occ ((s.set j (some e) hj).set (next n j) none (next_lt hj)) = occ s := by
  have hnj := next_lt hj
  have hne : next n j ≠ j := ne_of_occ_empty s hnj hj he hempty
  have h1 := occ_set_some_none (s.set j (some e) hj) (next n j) hnj e
    (by rw [Vector.getElem_set_ne hj hnj (Ne.symm hne)]; exact he)
  have h2 := occ_set_none_some s j hj e hempty
  omega

/-- **Backward shift.**  From a hole state with an empty slot `z ≠ j` somewhere, the loop terminates within `dist z j`
    iterations, re-establishes the invariant, keeps exactly the stored entries and their number, never writes to `z`,
    and leaves in every slot its old content or, between the hole and `z`, its old successor's. -/
theorem shiftLoop_spec (hash : κ → Nat) :
    ∀ (fuel : Nat) (s : Slots κ ε n) (j g : Nat) (H : Hole hash s j g) (z : Nat) (hz : z < n),
      s[z] = none → z ≠ j → dist n z j ≤ fuel →
      ∃ s', shiftLoop fuel s j H.hj = some s' ∧ Inv0 hash s' ∧ s'[z] = none ∧ (∀ e, Mem s' e ↔ Mem s e) ∧ occ s' = occ s ∧
        ∀ q (hq : q < n) e, s'[q] = some e →
          s[q] = some e ∨ (dist n z (next n q) < dist n z j ∧ s[next n q]'(next_lt hq) = some e) := by
  intro fuel
  induction fuel with
  | zero =>
    intro s j g H z hz hze hne hf
    have := dist_pos_of_ne H.hj hz hne.symm
    omega
  | succ fuel ih =>
    intro s j g H z hz hze hne hf
    have hj := H.hj
    unfold shiftLoop
    split
    · rename_i hnone
      exact ⟨s, rfl, hole_stop hash s j g H (fun e he => by rw [hnone] at he; cases he), hze, fun _ => Iff.rfl, rfl,
        fun _ _ _ h => Or.inl h⟩
    · rename_i e he
      by_cases hd : dist n (next n j) e.home > 0
      · rw [if_pos hd]
        have H' := hole_step hash s j g H e he hd
        have hnz : next n j ≠ z := ne_of_occ_empty s (next_lt hj) hz he hze
        have hze' : ((s.set j (some e) hj).set (next n j) none (next_lt hj))[z] = none := by
          rw [getElem_set2, if_neg hnz, if_neg (Ne.symm hne)]; exact hze
        have hdz := dist_next_fwd hj hz (Ne.symm hne)
        have hlt' : dist n z (next n j) < dist n z j := by omega
        obtain ⟨s', hs', hinv, hz', hmem, hocc, hpos⟩ := ih _ (next n j) _ H' z hz hze' (Ne.symm hnz) (by omega)
        refine ⟨s', hs', hinv, hz', ?_, ?_, ?_⟩
        · intro e0; rw [hmem e0]; exact hole_step_mem s j hj H.empty e he e0
        · rw [hocc]; exact hole_step_occ s j hj H.empty e he
        · -- slot `j` took its successor's entry; a slot whose successor is `j` is behind the hole
          intro q hq e0 h
          rcases hpos q hq e0 h with h1 | ⟨hlt, h1⟩ <;> rcases getElem_shifted h1 with ⟨hqj, rfl⟩ | ⟨_, _, h1⟩
          · subst hqj; exact Or.inr ⟨hlt', he⟩
          · exact Or.inl h1
          · rw [hqj] at hlt; exact absurd hlt (Nat.lt_asymm hlt')
          · exact Or.inr ⟨Nat.lt_trans hlt hlt', h1⟩
      · rw [if_neg hd]
        exact ⟨s, rfl, hole_stop hash s j g H (fun e' he' => by rw [he] at he'; cases he'; omega), hze, fun _ => Iff.rfl, rfl,
          fun _ _ _ h => Or.inl h⟩

/-- **Erase.**  Removing the entry `x` stored at slot `i` of a table that satisfies the invariant and has an empty slot `z`:
    the loop terminates (fuel `n` suffices), the invariant holds again, exactly `x` is gone, the number of occupied slots
    drops by one, `z` stays empty, and every slot holds its old content or its old successor's. -/
theorem eraseAt_spec (hash : κ → Nat) (s : Slots κ ε n) (inv : Inv0 hash s) (i : Nat) (hi : i < n) (x : Entry κ ε)
    (hx : s[i] = some x) (z : Nat) (hz : z < n) (hze : s[z] = none) :
    ∃ s', eraseAt s i hi = some s' ∧ Inv0 hash s' ∧ s'[z] = none ∧ (∀ e, Mem s' e ↔ Mem s e ∧ e ≠ x) ∧ occ s' + 1 = occ s ∧
      (∀ q (hq : q < n) e, s'[q] = some e → (q ≠ i ∧ s[q] = some e) ∨ (next n q ≠ i ∧ s[next n q]'(next_lt hq) = some e)) := by
  have hzi : z ≠ i := Ne.symm (ne_of_occ_empty s hi hz hx hze)
  have hze' : (s.set i none hi)[z] = none := by rw [Vector.getElem_set_ne hi hz hzi.symm]; exact hze
  obtain ⟨s', hs', hinv, hz', hmem, hocc, hpos⟩ :=
    shiftLoop_spec hash n _ i _ (hole_init hash s inv i hi x hx) z hz hze' hzi (Nat.le_of_lt (dist_lt hz hi))
  refine ⟨s', hs', hinv, hz', ?_, ?_, ?_⟩
  · intro e; rw [hmem e, inv.mem_set hi hx]; exact or_iff_right nofun
  · rw [hocc]; exact occ_set_some_none s i hi x hx
  · intro q hq e he
    rcases hpos q hq e he with h | ⟨_, h⟩
    · exact Or.inl (getElem_set_none h)
    · exact Or.inr (getElem_set_none h)

end RH
