/-
  Lemmas for C10: the interpreter `hashData` over the step lists extracted from src/Hash.c computes MurmurHash64A.
-/
import Cello.Hash

namespace Cello.Hash

theorem blockSteps_eq_refBlock (h k : UInt64) :
    runSteps CelloGen.Hash.m CelloGen.Hash.r CelloGen.Hash.blockSteps h k = refBlock h k := by
  simp [runSteps, runStep, CelloGen.Hash.blockSteps, refBlock, CelloGen.Hash.m, CelloGen.Hash.r]

theorem finalSteps_eq (h : UInt64) :
    runSteps CelloGen.Hash.m CelloGen.Hash.r CelloGen.Hash.finalSteps h 0 =
      (let h1 := h ^^^ (h >>> 47); let h2 := h1 * 0xc6a4a7935bd1e995; h2 ^^^ (h2 >>> 47)) := by
  simp [runSteps, runStep, CelloGen.Hash.finalSteps, CelloGen.Hash.m, CelloGen.Hash.r]

theorem tail_eq_refTail (d : Bytes) (h : UInt64) (hd : d.length < 8) :
    runTail CelloGen.Hash.m CelloGen.Hash.tail d.length d h = refTail h d := by
  match d, hd with
  | [], _ | [a], _ | [a, b], _ | [a, b, c], _ | [a, b, c, e], _ | [a, b, c, e, f], _ | [a, b, c, e, f, g], _
  | [a, b, c, e, f, g, i], _ =>
    simp [runTail, CelloGen.Hash.tail, refTail, List.dropWhile, List.takeWhile, List.flatMap, runTailStmt, isBrk, CelloGen.Hash.m]
  | _ :: _ :: _ :: _ :: _ :: _ :: _ :: _ :: _, hd => simp at hd; omega

theorem blockLoop_congr (f g : UInt64 → UInt64 → UInt64) (hfg : ∀ h k, f h k = g h k) :
    ∀ (n : Nat) (h : UInt64) (bs : Bytes), blockLoop f n h bs = blockLoop g n h bs := by
  intro n
  induction n with
  | zero => intro h bs; rfl
  | succ n ih => intro h bs; simp [blockLoop, hfg, ih]

theorem hashData_eq_murmur (bytes : Bytes) : hashData bytes = murmur64A 0xCe110 bytes := by
  have hlen : (bytes.drop (8 * (bytes.length / 8))).length = bytes.length % 8 := by
    rw [List.length_drop]; omega
  have hlt : (bytes.drop (8 * (bytes.length / 8))).length < 8 := by rw [hlen]; omega
  unfold hashData hashDataWith murmur64A
  simp only []
  rw [blockLoop_congr _ refBlock blockSteps_eq_refBlock]
  rw [← hlen, tail_eq_refTail _ _ hlt, finalSteps_eq]
  simp [CelloGen.Hash.m, CelloGen.Hash.seed]

end Cello.Hash
