/-
  CelloProofs/Lemmas/TableOps.lean — one `…_rep` lemma per single-table operation: it refines the association-list operation and
  keeps `Rep` (the updates under `GoodCfg`; the lookups take none, the `getViaVal…` / `getArg…` ones the value of `cfg.getChecksKey`).  (`Table_Rem`: Lemmas/TableErase.lean; iteration: Lemmas/TableIter.lean.)
-/
import CelloProofs.Lemmas.TableSetMove
namespace Cello.Table
open RH
variable {κ ν : Type} [DecidableEq κ]

/-- the parameters under which the refinement holds: strict displacement test, `Table_Set` grows an `nslots = 0` table,
    `Table_Ideal_Size n > n`, and the guard of `Table_Assign` (used for `assign(t, t)` in `step_refines`,
    Lemmas/TableRefine.lean, only) -/
structure GoodCfg (cfg : Cfg) : Prop where
  strict : cfg.ge = false
  grows : cfg.growEmpty = true
  ideal_gt : ∀ n, n < cfg.ideal n
  /-- `Table_Assign` returns at once when `self is obj` (fix a3140e4) -/
  guards : cfg.selfGuard = true

theorem resizeMore_rep (cfg : Cfg) (g : GoodCfg cfg) (hash : κ → Nat) (t : Tab κ ν) (m : Spec κ ν) (r : Rep0 hash t m) :
    ∃ t', resizeMore cfg hash t = .ok t' ∧ Rep hash t' m := by
  unfold resizeMore
  split
  · obtain ⟨t', h1, _, h3⟩ := rehash_rep cfg hash t m r (cfg.ideal t.nitems) (g.ideal_gt _)
    exact ⟨t', h1, h3⟩
  · rename_i h
    exact ⟨t, rfl, r, Or.inl (by have := g.ideal_gt t.nitems; omega)⟩

theorem resizeLess_rep (cfg : Cfg) (g : GoodCfg cfg) (hash : κ → Nat) (t : Tab κ ν) (m : Spec κ ν) (r : Rep hash t m) :
    ∃ t', resizeLess cfg hash t = .ok t' ∧ Rep hash t' m := by
  unfold resizeLess
  split
  · obtain ⟨t', h1, _, h3⟩ := rehash_rep cfg hash t m r.toRep0 (cfg.ideal t.nitems) (g.ideal_gt _)
    exact ⟨t', h1, h3⟩
  · exact ⟨t, rfl, r⟩

theorem set_rep (cfg : Cfg) (g : GoodCfg cfg) (hash : κ → Nat) (t : Tab κ ν) (m : Spec κ ν) (r : Rep hash t m)
    (k : κ) (v : ν) : ∃ t', set cfg hash t k v = .ok t' ∧ Rep hash t' (Spec.set m k v) := by
  -- the first statement leaves an array `t1` with room: a table without slots is grown, any other has room by `Rep`
  have grown : ∃ t1, set cfg hash t k v = (setMove cfg hash t1 k v >>= resizeMore cfg hash) ∧
      Rep0 hash t1 m ∧ t1.nitems < t1.n := by
    by_cases hn : t.n = 0
    · obtain ⟨t1, e1, n1, r1⟩ := rehash_rep cfg hash t m r.toRep0 (cfg.ideal 0)
        (by have := r.nitems_le; have := g.ideal_gt 0; omega)
      exact ⟨t1, by unfold set; simp only [bind, Except.bind, if_pos (And.intro hn g.grows), e1], r1.toRep0,
        r1.room.resolve_right (by have := g.ideal_gt 0; omega)⟩
    · have hc : ¬ (t.n = 0 ∧ cfg.growEmpty = true) := fun h => hn h.1
      exact ⟨t, by unfold set; simp only [bind, Except.bind, if_neg hc], r.toRep0, r.room.resolve_right hn⟩
  obtain ⟨t1, e1, r1, room1⟩ := grown
  obtain ⟨t2, e2, _, r2⟩ := setMove_rep0 cfg g.strict hash t1 m r1 room1 k v
  obtain ⟨t3, e3, r3⟩ := resizeMore_rep cfg g hash t2 _ r2
  exact ⟨t3, by rw [e1]; simp only [bind, Except.bind, e2, e3], r3⟩

/-- The dispatch of every operation that begins with `find` (`get…`, `mem`, `rem`): either map and table know nothing of
    `k`, or `find` answers the slot whose record holds what the map binds to `k`.  These equations decide the operation's
    `match`es, so each `…_rep` below is a `simp only` with the operation's definition and the equations. -/
theorem find_rep (hash : κ → Nat) (t : Tab κ ν) (m : Spec κ ν) (r : Rep hash t m) (k : κ) :
    (Spec.get m k = none ∧ find hash t k = .ok none) ∨
    (∃ v p, ∃ hp : p < t.n, ∃ e, Spec.get m k = some v ∧ find hash t k = .ok (some ⟨p, hp⟩) ∧
        t.slots[p] = some e ∧ e.key = k ∧ e.val = v) := by
  by_cases hk : Present t.slots k
  · right
    obtain ⟨p, hp, e, hpe, hek⟩ := hk
    have hn : t.n ≠ 0 := by omega
    refine ⟨e.val, p, hp, e, ?_, ?_, hpe, hek, rfl⟩
    · rw [spec_get_some m r.nodup]; exact (r.has k e.val).mp ⟨e, ⟨p, hp, hpe⟩, hek, rfl⟩
    · simp only [find, dif_neg hn, find_present hash t.slots r.inv0 (Nat.pos_of_ne_zero hn) k p hp e hpe hek]
  · left
    constructor
    · rw [spec_get_none]; intro v hv
      exact hk ((present_iff_spec r.toRep0 k).mpr ⟨v, hv⟩)
    · by_cases hn : t.n = 0
      · simp only [find, dif_pos hn]
      · obtain ⟨z, hz, hze⟩ := r.toWF.exists_empty (r.room.resolve_right hn)
        simp only [find, dif_neg hn, find_absent hash t.slots (Nat.pos_of_ne_zero hn) k hk z hz hze]

/-- `Table_Get` of a key object outside the table's storage (the probing loop decides) -/
theorem get_rep (hash : κ → Nat) (t : Tab κ ν) (m : Spec κ ν) (r : Rep hash t m) (k : κ) :
    get hash t k = .ok (match Spec.get m k with | none => .raised .KeyError | some v => .val v) := by
  rcases find_rep hash t m r k with ⟨h1, h2⟩ | ⟨v, p, hp, e, h1, h2, h3, h4, h5⟩
  · simp only [get, h2, h1]
  · simp only [get, h2, h1, Fin.getElem_fin, h3, h5]

/-- `Table_Get` given a pointer into the record that stores `k` (the key object: `foreach (p in t) get(t, p)`): the address
    test of Table.c:524-526 — unchecked (before fix bc940bb) or checked — answers the value stored in that record, i.e. what
    the map binds to `k` -/
theorem getViaKey_rep (cfg : Cfg) (hash : κ → Nat) (asKey : ν → Option κ) (t : Tab κ ν) (m : Spec κ ν) (r : Rep hash t m) (k : κ) :
    getViaKey cfg hash asKey t k = .ok (match Spec.get m k with | none => .raised .KeyError | some v => .val v) := by
  rcases find_rep hash t m r k with ⟨h1, h2⟩ | ⟨v, p, hp, e, h1, h2, h3, h4, h5⟩
  · simp only [getViaKey, h2, h1]
  · simp only [getViaKey, h2, h1, getArg, dif_pos hp]
    cases cfg.getChecksKey
    · simp only [Bool.false_eq_true, if_false, getInSlot, Fin.getElem_fin, h3, h5]
    · simp only [if_true, getInSlotChecked, Fin.getElem_fin, h3, h5]

/-- `Table_Get` given the *value* object of the record that stores `k` (`get(t, get(t, k))`): the unchecked address test
    answers that same value again -/
theorem getViaVal_rep (cfg : Cfg) (hc : cfg.getChecksKey = false) (hash : κ → Nat) (asKey : ν → Option κ) (t : Tab κ ν)
    (m : Spec κ ν) (r : Rep hash t m) (k : κ) :
    getViaVal cfg hash asKey t k = .ok (match Spec.get m k with | none => .raised .KeyError | some v => .val v) := by
  rcases find_rep hash t m r k with ⟨h1, h2⟩ | ⟨v, p, hp, e, h1, h2, h3, h4, h5⟩
  · simp only [getViaVal, h2, h1]
  · simp only [getViaVal, h2, h1, getArg, dif_pos hp, hc, Bool.false_eq_true, if_false, getInSlot, Fin.getElem_fin, h3, h5]

/-- the checked address test lets that value object fall through to the cast and the probing loop: the answer is what the
    map binds to the value read as a key -/
theorem getViaVal_rep_checked (cfg : Cfg) (hc : cfg.getChecksKey = true) (hash : κ → Nat) (asKey : ν → Option κ) (t : Tab κ ν)
    (m : Spec κ ν) (r : Rep hash t m) (k : κ) :
    getViaVal cfg hash asKey t k = .ok (Spec.getOfVal asKey m k) := by
  rcases find_rep hash t m r k with ⟨h1, h2⟩ | ⟨v, p, hp, e, h1, h2, h3, h4, h5⟩
  · simp only [getViaVal, h2, Spec.getOfVal, h1]
  · simp only [getViaVal, h2, Spec.getOfVal, h1, getArg, dif_pos hp, hc, if_true, getInSlotChecked, Fin.getElem_fin, h3, h5]
    cases hk : asKey v with
    | none => rfl
    | some k' => simp only [get_rep hash t m r k']; cases m.get k' <;> rfl

/-- **`Table_Get`, the whole function, for ANY key argument** (source since fix bc940bb: `getChecksKey`): an object outside the
    table, the stored key object of a record, the value object of a record, an address inside an empty record.  The answer is
    what the map binds to the key value the argument stands for (`KeyArg.denote`), or the exception its cast raises. -/
theorem getArg_rep_checked (cfg : Cfg) (hc : cfg.getChecksKey = true) (hash : κ → Nat) (asKey : ν → Option κ) (t : Tab κ ν)
    (m : Spec κ ν) (r : Rep hash t m) (a : KeyArg κ) :
    getArg cfg hash asKey t a = .ok (match a.denote asKey t with
      | none => .badOp
      | some (.error e) => .raised e
      | some (.ok k) => match Spec.get m k with | none => .raised .KeyError | some v => .val v) := by
  cases a with
  | obj k => simp only [getArg, KeyArg.denote]; exact get_rep hash t m r k
  | inSlot i part =>
    by_cases h : i < t.n
    · simp only [getArg, KeyArg.denote, dif_pos h, hc, if_true, getInSlotChecked, Fin.getElem_fin]
      cases hs : t.slots[i] with
      | none => cases part <;> rfl
      | some e =>
        cases part with
        | key =>
          have hg : Spec.get m e.key = some e.val := by
            rw [spec_get_some m r.nodup]; exact (r.has e.key e.val).mp ⟨e, ⟨i, h, hs⟩, rfl, rfl⟩
          simp only [hg]
        | val =>
          simp only []   -- reduces the `match` at `some e, .val`: only then does `asKey e.val` stand in the goal
          cases hk : asKey e.val with
          | none => rfl
          | some k' => simp only [get_rep hash t m r k']
    · simp only [getArg, KeyArg.denote, dif_neg h]

theorem mem_rep (hash : κ → Nat) (t : Tab κ ν) (m : Spec κ ν) (r : Rep hash t m) (k : κ) :
    mem hash t k = .ok (.bool (Spec.get m k).isSome) := by
  rcases find_rep hash t m r k with ⟨h1, h2⟩ | ⟨v, p, hp, e, h1, h2, h3, h4, h5⟩
  · simp only [mem, h2, h1]; rfl
  · simp only [mem, h2, h1]; rfl

omit [DecidableEq κ] in
theorem len_rep (hash : κ → Nat) (t : Tab κ ν) (m : Spec κ ν) (r : Rep hash t m) : t.nitems = m.length := r.len.symm

theorem resize_rep (cfg : Cfg) (g : GoodCfg cfg) (hash : κ → Nat) (t : Tab κ ν) (m : Spec κ ν) (r : Rep hash t m)
    (sz : Nat) :
    ∃ t', resize cfg hash t sz = .ok (t', if sz = 0 then .done else if sz < m.length then .raised .FormatError else .done) ∧
      Rep hash t' (if sz = 0 then [] else m) := by
  unfold resize
  by_cases h0 : sz = 0
  · simp only [h0, if_true]
    exact ⟨_, rfl, rep_empty_zero hash⟩
  · simp only [h0, if_false, r.len]
    by_cases hlt : sz < t.nitems
    · simp only [hlt, if_true]; exact ⟨t, rfl, r⟩
    · simp only [hlt, if_false]
      obtain ⟨t', h1, _, h3⟩ := rehash_rep cfg hash t m r.toRep0 (cfg.ideal sz) (by have := g.ideal_gt sz; omega)
      exact ⟨t', by simp only [h1], h3⟩

theorem fill_rep (cfg : Cfg) (g : GoodCfg cfg) (hash : κ → Nat) (kvs : List (κ × ν)) :
    ∃ t', fill cfg hash kvs = .ok t' ∧ Rep hash t' (Spec.ofPairs kvs) := by
  unfold fill
  have hid := g.ideal_gt kvs.length
  rw [if_neg (by omega)]
  obtain ⟨t', e, n, l, r⟩ := insertAll_rep0_strict_or_fresh cfg hash kvs (Tab.empty (cfg.ideal kvs.length)) []
    (rep0_empty hash _) (by simp only [Tab.empty]; omega) (Or.inl g.strict)
  refine ⟨t', e, r, Or.inl ?_⟩
  rw [n]; simp only [Tab.empty] at l ⊢; omega

/-- `Table_Assign` runs `foreach (key in obj) Table_Set_Move(t, key, get(obj, key))` whatever `obj` is: from a Table it is
    the assignment from the map that iteration over it yields -/
theorem assignFrom_eq_fill (cfg : Cfg) (hash : κ → Nat) (src : Tab κ ν) (w : WF hash src) :
    assignFrom cfg hash src = fill cfg hash (entriesList src.slots) := by
  unfold assignFrom fill sourceEntries
  rw [w.length_entriesList]
  split
  · rfl
  · split
    · rename_i h0
      rw [w.entriesList_nil h0]; rfl
    · exact foldlM_reinsert cfg hash _ _

theorem assignFrom_rep (cfg : Cfg) (g : GoodCfg cfg) (hash : κ → Nat) (src : Tab κ ν) (m : Spec κ ν)
    (r : Rep hash src m) : ∃ t', assignFrom cfg hash src = .ok t' ∧ Rep hash t' m := by
  obtain ⟨t', e, r'⟩ := fill_rep cfg g hash (entriesList src.slots)
  exact ⟨t', by rw [assignFrom_eq_fill cfg hash src r.toWF]; exact e, r'.perm (ofPairs_entriesList_perm r.toRep0)⟩

omit [DecidableEq κ] in
theorem new_rep (cfg : Cfg) (g : GoodCfg cfg) (hash : κ → Nat) : Rep hash (new cfg : Tab κ ν) [] :=
  rep_empty hash _ (by have := g.ideal_gt 0; omega)

end Cello.Table
