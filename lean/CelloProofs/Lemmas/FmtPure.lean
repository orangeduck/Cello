/-
  C14 helper lemmas: one `format_to` call with the guard of `String_Format_To` in place (`call_acc` / `call_rej`), what a list of calls
  does to a String / a File / the position, and the two `SeqClosed` classes `NoOob` and `Pure` (one list of calls and one outcome,
  whatever the destination); `printToWith_pure`: the machine is `Pure` on every format, well-formed or not.
-/
import CelloProofs.Lemmas.Fmt
import CelloProofs.Lemmas.FmtSeq

namespace Cello.Fmt

variable (prim : Prim)

theorem out_of_rej {frag : Str} {v : PVal} (h : prim.rej frag v = true) : prim.out frag v = [] := by simp [Prim.out, h]

theorem out_of_acc {frag : Str} {v : PVal} (h : prim.rej frag v = false) : prim.out frag v = prim.text frag v := by
  simp [Prim.out, h]

theorem sink_reject_guarded (hg : prim.Guarded) (s : Sink) (pos : Nat) :
    s.reject prim.strSteps pos = (s, .raised .FormatError) := by
  cases s with
  | str v => exact hg v pos
  | file c => rfl

theorem formatTo_rej (hg : prim.Guarded) (o : Out) {frag : Str} {v : PVal} (h : prim.rej frag v = true) :
    o.formatTo prim frag v = { o with calls := o.calls ++ [⟨frag, v⟩] } := by
  simp [Out.formatTo, h, sink_reject_guarded prim hg]

theorem formatTo_acc (o : Out) {frag : Str} {v : PVal} (h : prim.rej frag v = false) :
    o.formatTo prim frag v =
      { sink := o.sink.write o.pos (prim.text frag v), pos := o.pos + (prim.text frag v).length, calls := o.calls ++ [⟨frag, v⟩] } := by
  simp [Out.formatTo, h]

theorem call_acc (o : Out) {frag : Str} {v : PVal} (h : prim.rej frag v = false) :
    o.call prim frag v = (o.formatTo prim frag v, .ok) := by
  simp [Out.call, Out.callOc, h]

theorem call_rej (hg : prim.Guarded) (o : Out) {frag : Str} {v : PVal} (h : prim.rej frag v = true) :
    o.call prim frag v = ({ o with calls := o.calls ++ [⟨frag, v⟩] }, .raised .FormatError) := by
  simp [Out.call, Out.callOc, Out.formatTo, h, sink_reject_guarded prim hg]

theorem formatTo_pos (o : Out) (frag : Str) (v : PVal) : (o.formatTo prim frag v).pos = o.pos + (prim.out frag v).length := by
  unfold Out.formatTo Prim.out
  split <;> simp

theorem formatTo_calls (o : Out) (frag : Str) (v : PVal) : (o.formatTo prim frag v).calls = o.calls ++ [⟨frag, v⟩] := by
  unfold Out.formatTo
  split <;> simp

theorem formatTo_file (o : Out) (frag : Str) (v : PVal) (c : Str) (h : o.sink = .file c) :
    (o.formatTo prim frag v).sink = .file (c ++ prim.out frag v) := by
  unfold Out.formatTo Prim.out
  split <;> simp [h, Sink.reject, Sink.write]

theorem emitAll_nil (o : Out) : emitAll prim o [] = o := rfl

theorem emitAll_cons (o : Out) (c : Call) (cs : List Call) :
    emitAll prim o (c :: cs) = emitAll prim (o.formatTo prim c.frag c.val) cs := rfl

theorem emitAll_append (o : Out) (cs ds : List Call) :
    emitAll prim o (cs ++ ds) = emitAll prim (emitAll prim o cs) ds := by
  simp [emitAll, List.foldl_append]

theorem textOf_cons (c : Call) (cs : List Call) : textOf prim (c :: cs) = prim.out c.frag c.val ++ textOf prim cs := by
  simp [textOf]

theorem textOf_append (cs ds : List Call) : textOf prim (cs ++ ds) = textOf prim cs ++ textOf prim ds := by
  simp [textOf]

theorem emitAll_pos (cs : List Call) : ∀ o : Out, (emitAll prim o cs).pos = o.pos + (textOf prim cs).length := by
  induction cs with
  | nil => intro o; simp [emitAll, textOf]
  | cons c cs ih => intro o; rw [emitAll_cons, ih, textOf_cons, formatTo_pos]; simp; omega

theorem emitAll_calls (cs : List Call) : ∀ o : Out, (emitAll prim o cs).calls = o.calls ++ cs := by
  induction cs with
  | nil => intro o; simp [emitAll]
  | cons c cs ih => intro o; rw [emitAll_cons, ih, formatTo_calls]; simp

/-- a File receives the text of the accepted calls, whatever `String_Format_To` looks like -/
theorem emitAll_file (cs : List Call) : ∀ (o : Out) (c : Str), o.sink = .file c →
    (emitAll prim o cs).sink = .file (c ++ textOf prim cs) := by
  induction cs with
  | nil => intro o c h; simp [emitAll, textOf, h]
  | cons d cs ih =>
    intro o c h
    rw [emitAll_cons, ih _ (c ++ prim.out d.frag d.val) (formatTo_file prim o _ _ c h), textOf_cons]
    simp

theorem accepted_cons (c : Call) (cs : List Call) :
    accepted prim (c :: cs) = if prim.rej c.frag c.val then accepted prim cs else c :: accepted prim cs := by
  cases h : prim.rej c.frag c.val <;> simp [accepted, h]

theorem textOf_accepted (cs : List Call) : textOf prim (accepted prim cs) = textOf prim cs := by
  induction cs with
  | nil => rfl
  | cons c cs ih =>
    rw [accepted_cons, textOf_cons]
    cases h : prim.rej c.frag c.val with
    | true => rw [if_pos rfl, ih, out_of_rej prim h]; rfl
    | false => rw [if_neg Bool.false_ne_true, textOf_cons, ih]

def AllAcc (cs : List Call) : Prop := ∀ c ∈ cs, prim.rej c.frag c.val = false

theorem accepted_of_allAcc (cs : List Call) (h : AllAcc prim cs) : accepted prim cs = cs := by
  unfold accepted
  rw [List.filter_eq_self]
  intro c hc
  simp [h c hc]

theorem length_take_append {α : Type} (v t : List α) {pos : Nat} (h : pos ≤ v.length) : (v.take pos ++ t).length = pos + t.length := by
  rw [List.length_append, List.length_take_of_le h]

/-- A rejected call leaves sink and position as they are; the first accepted call cuts the String at the position, and from
    then on the position is its length (the induction hypothesis is used at `v.take o.pos ++ text`) -/
theorem emitAll_str_guarded (hg : prim.Guarded) (cs : List Call) : ∀ (o : Out) (v : Str), o.sink = .str v → o.pos ≤ v.length →
    (emitAll prim o cs).sink = if accepted prim cs = [] then .str v else .str (v.take o.pos ++ textOf prim cs) := by
  induction cs with
  | nil => intro o v h _; simpa [emitAll, accepted] using h
  | cons c cs ih =>
    intro o v h hp
    rw [emitAll_cons, textOf_cons, accepted_cons]
    cases hr : prim.rej c.frag c.val with
    | true =>
      rw [formatTo_rej prim hg o hr, out_of_rej prim hr]
      exact ih _ v h hp
    | false =>
      have hl := length_take_append v (prim.text c.frag c.val) hp
      rw [formatTo_acc prim o hr, out_of_acc prim hr,
        ih _ (v.take o.pos ++ prim.text c.frag c.val) (by simp [h, Sink.write]) (Nat.le_of_eq hl.symm)]
      simp only [← hl, List.take_length, List.append_assoc]
      by_cases ha : accepted prim cs = []
      · have : textOf prim cs = [] := by rw [← textOf_accepted, ha]; rfl
        simp [ha, this]
      · simp [ha]

def NoOob (f : Out → Out × Outcome) : Prop := ∀ o, (f o).2 ≠ .oob

theorem call_not_oob (hg : prim.Guarded) (o : Out) (frag : Str) (v : PVal) : (o.call prim frag v).2 ≠ .oob := by
  cases h : prim.rej frag v with
  | false => rw [call_acc prim o h]; nofun
  | true => rw [call_rej prim hg o h]; nofun

theorem andThen_not_oob {f g : Out → Out × Outcome} (hf : NoOob f) (hg : NoOob g) : NoOob (andThen f g) := by
  intro o
  unfold andThen
  have := hf o
  rcases hfo : f o with ⟨o', oc⟩
  rw [hfo] at this
  cases oc with
  | ok => exact hg o'
  | raised e => simp
  | oob => simp at this

theorem noOob_closed (hg : prim.Guarded) : SeqClosed prim NoOob where
  call := fun frag v o => call_not_oob prim hg o frag v
  stop := fun _ h _ => h
  seq := andThen_not_oob

/-- `f` touches its destination only through a fixed sequence of `format_to` calls -/
def Pure (f : Out → Out × Outcome) : Prop := ∃ cs oc, ∀ o, f o = (emitAll prim o cs, oc)

theorem pure_andThen {f g : Out → Out × Outcome} (hf : Pure prim f) (hg : Pure prim g) : Pure prim (andThen f g) := by
  obtain ⟨cs, oc, hf⟩ := hf
  obtain ⟨ds, od, hg⟩ := hg
  cases oc with
  | ok => exact ⟨cs ++ ds, od, fun o => by simp [andThen, hf, hg, emitAll_append]⟩
  | raised e => exact ⟨cs, .raised e, fun o => by simp [andThen, hf]⟩
  | oob => exact ⟨cs, .oob, fun o => by simp [andThen, hf]⟩

/-- one call is pure when the guard is in place: the outcome does not depend on the sink -/
theorem call_pure (hg : prim.Guarded) (frag : Str) (v : PVal) : Pure prim (fun o => o.call prim frag v) := by
  cases h : prim.rej frag v with
  | false => exact ⟨[⟨frag, v⟩], .ok, fun o => call_acc prim o h⟩
  | true => exact ⟨[⟨frag, v⟩], _, fun o => (call_rej prim hg o h).trans (by rw [← formatTo_rej prim hg o h]; rfl)⟩

theorem pure_closed (hg : prim.Guarded) : SeqClosed prim (Pure prim) where
  call := call_pure prim hg
  stop := fun oc _ => ⟨[], oc, fun _ => rfl⟩
  seq := pure_andThen prim

/-- what `C14_position` concludes about position and sinks, from the fact that the run is one fixed list of calls -/
theorem position_of_pure (hg : prim.Guarded) (f : Out → Out × Outcome) (hp : Pure prim f) :
    ∃ (cs : List Call) (oc : Outcome), ∀ (sink : Sink) (start : Nat),
      let r := f ⟨sink, start, []⟩
      r.1.calls = cs ∧ r.2 = oc ∧ r.1.pos = start + (textOf prim cs).length ∧
      (∀ c, sink = .file c → r.1.sink = .file (c ++ textOf prim cs)) ∧
      (∀ v, sink = .str v → start ≤ v.length →
        r.1.sink = if accepted prim cs = [] then .str v else .str (v.take start ++ textOf prim cs)) := by
  obtain ⟨cs, oc, h⟩ := hp
  refine ⟨cs, oc, fun sink start => ?_⟩
  simp only [h]
  refine ⟨by simp [emitAll_calls], trivial, by simp [emitAll_pos], fun c hc => ?_, fun v hv hle => ?_⟩
  · exact emitAll_file prim cs _ c hc
  · exact emitAll_str_guarded prim hg cs ⟨sink, start, []⟩ v hv hle

variable (cfg : Cfg) (shw : Obj → Out → Out × Outcome)

/-- for EVERY format, by induction on the fuel, one `turn` at a time (for a well-formed one `printToWith_in` gives it too) -/
theorem loop_pure (hg : prim.Guarded) (fmt : Str) (args : List Obj) (hs : ∀ a ∈ args, ArgOk shw (Pure prim) a) :
    ∀ (fuel i k : Nat) (mk : Marks), Pure prim fun o => (loop cfg prim shw fmt args fuel i k o mk).pair
  | 0, _, _, _ => ⟨[], .oob, fun _ => rfl⟩
  | f + 1, i, k, mk => by
    simp only [loop_succ]
    cases turn cfg.conv fmt i mk with
    | stop oc mk' => exact ⟨[], oc, fun _ => rfl⟩
    | call frag j mk' =>
      rw [thenLoop_pair]
      exact pure_andThen prim (call_pure prim hg frag .none) (loop_pure hg fmt args hs f j k mk')
    | spec c buf j mk' =>
      cases ha : args[k]? with
      | none => exact ⟨[], _, fun _ => rfl⟩
      | some a =>
        rw [thenLoop_pair]
        exact pure_andThen prim
          (dispatch_in (pure_closed prim hg) c buf a cfg.disp fun mk _ _ => (hs a (List.mem_of_getElem? ha)).kind mk.2)
          (loop_pure hg fmt args hs f j (k + 1) mk')

theorem printToWith_pure (hg : prim.Guarded) (fmt : Str) (args : List Obj) (hs : ∀ a ∈ args, ArgOk shw (Pure prim) a) :
    Pure prim (fun o => (printToWith cfg prim shw fmt args o).pair) :=
  loop_pure prim cfg shw hg fmt args hs (fmt.length + 1) 0 0 ⟨0, 0⟩

end Cello.Fmt
