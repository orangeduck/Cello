/- The terms extracted from src/Iter.c / src/Table.c (CelloGen/Iter.lean, interpreted by Cello/IterSrc.lean) agree with the hand
   model of Cello/Iter.lean, for C11 -/
import Cello.IterSrc
import CelloProofs.Lemmas.IterContainers

namespace Cello.Iter
open CelloGen.Iter (Rel Bound SStmt)

variable {α : Type}

theorem toU64_id (x : Int) (h : 0 ≤ x) (h2 : x < 18446744073709551616) : toU64 x = x := by unfold toU64; omega
theorem toI64_id (x : Int) (h : -9223372036854775808 ≤ x) (h2 : x < 9223372036854775808) : toI64 x = x := by
  unfold toI64; simp only []; split <;> omega
theorem toI64_toU64 (x : Int) : toI64 (toU64 x) = toI64 x := by
  unfold toI64 toU64; simp only [Int.emod_emod]

/-- `a = a < 0 ? n+a : a;` (the sum is a `size_t`; assigned back to the `int64_t` it is the signed sum) -/
theorem tern_neg (n : Nat) (a : Int) (hn : (n : Int) < 9223372036854775808)
    (ha : -9223372036854775808 ≤ a ∧ a < 9223372036854775808) :
    ternRun n a ⟨.a, .lt, .lit 0, .nPlusA, .a⟩ = if a < 0 then (n : Int) + a else a := by
  have hn0 : (0 : Int) ≤ n := Int.natCast_nonneg n
  simp only [ternRun, opdEval, relHolds, Bool.or_self, Bool.false_eq_true, if_false, Int.natCast_zero]
  by_cases h : a < 0
  · have e : toI64 (toU64 ((n : Int) + a)) = (n : Int) + a := by rw [toI64_toU64]; exact toI64_id _ (by omega) (by omega)
    simp [h, e]
  · have e := toI64_id a ha.1 ha.2
    simp [h, e]

/-- `a = a > (int64_t)n ? (int64_t)n : a;` (signed comparison) -/
theorem tern_hi (n : Nat) (a : Int) (hn : (n : Int) < 9223372036854775808)
    (ha : -9223372036854775808 ≤ a ∧ a < 9223372036854775808) :
    ternRun n a ⟨.a, .gt, .nCast, .nCast, .a⟩ = if a > (n : Int) then (n : Int) else a := by
  have hn0 : (0 : Int) ≤ n := Int.natCast_nonneg n
  have e : toI64 (n : Int) = n := toI64_id _ (by omega) hn
  simp only [ternRun, opdEval, relHolds, Bool.or_self, Bool.false_eq_true, if_false, e, apply_ite toI64, toI64_id a ha.1 ha.2,
    decide_eq_true_eq]

/-- `a = a < 0 ? 0 : a;` -/
theorem tern_lo (n : Nat) (a : Int) (ha : -9223372036854775808 ≤ a ∧ a < 9223372036854775808) :
    ternRun n a ⟨.a, .lt, .lit 0, .lit 0, .a⟩ = if a < 0 then 0 else a := by
  simp only [ternRun, opdEval, relHolds, Bool.or_self, Bool.false_eq_true, if_false, Int.natCast_zero]
  by_cases h : a < 0
  · have e := toI64_id 0 (by omega) (by omega)
    simp [h, e]
  · have e := toI64_id a ha.1 ha.2
    simp [h, e]

theorem ite_inI64 {c : Prop} [Decidable c] {x y : Int} (hx : c → -9223372036854775808 ≤ x ∧ x < 9223372036854775808)
    (hy : ¬ c → -9223372036854775808 ≤ y ∧ y < 9223372036854775808) :
    -9223372036854775808 ≤ (if c then x else y) ∧ (if c then x else y) < 9223372036854775808 := by
  split
  · exact hx ‹_›
  · exact hy ‹_›

theorem sliceArgSrc_eq (n : Nat) (a : Int) (hn : (n : Int) < 9223372036854775808)
    (ha : -9223372036854775808 ≤ a ∧ a < 9223372036854775808) : sliceArgSrc n a = sliceArg n a := by
  have hn' : -9223372036854775808 ≤ (n : Int) ∧ (n : Int) < 9223372036854775808 := ⟨by omega, hn⟩
  have h1 := ite_inI64 (c := a < 0) (x := (n : Int) + a) (fun _ => ⟨by omega, by omega⟩) (fun _ => ha)
  simp only [sliceArgSrc, CelloGen.Iter.sliceArgClamp, List.foldl_cons, List.foldl_nil]
  rw [tern_neg n a hn ha, tern_hi n _ hn h1, tern_lo n _ (ite_inI64 (fun _ => hn') (fun _ => h1))]
  rfl

theorem sliceArgBlankSrc_eq (n : Nat) (hn : (n : Int) < 9223372036854775808) :
    sliceArgBlankSrc n 0 = some 0 ∧ sliceArgBlankSrc n 1 = some (n : Int) ∧ sliceArgBlankSrc n 2 = some 1 :=
  ⟨rfl, congrArg some (toU64_id n (Int.natCast_nonneg n) (by omega)), rfl⟩

theorem sliceStackSrc_eq (n : Nat) (hn : (n : Int) < 9223372036854775808) (args : List (Option Int))
    (ha : ∀ x ∈ args, ∀ a, x = some a → -9223372036854775808 ≤ a ∧ a < 9223372036854775808) :
    sliceStackSrc n args = sliceStack n args := by
  obtain ⟨b0, b1, b2⟩ := sliceArgBlankSrc_eq n hn
  have full01 : ∀ (p : Nat) (x : Option Int), (p = 0 ∨ p = 1) → (∀ a, x = some a → -9223372036854775808 ≤ a ∧ a < 9223372036854775808) →
      sliceArgFull p n x = some ((x.map (sliceArg n)).getD (if p = 0 then 0 else n)) := by
    intro p x hp hx
    cases x with
    | none => rcases hp with rfl | rfl <;> simp [sliceArgFull, b0, b1]
    | some a =>
      have := sliceArgSrc_eq n a hn (hx a rfl)
      rcases hp with rfl | rfl <;> simp [sliceArgFull, CelloGen.Iter.sliceArgSkipsPart, this]
  have full2 : ∀ (x : Option Int), sliceArgFull 2 n x = some (x.getD 1) := by
    intro x; cases x <;> simp [sliceArgFull, b2, CelloGen.Iter.sliceArgSkipsPart]
  match args, ha with
  | [], _ => rfl
  | [b], ha =>
    simp [sliceStackSrc, sliceStack, full01 1 b (Or.inr rfl) (ha b (by simp))]
  | [a, b], ha =>
    simp [sliceStackSrc, sliceStack, full01 0 a (Or.inl rfl) (ha a (by simp)), full01 1 b (Or.inr rfl) (ha b (by simp))]
  | [a, b, c], ha =>
    simp [sliceStackSrc, sliceStack, full01 0 a (Or.inl rfl) (ha a (by simp)), full01 1 b (Or.inr rfl) (ha b (by simp)), full2 c]
  | _ :: _ :: _ :: _ :: _, _ => rfl

theorem filterSrcI_eq (I : Iterable α) (p : α → Bool) (fuel : Nat) : filterSrcI I p fuel = filterI I p fuel := rfl

theorem runBody_ret (slots : List (Option α)) (uns : Bool) (r : List SStmt) (j : Nat) (hj : j < slots.length) :
    runBody slots uns (.retIfUsed :: r) (j : Int) = match slots[j] with
      | some a => .inl (some j, .item a)
      | none => runBody slots uns r (j : Int) := by
  have hb : ¬ ((j : Int) < 0 ∨ (j : Int) ≥ (slots.length : Int)) := by omega
  simp only [runBody, hb, if_false, Int.toNat_natCast, List.getElem?_eq_getElem hj]
  cases slots[j] <;> rfl

theorem runBody_termIf (slots : List (Option α)) (uns : Bool) (rel : Rel) (b : Bound) (r : List SStmt) (i : Int)
    (h : relHolds rel i (boundVal uns slots.length b) = false) :
    runBody slots uns (.termIf rel b :: r) i = runBody slots uns r i := by
  simp only [runBody, h, Bool.false_eq_true, if_false]

/-- a loop that at `j + 1` answers slot `j` when it is used and otherwise goes on at `j`, and at 0 answers Terminal, is
    `scanDown` (given fuel for every slot) -/
theorem scanLoop_eq (slots : List (Option α)) (loop : Nat → Nat → Option Nat × Res α)
    (h0 : ∀ f, loop (f + 1) 0 = (none, .term))
    (hs : ∀ f j (hj : j < slots.length), loop (f + 1) (j + 1) = match slots[j] with
      | some a => (some j, .item a)
      | none => loop f j) :
    ∀ (j : Nat), j ≤ slots.length → ∀ fuel, j + 1 ≤ fuel → loop fuel j = scanRes (scanDown slots j) := by
  intro j
  induction j with
  | zero =>
    intro _ fuel hf
    cases fuel with
    | zero => exact absurd hf (Nat.not_succ_le_zero _)
    | succ f => exact h0 f
  | succ j ih =>
    intro hj fuel hf
    cases fuel with
    | zero => exact absurd hf (Nat.not_succ_le_zero _)
    | succ f =>
      rw [hs f j hj, scanDown_succ slots j hj]
      cases slots[j] with
      | some a => rfl
      | none => exact ih (Nat.le_of_succ_le hj) f (Nat.le_of_succ_le_succ hf)

/-- the loop of Table_Iter_Last from slot `j` (inside the array): tests `j, j-1, …, 0` — INCLUDING slot 0 — and nothing else
    (in `scanLoop_eq`: position `j + 1` is this loop standing at slot `j`, position 0 its exit after slot 0) -/
theorem lastLoop_eq (slots : List (Option α)) (hl : (slots.length : Int) < 18446744073709551616)
    (j : Nat) (hj : j < slots.length) (fuel : Nat) (hf : j + 2 ≤ fuel) :
    runLoop slots true [.retIfUsed, .termIf .eq (.lit 0), .stepBy (-1)] fuel (j : Int) = scanRes (scanDown slots (j + 1)) := by
  refine scanLoop_eq slots (fun f j => match j with
    | 0 => (none, .term)
    | j + 1 => runLoop slots true [.retIfUsed, .termIf .eq (.lit 0), .stepBy (-1)] f (j : Int)) (fun _ => rfl) ?_ (j + 1) hj fuel hf
  intro f j hj
  have := runBody_ret slots true [.termIf .eq (.lit 0), .stepBy (-1)] j hj
  dsimp only
  rw [runLoop, this]
  cases slots[j] with
  | some a => rfl
  | none =>
    cases j with
    | zero => rfl
    | succ j =>
      have hne : ¬ (((j + 1 : Nat) : Int) = 0) := Int.natCast_ne_zero.mpr (Nat.succ_ne_zero j)
      have hw : toU64 (((j + 1 : Nat) : Int) + -1) = (j : Int) := by
        rw [Int.natCast_succ, Int.add_neg_cancel_right]; exact toU64_id _ (Int.natCast_nonneg j) (by omega)
      rw [runBody_termIf slots true .eq (.lit 0) _ _ (decide_eq_false hne)]
      simp only [runBody, wrapPos, if_true, hw]

/-- the loop of Table_Iter_Prev entered at position `j - 1` (one slot below the cursor): tests `j-1, …, 0` -/
theorem prevLoop_eq (slots : List (Option α)) :
    ∀ (j : Nat), j ≤ slots.length → ∀ fuel, j + 1 ≤ fuel →
    runLoop slots false [.termIf .lt (.lit 0), .retIfUsed, .stepBy (-1)] fuel ((j : Int) - 1) = scanRes (scanDown slots j) := by
  refine scanLoop_eq slots (fun f j => runLoop slots false [.termIf .lt (.lit 0), .retIfUsed, .stepBy (-1)] f ((j : Int) - 1))
    (fun _ => rfl) ?_
  intro f j hj
  have e : ((j + 1 : Nat) : Int) - 1 = (j : Int) := by rw [Int.natCast_succ, Int.add_sub_cancel]
  have hnl : ¬ ((j : Int) < 0) := Int.not_lt.mpr (Int.natCast_nonneg j)
  rw [e, runLoop, runBody_termIf slots false .lt (.lit 0) _ (j : Int) (decide_eq_false hnl), runBody_ret slots false _ j hj]
  cases slots[j] <;> rfl

theorem tableSrc_last_eq (slots : List (Option α)) (hl : (slots.length : Int) < 18446744073709551616) (s : Option Nat) :
    (tableSrcI slots).last s = (tableI slots).last s := by
  show runScan slots CelloGen.Iter.tableIterLast 0 (slots.length + 1) = _
  by_cases h0 : (occupied slots).length = 0
  · simp [runScan, CelloGen.Iter.tableIterLast, tableI, h0]
  · cases slots with
    | nil => exact absurd rfl h0
    | cons x t =>
      have hw : toU64 (((x :: t).length : Int) - 1) = (t.length : Int) := by
        rw [List.length_cons, Int.natCast_succ, Int.add_sub_cancel]
        exact toU64_id _ (Int.natCast_nonneg _) (by rw [List.length_cons] at hl; omega)
      simp only [runScan, CelloGen.Iter.tableIterLast, h0, and_false, if_false, boundVal, wrapPos, if_true, hw, tableI]
      exact lastLoop_eq (x :: t) hl t.length (Nat.lt_succ_self _) _ (Nat.le_refl _)

theorem tableSrc_prev_eq (slots : List (Option α)) (i : Nat) (hi : i < slots.length) :
    (tableSrcI slots).prev (some i) = (tableI slots).prev (some i) := by
  show runScan slots CelloGen.Iter.tableIterPrev i (slots.length + 1) = scanRes (scanDown slots i)
  simp only [runScan, CelloGen.Iter.tableIterPrev, Bool.false_eq_true, false_and, if_false, wrapPos]
  exact prevLoop_eq slots i (Nat.le_of_lt hi) _ (Nat.succ_le_succ (Nat.le_of_lt hi))

theorem tableSrc_lawfulAs (slots : List (Option α)) (hl : (slots.length : Int) < 18446744073709551616) :
    LawfulAs (tableSrcI slots) (occupied slots) := by
  refine ⟨(table_lawfulAs slots).fwd, fun s => ?_, fun _ hn => (Option.some.inj hn).symm, fun _ hg => nomatch hg⟩
  rw [tableSrc_last_eq slots hl s]
  exact table_bwd_run slots _ (tableSrc_prev_eq slots) s

end Cello.Iter
