/-
  C14 helper lemmas: the grammar of format strings.  What `Seg.wf` says of each kind of segment, how a `wfSegs` list is taken apart
  (`wfSegs_cons`) and put together (`wfSegs_mk`), and the printf grammar of the property (`specOK`) as a part of it (`specOK_wf`).
-/
import CelloProofs.Lemmas.Fmt

namespace Cello.Fmt

theorem render_cons (s : Seg) (r : List Seg) : render (s :: r) = s.text ++ render r := by
  simp [render]

theorem render_nil : render [] = [] := rfl

theorem headOrNul_render_nonlit (s : Seg) (r : List Seg) (h : s.isLit = false) :
    headOrNul (render (s :: r)) = '%' := by
  cases s <;> simp_all [render_cons, Seg.text, headOrNul, Seg.isLit]

theorem lit_wf_iff {conv : Str} {s : Str} : (Seg.lit s).wf conv = true ↔ s ≠ [] ∧ ∀ c ∈ s, c ≠ NUL ∧ c ≠ '%' := by
  simp only [Seg.wf, Bool.and_eq_true, List.isEmpty_eq_false_iff, List.all_eq_true, ne_eq, decide_not, Bool.not_eq_eq_eq_not,
    Bool.not_true, decide_eq_false_iff_not]

theorem spec_wf_iff {conv : Str} {b : Str} {c : Char} :
    (Seg.spec b c).wf conv = true ↔ c ∈ conv ∧ c ≠ NUL ∧ (∀ x ∈ b, x ∉ conv ∧ x ≠ NUL) ∧ b.head? ≠ some '%' := by
  simp only [Seg.wf, Bool.and_eq_true, decide_eq_true_eq, List.all_eq_true, ne_eq, and_assoc, decide_not, Bool.not_eq_eq_eq_not,
    Bool.not_true, decide_eq_false_iff_not]

/-- that a literal is maximal comes out in the form the scanner needs (`scanLit_run`: the rest is empty or starts with `%`);
    `wfSegs_mk` takes it in the form the parser yields (the next segment is no literal) -/
theorem wfSegs_cons {conv : Str} {s : Seg} {r : List Seg} (h : wfSegs conv (s :: r) = true) :
    s.wf conv = true ∧ wfSegs conv r = true ∧
      (s.isLit = true → ordinary (headOrNul (render r)) = false) := by
  cases r with
  | nil => exact ⟨h, rfl, fun _ => rfl⟩
  | cons t r =>
    simp only [wfSegs, Bool.and_eq_true, Bool.not_eq_true', Bool.and_eq_false_imp] at h
    refine ⟨h.1.1, h.2, fun hs => ?_⟩
    have := h.1.2 hs
    rw [headOrNul_render_nonlit t r this]; rfl

theorem wfSegs_mk {conv : Str} {s : Seg} {r : List Seg} (hs : s.wf conv = true) (hr : wfSegs conv r = true)
    (hadj : s.isLit = true → ∀ t ∈ r.head?, t.isLit = false) : wfSegs conv (s :: r) = true := by
  cases r with
  | nil => simpa [wfSegs] using hs
  | cons t r =>
    simp only [wfSegs, Bool.and_eq_true, Bool.not_eq_true', Bool.and_eq_false_imp]
    exact ⟨⟨hs, fun h => hadj h t (by simp)⟩, hr⟩

theorem text_length_pos {conv : Str} {s : Seg} (h : s.wf conv = true) : 0 < s.text.length := by
  cases s with
  | lit s => have := (lit_wf_iff.1 h).1; cases s <;> simp_all [Seg.text]
  | pct => simp [Seg.text]
  | spec b c => simp [Seg.text]

theorem length_le_render {conv : Str} : ∀ segs : List Seg, wfSegs conv segs = true → segs.length ≤ (render segs).length := by
  intro segs
  induction segs with
  | nil => intro _; simp
  | cons s r ih =>
    intro hwf
    obtain ⟨hs, hr, _⟩ := wfSegs_cons hwf
    have := text_length_pos hs
    have := ih hr
    rw [render_cons]; simp; omega

/-- characters a specification body of the printf grammar can contain -/
def bodyChars : Str := flagChars ++ digitChars ++ ['.'] ++ ['h', 'l', 'j', 'z', 't']

theorem mem_or_dropWhile (p : Char → Bool) (l : Str) (x : Char) (hx : x ∈ l) : p x = true ∨ x ∈ l.dropWhile p := by
  rw [← List.takeWhile_append_dropWhile (p := p) (l := l), List.mem_append] at hx
  exact hx.imp (List.all_eq_true.1 List.all_takeWhile x) id

theorem lensFor_mem {c : Char} {r : Str} (h : r ∈ lensFor c) :
    c ∈ intConvs ++ fltConvs ++ ['c', 's', 'p', '$'] ∧ ∀ x ∈ r, x ∈ ['h', 'l', 'j', 'z', 't'] := by
  unfold lensFor at h
  by_cases h1 : c ∈ intConvs
  · rw [if_pos h1] at h; exact ⟨List.mem_append_left _ (List.mem_append_left _ h1), (by decide : ∀ r ∈ intLens, ∀ x ∈ r, x ∈ ['h', 'l', 'j', 'z', 't']) r h⟩
  rw [if_neg h1] at h
  by_cases h2 : c ∈ fltConvs
  · rw [if_pos h2] at h; exact ⟨List.mem_append_left _ (List.mem_append_right _ h2), (by decide : ∀ r ∈ fltLens, ∀ x ∈ r, x ∈ ['h', 'l', 'j', 'z', 't']) r h⟩
  rw [if_neg h2] at h
  by_cases h3 : c ∈ ['c', 's', 'p', '$']
  · rw [if_pos h3] at h; exact ⟨List.mem_append_right _ h3, (by decide : ∀ r ∈ [([] : Str)], ∀ x ∈ r, x ∈ ['h', 'l', 'j', 'z', 't']) r h⟩
  · rw [if_neg h3] at h; cases h

theorem specOK_body {b : Str} {c : Char} (h : specOK b c = true) : ∀ x ∈ b, x ∈ bodyChars := by
  intro x hx
  have flag : x ∈ flagChars → x ∈ bodyChars := fun h => List.mem_append_left _ (List.mem_append_left _ (List.mem_append_left _ h))
  have digit : x ∈ digitChars → x ∈ bodyChars := fun h => List.mem_append_left _ (List.mem_append_left _ (List.mem_append_right _ h))
  have len : x ∈ ['h', 'l', 'j', 'z', 't'] → x ∈ bodyChars := List.mem_append_right _
  unfold specOK at h
  simp only [decide_eq_true_eq] at h
  rcases mem_or_dropWhile (· ∈ flagChars) b x hx with h1 | h1
  · exact flag (of_decide_eq_true h1)
  rcases mem_or_dropWhile (· ∈ digitChars) _ x h1 with h2 | h2
  · exact digit (of_decide_eq_true h2)
  generalize hr : (b.dropWhile (· ∈ flagChars)).dropWhile (· ∈ digitChars) = r at h h2
  split at h
  · rename_i r'
    rcases List.mem_cons.1 h2 with rfl | h3
    · decide
    rcases mem_or_dropWhile (· ∈ digitChars) r' x h3 with h4 | h4
    · exact digit (of_decide_eq_true h4)
    · exact len ((lensFor_mem h).2 x h4)
  · exact len ((lensFor_mem h).2 x h2)

theorem specOK_conv {b : Str} {c : Char} (h : specOK b c = true) : c ∈ intConvs ++ fltConvs ++ ['c', 's', 'p', '$'] :=
  (lensFor_mem (of_decide_eq_true h)).1

theorem specOK_wf (conv : Str)
    (hconv : ∀ c ∈ intConvs ++ fltConvs ++ ['c', 's', 'p', '$'], c ∈ conv)
    (hbody : ∀ x ∈ bodyChars, x ∉ conv)
    {b : Str} {c : Char} (h : specOK b c = true) : (Seg.spec b c).wf conv = true := by
  have hb := specOK_body h
  have hc := specOK_conv h
  have hall : ∀ y ∈ intConvs ++ fltConvs ++ ['c', 's', 'p', '$'], y ≠ NUL := by decide
  have hbn : ∀ x ∈ bodyChars, x ≠ NUL ∧ x ≠ '%' := by decide
  refine spec_wf_iff.2 ⟨hconv c hc, hall c hc, fun x hx => ⟨hbody x (hb x hx), (hbn x (hb x hx)).1⟩, ?_⟩
  cases b with
  | nil => nofun
  | cons a b => exact fun e => (hbn a (hb a List.mem_cons_self)).2 (Option.some.inj e)

end Cello.Fmt
