/-
  Lemmas for C06, exact effect: what a destructor cascade (`finalise`), a `del` (`gcRem`) and a collection (`sweep`) of
  `Cfg.current` do when no destructor allocates: `Eff` with `Good`, by induction on the fuel over the states `Ready f s`.
  And what the specification of a collection (`SweepSpec`) implies.
-/
import CelloProofs.Lemmas.LifeBasic

namespace Cello.Life

/-- the objects `D` finalised by a piece of work whose events are `E`: each exactly once, nothing else touched -/
structure Good (D : List Addr) (E : List Ev) : Prop where
  nodup : D.Nodup
  once : ∀ d ∈ D, Once d E
  clean : ∀ b, b ∉ D → Clean b E

theorem Good.nil : Good [] [] :=
  ⟨List.nodup_nil, by simp, fun b _ => Clean.nil b⟩

theorem Good.append {D1 D2 : List Addr} {E1 E2 : List Ev} (h1 : Good D1 E1) (h2 : Good D2 E2)
    (hdis : ∀ d ∈ D2, d ∉ D1) : Good (D1 ++ D2) (E1 ++ E2) := by
  refine ⟨?_, ?_, ?_⟩
  · rw [List.nodup_append]
    refine ⟨h1.nodup, h2.nodup, ?_⟩
    intro a ha b hb hab
    subst hab
    exact hdis a hb ha
  · intro d hd
    rcases List.mem_append.1 hd with hd | hd
    · have : d ∉ D2 := fun h => hdis d h hd
      exact (h1.once d hd).append_right (h2.clean d this)
    · exact Once.append_left (h1.clean d (hdis d hd)) (h2.once d hd)
  · intro b hb
    rw [List.mem_append, not_or] at hb
    exact clean_append.2 ⟨h1.clean b hb.1, h2.clean b hb.2⟩

theorem Good.bracket {D : List Addr} {E : List Ev} {x : Addr} (h : Good D E) (hx : x ∉ D) :
    Good (x :: D) (Ev.fin x :: (E ++ [Ev.free x])) := by
  refine ⟨List.nodup_cons.2 ⟨hx, h.nodup⟩, ?_, ?_⟩
  · intro d hd
    rcases List.mem_cons.1 hd with rfl | hd
    · exact Once.own_bracket (h.clean _ hx)
    · have : d ≠ x := fun e => hx (e ▸ hd)
      exact (h.once d hd).bracket this
  · intro b hb
    rw [List.mem_cons, not_or] at hb
    exact clean_bracket hb.1 (h.clean b hb.2)

theorem Good.count {D : List Addr} {E : List Ev} (hg : Good D E) (a : Addr) :
    E.count (Ev.fin a) = (if a ∈ D then 1 else 0) ∧ E.count (Ev.free a) = (if a ∈ D then 1 else 0) := by
  by_cases ha : a ∈ D
  · simp only [ha, if_true]; exact (hg.once a ha).counts
  · simp only [ha, if_false]; exact count_eq_zero_of_clean (hg.clean a ha)

theorem Good.not_clean {D : List Addr} {E : List Ev} (hg : Good D E) : ∀ d ∈ D, ¬ Clean d E :=
  fun d hd => (hg.once d hd).not_clean

theorem Good.perm {D1 D2 : List Addr} {E1 E2 : List Ev} (h1 : Good D1 E1) (h2 : Good D2 E2) (h : ∀ d, d ∈ D1 ↔ d ∈ D2) :
    E1.Perm E2 := by
  rw [List.perm_iff_count]
  intro ev
  cases ev with
  | fin a => rw [(h1.count a).1, (h2.count a).1]; simp only [h]
  | free a => rw [(h1.count a).2, (h2.count a).2]; simp only [h]

theorem St.ownsOf_congr {s s' : St} (h : s'.owns = s.owns) (a : Addr) : s'.ownsOf a = s.ownsOf a := by
  unfold St.ownsOf; rw [h]

/-- `x` is owned, through one or more ownership links, by `a` -/
inductive Reach (s : St) : Addr → Addr → Prop where
  | base {a x : Addr} : x ∈ s.ownsOf a → Reach s a x
  | step {a b x : Addr} : Reach s a b → x ∈ s.ownsOf b → Reach s a x

theorem Reach.congr {s s' : St} (h : s'.owns = s.owns) {a x : Addr} (r : Reach s' a x) : Reach s a x := by
  induction r with
  | base hx => exact Reach.base (by rwa [St.ownsOf_congr h] at hx)
  | step _ hx ih => exact Reach.step ih (by rwa [St.ownsOf_congr h] at hx)

theorem Reach.head {s : St} {a b x : Addr} (hb : b ∈ s.ownsOf a) (r : Reach s b x) : Reach s a x := by
  induction r with
  | base hx => exact Reach.step (Reach.base hb) hx
  | step _ hx ih => exact Reach.step ih hx

theorem Reach.closed {s : St} {P : Addr → Prop} (hP : ∀ b x, x ∈ s.ownsOf b → P b → P x) {a x : Addr}
    (r : Reach s a x) (ha : P a) : P x := by
  induction r with
  | base hx => exact hP _ _ hx ha
  | step _ hx ih => exact hP _ _ hx ih

/-- `x` is reached from `a` through ownership links whose targets all satisfy `T` (in the specifications below:
    are tracked by the collector when the work starts — a destructor's `del` of an untracked object goes no further) -/
inductive ReachT (s : St) (T : Addr → Prop) : Addr → Addr → Prop where
  | base {a x : Addr} : x ∈ s.ownsOf a → T x → ReachT s T a x
  | step {a b x : Addr} : ReachT s T a b → x ∈ s.ownsOf b → T x → ReachT s T a x

theorem ReachT.toReach {s : St} {T : Addr → Prop} {a x : Addr} (r : ReachT s T a x) : Reach s a x := by
  induction r with
  | base hx _ => exact Reach.base hx
  | step _ hx _ ih => exact Reach.step ih hx

theorem ReachT.congr_mono {s s' : St} {T T' : Addr → Prop} (h : s'.owns = s.owns) (hT : ∀ a, T' a → T a) {a x : Addr}
    (r : ReachT s' T' a x) : ReachT s T a x := by
  induction r with
  | base hx ht => exact ReachT.base (by rwa [St.ownsOf_congr h] at hx) (hT _ ht)
  | step _ hx ht ih => exact ReachT.step ih (by rwa [St.ownsOf_congr h] at hx) (hT _ ht)

theorem ReachT.head {s : St} {T : Addr → Prop} {a b x : Addr} (hb : b ∈ s.ownsOf a) (tb : T b) (r : ReachT s T b x) :
    ReachT s T a x := by
  induction r with
  | base hx ht => exact ReachT.step (ReachT.base hb tb) hx ht
  | step _ hx ht ih => exact ReachT.step ih hx ht

theorem ReachT.target {s : St} {T : Addr → Prop} {a x : Addr} (r : ReachT s T a x) : T x := by
  cases r with
  | base _ ht => exact ht
  | step _ _ ht => exact ht

theorem ReachT.closed {s : St} {T P : Addr → Prop} (hP : ∀ b x, x ∈ s.ownsOf b → T x → P b → P x) {a x : Addr}
    (r : ReachT s T a x) (ha : P a) : P x := by
  induction r with
  | base hx ht => exact hP _ _ hx ht ha
  | step _ hx ht ih => exact hP _ _ hx ht ih

/-- what `dealloc(destruct(a))` does: it logs `fin a … free a` and in between finalises, each exactly once, a duplicate-free
    set `D` of objects tracked at the start, each reached from `a` through tracked objects; exactly `D` leaves the tables;
    with the collector running `D` holds every tracked object that `a` or a member of `D` owns -/
def FinSpec (s : St) (a : Addr) (s' : St) : Prop :=
  ∃ D E, Eff s s' D (Ev.fin a :: (E ++ [Ev.free a])) ∧ Good D E ∧ (∀ d ∈ D, Tracked s d) ∧
    (∀ d ∈ D, ReachT s (Tracked s) a d) ∧
    (s.running = true → ∀ x ∈ s.ownsOf a, Tracked s x → x ∈ D) ∧
    (s.running = true → ∀ d ∈ D, ∀ y ∈ s.ownsOf d, Tracked s y → y ∈ D)

/-- what working off the deletion requests `l` (the `del`s of a destructor, the pending list of a sweep) does: the objects
    `D`, all tracked at the start, leave the tables, each finalised exactly once; each of them is a request or is reached
    from a request that is itself in `D` through objects tracked at the start; with the collector running `D` is closed
    under "owns a tracked object"; a request that satisfies `C` is certainly in `D` -/
def Worked (C : Addr → Prop) (s : St) (l : List Addr) (s' : St) : Prop :=
  ∃ D E, Eff s s' D E ∧ Good D E ∧ (∀ d ∈ D, Tracked s d) ∧
    (∀ d ∈ D, ∃ x ∈ l, x ∈ D ∧ (d = x ∨ ReachT s (Tracked s) x d)) ∧
    (∀ x ∈ l, C x → x ∈ D) ∧
    (s.running = true → ∀ d ∈ D, ∀ y ∈ s.ownsOf d, Tracked s y → y ∈ D)

theorem Worked.nothing {C : Addr → Prop} {s : St} {l : List Addr} (m : Nat) (h : ∀ x ∈ l, ¬ C x) :
    Worked C s l { s with mitems := m } :=
  ⟨[], [], (Eff.refl s).set_mitems m, Good.nil, by simp, by simp, fun x hx hc => absurd hc (h x hx), by simp⟩

/-- where the exact effect is proved: no pending object is registered, no destructor allocates, and fuel `f` is more than
    the number of tracked slots -/
structure Ready (f : Nat) (s : St) : Prop where
  disj : Disj s
  nodalloc : NoDAlloc s
  fuel : mu s < f

theorem Ready.eff {f : Nat} {s s' : St} {D : List Addr} {E : List Ev} (h : Ready f s) (he : Eff s s' D E) : Ready f s' :=
  ⟨he.disj h.disj, he.nodalloc h.nodalloc, Nat.lt_of_le_of_lt he.mu_le h.fuel⟩

theorem Ready.remove {f : Nat} {s s1 : St} {x : Addr} (h : Ready (f + 1) s) (he : Eff s s1 [x] []) (hlt : mu s1 < mu s) :
    Ready f s1 :=
  ⟨he.disj h.disj, he.nodalloc h.nodalloc, Nat.lt_of_lt_of_le hlt (Nat.le_of_lt_succ h.fuel)⟩

theorem Worked.ready {C : Addr → Prop} {s s' : St} {l : List Addr} {f : Nat} (h : Worked C s l s') (hr : Ready f s) :
    Ready f s' := by
  obtain ⟨_, _, he, _⟩ := h
  exact hr.eff he

/-- requests worked off one after the other; `hC`: a request not taken by the first piece of work is still wanted -/
theorem Worked.append {C C1 : Addr → Prop} {s s1 s2 : St} {l1 l2 : List Addr} (h1 : Worked C s l1 s1)
    (h2 : Worked C1 s1 l2 s2) (hC : ∀ {D E}, Eff s s1 D E → ∀ x ∈ l2, C x → x ∉ D → C1 x) :
    Worked C s (l1 ++ l2) s2 := by
  obtain ⟨D1, E1, he1, hg1, ht1, hr1, hc1, hk1⟩ := h1
  obtain ⟨D2, E2, he2, hg2, ht2, hr2, hc2, hk2⟩ := h2
  have hsub : ∀ a, Tracked s1 a → Tracked s a := fun a h => ((he1.tracked a).1 h).1
  refine ⟨D1 ++ D2, E1 ++ E2, he1.trans he2, ?_, ?_, ?_, ?_, ?_⟩
  · exact hg1.append hg2 (fun d hd2 => ((he1.tracked d).1 (ht2 d hd2)).2)
  · intro d hdd
    rcases List.mem_append.1 hdd with h | h
    · exact ht1 d h
    · exact hsub d (ht2 d h)
  · intro d hdd
    rcases List.mem_append.1 hdd with h | h
    · obtain ⟨x, hx, hxD, hxd⟩ := hr1 d h
      exact ⟨x, List.mem_append_left _ hx, List.mem_append_left _ hxD, hxd⟩
    · obtain ⟨y, hy, hyD, hyd⟩ := hr2 d h
      exact ⟨y, List.mem_append_right _ hy, List.mem_append_right _ hyD, hyd.imp_right (·.congr_mono he1.owns hsub)⟩
  · intro x hx hcx
    by_cases hxD : x ∈ D1
    · exact List.mem_append_left _ hxD
    · rcases List.mem_append.1 hx with hx | hx
      · exact absurd (hc1 x hx hcx) hxD
      · exact List.mem_append_right _ (hc2 x hx (hC he1 x hx hcx hxD))
  · intro hrun d hdd y hy hty
    by_cases hyD : y ∈ D1
    · exact List.mem_append_left _ hyD
    · rcases List.mem_append.1 hdd with h | h
      · exact absurd (hk1 hrun d h y hy hty) hyD
      · refine List.mem_append_right _ (hk2 (by rw [he1.running]; exact hrun) d h y ?_ ((he1.tracked y).2 ⟨hty, hyD⟩))
        rw [St.ownsOf_congr he1.owns]; exact hy

/-- `x` has just been taken off the collector's tables (state `s1`) and is finalised -/
theorem Worked.remove {C : Addr → Prop} {fin : St → Addr → St} {s s1 : St} {x : Addr}
    (he : Eff s s1 [x] []) (hx : Tracked s x) (hf : FinSpec s1 x (fin s1 x)) (m : Nat) :
    Worked C s [x] { fin s1 x with mitems := m } := by
  obtain ⟨D, E, heff, hgood, htr, hreach, hc1, hc2⟩ := hf
  have hxD : x ∉ D := fun h => ((he.tracked x).1 (htr x h)).2 (List.mem_singleton.2 rfl)
  have hsub : ∀ a, Tracked s1 a → Tracked s a := fun a h => ((he.tracked a).1 h).1
  refine ⟨x :: D, Ev.fin x :: (E ++ [Ev.free x]), ?_, hgood.bracket hxD, ?_, ?_, ?_, ?_⟩
  · exact (he.trans heff).set_mitems m
  · intro d hd
    rcases List.mem_cons.1 hd with rfl | hd
    · exact hx
    · exact hsub d (htr d hd)
  · intro d hd
    refine ⟨x, List.mem_singleton.2 rfl, List.mem_cons_self, ?_⟩
    rcases List.mem_cons.1 hd with rfl | hd
    · exact Or.inl rfl
    · exact Or.inr ((hreach d hd).congr_mono he.owns hsub)
  · intro y hy _
    rw [List.mem_singleton.1 hy]; exact List.mem_cons_self
  · intro hrun d hd y hy hty
    have hrun1 : s1.running = true := by rw [he.running]; exact hrun
    by_cases hyx : y = x
    · exact hyx ▸ List.mem_cons_self
    · have hty1 : Tracked s1 y := (he.tracked y).2 ⟨hty, by simpa using hyx⟩
      have hy1 : y ∈ s1.ownsOf d := by rw [St.ownsOf_congr he.owns]; exact hy
      rcases List.mem_cons.1 hd with rfl | hd
      · exact List.mem_cons_of_mem _ (hc1 hrun1 y hy1 hty1)
      · exact List.mem_cons_of_mem _ (hc2 hrun1 d hd y hy1 hty1)

section
-- the finaliser behaves with one unit of fuel less: the induction hypothesis of `finalise_spec`
variable {fin : St → Addr → St} {f : Nat} (hfin : ∀ s1 a, Ready f s1 → FinSpec s1 a (fin s1 a))
include hfin

/-- an object struck off the pending list and finalised: the first case of `GC_Rem_Ptr`, and a turn of the release loop -/
theorem Worked.strike {C : Addr → Prop} {s : St} {x : Addr} (h : Ready (f + 1) s) (hx : some x ∈ s.pending) (m : Nat) :
    Worked C s [x] { fin { s with pending := strike x s.pending } x with mitems := m } :=
  have he := Eff.strike h.disj hx
  Worked.remove he (Or.inl hx) (hfin _ x (h.remove he (mu_strike_lt hx))) m

theorem gcRem_spec (s : St) (x : Addr) (h : Ready (f + 1) s) :
    Worked (fun y => s.running = true ∧ Tracked s y) s [x] (gcRem fin Cfg.current s x) := by
  by_cases hr : s.running = true
  · rw [gcRem_running hr]
    by_cases hp : some x ∈ s.pending
    · rw [gcRemPtr_pending rfl hp]
      exact Worked.strike hfin h hp _
    · by_cases hg : x ∈ s.regAddrs
      · rw [gcRemPtr_reg hp hg]
        have he := Eff.erase hp
        exact Worked.remove he (Or.inr hg) (hfin _ x (h.remove he (mu_erase_lt hg))) _
      · rw [gcRemPtr_untracked (not_or.2 ⟨hp, hg⟩)]
        exact Worked.nothing _ fun y hy hc => not_or.2 ⟨hp, hg⟩ (List.mem_singleton.1 hy ▸ hc.2)
  · rw [gcRem_stopped (by simpa using hr)]
    exact Worked.nothing s.mitems fun _ _ hc => hr hc.1

theorem ownedFold_spec (l : List Addr) :
    ∀ t : St, Ready (f + 1) t →
      Worked (fun x => t.running = true ∧ Tracked t x) t l (l.foldl (fun st x => gcRem fin Cfg.current st x) t) := by
  induction l with
  | nil => intro t _; exact Worked.nothing t.mitems (by simp)
  | cons x l ih =>
    intro t h
    have h1 := gcRem_spec hfin t x h
    exact h1.append (ih _ (h1.ready h)) fun he y _ hc hy => ⟨by rw [he.running]; exact hc.1, (he.tracked y).2 ⟨hc.2, hy⟩⟩

end

/-- By induction on the fuel: every nested destructor call comes after the removal of one tracked slot (`Ready.remove`), so
    fuel above `mu s` suffices, also around a ring of owners. -/
theorem finalise_spec (f : Nat) : ∀ (s : St) (a : Addr), Ready f s → FinSpec s a (finalise f Cfg.current s a) := by
  induction f with
  | zero => intro s a h; exact absurd h.fuel (Nat.not_lt_zero _)
  | succ f ih =>
    intro s a h
    have he1 : Eff s { s with log := s.log ++ [Ev.fin a] } [] [Ev.fin a] := Eff.log_only s _
    obtain ⟨D, E, he2, hg, ht, hr, hc, hk⟩ := ownedFold_spec ih (s.ownsOf a) _ (h.eff he1)
    have hsub : ∀ b, Tracked { s with log := s.log ++ [Ev.fin a] } b → Tracked s b := fun b h => h
    refine ⟨D, E, ?_, hg, ht, ?_, fun hrun x hx htx => hc x hx ⟨hrun, htx⟩, hk⟩
    · -- the destructor's loop of allocations is empty; what is left is `fin a`, the loop of `del`s, the `del(NULL)`, `free a`
      unfold finalise
      rw [St.dallocOf_nil h.nodalloc]
      simpa using ((he1.trans he2).trans (Eff.maybe_null Cfg.current (s.nulldel.contains a) _)).trans
        (Eff.log_only _ [Ev.free a])
    · intro d hdd
      obtain ⟨x, hx, hxD, hxd⟩ := hr d hdd
      rcases hxd with rfl | hxd
      · exact ReachT.base hx (ht _ hdd)
      · exact ReachT.head hx (ht _ hxD) (hxd.congr_mono he1.owns hsub)

theorem mu_lt_fuelFor (s : St) : mu s < fuelFor s := by
  unfold mu fuelFor
  have := List.length_filter_le Option.isSome s.pending
  omega

theorem sweepLoop_spec (F : Nat) (todo : List Addr) :
    ∀ t : St, Ready (F + 1) t → Worked (fun x => some x ∈ t.pending) t todo (sweepLoop F Cfg.current todo t) := by
  induction todo with
  | nil => intro t _; exact Worked.nothing t.mitems (by simp)
  | cons a rest ih =>
    intro t h
    have hC : ∀ {t1 : St} {D E}, Eff t t1 D E → ∀ x ∈ rest, some x ∈ t.pending → x ∉ D → some x ∈ t1.pending :=
      fun he x _ hc hx => he.mem_pending.2 ⟨hc, hx⟩
    unfold sweepLoop
    by_cases hp : some a ∈ t.pending
    · rw [sweepLoopWith_cons_pending rfl hp]
      have h1 := Worked.strike (C := fun x => some x ∈ t.pending) (finalise_spec F) h hp
        (finalise F Cfg.current { t with pending := strike a t.pending } a).mitems
      exact h1.append (ih _ (h1.ready h)) hC
    · rw [sweepLoopWith_cons_gone hp]
      exact (Worked.nothing t.mitems fun y hy hc => hp (by rw [List.mem_singleton.1 hy] at hc; exact hc)).append (ih t h) hC

/-- what a collection with marked set `marks` does, seen from a state between operations (empty pending list): it finalises,
    each exactly once, a duplicate-free set `D` of registered objects, and exactly `D` leaves the registry; `D` holds every
    unmarked non-root entry and otherwise only objects such entries own, directly or through registered objects; with the
    collector running `D` is closed under "owns a registered object" -/
def SweepSpec (s : St) (marks : List Addr) (s' : St) : Prop :=
  ∃ D E, Eff s s' D E ∧ Good D E ∧ (∀ d ∈ D, d ∈ s.regAddrs) ∧
    (∀ e ∈ s.reg, swept marks e = true → e.addr ∈ D) ∧
    (∀ d ∈ D, ∃ e ∈ s.reg, swept marks e = true ∧ (d = e.addr ∨ ReachT s (· ∈ s.regAddrs) e.addr d)) ∧
    (s.running = true → ∀ d ∈ D, ∀ y ∈ s.ownsOf d, y ∈ s.regAddrs → y ∈ D)

theorem sweep_spec (s : St) (marks order : List Addr) (hp : s.pending = []) (hn : s.regAddrs.Nodup)
    (hnd : NoDAlloc s) : SweepSpec s marks (sweep Cfg.current s marks order) := by
  -- phase 1 only moves entries to the pending list: `mu` is still at most `s.reg.length`
  have hmu1 : mu (sweep1 s marks order) < fuelFor s + 1 := by
    have h1 := length_kept_add_length_pendingOf s marks order
    have h2 := List.length_filter_le Option.isSome ((pendingOf s marks order).map some)
    rw [List.length_map] at h2
    show (s.reg.filter fun e => !swept marks e).length + (((pendingOf s marks order).map some).filter Option.isSome).length < _
    unfold fuelFor; omega
  obtain ⟨D, E, he, hg, ht, hr, hin, hk⟩ :=
    sweepLoop_spec (fuelFor s) (pendingOf s marks order) _ ⟨disj_sweep1 hn marks order, hnd, hmu1⟩
  have hsweptD : ∀ e ∈ s.reg, swept marks e = true → e.addr ∈ D := fun e he' hsw =>
    have h1 := mem_pendingOf.2 ⟨e, he', hsw, rfl⟩
    hin _ h1 (mem_pending_sweep1.2 h1)
  refine ⟨D, E, ⟨?_, ?_, he.running, he.owns, he.log, he.dalloc⟩, hg, fun d hd => tracked_sweep1.1 (ht d hd), hsweptD, ?_, ?_⟩
  · -- `he` is relative to `sweep1 s`; relative to `s` the registry is the same filter, since every swept entry is in `D`
    show (sweepLoop (fuelFor s) Cfg.current (pendingOf s marks order) (sweep1 s marks order)).reg = regWithout D s.reg
    rw [he.reg]
    show regWithout D (s.reg.filter fun e => !swept marks e) = _
    unfold regWithout
    rw [List.filter_filter]
    apply List.filter_congr
    intro e he'
    cases hsw : swept marks e
    · simp
    · simp [hsweptD e he' hsw]
  · show ([] : List (Option Addr)) = strikeAll D s.pending
    rw [hp]; rfl
  · intro d hd
    obtain ⟨x, hx, _, hxd⟩ := hr d hd
    obtain ⟨e, he', hsw, rfl⟩ := mem_pendingOf.1 hx
    exact ⟨e, he', hsw, hxd.imp_right (ReachT.congr_mono (s := s) (s' := sweep1 s marks order) rfl fun _ => tracked_sweep1.1)⟩
  · intro hrun d hd y hy hyreg
    exact hk hrun d hd y hy (tracked_sweep1.2 hyreg)

/-- `del`/`del_root` by the program: between two operations, with the fuel `step` gives it -/
theorem gcRem_fuelFor {s : St} (hp : s.pending = []) (hnd : NoDAlloc s) (x : Addr) :
    Worked (fun y => s.running = true ∧ Tracked s y) s [x] (gcRem (finalise (fuelFor s) Cfg.current) Cfg.current s x) :=
  gcRem_spec (finalise_spec (fuelFor s)) s x ⟨.of_pending_nil hp, hnd, Nat.lt_succ_of_lt (mu_lt_fuelFor s)⟩

theorem finalise_fuelFor {s : St} (hp : s.pending = []) (hnd : NoDAlloc s) (a : Addr) :
    FinSpec s a (finalise (fuelFor s) Cfg.current s a) :=
  finalise_spec (fuelFor s) s a ⟨.of_pending_nil hp, hnd, mu_lt_fuelFor s⟩

theorem SweepSpec.survivors {s s' : St} {marks : List Addr} (h : SweepSpec s marks s') :
    ∀ e ∈ s'.reg, e ∈ s.reg ∧ swept marks e = false := by
  obtain ⟨D, E, he, _, _, hsw, _⟩ := h
  intro e he'
  have hm := List.mem_filter.1 (show e ∈ regWithout D s.reg from he.reg ▸ he')
  refine ⟨hm.1, ?_⟩
  cases hs : swept marks e
  · rfl
  · exact absurd (hsw e hm.1 hs) (by simpa using hm.2)

/-- `hsole` is the sole-ownership obligation: what an unmarked object owns is unmarked -/
theorem SweepSpec.respects_marks {s s' : St} {marks : List Addr} (h : SweepSpec s marks s')
    (hsole : ∀ b x, x ∈ s.ownsOf b → b ∉ marks → x ∉ marks) :
    ∃ E, s'.log = s.log ++ E ∧ (∀ a ∈ marks, Clean a E) ∧
      (∀ e ∈ s.reg, e.root = false → e.addr ∉ marks → Once e.addr E) := by
  obtain ⟨D, E, he, hg, _, hsw, hr, _⟩ := h
  refine ⟨E, he.log, fun a ha => hg.clean a fun hd => ?_,
    fun e he' hroot hm => hg.once _ (hsw e he' (swept_iff.2 ⟨hroot, hm⟩))⟩
  obtain ⟨e, _, hs, hd'⟩ := hr a hd
  have hem : e.addr ∉ marks := (swept_iff.1 hs).2
  rcases hd' with rfl | hreach
  · exact hem ha
  · exact Reach.closed (P := fun x => x ∉ marks) hsole hreach.toReach hem ha

/-- the finalised set is the closure of the unmarked non-root entries under "owns a registered object" (`sub`), whatever
    the slot order; the ledgers differ by the order of the events only -/
theorem SweepSpec.unique {s s1 s2 : St} {marks : List Addr} (h1 : SweepSpec s marks s1) (h2 : SweepSpec s marks s2)
    (hrun : s.running = true) : (∀ a, a ∈ s1.regAddrs ↔ a ∈ s2.regAddrs) ∧ s1.log.Perm s2.log := by
  obtain ⟨D1, E1, he1, hg1, _, hsw1, hr1, hk1⟩ := h1
  obtain ⟨D2, E2, he2, hg2, _, hsw2, hr2, hk2⟩ := h2
  have sub : ∀ {D D' : List Addr},
      (∀ d ∈ D, ∃ e ∈ s.reg, swept marks e = true ∧ (d = e.addr ∨ ReachT s (· ∈ s.regAddrs) e.addr d)) →
      (∀ e ∈ s.reg, swept marks e = true → e.addr ∈ D') →
      (∀ d ∈ D', ∀ y ∈ s.ownsOf d, y ∈ s.regAddrs → y ∈ D') → ∀ d ∈ D, d ∈ D' := by
    intro D D' hr hsw hk d hd
    obtain ⟨e, he, hs, hde⟩ := hr d hd
    rcases hde with rfl | hreach
    · exact hsw e he hs
    · exact hreach.closed (P := (· ∈ D')) (fun b x hx ht hb => hk b hb x hx ht) (hsw e he hs)
  have h12 : ∀ d, d ∈ D1 ↔ d ∈ D2 := fun d => ⟨sub hr1 hsw2 (hk2 hrun) d, sub hr2 hsw1 (hk1 hrun) d⟩
  constructor
  · intro a
    rw [he1.mem_regAddrs, he2.mem_regAddrs, h12]
  · rw [he1.log, he2.log]
    exact List.Perm.append_left _ (hg1.perm hg2 h12)

end Cello.Life
