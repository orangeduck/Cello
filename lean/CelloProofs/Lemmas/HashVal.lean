/-
  Lemmas for C10: the scalar comparisons. Each is core's `compare` on a key (an `Int64` by value, a double by its position
  `floatKey`, everything else by its bytes) reported as −1 / 0 / 1 (`ordInt`), so the order laws are those of `compare`.
  `SameTy`: the six cases in which `scalarCmp` has a result. `Above`: the strict order `cmp(a, b) > 0`.
-/
import Cello.Hash
import CelloProofs.Lemmas.CmpFloat

namespace Cello.Hash

def ordInt : Ordering → Int
  | .lt => -1 | .eq => 0 | .gt => 1

section
variable {α : Type} {cmp : α → α → Ordering}

theorem ordInt_pos {o : Ordering} : 0 < ordInt o ↔ o = .gt := by cases o <;> simp [ordInt]

theorem ordInt_eq_zero {o : Ordering} : ordInt o = 0 ↔ o = .eq := by cases o <;> simp [ordInt]

theorem ordInt_cmp_self [Std.ReflCmp cmp] (a : α) : ordInt (cmp a a) = 0 := by rw [Std.ReflCmp.compare_self (cmp := cmp)]; rfl

theorem ordInt_cmp_swap [Std.OrientedCmp cmp] (a b : α) : ordInt (cmp b a) = - ordInt (cmp a b) := by
  rw [Std.OrientedCmp.eq_swap (cmp := cmp) (a := b)]; cases cmp a b <;> rfl

theorem ordInt_cmp_trans [Std.TransCmp cmp] {a b c : α} (h1 : 0 < ordInt (cmp a b)) (h2 : 0 < ordInt (cmp b c)) :
    0 < ordInt (cmp a c) :=
  ordInt_pos.mpr (Std.TransCmp.gt_trans (ordInt_pos.mp h1) (ordInt_pos.mp h2))

theorem eq_of_ordInt_cmp [Std.LawfulEqCmp cmp] {a b : α} (h : ordInt (cmp a b) = 0) : a = b :=
  Std.LawfulEqCmp.eq_of_compare (ordInt_eq_zero.mp h)

/-- the C idiom `a > b ? 1 : a < b ? -1 : 0` -/
theorem ordInt_compare [Ord α] [LT α] [LE α] [Std.LawfulOrderOrd α] [Std.LawfulOrderLT α] [DecidableLT α] (a b : α) :
    (if b < a then 1 else if a < b then -1 else 0 : Int) = ordInt (compare a b) := by
  simp only [← Std.compare_eq_gt (a := a) (b := b), ← Std.compare_eq_lt (a := a) (b := b)]
  cases compare a b <;> rfl

end

theorem bytesCmp_eq : ∀ a b : Bytes, bytesCmp a b = ordInt (compare a b)
  | [], [] | [], _ :: _ | _ :: _, [] => rfl
  | x :: xs, y :: ys => by
    rw [bytesCmp, List.compare_cons_cons, bytesCmp_eq xs ys]
    simp only [← Std.compare_eq_gt (a := x) (b := y), ← Std.compare_eq_lt (a := x) (b := y)]
    cases compare x y <;> rfl

theorem bytesCmp_self (a : Bytes) : bytesCmp a a = 0 := by rw [bytesCmp_eq]; exact ordInt_cmp_self a

theorem bytesCmp_eq_zero (a b : Bytes) (h : bytesCmp a b = 0) : a = b := eq_of_ordInt_cmp (bytesCmp_eq a b ▸ h)

theorem bytesCmp_swap (a b : Bytes) : bytesCmp b a = - bytesCmp a b := by rw [bytesCmp_eq, bytesCmp_eq, ordInt_cmp_swap]

theorem bytesCmp_trans (a b c : Bytes) (h1 : 0 < bytesCmp a b) (h2 : 0 < bytesCmp b c) : 0 < bytesCmp a c := by
  rw [bytesCmp_eq] at *; exact ordInt_cmp_trans h1 h2

theorem intCmp_eq (a b : Int64) : intCmp a b = ordInt (compare a b) := ordInt_compare a b

theorem intCmp_self (a : Int64) : intCmp a a = 0 := by rw [intCmp_eq]; exact ordInt_cmp_self a

theorem intCmp_eq_zero (a b : Int64) (h : intCmp a b = 0) : a = b := eq_of_ordInt_cmp (intCmp_eq a b ▸ h)

theorem intCmp_swap (a b : Int64) : intCmp b a = - intCmp a b := by rw [intCmp_eq, intCmp_eq, ordInt_cmp_swap]

theorem intCmp_pos {a b : Int64} : 0 < intCmp a b ↔ b < a := by rw [intCmp_eq, ordInt_pos, Std.compare_eq_gt]

/-! Float: `floatMag`, `floatNeg`, `floatKey` are the functions `low63`, `fNeg`, `fkey` of engine C09 (Cello/Cmp.lean), written with
  `% 2 ^ 63` where those mask bits; what is proved of the layout there (CelloProofs/Lemmas/CmpFloat.lean) is carried over. -/

section
open Cello.Cmp (fkey fNeg low63)

theorem floatMag_eq_low63 (b : UInt64) : floatMag b = low63 b := (Cello.Cmp.low63_eq b).symm

theorem floatNeg_eq_fNeg (b : UInt64) : floatNeg b = fNeg b := decide_eq_decide.mpr (Cello.Cmp.signBit_iff b).symm

theorem floatKey_eq_fkey (b : UInt64) : floatKey b = fkey b := by
  rw [Cello.Cmp.fkey_eq_low63, floatKey, floatNeg_eq_fNeg, floatMag_eq_low63, fNeg]; simp only [decide_eq_true_eq]

end

theorem floatKey_inj {a b : UInt64} (h : floatKey a = floatKey b) (hz : floatKey a ≠ 0) : a = b :=
  Cello.Cmp.fkey_inj (by rwa [floatKey_eq_fkey, floatKey_eq_fkey] at h) (by rwa [floatKey_eq_fkey] at hz)

theorem floatIsZero_iff_key {a : UInt64} : floatIsZero a = true ↔ floatKey a = 0 := by
  unfold floatKey floatIsZero; rw [beq_iff_eq]; split <;> omega

theorem floatKey_eq_iff {a b : UInt64} :
    floatKey a = floatKey b ↔ a = b ∨ (floatIsZero a = true ∧ floatIsZero b = true) := by
  rw [floatIsZero_iff_key, floatIsZero_iff_key, floatKey_eq_fkey, floatKey_eq_fkey]; exact Cello.Cmp.fkey_eq_iff_bits a b

theorem floatCmp_eq (a b : UInt64) :
    floatCmp a b = if floatIsNaN a || floatIsNaN b then 0 else ordInt (compare (floatKey a) (floatKey b)) := by
  rw [← ordInt_compare]; rfl

theorem floatCmp_self (a : UInt64) : floatCmp a a = 0 := by
  rw [floatCmp_eq, ordInt_cmp_self]; split <;> rfl

theorem floatCmp_swap (a b : UInt64) : floatCmp b a = - floatCmp a b := by
  rw [floatCmp_eq, floatCmp_eq, Bool.or_comm, ordInt_cmp_swap]; split <;> rfl

theorem floatCmp_pos {a b : UInt64} :
    0 < floatCmp a b ↔ (floatIsNaN a = false ∧ floatIsNaN b = false ∧ floatKey b < floatKey a) := by
  rw [floatCmp_eq]
  cases floatIsNaN a <;> cases floatIsNaN b <;> simp [ordInt_pos, Std.compare_eq_gt]

theorem floatCmp_eq_zero_iff_key {a b : UInt64} (ha : floatIsNaN a = false) (hb : floatIsNaN b = false) :
    floatCmp a b = 0 ↔ floatKey a = floatKey b := by
  rw [floatCmp_eq, ha, hb]; exact ordInt_eq_zero.trans Std.compare_eq_iff_eq

theorem floatCmp_eq_zero_iff_bits {a b : UInt64} (ha : floatIsNaN a = false) (hb : floatIsNaN b = false) :
    floatCmp a b = 0 ↔ a = b ∨ (floatIsZero a = true ∧ floatIsZero b = true) :=
  (floatCmp_eq_zero_iff_key ha hb).trans floatKey_eq_iff

theorem floatHash_zero (b : UInt64) (h : floatIsZero b = true) : floatHash true b = 0 := by
  simp [floatHash, h]

theorem scalarCmp_self (addr : Nat → Bytes) (s : Scalar) : scalarCmp addr s s = some 0 := by
  cases s <;> simp [scalarCmp, intCmp_self, floatCmp_self, bytesCmp_self]

def Scalar.isNaN : Scalar → Bool
  | .float b => floatIsNaN b
  | _ => false

/-- two scalars of one type: what `cmp`, `assign` and `swap` ask of their operands -/
inductive SameTy : Scalar → Scalar → Prop
  | int (a b : Int64) : SameTy (.int a) (.int b)
  | float (a b : UInt64) : SameTy (.float a) (.float b)
  | str (a b : Bytes) : SameTy (.str a) (.str b)
  | typ (a b : Bytes) : SameTy (.typ a) (.typ b)
  | ptr (bx : Bool) (a b : Nat) : SameTy (.ptr bx a) (.ptr bx b)
  | raw (k : Nat) (a b : Bytes) : SameTy (.raw k a) (.raw k b)

theorem SameTy.of_ty {a b : Scalar} (h : a.ty = b.ty) : SameTy a b := by
  rcases a with _ | _ | _ | _ | ⟨_ | _, _⟩ | _ <;> rcases b with _ | _ | _ | _ | ⟨_ | _, _⟩ | _ <;>
    simp only [Scalar.ty, reduceCtorEq, Ty.raw.injEq] at h <;> first | constructor | (subst h; constructor)

theorem SameTy.of_cmp {addr : Nat → Bytes} {a b : Scalar} {c : Int} (h : scalarCmp addr a b = some c) : SameTy a b := by
  cases a <;> cases b <;> simp only [scalarCmp, reduceCtorEq] at h <;> first | constructor | skip
  · obtain ⟨rfl, -⟩ := Option.ite_some_none_eq_some.mp h; constructor
  · obtain ⟨rfl, -⟩ := Option.ite_some_none_eq_some.mp h; constructor

theorem scalarCmp_swap (addr : Nat → Bytes) (a b : Scalar) :
    scalarCmp addr b a = (scalarCmp addr a b).map (fun c => -c) := by
  cases h : scalarCmp addr a b with
  | none =>
    cases h' : scalarCmp addr b a with
    | none => rfl
    | some c => cases SameTy.of_cmp h' <;> simp [scalarCmp] at h
  | some c =>
    cases SameTy.of_cmp h <;> simp only [scalarCmp, if_true, Option.some.injEq] at h ⊢ <;> subst h
    · exact congrArg some (intCmp_swap _ _)
    · exact congrArg some (floatCmp_swap _ _)
    all_goals exact congrArg some (bytesCmp_swap _ _)

theorem scalarCmp_isSome_of_ty (addr : Nat → Bytes) (a b : Scalar) (h : a.ty = b.ty) : ∃ c, scalarCmp addr a b = some c := by
  cases SameTy.of_ty h <;> simp [scalarCmp]

/-- values that compare 0 compare alike with everything (neither a NaN): equal Ints, doubles at one position, equal bytes -/
theorem scalarCmp_congr (addr : Nat → Bytes) {r k : Scalar} (hr : r.isNaN = false) (hk : k.isNaN = false)
    (h0 : scalarCmp addr r k = some 0) (c : Scalar) : scalarCmp addr k c = scalarCmp addr r c := by
  cases SameTy.of_cmp h0 <;> simp only [scalarCmp, if_true, Option.some.injEq] at h0
  · rw [intCmp_eq_zero _ _ h0]
  · rename_i a b
    cases c <;> simp only [scalarCmp]
    simp only [floatCmp, show floatIsNaN a = false from hr, show floatIsNaN b = false from hk, (floatCmp_eq_zero_iff_key hr hk).mp h0]
  all_goals cases c <;> simp only [scalarCmp, bytesCmp_eq_zero _ _ h0]

theorem scalarCmp_neg_of_swap {addr : Nat → Bytes} {a b : Scalar} {z : Int} (h : scalarCmp addr b a = some z) :
    scalarCmp addr a b = some (-z) := by
  rw [scalarCmp_swap, h]; rfl

/-- `a` lies above `b`: the two are comparable and `cmp(a, b) > 0`. The strict order a Tree keeps its keys in (`Desc`, on entries);
    "`a` below `b`" is `Above addr b a`. -/
def Above (addr : Nat → Bytes) (a b : Scalar) : Prop := ∃ c, scalarCmp addr a b = some c ∧ 0 < c

namespace Above
variable {addr : Nat → Bytes} {a b c k r : Scalar}

theorem of_neg {z : Int} (h : scalarCmp addr a b = some z) (hz : z < 0) : Above addr b a :=
  ⟨-z, scalarCmp_neg_of_swap h, by omega⟩

theorem trans (h1 : Above addr a b) (h2 : Above addr b c) : Above addr a c := by
  obtain ⟨x, h1, hx⟩ := h1
  obtain ⟨y, h2, hy⟩ := h2
  unfold Above
  cases SameTy.of_cmp h1 <;> cases SameTy.of_cmp h2 <;> simp only [scalarCmp, if_true, Option.some.injEq] at h1 h2 ⊢ <;>
    subst h1 h2 <;> refine ⟨_, rfl, ?_⟩
  · exact intCmp_pos.mpr (Int64.lt_trans (intCmp_pos.mp hy) (intCmp_pos.mp hx))
  · obtain ⟨na, nb, k1⟩ := floatCmp_pos.mp hx
    obtain ⟨_, nc, k2⟩ := floatCmp_pos.mp hy
    exact floatCmp_pos.mpr ⟨na, nc, by omega⟩
  all_goals exact bytesCmp_trans _ _ _ hx hy

theorem asymm (h1 : Above addr a b) (h2 : Above addr b a) : False := by
  obtain ⟨x, hx, px⟩ := h1
  obtain ⟨y, hy, py⟩ := h2
  obtain rfl : y = -x := Option.some.inj (hy.symm.trans (scalarCmp_neg_of_swap hx))
  omega

theorem not_nan (h : Above addr a b) : a.isNaN = false ∧ b.isNaN = false := by
  obtain ⟨z, h, hz⟩ := h
  cases SameTy.of_cmp h <;> try exact ⟨rfl, rfl⟩
  obtain rfl : floatCmp _ _ = z := Option.some.inj h
  exact ⟨(floatCmp_pos.mp hz).1, (floatCmp_pos.mp hz).2.1⟩

theorem congr_left (hk : k.isNaN = false) (h0 : scalarCmp addr r k = some 0) (h : Above addr r c) : Above addr k c := by
  unfold Above; rw [scalarCmp_congr addr h.not_nan.1 hk h0]; exact h

theorem congr_right (hk : k.isNaN = false) (h0 : scalarCmp addr r k = some 0) (h : Above addr c r) : Above addr c k := by
  unfold Above; rw [scalarCmp_swap, scalarCmp_congr addr h.not_nan.2 hk h0, ← scalarCmp_swap]; exact h

theorem keyEq_false (h : Above addr a b) : keyEq addr a b = false ∧ keyEq addr b a = false := by
  obtain ⟨z, hz, hpos⟩ := h
  simp [keyEq, hz, scalarCmp_neg_of_swap hz]; omega

end Above

end Cello.Hash
