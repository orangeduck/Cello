/- `mem` of the Get instances of src/Iter.c, for C11 — the two loops (Slice_Mem's `while (curr)`, the `foreach`
   of Zip_Mem / Filter_Mem / Map_Mem) over a terminating walk, and Range_Mem's arithmetic -/
import CelloProofs.Lemmas.IterRange

namespace Cello.Iter

/-- a loop over a walk that yields `l` and then Terminal, when the loop answers true at the first item equal to the key and
    `t` at Terminal: true when the key is among `l`, else `t` -/
theorem memWalk_of_run {σ α : Type} (eq : α → Bool) (step : σ → σ × Res α) (loop : Nat → σ × Res α → MemRes) (t : MemRes)
    (hi : ∀ n s a, loop (n + 1) (s, .item a) = if eq a then .yes else loop n (step s))
    (ht : ∀ n s, loop (n + 1) (s, .term) = t) :
    ∀ (r : σ × Res α) (l : List α), Run step r l → ∀ fuel, l.length < fuel →
      loop fuel r = if l.any eq then .yes else t := by
  intro r l h
  induction h with
  | term s =>
    intro fuel hf
    cases fuel with
    | zero => simp at hf
    | succ n => simp [ht]
  | item s a l _ ih =>
    intro fuel hf
    cases fuel with
    | zero => simp at hf
    | succ n =>
      rw [hi, List.any_cons, ih n (Nat.lt_of_succ_lt_succ hf)]
      by_cases he : eq a = true <;> simp [he]

theorem memLoop_of_run {σ α : Type} (eq : α → Bool) (step : σ → σ × Res α) :
    ∀ (r : σ × Res α) (l : List α), Run step r l → ∀ fuel, l.length < fuel →
      memLoop eq step fuel r = if l.any eq then .yes else .undef :=
  memWalk_of_run eq step (memLoop eq step) .undef (fun _ _ _ => rfl) (fun _ _ => rfl)

theorem memForeach_of_run {σ α : Type} (eq : α → Bool) (step : σ → σ × Res α) :
    ∀ (r : σ × Res α) (l : List α), Run step r l → ∀ fuel, l.length < fuel →
      memForeach eq step fuel r = if l.any eq then .yes else .no :=
  memWalk_of_run eq step (memForeach eq step) .no (fun _ _ _ => rfl) (fun _ _ => rfl)

theorem memLoop_ne_no {σ α : Type} (eq : α → Bool) (step : σ → σ × Res α) :
    ∀ fuel (r : σ × Res α), memLoop eq step fuel r ≠ .no := by
  intro fuel
  induction fuel with
  | zero => intro r; simp [memLoop]
  | succ n ih =>
    intro r
    obtain ⟨s, x⟩ := r
    cases x with
    | item a =>
      simp only [memLoop]
      split
      · simp
      · exact ih _
    | term => simp [memLoop]
    | undef => simp [memLoop]
    | hang => simp [memLoop]

/-- `a + d * 0, a + d * 1, …` for a positive `d`: the numbers from `a` on whose distance from `a` leaves no remainder -/
theorem tmod_zero_ge_iff (d a k : Int) (hd : 0 < d) : a ≤ k ∧ Int.tmod (k - a) d = 0 ↔ ∃ j : Nat, k = a + d * j := by
  constructor
  · rintro ⟨h0, h⟩
    obtain ⟨q, hq⟩ := Int.dvd_of_tmod_eq_zero h
    have hq0 : 0 ≤ q := Int.nonneg_of_mul_nonneg_right (hq ▸ Int.sub_nonneg_of_le h0) hd
    exact ⟨q.toNat, by rw [Int.toNat_of_nonneg hq0]; exact Int.sub_eq_iff_eq_add'.mp hq⟩
  · rintro ⟨j, rfl⟩
    rw [Int.add_comm, Int.add_sub_cancel]
    exact ⟨Int.le_add_of_nonneg_left (Int.mul_nonneg (Int.le_of_lt hd) (Int.natCast_nonneg j)), Int.tmod_eq_zero_of_dvd ⟨j, rfl⟩⟩

/-- the value test of Range_Mem (without the index normalisation) is membership, for EVERY integer: upwards the distance
    from `start`, downwards the distance below `stop - 1`, is a multiple of `|step|` -/
theorem rangeMemFix_iff (a b c k : Int) : rangeMemFix a b c k = true ↔ k ∈ rangeList a b c := by
  rw [rangeList_mem]
  rcases Int.lt_trichotomy c 0 with hc | hc | hc
  · have hm := tmod_zero_ge_iff (-c) k (b - 1) (Int.neg_pos_of_neg hc)
    rw [show b - 1 - k = -(k - (b - 1)) by omega, Int.neg_tmod, Int.neg_eq_zero] at hm
    simp only [Int.neg_mul] at hm
    simp only [rangeMemFix, Int.ne_of_lt hc, if_false, Int.lt_asymm hc, decide_eq_true_eq, false_and, false_or, hc, true_and]
    constructor
    · rintro ⟨h1, h2, h3⟩
      obtain ⟨j, hj⟩ := hm.mp ⟨by omega, h3⟩
      exact ⟨j, by omega, h1⟩
    · rintro ⟨j, hj, h1⟩
      have := hm.mpr ⟨j, by omega⟩
      exact ⟨h1, by omega, this.2⟩
  · subst hc; simp [rangeMemFix]
  · have hm := tmod_zero_ge_iff c a k hc
    simp only [rangeMemFix, Int.ne_of_gt hc, if_false, hc, if_true, decide_eq_true_eq, true_and, Int.lt_asymm hc, false_and, or_false]
    constructor
    · rintro ⟨h1, h2, h3⟩
      obtain ⟨j, hj⟩ := hm.mp ⟨h1, h3⟩
      exact ⟨j, hj, h2⟩
    · rintro ⟨j, hj, h2⟩
      have := hm.mpr ⟨j, hj⟩
      exact ⟨this.1, h2, this.2⟩

/-- Range_Mem as it is: the value test applied to `key + len` for a negative key -/
theorem rangeMem_eq_fix (a b c k : Int) :
    rangeMem a b c k = rangeMemFix a b c (if k < 0 then (rangeLen a b c : Int) + k else k) := by
  simp only [rangeMem, rangeMemFix]

end Cello.Iter
