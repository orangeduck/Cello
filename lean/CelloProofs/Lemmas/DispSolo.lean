/-
  The machine of one lookup, run alone, ends in what the sequential functions `scan` / `instanceOf` compute
  (`reach_scan`, `reach_instanceOf`), and a run keeps the invariant of the record (`Reach.inv`): that is how the
  sequential functions get their specifications (Disp.lean).
-/
import CelloProofs.Lemmas.DispStep

namespace Cello.Dispatch

/-- `y` is what the machine is in after some number of steps from `x` (a step from a terminal state changes nothing) -/
inductive Reach (slots : List (Nat × Cls)) : TypeRec × PC → TypeRec × PC → Prop
  | refl (x : TypeRec × PC) : Reach slots x x
  | next (x y : TypeRec × PC) : Reach slots (step slots x.1 x.2) y → Reach slots x y

theorem Reach.trans {slots : List (Nat × Cls)} {x y z : TypeRec × PC} (h1 : Reach slots x y) (h2 : Reach slots y z) :
    Reach slots x z := by
  induction h1 with
  | refl _ => exact h2
  | next x y _ ih => exact Reach.next x z (ih h2)

theorem Reach.head {slots : List (Nat × Cls)} {t : TypeRec} {pc : PC} {y z : TypeRec × PC} (h : step slots t pc = y)
    (r : Reach slots y z) : Reach slots (t, pc) z := Reach.next (t, pc) z (h ▸ r)

theorem reach_one {slots : List (Nat × Cls)} (t : TypeRec) (pc : PC) :
    Reach slots (t, pc) (step slots t pc) := Reach.head rfl (Reach.refl _)

theorem Reach.inv {D : String → Option Inst} {slots : List (Nat × Cls)} {n : Nat} (hs : SlotsOK slots n)
    {x y : TypeRec × PC} (r : Reach slots x y) (h : Inv D slots n x.1) (hp : PCOK D slots x.1.entries x.2) :
    Kept D slots n x.1 y.1 ∧ PCOK D slots y.1.entries y.2 := by
  induction r with
  | refl x => exact ⟨.refl h, hp⟩
  | next x y _ ih =>
    have sp := step_spec hs h x.2 hp
    have := ih sp.1.inv sp.2
    exact ⟨sp.1.trans this.1, this.2⟩

def PC.terminal : PC → Bool
  | .done _ _ => true
  | .stuck => true
  | _ => false

theorem runSolo_terminal (slots : List (Nat × Cls)) (fuel : Nat) (t : TypeRec) {pc : PC} (h : pc.terminal = true) :
    runSolo slots fuel t pc = (t, pc) := by
  cases fuel with
  | zero => rfl
  | succ f => cases pc <;> first | rfl | cases h

theorem runSolo_succ (slots : List (Nat × Cls)) (fuel : Nat) (t : TypeRec) {pc : PC} (h : pc.terminal = false) :
    runSolo slots (fuel + 1) t pc = runSolo slots fuel (step slots t pc).1 (step slots t pc).2 := by
  cases pc <;> first | rfl | cases h

theorem step_terminal (slots : List (Nat × Cls)) (t : TypeRec) {pc : PC} (h : pc.terminal = true) :
    step slots t pc = (t, pc) := by
  cases pc <;> first | rfl | cases h

/-- a deterministic machine with a decreasing measure: enough fuel ends in the terminal state that is reachable -/
theorem runSolo_of_reach {slots : List (Nat × Cls)} {x y : TypeRec × PC} (h : Reach slots x y) (hy : y.2.terminal = true) :
    ∀ fuel, pcMeasure x.1.entries.length x.2 ≤ fuel → runSolo slots fuel x.1 x.2 = y := by
  induction h with
  | refl x => intro fuel _; exact runSolo_terminal slots fuel x.1 hy
  | next x y _ ih =>
    intro fuel hf
    cases hterm : x.2.terminal with
    | true =>
      rw [step_terminal slots x.1 hterm] at ih
      exact ih hy fuel hf
    | false =>
      have sm := step_measure slots x.1 x.2 (by rintro c v e; rw [e] at hterm; cases hterm) (by intro e; rw [e] at hterm; cases hterm)
      cases fuel with
      | zero => omega
      | succ f =>
        rw [runSolo_succ slots f x.1 hterm]
        exact ih hy f (by rw [step_length]; omega)

theorem reach_finish {slots : List (Nat × Cls)} (t : TypeRec) (cls : Cls) (ret : Ret) (v : Option Inst) :
    Reach slots (t, finish cls ret v)
      (match ret with
       | .direct => (t, PC.done cls v)
       | .fill i => ({ t with cache := t.cache.set i v }, PC.done cls v)) := by
  cases ret with
  | direct => exact Reach.refl _
  | fill i => exact reach_one t _

theorem reach_scanP {slots : List (Nat × Cls)} (t : TypeRec) (cls : Cls) (ret : Ret) (pos : Nat) :
    Reach slots (t, .scanP cls pos ret)
      (match scanPtr cls (t.entries.drop pos) with
       | some i => (t, finish cls ret (some i))
       | none => (t, PC.scanN cls 0 ret)) := by
  cases he : t.entries[pos]? with
  | none =>
    rw [List.drop_eq_nil_of_le (List.getElem?_eq_none_iff.mp he)]
    exact Reach.head (y := (t, .scanN cls 0 ret)) (by simp only [step, he]) (Reach.refl _)
  | some e =>
    obtain ⟨hlt, rfl⟩ := List.getElem?_eq_some_iff.mp he
    rw [List.drop_eq_getElem_cons hlt]
    simp only [scanPtr]
    by_cases hm : t.entries[pos].memo = some cls
    · rw [if_pos hm]
      exact Reach.head (by simp only [step, he, hm, ↓reduceIte]) (Reach.refl _)
    · rw [if_neg hm]
      exact Reach.head (by simp only [step, he, hm, ↓reduceIte]) (reach_scanP t cls ret (pos + 1))
termination_by t.entries.length - pos
decreasing_by omega

theorem reach_scanN {slots : List (Nat × Cls)} (t : TypeRec) (cls : Cls) (ret : Ret) (pos : Nat) :
    Reach slots (t, .scanN cls pos ret)
      ({ t with entries := t.entries.take pos ++ (scanName cls (t.entries.drop pos)).1 },
        finish cls ret (scanName cls (t.entries.drop pos)).2) := by
  cases he : t.entries[pos]? with
  | none =>
    have hge := List.getElem?_eq_none_iff.mp he
    rw [List.drop_eq_nil_of_le hge, List.take_of_length_le hge]
    simp only [scanName, List.append_nil]
    exact Reach.head (by simp only [step, he]) (Reach.refl _)
  | some e =>
    obtain ⟨hlt, rfl⟩ := List.getElem?_eq_some_iff.mp he
    rw [List.drop_eq_getElem_cons hlt]
    simp only [scanName]
    by_cases hn : t.entries[pos].name = cls.name
    · rw [if_pos hn]
      refine Reach.head (y := (t, .memoWrite cls pos ret)) (by simp only [step, he, hn, ↓reduceIte]) ?_
      refine Reach.head (y := ({ t with entries := t.entries.set pos { t.entries[pos] with memo := some cls } },
        finish cls ret (some t.entries[pos].inst))) (by simp only [step, he]) ?_
      rw [List.set_eq_take_append_cons_drop, if_pos hlt]
      exact Reach.refl _
    · rw [if_neg hn]
      refine Reach.head (y := (t, .scanN cls (pos + 1) ret)) (by simp only [step, he, hn, ↓reduceIte]) ?_
      have := reach_scanN (slots := slots) t cls ret (pos + 1)
      rwa [List.take_add_one, he, Option.toList_some, List.append_assoc] at this
termination_by t.entries.length - pos
decreasing_by omega

theorem reach_scan {slots : List (Nat × Cls)} (t : TypeRec) (cls : Cls) (ret : Ret) :
    Reach slots (t, .hdrRead cls ret) ((scan t cls).1, finish cls ret (scan t cls).2) := by
  have hh : Reach slots (t, .hdrRead cls ret) ({ t with hdr := true }, .scanP cls 0 ret) := by
    by_cases hb : t.hdr = true
    · have e : ({ t with hdr := true } : TypeRec) = t := by cases t; simp_all
      rw [e]
      exact Reach.head (by simp [step, hb]) (Reach.refl _)
    · exact Reach.head (y := (t, .hdrWrite cls ret)) (by simp [step, hb]) (reach_one t _)
  refine hh.trans ?_
  have hp := reach_scanP (slots := slots) { t with hdr := true } cls ret 0
  simp only [List.drop_zero] at hp
  refine hp.trans ?_
  unfold scan
  simp only
  cases hsp : scanPtr cls t.entries with
  | some i => exact Reach.refl _
  | none =>
    simp only
    have hn := reach_scanN (slots := slots) { t with hdr := true } cls ret 0
    simpa using hn

theorem runSolo_scan (slots : List (Nat × Cls)) (t : TypeRec) (cls : Cls) :
    runSolo slots (soloFuel t.entries.length) t (.start false cls) = ((scan t cls).1, .done cls (scan t cls).2) := by
  have h : Reach slots (t, .start false cls) ((scan t cls).1, PC.done cls (scan t cls).2) := by
    refine Reach.next _ _ ?_
    have := reach_scan (slots := slots) t cls .direct
    simpa [step, finish] using this
  exact runSolo_of_reach h rfl _ (pcMeasure_le_soloFuel _ _)

/-- what the machine ends in for each outcome of `Type_Instance`: stuck exactly where the function reads outside the object -/
def pcOf (cls : Cls) : Outcome (Option Inst) → PC
  | .ok r => .done cls r
  | _ => .stuck

theorem pcOf_ok {D : String → Option Inst} {slots : List (Nat × Cls)} {es : List Entry} {cls : Cls}
    {o : Outcome (Option Inst)} (h : PCOK D slots es (pcOf cls o)) : o = .ok (D cls.name) := by
  cases o with
  | ok r => exact congrArg _ h
  | raised e => exact h.elim
  | ub => exact h.elim

theorem reach_instanceOf (slots : List (Nat × Cls)) (t : TypeRec) (cls : Cls) :
    Reach slots (t, .start true cls) ((instanceOf slots t cls).1, pcOf cls (instanceOf slots t cls).2) := by
  unfold instanceOf
  cases hso : slotOf slots cls with
  | none =>
    refine Reach.next _ _ ?_
    have := reach_scan (slots := slots) t cls .direct
    simpa [step, hso, finish, pcOf] using this
  | some p =>
    obtain ⟨i, lit⟩ := p
    obtain ⟨_, rfl⟩ := slotOf_some hso
    by_cases hlt : i < t.cache.length
    · simp only [hlt, dite_true]
      cases hc : t.cache[i] with
      | some inst => exact Reach.head (by simp [step, hso, hlt, hc, pcOf]) (Reach.refl _)
      | none =>
        refine Reach.head (y := (t, .hdrRead lit (.fill i))) (by simp [step, hso, hlt, hc]) ?_
        exact (reach_scan t lit (.fill i)).trans (reach_finish (scan t lit).1 lit (.fill i) (scan t lit).2)
    · simp only [hlt, dite_false]
      exact Reach.head (by simp [step, hso, hlt, pcOf]) (Reach.refl _)

theorem runSolo_instanceOf (slots : List (Nat × Cls)) (t : TypeRec) (cls : Cls) :
    runSolo slots (soloFuel t.entries.length) t (.start true cls) =
      ((instanceOf slots t cls).1, pcOf cls (instanceOf slots t cls).2) :=
  runSolo_of_reach (reach_instanceOf slots t cls) (by unfold pcOf; split <;> rfl) _ (pcMeasure_le_soloFuel _ _)

end Cello.Dispatch
