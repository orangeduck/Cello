/-
  A concrete history run on the model state and on its ledger together, so that the kernel computes the ledger beside the
  state and a witness reads both off one evaluation (`∃ x ∈ runHist …, …` is decidable); what the run returns is reachable
  in the sense of whichever of `Reach`, `ReachD`, `ReachI` (RegistrySpec.lean) the ledger function belongs to.
-/
import CelloProofs.Lemmas.RegistryHistory
namespace Cello.Registry

local instance (L : Ledger) : (o : Op) → Decidable (okOp L o)
  | .new p _ _ => inferInstanceAs (Decidable (p ∉ L.map Prod.fst ∧ p % 8 = 0 ∧ p ≠ 0))
  | .delRaw p => inferInstanceAs (Decidable (p ∉ L.map Prod.fst))
  | .newRaw _ | .del _ | .sweep _ | .stop | .start => inferInstanceAs (Decidable True)

/-- `led = id`, `f = ledgerStep`: the ledger of `Reach` and `ReachD`; `led = Prod.fst`, `f = idealStep`: that of `ReachI`.
    `none` where the model does not answer or an operation is not admissible. -/
def runHist {σ : Type} (c : Cfg) (led : σ → Ledger) (f : Reg → σ → Op → σ) : Reg → σ → List Op → Option (Reg × σ)
  | r, S, [] => some (r, S)
  | r, S, o :: os => if okOp (led S) o then (step c r o).bind (fun r' => runHist c led f r' (f r S o) os) else none

theorem runHist_closed {σ : Type} {c : Cfg} {led : σ → Ledger} {f : Reg → σ → Op → σ} {R : Reg → σ → Prop}
    (hs : ∀ {r S o r'}, R r S → okOp (led S) o → step c r o = some r' → R r' (f r S o))
    {os : List Op} {r : Reg} {S : σ} {x : Reg × σ} (h : R r S) (hx : x ∈ runHist c led f r S os) : R x.1 x.2 := by
  induction os generalizing r S with
  | nil => cases hx; exact h
  | cons o os ih =>
    unfold runHist at hx
    split at hx
    · rename_i hok
      obtain ⟨r', hr', hx⟩ := Option.bind_eq_some_iff.1 hx
      exact ih (hs h hok hr') hx
    · cases hx

end Cello.Registry
