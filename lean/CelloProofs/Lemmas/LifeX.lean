/-
  Lemmas for C06: the second layer (`stepX`/`runX`: run-time Type objects, destructors that raise) is the core model as
  long as no raising destructor has been declared; a Type whose `free` is not in the ledger was not released first.
-/
import CelloProofs.Lemmas.LifeHist

namespace Cello.Life

/-- `op` declares a destructor that raises -/
def Op.isRaises : Op → Bool
  | .raises _ => true
  | _ => false

/-- no destructor of the history raises (the territory of known finding KF-C06-dtor-raises: a destructor that raises is
    never followed by the `dealloc` of its object, so *every* history in which such a destructor runs violates
    exactly-once for that object at least) -/
def NoRaise (ops : List Op) : Prop := ∀ op ∈ ops, op.isRaises = false

instance (ops : List Op) : Decidable (NoRaise ops) := by unfold NoRaise; infer_instance

/-- state of the second layer after the history `ops`, started on a fresh collector, for the code as it is (`Cfg.current`) -/
def finalX (ops : List Op) : XSt := runX Cfg.current XSt.init ops

theorem stepX_core {c : Cfg} {x : XSt} {op : Op} (hr : x.raises = []) (hop : op.isRaises = false) :
    (stepX c x op).core = step c x.core op ∧ (stepX c x op).raises = [] ∧ (stepX c x op).escaped = x.escaped := by
  unfold stepX
  split
  · exact ⟨rfl, hr, rfl⟩
  · cases hop
  · rw [hr]; exact ⟨rfl, rfl, rfl⟩

theorem runX_core {c : Cfg} : ∀ (ops : List Op) (x : XSt), x.raises = [] → NoRaise ops →
    (runX c x ops).core = run c x.core ops ∧ (runX c x ops).raises = [] ∧ (runX c x ops).escaped = x.escaped := by
  intro ops
  induction ops with
  | nil => intro x hr _; exact ⟨rfl, hr, rfl⟩
  | cons op ops ih =>
    intro x hr hn
    obtain ⟨h1, h2, h3⟩ := stepX_core (c := c) (x := x) hr (hn op List.mem_cons_self)
    obtain ⟨i1, i2, i3⟩ := ih (stepX c x op) h2 (fun o ho => hn o (List.mem_cons_of_mem _ ho))
    refine ⟨?_, i2, by rw [← h3]; exact i3⟩
    show (runX c (stepX c x op) ops).core = run c (step c x.core op) ops
    rw [i1, h1]

theorem finalX_core (ops : List Op) (hn : NoRaise ops) :
    (finalX ops).core = final ops ∧ (finalX ops).escaped = 0 := by
  obtain ⟨h1, _, h3⟩ := runX_core (c := Cfg.current) ops XSt.init rfl hn
  exact ⟨h1, h3⟩

theorem NoRaise.snoc {ops : List Op} (h : NoRaise ops) {op : Op} (hop : op.isRaises = false) : NoRaise (ops ++ [op]) :=
  fun o ho => (List.mem_append.1 ho).elim (h o) fun ho => List.mem_singleton.1 ho ▸ hop

theorem releasedFirstFrom_false (types : List (Addr × Addr)) : ∀ (log : List Ev) (freed : List Addr),
    (∀ p ∈ types, Ev.free p.2 ∉ log) → releasedFirstFrom freed types log = false := by
  intro log
  induction log with
  | nil => intro _ _; rfl
  | cons e rest ih =>
    intro freed h
    have hrest : ∀ p ∈ types, Ev.free p.2 ∉ rest := fun p hp hm => h p hp (List.mem_cons_of_mem _ hm)
    cases e with
    | fin a => exact ih freed hrest
    | free a =>
      simp only [releasedFirstFrom, Bool.or_eq_false_iff]
      refine ⟨?_, ih _ hrest⟩
      rw [List.any_eq_false]
      intro p hp
      have : p.2 ≠ a := fun he => h p hp (by rw [he]; exact List.mem_cons_self)
      simp [this]

end Cello.Life
