import CelloProofs.Lemmas.FailSpec
/-
  C12, containers whose elements are containers (`Nest`): what `assign` into a container slot does, and the position `push_at`
  inserts at.
-/
namespace Cello.Fail

/-- `assign` into a container slot raises only from a source that is not a container — the territory of the findings (a container
    of the same kind is copied; one of another kind is not modelled) -/
theorem Inner.assign_raised_isVal (slot : Inner) (src : NSrc) : src.isVal = true ∨ ∀ e, (slot.assign src).2 ≠ .raised e := by
  cases src with
  | val v => exact .inl rfl
  | cont c => exact .inr fun e => by cases slot <;> cases c <;> simp [Inner.assign]

theorem Inner.assign_kind (slot : Inner) (src : NSrc) : (slot.assign src).1.kind = slot.kind := by
  cases slot <;> cases src with
  | val v => simp only [Inner.assign]; rfl
  | cont c => cases c <;> simp [Inner.assign, Inner.kind]

theorem Inner.assign_exc (slot : Inner) (src : NSrc) (hs : src.argOk) :
    (slot.assign src).2.exc? = srcExc slot.kind src := by
  cases src with
  | cont c => cases slot <;> cases c <;> simp [Inner.assign, srcExc, R.exc?]
  | val v =>
    cases v with
    | str s | nullstr => simp [NSrc.argOk] at hs
    | _ => cases slot <;> simp [Inner.assign, Arr.assign, Lst.assign, Tab.assign, srcExc, Inner.kind, R.exc?]

theorem Inner.zero_kind (ek : IK) : (Inner.zero ek).kind = ek := by cases ek <;> rfl

theorem Nest.getD_kind (n : Nest) (hw : ∀ e ∈ n.items, e.kind = n.ek) (i : Nat) : (n.items.getD i (Inner.zero n.ek)).kind = n.ek := by
  by_cases h : i < n.items.length
  · have e : n.items[i]? = some n.items[i] := List.getElem?_eq_getElem h
    simp only [List.getD, e, Option.getD_some]; exact hw _ (List.getElem_mem h)
  · have e : n.items[i]? = none := List.getElem?_eq_none (by omega)
    simp only [List.getD, e, Option.getD_none]; exact Inner.zero_kind _

def Nest.pushPos (n : Nest) (k : Val) : R Nat :=
  match n.outer with
  | .arr => arrPushPos n.items.length k
  | .lst => lstPushPos n.items.length k

theorem Nest.pushAt_eq (n : Nest) (src : NSrc) (k : Val) :
    n.pushAt src k =
      match n.pushPos k with
      | .ok i =>
        let (e', r) := (Inner.zero n.ek).assign src
        (match n.outer with
         | .arr => ({ n with items := insertAt n.items i e', nslots := reserveMore (n.items.length + 1) n.nslots }, r)
         | .lst => (match r with | .ok _ => ({ n with items := insertAt n.items i e' }, r) | _ => (n, r)))
      | .raised e => (n, .raised e)
      | .ub => (n, .ub) := by
  rcases n with ⟨_ | _, ek, items, nslots⟩ <;> unfold Nest.pushAt Nest.pushPos
  · unfold arrPushPos
    cases cInt k with
    | ok kb => dsimp only; split <;> rfl
    | _ => rfl
  · unfold lstPushPos
    cases cInt k with
    | ok kb =>
      dsimp only
      cases (if kb = 0 then R.ok 0 else resolveB items.length kb) with
      | ok i => rcases (Inner.zero ek).assign src with ⟨e', _ | _ | _⟩ <;> rfl
      | _ => rfl
    | _ => rfl

theorem Nest.pushIdxOk_of_pushPos (n : Nest) (k : Val) (i : Nat) (ho : n.outer = .arr) (h : n.pushPos k = .ok i) : n.pushIdxOk k = true := by
  simp only [Nest.pushPos, ho, arrPushPos] at h
  unfold Nest.pushIdxOk
  cases hc : cInt k with
  | ok kb => rw [hc] at h; dsimp only at h ⊢; split at h <;> simp_all
  | _ => rw [hc] at h; cases h

theorem Nest.pushPos_cases (n : Nest) (hn : n.items.length + 1 < 2 ^ 63) (k : Val) (hk : k.inRange) (src : NSrc) :
    (∃ i, n.pushPos k = .ok i ∧ n.spec (.pushAt src k) = srcExc n.ek src) ∨
    (∃ e, n.pushPos k = .raised e ∧ n.spec (.pushAt src k) = some e) := by
  cases ho : n.outer <;> simp only [Nest.pushPos, Nest.spec, ho]
  · rcases arrPushPos_cases _ hn k hk with ⟨i, hp, he⟩ | ⟨e, hp, he⟩ <;> rw [hp, he]
    · exact .inl ⟨i, rfl, rfl⟩
    · exact .inr ⟨e, rfl, rfl⟩
  · rcases lstPushPos_cases n.items.length (by omega) k hk with ⟨i, hp, he⟩ | ⟨e, hp, he⟩ <;> rw [hp, he]
    · exact .inl ⟨i, rfl, rfl⟩
    · exact .inr ⟨e, rfl, rfl⟩

end Cello.Fail
