/-
  The registry operations of Cello/Registry.lean against a ledger of live managed addresses.  `Core`: the stored entries
  are the image of the ledger under `entOf`, and the robin-hood invariant holds.  What the slot-level lemma of an operation
  says about the stored entries becomes a statement about the ledger through `Core.map` (every entry rewritten) or
  `Core.filter` (entries dropped).  `WF` is the invariant carried through histories; the mark phase keeps `Marked`, which is
  `WF` with the mark bits and the pending list left open.
-/
import Cello.Registry
import CelloProofs.Lemmas.RegistryIdeal
import CelloProofs.Lemmas.RegistryIns
import CelloProofs.Lemmas.RegistryMark
import CelloProofs.Lemmas.RegistrySweep
namespace Cello.Registry
open RH

/-- live managed objects: address and the root flag given at allocation -/
abbrev Ledger := List (Nat × Bool)

/-- what the theorems need from the source-derived parameters -/
structure GoodCfg (c : Cfg) : Prop where
  bump : 1 ≤ c.sizeBump
  num : 0 < c.loadNum
  le : c.loadNum ≤ c.loadDen
  last : 0 < c.primes.getLastD 0

/-- destructors that delete nothing -/
def noK : Nat → List Nat := fun _ => []
/-- all mark bits clear: the state outside a collection -/
def noMark : Nat → Bool → Bool := fun _ _ => false

/-- the slot array against the ledger `L`; `mk p root` is the mark bit the entry of `p` carries.  Only `r.n` and `r.slots` are
    read, but the statement is over `r`: for a record that differs elsewhere it is rebuilt as `⟨h.inv, h.ents⟩` -/
structure Core (c : Cfg) (r : Reg) (L : Ledger) (mk : Nat → Bool → Bool) : Prop where
  inv : Inv0 (hashOf c) r.slots
  ents : ∀ e, Mem r.slots e ↔ ((e.key, e.val.root) ∈ L ∧ e.val.marked = mk e.key e.val.root ∧ e.home = hashOf c e.key % r.n)

/-- everything but the table (`n`, `slots`) is unchanged -/
structure SameMeta (r r' : Reg) : Prop where
  nitems : r'.nitems = r.nitems
  mitems : r'.mitems = r.mitems
  minptr : r'.minptr = r.minptr
  maxptr : r'.maxptr = r.maxptr
  running : r'.running = r.running
  pending : r'.pending = r.pending

/-- a slot stays empty, or there is no table yet (`r.n = 0` only before the first insertion) -/
def Room (r : Reg) : Prop := r.nitems < r.n ∨ (r.n = 0 ∧ r.nitems = 0)

/-- what the address filter of GC_Mark_Item needs from the ledger -/
structure Bounded (r : Reg) (L : Ledger) : Prop where
  bounds : ∀ p b, (p, b) ∈ L → r.minptr ≤ p ∧ p ≤ r.maxptr
  aligned : ∀ p b, (p, b) ∈ L → p % 8 = 0
  zero : r.n = 0 → r.minptr = uintptrMax ∧ r.maxptr = 0
  /-- no live object sits at NULL (GC_Rem_Ptr returns at once for NULL, GC_Sweep's last loop skips NULL words) -/
  nonnull : ∀ p b, (p, b) ∈ L → p ≠ 0

structure WF (c : Cfg) (r : Reg) (L : Ledger) : Prop where
  core : Core c r L noMark
  count : r.nitems = occ r.slots
  room : Room r
  bounded : Bounded r L
  nodup : (L.map Prod.fst).Nodup
  pend : r.pending = #[]

/-- the registry with a collection under way: the table holds the ledger's items with the mark bits `mk`, the pending list is
    left open.  `WF` is `Marked … noMark` with nothing pending; `WFP` (RegistryKills.lean) is `Marked … noMark` with objects waiting. -/
structure Marked (c : Cfg) (r : Reg) (L : Ledger) (mk : Nat → Bool → Bool) : Prop where
  core : Core c r L mk
  count : r.nitems = occ r.slots
  room : Room r
  bounded : Bounded r L
  nodup : (L.map Prod.fst).Nodup

theorem wf_init (c : Cfg) : WF c Reg.init [] := by
  refine ⟨⟨inv0_replicate_none _, ?_⟩, ?_, Or.inr ⟨rfl, rfl⟩, ⟨by simp, by simp, fun _ => ⟨rfl, rfl⟩, by simp⟩, by simp, rfl⟩
  · intro e
    constructor
    · rintro ⟨q, hq, _⟩; exact absurd hq (Nat.not_lt_zero _)
    · rintro ⟨h, _⟩; simp at h
  · exact occ_replicate_none.symm

theorem SameMeta.refl (r : Reg) : SameMeta r r := ⟨rfl, rfl, rfl, rfl, rfl, rfl⟩
theorem SameMeta.trans {a b c : Reg} (h1 : SameMeta a b) (h2 : SameMeta b c) : SameMeta a c :=
  ⟨h2.nitems.trans h1.nitems, h2.mitems.trans h1.mitems, h2.minptr.trans h1.minptr, h2.maxptr.trans h1.maxptr,
   h2.running.trans h1.running, h2.pending.trans h1.pending⟩

theorem ent_eta (e : Ent) (k h : Nat) (rt m : Bool) (hk : e.key = k) (hh : e.home = h) (hr : e.val.root = rt) (hm : e.val.marked = m) :
    e = ⟨k, h, ⟨rt, m⟩⟩ := by
  cases e with | mk k' h' v => cases v with | mk r' m' => simp at *; simp [*]

/-- the entry the table holds for the ledger item `x` -/
def entOf (c : Cfg) (n : Nat) (mk : Nat → Bool → Bool) (x : Nat × Bool) : Ent := ⟨x.1, hashOf c x.1 % n, ⟨x.2, mk x.1 x.2⟩⟩

/-- `Core.ents` read as: the stored entries are the image of the ledger under `entOf` -/
theorem ents_iff_image (c : Cfg) (n : Nat) (L : Ledger) (mk : Nat → Bool → Bool) (e : Ent) :
    ((e.key, e.val.root) ∈ L ∧ e.val.marked = mk e.key e.val.root ∧ e.home = hashOf c e.key % n) ↔ ∃ x ∈ L, e = entOf c n mk x :=
  ⟨fun ⟨h1, h2, h3⟩ => ⟨_, h1, ent_eta e _ _ _ _ rfl h3 rfl h2⟩, fun ⟨_, hx, he⟩ => he ▸ ⟨hx, rfl, rfl⟩⟩

theorem Core.mem_iff {c : Cfg} {r : Reg} {L : Ledger} {mk : Nat → Bool → Bool} (h : Core c r L mk) (e : Ent) :
    Mem r.slots e ↔ ∃ x ∈ L, e = entOf c r.n mk x := (h.ents e).trans (ents_iff_image ..)

theorem Core.present_iff {c : Cfg} {r : Reg} {L : Ledger} {mk : Nat → Bool → Bool} (h : Core c r L mk) (p : Nat) :
    Present r.slots p ↔ p ∈ L.map Prod.fst := by
  constructor
  · rintro ⟨i, hi, e, he, rfl⟩
    exact List.mem_map.2 ⟨_, ((h.ents e).1 ⟨i, hi, he⟩).1, rfl⟩
  · intro hp
    obtain ⟨x, hx, rfl⟩ := List.mem_map.1 hp
    obtain ⟨i, hi, he⟩ := (h.mem_iff _).2 ⟨x, hx, rfl⟩
    exact ⟨i, hi, _, he, rfl⟩

theorem Core.of_image {c : Cfg} {r : Reg} {L : Ledger} {mk : Nat → Bool → Bool} (inv : Inv0 (hashOf c) r.slots)
    (h : ∀ e, Mem r.slots e ↔ ∃ x ∈ L, e = entOf c r.n mk x) : Core c r L mk :=
  ⟨inv, fun e => (h e).trans (ents_iff_image ..).symm⟩

/-- every entry went through `f`, and `f` turns the entry of a ledger item into the entry the new table (its slot count, its
    mark bits) holds for the same item -/
theorem Core.map {c : Cfg} {r r' : Reg} {L : Ledger} {mk mk' : Nat → Bool → Bool} (h : Core c r L mk)
    (inv' : Inv0 (hashOf c) r'.slots) (f : Ent → Ent) (hmem : ∀ e', Mem r'.slots e' ↔ ∃ e, Mem r.slots e ∧ e' = f e)
    (hf : ∀ x ∈ L, f (entOf c r.n mk x) = entOf c r'.n mk' x) : Core c r' L mk' := by
  refine Core.of_image inv' fun e' => (hmem e').trans ⟨?_, ?_⟩
  · rintro ⟨e, he, rfl⟩
    obtain ⟨x, hx, rfl⟩ := (h.mem_iff e).1 he
    exact ⟨x, hx, hf x hx⟩
  · rintro ⟨x, hx, rfl⟩
    exact ⟨_, (h.mem_iff _).2 ⟨x, hx, rfl⟩, (hf x hx).symm⟩

/-- a map over the payloads that takes the mark bits `mk` to `mk'`: GC_Unmark, the root loop, GC_Mark_Item, the mark clearing
    of GC_Sweep -/
theorem Core.map_payload {c : Cfg} {r : Reg} {L : Ledger} {mk mk' : Nat → Bool → Bool} (h : Core c r L mk) (f : Ent → Ent)
    (hk : ∀ e, (f e).key = e.key) (hh : ∀ e, (f e).home = e.home) (hf : ∀ x ∈ L, f (entOf c r.n mk x) = entOf c r.n mk' x) :
    Core c { r with slots := r.slots.map (fun o => o.map f) } L mk' :=
  h.map (r' := { r with slots := r.slots.map (fun o => o.map f) }) (inv0_map_payload _ _ h.inv f hk hh) f (mem_map_payload _ f) hf

/-- the entries that fail `P` went, and on the entry of a ledger item `P` is the test `keep` of the item: the erasure of
    GC_Rem_Ptr, the compaction of GC_Sweep -/
theorem Core.filter {c : Cfg} {r r' : Reg} {L : Ledger} {mk : Nat → Bool → Bool} (h : Core c r L mk)
    (inv' : Inv0 (hashOf c) r'.slots) {P : Ent → Prop} {keep : Nat × Bool → Bool}
    (hmem : ∀ e, Mem r'.slots e ↔ Mem r.slots e ∧ P e) (hP : ∀ x ∈ L, P (entOf c r.n mk x) ↔ keep x = true) (hn : r'.n = r.n) :
    Core c r' (L.filter keep) mk := by
  refine Core.of_image inv' fun e => ?_
  rw [hmem e, h.mem_iff e, hn]
  constructor
  · rintro ⟨⟨x, hx, rfl⟩, hp⟩
    exact ⟨x, List.mem_filter.2 ⟨hx, (hP x hx).1 (hn ▸ hp)⟩, rfl⟩
  · rintro ⟨x, hx, rfl⟩
    obtain ⟨hx, hk⟩ := List.mem_filter.1 hx
    exact ⟨⟨x, hx, rfl⟩, hn ▸ (hP x hx).2 hk⟩

theorem Core.congr_mk {c : Cfg} {r : Reg} {L : Ledger} {mk mk' : Nat → Bool → Bool} (h : Core c r L mk)
    (heq : ∀ q b, (q, b) ∈ L → mk q b = mk' q b) : Core c r L mk' :=
  ⟨h.inv, fun e => by rw [h.ents e]; exact and_congr_right fun hL => by rw [heq _ _ hL]⟩

theorem Room.of_le {r r' : Reg} (h : Room r) (hn : r'.n = r.n) (hi : r'.nitems ≤ r.nitems) : Room r' := by
  rcases h with h | h
  · exact Or.inl (by omega)
  · exact Or.inr ⟨hn.trans h.1, by omega⟩

theorem empty_of_room (r : Reg) (hc : r.nitems = occ r.slots) (hn : 0 < r.n) (hroom : Room r) :
    ∃ z, ∃ hz : z < r.n, r.slots[z] = none := by
  have hlt : occ r.slots < r.n := by rcases hroom with h | h <;> omega
  exact exists_empty_of_occ_lt r.slots hlt

theorem Bounded.sub {r r' : Reg} {L L' : Ledger} (h : Bounded r L) (hs : ∀ x, x ∈ L' → x ∈ L) (hmin : r'.minptr = r.minptr)
    (hmax : r'.maxptr = r.maxptr) (hz : r'.n = 0 → r.n = 0) : Bounded r' L' :=
  ⟨fun p b hp => by rw [hmin, hmax]; exact h.bounds p b (hs _ hp), fun p b hp => h.aligned p b (hs _ hp),
   fun h0 => by rw [hmin, hmax]; exact h.zero (hz h0), fun p b hp => h.nonnull p b (hs _ hp)⟩

theorem ledger_flag_unique (L : Ledger) (hnd : (L.map Prod.fst).Nodup) (q : Nat) (b b' : Bool) (h1 : (q, b) ∈ L) (h2 : (q, b') ∈ L) :
    b = b' := by
  induction L with
  | nil => cases h1
  | cons x L ih =>
    rw [List.map_cons, List.nodup_cons] at hnd
    rcases List.mem_cons.1 h1 with e1 | m1 <;> rcases List.mem_cons.1 h2 with e2 | m2
    · exact (Prod.mk.inj (e1.trans e2.symm)).2
    · exfalso; apply hnd.1; rw [← e1]; exact List.mem_map.2 ⟨(q, b'), m2, rfl⟩
    · exfalso; apply hnd.1; rw [← e2]; exact List.mem_map.2 ⟨(q, b), m1, rfl⟩
    · exact ih hnd.2 m1 m2

/-- in a ledger without repeated addresses, an item that a sub-ledger lacks has left it with its address -/
theorem not_mem_keys_of_not_mem {C L' : Ledger} (hC : (C.map Prod.fst).Nodup) (hsub : ∀ x, x ∈ L' → x ∈ C) {q : Nat} {b : Bool}
    (hx : (q, b) ∈ C) (hnot : (q, b) ∉ L') : q ∉ L'.map Prod.fst := by
  intro h
  obtain ⟨⟨q', b'⟩, hw, e⟩ := List.mem_map.1 h
  simp only at e; subst e
  rw [ledger_flag_unique C hC q' b b' hx (hsub _ hw)] at hnot
  exact hnot hw

theorem wf_running (c : Cfg) (r : Reg) (L : Ledger) (h : WF c r L) (b : Bool) : WF c { r with running := b } L :=
  ⟨⟨h.core.inv, h.core.ents⟩, h.count, h.room, h.bounded.sub (fun _ hx => hx) rfl rfl id, h.nodup, h.pend⟩

theorem WF.marked {c : Cfg} {r : Reg} {L : Ledger} (h : WF c r L) : Marked c r L noMark :=
  ⟨h.core, h.count, h.room, h.bounded, h.nodup⟩

theorem Marked.wf {c : Cfg} {r : Reg} {L : Ledger} (h : Marked c r L noMark) (hp : r.pending = #[]) : WF c r L :=
  ⟨h.core, h.count, h.room, h.bounded, h.nodup, hp⟩

theorem Marked.map_payload {c : Cfg} {r : Reg} {L : Ledger} {mk mk' : Nat → Bool → Bool} (h : Marked c r L mk) (f : Ent → Ent)
    (hk : ∀ e, (f e).key = e.key) (hh : ∀ e, (f e).home = e.home) (hf : ∀ x ∈ L, f (entOf c r.n mk x) = entOf c r.n mk' x) :
    Marked c { r with slots := r.slots.map (fun o => o.map f) } L mk' :=
  ⟨h.core.map_payload f hk hh hf, h.count.trans (occ_map_payload _ f).symm, h.room, h.bounded.sub (fun _ hx => hx) rfl rfl id, h.nodup⟩

theorem Marked.congr_mk {c : Cfg} {r : Reg} {L : Ledger} {mk mk' : Nat → Bool → Bool} (h : Marked c r L mk)
    (heq : ∀ q b, (q, b) ∈ L → mk q b = mk' q b) : Marked c r L mk' :=
  ⟨h.core.congr_mk heq, h.count, h.room, h.bounded, h.nodup⟩

/-- with slots, the table has an empty one: the invariant in the form the probing loops need -/
theorem Marked.inv {c : Cfg} {r : Reg} {L : Ledger} {mk : Nat → Bool → Bool} (h : Marked c r L mk) (hn : 0 < r.n) :
    Inv (hashOf c) r.slots :=
  let ⟨z, hz, hze⟩ := empty_of_room r h.count hn h.room
  h.core.inv.toInv z hz hze

theorem rehash_core (c : Cfg) (r : Reg) (L : Ledger) (h : Core c r L noMark) (ns : Nat) (hroom : occ r.slots < ns) :
    ∃ r', rehash c r ns = some r' ∧ r'.n = ns ∧ SameMeta r r' ∧ Core c r' L noMark ∧ occ r'.slots = occ r.slots := by
  obtain ⟨t, h1, h2, h3, h4⟩ := rehash_spec c r h.inv ns (Nat.le_of_lt hroom)
  exact ⟨_, h1, rfl, ⟨rfl, rfl, rfl, rfl, rfl, rfl⟩, h.map (r' := { r with n := ns, slots := t }) h2 (rehome c ns) h3 (fun _ _ => rfl), h4⟩

theorem resizeLess_spec (c : Cfg) (g : GoodCfg c) (r : Reg) (L : Ledger) (h : Core c r L noMark)
    (hc : r.nitems = occ r.slots) (hroom : Room r) :
    ∃ r', resizeLess c r = some r' ∧ SameMeta r r' ∧ Core c r' L noMark ∧ occ r'.slots = occ r.slots ∧ Room r' ∧
      (r'.n = 0 → r.n = 0) := by
  obtain ⟨v, hv, hgt⟩ := idealSize_gt_of c r.nitems g.bump g.num g.le g.last
  unfold resizeLess
  rw [hv]
  simp only []
  by_cases hlt : v < r.n
  · rw [if_pos hlt]
    obtain ⟨r', h1, h2, h3, h4, h5⟩ := rehash_core c r L h v (by omega)
    refine ⟨r', h1, h3, h4, h5, Or.inl (by rw [h3.nitems, h2]; exact hgt), ?_⟩
    intro h0; omega
  · rw [if_neg hlt]
    exact ⟨r, rfl, SameMeta.refl r, h, rfl, hroom, fun h0 => h0⟩

/-- `hc`: GC_Set has incremented `nitems` already -/
theorem resizeMore_spec (c : Cfg) (g : GoodCfg c) (r : Reg) (L : Ledger) (h : Core c r L noMark)
    (hc : r.nitems = occ r.slots + 1) :
    ∃ r', resizeMore c r = some r' ∧ SameMeta r r' ∧ Core c r' L noMark ∧ occ r'.slots = occ r.slots ∧ r'.nitems < r'.n := by
  obtain ⟨v, hv, hgt⟩ := idealSize_gt_of c r.nitems g.bump g.num g.le g.last
  unfold resizeMore
  rw [hv]
  simp only []
  by_cases hlt : v > r.n
  · rw [if_pos hlt]
    obtain ⟨r', h1, h2, h3, h4, h5⟩ := rehash_core c r L h v (by omega)
    exact ⟨r', h1, h3, h4, h5, by rw [h3.nitems, h2]; exact hgt⟩
  · rw [if_neg hlt]
    exact ⟨r, rfl, SameMeta.refl r, h, rfl, by omega⟩

theorem gcMark_eq (c : Cfg) (r : Reg) (marks : List Nat) (h : r.nitems ≠ 0) :
    gcMark c r marks = markAll c (markRoots (markStart c r)) marks := by
  unfold gcMark; rw [if_neg h]

/-- `mk` is arbitrary: the bits a mark phase that was left by an exception leaves behind -/
theorem unmark_marked {c : Cfg} {r : Reg} {L : Ledger} {mk : Nat → Bool → Bool} (h : Marked c r L mk) : Marked c (unmark r) L noMark :=
  h.map_payload _ (fun _ => rfl) (fun _ => rfl) (fun _ _ => rfl)

theorem markStart_wf (c : Cfg) (r : Reg) (L : Ledger) (hwf : WF c r L) :
    WF c (markStart c r) L ∧ (markStart c r).running = r.running := by
  unfold markStart
  cases c.markUnmarks with
  | false => exact ⟨hwf, rfl⟩
  | true => exact ⟨(unmark_marked hwf.marked).wf hwf.pend, rfl⟩

theorem markRoots_marked {c : Cfg} {r : Reg} {L : Ledger} {mk : Nat → Bool → Bool} (h : Marked c r L mk) :
    Marked c (markRoots r) L (fun q b => if b then true else mk q b) := by
  refine h.map_payload _ (fun e => by split <;> rfl) (fun e => by split <;> rfl) ?_
  rintro ⟨q, b⟩ _; cases b <;> rfl

theorem markSlot_marked {c : Cfg} {r : Reg} {L : Ledger} {mk : Nat → Bool → Bool} (h : Marked c r L mk) (p : Nat) :
    ∃ s', markSlot c r.minptr r.maxptr r.slots p = some s' ∧ Marked c { r with slots := s' } L (fun q b => mk q b || q == p) := by
  unfold markSlot
  by_cases hf : p % 8 ≠ 0 ∨ p < r.minptr ∨ p > r.maxptr
  · rw [if_pos hf]
    refine ⟨r.slots, rfl, h.congr_mk fun q b hL => ?_⟩
    have h1 := h.bounded.bounds _ _ hL
    have h2 := h.bounded.aligned _ _ hL
    have : (q == p) = false := by rw [beq_eq_false_iff_ne]; rintro rfl; omega
    rw [this, Bool.or_false]
  · rw [if_neg hf]
    -- without a table `minptr = UINTPTR_MAX` and `maxptr = 0` (`Bounded.zero`): the filter lets no address through, so
    -- `% nslots` is not reached with `nslots = 0`
    have hn : 0 < r.n := by
      rcases Nat.eq_zero_or_pos r.n with h0 | h0
      · have := h.bounded.zero h0
        exfalso; apply hf
        rw [this.1, this.2]; unfold uintptrMax; omega
      · exact h0
    rw [dif_pos hn, markLoop_spec (hashOf c) r.slots (h.inv hn) hn p]
    refine ⟨_, rfl, h.map_payload _ (fun e => by split <;> rfl) (fun e => by split <;> rfl) ?_⟩
    rintro ⟨q, b⟩ _
    by_cases hk : q = p
    · simp [entOf, setMark, hk]
    · simp [entOf, hk]

theorem markAllSlots_marked {c : Cfg} {L : Ledger} :
    ∀ (ps : List Nat) (r : Reg) (mk : Nat → Bool → Bool), Marked c r L mk →
      ∃ s', markAllSlots c r.minptr r.maxptr r.slots ps = some s' ∧
        Marked c { r with slots := s' } L (fun q b => mk q b || ps.contains q) := by
  intro ps
  induction ps with
  | nil => intro r mk h; exact ⟨r.slots, rfl, h.congr_mk fun q b _ => by simp⟩
  | cons p ps ih =>
    intro r mk h
    obtain ⟨s1, hs1, h1⟩ := markSlot_marked h p
    obtain ⟨s', hs', h'⟩ := ih { r with slots := s1 } _ h1
    exact ⟨s', by simp only [markAllSlots, hs1]; exact hs',
      h'.congr_mk fun q b _ => by simp only [List.contains_cons, Bool.or_assoc]⟩

theorem markAll_marked {c : Cfg} {r : Reg} {L : Ledger} {mk : Nat → Bool → Bool} (h : Marked c r L mk) (ps : List Nat) :
    ∃ r', markAll c r ps = some r' ∧ Marked c r' L (fun q b => mk q b || ps.contains q) ∧ SameMeta r r' := by
  obtain ⟨s', hs', h'⟩ := markAllSlots_marked ps r mk h
  exact ⟨{ r with slots := s' }, by unfold markAll; rw [hs'], h', ⟨rfl, rfl, rfl, rfl, rfl, rfl⟩⟩

/-- a collection that marks the addresses for which `mk` holds releases every other non-root object -/
def collectBy (L : Ledger) (mk : Nat → Bool → Bool) : Ledger := L.filter (fun x => x.2 || mk x.1 x.2)

theorem collectBy_sub (L : Ledger) (mk : Nat → Bool → Bool) : ∀ x, x ∈ collectBy L mk → x ∈ L := by
  intro x hx; unfold collectBy at hx; exact (List.mem_filter.1 hx).1

theorem collectBy_nodup (L : Ledger) (mk : Nat → Bool → Bool) (h : (L.map Prod.fst).Nodup) :
    ((collectBy L mk).map Prod.fst).Nodup :=
  List.Nodup.sublist (List.Sublist.map _ List.filter_sublist) h

theorem keep_entOf (c : Cfg) (n : Nat) (mk : Nat → Bool → Bool) (x : Nat × Bool) :
    Keep (entOf c n mk x) ↔ (x.2 || mk x.1 x.2) = true := by
  rw [Bool.or_eq_true, Or.comm]; rfl

/-- GC_Sweep up to its release loop: compaction, mark clearing, GC_Resize_Less, the threshold -/
def sweepPhase (c : Cfg) (r : Reg) : Option Reg :=
  match sweepLoop (2 * r.n + 1) r.slots 0 #[] r.nitems with
  | none => none
  | some (s, pend, ni) =>
    match resizeLess c { r with slots := clearMarks s, nitems := ni, pending := pend } with
    | none => none
    | some r1 => some { r1 with mitems := c.mitemsOf r1.nitems }

theorem gcSweep_eq (c : Cfg) (K : Nat → List Nat) (r : Reg) :
    gcSweep c K r =
      match sweepPhase c r with
      | none => none
      | some r2 =>
        match finaliseLoop c K r2.pending.size 0 r2 [] with
        | none => none
        | some (r3, t) => some ({ r3 with pending := #[] }, t) := by
  unfold gcSweep sweepPhase
  cases sweepLoop (2 * r.n + 1) r.slots 0 #[] r.nitems with
  | none => rfl
  | some v =>
    obtain ⟨s, pend, ni⟩ := v
    simp only []
    cases resizeLess c { r with slots := clearMarks s, nitems := ni, pending := pend } <;> rfl

theorem sweepPhase_core (c : Cfg) (g : GoodCfg c) (r : Reg) (L : Ledger) (mk : Nat → Bool → Bool) (h : Core c r L mk)
    (hc : r.nitems = occ r.slots) (hroom : Room r) :
    ∃ (order : List Nat) (r2 : Reg), sweepPhase c r = some r2 ∧
      Core c r2 (collectBy L mk) noMark ∧ r2.nitems = occ r2.slots ∧ Room r2 ∧ (r2.n = 0 → r.n = 0) ∧
      r2.minptr = r.minptr ∧ r2.maxptr = r.maxptr ∧ r2.running = r.running ∧ r2.pending = (order.map some).toArray ∧
      order.Nodup ∧ (∀ p, p ∈ order ↔ ∃ b, (p, b) ∈ L ∧ (p, b) ∉ collectBy L mk) := by
  obtain ⟨s', removed, hs', inv', hmem, hrem, hnd, hocc⟩ :=
    sweepLoop_total (hashOf c) r.slots r.nitems h.inv (by rcases hroom with h' | h' <;> omega)
  have hpend : removed.map (fun x => some x.key) = (removed.map (fun x => x.key)).map some := by rw [List.map_map]; rfl
  rw [hpend] at hs'
  -- the compaction keeps the entries of the items `collectBy` keeps; the mark clearing then maps each to its unmarked form
  have hcoreS : Core c { r with slots := s', nitems := r.nitems - removed.length,
                                pending := ((removed.map (fun x => x.key)).map some).toArray } (collectBy L mk) mk :=
    h.filter inv' hmem (fun x _ => keep_entOf c r.n mk x) rfl
  have hcoreA : Core c { r with slots := clearMarks s', nitems := r.nitems - removed.length,
                                pending := ((removed.map (fun x => x.key)).map some).toArray } (collectBy L mk) noMark :=
    hcoreS.map_payload _ (fun _ => rfl) (fun _ => rfl) (fun _ _ => rfl)
  have hcA : (r.nitems - removed.length) = occ (clearMarks s') := by
    unfold clearMarks; rw [occ_map_payload]; omega
  obtain ⟨r1, hr1, hmeta1, hcore1, hocc1, hroom1, hz1⟩ := resizeLess_spec c g _ (collectBy L mk) hcoreA hcA (hroom.of_le rfl (Nat.sub_le _ _))
  refine ⟨removed.map (fun x => x.key), { r1 with mitems := c.mitemsOf r1.nitems }, by unfold sweepPhase; rw [hs']; simp only []; rw [hr1],
    ⟨hcore1.inv, hcore1.ents⟩, by show r1.nitems = _; rw [hmeta1.nitems, hocc1]; exact hcA, hroom1, hz1,
    hmeta1.minptr, hmeta1.maxptr, hmeta1.running, hmeta1.pending, ?_, fun p => ?_⟩
  · unfold List.Nodup at hnd ⊢
    rw [List.pairwise_map]
    refine List.Pairwise.imp_of_mem ?_ hnd
    intro e1 e2 he1 he2 hne hk
    exact hne (mem_key_unique _ _ h.inv e1 e2 ((hrem e1).1 he1).1 ((hrem e2).1 he2).1 hk)
  · -- the reclaimed addresses are those of the items `collectBy` drops
    have hdrop : ∀ x ∈ L, ¬ Keep (entOf c r.n mk x) ↔ x ∉ collectBy L mk := fun x hx =>
      not_congr ((keep_entOf c r.n mk x).trans ⟨fun hk => List.mem_filter.2 ⟨hx, hk⟩, fun hin => (List.mem_filter.1 hin).2⟩)
    rw [List.mem_map]
    constructor
    · rintro ⟨e, he, rfl⟩
      obtain ⟨hm, hk⟩ := (hrem e).1 he
      obtain ⟨x, hx, rfl⟩ := (h.mem_iff e).1 hm
      exact ⟨x.2, hx, (hdrop x hx).1 hk⟩
    · rintro ⟨b, hL, hnot⟩
      exact ⟨_, (hrem _).2 ⟨(h.mem_iff _).2 ⟨(p, b), hL, rfl⟩, (hdrop _ hL).2 hnot⟩, rfl⟩

theorem exec_fin_noK (c : Cfg) (fuel : Nat) (r : Reg) (p : Nat) : exec c noK (fuel+1) r (.fin p) = some (r, [p]) := by
  simp [exec, noK]

theorem finaliseLoop_noK (c : Cfg) :
    ∀ (todo i : Nat) (r : Reg) (t : List Nat), ∃ pend' t', finaliseLoop c noK todo i r t = some ({ r with pending := pend' }, t') := by
  intro todo
  induction todo with
  | zero => intro i r t; exact ⟨r.pending, t, rfl⟩
  | succ todo ih =>
    intro i r t
    unfold finaliseLoop
    split
    · rename_i p hp
      simp only [exec_fin_noK]
      obtain ⟨pend', t', h⟩ := ih (i+1) { r with pending := r.pending.setIfInBounds i none } (t ++ [p])
      exact ⟨pend', t', h⟩
    · exact ih (i+1) r t

theorem gcSweep_core (c : Cfg) (g : GoodCfg c) (r : Reg) (L : Ledger) (mk : Nat → Bool → Bool) (h : Core c r L mk)
    (hc : r.nitems = occ r.slots) (hroom : Room r) :
    ∃ r' t, gcSweep c noK r = some (r', t) ∧ Core c r' (collectBy L mk) noMark ∧ r'.nitems = occ r'.slots ∧ Room r' ∧
      r'.minptr = r.minptr ∧ r'.maxptr = r.maxptr ∧ r'.running = r.running ∧ r'.pending = #[] ∧ (r'.n = 0 → r.n = 0) := by
  obtain ⟨order, r2, h2, hcore2, hc2, hroom2, hz2, hmin, hmax, hrun, _⟩ := sweepPhase_core c g r L mk h hc hroom
  obtain ⟨pend', t', hfin⟩ := finaliseLoop_noK c r2.pending.size 0 r2 []
  exact ⟨{ r2 with pending := #[] }, t', by rw [gcSweep_eq, h2]; simp only []; rw [hfin], ⟨hcore2.inv, hcore2.ents⟩, hc2, hroom2,
    hmin, hmax, hrun, rfl, hz2⟩

theorem forall_fst_cons {P : Nat → Prop} {p : Nat} {root : Bool} {L : Ledger} (hp : P p) (hL : ∀ q b, (q, b) ∈ L → P q) :
    ∀ q b, (q, b) ∈ (p, root) :: L → P q := by
  intro q b hq
  rcases List.mem_cons.1 hq with h | h
  · cases h; exact hp
  · exact hL q b h

theorem bounds_update {lo hi p q : Nat} (h : q = p ∨ (lo ≤ q ∧ q ≤ hi)) :
    (if p < lo then p else lo) ≤ q ∧ q ≤ (if p > hi then p else hi) := by
  constructor <;> split <;> omega

theorem gcSet_register_wf (c : Cfg) (g : GoodCfg c) (r : Reg) (L : Ledger) (hwf : WF c r L) (p : Nat) (root : Bool)
    (hfresh : p ∉ L.map Prod.fst) (hal : p % 8 = 0) (hnz : p ≠ 0) :
    ∃ r1 s, resizeMore c { r with nitems := r.nitems + 1, maxptr := if p > r.maxptr then p else r.maxptr,
                                  minptr := if p < r.minptr then p else r.minptr } = some r1 ∧
      setPtr c r1.slots p root = some s ∧ WF c { r1 with slots := s } ((p, root) :: L) ∧
      r1.nitems = r.nitems + 1 ∧ r1.mitems = r.mitems ∧ r1.running = r.running := by
  have core0 : Core c { r with nitems := r.nitems + 1, maxptr := if p > r.maxptr then p else r.maxptr,
                               minptr := if p < r.minptr then p else r.minptr } L noMark := ⟨hwf.core.inv, hwf.core.ents⟩
  obtain ⟨r1, hr1, hmeta1, hcore1, hocc1, hroom1⟩ := resizeMore_spec c g _ L core0
    (show r.nitems + 1 = occ r.slots + 1 by rw [hwf.count])
  have hni1 : r1.nitems = r.nitems + 1 := hmeta1.nitems
  have hocc1' : occ r1.slots = occ r.slots := hocc1
  have hfresh1 : ∀ q (hq : q < r1.n) e, r1.slots[q] = some e → e.key ≠ p := fun q hq e he hk =>
    hfresh ((Core.present_iff hcore1 p).1 ⟨q, hq, e, he, hk⟩)
  obtain ⟨s, hs, invs, mems, occs⟩ := setPtr_spec c r1.slots hcore1.inv p root hfresh1
    (by rw [hocc1', ← hwf.count]; omega)
  refine ⟨r1, s, hr1, hs, ⟨Core.of_image invs fun e => ?_, ?_, Or.inl hroom1, ⟨?_, ?_, ?_, ?_⟩, ?_, ?_⟩, hni1, hmeta1.mitems, hmeta1.running⟩
  · show Mem s e ↔ _
    rw [mems e, hcore1.mem_iff e]
    simp only [List.mem_cons, exists_eq_or_imp]
    exact Or.comm
  · show r1.nitems = occ s
    rw [occs, hocc1', hni1, hwf.count]
  · intro q b hq
    show r1.minptr ≤ q ∧ q ≤ r1.maxptr
    rw [hmeta1.minptr, hmeta1.maxptr]
    show (if p < r.minptr then p else r.minptr) ≤ q ∧ q ≤ (if p > r.maxptr then p else r.maxptr)
    exact bounds_update ((List.mem_cons.1 hq).imp (congrArg Prod.fst) (hwf.bounded.bounds q b))
  · exact forall_fst_cons hal hwf.bounded.aligned
  · intro h0
    have : r1.n = 0 := h0
    omega
  · exact forall_fst_cons hnz hwf.bounded.nonnull
  · show (p :: L.map Prod.fst).Nodup
    exact List.nodup_cons.2 ⟨hfresh, hwf.nodup⟩
  · show r1.pending = #[]
    rw [hmeta1.pending]; exact hwf.pend

theorem Marked.mem {c : Cfg} {r : Reg} {L : Ledger} {mk : Nat → Bool → Bool} (h : Marked c r L mk) (p : Nat) :
    memPtr c r p = some (decide (p ∈ L.map Prod.fst)) := by
  unfold memPtr
  rcases Nat.eq_zero_or_pos r.n with h0 | hn
  · rw [dif_neg (by omega)]
    have hx : p ∉ L.map Prod.fst := by
      intro hx
      obtain ⟨i, hi, _⟩ := (Core.present_iff h.core p).2 hx
      omega
    simp [hx]
  · rw [dif_pos hn]
    have hl := lookup_correct (hashOf c) r.slots (h.inv hn) hn p
    by_cases hp : p ∈ L.map Prod.fst
    · rw [hl.1.2 ((Core.present_iff h.core p).2 hp)]; simp [hp]
    · rw [hl.2.2 (fun hpr => hp ((Core.present_iff h.core p).1 hpr))]; simp [hp]

/-- the number of occupied slots is the number of ledger items: the stored keys and the ledger's addresses are two
    duplicate-free lists with the same members -/
theorem Marked.count_eq {c : Cfg} {r : Reg} {L : Ledger} {mk : Nat → Bool → Bool} (h : Marked c r L mk) : r.nitems = L.length := by
  rw [h.count, ← length_entries, ← List.length_map (f := (·.key)), ← List.length_map (as := L) (f := Prod.fst)]
  refine ((List.perm_ext_iff_of_nodup (nodup_keys_entries h.core.inv) h.nodup).2 fun p => ?_).length_eq
  rw [← Core.present_iff h.core p, List.mem_map]
  exact ⟨fun ⟨e, he, hk⟩ => let ⟨i, hi, h⟩ := (mem_entries _ e).1 he; ⟨i, hi, e, h, hk⟩,
    fun ⟨i, hi, e, h, hk⟩ => ⟨e, (mem_entries _ e).2 ⟨i, hi, h⟩, hk⟩⟩

end Cello.Registry
