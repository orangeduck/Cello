/-
  Tables searched by key, then `World.get` after `World.put`: on the model alone, no invariant.
-/
import Cello.Dispatch

namespace Cello.Dispatch

theorem map_eq_self {α : Type} {f : α → α} {l : List α} (h : ∀ a ∈ l, f a = a) : l.map f = l := by
  conv => rhs; rw [← List.map_id l]
  exact List.map_congr_left h

/-- replacing the record of `tid` keeps every key, so a search by key commutes with it -/
theorem find_replace (l : List (Nat × TypeRec)) (tid x : Nat) (t' : TypeRec) :
    (l.map (fun p => if p.1 = tid then (tid, t') else p)).find? (fun p => p.1 = x) =
      (l.find? (fun p => p.1 = x)).map (fun p => if p.1 = tid then (tid, t') else p) := by
  rw [List.find?_map]
  congr 2
  funext p
  by_cases hp : p.1 = tid <;> simp [hp]

theorem mem_of_find_key {α : Type} {l : List (Nat × α)} {k : Nat} {v : α}
    (h : (l.find? (fun p => p.1 = k)).map (·.2) = some v) : (k, v) ∈ l := by
  obtain ⟨p, hp, rfl⟩ := Option.map_eq_some_iff.mp h
  have h1 := List.find?_some hp
  simp only [decide_eq_true_eq] at h1
  rw [← h1]; exact List.mem_of_find?_eq_some hp

theorem find_filter_ne {α : Type} (l : List (Nat × α)) (addr x : Nat) :
    (l.filter (fun p => p.1 ≠ addr)).find? (fun p => p.1 = x) = if x = addr then none else l.find? (fun p => p.1 = x) := by
  rw [List.find?_filter]
  split
  · next hx => subst hx; exact List.find?_eq_none.mpr (fun p _ => by simp)
  · next hx =>
    congr; funext p
    by_cases hp : p.1 = x <;> simp [hp, hx]

theorem put_slots (w : World) (tid : Nat) (t : TypeRec) : (w.put tid t).slots = w.slots := by
  unfold World.put
  split <;> rfl

theorem put_theType (w : World) (tid : Nat) (t : TypeRec) : (w.put tid t).theType = w.theType := by
  unfold World.put
  split <;> rfl

theorem get_put (w : World) (tid x : Nat) (t : TypeRec) : (w.put tid t).get x = if x = tid then some t else w.get x := by
  unfold World.put World.get
  split
  · next ha =>
    rw [find_replace]
    split
    · next hx =>
      subst hx
      obtain ⟨q, hq, hqx⟩ := List.any_eq_true.mp ha
      cases hf : w.types.find? (fun p => p.1 = x) with
      | none => exact absurd hqx (List.find?_eq_none.mp hf q hq)
      | some p => simp [show p.1 = x by simpa using List.find?_some hf]
    · next hx =>
      cases hf : w.types.find? (fun p => p.1 = x) with
      | none => rfl
      | some p => simp [show p.1 = x by simpa using List.find?_some hf, hx]
  · next ha =>
    rw [List.find?_append]
    split
    · next hx =>
      subst hx
      have hn : w.types.find? (fun p => p.1 = x) = none :=
        List.find?_eq_none.mpr (fun p hp hpx => ha (List.any_eq_true.mpr ⟨p, hp, hpx⟩))
      simp [hn]
    · next hx =>
      cases w.types.find? (fun p => p.1 = x) <;> simp [Ne.symm hx]

theorem get_put_same (w : World) (tid : Nat) (t' : TypeRec) : (w.put tid t').get tid = some t' := by
  rw [get_put, if_pos rfl]

theorem isSentinel_of_get {w : World} {tid : Nat} {t : TypeRec} (h : w.get tid = some t) : w.isSentinel tid = t.sentinel := by
  simp [World.isSentinel, h]

theorem put_put (w : World) (tid : Nat) (a b : TypeRec) : (w.put tid a).put tid b = w.put tid b := by
  unfold World.put
  by_cases ha : w.types.any (fun p => p.1 = tid) = true
  · have h2 : (w.types.map (fun p => if p.1 = tid then (tid, a) else p)).any (fun p => p.1 = tid) = true := by
      obtain ⟨q, hq, hqx⟩ := List.any_eq_true.mp ha
      exact List.any_eq_true.mpr ⟨_, List.mem_map_of_mem hq, by simp at hqx; simp [hqx]⟩
    simp only [ha, if_true, h2, List.map_map]
    congr 1
    apply List.map_congr_left
    intro p _
    by_cases hp : p.1 = tid <;> simp [hp]
  · have hno : ∀ p ∈ w.types, ¬ p.1 = tid := fun p hp e => ha (List.any_eq_true.mpr ⟨p, hp, by simp [e]⟩)
    simp only [ha, Bool.false_eq_true, if_false, List.any_append, List.any_cons, List.any_nil, decide_true,
      Bool.true_or, Bool.or_true, if_true, List.map_append, List.map_cons, List.map_nil]
    congr 2
    exact map_eq_self (fun p hp => by simp [hno p hp])

theorem mem_of_get {w : World} {a : Nat} {t : TypeRec} (h : w.get a = some t) : (a, t) ∈ w.types := mem_of_find_key h

theorem mem_put {w : World} {tid : Nat} {t : TypeRec} {p : Nat × TypeRec} (h : p ∈ (w.put tid t).types) :
    p ∈ w.types ∨ p = (tid, t) := by
  unfold World.put at h
  split at h
  · simp only [List.mem_map] at h
    obtain ⟨q, hq, rfl⟩ := h
    by_cases hqt : q.1 = tid
    · right; simp [hqt]
    · left; simp [hqt, hq]
  · simp only [List.mem_append, List.mem_singleton] at h
    exact h

end Cello.Dispatch
