/-
  Lemmas for C19: what one operation of the model does.  `step` has many branches, but each of them ends in one of nine
  ways (`Does`, indexed by the operation), and has checked a few facts on the way, which the constructors record; the
  observation `.made` comes out of the three births only, so a birth can be read back from its result.  The two operations
  that act on a live object or on an element of a live container are also given as equations (`stepFree_obj`,
  `stepFree_elem`, `stepInplace_obj`, and `stepInplace_self` for a String assigned to itself).  No other file splits `step`
  or one of its `step*` parts into cases.
-/
import Cello.Hdr

namespace Cello.Hdr

variable {cfg : Config}

def Obs.isMade : Obs → Bool
  | .made _ => true
  | _ => false

inductive Does (cfg : Config) (s : St) : Op → St × Obs → Prop
  /-- refused, skipped, or a pure observation -/
  | same {op : Op} (obs : Obs) (h : obs.isMade = false) : Does cfg s op (s, obs)
  /-- a constructor; `x` is `rtSizes` as it was, or with the size of a new run-time type -/
  | make {id : Nat} {r : Route} {i : Init} {b : Body} (hfresh : s.get id = none) (hb : buildBody cfg s r i = some b)
      (x : List (Nat × Nat)) : Does cfg s (.make id r i) ({ s.birth cfg id r i.ty b with rtSizes := x }, .made id)
  | static {id : Nat} {name : String} (hfresh : s.get id = none) :
      Does cfg s (.static id name)
        ({ s with objs := s.objs ++ [(id, { hdr := staticHeader cfg, cap := 0, body := .tyobj (Ty.ofName name) 0, live := true })] },
        .made id)
  | copy {id src : Nat} {o : Obj} {t : Ty} {b : Body} (hfresh : s.get id = none) (hsrc : s.get src = some o)
      (hcp : copyBody cfg s o = some (t, b)) : Does cfg s (.copy id src) (s.birth cfg id .new t b, .made id)
  /-- a freeing operation on a whole live object that `freeSkip` lets through -/
  | free {f : FreeOp} {id : Nat} {o : Obj} (hget : s.get id = some o) (hlive : o.live = true)
      (hskip : s.freeSkip cfg f id o = none) :
      Does cfg s (.free f (.obj id)) ((freeObj cfg s f id o).1, .did f.name (freeObj cfg s f id o).2 (.obj id))
  /-- an embedded object replaced by one with the same header -/
  | elem {op : Op} {t : Target} {e e1 : Elem} (he : s.elemOf t = some e) (hh : e1.hdr = e.hdr) (name : String) (out : Outcome) :
      Does cfg s op (s.updBody t.id (fun b => b.setElemAt t e1), .did name out t)
  | inplace {id : Nat} {o : Obj} {ip : InPlace} {b : Body} {out : Outcome} (hget : s.get id = some o)
      (hip : inPlaceObj cfg s o ip = some (b, out)) :
      Does cfg s (.inplace ip (.obj id)) (s.updBody id (fun _ => b), .did ip.name out (.obj id))
  | own {op : Op} (id : Nat) (v : Option Nat) : Does cfg s op (s.updBody id (fun _ => .box v), .did "own" .ok (.obj id))
  | sweep {op : Op} (how : String) (victims order : List Nat) :
      Does cfg s op ((s.sweep cfg victims order).1, .swept how (s.sweep cfg victims order).2.1 (s.sweep cfg victims order).2.2)

-- what `Does.elem` asks of the operations on an embedded object: the element written back has the header it had
theorem destructElem_hdr (e : Elem) : (destructElem cfg e).1.hdr = e.hdr := by
  unfold destructElem
  repeat' split
  all_goals rfl

theorem freeElem_hdr (f : FreeOp) (e : Elem) : (freeElem cfg f e).1.hdr = e.hdr := by
  unfold freeElem
  cases f <;> simp only
  all_goals first
    | rfl
    | exact destructElem_hdr e
    | (repeat' split
       all_goals first | rfl | exact destructElem_hdr e)

theorem inPlaceElem_hdr {s : St} {e e1 : Elem} {ip : InPlace} {out : Outcome}
    (h : inPlaceElem cfg s e ip = some (e1, out)) : e1.hdr = e.hdr := by
  unfold inPlaceElem at h
  split at h
  · split at h
    · cases h; rfl
    · cases h
  · cases h

theorem stepMake_does (s : St) (id : Nat) (r : Route) (i : Init) : Does cfg s (.make id r i) (stepMake cfg s id r i) := by
  unfold stepMake
  split
  · exact .same _ rfl
  · rename_i hfresh
    split
    · exact .same _ rfl
    · rename_i b hb
      simp only
      split <;> exact .make (by simpa using hfresh) hb _

theorem stepStatic_does (s : St) (id : Nat) (name : String) : Does cfg s (.static id name) (stepStatic cfg s id name) := by
  unfold stepStatic
  split
  · exact .same _ rfl
  · rename_i hc
    split
    · exact .same _ rfl
    · simp only [Bool.or_eq_true, not_or, Bool.not_eq_true, Option.isSome_eq_false_iff, Option.isNone_iff_eq_none] at hc
      exact .static hc.1

theorem stepCopy_does (s : St) (id src : Nat) : Does cfg s (.copy id src) (stepCopy cfg s id src) := by
  unfold stepCopy
  split
  · exact .same _ rfl
  · rename_i hfresh
    split
    · rename_i o hsrc
      repeat' split
      all_goals first
        | exact .same _ rfl
        | (rename_i hcp; exact .copy (by simpa using hfresh) hsrc hcp)
    · exact .same _ rfl

theorem stepFree_does (s : St) (f : FreeOp) (t : Target) : Does cfg s (.free f t) (stepFree cfg s f t) := by
  unfold stepFree
  split
  · exact .same _ rfl
  · rename_i o hget
    split
    · split
      · split <;> exact .same _ rfl
      · rename_i hlive
        split
        · exact .same _ rfl
        · rename_i hskip
          exact .free hget (by simpa using hlive) hskip
    · split
      · exact .same _ rfl
      · split
        · exact .same _ rfl
        · rename_i he
          exact .elem he (freeElem_hdr _ _) _ _

theorem stepOwn_does (s : St) (id : Nat) (target : Option Nat) : Does cfg s (.own id target) (stepOwn cfg s id target) := by
  unfold stepOwn
  repeat' split
  all_goals first
    | exact .same _ rfl
    | exact .own _ _

theorem stepInplace_does (s : St) (ip : InPlace) (t : Target) : Does cfg s (.inplace ip t) (stepInplace cfg s ip t) := by
  unfold stepInplace
  split
  · exact .same _ rfl
  · rename_i o hget
    split
    · exact .same _ rfl
    · split
      · repeat' split
        all_goals exact .same _ rfl
      · split
        · split
          · exact .same _ rfl
          · rename_i hip
            exact .inplace hget hip
        · split
          · exact .same _ rfl
          · rename_i he
            split
            · exact .same _ rfl
            · rename_i hip
              exact .elem he (inPlaceElem_hdr hip) _ _

theorem step_does (s : St) (op : Op) : Does cfg s op (step cfg s op) := by
  cases op with
  | make id r i => exact stepMake_does s id r i
  | static id name => exact stepStatic_does s id name
  | copy id src => exact stepCopy_does s id src
  | free f t => exact stepFree_does s f t
  | inplace ip t => exact stepInplace_does s ip t
  | own id target => exact stepOwn_does s id target
  | obs t =>
    simp only [step]
    repeat' split
    all_goals exact .same _ rfl
  | iter id back => simp only [step]; split <;> exact .same _ rfl
  | values id => simp only [step]; split <;> exact .same _ rfl
  | view v => simp only [step]; split <;> exact .same _ rfl
  | sweep victims order => simp only [step]; split <;> first | exact .same _ rfl | exact .sweep _ _ _
  | thr victims order => simp only [step]; split <;> first | exact .same _ rfl | exact .sweep _ _ _
  | exit order => exact .same _ rfl
  | finish => exact .same _ rfl

theorem stepFree_obj {s : St} {id : Nat} {o : Obj} (f : FreeOp) (hget : s.get id = some o) (hlive : o.live = true) :
    stepFree cfg s f (.obj id) =
      match s.freeSkip cfg f id o with
      | some why => (s, .skip why)
      | none => ((freeObj cfg s f id o).1, .did f.name (freeObj cfg s f id o).2 (.obj id)) := by
  simp only [stepFree, Target.id, hget, hlive, Bool.not_true, Bool.false_eq_true, if_false]
  cases s.freeSkip cfg f id o <;> rfl

theorem stepFree_elem {s : St} {t : Target} {o : Obj} {e : Elem} (f : FreeOp) (hget : s.get t.id = some o)
    (hlive : o.live = true) (he : o.body.elemAt t = some e) :
    stepFree cfg s f t =
      (s.updBody t.id (fun b => b.setElemAt t (freeElem cfg f e).1), .did f.name (freeElem cfg f e).2 t) := by
  cases t with
  | obj id => simp [Body.elemAt] at he
  | _ => simp only [Target.id] at hget; simp [stepFree, St.elemOf, Target.id, hget, hlive, he]

theorem stepInplace_obj {s : St} {id : Nat} {o : Obj} (ip : InPlace) (hget : s.get id = some o) (hlive : o.live = true)
    (hnself : ip.srcs.contains id = false) :
    stepInplace cfg s ip (.obj id) =
      match inPlaceObj cfg s o ip with
      | none => (s, .skip "unsupported")
      | some (b, out) => (s.updBody id (fun _ => b), .did ip.name out (.obj id)) := by
  unfold stepInplace
  simp only [Target.id, hget, hlive, Bool.not_true, Bool.false_eq_true, if_false, hnself]
  cases inPlaceObj cfg s o ip with
  | none => rfl
  | some p => rfl

theorem stepInplace_self {s : St} {id : Nat} {o : Obj} {txt : String} (hget : s.get id = some o) (hlive : o.live = true)
    (hbody : o.body = .scalar (.str txt)) :
    stepInplace cfg s (.assign id) (.obj id) =
      if cfg.sAssignSelfReturns then (s, .did "assign" .ok (.obj id)) else (s, .skip "self") := by
  simp [stepInplace, Target.id, hget, hlive, InPlace.srcs, hbody]

end Cello.Hdr
