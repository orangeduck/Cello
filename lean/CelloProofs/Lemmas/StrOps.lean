/-
  Lemmas for C16: each operation of Cello/Str.lean on a block that holds the text `a` (`Holds s.buf a`) leaves the text
  `Spec.step` computes and keeps its accesses inside the allocation (`Res.Ok`); `step_ok` puts them together.
-/
import CelloProofs.Lemmas.Str
namespace Cello.Str

/-! With these three `simp` turns `safe` of a written-out access log into arithmetic on offsets and lengths. -/
@[simp] theorem Acc.rd_inBounds (off len cap : Nat) : (Acc.rd off len cap).inBounds = decide (off + len ≤ cap) := rfl
@[simp] theorem Acc.wr_inBounds (off len cap : Nat) : (Acc.wr off len cap).inBounds = decide (off + len ≤ cap) := rfl
@[simp] theorem Res.safe_mk (st : Str) (out : Outcome) (log : List Acc) : (Res.mk st out log).safe = log.all Acc.inBounds := rfl

theorem observe_safe {s : Str} (h : s.WF) : (observeLog s).all Acc.inBounds = true := by
  simp [observeLog]; exact h.holds.lt_length

/-- what an operation that succeeds leaves behind: the block holds the text `d`, the call returned `k`, every access stayed
    inside the allocation -/
structure Res.Ok (r : Res) (d : List Byte) (k : Nat) : Prop where
  holds : Holds r.st.buf d
  out : r.out = .ok k
  safe : r.safe = true

theorem Res.Ok.defined {r : Res} {d : List Byte} {k : Nat} (h : r.Ok d k) : r.defined = true ∧ r.st.WF ∧ r.st.abs = d :=
  ⟨by simp [Res.defined, h.safe, h.out, Outcome.isUB], h.holds.wf, h.holds.abs⟩

theorem Res.Ok.of_mk {b d : List Byte} {k : Nat} {log : List Acc} (h : Holds b d) (hl : log.all Acc.inBounds = true) :
    Res.Ok ⟨⟨b⟩, .ok k, log⟩ d k := ⟨h, rfl, hl⟩

theorem assign_ok {P : Params} (hP : P.Lawful) (J : Nat → Byte) (s : Str) {x : List Byte} (hx : NulFree x) :
    (assign P J s x).Ok x 0 := by
  simp only [assign, hP.assign]
  exact .of_mk (.store List.nil_prefix nulFree_nil hx rfl (by simp [realloc_length])) (by simp [realloc_length])

theorem clear_ok {P : Params} (hP : P.Lawful) (J : Nat → Byte) (s : Str) : (clear P J s).Ok [] 0 := by
  simp only [clear, hP.clear]
  exact .of_mk (.store (y := []) List.nil_prefix nulFree_nil nulFree_nil rfl (by simp [realloc_length]))
    (by simp [realloc_length])

theorem new_ok {P : Params} (hP : P.Lawful) (J : Nat → Byte) (init : Option (List Byte))
    (hinit : ∀ x, init = some x → NulFree x) : (new P J init).Ok (init.getD []) 0 := by
  cases init with
  | none => exact .of_mk (by rw [hP.newEmpty]; exact ⟨nulFree_nil, List.prefix_refl _⟩) rfl
  | some x => exact assign_ok hP J ⟨[]⟩ (hinit x rfl)

theorem concat_ok {P : Params} (hP : P.Lawful) (J : Nat → Byte) {s : Str} {a : List Byte} (h : Holds s.buf a) {x : List Byte}
    (hx : NulFree x) : (concat P J s x).Ok (a ++ x) 0 := by
  have hn : a.length < a.length + x.length + 1 := by omega
  simp only [concat, h.strlen0, hP.concat, (h.realloc J hn).strlen0]
  exact .of_mk (.store (prefix_realloc h.text J (by omega)) h.nf hx rfl (by simp [realloc_length]))
    (by simp [realloc_length]; have := h.lt_length; omega)

theorem resize_ok {P : Params} (hP : P.Lawful) (J : Nat → Byte) {s : Str} {a : List Byte} (h : Holds s.buf a) (n : Nat) :
    (resize P J s n).Ok (a.take n) 0 := by
  have := h.lt_length
  simp only [resize, h.strlen0, hP.resize]
  split
  · next hn =>
    rw [List.take_of_length_le (Nat.le_of_lt hn)]
    exact .of_mk ((h.realloc J (by omega)).zeros _) (by simp [realloc_length]; omega)
  · next hn =>
    have hl := List.length_take_of_le (Nat.not_lt.mp hn)
    refine .of_mk ?_ (by simp [realloc_length]; omega)
    simpa using Holds.store (y := []) (prefix_realloc ((List.take_prefix n a).trans h.text) J (by omega)) (h.nf.take n)
      nulFree_nil hl.symm (by simp [realloc_length])

theorem format_ok {P : Params} (hP : P.Lawful) (J : Nat → Byte) {s : Str} {a : List Byte} (h : Holds s.buf a) (pos : Nat)
    {f : List Byte} (hf : NulFree f) :
    (formatTo P J s pos f).Ok (if pos ≤ a.length then a.take pos ++ f else a) f.length := by
  simp only [formatTo, hP.format]
  refine .of_mk ?_ (by simp [realloc_length]; omega)
  split
  · next hpos =>
    exact .store (prefix_realloc ((List.take_prefix pos a).trans h.text) J (by simp; omega)) (h.nf.take pos) hf
      (List.length_take_of_le hpos).symm (by simp [realloc_length])
  · next hpos => exact (h.realloc J (by omega)).writeAt (by omega) _

/-- `String_Rem` when `strstr` finds the operand behind `a`: the tail and the terminator move down over it -/
theorem rem_found_ok {P : Params} (hP : P.Lawful) {s : Str} {a x t : List Byte} (h : Holds s.buf (a ++ x ++ t))
    (hf : findSub x (a ++ x ++ t) = some a.length) : (rem P s x).Ok (a ++ t) 0 := by
  have hl := h.lt_length
  have hlp : strlen s.buf a.length = x.length + t.length := by rw [h.strlen (by simp)]; simp
  have hread : readAt s.buf (a.length + x.length) (t.length + 1) = t ++ [0] := by
    simpa using (h.readAt (p := a.length + x.length) (k := t.length) (by simp; omega)).2
  simp only [rem, h.cstrAt (Nat.zero_le _), List.drop_zero, hf, hlp, hP.rem _ _ _ (Nat.le_add_right _ _),
    Nat.add_sub_cancel_left, hread]
  have hnf : NulFree a ∧ NulFree t := by
    have := h.nf; simp only [NulFree, List.mem_append, not_or] at this ⊢; exact ⟨this.1.1, this.2⟩
  have hpre : a <+: s.buf := (List.append_assoc a x t ▸ List.prefix_append a _).trans h.text
  simp only [List.length_append] at hl
  exact .of_mk (.store hpre hnf.1 hnf.2 rfl (by omega)) (by simp; omega)

theorem rem_absent_eq (P : Params) (s : Str) (x : List Byte) (hf : findSub x s.abs = none) :
    rem P s x = ⟨s, .raised .ValueError, observeLog s⟩ := by
  simp only [rem, show cstrAt s.buf 0 = s.abs from rfl, hf]; rfl

theorem rem_out (P : Params) (s : Str) (x : List Byte) : (rem P s x).out = .ok 0 ∨ (rem P s x).out = .raised .ValueError := by
  simp only [rem]; split <;> simp

theorem rem_cap (P : Params) (s : Str) (x : List Byte) : (rem P s x).st.cap = s.cap := by
  simp only [rem]; split <;> simp [Str.cap, writeAt_length]

/-- everything the property says about one mutating operation -/
structure StepOK (s : Str) (op : Op) (r : Res) : Prop where
  wf : r.st.WF
  abs : r.st.abs = Spec.step s.abs op
  safe : r.safe = true
  raises : r.out = .raised .ValueError ↔ Spec.raises s.abs op = true
  unchanged : Spec.raises s.abs op = true → r.st = s

theorem StepOK.of_ok {s : Str} {op : Op} {r : Res} {k : Nat} (h : r.Ok (Spec.step s.abs op) k)
    (hspec : Spec.raises s.abs op = false) : StepOK s op r :=
  ⟨h.holds.wf, h.holds.abs, h.safe, by simp [h.out, hspec], by simp [hspec]⟩

theorem StepOK.holds {s : Str} {op : Op} {r : Res} (h : StepOK s op r) : Holds r.st.buf (Spec.step s.abs op) :=
  h.abs ▸ h.wf.holds

/-- the operand need not be NUL-free: one with a NUL does not occur in a text without, and `rem` raises -/
theorem rem_stepOK {P : Params} (hP : P.Lawful) {s : Str} (hs : s.WF) (x : List Byte) : StepOK s (.rem x) (rem P s x) := by
  have h := hs.holds
  rcases hf : findSub x s.abs with _ | p
  · have hrf : removeFirst x s.abs = none := by rw [removeFirst_eq, hf]; rfl
    rw [rem_absent_eq P s x hf]
    exact ⟨hs, by simp [Spec.step, hrf], observe_safe hs,
      by simp [Spec.raises, hrf], fun _ => rfl⟩
  · obtain ⟨a, b, e, rfl⟩ := findSub_some hf
    rw [e] at h hf
    have hrf : removeFirst x s.abs = some (a ++ b) := by rw [e, removeFirst_eq, hf]; simp
    refine .of_ok (k := 0) ?_ (by show (removeFirst x _).isNone = false; rw [hrf]; rfl)
    show (rem P s x).Ok ((removeFirst x _).getD _) 0
    rw [hrf]; exact rem_found_ok hP h hf

theorem step_ok {P : Params} (hP : P.Lawful) (J : Nat → Byte) (s : Str) (op : Op) (hs : s.WF) (hop : op.NulFree) :
    StepOK s op (step P J s op) := by
  have h := hs.holds
  cases op with
  | assign x => exact .of_ok (assign_ok hP J s hop) rfl
  | concat x | append x => exact .of_ok (concat_ok hP J h hop) rfl
  | clear => exact .of_ok (clear_ok hP J s) rfl
  | resize n => exact .of_ok (resize_ok hP J h n) rfl
  | format pos f => exact .of_ok (format_ok hP J h pos hop) rfl
  | rem x => exact rem_stepOK hP hs x

theorem step_not_ub (P : Params) (J : Nat → Byte) (s : Str) (op : Op) : (step P J s op).out.isUB = false := by
  cases op with
  | resize n => simp only [step, resize]; split <;> rfl
  | rem x => simp only [step, rem]; split <;> rfl
  | _ => rfl

/-- `step_ok` in the shape `C16_alias_statement` (Props/C16.lean) asks of a step: the by-value case of `stepFix_defined` -/
theorem step_defined {P : Params} (hP : P.Lawful) (J : Nat → Byte) (s : Str) (o : Op) (hs : s.WF) (ho : o.NulFree) :
    (step P J s o).defined = true ∧ (step P J s o).st.WF ∧ (step P J s o).st.abs = Spec.step s.abs o :=
  have h := step_ok hP J s o hs ho
  ⟨by simp [Res.defined, h.safe, step_not_ub], h.wf, h.abs⟩

end Cello.Str
