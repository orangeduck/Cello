/-
  Lemmas for C06: histories.  The vocabulary in which Props/C06.lean states the property: the program's bookkeeping
  (`Ghost`), its obligations (`OpOk`, `WF`, `WellFormed`), `NoDtor`, the collector state and the bookkeeping after a
  history (`final`, `ghost`); and how all of these go along `++` and a last operation.  Rests on the model alone.
  `WF` and `grun` follow the run of `Cfg.current`; of the collector state the bookkeeping reads `running` only (`galloc`).
-/
import Cello.Lifecycle

namespace Cello.Life

/-- bookkeeping about the program (not part of the collector): what it has allocated, which raw objects it has not yet
    `del_raw`ed, which objects it allocated with `new`/`new_root` while the collector was stopped (never registered: F23) -/
structure Ghost where
  allocd : List Addr
  rawLive : List Addr
  lost : List Addr

def Ghost.init : Ghost := ⟨[], [], []⟩

/-- bookkeeping of an allocation (`new…` or `alloc…`) of identity `a` -/
def galloc (g : Ghost) (s : St) (a : Addr) : Kind → Ghost
  | .raw => { g with allocd := a :: g.allocd, rawLive := a :: g.rawLive }
  | _ => if s.running then { g with allocd := a :: g.allocd } else { g with allocd := a :: g.allocd, lost := a :: g.lost }

def gstep (g : Ghost) (s : St) : Op → Ghost
  | .new a k _ _ _ => galloc g s a k
  | .alloc a k _ _ => galloc g s a k
  | .del a k =>
    match k with
    | .raw => { g with rawLive := g.rawLive.filter (fun x => x != a) }
    | _ => g
  | .dealloc a _ => { g with rawLive := g.rawLive.filter (fun x => x != a) }
  -- the identities a destructor will allocate are reserved: no later allocation may use them
  | .dtor _ l => { g with allocd := l.map (·.addr) ++ g.allocd }
  | _ => g

/-- the program's obligations at one operation: identities are fresh; `del_raw` and `dealloc(destruct(·))` only for a
    raw object that has not been released yet (`dealloc` of a registered object is known finding
    KF-C06-dealloc-registered: it does not unregister).  Nothing is asked of `del`/`del_root`: identities are never
    reused, so a second `del` finds nothing (Props/C06.lean, head, says what that assumes of the C program) -/
def OpOk (g : Ghost) : Op → Prop
  | .new a _ _ _ _ => a ∉ g.allocd
  | .alloc a _ _ _ => a ∉ g.allocd
  | .del a k => match k with
    | .raw => a ∈ g.rawLive
    | _ => True
  | .dealloc a _ => a ∈ g.rawLive
  | .dtor _ l => (∀ d ∈ l, d.addr ∉ g.allocd) ∧ (l.map (·.addr)).Nodup
  | _ => True

/-- `op` declares a destructor that allocates -/
def Op.isDtor : Op → Bool
  | .dtor _ _ => true
  | _ => false

/-- no object of the history has a destructor that allocates (the territory of known finding KF-C06-dtor-alloc) -/
def NoDtor (ops : List Op) : Prop := ∀ op ∈ ops, op.isDtor = false

instance (ops : List Op) : Decidable (NoDtor ops) := by unfold NoDtor; infer_instance

/-- a history that meets the program's obligations, from ghost `g` and collector state `s` -/
def WF : Ghost → St → List Op → Prop
  | _, _, [] => True
  | g, s, op :: ops => OpOk g op ∧ WF (gstep g s op) (step Cfg.current s op) ops

instance (g : Ghost) (op : Op) : Decidable (OpOk g op) := by
  cases op <;> (try cases ‹Kind›) <;> (unfold OpOk; infer_instance)

def WF.dec : ∀ (g : Ghost) (s : St) (ops : List Op), Decidable (WF g s ops)
  | _, _, [] => isTrue trivial
  | g, s, op :: ops => by
    unfold WF
    exact @instDecidableAnd _ _ _ (WF.dec _ _ ops)

instance (g : Ghost) (s : St) (ops : List Op) : Decidable (WF g s ops) := WF.dec g s ops

def grun : Ghost → St → List Op → Ghost
  | g, _, [] => g
  | g, s, op :: ops => grun (gstep g s op) (step Cfg.current s op) ops

theorem galloc_running (g : Ghost) {s : St} (a : Addr) {k : Kind} (hk : k ≠ .raw) (hr : s.running = true) :
    galloc g s a k = { g with allocd := a :: g.allocd } := by
  cases k with
  | raw => exact absurd rfl hk
  | _ => simp only [galloc, hr, if_true]

theorem galloc_stopped (g : Ghost) {s : St} (a : Addr) {k : Kind} (hk : k ≠ .raw) (hr : s.running = false) :
    galloc g s a k = { g with allocd := a :: g.allocd, lost := a :: g.lost } := by
  cases k with
  | raw => exact absurd rfl hk
  | _ => simp only [galloc, hr, Bool.false_eq_true, if_false]

theorem galloc_allocd (g : Ghost) (s : St) (a : Addr) (k : Kind) : (galloc g s a k).allocd = a :: g.allocd := by
  cases k with
  | raw => rfl
  | _ => simp only [galloc]; split <;> rfl

theorem galloc_rawLive (g : Ghost) (s : St) (a : Addr) (k : Kind) :
    (galloc g s a k).rawLive = if k = .raw then a :: g.rawLive else g.rawLive := by
  cases k with
  | raw => rfl
  | _ => simp only [galloc]; split <;> simp

theorem gstep_lost (g : Ghost) {s : St} (op : Op) (hr : s.running = true) : (gstep g s op).lost = g.lost := by
  have hga : ∀ a k, (galloc g s a k).lost = g.lost := fun a k => by cases k <;> simp only [galloc, hr, if_true]
  cases op with
  | new a k _ _ _ => exact hga a k
  | alloc a k _ _ => exact hga a k
  | del a k => cases k <;> rfl
  | _ => rfl

theorem allocd_mono_step (g : Ghost) (s : St) (op : Op) {a : Addr} (h : a ∈ g.allocd) : a ∈ (gstep g s op).allocd := by
  cases op with
  | new b k owned marks order => exact galloc_allocd g s b k ▸ List.mem_cons_of_mem _ h
  | alloc b k marks order => exact galloc_allocd g s b k ▸ List.mem_cons_of_mem _ h
  | del b k => cases k <;> exact h
  | dtor b l => exact List.mem_append_right _ h
  | _ => exact h

theorem allocd_mono : ∀ (ops : List Op) (g : Ghost) (s : St) {a : Addr}, a ∈ g.allocd → a ∈ (grun g s ops).allocd := by
  intro ops
  induction ops with
  | nil => intro g s a h; exact h
  | cons op ops ih => intro g s a h; exact ih _ _ (allocd_mono_step g s op h)

theorem allocd_of_mem {op : Op} {a : Addr} (hop : ∀ g s, a ∈ (gstep g s op).allocd) :
    ∀ (ops : List Op) (g : Ghost) (s : St), op ∈ ops → a ∈ (grun g s ops).allocd := by
  intro ops
  induction ops with
  | nil => intro g s h; cases h
  | cons o ops ih =>
    intro g s h
    rcases List.mem_cons.1 h with rfl | h
    · exact allocd_mono ops _ _ (hop g s)
    · exact ih _ _ h

theorem allocd_of_new (ops : List Op) (g : Ghost) (s : St) {a : Addr} {k : Kind} {owned marks order : List Addr}
    (h : Op.new a k owned marks order ∈ ops) : a ∈ (grun g s ops).allocd :=
  allocd_of_mem (fun g s => galloc_allocd g s a k ▸ List.mem_cons_self) ops g s h

theorem allocd_of_alloc (ops : List Op) (g : Ghost) (s : St) {a : Addr} {k : Kind} {marks order : List Addr}
    (h : Op.alloc a k marks order ∈ ops) : a ∈ (grun g s ops).allocd :=
  allocd_of_mem (fun g s => galloc_allocd g s a k ▸ List.mem_cons_self) ops g s h

theorem NoDtor.head {op : Op} {ops : List Op} (h : NoDtor (op :: ops)) : op.isDtor = false :=
  h op List.mem_cons_self

theorem NoDtor.tail {op : Op} {ops : List Op} (h : NoDtor (op :: ops)) : NoDtor ops :=
  fun o ho => h o (List.mem_cons_of_mem _ ho)

theorem NoDtor.append {a b : List Op} : NoDtor (a ++ b) ↔ NoDtor a ∧ NoDtor b := by
  unfold NoDtor
  constructor
  · intro h; exact ⟨fun o ho => h o (List.mem_append_left _ ho), fun o ho => h o (List.mem_append_right _ ho)⟩
  · rintro ⟨h1, h2⟩ o ho
    rcases List.mem_append.1 ho with ho | ho
    · exact h1 o ho
    · exact h2 o ho

theorem run_append (c : Cfg) (s : St) (a b : List Op) : run c s (a ++ b) = run c (run c s a) b := by
  unfold run; rw [List.foldl_append]

theorem wf_append : ∀ (a b : List Op) (g : Ghost) (s : St),
    WF g s (a ++ b) ↔ WF g s a ∧ WF (grun g s a) (run Cfg.current s a) b := by
  intro a
  induction a with
  | nil => intro b g s; simp [WF, grun, run]
  | cons op a ih =>
    intro b g s
    simp only [List.cons_append, WF, grun]
    rw [ih]
    simp only [run, List.foldl_cons, and_assoc]

theorem grun_append : ∀ (a b : List Op) (g : Ghost) (s : St),
    grun g s (a ++ b) = grun (grun g s a) (run Cfg.current s a) b := by
  intro a
  induction a with
  | nil => intro b g s; simp [grun, run]
  | cons op a ih => intro b g s; simp only [List.cons_append, grun]; rw [ih]; simp [run]

/-- a history run by a fresh collector meets the program's obligations -/
def WellFormed (ops : List Op) : Prop := WF Ghost.init St.init ops

instance (ops : List Op) : Decidable (WellFormed ops) := by unfold WellFormed; infer_instance

/-- collector state after the history -/
def final (ops : List Op) : St := run Cfg.current St.init ops

/-- the program's bookkeeping after the history -/
def ghost (ops : List Op) : Ghost := grun Ghost.init St.init ops

theorem final_snoc (ops : List Op) (op : Op) : final (ops ++ [op]) = step Cfg.current (final ops) op := by
  unfold final; rw [run_append]; rfl

theorem ghost_snoc (ops : List Op) (op : Op) : ghost (ops ++ [op]) = gstep (ghost ops) (final ops) op := by
  unfold ghost; rw [grun_append]; rfl

theorem WellFormed.snoc {ops : List Op} (h : WellFormed ops) {op : Op} (hok : OpOk (ghost ops) op) :
    WellFormed (ops ++ [op]) :=
  (wf_append ops [op] Ghost.init St.init).2 ⟨h, hok, trivial⟩

theorem NoDtor.snoc {ops : List Op} (h : NoDtor ops) {op : Op} (hop : op.isDtor = false) : NoDtor (ops ++ [op]) :=
  NoDtor.append.2 ⟨h, fun _ ho => List.mem_singleton.1 ho ▸ hop⟩

end Cello.Life
