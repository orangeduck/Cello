/-
  Lemmas/RBDel.lean — `Tree_Rem_Fix` / `Tree_Rem` keep the red-black invariants and never dereference NULL.

  `Tree_Rem_Fix(node)` is entered when the position of `node` is about to lose one unit of black height: the context
  expects a subtree of black height `n+1` there and will get one of height `n`.  It returns a context that expects `n`
  (`FixOK`).  Stated over the bundles of RBBal (`WF`, `CtxOK`, `Pos`), and for `remHereA` / `remAtA` of RBSource, which
  `remHere` / `remAt` equal when every binding has the sizes of the layout (`remAt_eq`).
-/
import CelloProofs.Lemmas.RBBal
import CelloProofs.Lemmas.RBSource

namespace Cello.RB
variable {α β : Type}

/-- what `Tree_Rem_Fix` establishes: a well-formed context for a hole of black height `n` whose nearest parent, if there is
    one, is black -/
def FixOK (p : Path α β) (n : Nat) : Prop := CtxOK p n ∧ (p = [] ∨ headB p)

/-- the near-nephew step on a black sibling whose nephews are not both black (it rotates only when the near one alone is
    red): afterwards the FAR nephew is red, which is what `remCase6` asks for -/
theorem remCase5_valid (d : Dir) {n : Nat} {sl sr : T α β} (sk : α) (sv : β)
    (hl : WF n sl) (hr : WF n sr) (hnb : ¬ (color sl = .B ∧ color sr = .B)) :
    ∃ sl' sk' sv' sr', remCase5 d .B sl sk sv sr = some (.node .B sl' sk' sv' sr') ∧ WF n sl' ∧ WF n sr' ∧
      (d = .L → color sr' = .R) ∧ (d = .Rt → color sl' = .R) := by
  fun_cases remCase5 d .B sl sk sv sr with
  | case1 sr _ c a k2 v2 b h1 =>
    obtain ⟨hd, hsl, hsr⟩ := h1
    cases (hsl : c = .R)
    obtain ⟨m, rfl, A, B, hc⟩ := hl.children
    exact ⟨a, k2, v2, _, rfl, A, B.node (c := .R) hr (fun _ => ⟨(hc rfl).2, hsr⟩) sk sv, fun _ => rfl,
      fun h => nomatch hd.symm.trans h⟩
  | case2 sr _ h1 => cases h1.2.1
  | case3 sl _ c a k2 v2 b _ h2 =>
    obtain ⟨hd, hsr, hsl⟩ := h2
    cases (hsr : c = .R)
    obtain ⟨m, rfl, A, B, hc⟩ := hr.children
    exact ⟨_, k2, v2, b, rfl, hl.node (c := .R) A (fun _ => ⟨hsl, (hc rfl).1⟩) sk sv, B,
      fun h => (nomatch hd.symm.trans h), fun _ => rfl⟩
  | case4 sl _ _ h2 => cases h2.2.1
  | case5 sl sr _ h1 h2 =>
    exact ⟨sl, sk, sv, sr, rfl, hl, hr,
      fun hd => Color.ne_B.mp fun hsr => h1 ⟨hd, Color.ne_B.mp fun hsl => hnb ⟨hsl, hsr⟩, hsr⟩,
      fun hd => Color.ne_B.mp fun hsl => h2 ⟨hd, Color.ne_B.mp fun hsr => hnb ⟨hsl, hsr⟩, hsl⟩⟩
  | case6 sl sr h => exact absurd rfl h

theorem isNil_of_red {t : T α β} (h : color t = .R) : isNil t = false := by
  cases t with
  | nil => cases h
  | node => rfl

/-- the final rotation at the parent, for a black sibling whose far child is red: `Tree_Set_Black` is not handed NULL, and
    the context that results expects `n` where it expected `n + 1` -/
theorem remCase6_valid (f : Frame α β) (rest : Path α β) {n : Nat} {sl sr : T α β} (sk : α) (sv : β)
    (hl : WF n sl) (hr : WF n sr)
    (hfarL : f.dir = .L → color sr = .R) (hfarR : f.dir = .Rt → color sl = .R)
    (hrest : CtxOK rest (n + 1 + cw f.c)) (hhead : f.c = .R → headB rest) :
    ∃ p', remCase6 f rest (.node .B sl sk sv sr) = some p' ∧ FixOK p' n := by
  unfold remCase6
  cases hd : f.dir with
  | L =>
    have hred := hfarL hd
    simp only [isNil_of_red hred, Bool.false_eq_true, if_false]
    exact ⟨_, rfl, ctxOK_cons.mpr
      ⟨hl, nofun, ctxOK_cons.mpr ⟨hr.blacken hred, fun h => ⟨color_setColor_B sr, hhead h⟩, hrest⟩⟩, Or.inr rfl⟩
  | Rt =>
    have hred := hfarR hd
    simp only [isNil_of_red hred, Bool.false_eq_true, if_false]
    exact ⟨_, rfl, ctxOK_cons.mpr
      ⟨hr, nofun, ctxOK_cons.mpr ⟨hl.blacken hred, fun h => ⟨color_setColor_B sl, hhead h⟩, hrest⟩⟩, Or.inr rfl⟩

theorem remCase2_valid (f : Frame α β) (rest : Path α β) (n : Nat)
    (h : CtxOK (f :: rest) (n + 1)) (hsr : color f.sib = .R) :
    CtxOK ((remCase2 f rest).1 :: (remCase2 f rest).2) (n + 1) ∧ color (remCase2 f rest).1.sib = .B := by
  obtain ⟨hs, hc, hrest⟩ := ctxOK_cons.mp h
  -- the parent of a red sibling is black
  rw [Color.ne_R.mp fun h => nomatch hsr.symm.trans (hc h).1] at hrest
  unfold remCase2
  cases hsib : f.sib with
  | nil => rw [hsib] at hsr; cases hsr
  | node sc sl sk sv sr =>
    rw [hsib] at hsr hs
    cases (hsr : sc = .R)
    obtain ⟨m, e, A, B, hcol⟩ := hs.children
    cases e
    cases hd : f.dir
    · exact ⟨ctxOK_cons.mpr ⟨A, fun _ => ⟨(hcol rfl).1, rfl⟩, ctxOK_cons.mpr ⟨B, nofun, hrest⟩⟩, (hcol rfl).1⟩
    · exact ⟨ctxOK_cons.mpr ⟨B, fun _ => ⟨(hcol rfl).2, rfl⟩, ctxOK_cons.mpr ⟨A, nofun, hrest⟩⟩, (hcol rfl).2⟩

/-- one iteration of `Tree_Rem_Fix` when the sibling is black; `up` is what the next iteration returns, asked for when the
    parent is black and used only when the deficit is passed up (black parent, black nephews) -/
theorem remFixBody_valid (f : Frame α β) (rest : Path α β) (up : Option (Path α β)) (n : Nat)
    (h : CtxOK (f :: rest) (n + 1)) (hsb : color f.sib = .B)
    (hup : f.c = .B → ∃ r', up = some r' ∧ FixOK r' (n + 1)) :
    ∃ p', remFixBody f rest up = some p' ∧ FixOK p' n := by
  obtain ⟨hs, hc, hrest⟩ := ctxOK_cons.mp h
  unfold remFixBody
  cases hsib : f.sib with
  | nil => rw [hsib] at hs; cases hs.height
  | node sc sl sk sv sr =>
    rw [hsib] at hs hsb
    cases (hsb : sc = .B)
    obtain ⟨m, e, L, R, -⟩ := hs.children
    cases (Nat.succ.inj e : n = m)
    simp only
    by_cases hnb : color sl = .B ∧ color sr = .B
    · -- both nephews black: the sibling becomes red; a red parent absorbs the deficit, a black one passes it up
      have S : WF n (T.node .R sl sk sv sr) := L.node (c := .R) R (fun _ => hnb) ..
      cases hfc : f.c with
      | B =>
        obtain ⟨r', rfl, g1, g3⟩ := hup hfc
        rw [if_pos ⟨rfl, trivial, hnb⟩]
        exact ⟨_, rfl, ctxOK_cons.mpr ⟨S, nofun, g1⟩, Or.inr rfl⟩
      | R =>
        rw [hfc] at hrest
        rw [if_neg (fun h => nomatch h.1), if_pos ⟨rfl, trivial, hnb⟩]
        exact ⟨_, rfl, ctxOK_cons.mpr ⟨S, nofun, hrest⟩, Or.inr rfl⟩
    · rw [if_neg (fun h => hnb h.2.2), if_neg (fun h => hnb h.2.2)]
      obtain ⟨sl', sk', sv', sr', e5, L', R', q5, q6⟩ := remCase5_valid f.dir sk sv L R hnb
      rw [e5]
      exact remCase6_valid f rest sk' sv' L' R' q5 q6 hrest (fun h => (hc h).2)

/-- under a red parent `remFixBody` does not look at the continuation `up` (only the all-black case under a black parent
    does); with `remCase2_red` this is why `remFix` may hand `none` to the iteration that follows the red-sibling
    rotation -/
theorem remFixBody_red_irrelevant (f : Frame α β) (rest : Path α β) (up up' : Option (Path α β)) (hc : f.c = .R) :
    remFixBody f rest up = remFixBody f rest up' := by
  unfold remFixBody
  split
  · rfl
  · simp [hc]

theorem remCase2_red (f : Frame α β) (rest : Path α β) (h : color f.sib = .R) : (remCase2 f rest).1.c = .R := by
  fun_cases remCase2 f rest
  · rfl
  · rfl
  · simp_all [color]

theorem remFix_valid (p : Path α β) (n : Nat) (h : CtxOK p (n + 1)) : ∃ p', remFix p = some p' ∧ FixOK p' n := by
  induction p generalizing n with
  | nil => exact ⟨[], rfl, CtxOK.nil _, Or.inl rfl⟩
  | cons f rest ih =>
    rw [remFix]
    by_cases hsr : color f.sib = .R
    · rw [if_pos hsr]
      obtain ⟨c1, c3⟩ := remCase2_valid f rest n h hsr
      exact remFixBody_valid _ _ none n c1 c3 (fun h => by rw [remCase2_red f rest hsr] at h; cases h)
    · rw [if_neg hsr]
      refine remFixBody_valid f rest _ n h (Color.ne_R.mp hsr) (fun hfc => ?_)
      have := (ctxOK_cons.mp h).2.2
      rw [hfc] at this
      exact ih (n + 1) this

theorem spliceOut_valid (x : Loc α β) (hz : Pos x.tree x.path) : ∃ t', spliceOut x = some t' ∧ ValidT t' := by
  obtain ⟨n, e, L, R, hcol⟩ := hz.wf.children
  have hctx := hz.ctx
  rw [show bh x.tree = n + cw x.c from e] at hctx
  obtain ⟨C, c4⟩ : WF n x.child ∧ (x.c = .R → color x.child = .B) := by
    unfold Loc.child
    split
    · exact ⟨L, fun h => (hcol h).1⟩
    · exact ⟨R, fun h => (hcol h).2⟩
  unfold spliceOut
  cases hc : x.c with
  | R =>
    -- a red node leaves no deficit
    rw [hc] at hctx
    simp only [reduceCtorEq, if_false]
    cases hp : x.path with
    | nil => exact ⟨_, rfl, C.validT_setColor_B⟩
    | cons f rest =>
      rw [hp] at hctx
      exact ⟨_, rfl, plug_valid _ _ C hctx (fun h => nomatch h.symm.trans (c4 hc))⟩
  | B =>
    rw [hc] at hctx
    obtain ⟨p', e, f1, f3⟩ := remFix_valid x.path n hctx
    simp only [if_true, e]
    cases p' with
    | nil => exact ⟨_, rfl, C.validT_setColor_B⟩
    | cons f rest => exact ⟨_, rfl, plug_valid _ _ C f1 (fun _ => f3.resolve_left nofun)⟩

/-- `Tree_Rem` at the node found: with two children the predecessor (`Tree_Maximum` of the left subtree) is the node that is
    unlinked, at a position that is well formed once the node carries the predecessor's binding -/
theorem remHereA_valid (c : Color) (l : T α β) (nk : α) (nv : β) (r : T α β) (p : Path α β)
    (hz : Pos (.node c l nk nv r) p) : ∃ t', remHereA c l nk nv r p = some t' ∧ ValidT t' := by
  unfold remHereA
  split
  · rename_i lc ll lk lv lr rc rl rk rv rr
    obtain ⟨pr, hpr, -⟩ := maxLoc_spec (T.node lc ll lk lv lr) ([] : Path α β) nofun
    rw [hpr]
    have happ := maxLoc_append (T.node lc ll lk lv lr) []
      ({ dir := .L, c := c, k := pr.k, v := pr.v, sib := T.node rc rl rk rv rr } :: p)
    rw [hpr] at happ
    exact spliceOut_valid _ (maxLoc_pos _ _ _ (Pos.down (f := ⟨.L, c, pr.k, pr.v, _⟩) (hz.rekey pr.k pr.v)) happ)
  · exact spliceOut_valid ⟨c, l, nk, nv, r, p⟩ hz

theorem remAtA_valid (cmp : α → α → Ordering) (t : T α β) (p : Path α β) (k : α) (hz : Pos t p) :
    ∃ r, remAtA cmp t p k = some r ∧ ∀ t', r = some t' → ValidT t' := by
  induction t generalizing p with
  | nil => exact ⟨none, rfl, fun _ h => by cases h⟩
  | node c l nk nv r ihl ihr =>
    simp only [remAtA]
    cases cmp nk k with
    | eq =>
      obtain ⟨t', e, hv⟩ := remHereA_valid c l nk nv r p hz
      exact ⟨some t', by simp [e], fun t'' h => by cases h; exact hv⟩
    | lt => exact ihl _ (Pos.down (f := ⟨.L, c, nk, nv, r⟩) hz)
    | gt => exact ihr _ (Pos.down (f := ⟨.Rt, c, nk, nv, l⟩) hz)

end Cello.RB
