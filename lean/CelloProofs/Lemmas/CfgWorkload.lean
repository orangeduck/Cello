/-
  C18, the workload: programs that interleave value-object steps and keep operations (`wrun`, Cello/Config.lean).  The two halves do
  not interact, so the simulations of CfgFull.lean and CfgKeep.lean compose.
-/
import CelloProofs.Lemmas.CfgFull
import CelloProofs.Lemmas.CfgKeep

namespace Cello.Config

theorem keepAfter_sim (hw : Keep.RootWired) (c₁ c₂ : Cfg) (op : Op) {k₁ k₂ : Keep.KSt} (h : Keep.Sim k₁ k₂) (h1 : Keep.Fresh k₁) (h2 : Keep.Fresh k₂) :
    Keep.Sim (keepAfter c₁ op k₁) (keepAfter c₂ op k₂) ∧ Keep.Fresh (keepAfter c₁ op k₁) ∧ Keep.Fresh (keepAfter c₂ op k₂) := by
  unfold keepAfter
  split
  · exact (Keep.kstep_sim hw c₁ c₂ .gc h h1 h2).2
  · exact ⟨h, h1, h2⟩

theorem wrun_sim (hw : Keep.RootWired) (cfg : Cfg) : ∀ (prog : List WOp) (s₁ s₂ : St) (k₁ k₂ : Keep.KSt),
    Agree cfg s₁ s₂ → Keep.Sim k₁ k₂ → Keep.Fresh k₁ → Keep.Fresh k₂ →
    WInContract (wrun Cfg.default prog (s₁, k₁)).2 →
    (wrun cfg prog (s₂, k₂)).2 = (wrun Cfg.default prog (s₁, k₁)).2
  | [], _, _, _, _, _, _, _, _, _ => rfl
  | .main op :: rest, s₁, s₂, k₁, k₂, ha, hk, hf₁, hf₂, hok => by
    simp only [wrun, wstep] at hok ⊢
    obtain ⟨out, hout⟩ := hok _ (List.mem_cons_self ..) _ rfl
    obtain ⟨h1, ha'⟩ := step_sim cfg op ha hout
    obtain ⟨hk', hf₁', hf₂'⟩ := keepAfter_sim hw Cfg.default cfg op hk hf₁ hf₂
    have ih := wrun_sim hw cfg rest _ _ _ _ ha' hk' hf₁' hf₂' (fun r hr => hok r (List.mem_cons_of_mem _ hr))
    rw [ih, h1, hout]
  | .keep ko :: rest, s₁, s₂, k₁, k₂, ha, hk, hf₁, hf₂, hok => by
    simp only [wrun, wstep] at hok ⊢
    obtain ⟨h1, h2, h3, h4⟩ := Keep.kstep_sim hw Cfg.default cfg ko hk hf₁ hf₂
    have ih := wrun_sim hw cfg rest _ _ _ _ ha h2 h3 h4 (fun r hr => hok r (List.mem_cons_of_mem _ hr))
    rw [ih, h1]

end Cello.Config
