/-
  CelloProofs/Lemmas/TableIter.lean — `foreach` over a table (Table_Iter_Init / Table_Iter_Next) yields the occupied
  slots in slot order: each stored key exactly once, with its value; backwards (Table_Iter_Last / Table_Iter_Prev) it yields
  the same list reversed.
-/
import CelloProofs.Lemmas.TableRep
namespace Cello.Table
open RH
variable {κ ν : Type}

def entriesFrom {n : Nat} (s : Slots κ ν n) (i : Nat) : List (κ × ν) := (s.toList.drop i).filterMap (Option.map kv)

theorem entriesFrom_zero {n : Nat} (s : Slots κ ν n) : entriesFrom s 0 = entriesList s := by
  simp [entriesFrom, entriesList]

theorem entriesFrom_ge {n : Nat} (s : Slots κ ν n) (i : Nat) (h : n ≤ i) : entriesFrom s i = [] := by
  unfold entriesFrom
  rw [List.drop_eq_nil_of_le (by simpa using h)]; rfl

theorem entriesFrom_lt {n : Nat} (s : Slots κ ν n) (i : Nat) (h : i < n) :
    entriesFrom s i = (match s[i] with | some e => [kv e] | none => []) ++ entriesFrom s (i+1) := by
  unfold entriesFrom
  rw [List.drop_eq_getElem_cons (by simpa using h), Vector.getElem_toList]
  cases s[i] <;> simp

theorem scanUp_ge {n : Nat} (s : Slots κ ν n) (fuel i : Nat) (h : n ≤ i) : scanUp s fuel i = none := by
  cases fuel with
  | zero => rfl
  | succ f => simp only [scanUp]; rw [dif_neg (by omega)]

theorem walk_none (t : Tab κ ν) (nxt : Fin t.n → Option (Fin t.n)) (fuel : Nat) : walk t nxt fuel none = [] := by
  cases fuel <;> rfl

/-- walking from the first occupied slot `≥ i` collects exactly the bindings of the slots `≥ i` (induction on `d = n - i`;
    `f` is the fuel of the scan, `fuel` that of the walk) -/
theorem walk_scanUp (t : Tab κ ν) :
    ∀ (d i f fuel : Nat), t.n - i = d → d ≤ f → d + 1 ≤ fuel →
      walk t (iterNext t) fuel (scanUp t.slots f i) = entriesFrom t.slots i := by
  intro d
  induction d with
  | zero =>
    intro i f fuel hd _ _
    have hi : t.n ≤ i := Nat.le_of_sub_eq_zero hd
    rw [scanUp_ge t.slots f i hi, walk_none, entriesFrom_ge t.slots i hi]
  | succ d ih =>
    intro i f fuel hd hf hfuel
    have hi : i < t.n ∧ t.n - (i + 1) = d ∧ d ≤ t.n := by omega
    obtain ⟨f, rfl⟩ := Nat.exists_eq_succ_of_ne_zero (Nat.ne_of_gt (Nat.lt_of_lt_of_le (Nat.succ_pos d) hf))
    rw [entriesFrom_lt t.slots i hi.1]
    simp only [scanUp, dif_pos hi.1]
    cases hsi : t.slots[i] with
    | none => exact ih (i+1) f fuel hi.2.1 (Nat.le_of_succ_le_succ hf) (Nat.le_of_succ_le hfuel)
    | some e =>
      obtain ⟨fuel, rfl⟩ := Nat.exists_eq_succ_of_ne_zero (Nat.ne_of_gt (Nat.lt_of_lt_of_le (Nat.succ_pos _) hfuel))
      simp only [walk, Fin.getElem_fin, hsi, iterNext, ih (i+1) t.n fuel hi.2.1 hi.2.2 (Nat.le_of_succ_le_succ hfuel)]
      rfl

theorem foreach_eq (hash : κ → Nat) (t : Tab κ ν) (w : WF hash t) : foreach t = entriesList t.slots := by
  unfold foreach iterInit
  split
  · rename_i h0
    rw [walk_none, w.entriesList_nil h0]
  · rw [walk_scanUp t t.n 0 t.n (t.n+1) (by omega) (by omega) (by omega), entriesFrom_zero]

theorem foreach_perm (hash : κ → Nat) (t : Tab κ ν) (m : Spec κ ν) (r : Rep0 hash t m) : (foreach t).Perm m := by
  rw [foreach_eq hash t r.toWF]; exact (rep0_iff_perm.mp r).2

theorem foreach_keys_nodup (hash : κ → Nat) (t : Tab κ ν) (w : WF hash t) : ((foreach t).map Prod.fst).Nodup := by
  rw [foreach_eq hash t w]; exact keys_entriesList_nodup hash t.slots w.inv0

def entriesUpTo {n : Nat} (s : Slots κ ν n) (j : Nat) : List (κ × ν) := (s.toList.take j).filterMap (Option.map kv)

theorem entriesUpTo_succ {n : Nat} (s : Slots κ ν n) (i : Nat) (h : i < n) :
    entriesUpTo s (i+1) = entriesUpTo s i ++ (match s[i] with | some e => [kv e] | none => []) := by
  unfold entriesUpTo
  rw [List.take_succ_eq_append_getElem (by simpa using h), Vector.getElem_toList, List.filterMap_append]
  cases s[i] <;> simp

theorem entriesUpTo_all {n : Nat} (s : Slots κ ν n) : entriesUpTo s n = entriesList s := by
  unfold entriesUpTo entriesList
  rw [List.take_of_length_le (by simp)]

/-- walking down from the last occupied slot below `j` collects the bindings of the slots `< j`, last first.  The start
    is written as `Table_Iter_Prev` computes it, so that the step from a slot and the step past an empty slot are the
    same induction hypothesis. -/
theorem walk_scanDown (t : Tab κ ν) :
    ∀ (j f fuel : Nat), j ≤ t.n → j ≤ f → j + 1 ≤ fuel →
      walk t (iterPrev t) fuel (if j = 0 then none else scanDown t.slots f (j - 1)) = (entriesUpTo t.slots j).reverse := by
  intro j
  induction j with
  | zero => intro f fuel _ _ _; rw [if_pos rfl, walk_none]; rfl
  | succ j ih =>
    intro f fuel hj hf hfuel
    obtain ⟨f, rfl⟩ := Nat.exists_eq_succ_of_ne_zero (Nat.ne_of_gt (Nat.lt_of_lt_of_le (Nat.succ_pos j) hf))
    obtain ⟨fuel, rfl⟩ := Nat.exists_eq_succ_of_ne_zero (Nat.ne_of_gt (Nat.lt_of_lt_of_le (Nat.succ_pos _) hfuel))
    rw [entriesUpTo_succ t.slots j hj, if_neg (Nat.succ_ne_zero j), Nat.add_sub_cancel]
    simp only [scanDown, dif_pos (show j < t.n from hj)]
    cases hsi : t.slots[j] with
    | none =>
      simp only [List.append_nil]
      exact ih f (fuel + 1) (by omega) (by omega) (by omega)
    | some e =>
      simp only [walk, Fin.getElem_fin, hsi, iterPrev, ih t.n fuel (by omega) (by omega) (by omega),
        List.reverse_append, List.reverse_cons, List.reverse_nil, List.nil_append, List.singleton_append, kv]

theorem foreachRev_eq (hash : κ → Nat) (t : Tab κ ν) (w : WF hash t) : foreachRev t = (entriesList t.slots).reverse := by
  unfold foreachRev iterLast
  split
  · rename_i h0
    rw [walk_none, w.entriesList_nil h0]; rfl
  · rename_i h0
    have hn : t.n ≠ 0 := by have := w.nitems_le; omega
    have := walk_scanDown t t.n t.n (t.n + 1) (Nat.le_refl _) (Nat.le_refl _) (Nat.le_refl _)
    rwa [if_neg hn, entriesUpTo_all] at this

theorem foreachRev_eq_reverse (hash : κ → Nat) (t : Tab κ ν) (w : WF hash t) : foreachRev t = (foreach t).reverse := by
  rw [foreachRev_eq hash t w, foreach_eq hash t w]

theorem foreachRev_perm (hash : κ → Nat) (t : Tab κ ν) (m : Spec κ ν) (r : Rep0 hash t m) : (foreachRev t).Perm m := by
  rw [foreachRev_eq_reverse hash t r.toWF]
  exact (List.reverse_perm _).trans (foreach_perm hash t m r)

end Cello.Table
