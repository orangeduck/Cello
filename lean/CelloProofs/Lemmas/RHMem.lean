/-
  CelloProofs/Lemmas/RHMem.lean — what a slot array stores (`Mem`, `entries`) and how many slots are occupied (`RH.occ`,
  defined in Cello/Registry.lean) under `Vector.set`, `Vector.replicate` and a map over the payloads; what distinct keys give.
-/
import Cello.Registry
import CelloProofs.Lemmas.RH
namespace RH
variable {κ ε : Type} [DecidableEq κ] {n : Nat}

def Mem (s : Slots κ ε n) (e : Entry κ ε) : Prop := ∃ q, ∃ hq : q < n, s[q] = some e

section
omit [DecidableEq κ]

/-- key `k` is not stored, in the form the insertion loop's state (`Pending.fresh`, Lemmas/RHIns.lean) carries it -/
theorem not_present_iff (s : Slots κ ε n) (k : κ) : ¬ Present s k ↔ ∀ q (hq : q < n) e, s[q] = some e → e.key ≠ k :=
  ⟨fun h q hq e he hk => h ⟨q, hq, e, he, hk⟩, fun h ⟨q, hq, e, he, hk⟩ => h q hq e he hk⟩

theorem getElem_set_some {s : Slots κ ε n} {i q : Nat} {hi : i < n} {hq : q < n} {x : Option (Entry κ ε)} {e : Entry κ ε}
    (h : (s.set i x hi)[q] = some e) : (q = i ∧ x = some e) ∨ (q ≠ i ∧ s[q] = some e) := by
  rw [Vector.getElem_set] at h; split at h
  · rename_i hiq; exact Or.inl ⟨hiq.symm, h⟩
  · rename_i hne; exact Or.inr ⟨fun h' => hne h'.symm, h⟩

theorem mem_set_iff (s : Slots κ ε n) (i : Nat) (hi : i < n) (x : Option (Entry κ ε)) (e : Entry κ ε) :
    Mem (s.set i x hi) e ↔ x = some e ∨ ∃ q, ∃ hq : q < n, q ≠ i ∧ s[q] = some e := by
  constructor
  · rintro ⟨q, hq, h⟩
    exact (getElem_set_some h).imp And.right fun ⟨hne, h⟩ => ⟨q, hq, hne, h⟩
  · rintro (h | ⟨q, hq, hne, h⟩)
    · exact ⟨i, hi, by rw [Vector.getElem_set_self]; exact h⟩
    · exact ⟨q, hq, by rw [Vector.getElem_set_ne hi hq (fun h' => hne h'.symm)]; exact h⟩

/-- a displacement at slot `i`: what is stored afterwards, together with the displaced resident, is what was stored before
    together with the carried entry `c` -/
theorem mem_set_or (s : Slots κ ε n) (i : Nat) (hi : i < n) (c e : Entry κ ε) :
    Mem (s.set i (some c) hi) e ∨ s[i] = some e ↔ Mem s e ∨ e = c := by
  constructor
  · rintro (⟨q, hq, h⟩ | h)
    · rcases getElem_set_some h with ⟨_, ⟨⟩⟩ | ⟨_, h⟩
      · exact Or.inr rfl
      · exact Or.inl ⟨q, hq, h⟩
    · exact Or.inl ⟨i, hi, h⟩
  · rintro (⟨q, hq, h⟩ | rfl)
    · by_cases hqi : q = i
      · subst hqi; exact Or.inr h
      · exact Or.inl ⟨q, hq, by rw [Vector.getElem_set_ne hi hq (Ne.symm hqi)]; exact h⟩
    · exact Or.inl ⟨i, hi, Vector.getElem_set_self hi⟩

theorem occ_set (s : Slots κ ε n) (i : Nat) (hi : i < n) (x : Option (Entry κ ε)) :
    occ (s.set i x hi) + (if s[i].isSome then 1 else 0) = occ s + (if x.isSome then 1 else 0) := by
  unfold occ
  rw [Vector.countP_set]
  have hpos : (if s[i].isSome = true then 1 else 0) ≤ Vector.countP Option.isSome s := by
    split
    · rename_i h
      exact Nat.succ_le_of_lt (Vector.countP_pos_iff.mpr ⟨s[i], Vector.getElem_mem hi, h⟩)
    · exact Nat.zero_le _
  omega

theorem occ_set_none_some (s : Slots κ ε n) (i : Nat) (hi : i < n) (e : Entry κ ε) (h : s[i] = none) :
    occ (s.set i (some e) hi) = occ s + 1 := by
  have := occ_set s i hi (some e); simp [h] at this; omega

theorem occ_set_some_some (s : Slots κ ε n) (i : Nat) (hi : i < n) (e r : Entry κ ε) (h : s[i] = some r) :
    occ (s.set i (some e) hi) = occ s := by
  have := occ_set s i hi (some e); simp [h] at this; omega

theorem occ_set_some_none (s : Slots κ ε n) (i : Nat) (hi : i < n) (r : Entry κ ε) (h : s[i] = some r) :
    occ (s.set i none hi) + 1 = occ s := by
  have := occ_set s i hi none; simp [h] at this; omega

theorem occ_le (s : Slots κ ε n) : occ s ≤ n := by
  have := Vector.countP_le_size (p := Option.isSome) (xs := s)
  simpa [occ] using this

theorem exists_empty_of_occ_lt (s : Slots κ ε n) (h : occ s < n) : ∃ z, ∃ hz : z < n, s[z] = none := by
  apply Classical.byContradiction
  intro hne
  have hall : ∀ a ∈ s, Option.isSome a = true := by
    intro a ha
    obtain ⟨i, hi, rfl⟩ := Vector.mem_iff_getElem.mp ha
    cases hsi : s[i] with
    | none => exact absurd ⟨i, hi, hsi⟩ hne
    | some _ => rfl
  have : occ s = n := by
    unfold occ
    rw [Vector.countP_eq_size]
    exact hall
  omega

theorem occ_replicate_none : occ (Vector.replicate n (none : Option (Entry κ ε))) = 0 := by
  unfold occ
  rw [Vector.countP_eq_zero]
  intro a ha
  rw [Vector.mem_replicate] at ha
  simp [ha.2]

theorem not_mem_replicate_none (e : Entry κ ε) : ¬ Mem (Vector.replicate n (none : Option (Entry κ ε))) e := by
  rintro ⟨i, hi, h⟩
  rw [Vector.getElem_replicate] at h
  cases h

theorem inv0_replicate_none (hash : κ → Nat) : Inv0 hash (Vector.replicate n (none : Option (Entry κ ε))) := by
  refine ⟨?_, ?_, ?_⟩
  · intro i hi e h; rw [Vector.getElem_replicate] at h; cases h
  · intro i j hi hj e e' h; rw [Vector.getElem_replicate] at h; cases h
  · intro i hi e h; rw [Vector.getElem_replicate] at h; cases h

theorem mem_key_unique (hash : κ → Nat) (s : Slots κ ε n) (inv : Inv0 hash s) (e e' : Entry κ ε)
    (h : Mem s e) (h' : Mem s e') (hk : e.key = e'.key) : e = e' := by
  obtain ⟨i, hi, he⟩ := h
  obtain ⟨j, hj, he'⟩ := h'
  have := inv.distinct i j hi hj e e' he he' hk
  subst this
  rw [he] at he'; cases he'; rfl

theorem Inv0.mem_set {hash : κ → Nat} {s : Slots κ ε n} (inv : Inv0 hash s) {p : Nat} (hp : p < n) {x : Entry κ ε}
    (hpx : s[p] = some x) (v : Option (Entry κ ε)) (y : Entry κ ε) : Mem (s.set p v hp) y ↔ v = some y ∨ (Mem s y ∧ y ≠ x) := by
  rw [mem_set_iff]
  refine or_congr_right ⟨?_, ?_⟩
  · rintro ⟨q, hq, hqp, hqy⟩
    exact ⟨⟨q, hq, hqy⟩, fun hyx => hqp (inv.distinct q p hq hp y x hqy hpx (congrArg Entry.key hyx))⟩
  · rintro ⟨⟨q, hq, hqy⟩, hne⟩
    exact ⟨q, hq, fun hqp => hne (Option.some.inj ((getElem_congr_idx (c := s) hqp ▸ hqy).symm.trans hpx)), hqy⟩

/-- "another entry" is "an entry with another key": how the users of `eraseAt_spec` (Lemmas/RHErase.lean) read what it
    says about the entries that stay -/
theorem Inv0.mem_ne_iff {hash : κ → Nat} {s : Slots κ ε n} (inv : Inv0 hash s) {x : Entry κ ε} (hx : Mem s x) (e : Entry κ ε) :
    Mem s e ∧ e ≠ x ↔ Mem s e ∧ e.key ≠ x.key :=
  and_congr_right fun he => not_congr ⟨fun h => h ▸ rfl, fun hk => mem_key_unique hash s inv e x he hx hk⟩

theorem some_mem_toList (s : Slots κ ε n) (e : Entry κ ε) : some e ∈ s.toList ↔ Mem s e := by
  rw [Vector.mem_toList_iff, Vector.mem_iff_getElem]; rfl

theorem pairwise_toList {hash : κ → Nat} {s : Slots κ ε n} (inv : Inv0 hash s) :
    s.toList.Pairwise (fun a b => ∀ ea eb, a = some ea → b = some eb → ea.key ≠ eb.key) := by
  rw [List.pairwise_iff_getElem]
  intro i j hi hj hij ea eb ha hb hk
  simp only [Vector.length_toList] at hi hj
  rw [Vector.getElem_toList] at ha hb
  exact Nat.ne_of_lt hij (inv.distinct i j hi hj ea eb ha hb hk)

def entries (s : Slots κ ε n) : List (Entry κ ε) := s.toList.filterMap id

theorem mem_entries (s : Slots κ ε n) (e : Entry κ ε) : e ∈ entries s ↔ Mem s e := by
  rw [entries, List.mem_filterMap, ← some_mem_toList]
  simp only [id, exists_eq_right]

theorem length_entries (s : Slots κ ε n) : (entries s).length = occ s := by
  rw [entries, occ, ← Vector.countP_toList]
  induction s.toList with
  | nil => rfl
  | cons a l ih => cases a <;> simpa using ih

theorem nodup_keys_entries {hash : κ → Nat} {s : Slots κ ε n} (inv : Inv0 hash s) : ((entries s).map (·.key)).Nodup := by
  rw [entries, List.map_filterMap, List.Nodup, List.pairwise_filterMap]
  refine (pairwise_toList inv).imp ?_
  rintro (_ | ea) (_ | eb) hab x hx y hy <;> simp at hx hy
  rw [← hx, ← hy]
  exact hab ea eb rfl rfl

/-! The invariant and the number of occupied slots depend only on the (key, home) content of the slots. -/

theorem getElem_map_some {s : Slots κ ε n} {f : Entry κ ε → Entry κ ε} {i : Nat} {hi : i < n} {y : Entry κ ε}
    (h : (s.map (fun o => o.map f))[i] = some y) : ∃ y0, s[i] = some y0 ∧ y = f y0 := by
  rw [Vector.getElem_map] at h
  cases hsi : s[i] with
  | none => rw [hsi] at h; cases h
  | some y0 => rw [hsi] at h; exact ⟨y0, rfl, (Option.some.inj h).symm⟩

theorem inv0_map_payload (hash : κ → Nat) (s : Slots κ ε n) (inv : Inv0 hash s) (f : Entry κ ε → Entry κ ε)
    (hk : ∀ e, (f e).key = e.key) (hh : ∀ e, (f e).home = e.home) : Inv0 hash (s.map (fun o => o.map f)) := by
  refine ⟨?_, ?_, ?_⟩
  · intro i hi x hx
    obtain ⟨x0, hx0, rfl⟩ := getElem_map_some hx
    rw [hh, hk]; exact inv.home_ok i hi x0 hx0
  · intro a b ha hb x y hx hy hxy
    obtain ⟨x0, hx0, rfl⟩ := getElem_map_some hx
    obtain ⟨y0, hy0, rfl⟩ := getElem_map_some hy
    rw [hk, hk] at hxy
    exact inv.distinct a b ha hb x0 y0 hx0 hy0 hxy
  · intro i hi x hx hpos
    obtain ⟨x0, hx0, rfl⟩ := getElem_map_some hx
    rw [hh] at hpos
    obtain ⟨p0, hp0, hle⟩ := inv.loc i hi x0 hx0 hpos
    refine ⟨f p0, by rw [Vector.getElem_map, hp0]; rfl, by rw [hh, hh]; exact hle⟩

theorem occ_map_payload (s : Slots κ ε n) (f : Entry κ ε → Entry κ ε) : occ (s.map (fun o => o.map f)) = occ s := by
  unfold occ
  rw [Vector.countP_map]
  congr 1
  funext o; cases o <;> rfl

theorem mem_map_payload (s : Slots κ ε n) (f : Entry κ ε → Entry κ ε) (e' : Entry κ ε) :
    Mem (s.map (fun o => o.map f)) e' ↔ ∃ e, Mem s e ∧ e' = f e := by
  constructor
  · rintro ⟨q, hq, h⟩
    obtain ⟨e, he, rfl⟩ := getElem_map_some h
    exact ⟨e, ⟨q, hq, he⟩, rfl⟩
  · rintro ⟨e, ⟨q, hq, h⟩, rfl⟩
    exact ⟨q, hq, by rw [Vector.getElem_map, h]; rfl⟩

end

theorem getElem_map_none (s : Slots κ ε n) (f : Entry κ ε → Entry κ ε) (z : Nat) (hz : z < n) (h : s[z] = none) :
    (s.map (fun o => o.map f))[z] = none := by rw [Vector.getElem_map, h]; rfl

end RH
