/-
  The operations of Cello/SeqSrc.lean (store-level operations run with the
  arithmetic EXTRACTED from src/Array.c, src/List.c, src/Tuple.c) are the hand-written operations of Cello/SeqStore.lean; the byte
  expressions of the source are the cell expressions times the stride; layout facts for every element size.
-/
import Cello.SeqSrc
import CelloProofs.Lemmas.SeqBasic
import Mathlib.Tactic.Ring

namespace Cello.Seq.Src
open CelloGen.SeqSrc
variable {α : Type}

/-- Eight of the nine extracted index rules (`Array_Get`, `Array_Set`, `Array_Pop_At`, `List_At`, `Tuple_Get`, `Tuple_Set`,
    `Tuple_Push_At`, `Tuple_Pop_At`) are one and the same term; used as `applyRule_std rfl`. -/
theorem applyRule_std {r : IdxRule} (hr : r = arrayGet) (n : Nat) (i : Int) : applyRule r n i = stdPick n i := by
  subst hr
  unfold applyRule arrayGet stdPick normIdx
  simp only [evalE, holds, cellEnv, Env.get, anyHolds, List.any, Bool.or_false, Bool.or_eq_true, decide_eq_true_eq, Nat.cast_zero, ge_iff_le]

theorem applyRule_arrayPushAt (n : Nat) (i : Int) : applyRule arrayPushAt n i = insPick n i := by
  unfold applyRule arrayPushAt insPick pushIdx
  simp only [evalE, holds, cellEnv, Env.get, anyHolds, List.any, Bool.or_false, Bool.or_eq_true, decide_eq_true_eq, Nat.cast_zero, Nat.cast_one, gt_iff_lt]

theorem policyFires_more (n s : Nat) : policyFires CelloGen.SeqSrc.reserveMore n s = decide (n > s) := by
  simp [policyFires, CelloGen.SeqSrc.reserveMore, evalE, holds, cellEnv, Env.get]

theorem policyCells_more (n s : Nat) : policyCells CelloGen.SeqSrc.reserveMore n s = n + n / 2 := by
  simp [policyCells, policySlots, CelloGen.SeqSrc.reserveMore, evalE, cellEnv, Env.get]
  omega

theorem policyFires_less (n s : Nat) : policyFires CelloGen.SeqSrc.reserveLess n s = decide (s > n + n / 2) := by
  simp [policyFires, CelloGen.SeqSrc.reserveLess, evalE, holds, cellEnv, Env.get]
  omega

theorem policyCells_less (n s : Nat) : policyCells CelloGen.SeqSrc.reserveLess n s = n := by
  simp [policyCells, policySlots, CelloGen.SeqSrc.reserveLess, evalE, cellEnv, Env.get]

theorem policy_more (n s : Nat) : reserveSrc CelloGen.SeqSrc.reserveMore n s = Cello.Seq.reserveMore n s := by
  simp only [reserveSrc, Cello.Seq.reserveMore, policyFires_more, policyCells_more, decide_eq_true_eq]

theorem policy_less (n s : Nat) : reserveSrc CelloGen.SeqSrc.reserveLess n s = Cello.Seq.reserveLess n s := by
  simp only [reserveSrc, Cello.Seq.reserveLess, policyFires_less, policyCells_less, decide_eq_true_eq]

theorem reserveMoreSrc_eq (s : ArrS α) : s.reserveMoreSrc = s.reserveMore := by
  simp only [ArrS.reserveMoreSrc, ArrS.reserveMore, policyFires_more, policyCells_more, decide_eq_true_eq]

theorem reserveLessSrc_eq (s : ArrS α) : s.reserveLessSrc = s.reserveLess := by
  simp only [ArrS.reserveLessSrc, ArrS.reserveLess, policyFires_less, policyCells_less, decide_eq_true_eq]

/-! A slot or a block size is the length plus or minus a constant, whichever function it is extracted from. -/

theorem slotOf_add (c n : Nat) : slotOf (.add (.v .nitems) (.lit c)) n = n + c := by
  simp [slotOf, evalE, cellEnv, Env.get]; omega

theorem slotOf_sub (c n : Nat) : slotOf (.sub (.v .nitems) (.lit c)) n = n - c := by
  simp [slotOf, evalE, cellEnv, Env.get]

theorem slotOf_nitems (n : Nat) : slotOf (.v .nitems) n = n := by
  simp [slotOf, evalE, cellEnv, Env.get]

theorem getSrc_eq (s : ArrS α) (i : Int) : s.getSrc i = s.get i := by
  unfold ArrS.getSrc ArrS.get
  rw [applyRule_std (r := arrayGet) rfl]; unfold stdPick
  by_cases hc : (normIdx s.nitems i < 0 ∨ normIdx s.nitems i ≥ (s.nitems : Int))
  · rw [if_pos hc, if_pos hc]
  · rw [if_neg hc, if_neg hc]; rfl

theorem setSrc_eq (s : ArrS α) (i : Int) (x : α) : s.setSrc i x = s.set i x := by
  unfold ArrS.setSrc ArrS.set
  rw [applyRule_std (r := arraySet) rfl]; unfold stdPick
  by_cases hc : (normIdx s.nitems i < 0 ∨ normIdx s.nitems i ≥ (s.nitems : Int))
  · rw [if_pos hc, if_pos hc]
  · rw [if_neg hc, if_neg hc]; rfl

theorem pushSrc_eq (s : ArrS α) (x : α) : s.pushSrc x = s.push x := by
  unfold ArrS.pushSrc ArrS.push
  simp only [reserveMoreSrc_eq, arrayPushSlot, slotOf_sub]
  rfl

theorem popSrc_eq (s : ArrS α) : s.popSrc = s.pop := by
  unfold ArrS.popSrc ArrS.pop
  have he : anyHolds (cellEnv s.nitems s.cells.size 0) arrayPopEmpty = decide (s.nitems = 0) := by
    unfold anyHolds arrayPopEmpty; simp [evalE, holds, cellEnv, Env.get]
  simp only [reserveLessSrc_eq, arrayPopSlot, slotOf_sub, he, decide_eq_true_eq]
  rfl

/-! The `memmove` triples and the walk of `List_At`, evaluated in cell units at length `n` and position `k`
    (`Tuple_Push_At` needs `k ≤ n`). -/

theorem moveArgs_arrayPushAt (n k : Nat) : moveArgs arrayPushAtMove n k = (k + 1, k, n - 1 - k) := by
  simp [moveArgs, arrayPushAtMove, evalE, cellEnv, Env.get]

theorem moveArgs_arrayPopAt (n k : Nat) : moveArgs arrayPopAtMove n k = (k, k + 1, n - 1 - k) := by
  simp [moveArgs, arrayPopAtMove, evalE, cellEnv, Env.get]

theorem moveArgs_tuplePushAt (n k : Nat) (hk : k ≤ n) : moveArgs tuplePushAtMove n k = (k + 1, k, n - k + 1) := by
  simp [moveArgs, tuplePushAtMove, evalE, cellEnv, Env.get]
  omega

theorem moveArgs_tuplePopAt (n k : Nat) : moveArgs tuplePopAtMove n k = (k, k + 1, n - k) := by
  simp [moveArgs, tuplePopAtMove, evalE, cellEnv, Env.get]

theorem listAt_fromHead (n k : Nat) : anyHolds (cellEnv n n k) listAtFromHead = decide (k ≤ n / 2) := by
  simp [anyHolds, listAtFromHead, evalE, holds, cellEnv, Env.get]
  congr 1; apply propext; omega

theorem listAt_backSteps (n k : Nat) : (evalE (cellEnv n n k) listAtBackSteps).toNat = n - k - 1 := by
  simp [listAtBackSteps, evalE, cellEnv, Env.get]

theorem pushAtSrc_eq (s : ArrS α) (x : α) (i : Int) : s.pushAtSrc x i = s.pushAt x i := by
  unfold ArrS.pushAtSrc ArrS.pushAt
  rw [applyRule_arrayPushAt]; unfold insPick
  by_cases hc : (pushIdx s.nitems i < 0 ∨ pushIdx s.nitems i > (s.nitems : Int))
  · rw [if_pos hc, if_pos hc]
  · rw [if_neg hc, if_neg hc]
    simp only [reserveMoreSrc_eq, moveArgs_arrayPushAt]
    rfl

theorem popAtSrc_eq (s : ArrS α) (i : Int) : s.popAtSrc i = s.popAt i := by
  unfold ArrS.popAtSrc ArrS.popAt
  rw [applyRule_std (r := arrayPopAt) rfl]; unfold stdPick
  by_cases hc : (normIdx s.nitems i < 0 ∨ normIdx s.nitems i ≥ (s.nitems : Int))
  · rw [if_pos hc, if_pos hc]
  · rw [if_neg hc, if_neg hc]
    simp only [reserveLessSrc_eq, moveArgs_arrayPopAt]
    rfl

theorem nodeAtSrc_eq (s : LstS α) (i : Int) : s.nodeAtSrc i = s.nodeAt i := by
  unfold LstS.nodeAtSrc LstS.nodeAt
  rw [applyRule_std (r := listAt) rfl]; unfold stdPick
  by_cases hc : (normIdx s.nitems i < 0 ∨ normIdx s.nitems i ≥ (s.nitems : Int))
  · rw [if_pos hc, if_pos hc]
  · rw [if_neg hc, if_neg hc]
    simp only [listAt_fromHead, listAt_backSteps, decide_eq_true_eq]
    rfl

theorem wrFrom_two (x : TupS α) (n : Nat) (c d : TCell α) :
    x.wrFrom n [c, d] = (x.wr n c).bind (fun s1 => s1.wr (n + 1) d) := by
  simp only [TupS.wrFrom]
  cases x.wr n c with
  | none => rfl
  | some s1 => simp only [Option.bind]; cases s1.wr (n + 1) d <;> rfl

theorem pushCellSrc_eq (s : TupS α) (c : TCell α) : s.pushCellSrc c = s.pushCell c := by
  unfold TupS.pushCellSrc TupS.pushCell
  simp only [tuplePushCells, tuplePushObjCell, tuplePushTermCell, slotOf_add, Nat.add_zero, wrFrom_two]
  rfl

theorem pushAtCellSrc_eq (s : TupS α) (c : TCell α) (i : Int) : s.pushAtCellSrc c i = s.pushAtCell c i := by
  unfold TupS.pushAtCellSrc TupS.pushAtCell
  cases hl : s.len with
  | none => rfl
  | some n =>
    dsimp only
    rw [applyRule_std (r := tuplePushAt) rfl]; unfold stdPick
    by_cases hc : (normIdx n i < 0 ∨ normIdx n i ≥ (n : Int))
    · rw [if_pos hc, if_pos hc]
    · rw [if_neg hc, if_neg hc]
      simp only [moveArgs_tuplePushAt n _ (Nat.le_of_lt (toNat_normIdx_lt hc)), tuplePushAtCells, slotOf_add]
      rfl

theorem tupPopAtSrc_eq (s : TupS α) (i : Int) : s.popAtSrc i = s.popAt i := by
  unfold TupS.popAtSrc TupS.popAt
  cases hl : s.len with
  | none => rfl
  | some n =>
    dsimp only
    rw [applyRule_std (r := tuplePopAt) rfl]; unfold stdPick
    by_cases hc : (normIdx n i < 0 ∨ normIdx n i ≥ (n : Int))
    · rw [if_pos hc, if_pos hc]
    · rw [if_neg hc, if_neg hc]
      simp only [moveArgs_tuplePopAt, tuplePopAtCells, slotOf_nitems]
      rfl

theorem getCellSrc_eq (s : TupS α) (i : Int) : s.getCellSrc i = s.getCell i := by
  unfold TupS.getCellSrc TupS.getCell
  cases hl : s.len with
  | none => rfl
  | some n =>
    dsimp only
    rw [applyRule_std (r := tupleGet) rfl]; unfold stdPick
    by_cases hc : (normIdx n i < 0 ∨ normIdx n i ≥ (n : Int))
    · rw [if_pos hc, if_pos hc]
    · rw [if_neg hc, if_neg hc]; rfl

theorem setCellSrc_eq (s : TupS α) (i : Int) (c : TCell α) : s.setCellSrc i c = s.setCell i c := by
  unfold TupS.setCellSrc TupS.setCell
  cases hl : s.len with
  | none => rfl
  | some n =>
    dsimp only
    rw [applyRule_std (r := tupleSet) rfl]; unfold stdPick
    by_cases hc : (normIdx n i < 0 ∨ normIdx n i ≥ (n : Int))
    · rw [if_pos hc, if_pos hc]
    · rw [if_neg hc, if_neg hc]; rfl

theorem _root_.Cello.Seq.ArrS.stepSrc_eq [BEq α] : @ArrS.stepSrc α _ = ArrS.step := by
  funext s op
  cases op <;> simp only [ArrS.stepSrc, ArrS.step, pushSrc_eq, popSrc_eq, pushAtSrc_eq, popAtSrc_eq, setSrc_eq]

theorem _root_.Cello.Seq.TupS.stepSrc_eq [BEq α] : @TupS.stepSrc α _ = TupS.step := by
  funext s op
  cases op <;> simp only [TupS.stepSrc, TupS.step, TupS.push, TupS.pushAt, TupS.set, pushCellSrc_eq, pushAtCellSrc_eq, tupPopAtSrc_eq, setCellSrc_eq]

theorem roundSize_spec (raw ptr : Nat) (hp : 0 < ptr) :
    (raw : Int) ≤ roundSize raw ptr ∧ roundSize raw ptr < raw + ptr ∧ roundSize raw ptr % ptr = 0 := by
  unfold roundSize arraySizeRound
  simp only [evalE, Env.get, Nat.cast_one]
  have hp' : (0 : Int) < ptr := by omega
  have h1 := Int.ediv_mul_le ((raw : Int) + ptr - 1) (Int.ne_of_gt hp')
  have h2 := Int.lt_ediv_add_one_mul_self ((raw : Int) + ptr - 1) hp'
  have h3 : (((raw : Int) + ptr - 1) / ptr + 1) * ptr = ((raw : Int) + ptr - 1) / ptr * ptr + ptr := by ring
  refine ⟨by omega, by omega, Int.mul_emod_left _ _⟩

theorem arrLayout_spec (raw hdr ptr n slots : Nat) :
    let L := arrLayout raw hdr ptr n slots
    L.tsize = roundSize raw ptr ∧ L.step = L.tsize + hdr ∧ L.recFrom = L.step * n ∧ L.recLen = L.step ∧ L.head = L.recFrom ∧
    L.item = L.recFrom + hdr ∧ L.item + L.tsize = L.recFrom + L.recLen ∧ L.bytes = slots * L.step := by
  simp only [arrLayout, byteEnv, arrayStep, arrayItem, arrayAllocDst, arrayAllocLen, arrayAllocHead, arrayNewBytes, evalE, Env.get]
  refine ⟨?_, ?_, ?_, ?_, ?_, ?_, ?_, ?_⟩ <;> first | trivial | rfl | ring

theorem pushAtMove_bytes (st : Int) (n k : Nat) (h : k + 1 ≤ n) :
    let ρ : Env := { nitems := n, i := k, step := st }
    evalE ρ arrayPushAtMove.dst = st * (moveArgs arrayPushAtMove n k).1 ∧
    evalE ρ arrayPushAtMove.src = st * (moveArgs arrayPushAtMove n k).2.1 ∧
    evalE ρ arrayPushAtMove.cnt = st * (moveArgs arrayPushAtMove n k).2.2 := by
  simp only [arrayPushAtMove, moveArgs, cellEnv, evalE, Env.get]
  refine ⟨?_, ?_, ?_⟩ <;> congr 1 <;> omega

theorem popAtMove_bytes (st : Int) (n k : Nat) (h : k + 1 ≤ n) :
    let ρ : Env := { nitems := n, i := k, step := st }
    evalE ρ arrayPopAtMove.dst = st * (moveArgs arrayPopAtMove n k).1 ∧
    evalE ρ arrayPopAtMove.src = st * (moveArgs arrayPopAtMove n k).2.1 ∧
    evalE ρ arrayPopAtMove.cnt = st * (moveArgs arrayPopAtMove n k).2.2 := by
  simp only [arrayPopAtMove, moveArgs, cellEnv, evalE, Env.get]
  refine ⟨?_, ?_, ?_⟩ <;> congr 1 <;> omega

theorem nodeLayout_spec (tsize hdr ptr : Nat) :
    let N := nodeLayout tsize hdr ptr
    N.prev = 0 ∧ N.next = ptr ∧ N.header = 2 * ptr ∧ N.elem = N.header + hdr ∧ N.bytes = N.elem + tsize ∧ N.freed = 0 := by
  simp only [nodeLayout, listNodeBytes, listHeaderAt, listNextBack, listPrevBack, listFreeBack, evalE, Env.get]
  refine ⟨?_, ?_, ?_, ?_, ?_, ?_⟩ <;> first | trivial | rfl | ring

end Cello.Seq.Src
