/-
  C20, the reference stdio `refIO` on one regular file, through the predicate `At`: the stdio calls, then by direction (reading, writing,
  opening, positioning, printing) the wrapper and its loop.
-/
import CelloProofs.Lemmas.File

namespace Cello.File

/-! ### the reference stdio on one regular file

  `At l h k m p e c` : in library state `l` the handle `h` is an open stream on the regular file `k` in mode `m`, at
  position `p`, with end-of-file flag `e`, and the file exists with content `c`. -/

def At (l : Ref) (h : Handle) (k : Nat) (m : Mode) (p : Nat) (e : Bool) (c : List Byte) : Prop :=
  ∃ last, lookup h l.streams = some ⟨k, m, p, e, last⟩ ∧ lookup k l.files = some c

def Regular (k : Nat) : Prop := k ≠ fileNoDir ∧ k ≠ fileFull

theorem At.content {l h k m p e c} (a : At l h k m p e c) : l.content k = c := by
  obtain ⟨_, _, hf⟩ := a; simp [Ref.content, hf]

theorem At.file_exists {l h k m p e c} (a : At l h k m p e c) : lookup k l.files = some c := by
  obtain ⟨_, _, hf⟩ := a; exact hf

theorem overwrite_end (c d : List Byte) : overwrite c c.length d = c ++ d := by
  simp [overwrite]

/-- for every `t`, also beyond the end of `c`: `overwrite` pads the gap, so what stands before `d` has length `t` either way -/
theorem overwrite_read_back (c : List Byte) (t : Nat) (d : List Byte) :
    ((overwrite c t d).drop t).take d.length = d := by
  have hpre : ((c ++ List.replicate (t - c.length) 0).take t).length = t := by
    simp [List.length_take, List.length_append]; omega
  simp only [overwrite, List.append_assoc]
  rw [List.drop_append_of_le_length (by omega)]
  rw [List.drop_of_length_le (by omega)]
  simp

/-- where fwrite puts an item: at the end of the file in append mode, else at the position -/
def writePos (m : Mode) (p : Nat) (c : List Byte) : Nat := if m = .a then c.length else p

theorem writePos_end {m : Mode} {p : Nat} {c : List Byte} (hp : m = .a ∨ p = c.length) : writePos m p c = c.length := by
  rcases hp with h | h <;> simp [writePos, h]

theorem writePos_of_ne {m : Mode} (hm : m ≠ .a) (p : Nat) (c : List Byte) : writePos m p c = p := if_neg hm

theorem fwrite_at {l h k m p e c} (a : At l h k m p e c) (hk : Regular k) (hw : m.canWrite = true) (d : List Byte) (hd : d ≠ []) :
    ∃ l', Ref.fwrite l h d = (l', 1) ∧ At l' h k m (writePos m p c + d.length) e (overwrite c (writePos m p c) d) := by
  obtain ⟨last, hs, hf⟩ := a
  have hlen : d.length ≠ 0 := mt List.eq_nil_of_length_eq_zero hd
  simp only [Ref.fwrite, hs, hlen, hw, hk.2, Ref.content, hf, Option.getD_some, writePos]
  exact ⟨_, rfl, by simp [At]⟩

theorem fwrite_empty (l : Ref) (h : Handle) : Ref.fwrite l h [] = (l, 0) := by
  simp only [Ref.fwrite]; cases lookup h l.streams <;> simp

theorem fread_at {l h k m p e c} (a : At l h k m p e c) (hk : Regular k) (hr : m.canRead = true) (n : Nat) :
    let d := (c.drop p).take n
    ∃ l', Ref.fread l h n = (l', if n ≠ 0 ∧ d.length = n then 1 else 0, d) ∧
      At l' h k m (p + d.length) (e || decide (d.length < n)) c := by
  -- stated on the two components of fread's answer, the new state is not named
  suffices h : (Ref.fread l h n).2 = (if n ≠ 0 ∧ ((c.drop p).take n).length = n then 1 else 0, (c.drop p).take n) ∧
      At (Ref.fread l h n).1 h k m (p + ((c.drop p).take n).length) (e || decide (((c.drop p).take n).length < n)) c from
    ⟨_, Prod.ext rfl h.1, h.2⟩
  have hc : l.content k = c := a.content
  obtain ⟨last, hs, hf⟩ := a
  have hkf : k ≠ fileFull := hk.2
  by_cases hn : n = 0
  · -- nothing asked for: fread returns at once
    subst hn
    simp only [Ref.fread, hs]
    simp [At, hs, hf]
  · by_cases hle : n ≤ (c.drop p).length
    · -- enough left: one full item, the flag as it was
      have hlen : ((c.drop p).take n).length = n := by rw [List.length_take]; exact Nat.min_eq_left hle
      simp only [Ref.fread, hs, hn, hr, hkf, hc, hle]
      simp only [hlen]
      simp [At, Ref.setStream, hf, hn]
    · -- short: all that is left is delivered, no item counted, the flag set
      have hlt : (c.drop p).length < n := Nat.lt_of_not_le hle
      have htake : (c.drop p).take n = c.drop p := List.take_of_length_le (Nat.le_of_lt hlt)
      simp only [Ref.fread, hs, hn, hr, hkf, hc, hle]
      simp only [htake]
      have hlt' : c.length - p < n := by simpa [List.length_drop] using hlt
      simp [At, Ref.setStream, hf, hn]
      exact ⟨by omega, Or.inr hlt'⟩

theorem feof_at {l h k m p e c} (a : At l h k m p e c) : Ref.feof l h = (l, e) := by
  obtain ⟨last, hs, _⟩ := a; simp [Ref.feof, hs]

theorem ftell_at {l h k m p e c} (a : At l h k m p e c) : Ref.ftell l h = (l, some p) := by
  obtain ⟨last, hs, _⟩ := a; simp [Ref.ftell, hs]

/-- fseek to a target that is not negative, from any origin -/
theorem fseek_at {l h k m p e c} (a : At l h k m p e c) (hk : Regular k) (off : Int) (wh : Whence) (t : Nat)
    (ht : (wh = .set ∧ off = t) ∨ (wh = .cur ∧ (p : Int) + off = t) ∨ (wh = .end_ ∧ (c.length : Int) + off = t)) :
    ∃ l', Ref.fseek l h off wh = (l', true) ∧ At l' h k m t false c := by
  have hc : l.content k = c := a.content
  obtain ⟨last, hs, hf⟩ := a
  have hkf : k ≠ fileFull := hk.2
  have hnn : ¬ ((t : Int) < 0) := by omega
  rcases ht with ⟨h1, h2⟩ | ⟨h1, h2⟩ | ⟨h1, h2⟩ <;> subst h1 <;>
    simp only [Ref.fseek, hs, hkf, hc, h2, if_false, if_neg hnn] <;> exact ⟨_, rfl, by simp [At, Ref.setStream, hf]⟩

theorem fclose_at {l h k m p e c} (a : At l h k m p e c) (hk : Regular k) :
    ∃ l', Ref.fclose l h = (l', true) ∧ l'.files = l.files ∧ l'.next = l.next ∧ lookup h l'.streams = none := by
  obtain ⟨last, hs, hf⟩ := a
  simp [Ref.fclose, hs, hk.2]

/-- fopen of a regular file that succeeds: "w" / "w+" give an empty file, "r" / "r+" / "a" on a file that exists leave its
    content alone; "a" starts at the end.  The handle is fresh. -/
theorem fopen_at (l : Ref) (k : Nat) (hk : Regular k) (m : Mode) (c : List Byte)
    (hm : ((m = .w ∨ m = .wp) ∧ c = []) ∨ ((m = .r ∨ m = .rp ∨ m = .a) ∧ lookup k l.files = some c)) :
    ∃ l', Ref.fopen l k m = (l', some l.next) ∧ At l' l.next k m (if m = .a then c.length else 0) false c ∧
      l'.next = l.next + 1 := by
  rcases hm with ⟨hm, rfl⟩ | ⟨hm, hf⟩
  · rcases hm with rfl | rfl <;> simp only [Ref.fopen, if_neg hk.1, if_neg hk.2, reduceCtorEq, if_false] <;>
      exact ⟨_, rfl, ⟨_, lookup_insert_self _ _ _, lookup_insert_self _ _ _⟩, rfl⟩
  · rcases hm with rfl | rfl | rfl <;> simp only [Ref.fopen, if_neg hk.1, if_neg hk.2, hf, reduceCtorEq, if_false] <;>
      exact ⟨_, rfl, ⟨_, lookup_insert_self _ _ _, hf⟩, rfl⟩

theorem vfscanfInt_at {l h k m p e c} (a : At l h k m p e c) (hk : Regular k) (hr : m.canRead = true) :
    let sd := Ref.scanDec (c.drop p)
    ∃ l', Ref.vfscanfInt l h = (l', sd.2.2) ∧ At l' h k m (p + sd.1) (e || sd.2.1) c := by
  have hc : l.content k = c := a.content
  obtain ⟨last, hs, hf⟩ := a
  have hkf : k ≠ fileFull := hk.2
  simp only [Ref.vfscanfInt, hs, hr, hkf, hc, Bool.not_true, Bool.false_or, decide_false, Bool.false_eq_true, if_false]
  exact ⟨_, rfl, by simp [At, Ref.setStream, hf]⟩

theorem vfscanfWs_at {l h k m p e c} (a : At l h k m p e c) (hk : Regular k) (hr : m.canRead = true) :
    let ws := ((c.drop p).takeWhile isSpace).length
    At (Ref.vfscanfWs l h) h k m (p + ws) (e || ((c.drop p).drop ws).length = 0) c := by
  have hc : l.content k = c := a.content
  obtain ⟨last, hs, hf⟩ := a
  have hkf : k ≠ fileFull := hk.2
  simp [Ref.vfscanfWs, hs, hr, hkf, hc, At, Ref.setStream, hf]

/-- what reading with the sizes `ns` from position `p` of a file with content `c` must return: item counts and bytes -/
def readSpec (c : List Byte) : Nat → List Nat → List (Out (Nat × List Byte))
  | _, [] => []
  | p, n :: ns =>
    let d := (c.drop p).take n
    .ok (if n ≠ 0 ∧ d.length = n then 1 else 0, d) :: readSpec c (p + d.length) ns

/-- a read that came up short had reached the end of the file: dropping what a read of `n` delivered is dropping `n`
    (so two reads in a row are one, `List.take_add`) -/
theorem drop_length_take (x : List Byte) (n : Nat) : x.drop (x.take n).length = x.drop n := by
  rw [List.length_take]
  by_cases h : n ≤ x.length
  · rw [Nat.min_eq_left h]
  · rw [Nat.min_eq_right (by omega), List.drop_length, List.drop_eq_nil_of_le (by omega)]

/-- asking for `n` bytes and then for `m` runs short exactly when `n + m` are more than there are -/
theorem short_take_drop (x : List Byte) (n m : Nat) :
    (decide ((x.take n).length < n) || decide ((x.drop (x.take n).length).length < m)) = decide (x.length < n + m) := by
  rw [drop_length_take, ← Bool.decide_or, decide_eq_decide, List.length_take, List.length_drop]; omega

theorem delivered_readSpec (c : List Byte) (p : Nat) (ns : List Nat) :
    delivered (readSpec c p ns) = (c.drop p).take ns.sum := by
  induction ns generalizing p with
  | nil => simp [readSpec, delivered]
  | cons n ns ih =>
    simp only [readSpec, delivered, List.sum_cons]
    rw [ih, ← List.drop_drop, drop_length_take, ← List.take_add]

theorem fileRead_at {l h k m p e c} (a : At l h k m p e c) (hk : Regular k) (hr : m.canRead = true) (n : Nat) :
    let d := (c.drop p).take n
    let r := fileRead refIO l (some h) n
    r.out = .ok (if n ≠ 0 ∧ d.length = n then 1 else 0, d) ∧ r.f = some h ∧
      At r.lib h k m (p + d.length) (e || decide (d.length < n)) c := by
  intro d
  obtain ⟨l1, hfr, h2⟩ := fread_at a hk hr n
  simp only [fileRead_some, refIO, hfr]
  by_cases hcond : (if n ≠ 0 ∧ ((c.drop p).take n).length = n then 1 else 0) ≠ 1 ∧ n ≠ 0
  · -- short item: File_Read asks feof, which is true here
    have hshort : d.length < n :=
      Nat.lt_of_le_of_ne (List.length_take_le n _) fun hfull => hcond.1 (if_pos ⟨hcond.2, hfull⟩)
    have he : (e || decide (d.length < n)) = true := by simp [hshort]
    rw [if_pos hcond]
    rw [he] at h2 ⊢
    rw [feof_at h2]
    exact ⟨rfl, rfl, h2⟩
  · rw [if_neg hcond]; exact ⟨rfl, rfl, h2⟩

/-- sread with any list of sizes = the specification `readSpec`; the stream ends where one sread of the total would leave it
    (`fileRead_at` at `ns.sum`) -/
theorem readAll_at {l h k m p e c} (a : At l h k m p e c) (hk : Regular k) (hr : m.canRead = true) (ns : List Nat) :
    (readAll refIO l (some h) ns).2 = readSpec c p ns ∧
      At (readAll refIO l (some h) ns).1 h k m (p + ((c.drop p).take ns.sum).length) (e || decide ((c.drop p).length < ns.sum)) c := by
  induction ns generalizing l p e with
  | nil => simp [readAll, readSpec]; exact a
  | cons n ns ih =>
    obtain ⟨ho, hf, ha⟩ := fileRead_at a hk hr n
    have ih' := ih ha
    rw [readAll_cons]
    refine ⟨?_, ?_⟩
    · show _ :: _ = _; rw [ho, ih'.1]; rfl
    · have := ih'.2
      rwa [Bool.or_assoc, ← List.drop_drop, short_take_drop, drop_length_take, Nat.add_assoc, ← List.length_append,
        ← List.take_add, ← List.sum_cons] at this

/-- outcomes of writing the chunks `cs`: 1 item each, 0 for an empty chunk (`fwrite(p, 0, 1, f)`) -/
def writeSpec (cs : List (List Byte)) : List (Out Nat) := cs.map (fun d => .ok (if d.length = 0 then 0 else 1))

theorem fileWrite_at {l h k m p e c} (a : At l h k m p e c) (hk : Regular k) (hw : m.canWrite = true) (d : List Byte) (hd : d ≠ []) :
    let r := fileWrite refIO l (some h) d
    r.out = .ok 1 ∧ r.f = some h ∧ At r.lib h k m (writePos m p c + d.length) e (overwrite c (writePos m p c) d) := by
  obtain ⟨l', hfw, a'⟩ := fwrite_at a hk hw d hd
  simp only [fileWrite, refIO, hfw]
  exact ⟨by simp, trivial, a'⟩

/-- at the end of the file (sequential writing, or append mode anywhere), the empty item included -/
theorem fileWrite_at_end {l h k m p e c} (a : At l h k m p e c) (hk : Regular k) (hw : m.canWrite = true)
    (hp : m = .a ∨ p = c.length) (d : List Byte) :
    let r := fileWrite refIO l (some h) d
    r.out = .ok (if d.length = 0 then 0 else 1) ∧ r.f = some h ∧
      At r.lib h k m (if d.length = 0 then p else c.length + d.length) e (c ++ d) := by
  by_cases hd : d = []
  · subst hd
    simp only [fileWrite, refIO, fwrite_empty]
    simpa using a
  · have := fileWrite_at a hk hw d hd
    rw [writePos_end hp, overwrite_end] at this
    simpa [mt List.eq_nil_of_length_eq_zero hd] using this

theorem writeAll_at_end {l h k m p e c} (a : At l h k m p e c) (hk : Regular k) (hw : m.canWrite = true)
    (hp : p = c.length) (cs : List (List Byte)) :
    (writeAll refIO l (some h) cs).2 = writeSpec cs ∧
      At (writeAll refIO l (some h) cs).1 h k m (c.length + cs.flatten.length) e (c ++ cs.flatten) := by
  induction cs generalizing l p c with
  | nil => subst hp; exact ⟨rfl, by simpa [writeAll] using a⟩
  | cons d cs ih =>
    obtain ⟨ho, _, ha⟩ := fileWrite_at_end a hk hw (Or.inr hp) d
    have hp' : (if d.length = 0 then p else c.length + d.length) = (c ++ d).length := by
      rw [List.length_append]; split <;> omega
    obtain ⟨i1, i2⟩ := ih ha hp'
    rw [writeAll_cons]
    exact ⟨by show _ :: _ = _; rw [ho, i1]; rfl, by simpa [Nat.add_assoc] using i2⟩

/-- append mode: wherever the position is, every item written lands at the end of the file -/
theorem writeAll_append {l h k p e c} (a : At l h k .a p e c) (hk : Regular k) (cs : List (List Byte)) :
    (writeAll refIO l (some h) cs).2 = writeSpec cs ∧
      ∃ p', At (writeAll refIO l (some h) cs).1 h k .a p' e (c ++ cs.flatten) ∧
        (cs.flatten ≠ [] → p' = (c ++ cs.flatten).length) := by
  induction cs generalizing l p c with
  | nil => exact ⟨rfl, p, by simpa [writeAll] using a, by simp⟩
  | cons d cs ih =>
    obtain ⟨ho, _, ha⟩ := fileWrite_at_end a hk rfl (Or.inl rfl) d
    rw [writeAll_cons]
    by_cases hd : d.length = 0
    · -- an empty chunk changes nothing
      have hd' : d = [] := List.eq_nil_of_length_eq_zero hd
      subst hd'
      simp only [List.length_nil, if_true, List.append_nil] at ha
      obtain ⟨i1, p', i2, i3⟩ := ih ha
      exact ⟨by show _ :: _ = _; rw [ho, i1]; rfl, p', by simpa using i2, by simpa using i3⟩
    · -- after the first byte written the position is the end of the file: sequential writing from there
      rw [if_neg hd, ← List.length_append] at ha
      obtain ⟨j1, j2⟩ := writeAll_at_end ha hk rfl rfl cs
      exact ⟨by show _ :: _ = _; rw [ho, j1]; rfl, _, by simpa [List.append_assoc] using j2,
        fun _ => by simp [List.length_append, Nat.add_assoc]⟩

/-- writing opens nothing, so `C20_roundtrip_reopen` can name the handle the second fopen hands out (`l.next + 1`) -/
theorem writeAll_next (l : Ref) (f : Option Handle) (cs : List (List Byte)) : (writeAll refIO l f cs).1.next = l.next := by
  induction cs generalizing l with
  | nil => rfl
  | cons d cs ih =>
    rw [writeAll_cons, ih]
    cases f with
    | none => rfl
    | some h =>
      simp only [fileWrite_some, refIO, Ref.fwrite]
      split
      · rfl
      · split <;> (try split) <;> rfl

theorem fileOpen_at_closed (l : Ref) (k : Nat) (hk : Regular k) (m : Mode) (c : List Byte)
    (hm : ((m = .w ∨ m = .wp) ∧ c = []) ∨ ((m = .r ∨ m = .rp ∨ m = .a) ∧ lookup k l.files = some c)) :
    let r := fileOpen refIO Cfg.fixed l none k m
    r.out = .ok () ∧ r.f = some l.next ∧ r.calls = [.fopen k m (some l.next)] ∧
      At r.lib l.next k m (if m = .a then c.length else 0) false c ∧ r.lib.next = l.next + 1 := by
  obtain ⟨l', ho, a, hn⟩ := fopen_at l k hk m c hm
  simp only [fileOpen_none, refIO, ho]
  exact ⟨rfl, trivial, trivial, a, hn⟩

theorem fileOpen_at_w (l : Ref) (k : Nat) (hk : Regular k) (m : Mode) (hm : m = .w ∨ m = .wp) :
    let r := fileOpen refIO Cfg.fixed l none k m
    r.out = .ok () ∧ r.f = some l.next ∧ r.calls = [.fopen k m (some l.next)] ∧ At r.lib l.next k m 0 false [] ∧
      r.lib.next = l.next + 1 := by
  have := fileOpen_at_closed l k hk m [] (Or.inl ⟨hm, rfl⟩)
  rwa [if_neg (by rcases hm with rfl | rfl <;> decide)] at this

theorem fileOpen_at_reopen {l h k m p e c} (a : At l h k m p e c) (hk : Regular k) (k' : Nat) (hk' : Regular k') (mr : Mode)
    (hmr : mr = .r ∨ mr = .rp) (c' : List Byte) (hc' : lookup k' l.files = some c') :
    let r := fileOpen refIO Cfg.fixed l (some h) k' mr
    r.out = .ok () ∧ r.f = some l.next ∧ r.calls = [.on .fclose h, .fopen k' mr (some l.next)] ∧
      At r.lib l.next k' mr 0 false c' := by
  obtain ⟨l1, hcl, c2, c3, _⟩ := fclose_at a hk
  obtain ⟨l2, ho, a2, _⟩ := fopen_at l1 k' hk' mr c' (Or.inr ⟨by rcases hmr with h | h <;> simp [h], c2 ▸ hc'⟩)
  rw [if_neg (by rcases hmr with rfl | rfl <;> decide), c3] at a2
  simp only [fileOpen_some_fixed, refIO, hcl, ho, c3, if_true]
  exact ⟨rfl, trivial, trivial, a2⟩

theorem fileTell_at {l h k m p e c} (a : At l h k m p e c) :
    (fileTell refIO l (some h)).out = .ok p ∧ (fileTell refIO l (some h)).lib = l := by
  simp [fileTell, refIO, ftell_at a]

theorem fileEof_at {l h k m p e c} (a : At l h k m p e c) :
    (fileEof refIO l (some h)).out = .ok e ∧ (fileEof refIO l (some h)).lib = l := by
  simp [fileEof, refIO, feof_at a]

theorem fileSeek_at {l h k m p e c} (a : At l h k m p e c) (hk : Regular k) (off : Int) (wh : Whence) (t : Nat)
    (ht : (wh = .set ∧ off = t) ∨ (wh = .cur ∧ (p : Int) + off = t) ∨ (wh = .end_ ∧ (c.length : Int) + off = t)) :
    (fileSeek refIO l (some h) off wh).out = .ok () ∧ (fileSeek refIO l (some h) off wh).f = some h ∧
      At (fileSeek refIO l (some h) off wh).lib h k m t false c := by
  obtain ⟨l', hs, a'⟩ := fseek_at a hk off wh t ht
  simp only [fileSeek, refIO, hs]
  exact ⟨by simp, trivial, a'⟩

theorem vfprintf_at_end {l h k m p e c} (a : At l h k m p e c) (hk : Regular k) (hw : m.canWrite = true)
    (hp : m = .a ∨ p = c.length) (t : List Byte) :
    ∃ l', Ref.vfprintf l h t = (l', (t.length : Int)) ∧
      At l' h k m (if t.length = 0 then p else c.length + t.length) e (c ++ t) := by
  obtain ⟨last, hs, hf⟩ := id a          -- `id`: `a` itself is still needed by `fwrite_at`
  by_cases ht : t = []
  · subst ht; exact ⟨l, by simp [Ref.vfprintf, hs, hw], by simpa using a⟩
  · have hlen : t.length ≠ 0 := mt List.eq_nil_of_length_eq_zero ht
    obtain ⟨l', hfw, a'⟩ := fwrite_at a hk hw t ht
    rw [writePos_end hp, overwrite_end] at a'
    exact ⟨l', by simp [Ref.vfprintf, hs, hw, hlen, hfw], by simpa [hlen] using a'⟩

theorem filePrintFrom_at_end {l h k m e c} (a : At l h k m c.length e c) (hk : Regular k) (hw : m.canWrite = true)
    (pos : Int) (calls : List Call) (frags : List (List Byte)) :
    let r := filePrintFrom refIO l h pos calls frags
    r.out = .ok (pos + frags.flatten.length) ∧ r.f = some h ∧
      At r.lib h k m (c ++ frags.flatten).length e (c ++ frags.flatten) := by
  induction frags generalizing l c pos calls with
  | nil => simpa [filePrintFrom] using a
  | cons t ts ih =>
    obtain ⟨l1, hv, h2⟩ := vfprintf_at_end a hk hw (Or.inr rfl) t
    have hp : (if t.length = 0 then c.length else c.length + t.length) = (c ++ t).length := by
      by_cases ht : t.length = 0 <;> simp [ht]
    rw [hp] at h2
    have := ih h2 (pos + (t.length : Int)) (calls ++ [.on .vfprintf h])
    have hn : ¬ ((t.length : Int) < 0) := by omega
    simp only [filePrintFrom, refIO, hv, hn, if_false]
    simp only [refIO] at this
    refine ⟨?_, this.2.1, ?_⟩
    · rw [this.1]; simp [Int.add_assoc]
    · simpa [List.append_assoc] using this.2.2

/-- print_to calls in sequence (each a list of fragments); collects the outcomes -/
def printAll {σ : Type} (io : Stdio σ) (l : σ) (f : Option Handle) : List (List (List Byte)) → σ × List (Out Int)
  | [] => (l, [])
  | fr :: rest =>
    let r := filePrint io l f fr
    let (l', outs) := printAll io r.lib f rest
    (l', r.out :: outs)

theorem printAll_at_end {l h k m e c} (a : At l h k m c.length e c) (hk : Regular k) (hw : m.canWrite = true)
    (texts : List (List (List Byte))) :
    (printAll refIO l (some h) texts).2 = texts.map (fun fr => .ok (fr.flatten.length : Int)) ∧
      At (printAll refIO l (some h) texts).1 h k m (c ++ texts.flatten.flatten).length e (c ++ texts.flatten.flatten) := by
  induction texts generalizing l c with
  | nil => simpa [printAll] using a
  | cons fr rest ih =>
    have hstep : (filePrint refIO l (some h) fr).out = .ok (fr.flatten.length : Int) ∧
        At (filePrint refIO l (some h) fr).lib h k m (c ++ fr.flatten).length e (c ++ fr.flatten) := by
      cases fr with
      | nil => simpa [filePrint] using a
      | cons t ts =>
        obtain ⟨o1, _, o3⟩ := filePrintFrom_at_end a hk hw 0 [] (t :: ts)
        simp only [filePrint]
        exact ⟨by simpa using o1, o3⟩
    have ih' := ih hstep.2
    simp only [printAll, List.map_cons]
    rcases hrest : printAll refIO (filePrint refIO l (some h) fr).lib (some h) rest with ⟨l', outs⟩
    rw [hrest] at ih'
    simp only at ih'
    refine ⟨by rw [hstep.1, ih'.1], ?_⟩
    simpa [List.append_assoc] using ih'.2

end Cello.File
