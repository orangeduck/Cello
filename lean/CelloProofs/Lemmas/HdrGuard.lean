/-
  Lemmas for C19: the allocation-class guards of String.c and Tuple.c.  Every result of a reallocating String or Tuple
  operation is `runGuarded` under one of the guards of `Config` (`stringOp_guarded`, `tupleOp_guarded`); what such an
  operation keeps (`BodyOK`) and what it refuses (a stack or static object, unchanged) is then proved once, of `runGuarded`.
-/
import CelloProofs.Lemmas.Hdr

namespace Cello.Hdr

variable {cfg : Config}

theorem runGuarded_cases (g : Guard) (alloc : Nat) (bounds : Option String) (b : Body) (m : Body → Body) :
    (runGuarded cfg g alloc bounds b m).1 = b ∨ (runGuarded cfg g alloc bounds b m).1 = m b := by
  unfold runGuarded
  repeat' split
  all_goals first | exact Or.inl rfl | exact Or.inr rfl

theorem runGuarded_ok (g : Guard) (alloc : Nat) (bounds : Option String) (b : Body) (m : Body → Body)
    (hb : BodyOK cfg b) (hm : BodyOK cfg (m b)) : BodyOK cfg (runGuarded cfg g alloc bounds b m).1 := by
  rcases runGuarded_cases (cfg := cfg) g alloc bounds b m with h | h <;> rw [h] <;> assumption

/-- **every result of a reallocating String operation comes out of one of the three guards**; `rem` edits in place -/
theorem stringOp_guarded {s : St} {alloc : Nat} {cur : String} {op : InPlace} {r : Body × Outcome}
    (h : stringOp cfg s alloc cur op = some r) :
    ((∃ x, op = .rem x) ∧ BodyOK cfg r.1) ∨
    ∃ g ∈ [cfg.sResize, cfg.sConcat, cfg.sAssign], ∃ m : Body → Body,
      r = runGuarded cfg g alloc none (.scalar (.str cur)) m ∧ BodyOK cfg (m (.scalar (.str cur))) := by
  unfold stringOp at h
  cases op <;> simp only at h
  all_goals (repeat' split at h)
  all_goals first
    | (cases h; done)
    | (cases h; exact Or.inr ⟨_, by repeat constructor, _, rfl, trivial⟩)
    | (cases h; exact Or.inl ⟨⟨_, rfl⟩, trivial⟩)

/-- **every result of a Tuple operation comes out of one of the seven guards**, or is the ValueError of `rem` for an
    absent item -/
theorem tupleOp_guarded {s : St} {alloc : Nat} {items : List Nat} {op : InPlace} {r : Body × Outcome}
    (h : tupleOp cfg s alloc items op = some r) :
    r = (.tuple items, .raised "ValueError") ∨
    ∃ g ∈ [cfg.tPush, cfg.tPop, cfg.tPushAt, cfg.tPopAt, cfg.tConcat, cfg.tAssign, { cfg.tResize with boundsFirst := false }],
      ∃ (bounds : Option String) (m : Body → Body),
        r = runGuarded cfg g alloc bounds (.tuple items) m ∧ BodyOK cfg (m (.tuple items)) := by
  unfold tupleOp at h
  cases op <;> simp only at h
  all_goals (repeat' split at h)
  all_goals first
    | (cases h; done)
    | (cases h; exact Or.inr ⟨_, by repeat constructor, _, _, rfl, trivial⟩)
    | (cases h; exact Or.inl rfl)

theorem stringOp_ok {s : St} {alloc : Nat} {cur : String} {op : InPlace} {r : Body × Outcome}
    (h : stringOp cfg s alloc cur op = some r) : BodyOK cfg r.1 := by
  obtain ⟨_, hf⟩ | ⟨g, _, m, rfl, hm⟩ := stringOp_guarded h
  · exact hf
  · exact runGuarded_ok g alloc none _ m trivial hm

theorem tupleOp_ok {s : St} {alloc : Nat} {items : List Nat} {op : InPlace} {r : Body × Outcome}
    (h : tupleOp cfg s alloc items op = some r) : BodyOK cfg r.1 := by
  obtain rfl | ⟨g, _, bounds, m, rfl, hm⟩ := tupleOp_guarded h
  · trivial
  · exact runGuarded_ok g alloc bounds _ m trivial hm

/-- a protecting guard applied to a stack or static object: nothing is changed and an exception is raised — the index
    check's when that check comes first and fails, else the guard's ValueError -/
theorem runGuarded_refuses {g : Guard} (hp : g.Protects cfg = true) {alloc : Nat}
    (ha : alloc = cfg.cStack ∨ alloc = cfg.cStatic) (bounds : Option String) (b : Body) (m : Body → Body) :
    runGuarded cfg g alloc bounds b m =
      (b, .raised ((if g.boundsFirst then bounds else none).getD "ValueError")) := by
  obtain ⟨hfirst, -, -, -, -, hexc⟩ := Guard.protects_iff.mp hp
  have hc : alloc ∈ g.classes := by simpa using Guard.refuses_of_protects hp ha
  unfold runGuarded
  cases hb : (if g.boundsFirst = true then bounds else none) with
  | some e => simp
  | none => simp [hc, hfirst, hexc]

theorem runGuarded_passes {g : Guard} (hp : g.Protects cfg = true) {alloc : Nat}
    (ha : alloc = cfg.cHeap ∨ alloc = cfg.cData) (b : Body) (m : Body → Body) :
    runGuarded cfg g alloc none b m = (m b, .ok) := by
  obtain ⟨_, _, _, hheap, hdata, _⟩ := Guard.protects_iff.mp hp
  have hc : g.classes.contains alloc = false := by rcases ha with h | h <;> rw [h] <;> assumption
  have hc' : alloc ∉ g.classes := by simpa using hc
  unfold runGuarded
  simp [hc', ha]

/-- String's `rem` edits in place behind no guard and is excluded; Tuple's (the twin below) goes through the guard of
    Tuple_Pop_At -/
theorem stringOp_refused (F : Facts cfg) {s : St} {alloc : Nat} (ha : alloc = cfg.cStack ∨ alloc = cfg.cStatic)
    {cur : String} {op : InPlace} (hrem : ∀ x, op ≠ .rem x) {b : Body} {out : Outcome}
    (h : stringOp cfg s alloc cur op = some (b, out)) : b = .scalar (.str cur) ∧ ∃ e, out = .raised e := by
  obtain ⟨⟨x, rfl⟩, _⟩ | ⟨g, hg, m, hr, _⟩ := stringOp_guarded h
  · exact absurd rfl (hrem x)
  · have hp : g.Protects cfg = true := by
      simp only [List.mem_cons, List.not_mem_nil, or_false] at hg
      rcases hg with rfl | rfl | rfl
      · exact F.sResize
      · exact F.sConcat
      · exact F.sAssign
    rw [runGuarded_refuses hp ha] at hr
    cases hr; exact ⟨rfl, _, rfl⟩

theorem tupleOp_refused (F : Facts cfg) {s : St} {alloc : Nat} (ha : alloc = cfg.cStack ∨ alloc = cfg.cStatic)
    {items : List Nat} {op : InPlace} {b : Body} {out : Outcome}
    (h : tupleOp cfg s alloc items op = some (b, out)) : b = .tuple items ∧ ∃ e, out = .raised e := by
  obtain hr | ⟨g, hg, bounds, m, hr, _⟩ := tupleOp_guarded h
  · cases hr; exact ⟨rfl, _, rfl⟩
  · have hp : g.Protects cfg = true := by
      simp only [List.mem_cons, List.not_mem_nil, or_false] at hg
      rcases hg with rfl | rfl | rfl | rfl | rfl | rfl | rfl
      · exact F.tPush
      · exact F.tPop
      · exact F.tPushAt
      · exact F.tPopAt
      · exact F.tConcat
      · exact F.tAssign
      · exact F.tResize
    rw [runGuarded_refuses hp ha] at hr
    cases hr; exact ⟨rfl, _, rfl⟩

end Cello.Hdr
