/-
  Lemmas for C15 (engine `text`): the String writer/reader pair — `String_Look` reads back what `String_Show` wrote, whatever
  follows (`lookString_show`), given what the two escape tables and the delimiter bytes have to do with each other (`Tables`).
-/
import Cello.Text

namespace Cello.Text

theorem mem_of_lookup {α : Type} (l : List (Nat × α)) (k : Nat) (v : α) (h : l.lookup k = some v) : (k, v) ∈ l := by
  obtain ⟨l₁, l₂, rfl, _⟩ := List.lookup_eq_some_iff.mp h
  exact List.mem_append_right _ List.mem_cons_self

/-- everything the round trip needs from the two escape tables and the delimiter bytes, as a `Bool` (decided on the generated tables) -/
def tablesOK (c : Cfg) : Bool :=
  c.showEsc.all (fun p => match p.2 with
    | [e, l] => e == c.look.escb && c.look.esc.lookup l == some [p.1]
    | _ => false) &&
  (c.showEsc.lookup c.look.cls).isSome && (c.showEsc.lookup c.look.escb).isSome &&
  c.look.escb != c.look.cls && c.showOpen == [c.look.opn] && c.showClose == [c.look.cls]

/-- `back`: the reader undoes every escape the writer makes (the step `lookString_show` turns on);
    `cls_esc`, `escb_esc`: the writer escapes the closing delimiter and the escape byte themselves, so neither occurs raw inside the
    written text -/
structure Tables (c : Cfg) : Prop where
  back : ∀ b t, c.showEsc.lookup b = some t → ∃ l, t = [c.look.escb, l] ∧ c.look.esc.lookup l = some [b]
  cls_esc : (c.showEsc.lookup c.look.cls).isSome = true
  escb_esc : (c.showEsc.lookup c.look.escb).isSome = true
  escb_ne_cls : c.look.escb ≠ c.look.cls
  opn : c.showOpen = [c.look.opn]
  cls : c.showClose = [c.look.cls]

theorem tables_of_ok (c : Cfg) (h : tablesOK c = true) : Tables c := by
  simp only [tablesOK, Bool.and_eq_true, List.all_eq_true, bne_iff_ne, ne_eq, beq_iff_eq] at h
  obtain ⟨⟨⟨⟨⟨h1, h2⟩, h3⟩, h4⟩, h5⟩, h6⟩ := h
  refine ⟨?_, h2, h3, h4, h5, h6⟩
  intro b t hb
  have hm := mem_of_lookup _ _ _ hb
  have := h1 _ hm
  rcases t with _ | ⟨e, _ | ⟨l, _ | ⟨x, r⟩⟩⟩ <;> simp at this
  exact ⟨l, by rw [this.1], this.2⟩

theorem cstr_single {b : Nat} (hb : b ≠ 0) : cstr [b] = [b] := by
  simp [cstr, List.takeWhile, hb]

theorem lookLoop_cls (c : LookCfg) (r : List Nat) (pos : Nat) (acc : List Nat) :
    lookLoop c (c.cls :: r) pos acc = (acc, .ok (r, pos + 1)) := by
  cases r <;> simp [lookLoop]

theorem lookLoop_plain (c : LookCfg) (b : Nat) (r : List Nat) (pos : Nat) (acc : List Nat)
    (h1 : b ≠ c.cls) (h2 : b ≠ c.escb) :
    lookLoop c (b :: r) pos acc = lookLoop c r (pos + 1) (acc ++ cstr [b]) := by
  cases r <;> simp [lookLoop, h1, h2]

theorem lookLoop_esc (c : LookCfg) (l : Nat) (t : List Nat) (r : List Nat) (pos : Nat) (acc : List Nat)
    (h : c.escb ≠ c.cls) (hl : c.esc.lookup l = some t) :
    lookLoop c (c.escb :: l :: r) pos acc =
      if c.continues then lookLoop c r (pos + 2) (acc ++ cstr t) else lookLoop c r (pos + 2) (acc ++ cstr t ++ cstr [l]) := by
  simp [lookLoop, h, hl]

theorem lookLoop_show (c : Cfg) (T : Tables c) (hc : c.look.continues = true) (s : List Nat) (hs : ∀ b ∈ s, b ≠ 0) :
    ∀ (rest : List Nat) (pos : Nat) (acc : List Nat),
      lookLoop c.look (s.flatMap (showByte c.showEsc) ++ c.look.cls :: rest) pos acc
        = (acc ++ s, .ok (rest, pos + (s.flatMap (showByte c.showEsc)).length + 1)) := by
  induction s with
  | nil => intro rest pos acc; simp [lookLoop_cls]
  | cons b s ih =>
    intro rest pos acc
    have hb : b ≠ 0 := hs b List.mem_cons_self
    have hs' : ∀ x ∈ s, x ≠ 0 := fun x hx => hs x (List.mem_cons_of_mem _ hx)
    simp only [List.flatMap_cons, List.append_assoc]
    cases hl : c.showEsc.lookup b with
    | some t =>
      obtain ⟨l, ht, hl2⟩ := T.back b t hl
      have hsb : showByte c.showEsc b = [c.look.escb, l] := by simp [showByte, hl, ht]
      rw [hsb]
      simp only [List.cons_append, List.nil_append]
      rw [lookLoop_esc _ _ _ _ _ _ T.escb_ne_cls hl2]
      simp only [hc, if_true]
      rw [ih hs', cstr_single hb]
      simp only [List.append_assoc, List.singleton_append, List.length_cons]
      congr 3; omega
    | none =>
      have hsb : showByte c.showEsc b = [b] := by simp [showByte, hl]
      have h1 : b ≠ c.look.cls := by
        intro h; have := T.cls_esc; rw [← h, hl] at this; simp at this
      have h2 : b ≠ c.look.escb := by
        intro h; have := T.escb_esc; rw [← h, hl] at this; simp at this
      rw [hsb]
      simp only [List.cons_append, List.nil_append]
      rw [lookLoop_plain _ _ _ _ _ h1 h2]
      rw [ih hs', cstr_single hb]
      simp only [List.append_assoc, List.singleton_append, List.length_cons]
      congr 3; omega

theorem lookString_show (c : Cfg) (T : Tables c) (hc : c.look.continues = true) (s : List Nat) (hs : ∀ b ∈ s, b ≠ 0)
    (rest : List Nat) (pos : Nat) :
    lookString c.look (showString c.showEsc c.showOpen c.showClose s ++ rest) pos
      = (s, .ok (rest, pos + (showString c.showEsc c.showOpen c.showClose s).length)) := by
  simp only [showString, T.opn, T.cls, List.cons_append, List.nil_append, List.append_assoc, lookString, if_true]
  rw [lookLoop_show c T hc s hs]
  simp only [List.nil_append, List.length_cons, List.length_append, List.length_nil]
  congr 3; omega

end Cello.Text
