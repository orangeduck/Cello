/-
  Several type objects, class objects that are themselves type objects, casts. What a lookup, a reset or a cast does
  to a record is a `RecStep`, to the world a `WStep`; a construction or a deletion replaces the record and the name
  at one address (`HeapOK.update`); `Heap.step_spec` and `Heap.run_spec` put the two together.
-/
import CelloProofs.Lemmas.Disp
import CelloProofs.Lemmas.DispWorld

namespace Cello.Dispatch

/-- a record-level step: the invariant (relative to any declaration) survives, the `Terminal` flag stays, and the only
    `cls` word values that can appear are the old ones and the class that was looked up.  Any declaration: each record of a
    world has its own, and at `D := declared t.entries` the clause `Inv.decl` says it still declares the same (`abs_wstep`) -/
def RecStep (slots : List (Nat × Cls)) (n : Nat) (cls : Cls) (t t' : TypeRec) : Prop :=
  (∀ D, Inv D slots n t → Inv D slots n t') ∧ t'.sentinel = t.sentinel ∧ ∀ c ∈ memosOf t', c ∈ memosOf t ∨ c = cls

theorem RecStep.refl (slots : List (Nat × Cls)) (n : Nat) (cls : Cls) (t : TypeRec) : RecStep slots n cls t t :=
  ⟨fun _ h => h, rfl, fun _ hc => Or.inl hc⟩

theorem RecStep.trans {slots n cls t t' t''} (h1 : RecStep slots n cls t t') (h2 : RecStep slots n cls t' t'') :
    RecStep slots n cls t t'' := by
  refine ⟨fun D h => h2.1 D (h1.1 D h), h2.2.1.trans h1.2.1, ?_⟩
  intro c hc
  rcases h2.2.2 c hc with h | h
  · exact h1.2.2 c h
  · exact Or.inr h

theorem RecStep.hdr (slots : List (Nat × Cls)) (n : Nat) (cls : Cls) (t : TypeRec) (b : Bool) :
    RecStep slots n cls t { t with hdr := b } :=
  ⟨fun _ h => h.hdr b, rfl, fun _ hc => Or.inl hc⟩

theorem scanName_mem (cls : Cls) : ∀ es : List Entry, ∀ x ∈ (scanName cls es).1, x ∈ es ∨ x.memo = some cls
  | [], x, h => by cases h
  | e :: es, x, h => by
    simp only [scanName] at h
    split at h
    · rcases List.mem_cons.mp h with rfl | h
      · exact Or.inr rfl
      · exact Or.inl (List.mem_cons_of_mem _ h)
    · rcases List.mem_cons.mp h with rfl | h
      · exact Or.inl List.mem_cons_self
      · exact (scanName_mem cls es x h).imp_left (List.mem_cons_of_mem _)

theorem scan_recStep {slots : List (Nat × Cls)} {n : Nat} (hs : SlotsOK slots n) (t : TypeRec) (cls : Cls) :
    RecStep slots n cls t (scan t cls).1 := by
  refine ⟨fun _ h => (scan_spec hs h cls).2.inv, ?_⟩
  unfold scan
  simp only
  cases scanPtr cls t.entries with
  | some i => exact ⟨rfl, fun _ hc => Or.inl hc⟩
  | none =>
    refine ⟨rfl, fun c hc => ?_⟩
    obtain ⟨x, hx, hm⟩ := List.mem_filterMap.mp hc
    rcases scanName_mem cls t.entries x hx with hin | hw
    · exact Or.inl (List.mem_filterMap.mpr ⟨x, hin, hm⟩)
    · exact Or.inr (Option.some.inj (hm.symm.trans hw))

/-- the cache fill of `Type_Instance` touches neither the `Terminal` flag nor a `cls` word -/
theorem instanceOf_recStep {slots : List (Nat × Cls)} {n : Nat} (hs : SlotsOK slots n) (t : TypeRec) (cls : Cls) :
    RecStep slots n cls t (instanceOf slots t cls).1 := by
  refine ⟨fun _ h => (instanceOf_spec hs h cls).2.inv, ?_⟩
  unfold instanceOf
  cases hso : slotOf slots cls with
  | none => exact (scan_recStep hs t cls).2
  | some p =>
    obtain ⟨i, lit⟩ := p
    obtain ⟨_, rfl⟩ := slotOf_some hso
    simp only
    split
    · split
      · exact (RecStep.refl slots n lit t).2
      · exact (scan_recStep hs t lit).2
    · exact (RecStep.refl slots n lit t).2

theorem look_recStep {slots : List (Nat × Cls)} {n : Nat} (hs : SlotsOK slots n) (t : TypeRec) (l : Look) (cls : Cls) :
    RecStep slots n cls t (applyOp slots t (l.op cls)).1 := by
  cases l with
  | inst => exact instanceOf_recStep hs t cls
  | meth k => rw [Look.op, applyOp, methodAt_eq]; exact instanceOf_recStep hs t cls
  | impl => exact scan_recStep hs t cls
  | implMeth k => rw [Look.op, applyOp, implementsMethodAt_eq]; exact scan_recStep hs t cls

theorem reset_recStep (slots : List (Nat × Cls)) (n : Nat) (cls : Cls) (t : TypeRec) : RecStep slots n cls t (reset t) := by
  refine ⟨fun D h => reset_inv h, rfl, ?_⟩
  intro c hc
  simp only [memosOf, reset, List.mem_filterMap, List.mem_map] at hc
  obtain ⟨e, ⟨e0, _, rfl⟩, hm⟩ := hc
  simp at hm

/-- a world-level step: the same type objects exist before and after, each related by a record-level step -/
def WStep (n : Nat) (cls : Cls) (w w' : World) : Prop :=
  w'.slots = w.slots ∧ w'.theType = w.theType ∧
  ∀ x, (w.get x = none → w'.get x = none) ∧ ∀ t, w.get x = some t → ∃ t', w'.get x = some t' ∧ RecStep w.slots n cls t t'

theorem WStep.refl (n : Nat) (cls : Cls) (w : World) : WStep n cls w w :=
  ⟨rfl, rfl, fun _ => ⟨fun h => h, fun t h => ⟨t, h, RecStep.refl _ _ _ _⟩⟩⟩

theorem WStep.trans {n cls w w' w''} (h1 : WStep n cls w w') (h2 : WStep n cls w' w'') : WStep n cls w w'' := by
  refine ⟨h2.1.trans h1.1, h2.2.1.trans h1.2.1, ?_⟩
  intro x
  refine ⟨fun hn => (h2.2.2 x).1 ((h1.2.2 x).1 hn), ?_⟩
  intro t ht
  obtain ⟨t', ht', r1⟩ := (h1.2.2 x).2 t ht
  obtain ⟨t'', ht'', r2⟩ := (h2.2.2 x).2 t' ht'
  rw [h1.1] at r2
  exact ⟨t'', ht'', r1.trans r2⟩

theorem WStep.put {n : Nat} {cls : Cls} {w : World} {tid : Nat} {t t' : TypeRec} (hget : w.get tid = some t)
    (hr : RecStep w.slots n cls t t') : WStep n cls w (w.put tid t') := by
  refine ⟨put_slots w tid t', put_theType w tid t', ?_⟩
  intro x
  by_cases hx : x = tid
  · subst hx
    refine ⟨fun hn => (by rw [hget] at hn; cases hn), ?_⟩
    intro t0 ht0
    rw [hget] at ht0
    cases ht0
    exact ⟨t', get_put_same w x t', hr⟩
  · rw [get_put, if_neg hx]
    exact ⟨fun hn => hn, fun t0 ht0 => ⟨t0, ht0, RecStep.refl _ _ _ _⟩⟩

theorem typeOfW_typeObj {w : World} {tid : Nat} {t : TypeRec} (hget : w.get tid = some t) :
    typeOfW w (.typeObj tid) = (w.put tid { t with hdr := true }, .ok w.theType) := by
  simp [typeOfW, hget]

theorem scan_hdr (t : TypeRec) (cls : Cls) : scan { t with hdr := true } cls = scan t cls := rfl

/-- `type_of` stores the record with its header word set, `Type_Scan`'s record then replaces it -/
theorem typeScanW_typeObj {w : World} {tid : Nat} {t : TypeRec} (hget : w.get tid = some t) (cls : Cls) :
    typeScanW w (.typeObj tid) cls = (w.put tid (scan t cls).1, .ok (scan t cls).2) := by
  simp only [typeScanW, typeOfW_typeObj hget, get_put_same, scan_hdr, put_put]

theorem typeInstanceW_typeObj {w : World} {tid : Nat} {t : TypeRec} (hget : w.get tid = some t) (cls : Cls) :
    typeInstanceW w (.typeObj tid) cls = (w.put tid (instanceOf w.slots t cls).1, (instanceOf w.slots t cls).2) := by
  simp [typeInstanceW, hget]

theorem typeMethodAtW_typeObj {w : World} {tid : Nat} {t : TypeRec} (hget : w.get tid = some t) (cls : Cls) (k : Nat) :
    typeMethodAtW w (.typeObj tid) cls k =
      (w.put tid (instanceOf w.slots t cls).1, methodOf t.sentinel cls k (instanceOf w.slots t cls).2) := by
  simp only [typeMethodAtW, typeInstanceW_typeObj hget, isSentinel_of_get hget, methodOf]
  rcases instanceOf w.slots t cls with ⟨t1, (_ | inst) | e | _⟩
  · rfl
  · simp only; cases memberAt inst k with
    | ok b => cases b <;> rfl
    | raised e => rfl
    | ub => rfl
  · rfl
  · rfl

theorem typeImplementsMethodAtW_typeObj {w : World} {tid : Nat} {t : TypeRec} (hget : w.get tid = some t) (cls : Cls) (k : Nat) :
    typeImplementsMethodAtW w (.typeObj tid) cls k = (w.put tid (scan t cls).1, memberOf k (scan t cls).2) := by
  simp only [typeImplementsMethodAtW, typeScanW_typeObj hget]
  cases (scan t cls).2 <;> rfl

theorem lookW_eq {w : World} {tid : Nat} {t : TypeRec} (hget : w.get tid = some t) (l : Look) (cls : Cls) :
    lookW w tid l cls = (w.put tid (applyOp w.slots t (l.op cls)).1, (applyOp w.slots t (l.op cls)).2) := by
  cases l with
  | inst => rw [lookW, typeInstanceW_typeObj hget]; rfl
  | impl => rw [lookW, typeScanW_typeObj hget]; rfl
  | meth k => rw [lookW, typeMethodAtW_typeObj hget, Look.op, applyOp, methodAt_eq]
  | implMeth k => rw [lookW, typeImplementsMethodAtW_typeObj hget, Look.op, applyOp, implementsMethodAt_eq]

theorem look_wstep {n : Nat} {w : World} (hs : SlotsOK w.slots n) {tid : Nat} {t : TypeRec} (hget : w.get tid = some t)
    (l : Look) (cls : Cls) : WStep n cls w (w.put tid (applyOp w.slots t (l.op cls)).1) :=
  WStep.put hget (look_recStep hs t l cls)

theorem WStep.of_get {n cls w w'} (h : WStep n cls w w') {x : Nat} {t' : TypeRec} (ht' : w'.get x = some t') :
    ∃ t, w.get x = some t ∧ RecStep w.slots n cls t t' := by
  cases hx : w.get x with
  | none => rw [(h.2.2 x).1 hx] at ht'; cases ht'
  | some t =>
    obtain ⟨t'', ht'', r⟩ := (h.2.2 x).2 t hx
    rw [ht''] at ht'; cases ht'
    exact ⟨t, rfl, r⟩

theorem isSentinel_wstep {n cls w w'} (h : WStep n cls w w') (x : Nat) : w'.isSentinel x = w.isSentinel x := by
  unfold World.isSentinel
  cases hx : w.get x with
  | none => rw [(h.2.2 x).1 hx]
  | some t =>
    obtain ⟨t', ht', r⟩ := (h.2.2 x).2 t hx
    rw [ht']; simp [r.2.1]

/-- what `cast` answers once the `Cast` instance of the object's type is known -/
def castOf (c : Option Inst) (sentT sentTy : Bool) (tid ty : Nat) : Outcome CastRes :=
  let tail : Outcome CastRes := if tid = ty then .ok .self else .raised (thrown .ValueError [sentT, sentTy])
  match c with
  | none => tail
  | some c =>
    match memberAt c 0 with
    | .ok true => .ok .custom
    | .ok false => tail
    | .raised e => .raised e
    | .ub => .ub

theorem specCast_eq (D : String → Option Inst) (sentT sentTy : Bool) (tid ty : Nat) :
    specCast D sentT sentTy tid ty = castOf (D castClsLib.name) sentT sentTy tid ty := rfl

theorem castW_obj_eq {n : Nat} {w : World} (hs : SlotsOK w.slots n) {D : String → Option Inst} {tid : Nat} {t : TypeRec}
    (hget : w.get tid = some t) (h : Inv D w.slots n t) (castCls : Cls) (ty : Nat) :
    castW castCls w (.obj .good tid) ty =
      (w.put tid (instanceOf w.slots t castCls).1, castOf (D castCls.name) t.sentinel (w.isSentinel ty) tid ty) := by
  have hsent : ∀ x, (w.put tid (instanceOf w.slots t castCls).1).isSentinel x = w.isSentinel x :=
    isSentinel_wstep (WStep.put hget (instanceOf_recStep hs t castCls))
  have hsT := isSentinel_of_get hget
  simp only [castW, instanceW, typeOfW, typeInstanceW_typeObj hget, ← apply_ite (Prod.mk _)]
  rw [(instanceOf_spec hs h castCls).1]
  cases D castCls.name with
  | none => simp only [castOf, hsent, hsT]
  | some c =>
    simp only [castOf]
    cases memberAt c 0 with
    | ok b =>
      cases b with
      | true => rfl
      | false => simp only [hsent, hsT]
    | raised e => rfl
    | ub => rfl

/-- `cast(Int, Type)`, `cast(Int, Int)`: `type_of` of a type object is `Type`, so the lookup of `Cast` happens in `Type`'s
    record and the answer is `self` exactly for `ty = Type` -/
theorem castW_typeObj_spec {n : Nat} {w : World} (hs : SlotsOK w.slots n) {D : String → Option Inst}
    {tid : Nat} {t tT : TypeRec} (hget : w.get tid = some t) (hgetT : w.get w.theType = some tT)
    (hT : Inv D w.slots n tT) (castCls : Cls) (ty : Nat) :
    (castW castCls w (.typeObj tid) ty).2 = castOf (D castCls.name) tT.sentinel (w.isSentinel ty) w.theType ty ∧
    WStep n castCls w (castW castCls w (.typeObj tid) ty).1 := by
  -- type_of(self) fills the header word
  have st1 : WStep n castCls w (w.put tid { t with hdr := true }) := WStep.put hget (RecStep.hdr _ n _ t true)
  obtain ⟨tT1, hgetT1, rT1⟩ := (st1.2.2 w.theType).2 tT hgetT
  have hinvT1 : Inv D w.slots n tT1 := rT1.1 _ hT
  -- the lookup of Cast in Type's record
  let w1 := w.put tid { t with hdr := true }
  have hw1s : w1.slots = w.slots := st1.1
  have hw1t : w1.theType = w.theType := st1.2.1
  have hinvT1' : Inv D w1.slots n tT1 := by rw [hw1s]; exact hinvT1
  have hs1 : SlotsOK w1.slots n := by rw [hw1s]; exact hs
  have sp := instanceOf_spec hs1 hinvT1' castCls
  have st2 : WStep n castCls w1 (w1.put w.theType (instanceOf w1.slots tT1 castCls).1) :=
    WStep.put hgetT1 (instanceOf_recStep hs1 tT1 castCls)
  let w2 := w1.put w.theType (instanceOf w1.slots tT1 castCls).1
  have st12 : WStep n castCls w w2 := st1.trans st2
  -- type_of(self) again
  obtain ⟨t2, hget2, _⟩ := (st12.2.2 tid).2 t hget
  have st3 : WStep n castCls w2 (w2.put tid { t2 with hdr := true }) := WStep.put hget2 (RecStep.hdr _ n _ t2 true)
  have st123 := st12.trans st3
  have hsent2 := isSentinel_wstep st123
  have hsT := isSentinel_of_get hgetT
  have hw2t : w2.theType = w.theType := st12.2.1
  have e1 : typeOfW w (.typeObj tid) = (w1, .ok w.theType) := typeOfW_typeObj hget
  have e2 : typeInstanceW w1 (.typeObj w.theType) castCls = (w2, (instanceOf w1.slots tT1 castCls).2) :=
    typeInstanceW_typeObj hgetT1 castCls
  have e3 : typeOfW w2 (.typeObj tid) = (w2.put tid { t2 with hdr := true }, .ok w.theType) := by
    rw [typeOfW_typeObj hget2, hw2t]
  simp only [castW, instanceW, e1, e2, castOf]
  rw [sp.1]
  cases hD : D castCls.name with
  | none =>
    simp only [e3]
    by_cases hty : w.theType = ty
    · simp only [hty, if_true]; exact ⟨trivial, by simpa [hty] using st123⟩
    · simp only [hty, if_false, hsent2, hsT]; exact ⟨trivial, st123⟩
  | some c =>
    simp only
    cases hm : memberAt c 0 with
    | ok b =>
      cases b with
      | true => exact ⟨rfl, st12⟩
      | false =>
        simp only [e3]
        by_cases hty : w.theType = ty
        · simp only [hty, if_true]; exact ⟨trivial, by simpa [hty] using st123⟩
        · simp only [hty, if_false, hsent2, hsT]; exact ⟨trivial, st123⟩
    | raised e => exact ⟨rfl, st12⟩
    | ub => exact ⟨rfl, st12⟩

/-- every `cls` word of every record reads as the class that lives at its address NOW, or its pointee is dead -/
def Coherent (h : Heap) : Prop :=
  ∀ tid t, h.w.get tid = some t → ∀ c ∈ memosOf t, c.id ≠ 0 →
    h.nameAt (c.id - 1) = some c.name ∨ h.nameAt (c.id - 1) = none

/-- **Invariant of a heap**: every type object satisfies the lookup invariant relative to its own declaration, and the
    `cls` words are coherent with the names of the class objects -/
structure HeapOK (n : Nat) (h : Heap) : Prop where
  inv : ∀ tid t, h.w.get tid = some t → Inv (declared t.entries) h.w.slots n t
  coh : Coherent h

theorem heapOK_of_okb {n : Nat} {h : Heap} (hb : h.okb n = true) : HeapOK n h := by
  simp only [Heap.okb, List.all_eq_true, Bool.and_eq_true, beq_iff_eq] at hb
  constructor
  · intro tid t hget
    obtain ⟨⟨hi, hl⟩, _⟩ := hb _ (mem_of_get hget)
    have := inv_of_invb hi
    simp only at hl
    rw [hl] at this; exact this
  · intro tid t hget c hc h0
    obtain ⟨_, hm⟩ := hb _ (mem_of_get hget)
    have := hm c hc
    simp only [Bool.or_eq_true, beq_iff_eq] at this
    rcases this with (h' | h') | h'
    · exact absurd h' h0
    · exact Or.inl h'
    · exact Or.inr h'

/-- pointer equality of a `cls` word and a class argument, in terms of the numbering of the model -/
def ptrEq (c d : Cls) : Prop := c.id = d.id ∧ (c.id = 0 → c.name = d.name)

theorem resolve_coherent {h : Heap} {r : CRef} {cls : Cls} (hr : h.resolve r = some cls) :
    cls.id = 0 ∨ h.nameAt (cls.id - 1) = some cls.name := by
  cases r with
  | lib nm => simp only [Heap.resolve, Option.some.injEq] at hr; subst hr; exact Or.inl rfl
  | rt a =>
    simp only [Heap.resolve, Option.map_eq_some_iff] at hr
    obtain ⟨nm, hn, rfl⟩ := hr
    right; simpa using hn

/-- **value equality of `Cls` is pointer equality** for every `cls` word of a coherent heap and every class a reference
    denotes: the comparison `t->cls is cls` of `Type_Scan`'s first loop is what `scanPtr` computes -/
theorem ptrEq_iff_eq {h : Heap} (hc : Coherent h) {tid : Nat} {t : TypeRec} (hget : h.w.get tid = some t)
    {c : Cls} (hmem : c ∈ memosOf t) {r : CRef} {cls : Cls} (hr : h.resolve r = some cls) : ptrEq c cls ↔ c = cls := by
  constructor
  · intro ⟨hid, hnm⟩
    by_cases h0 : c.id = 0
    · cases c; cases cls; simp_all
    · have hcl := resolve_coherent hr
      rw [← hid] at hcl
      rcases hcl with hcl | hcl
      · exact absurd hcl h0
      · rcases hc tid t hget c hmem h0 with h1 | h1
        · rw [hcl] at h1
          cases c; cases cls; simp_all
        · rw [hcl] at h1; cases h1
  · intro e; subst e; exact ⟨rfl, fun _ => rfl⟩

theorem HeapOK.wstep {n : Nat} {h : Heap} (hok : HeapOK n h) {cls : Cls} {w' : World} (hst : WStep n cls h.w w')
    (hcls : cls.id = 0 ∨ h.nameAt (cls.id - 1) = some cls.name) : HeapOK n { h with w := w' } := by
  constructor
  · intro x t' ht'
    obtain ⟨t, hx, r⟩ := hst.of_get ht'
    have hi := r.1 _ (hok.inv x t hx)
    show Inv (declared t'.entries) w'.slots n t'
    rw [funext hi.decl, hst.1]; exact hi
  · intro x t' ht' c hc h0
    obtain ⟨t, hx, r⟩ := hst.of_get ht'
    -- a `cls` word is an old one, or the class just looked up, which is alive under its name
    rcases r.2.2 c hc with hm | rfl
    · exact hok.coh x t hx c hm h0
    · exact hcls.elim (fun e => absurd e h0) Or.inl

theorem abs_wstep {n : Nat} {h : Heap} (hok : HeapOK n h) {cls : Cls} {w' : World} (hst : WStep n cls h.w w') :
    Heap.abs { h with w := w' } = h.abs := by
  unfold Heap.abs
  congr 1
  funext x
  cases hx : h.w.get x with
  | none => rw [(hst.2.2 x).1 hx]
  | some t =>
    obtain ⟨t', ht', r⟩ := (hst.2.2 x).2 t hx
    rw [ht']
    have hi := r.1 _ (hok.inv x t hx)
    have hd : declared t'.entries = declared t.entries := funext hi.decl
    simp [hd, r.2.1]

theorem nameAt_cons_filter (names : List (Nat × String)) (addr : Nat) (name : String) (x : Nat) :
    (((addr, name) :: names.filter (fun p => p.1 ≠ addr)).find? (fun p => p.1 = x)).map (·.2) =
      if x = addr then some name else (names.find? (fun p => p.1 = x)).map (·.2) := by
  by_cases hx : x = addr
  · subst hx; simp
  · have hx' : ¬ addr = x := fun e => hx e.symm
    simp only [List.find?_cons, hx', decide_false, hx, if_false, find_filter_ne]

theorem get_delete (h : Heap) (a x : Nat) : (h.delete a).w.get x = if x = a then none else h.w.get x := by
  rw [Heap.delete, World.get, find_filter_ne]; split <;> rfl

theorem nameAt_delete (h : Heap) (a x : Nat) : (h.delete a).nameAt x = if x = a then none else h.nameAt x := by
  rw [Heap.delete, Heap.nameAt, find_filter_ne]; split <;> rfl

theorem retargetRec_id {id : Nat} {name : String} {t : TypeRec}
    (h : ∀ c ∈ memosOf t, c.id ≠ id ∨ c.name = name) : retargetRec id name t = t := by
  unfold retargetRec
  rw [map_eq_self]
  intro e he
  unfold retargetEntry
  cases hm : e.memo with
  | none => rfl
  | some c =>
    simp only
    split
    · next hid =>
      -- the word holds the address: by hypothesis it already reads as the class of that name
      rcases h c (List.mem_filterMap.mpr ⟨e, he, hm⟩) with h' | h'
      · exact absurd hid h'
      · rw [← hid, ← h', ← hm]
    · rfl

theorem retarget_safe {h : Heap} {addr : Nat} {name : String} (hsafe : h.nameWriteSafe addr name = true) :
    h.retarget addr name = h := by
  simp only [Heap.nameWriteSafe, List.all_eq_true, Bool.or_eq_true, decide_eq_true_eq, ne_eq] at hsafe
  unfold Heap.retarget
  rw [map_eq_self]
  intro p hp
  rw [retargetRec_id (hsafe p hp)]

theorem safe_of_get {h : Heap} {addr : Nat} {name : String} (hsafe : h.nameWriteSafe addr name = true)
    {x : Nat} {t : TypeRec} (hget : h.w.get x = some t) : ∀ c ∈ memosOf t, c.id = addr + 1 → c.name = name := by
  intro c hc hid
  simp only [Heap.nameWriteSafe, List.all_eq_true] at hsafe
  have := hsafe _ (mem_of_get hget) c hc
  simp only [Bool.or_eq_true, decide_eq_true_eq, ne_eq] at this
  rcases this with h' | h'
  · exact absurd hid h'
  · exact h'

theorem abs_decl (h : Heap) (x : Nat) : h.abs.decl x = (h.w.get x).map (fun t => (t.sentinel, declared t.entries)) := rfl

theorem abs_resolve (h : Heap) (c : CRef) : h.abs.resolve c = h.resolve c := by cases c <;> rfl

theorem abs_sent (h : Heap) (x : Nat) : h.abs.sent x = h.w.isSentinel x := by
  simp only [Abs.sent, World.isSentinel, abs_decl]
  cases h.w.get x <;> rfl

theorem specObs_congr {s : Bool} {D D' : String → Option Inst} (h : ∀ nm, D nm = D' nm) (op : Op) :
    specObs s D op = specObs s D' op := by
  have : D = D' := funext h
  rw [this]

/-- the side condition of one operation (see `Heap.safe`) -/
def HOp.safeIn (L : Layout) (h : Heap) : HOp → Bool
  | .construct addr name es => es.length > L.maxInstances || h.nameWriteSafe addr name
  | _ => true

theorem Heap.safe_cons (L : Layout) (h : Heap) (op : HOp) (ops : List HOp) :
    Heap.safe L h (op :: ops) = (op.safeIn L h && Heap.safe L (h.step L op).1 ops) := by
  cases op <;> rfl

theorem memosOf_mkType (n : Nat) (hdr sent : Bool) (es : List (String × Inst)) : memosOf (mkType n hdr es sent) = [] := by
  simp only [memosOf, mkType, List.filterMap_map]
  induction es with
  | nil => rfl
  | cons p ps ih => simp

theorem construct_safe {L : Layout} {h : Heap} {addr : Nat} {name : String} {es : List (String × Inst)}
    (hbig : ¬ es.length > L.maxInstances) (hsf : h.nameWriteSafe addr name = true) :
    ∃ hdr, h.construct L addr name es =
      ({ w := h.w.put addr (mkType L.cacheNum hdr es (h.w.isSentinel addr)),
         names := (addr, name) :: h.names.filter (fun p => p.1 ≠ addr) }, .ok ()) := by
  simp only [Heap.construct, hbig, if_false, retarget_safe hsf, World.isSentinel]
  cases h.w.get addr <;> exact ⟨_, rfl⟩

/-- **the record and the name at one address replaced (or gone)**, everything else as it was — what a construction and a
    deletion do: the heap stays in order provided the new record is in order and cold, and every `cls` word that holds the
    address already reads as the class of the new name (or the address is dead) -/
theorem HeapOK.update {n : Nat} {h h' : Heap} (hok : HeapOK n h) {addr : Nat} {r : Option TypeRec} {nm : Option String}
    (hsl : h'.w.slots = h.w.slots) (hget : ∀ x, h'.w.get x = if x = addr then r else h.w.get x)
    (hname : ∀ x, h'.nameAt x = if x = addr then nm else h.nameAt x)
    (hnew : ∀ t, r = some t → Inv (declared t.entries) h.w.slots n t ∧ memosOf t = [])
    (hold : ∀ x t, h.w.get x = some t → ∀ c ∈ memosOf t, c.id = addr + 1 → nm = some c.name ∨ nm = none) :
    HeapOK n h' ∧ h'.abs = { decl := fun x => if x = addr then r.map (fun t => (t.sentinel, declared t.entries)) else h.abs.decl x,
                              name := fun x => if x = addr then nm else h.abs.name x } := by
  refine ⟨⟨?_, ?_⟩, ?_⟩
  · intro x t' ht'
    rw [hget] at ht'
    rw [hsl]
    split at ht'
    · exact (hnew t' ht').1
    · exact hok.inv x t' ht'
  · intro x t' ht' c hc h0
    rw [hget] at ht'
    rw [hname]
    split at ht'
    · rw [(hnew t' ht').2] at hc; cases hc
    · split
      · exact hold x t' ht' c hc (by omega)
      · exact hok.coh x t' ht' c hc h0
  · unfold Heap.abs
    congr 1
    · funext x; rw [hget]; split <;> rfl
    · funext x; exact hname x

/-- **one operation of a history**: what it answers is the head of the spec, the rest of the spec continues from the
    abstraction of the heap after it, the heap invariant survives -/
theorem Heap.step_spec {L : Layout} {h : Heap} (hs : SlotsOK h.w.slots L.cacheNum) (hok : HeapOK L.cacheNum h)
    (op : HOp) (hsafe : op.safeIn L h = true) (ops : List HOp) :
    specHeap L.maxInstances h.w.theType h.abs (op :: ops) =
        (h.step L op).2 :: specHeap L.maxInstances h.w.theType (h.step L op).1.abs ops ∧
      HeapOK L.cacheNum (h.step L op).1 ∧
      (h.step L op).1.w.slots = h.w.slots ∧ (h.step L op).1.w.theType = h.w.theType := by
  -- a world-level step: the abstraction, the heap invariant and the constants stay
  have wst : ∀ {cls : Cls} {w' : World}, WStep L.cacheNum cls h.w w' → (cls.id = 0 ∨ h.nameAt (cls.id - 1) = some cls.name) →
      Heap.abs { h with w := w' } = h.abs ∧ HeapOK L.cacheNum { h with w := w' } ∧ w'.slots = h.w.slots ∧ w'.theType = h.w.theType :=
    fun hst hcls => ⟨abs_wstep hok hst, hok.wstep hst hcls, hst.1, hst.2.1⟩
  cases op with
  | look tid l c =>
    cases hget : h.w.get tid with
    | none => simp only [specHeap, Heap.step, abs_decl, hget]; exact ⟨rfl, hok, trivial, trivial⟩
    | some t =>
      cases hres : h.resolve c with
      | none => simp only [specHeap, Heap.step, abs_resolve, abs_decl, hget, hres]; exact ⟨rfl, hok, trivial, trivial⟩
      | some cls =>
        have w := wst (look_wstep hs hget l cls) (resolve_coherent hres)
        simp only [specHeap, Heap.step, abs_resolve, abs_decl, hget, hres, Option.map_some, lookW_eq hget]
        rw [w.1, (applyOp_spec hs (hok.inv tid t hget) (l.op cls)).1]
        exact ⟨rfl, w.2⟩
  | reset tid =>
    cases hget : h.w.get tid with
    | none => simp only [specHeap, Heap.step, abs_decl, hget]; exact ⟨rfl, hok, trivial, trivial⟩
    | some t =>
      -- a reset writes no `cls` word: the class of its `RecStep` is a dummy, any library class serves
      have w := wst (WStep.put hget (reset_recStep _ _ castClsLib t)) (Or.inl rfl)
      simp only [specHeap, Heap.step, abs_decl, hget]
      rw [w.1]
      exact ⟨rfl, w.2⟩
  | cast tid ty =>
    cases hget : h.w.get tid with
    | none => simp only [specHeap, Heap.step, abs_decl, hget]; exact ⟨rfl, hok, trivial, trivial⟩
    | some t =>
      have w := wst (w' := h.w.put tid (instanceOf h.w.slots t castClsLib).1) (look_wstep hs hget .inst castClsLib) (Or.inl rfl)
      simp only [specHeap, Heap.step, abs_decl, abs_sent, hget, Option.map_some, specCast_eq]
      rw [castW_obj_eq hs hget (hok.inv tid t hget) castClsLib ty, w.1]
      exact ⟨rfl, w.2⟩
  | castType tid ty =>
    cases hget : h.w.get tid with
    | none => simp only [specHeap, Heap.step, abs_decl, hget]; exact ⟨rfl, hok, trivial, trivial⟩
    | some t =>
      cases hgetT : h.w.get h.w.theType with
      | none => simp only [specHeap, Heap.step, abs_decl, hget, hgetT]; exact ⟨rfl, hok, trivial, trivial⟩
      | some tT =>
        have sp := castW_typeObj_spec hs hget hgetT (hok.inv _ tT hgetT) castClsLib ty
        have w := wst sp.2 (Or.inl rfl)
        simp only [specHeap, Heap.step, abs_decl, abs_sent, hget, hgetT, Option.map_some, specCast_eq]
        rw [sp.1, w.1]
        exact ⟨rfl, w.2⟩
  | construct addr name es =>
    by_cases hbig : es.length > L.maxInstances
    · simp only [specHeap, Heap.step, Heap.construct, hbig, if_true]
      exact ⟨trivial, hok, trivial, trivial⟩
    · have hsf : h.nameWriteSafe addr name = true := by
        simpa only [HOp.safeIn, Bool.or_eq_true, decide_eq_true_eq, hbig, false_or] using hsafe
      obtain ⟨hdr, hc⟩ := construct_safe (L := L) (es := es) hbig hsf
      rw [Heap.step, hc]
      have up := hok.update (h' := ⟨h.w.put addr _, (addr, name) :: h.names.filter (fun p => p.1 ≠ addr)⟩)
        (r := some (mkType L.cacheNum hdr es (h.w.isSentinel addr))) (nm := some name)
        (put_slots _ _ _) (get_put h.w addr · _) (nameAt_cons_filter h.names addr name)
        (fun t e => by cases e; exact ⟨mkType_inv _ _ _ _ _, memosOf_mkType _ _ _ _⟩)
        (fun x t hx c hc hid => Or.inl (congrArg some (safe_of_get hsf hx c hc hid).symm))
      refine ⟨?_, up.1, put_slots _ _ _, put_theType _ _ _⟩
      simp only [specHeap, hbig, if_false, up.2, Option.map_some, declared_mkType, abs_sent]
      rfl
  | delete addr =>
    have up := hok.update (h' := h.delete addr) (r := none) (nm := none) rfl (get_delete h addr) (nameAt_delete h addr)
      (fun t e => by cases e) (fun _ _ _ _ _ _ => Or.inr rfl)
    refine ⟨?_, up.1, rfl, rfl⟩
    simp only [specHeap, Heap.step, up.2, Option.map_none]

theorem Heap.run_spec {L : Layout} : ∀ (ops : List HOp) (h : Heap), SlotsOK h.w.slots L.cacheNum →
    HeapOK L.cacheNum h → Heap.safe L h ops = true →
      (Heap.run L h ops).2 = specHeap L.maxInstances h.w.theType h.abs ops ∧ HeapOK L.cacheNum (Heap.run L h ops).1
  | [], _, _, hok, _ => ⟨rfl, hok⟩
  | op :: ops, h, hs, hok, hsafe => by
    rw [Heap.safe_cons, Bool.and_eq_true] at hsafe
    obtain ⟨hspec, hok', hsl, htt⟩ := Heap.step_spec hs hok op hsafe.1 ops
    have ih := Heap.run_spec ops (h.step L op).1 (hsl ▸ hs) hok' hsafe.2
    simp only [Heap.run]
    rw [hspec, ih.1, htt]
    exact ⟨rfl, ih.2⟩

theorem Heap.run_append (L : Layout) : ∀ (pre rest : List HOp) (h : Heap),
    Heap.run L h (pre ++ rest) = ((Heap.run L (Heap.run L h pre).1 rest).1, (Heap.run L h pre).2 ++ (Heap.run L (Heap.run L h pre).1 rest).2)
  | [], _, _ => rfl
  | op :: pre, rest, h => by
    simp only [List.cons_append, Heap.run]
    rw [Heap.run_append L pre rest (h.step L op).1]

end Cello.Dispatch
