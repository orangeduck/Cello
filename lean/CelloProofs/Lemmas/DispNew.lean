/-
  Life cycle of a run-time type object. `Type_New` on a storage with ANY previous contents leaves the words of a fresh
  type object (`typeNewRaw_eq_toRaw`), and a storage reads back as the object it holds (`ofRaw_toRaw`): construction in
  place re-establishes the lookup invariant for the NEW declaration, and life-cycle histories follow (`runLife_spec`).
-/
import CelloProofs.Lemmas.Disp

namespace Cello.Dispatch

theorem writeCell_length (mem : List Word) (k : Nat) (a b c : Word) : (writeCell mem k a b c).length = mem.length := by
  simp [writeCell]

theorem clearCells_length : ∀ (cnt i : Nat) (mem : List Word), (clearCells i cnt mem).length = mem.length
  | 0, _, _ => rfl
  | cnt + 1, i, mem => by simp [clearCells, clearCells_length cnt, writeCell_length]

theorem writeInsts_length (nb : Nat) : ∀ (es : List (String × Inst)) (j : Nat) (mem : List Word),
    (writeInsts nb j es mem).length = mem.length
  | [], _, _ => rfl
  | (nm, ins) :: es, j, mem => by simp [writeInsts, writeInsts_length nb es, writeCell_length]

theorem typeNewRaw_length (L : Layout) (mem : List Word) (name : String) (size : Nat) (es : List (String × Inst)) :
    (typeNewRaw L mem name size es).1.length = mem.length := by
  unfold typeNewRaw
  split
  · rfl
  · split
    · rfl
    · simp [writeCell_length, writeInsts_length, clearCells_length]

theorem writeCell_append (pre tail : List Word) (k : Nat) (a b c : Word) (hp : pre.length = 3 * k) (ht : 3 ≤ tail.length) :
    writeCell (pre ++ tail) k a b c = (pre ++ [a, b, c]) ++ tail.drop 3 := by
  match tail, ht with
  | x :: y :: z :: tail, _ =>
    simp only [writeCell, ← hp]
    simp

/-- the shape in which every store below is stated: the first `k` cells are `pre`, the other words are still those of `mem` -/
theorem writeCell_drop (pre mem : List Word) (k : Nat) (a b c : Word) (hp : pre.length = 3 * k) (hm : 3 * (k + 1) ≤ mem.length) :
    writeCell (pre ++ mem.drop (3 * k)) k a b c = (pre ++ [a, b, c]) ++ mem.drop (3 * (k + 1)) := by
  rw [writeCell_append pre _ k a b c hp (by rw [List.length_drop]; omega), List.drop_drop]
  rfl

theorem clearCells_drop : ∀ (cnt i : Nat) (pre mem : List Word), pre.length = 3 * i → 3 * (i + cnt) ≤ mem.length →
    clearCells i cnt (pre ++ mem.drop (3 * i)) = (pre ++ List.replicate (3 * cnt) Word.null) ++ mem.drop (3 * (i + cnt))
  | 0, _, pre, mem, _, _ => by simp [clearCells]
  | cnt + 1, i, pre, mem, hp, hm => by
    rw [clearCells, writeCell_drop pre mem i _ _ _ hp (by omega),
      clearCells_drop cnt (i + 1) _ mem (by rw [List.length_append, hp]; rfl) (by omega)]
    have e : List.replicate (3 * (cnt + 1)) Word.null = [.null, .null, .null] ++ List.replicate (3 * cnt) .null := rfl
    rw [e, Nat.add_right_comm i 1 cnt, List.append_assoc pre]
    rfl

/-- the cell `Type_New` writes for one instance: `Entry.words` with a NULL `cls` word (`flatMap_words_mk`) -/
def tripleWords (p : String × Inst) : List Word := [.null, .str p.1, .inst p.2]

theorem writeInsts_drop (nb : Nat) : ∀ (es : List (String × Inst)) (j : Nat) (pre mem : List Word),
    pre.length = 3 * (nb + j) → 3 * (nb + j + es.length) ≤ mem.length →
    writeInsts nb j es (pre ++ mem.drop (3 * (nb + j))) = (pre ++ es.flatMap tripleWords) ++ mem.drop (3 * (nb + j + es.length))
  | [], _, pre, mem, _, _ => by simp [writeInsts]
  | (nm, ins) :: es, j, pre, mem, hp, hm => by
    rw [List.length_cons] at hm
    rw [writeInsts, writeCell_drop pre mem (nb + j) _ _ _ hp (by omega), Nat.add_assoc nb j 1,
      writeInsts_drop nb es (j + 1) _ mem (by rw [List.length_append, hp]; rfl) (by omega)]
    rw [List.flatMap_cons, List.length_cons, List.append_assoc pre, show nb + (j + 1) + es.length = nb + j + (es.length + 1) by omega]
    rfl

/-- the layout facts `Type_New` relies on: the cache words are whole cells, and the instance triples start right after
    the `__Name` and `__Size` cells -/
structure LayoutOK (L : Layout) : Prop where
  whole : L.cacheNum % 3 = 0
  first : L.nBuiltins = L.cacheNum / 3 + 2

theorem LayoutOK.cache3 {L : Layout} (h : LayoutOK L) : 3 * (L.cacheNum / 3) = L.cacheNum := by
  have := h.whole; omega

/-- a freshly constructed type object with `rest` after its terminator -/
def freshStore (L : Layout) (hdr sent : Bool) (name : String) (size : Nat) (es : List (String × Inst)) (rest : List Word) : Store :=
  { trec := mkType L.cacheNum hdr es sent, name := name, size := size, rest := rest }

theorem flatMap_words_mk (es : List (String × Inst)) :
    (es.map (fun p => (⟨none, p.1, p.2⟩ : Entry))).flatMap Entry.words = es.flatMap tripleWords := by
  induction es with
  | nil => rfl
  | cons p es ih => simp [List.flatMap_cons, Entry.words, Word.ofCls, tripleWords, ih]

theorem flatMap_words_length (es : List Entry) : (es.flatMap Entry.words).length = 3 * es.length := by
  induction es with
  | nil => rfl
  | cons e es ih => rw [List.flatMap_cons, List.length_append, ih, List.length_cons, Nat.mul_succ, Nat.add_comm]; rfl

theorem flatMap_tripleWords_length (es : List (String × Inst)) : (es.flatMap tripleWords).length = 3 * es.length := by
  rw [← flatMap_words_mk, flatMap_words_length, List.length_map]

theorem freshStore_toRaw (L : Layout) (hdr sent : Bool) (name : String) (size : Nat) (es : List (String × Inst)) (rest : List Word) :
    (freshStore L hdr sent name size es rest).toRaw =
      List.replicate L.cacheNum Word.null ++ ([.null, .str "__Name", .str name, .null, .str "__Size", .num size] ++
        (es.flatMap tripleWords ++ ([.null, .null, .null] ++ rest))) := by
  simp [freshStore, Store.toRaw, mkType, flatMap_words_mk, Word.ofInst]

/-- the five stores of `Type_New` are adjacent: each appends its words to what is already written, and what is left is still
    the old contents from that cell on -/
theorem typeNew_stores (ce : Nat) (mem : List Word) (name : String) (size : Nat) (es : List (String × Inst))
    (hlen : 3 * (ce + 2 + es.length + 1) ≤ mem.length) :
    writeCell (writeInsts (ce + 2) 0 es (writeCell (writeCell (clearCells 0 ce mem) ce .null (.str "__Name") (.str name))
        (ce + 1) .null (.str "__Size") (.num size))) (ce + 2 + es.length) .null .null .null =
      List.replicate (3 * ce) Word.null ++ ([.null, .str "__Name", .str name, .null, .str "__Size", .num size] ++
        (es.flatMap tripleWords ++ ([.null, .null, .null] ++ mem.drop (3 * (ce + 2 + es.length + 1))))) := by
  have s1 := clearCells_drop ce 0 [] mem rfl (by omega)
  simp only [List.nil_append, Nat.zero_add, Nat.mul_zero, List.drop_zero] at s1
  rw [s1, writeCell_drop _ mem ce _ _ _ List.length_replicate (by omega),
    writeCell_drop _ mem (ce + 1) _ _ _ (by rw [List.length_append, List.length_replicate]; rfl) (by omega),
    writeInsts_drop (ce + 2) es 0 _ mem (by rw [List.length_append, List.length_append, List.length_replicate]; rfl) (by omega),
    writeCell_drop _ mem (ce + 2 + es.length) _ _ _
      (by rw [List.length_append, List.length_append, List.length_append, List.length_replicate, flatMap_tripleWords_length,
            Nat.mul_add 3 (ce + 2)]; rfl)
      (by omega)]
  simp only [List.append_assoc, List.cons_append, List.nil_append]

/-- nothing is assumed of the words of `mem`, only of its length; `hdr` and `sent` are arbitrary because `toRaw` does
    not contain them (the header word and the `Terminal` flag are not among the words `Type_New` sees) -/
theorem typeNewRaw_eq_toRaw {L : Layout} (hL : LayoutOK L) (hdr sent : Bool) (mem : List Word) (name : String) (size : Nat)
    (es : List (String × Inst)) (hn : es.length ≤ L.maxInstances) (hlen : 3 * (L.nBuiltins + es.length + 1) ≤ mem.length) :
    typeNewRaw L mem name size es =
      ((freshStore L hdr sent name size es (mem.drop (3 * (L.nBuiltins + es.length + 1)))).toRaw, .ok ()) := by
  have h3 := hL.cache3
  have hnb := hL.first
  unfold typeNewRaw
  generalize L.cacheNum / 3 = ce at h3 hnb ⊢
  rw [hnb] at hlen ⊢
  rw [if_neg (by omega), if_neg (by simp; omega), freshStore_toRaw, ← h3]
  exact congrArg (·, Outcome.ok ()) (typeNew_stores ce mem name size es hlen)

/-- both outcomes of `Type_New` on a storage of the size `Type_Alloc` reserves: that size fits every instance list
    `Type_New` accepts, so the only refusal is the OutOfMemoryError, raised before anything is written -/
theorem typeNewRaw_spec {L : Layout} (hL : LayoutOK L) (hdr sent : Bool) (mem : List Word) (name : String) (size : Nat)
    (es : List (String × Inst)) (hlen : mem.length = 3 * L.cells) :
    (es.length ≤ L.maxInstances → typeNewRaw L mem name size es =
      ((freshStore L hdr sent name size es (mem.drop (3 * (L.nBuiltins + es.length + 1)))).toRaw, .ok ())) ∧
    (L.maxInstances < es.length → typeNewRaw L mem name size es = (mem, .raised .OutOfMemoryError)) :=
  ⟨fun hn => typeNewRaw_eq_toRaw hL hdr sent mem name size es hn (by rw [hlen]; unfold Layout.cells; omega),
   fun hn => if_pos hn⟩

theorem viewCache_map : ∀ cache : List (Option Inst), viewCache (cache.map Word.ofInst) = some cache
  | [] => rfl
  | none :: cs => by simp [viewCache, Word.ofInst, viewCache_map cs]
  | some i :: cs => by simp [viewCache, Word.ofInst, viewCache_map cs]

theorem viewEntries_words (rest : List Word) : ∀ es : List Entry,
    viewEntries (es.flatMap Entry.words ++ (Word.null :: .null :: .null :: rest)) = some (es, rest)
  | [] => by simp [viewEntries]
  | e :: es => by
    obtain ⟨memo, nm, i⟩ := e
    cases memo with
    | none => simp [List.flatMap_cons, Entry.words, Word.ofCls, viewEntries, viewEntries_words rest es]
    | some c => simp [List.flatMap_cons, Entry.words, Word.ofCls, viewEntries, viewEntries_words rest es]

theorem toRaw_name_size (s : Store) {ce : Nat} (hc : s.trec.cache.length = 3 * ce) :
    s.toRaw[3 * ce + 2]? = some (.str s.name) ∧ s.toRaw[3 * (ce + 1) + 2]? = some (.num s.size) := by
  have hlen : (s.trec.cache.map Word.ofInst).length = 3 * ce := by rw [List.length_map, hc]
  constructor
  · rw [Store.toRaw, ← hlen, List.getElem?_append_right (Nat.le_add_right _ _), Nat.add_sub_cancel_left]; rfl
  · rw [Store.toRaw, show 3 * (ce + 1) + 2 = 3 * ce + 5 from rfl, ← hlen,
      List.getElem?_append_right (Nat.le_add_right _ _), Nat.add_sub_cancel_left]; rfl

theorem ofRaw_toRaw {L : Layout} (hL : LayoutOK L) (s : Store) (hc : s.trec.cache.length = L.cacheNum) :
    Store.ofRaw L s.trec.hdr s.trec.sentinel s.toRaw = some s := by
  have hce : s.trec.cache.length = 3 * (L.cacheNum / 3) := by rw [hc, hL.cache3]
  have h1 : s.toRaw.take L.cacheNum = s.trec.cache.map Word.ofInst :=
    List.take_left' (by rw [List.length_map, hc])
  have h4 : s.toRaw.drop (3 * L.nBuiltins) = s.trec.entries.flatMap Entry.words ++ ([Word.null, .null, .null] ++ s.rest) := by
    rw [Store.toRaw, ← List.append_assoc]
    exact List.drop_left' (by rw [List.length_append, List.length_map, hce, hL.first]; rfl)
  unfold Store.ofRaw
  simp only
  rw [h1, (toRaw_name_size s hce).1, (toRaw_name_size s hce).2, h4, viewCache_map]
  have := viewEntries_words s.rest s.trec.entries
  simp only [List.cons_append, List.nil_append] at this ⊢
  rw [this]

/-- what the lookups need of a type object's storage: the invariant of its record relative to the declaration in force,
    and the size `Type_Alloc` gives it -/
structure StoreOK (L : Layout) (D : String → Option Inst) (slots : List (Nat × Cls)) (s : Store) : Prop where
  inv : Inv D slots L.cacheNum s.trec
  len : s.toRaw.length = 3 * L.cells

theorem constructAt_spec {L : Layout} (hL : LayoutOK L) (slots : List (Nat × Cls)) (hdr sent : Bool) (mem : List Word)
    (name : String) (size : Nat) (es : List (String × Inst)) (hlen : mem.length = 3 * L.cells) :
    (es.length ≤ L.maxInstances →
      constructAt L hdr sent mem name size es =
        (some (freshStore L hdr sent name size es (mem.drop (3 * (L.nBuiltins + es.length + 1)))), .ok ()) ∧
      StoreOK L (declOf es) slots (freshStore L hdr sent name size es (mem.drop (3 * (L.nBuiltins + es.length + 1))))) ∧
    (L.maxInstances < es.length → constructAt L hdr sent mem name size es = (none, .raised .OutOfMemoryError)) := by
  have raw := typeNewRaw_spec hL hdr sent mem name size es hlen
  constructor
  · intro hn
    have heq := raw.1 hn
    have hcl : (freshStore L hdr sent name size es (mem.drop (3 * (L.nBuiltins + es.length + 1)))).trec.cache.length = L.cacheNum := by
      simp [freshStore, mkType]
    refine ⟨?_, ?_, ?_⟩
    · unfold constructAt
      rw [heq]
      simp only
      have := ofRaw_toRaw hL (freshStore L hdr sent name size es (mem.drop (3 * (L.nBuiltins + es.length + 1)))) hcl
      simpa [freshStore, mkType] using this
    · have := mkType_inv slots L.cacheNum hdr sent es
      rw [declared_mkType] at this
      exact this
    · have := typeNewRaw_length L mem name size es
      rw [heq] at this
      rw [this, hlen]
  · intro hn
    unfold constructAt
    rw [raw.2 hn]

/-- `destruct(T); construct(T, …)`: nothing is assumed of the previous incarnation but the size of its storage -/
theorem constructIn_spec {L : Layout} (hL : LayoutOK L) (slots : List (Nat × Cls)) (s : Store) (name : String) (size : Nat)
    (es : List (String × Inst)) (hlen : s.toRaw.length = 3 * L.cells) :
    (es.length ≤ L.maxInstances →
      (constructIn L s name size es).2 = .ok () ∧
      (constructIn L s name size es).1.trec = mkType L.cacheNum s.trec.hdr es s.trec.sentinel ∧
      StoreOK L (declOf es) slots (constructIn L s name size es).1) ∧
    (L.maxInstances < es.length → constructIn L s name size es = (s, .raised .OutOfMemoryError)) := by
  have sp := constructAt_spec hL slots s.trec.hdr s.trec.sentinel s.toRaw name size es hlen
  constructor
  · intro hn
    obtain ⟨h1, h2⟩ := sp.1 hn
    unfold constructIn
    rw [h1]
    exact ⟨rfl, rfl, h2⟩
  · intro hn
    unfold constructIn
    rw [sp.2 hn]

theorem applyOp_toRaw_length {slots : List (Nat × Cls)} {n : Nat} {D : String → Option Inst} (hs : SlotsOK slots n) (s : Store)
    (h : Inv D slots n s.trec) (op : Op) : ({ s with trec := (applyOp slots s.trec op).1 } : Store).toRaw.length = s.toRaw.length := by
  have hc : (applyOp slots s.trec op).1.cache.length = s.trec.cache.length := by rw [(applyOp_spec hs h op).2.inv.len, h.len]
  have he := skel_length (applyOp_spec hs h op).2.skel
  simp only [Store.toRaw, List.length_append, List.length_map, flatMap_words_length, hc, he]

theorem declAfter_cons (m : Nat) (D : String → Option Inst) (op : LOp) (ops : List LOp) :
    declAfter m D (op :: ops) = declAfter m (declAfter m D [op]) ops := by
  cases op with
  | look o => rfl
  | construct name size es => simp only [declAfter]; split <;> rfl

theorem specLife_cons (m : Nat) (sent : Bool) (D : String → Option Inst) (op : LOp) (ops : List LOp) :
    specLife m sent D (op :: ops) = specLife m sent D [op] ++ specLife m sent (declAfter m D [op]) ops := by
  cases op with
  | look o => rfl
  | construct name size es => simp only [specLife, declAfter]; split <;> rfl

/-- on the one-operation history `[op]`: `runLife_spec` glues with `specLife_cons`, `declAfter_cons`, without a case split -/
theorem applyLife_spec {L : Layout} (hL : LayoutOK L) {slots : List (Nat × Cls)} (hs : SlotsOK slots L.cacheNum)
    {D : String → Option Inst} {s : Store} (h : StoreOK L D slots s) (op : LOp) :
    [(applyLife L slots s op).2] = specLife L.maxInstances s.trec.sentinel D [op] ∧
    StoreOK L (declAfter L.maxInstances D [op]) slots (applyLife L slots s op).1 ∧
    (applyLife L slots s op).1.trec.sentinel = s.trec.sentinel := by
  cases op with
  | look op =>
    have sp := applyOp_spec hs h.inv op
    simp only [applyLife, specLife, declAfter]
    exact ⟨by rw [sp.1], ⟨sp.2.inv, (applyOp_toRaw_length hs s h.inv op).trans h.len⟩, sp.2.sentinel⟩
  | construct name size es =>
    have sp := constructIn_spec hL slots s name size es h.len
    simp only [applyLife, specLife, declAfter]
    by_cases hn : es.length > L.maxInstances
    · have := sp.2 hn
      rw [if_pos hn, if_pos hn, this]
      exact ⟨rfl, h, rfl⟩
    · have hle : es.length ≤ L.maxInstances := by omega
      obtain ⟨h1, h2, h3⟩ := sp.1 hle
      rw [if_neg hn, if_neg hn, h1]
      refine ⟨rfl, h3, ?_⟩
      rw [h2]; rfl

theorem runLife_spec {L : Layout} (hL : LayoutOK L) {slots : List (Nat × Cls)} (hs : SlotsOK slots L.cacheNum) :
    ∀ (ops : List LOp) (D : String → Option Inst) (s : Store), StoreOK L D slots s →
      (runLife L slots s ops).2 = specLife L.maxInstances s.trec.sentinel D ops ∧
      StoreOK L (declAfter L.maxInstances D ops) slots (runLife L slots s ops).1
  | [], _, _, h => ⟨rfl, h⟩
  | op :: ops, D, s, h => by
    have sp := applyLife_spec hL hs h op
    have ih := runLife_spec hL hs ops _ _ sp.2.1
    rw [sp.2.2] at ih
    rw [specLife_cons, declAfter_cons _ D op ops, ← sp.1, ← ih.1]
    exact ⟨rfl, ih.2⟩

end Cello.Dispatch
