/-
  C18, keep programs (Cello/Config.lean, namespace Keep).  Two states that show the program the same thing (`Sim`) still do after an
  operation that forges no pointer and after a collection (which keeps everything reachable: C01's marker), hence after steps and
  programs under any two configurations.  Then the destructor ledger at process exit, and the root entry that does not carry the flag.
-/
import Cello.Config
import CelloGen.Cfg
import CelloProofs.Lemmas.MarkFields

namespace Cello.Config.Keep

theorem lookup_filter_key {β : Type} (q : Nat → Bool) (i : Nat) :
    ∀ (hp : List (Nat × β)), (hp.filter (fun p => q p.1)).lookup i = if q i then hp.lookup i else none
  | [] => by simp
  | (j, c) :: hp => by
    have ih := lookup_filter_key q i hp
    rw [List.filter_cons]
    by_cases hj : i = j
    · subst hj; cases hq : q i <;> simp [hq, ih]
    · have hb : (i == j) = false := by simpa using hj
      cases q j <;> simp [ih, List.lookup_cons, hb]

theorem lookup_putCell (hp : KHeap) (i : Nat) (c : Option Cell) (j : Nat) :
    (putCell hp i c).lookup j = if j = i then c else hp.lookup j := by
  have hf := lookup_filter_key (fun k => !(k == i)) j hp
  by_cases h : j = i
  · subst h; cases c <;> simp [putCell, hf]
  · have hb : (j == i) = false := by simpa using h
    cases c <;> simp [putCell, hf, List.lookup_cons, hb, h]

/-- block `j` after a list of writes: untouched, or it holds what one of the writes put there — whatever the heap was -/
theorem applyWrites_lookup (j : Nat) : ∀ (ws : List (Nat × Option Cell)),
    (∀ hp, (applyWrites hp ws).lookup j = hp.lookup j) ∨ ∃ v, (j, v) ∈ ws ∧ ∀ hp, (applyWrites hp ws).lookup j = v
  | [] => .inl fun _ => rfl
  | w :: ws => by
    rcases applyWrites_lookup j ws with h | ⟨v, hm, h⟩
    · by_cases hj : j = w.1
      · exact .inr ⟨w.2, hj ▸ List.mem_cons_self .., fun hp => by rw [applyWrites, List.foldl_cons, ← applyWrites, h, lookup_putCell, if_pos hj]⟩
      · exact .inl fun hp => by rw [applyWrites, List.foldl_cons, ← applyWrites, h, lookup_putCell, if_neg hj]
    · exact .inr ⟨v, List.mem_cons_of_mem _ hm, fun hp => h _⟩

theorem flatMap_congr' {α β : Type} {f g : α → List β} {l : List α} (h : ∀ x ∈ l, f x = g x) : l.flatMap f = l.flatMap g := by
  rw [List.flatMap_def, List.flatMap_def, List.map_congr_left h]

/-- a pointer the program can come across: held by a variable / thread-local entry, or stored in a reachable block -/
def Cand (hp : KHeap) (roots : List Nat) (i : Nat) : Prop :=
  i ∈ roots ∨ ∃ p c, KReach hp roots p ∧ hp.lookup p = some c ∧ i ∈ c.refs

theorem Cand.reach {hp : KHeap} {roots : List Nat} {i : Nat} (h : Cand hp roots i) (hs : (hp.lookup i).isSome = true) :
    KReach hp roots i := by
  rcases h with h | ⟨p, c, hp', hl, hm⟩
  · exact .root h hs
  · exact .step hp' hl hm hs

def Fresh (s : KSt) : Prop := ∀ i c, s.heap.lookup i = some c → i < s.next

/-- **The two states show the program the same thing**: same variables, thread-local entries and serial numbers, and the
    same contents in every block that is reachable in either of them.  Unreachable blocks (garbage one build has already
    swept and the other has not), the registry threshold and the counters of the collector may differ. -/
structure Sim (s t : KSt) : Prop where
  next : s.next = t.next
  slots : s.slots = t.slots
  tls : s.tls = t.tls
  used : s.used = t.used
  fwd : ∀ i, KReach s.heap s.roots i → t.heap.lookup i = s.heap.lookup i
  bwd : ∀ i, KReach t.heap t.roots i → s.heap.lookup i = t.heap.lookup i

theorem Sim.refl (s : KSt) : Sim s s := ⟨rfl, rfl, rfl, rfl, fun _ _ => rfl, fun _ _ => rfl⟩

theorem Sim.symm {s t : KSt} (h : Sim s t) : Sim t s :=
  ⟨h.next.symm, h.slots.symm, h.tls.symm, h.used.symm, h.bwd, h.fwd⟩

theorem Sim.roots {s t : KSt} (h : Sim s t) : s.roots = t.roots := by
  simp only [KSt.roots, h.slots, h.tls]

theorem Sim.reach {s t : KSt} (h : Sim s t) {i : Nat} (hr : KReach s.heap s.roots i) : KReach t.heap t.roots i := by
  induction hr with
  | @root i hroot hs =>
    refine .root (h.roots ▸ hroot) ?_
    rw [h.fwd i (.root hroot hs)]; exact hs
  | @step i j c hri hl hm hs ih =>
    have hj : KReach s.heap s.roots j := .step hri hl hm hs
    refine .step ih (by rw [h.fwd i hri]; exact hl) hm ?_
    rw [h.fwd j hj]; exact hs

theorem Sim.trans {s t u : KSt} (h₁ : Sim s t) (h₂ : Sim t u) : Sim s u :=
  ⟨h₁.next.trans h₂.next, h₁.slots.trans h₂.slots, h₁.tls.trans h₂.tls, h₁.used.trans h₂.used,
    fun i hr => (h₂.fwd i (h₁.reach hr)).trans (h₁.fwd i hr),
    fun i hr => (h₁.bwd i (h₂.symm.reach hr)).trans (h₂.bwd i hr)⟩

theorem Sim.cand_to {s t : KSt} (h : Sim s t) {i : Nat} (hc : Cand s.heap s.roots i) : Cand t.heap t.roots i := by
  rcases hc with hc | ⟨p, c, hp, hl, hm⟩
  · exact .inl (h.roots ▸ hc)
  · exact .inr ⟨p, c, h.reach hp, by rw [h.fwd p hp]; exact hl, hm⟩

/-- the two heaps agree on every pointer the program can come across — also on the dangling ones -/
theorem Sim.cand {s t : KSt} (h : Sim s t) {i : Nat} (hc : Cand s.heap s.roots i) : t.heap.lookup i = s.heap.lookup i := by
  cases hs : s.heap.lookup i with
  | some c =>
    have := h.fwd i (hc.reach (by simp [hs]))
    rw [this, hs]
  | none =>
    cases ht : t.heap.lookup i with
    | none => rfl
    | some c =>
      have hr : KReach t.heap t.roots i := (h.cand_to hc).reach (by simp [ht])
      have := h.bwd i hr
      rw [hs, ht] at this; cases this

theorem subOne_eq {s t : KSt} (h : Sim s t) : ∀ (d i : Nat), Cand s.heap s.roots i → subOne d s.heap i = subOne d t.heap i
  | 0, _, _ => rfl
  | d+1, i, hc => by
    simp only [subOne]
    rw [h.cand hc]
    cases hs : s.heap.lookup i with
    | none => rfl
    | some c =>
      simp only
      congr 1
      exact flatMap_congr' fun j hj => subOne_eq h d j (.inr ⟨i, c, hc.reach (by simp [hs]), hs, hj⟩)

theorem subOne_reach {hp : KHeap} {roots : List Nat} : ∀ (d i : Nat), Cand hp roots i →
    ∀ j c, (j, some c) ∈ subOne d hp i → KReach hp roots j
  | 0, _, _, _, _, hm => by simp [subOne] at hm
  | d+1, i, hc, j, c, hm => by
    simp only [subOne] at hm
    cases hs : hp.lookup i with
    | none => rw [hs] at hm; simp at hm
    | some ci =>
      rw [hs] at hm
      have hri : KReach hp roots i := hc.reach (by simp [hs])
      rcases List.mem_cons.mp hm with hm | hm
      · have : j = i := (Prod.mk.inj hm).1
        subst this; exact hri
      · obtain ⟨k, hk, hjk⟩ := List.mem_flatMap.mp hm
        exact subOne_reach d k (.inr ⟨i, ci, hri, hs, hk⟩) j c hjk

theorem mem_rootsOf {slots : List Slot} {tls : List ((Nat × Int) × Nat)} {h i : Nat} (hm : i ∈ rootsOf slots tls h) :
    i ∈ slots.filterMap (·.root) ++ tls.map (·.2) := by
  simp only [rootsOf, List.mem_append, List.mem_filterMap, List.mem_map, List.mem_filter] at hm ⊢
  rcases hm with ⟨a, ⟨ha, _⟩, hr⟩ | ⟨a, ⟨ha, _⟩, hr⟩
  · exact .inl ⟨a, ha, hr⟩
  · exact .inr ⟨a, ha, hr⟩

theorem view_eq {s t : KSt} (h : Sim s t) (op : KOp) : view op s = view op t := by
  simp only [view, h.next, h.slots, h.tls, h.used]
  congr 1
  cases opHolder op with
  | none => rfl
  | some hh =>
    exact flatMap_congr' fun i hi => subOne_eq h depthCap i (.inl (h.roots ▸ mem_rootsOf hi))

theorem view_ids_reach (s : KSt) (op : KOp) {j : Nat} (hj : j ∈ (view op s).ids) : KReach s.heap s.roots j := by
  simp only [View.ids, List.mem_filterMap] at hj
  obtain ⟨⟨j', oc⟩, hm, hv⟩ := hj
  cases oc with
  | none => simp at hv
  | some c =>
    simp only [Option.map_some, Option.some.injEq] at hv
    subst hv
    simp only [view] at hm
    cases ho : opHolder op with
    | none => rw [ho] at hm; simp at hm
    | some hh =>
      rw [ho] at hm
      obtain ⟨i, hi, hji⟩ := List.mem_flatMap.mp hm
      exact subOne_reach depthCap i (.inl (mem_rootsOf hi)) j' c hji

/-- the blocks an operation can know of: those reachable before it (among them every block it has seen alive), and the `n` it
    allocates.  It may write, and store pointers to, no others (`ok_spec`), so nothing else is reachable afterwards (`reach_after`). -/
def Known (s : KSt) (n : Nat) (i : Nat) : Prop := KReach s.heap s.roots i ∨ (s.next ≤ i ∧ i < s.next + n)

theorem fresh_absent {s : KSt} (hf : Fresh s) {i : Nat} (hi : s.next ≤ i) : s.heap.lookup i = none := by
  cases hl : s.heap.lookup i with
  | none => rfl
  | some c => have := hf i c hl; omega

theorem reach_lt {s : KSt} (hf : Fresh s) {i : Nat} (h : KReach s.heap s.roots i) : i < s.next := by
  have hs : (s.heap.lookup i).isSome = true := by cases h <;> assumption
  obtain ⟨c, hc⟩ := Option.isSome_iff_exists.mp hs
  exact hf i c hc

theorem Known.lt {s : KSt} {n i : Nat} (hf : Fresh s) (h : Known s n i) : i < s.next + n :=
  h.elim (fun h => Nat.lt_add_right _ (reach_lt hf h)) (·.2)

theorem Sim.known {s t : KSt} {n i : Nat} (h : Sim s t) (hfs : Fresh s) (hft : Fresh t) (hk : Known s n i) :
    t.heap.lookup i = s.heap.lookup i := by
  rcases hk with hk | hk
  · exact h.fwd i hk
  · rw [fresh_absent hfs hk.1, fresh_absent hft (h.next ▸ hk.1)]

theorem known_of_contains {s : KSt} {op : KOp} {n i : Nat}
    (h : ((view op s).ids ++ (List.range n).map (fun j => (view op s).next + j)).contains i = true) : Known s n i := by
  simp only [List.contains_eq_mem, List.mem_append, List.mem_map, List.mem_range, decide_eq_true_eq] at h
  rcases h with h | ⟨j, hj, rfl⟩
  · exact .inl (view_ids_reach s op h)
  · exact .inr ⟨Nat.le_add_right .., Nat.add_lt_add_left hj _⟩

theorem ok_spec {s : KSt} {op : KOp} {u : Upd} (h : u.ok (view op s) = true) :
    (∀ w ∈ u.writes, Known s u.fresh w.1 ∧ ∀ c, w.2 = some c → ∀ j ∈ c.refs, Known s u.fresh j) ∧
    (∀ i ∈ (applyRaw u s).roots, Known s u.fresh i ∨ i ∈ s.roots) := by
  simp only [Upd.ok, Bool.and_eq_true, List.all_eq_true, Bool.or_eq_true] at h
  refine ⟨fun w hw => ⟨known_of_contains (h.1 w hw).1, fun c hc j hj => ?_⟩, fun i hi => ?_⟩
  · have h2 := (h.1 w hw).2
    rw [hc] at h2
    exact known_of_contains (List.all_eq_true.mp h2 j hj)
  · exact (h.2 i hi).imp known_of_contains fun h3 =>
      show i ∈ (view op s).slots.filterMap (·.root) ++ (view op s).tls.map (·.2) by simpa using h3

theorem reach_after {s : KSt} {op : KOp} {u : Upd} (hf : Fresh s) (hok : u.ok (view op s) = true) {i : Nat}
    (hr : KReach (applyRaw u s).heap (applyRaw u s).roots i) : Known s u.fresh i := by
  obtain ⟨hw, hroots⟩ := ok_spec hok
  -- a pointer the program could come across before, to a block that is there afterwards: written by the operation, or there before
  have alive : ∀ k, Cand s.heap s.roots k → ((applyRaw u s).heap.lookup k).isSome = true → Known s u.fresh k := by
    intro k hc hs
    rcases applyWrites_lookup k u.writes with h | ⟨v, hm, _⟩
    · exact .inl (hc.reach (h s.heap ▸ hs))
    · exact (hw _ hm).1
  induction hr with
  | @root i hroot hs => exact (hroots i hroot).elim id fun hold => alive i (.inl hold) hs
  | @step i j c _ hl hm hs ih =>
    rcases applyWrites_lookup i u.writes with h | ⟨v, hmem, h⟩
    · have hl' : s.heap.lookup i = some c := h s.heap ▸ hl
      have hri : KReach s.heap s.roots i := ih.resolve_right fun hn => by rw [fresh_absent hf hn.1] at hl'; cases hl'
      exact alive j (.inr ⟨i, c, hri, hl', hm⟩) hs
    · exact (hw _ hmem).2 c ((h s.heap).symm.trans hl) j hm

theorem applyRaw_fresh {s : KSt} {op : KOp} {u : Upd} (hf : Fresh s) (hok : u.ok (view op s) = true) :
    Fresh (applyRaw u s) := by
  intro i c hl
  rcases applyWrites_lookup i u.writes with h | ⟨v, hm, _⟩
  · exact Nat.lt_add_right _ (hf i c (h s.heap ▸ hl))
  · exact ((ok_spec hok).1 _ hm).1.lt hf

theorem applyRaw_sim {s t : KSt} {op : KOp} {u : Upd} (h : Sim s t) (hfs : Fresh s) (hft : Fresh t)
    (hok : u.ok (view op s) = true) : Sim (applyRaw u s) (applyRaw u t) := by
  have key : ∀ {a b : KSt}, Sim a b → Fresh a → Fresh b → u.ok (view op a) = true →
      ∀ i, KReach (applyRaw u a).heap (applyRaw u a).roots i → (applyRaw u b).heap.lookup i = (applyRaw u a).heap.lookup i := by
    intro a b hab hfa hfb hoka i hr
    rcases applyWrites_lookup i u.writes with hl | ⟨v, _, hl⟩
    · exact (hl b.heap).trans ((hab.known hfa hfb (reach_after hfa hoka hr)).trans (hl a.heap).symm)
    · exact (hl b.heap).trans (hl a.heap).symm
  exact ⟨by simp only [applyRaw, h.next], rfl, rfl, rfl, key h hfs hft hok, key h.symm hft hfs (view_eq h op ▸ hok)⟩

/-- the collector of the current source (leaf types, types with a Mark instance, scan bound, TLS phase: CelloGen/GcMark.lean) -/
abbrev HC : Cello.Heap.Cfg := Cello.Heap.Cfg.current

/-- the facts about the generated tables the translation `toObj` relies on: the container types declare Mark, the
    pointer-carrying plain types (Ref, Box, the workload's Tracked and KCell) neither are leaf types nor declare Mark, the
    conservative scan includes the last word, thread-local storage is traced through the callback, and `Thread_Mark` presents
    the table of every Thread object the marker reaches — not only the marking thread's own (the guard of the withdrawn
    repair 80c795e makes this conjunct false) -/
theorem current_tables :
    (∀ ty ∈ ["Array", "List", "Table", "Tree", "Tuple", "Thread"], HC.hasMark ty = true ∧ HC.isLeaf ty = false) ∧
    (∀ ty ∈ ["Ref", "Box", "Tracked", "KCell"], HC.hasMark ty = false ∧ HC.isLeaf ty = false) ∧
    HC.tlsCallback = true ∧ HC.scanInclusive = true ∧ HC.foreignTls = true := by
  rw [HC, Cello.Heap.Cfg.current_eq]
  decide +kernel

theorem fields_plain (ty : String) (ws : List Nat) (h : ty ∈ ["Ref", "Box", "Tracked", "KCell"]) :
    Cello.Heap.fields HC (.raw ty ws) = ws := by
  have := current_tables.2.1 ty h
  rw [Cello.Heap.fields_raw, Cello.Heap.elemWords_scan HC this.2 this.1 current_tables.2.2.2.1]

theorem fields_cont (ty : String) (es : List Cello.Heap.Obj) (h : ty ∈ ["Array", "List", "Table", "Tree", "Tuple", "Thread"]) :
    Cello.Heap.fields HC (.cont ty es) = Cello.Heap.fieldsL HC es :=
  have := current_tables.1 ty h
  Cello.Heap.fields_cont HC this.2 this.1 es

theorem fields_tuple (ws : List Nat) : Cello.Heap.fields HC (.tup "Tuple" ws) = ws :=
  have := current_tables.1 "Tuple" (by simp)
  Cello.Heap.fields_tup HC this.2 this.1 ws

/-- a `Ref` is scanned conservatively: the collector reads the pointer it holds -/
theorem ref_fields (i : Nat) : addr i ∈ Cello.Heap.fields HC (.raw "Ref" [addr i]) := by
  rw [fields_plain _ _ (by simp)]
  exact List.mem_singleton_self _

/-- `Thread_Mark` is `mark(t->tls, gc, f)` for any Thread object: tracing a Thread object, and the thread-local phase of `GC_Mark` on
    the running thread's, present what the Mark instance of the table presents -/
theorem thread_fields (t : Cello.Heap.Obj) :
    Cello.Heap.fields HC (.thr "Thread" t) = Cello.Heap.viaMark HC t ∧ Cello.Heap.tlsWords HC (.thr "Thread" t) = Cello.Heap.viaMark HC t := by
  have h := current_tables.1 "Thread" (by simp)
  simp [Cello.Heap.fields, Cello.Heap.tlsWords, Cello.Heap.viaMark, h.1, h.2, current_tables.2.2.1, current_tables.2.2.2.2]

/-- … and `Table_Mark` of a thread's String ↦ Ref table reaches the pointer of every entry, through the embedded Ref -/
theorem tlsTable_mem {α : Type} (kvs : List (α × Nat)) {e : α × Nat} (he : e ∈ kvs) :
    addr e.2 ∈ Cello.Heap.viaMark HC (.cont "Table" (kvs.flatMap (fun e => [.raw "String" [], .raw "Ref" [addr e.2]]))) := by
  rw [Cello.Heap.viaMark, if_pos (current_tables.1 "Table" (by simp)).1]
  exact Cello.Heap.mem_fieldsL.mpr ⟨.raw "Ref" [addr e.2], List.mem_flatMap.mpr ⟨e, he, by simp⟩, ref_fields e.2⟩

/-- **Table_Mark covers the whole slot array** — with the loop bound of the current src/Table.c (`tableMarkBound`, decided here) -/
theorem tableMark_all (t : Cello.Table.Tab Int Nat) : tableMarkSlots t = t.slots.toList := by
  have hb : CelloGen.Cfg.tableMarkBound = "nslots" := by decide
  simp only [tableMarkSlots, hb, if_true]
  exact List.take_of_length_le (by simp)

theorem entry_fields (side : Side) (k : Int) (i : Nat) :
    ∃ o ∈ entryObjs side k i, addr i ∈ Cello.Heap.fields HC o := by
  cases side with
  | val => exact ⟨.raw "Ref" [addr i], by simp [entryObjs], ref_fields i⟩
  | key => exact ⟨.raw "KCell" [wordOfInt k, addr i], by simp [entryObjs], by rw [fields_plain _ _ (by simp)]; simp⟩

/-- **Every Mark instance covers everything its container holds**: whatever a block refers to (`Cell.refs`) is among
    the words the collector reads when it traces the block. -/
theorem refs_fields (c : Cell) (j : Nat) (hj : j ∈ c.refs) : addr j ∈ Cello.Heap.fields HC (toObj c) := by
  cases c with
  | tracked ident pay link =>
    obtain rfl := Option.mem_toList.mp hj
    rw [toObj, fields_plain _ _ (by simp)]
    simp [optAddr]
  | ref box v =>
    obtain rfl := Option.mem_toList.mp hj
    rw [toObj, fields_plain _ _ (by cases box <;> simp)]
    simp [optAddr]
  | tuple xs =>
    rw [toObj, fields_tuple]
    exact List.mem_map.mpr ⟨j, hj, rfl⟩
  | array xs | list xs =>
    rw [toObj, fields_cont _ _ (by simp)]
    exact Cello.Heap.mem_fieldsL.mpr ⟨.raw "Ref" [addr j], List.mem_map.mpr ⟨j, hj, rfl⟩, ref_fields j⟩
  | table side t =>
    simp only [Cell.refs, tabEntries, List.mem_map, List.mem_filterMap] at hj
    obtain ⟨⟨k, j'⟩, ⟨oe, hoe, hmap⟩, hj2⟩ := hj
    simp only at hj2
    subst hj2
    cases oe with
    | none => simp at hmap
    | some e =>
      simp only [Option.map_some, Option.some.injEq, Prod.mk.injEq] at hmap
      obtain ⟨o, ho, hw⟩ := entry_fields side e.key e.val
      rw [toObj, fields_cont _ _ (by simp), tableMark_all]
      exact Cello.Heap.mem_fieldsL.mpr ⟨o, List.mem_flatMap.mpr ⟨some e, hoe, ho⟩, by rw [← hmap.2]; exact hw⟩
  | tree side kvs =>
    simp only [Cell.refs, List.mem_map] at hj
    obtain ⟨⟨k, j'⟩, hm, hj2⟩ := hj
    simp only at hj2
    subst hj2
    obtain ⟨o, ho, hw⟩ := entry_fields side k j'
    rw [toObj, fields_cont _ _ (by simp)]
    exact Cello.Heap.mem_fieldsL.mpr ⟨o, List.mem_flatMap.mpr ⟨(k, j'), hm, ho⟩, hw⟩
  | thread kvs =>
    obtain ⟨e, hm, rfl⟩ := List.mem_map.mp hj
    rw [toObj, (thread_fields _).1]
    exact tlsTable_mem kvs hm

theorem toHeap_lookup (s : KSt) (i : Nat) :
    (toHeap s).lookup (addr i) = (s.heap.lookup i).map (fun c => ⟨toObj c, storedRoot (isRooted s.slots i)⟩) := by
  have := addr_inv i
  simp [toHeap, toHeapW, this.1, this.2.1, this.2.2]

theorem addr_bound (a n : Nat) (h : a / 8 - 1 < n) : a ≤ addr n := by
  unfold addr; omega

theorem toHeap_wf (s : KSt) (hf : Fresh s) : (toHeap s).WF := by
  constructor
  · intro a e he
    simp only [toHeap, toHeapW] at he
    split at he
    · rename_i hc; exact hc.1
    · cases he
  · intro a e he
    simp only [toHeap, toHeapW] at he ⊢
    split at he
    · rcases hl : s.heap.lookup (a / 8 - 1) with _ | c
      · rw [hl] at he; cases he
      · exact ⟨Nat.zero_le _, addr_bound a s.next (hf _ c hl)⟩
    · cases he

/-- the registry entry of a rooted container is among the entries the root loop of `GC_Mark` starts from — because the root
    argument of `GC_Set_Ptr` arrives in the member that loop tests (`RootWired`) -/
theorem rooted_in_rootAddrs (s : KSt) (hw : RootWired) {i : Nat} (hs : (s.heap.lookup i).isSome = true)
    (hroot : isRooted s.slots i = true) : addr i ∈ Cello.Heap.rootAddrs (toHeap s) := by
  rcases hl : s.heap.lookup i with _ | c
  · rw [hl] at hs; cases hs
  · have hm := lookup_mem_fst _ _ _ hl
    refine List.mem_filter.mpr ⟨List.mem_map.mpr ⟨(i, c), hm, rfl⟩, ?_⟩
    rw [toHeap_lookup, hl]
    simp only [Option.map_some, hroot]
    exact hw

/-- what the program can reach, the collector's marker reaches (model of src/GC.c: Cello/Heap.lean) -/
theorem reach_to_heap (s : KSt) (hw : RootWired) {i : Nat} (hr : KReach s.heap s.roots i) :
    Cello.Heap.Reachable HC (toHeap s) (Cello.Heap.rootWords HC (toHeap s) (threadObj s) (stackWords s)) (addr i) := by
  have reg : ∀ k, (s.heap.lookup k).isSome = true → ((toHeap s).lookup (addr k)).isSome = true := by
    intro k hk; rw [toHeap_lookup]; cases hx : s.heap.lookup k <;> simp [hx] at hk ⊢
  induction hr with
  | @root i hroot hs =>
    refine .root ?_ (reg i hs)
    simp only [KSt.roots, List.mem_append] at hroot
    simp only [Cello.Heap.rootWords, List.mem_append]
    rcases hroot with h | h
    · -- a holder variable: on the stack — or in static storage, then the container is a root entry of the registry
      obtain ⟨sl, hsl, hri⟩ := List.mem_filterMap.mp h
      cases hrt : sl.rooted
      · exact .inr (.inr (List.mem_map.mpr ⟨i, List.mem_filterMap.mpr ⟨sl, List.mem_filter.mpr ⟨hsl, by simp [hrt]⟩, hri⟩, rfl⟩))
      · refine .inr (.inl (rooted_in_rootAddrs s hw hs ?_))
        simp only [isRooted, List.any_eq_true]
        exact ⟨sl, hsl, by simp [hrt, hri]⟩
    · obtain ⟨e, he, rfl⟩ := List.mem_map.mp h
      rw [threadObj, (thread_fields _).2]
      exact .inl (tlsTable_mem s.tls he)
  | @step i j c _ hl hm hs ih =>
    refine .step ih ⟨⟨toObj c, storedRoot (isRooted s.slots i)⟩, by rw [toHeap_lookup, hl]; rfl, refs_fields c j hm⟩ (reg j hs)

theorem kcollectW_lookup (w : Bool → Bool) (s : KSt) (i : Nat) :
    (kcollectW w s).heap.lookup i =
      if (Cello.Heap.collect Cello.Heap.listSet HC (toHeapW w s) (threadObj s) (stackWords s)).2.contains (addr i) then none
      else s.heap.lookup i := by
  simp only [kcollectW]
  rw [lookup_filter_key (fun k => !((Cello.Heap.collect Cello.Heap.listSet HC (toHeapW w s) (threadObj s) (stackWords s)).2.contains (addr k)))]
  cases (Cello.Heap.collect Cello.Heap.listSet HC (toHeapW w s) (threadObj s) (stackWords s)).2.contains (addr i) <;> rfl

/-- **The collector does not free what the program can reach** (and leaves its contents alone). -/
theorem kcollect_keeps (hw : RootWired) {s : KSt} (hf : Fresh s) {i : Nat} (hr : KReach s.heap s.roots i) :
    (kcollect s).heap.lookup i = s.heap.lookup i := by
  have h := (Cello.Heap.collect_keeps_reachable Cello.Heap.listSet HC (toHeap s) (toHeap_wf s hf) (threadObj s) (stackWords s)
    (addr i) (reach_to_heap s hw hr)).2.2
  rw [kcollect, kcollectW_lookup, if_neg (by simpa [toHeap] using h)]

theorem kcollect_sub (s : KSt) {i : Nat} {c : Cell} (h : (kcollect s).heap.lookup i = some c) : s.heap.lookup i = some c := by
  rw [kcollect, kcollectW_lookup] at h
  split at h
  · cases h
  · exact h

theorem kcollect_roots (s : KSt) : (kcollect s).roots = s.roots := rfl

theorem kcollect_reach {s : KSt} {i : Nat} (hr : KReach (kcollect s).heap (kcollect s).roots i) : KReach s.heap s.roots i := by
  have some_of : ∀ k, ((kcollect s).heap.lookup k).isSome = true → (s.heap.lookup k).isSome = true := by
    intro k hk
    obtain ⟨c, hc⟩ := Option.isSome_iff_exists.mp hk
    rw [kcollect_sub s hc]; rfl
  induction hr with
  | root hroot hs => exact .root hroot (some_of _ hs)
  | step _ hl hm hs ih => exact .step ih (kcollect_sub s hl) hm (some_of _ hs)

theorem kcollect_fresh {s : KSt} (hf : Fresh s) : Fresh (kcollect s) :=
  fun i c hl => hf i c (kcollect_sub s hl)

theorem kcollect_sim (hw : RootWired) {s : KSt} (hf : Fresh s) : Sim (kcollect s) s :=
  ⟨rfl, rfl, rfl, rfl, fun _ hr => (kcollect_keeps hw hf (kcollect_reach hr)).symm, fun _ hr => kcollect_keeps hw hf hr⟩

/-- what the collector of the configuration does after an operation (nothing, a new threshold, a collection) is invisible to the program -/
theorem gcTail_sim (hw : RootWired) (cfg : Cfg) (u : Upd) {a : KSt} (hf : Fresh a) :
    Sim (gcTail cfg u a) a ∧ Fresh (gcTail cfg u a) := by
  have coll : ∀ (g : Bool) {a' : KSt}, Sim a' a → Fresh a' →
      Sim (if g then kcollect a' else a') a ∧ Fresh (if g then kcollect a' else a') := by
    intro g a' h hf'
    cases g
    · exact ⟨h, hf'⟩
    · exact ⟨(kcollect_sim hw hf').trans h, kcollect_fresh hf'⟩
  unfold gcTail
  cases cfg.gc
  · exact ⟨.refl a, hf⟩
  · simp only [if_true]
    -- `GC_Rem` may have recomputed the threshold, which `Sim` and `Fresh` do not mention
    split
    · exact coll _ ⟨rfl, rfl, rfl, rfl, fun _ _ => rfl, fun _ _ => rfl⟩ hf
    · exact coll _ (.refl a) hf

theorem kstep_sim (hw : RootWired) (c₁ c₂ : Cfg) (op : KOp) {s t : KSt} (h : Sim s t) (hfs : Fresh s) (hft : Fresh t) :
    (kstep c₁ op s).2 = (kstep c₂ op t).2 ∧ Sim (kstep c₁ op s).1 (kstep c₂ op t).1 ∧
      Fresh (kstep c₁ op s).1 ∧ Fresh (kstep c₂ op t).1 := by
  unfold kstep
  simp only
  rw [← view_eq h op]
  rcases hp : plan op (view op s) with _ | ⟨u, out⟩
  · exact ⟨rfl, h, hfs, hft⟩
  · simp only
    cases hok : u.ok (view op s)
    · exact ⟨rfl, h, hfs, hft⟩
    · simp only [if_true]
      -- the same update on both sides, then each side's collector, which is invisible on its own side
      obtain ⟨g1, f1⟩ := gcTail_sim hw c₁ u (applyRaw_fresh hfs hok)
      obtain ⟨g2, f2⟩ := gcTail_sim hw c₂ u (applyRaw_fresh hft (view_eq h op ▸ hok))
      -- (both outcomes are `.ok out`: `simp only` has closed the first conjunct to `True`)
      exact ⟨trivial, (g1.trans (applyRaw_sim h hfs hft hok)).trans g2.symm, f1, f2⟩

theorem krun_sim (hw : RootWired) (c₁ c₂ : Cfg) : ∀ (prog : List KOp) {s t : KSt}, Sim s t → Fresh s → Fresh t →
    (krun c₁ prog s).2 = (krun c₂ prog t).2 ∧ Sim (krun c₁ prog s).1 (krun c₂ prog t).1
  | [], _, _, h, _, _ => ⟨rfl, h⟩
  | op :: rest, s, t, h, hfs, hft => by
    obtain ⟨h1, h2, h3, h4⟩ := kstep_sim hw c₁ c₂ op h hfs hft
    obtain ⟨h5, h6⟩ := krun_sim hw c₁ c₂ rest h2 h3 h4
    simp only [krun]
    exact ⟨by rw [h1, h5], h6⟩

theorem fresh_init : Fresh KSt.init := fun i c h => by simp [KSt.init] at h

theorem kstep_gc_only {c c' : Cfg} (h : c.gc = c'.gc) (op : KOp) (s : KSt) : kstep c op s = kstep c' op s := by
  unfold kstep applyUpd gcTail
  rw [h]

theorem krun_gc_only {c c' : Cfg} (h : c.gc = c'.gc) : ∀ (prog : List KOp) (s : KSt), krun c prog s = krun c' prog s
  | [], _ => rfl
  | op :: rest, s => by
    simp only [krun]
    rw [kstep_gc_only h op s, krun_gc_only h rest]

theorem used_config_independent (hw : RootWired) (c₁ c₂ : Cfg) (prog : List KOp) :
    (krun c₁ prog KSt.init).1.used = (krun c₂ prog KSt.init).1.used :=
  (krun_sim hw c₁ c₂ prog (Sim.refl _) fresh_init fresh_init).2.used

/-- with the collector, every object ever made has been finalised when the process has ended (`GC_Del` sweeps the rest) -/
theorem endLedger_gc {c : Cfg} (h : c.gc = true) (prog : List KOp) :
    endLedger c prog = (krun c prog KSt.init).1.used := by
  unfold endLedger kexit ledger
  rw [if_pos h]
  exact List.filter_eq_self.mpr fun _ _ => rfl

/-- without it, only what the program deleted itself -/
theorem endLedger_ngc {c : Cfg} (h : c.gc = false) (prog : List KOp) :
    endLedger c prog = ledger (krun ngcCfg prog KSt.init).1 := by
  unfold endLedger kexit
  rw [if_neg (by simp [h])]
  rw [krun_gc_only (c := c) (c' := ngcCfg) (by rw [h]; rfl)]

theorem endLedger_of_releasesAll (hw : RootWired) (c : Cfg) (prog : List KOp) (h : ReleasesAll prog) :
    endLedger c prog = (krun ngcCfg prog KSt.init).1.used := by
  cases hg : c.gc
  · rw [endLedger_ngc hg]
    unfold ledger
    rw [h]
    exact List.filter_eq_self.mpr fun _ _ => rfl
  · rw [endLedger_gc hg, used_config_independent hw c ngcCfg]

/-- the smallest program with a root: `static var reg; reg = new_root(Array, Ref);` — one block, its variable outside the
    collector's view -/
def rootOnly : KSt :=
  { KSt.init with next := 1, heap := [(0, .array [])], slots := [⟨0, .array, some 0, true⟩] }

theorem fresh_rootOnly : Fresh rootOnly := by
  intro i c h
  cases i with
  | zero => decide
  | succ n => simp [rootOnly, List.lookup] at h

/-- **If the entry does not carry the flag in the member the collector tests, the first collection frees the root.**  With the
    wiring `fun _ => false` (what the initialiser `{ ptr, ihash, root, 0 }` yields once the two flag members of `struct GCEntry`
    have changed places: the root argument lands in `marked`, which `GC_Unmark` wipes, and `root` is 0) nothing presents the
    container to the marker — no stack word, no thread-local entry, no root entry — and `GC_Sweep` puts it on the free list. -/
theorem kcollectW_unwired_loses_root : (kcollectW (fun _ => false) rootOnly).heap.lookup 0 = none := by
  have hl : (toHeapW (fun _ => false) rootOnly).lookup (addr 0) = some ⟨toObj (.array []), false⟩ := by
    have := addr_inv 0
    simp [toHeapW, this.1, this.2.1, this.2.2, rootOnly, List.lookup]
  rw [kcollectW_lookup, if_pos]
  simpa using Cello.Heap.collect_no_roots Cello.Heap.listSet HC _ (thread := threadObj rootOnly) (stack := stackWords rootOnly)
    (by rw [HC, Cello.Heap.Cfg.current_eq]; decide +kernel) hl rfl (by decide +kernel)

end Cello.Config.Keep
