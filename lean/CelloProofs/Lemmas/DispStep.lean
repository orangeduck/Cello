/-
  The atomic machine of one lookup. A thread's local state (`PCOK`) mentions the shared record only through the
  immutable part of its triples, so it stays valid whatever the other threads store (`PCOK.congr`); with `Wr.apply_inv`
  and `step_pc` this gives `step_spec`, on which the sequential and the concurrent theorems rest alike.
-/
import Cello.DispatchShared
import CelloProofs.Lemmas.DispInv

namespace Cello.Dispatch

/-- a store is consistent with the declaration `D` -/
def WrOK (D : String → Option Inst) (slots : List (Nat × Cls)) (es : List Entry) : Wr → Prop
  | .hdr => True
  | .memo pos cls => ∃ e, es[pos]? = some e ∧ e.name = cls.name ∧ D cls.name = some e.inst
  | .cache i v => ∃ cls, (i, cls) ∈ slots ∧ v = D cls.name

theorem WrOK.congr {D : String → Option Inst} {slots : List (Nat × Cls)} {es es' : List Entry}
    (h : es'.map Entry.skel = es.map Entry.skel) : ∀ w, WrOK D slots es w → WrOK D slots es' w
  | .hdr, _ => trivial
  | .memo pos _, ⟨e, he, hn, hd⟩ => by
    obtain ⟨e', he', hn', hi'⟩ := skel_getElem? h pos he
    exact ⟨e', he', hn'.trans hn, hi' ▸ hd⟩
  | .cache _ _, hw => hw

theorem set_memo_skel (es : List Entry) (pos : Nat) (e : Entry) (c : Cls) (he : es[pos]? = some e) :
    (es.set pos { e with memo := some c }).map Entry.skel = es.map Entry.skel := by
  obtain ⟨hlt, rfl⟩ := List.getElem?_eq_some_iff.mp he
  have h := List.set_getElem_self (as := es.map Entry.skel) (i := pos) (by simpa using hlt)
  rw [List.map_set]
  simpa [Entry.skel] using h

theorem Wr.apply_inv {D : String → Option Inst} {slots : List (Nat × Cls)} {n : Nat} {t : TypeRec}
    (hs : SlotsOK slots n) (h : Inv D slots n t) (w : Wr) (hw : WrOK D slots t.entries w) : Kept D slots n t (w.apply t) := by
  cases w with
  | hdr => exact ⟨h.hdr true, rfl, rfl⟩
  | memo pos cls =>
    obtain ⟨e, he, hn, hd⟩ := hw
    simp only [Wr.apply, he]
    have hsk := set_memo_skel t.entries pos e cls he
    refine ⟨⟨fun nm => (declared_congr hsk nm).trans (h.decl nm), ?_, h.len, h.cache⟩, hsk, rfl⟩
    intro e' he' c hc
    rcases List.mem_or_eq_of_mem_set he' with hm | rfl
    · exact h.memo e' hm c hc
    · cases hc; exact ⟨hn.symm, hn ▸ hd⟩
  | cache i v =>
    obtain ⟨cls, hm, hv⟩ := hw
    exact ⟨⟨h.decl, h.memo, by simp only [Wr.apply, List.length_set]; exact h.len,
      cache_set_inv hs hm hv h.cache⟩, rfl, rfl⟩

theorem Wr.apply_idem (t : TypeRec) (w : Wr) : w.apply (w.apply t) = w.apply t := by
  cases w with
  | hdr => rfl
  | memo pos cls =>
    simp only [Wr.apply]
    cases h : t.entries[pos]? with
    | none => simp [h]
    | some e =>
      have hlt : pos < t.entries.length := (List.getElem?_eq_some_iff.mp h).1
      simp [hlt]
  | cache i v => simp [Wr.apply]

/-- a pending cache fill refers to a slot of the class being scanned -/
def RetOK (slots : List (Nat × Cls)) (cls : Cls) : Ret → Prop
  | .direct => True
  | .fill i => (i, cls) ∈ slots

/-- validity of a thread's local state; it mentions the shared object only through the immutable part of its triples -/
def PCOK (D : String → Option Inst) (slots : List (Nat × Cls)) (es : List Entry) : PC → Prop
  | .start _ _ => True
  | .hdrRead cls ret => RetOK slots cls ret
  | .hdrWrite cls ret => RetOK slots cls ret
  | .scanP cls _ ret => RetOK slots cls ret
  | .scanN cls pos ret => RetOK slots cls ret ∧ D cls.name = declared (es.drop pos) cls.name
  | .memoWrite cls pos ret =>
      RetOK slots cls ret ∧ ∃ e, es[pos]? = some e ∧ e.name = cls.name ∧ D cls.name = some e.inst
  | .cacheWrite cls i v => (i, cls) ∈ slots ∧ v = D cls.name
  | .done cls v => v = D cls.name
  | .stuck => False

theorem finish_ok {D : String → Option Inst} {slots : List (Nat × Cls)} {es : List Entry} {cls : Cls} {ret : Ret}
    {v : Option Inst} (hr : RetOK slots cls ret) (hv : v = D cls.name) : PCOK D slots es (finish cls ret v) := by
  cases ret with
  | direct => exact hv
  | fill i => exact ⟨hr, hv⟩

theorem PCOK.congr {D : String → Option Inst} {slots : List (Nat × Cls)} {es es' : List Entry}
    (h : es'.map Entry.skel = es.map Entry.skel) : ∀ pc, PCOK D slots es pc → PCOK D slots es' pc
  | .start _ _, _ => trivial
  | .hdrRead _ _, hp => hp
  | .hdrWrite _ _, hp => hp
  | .scanP _ _ _, hp => hp
  | .scanN cls pos ret, hp => by
    refine ⟨hp.1, ?_⟩
    rw [hp.2]
    apply declared_congr
    simp only [List.map_drop, h]
  -- the clause of a pending memo store is the consistency of that store
  | .memoWrite cls pos _, hp => ⟨hp.1, WrOK.congr (slots := slots) h (.memo pos cls) hp.2⟩
  | .cacheWrite _ _ _, hp => hp
  | .done _ _, hp => hp
  | .stuck, hp => hp

theorem step_effect (slots : List (Nat × Cls)) (t : TypeRec) (pc : PC) :
    (step slots t pc).1 = match writeOf t pc with
      | none => t
      | some w => w.apply t := by
  cases pc with
  | start uc cls =>
    cases uc with
    | false => rfl
    | true =>
      simp only [step, writeOf]
      split
      · split
        · split <;> rfl
        · rfl
      · rfl
  | hdrRead cls ret => simp only [step, writeOf]; split <;> rfl
  | hdrWrite cls ret => rfl
  | scanP cls pos ret =>
    simp only [step, writeOf]
    split
    · rfl
    · split <;> rfl
  | scanN cls pos ret =>
    simp only [step, writeOf]
    split
    · rfl
    · split <;> rfl
  | memoWrite cls pos ret =>
    simp only [step, writeOf]
    cases h : t.entries[pos]? with
    | none => simp
    | some e => simp [Wr.apply, h]
  | cacheWrite cls i v => rfl
  | done cls v => rfl
  | stuck => rfl

theorem step_length (slots : List (Nat × Cls)) (t : TypeRec) (pc : PC) :
    (step slots t pc).1.entries.length = t.entries.length := by
  rw [step_effect]
  cases writeOf t pc with
  | none => rfl
  | some w =>
    cases w with
    | memo pos cls => simp only [Wr.apply]; split <;> simp
    | _ => rfl

theorem writeOf_ok {D : String → Option Inst} {slots : List (Nat × Cls)} {t : TypeRec} {pc : PC}
    (hp : PCOK D slots t.entries pc) {w : Wr} (hw : writeOf t pc = some w) : WrOK D slots t.entries w := by
  cases pc with
  | hdrWrite cls ret => simp only [writeOf, Option.some.injEq] at hw; subst hw; trivial
  | memoWrite cls pos ret =>
    obtain ⟨_, e, he, hn, hd⟩ := hp
    simp only [writeOf, he, Option.isSome_some, if_true, Option.some.injEq] at hw
    subst hw; exact ⟨e, he, hn, hd⟩
  | cacheWrite cls i v =>
    simp only [writeOf, Option.some.injEq] at hw; subst hw; exact ⟨cls, hp.1, hp.2⟩
  | start _ _ => simp [writeOf] at hw
  | hdrRead _ _ => simp [writeOf] at hw
  | scanP _ _ _ => simp [writeOf] at hw
  | scanN _ _ _ => simp [writeOf] at hw
  | done _ _ => simp [writeOf] at hw
  | stuck => simp [writeOf] at hw

theorem step_pc {D : String → Option Inst} {slots : List (Nat × Cls)} {n : Nat} {t : TypeRec}
    (hs : SlotsOK slots n) (h : Inv D slots n t) (pc : PC) (hp : PCOK D slots t.entries pc) :
    PCOK D slots t.entries (step slots t pc).2 := by
  cases pc with
  | start uc cls =>
    cases uc with
    | false => trivial
    | true =>
      simp only [step]
      cases hso : slotOf slots cls with
      | none => trivial
      | some p =>
        obtain ⟨i, lit⟩ := p
        obtain ⟨hmem, rfl⟩ := slotOf_some hso
        have hlt : i < t.cache.length := by rw [h.len]; exact hs.bound _ hmem
        simp only [hlt, dite_true]
        cases hc : t.cache[i] with
        | some inst => exact (h.cache _ hmem inst (by rw [List.getElem?_eq_getElem hlt, hc])).symm
        | none => exact hmem
  | hdrRead cls ret => simp only [step]; split <;> exact hp
  | hdrWrite cls ret => exact hp
  | scanP cls pos ret =>
    simp only [step]
    cases he : t.entries[pos]? with
    | none => exact ⟨hp, (h.decl _).symm⟩
    | some e =>
      simp only
      split
      · next hm =>
        have := h.memo e (List.mem_of_getElem? he) cls hm
        exact finish_ok hp (by rw [this.1, this.2])
      · exact hp
  | scanN cls pos ret =>
    simp only [step]
    cases he : t.entries[pos]? with
    | none => exact finish_ok hp.1 (by rw [hp.2, declared_drop_none he])
    | some e =>
      simp only
      have hd := declared_drop_step he cls.name
      split
      · next hn => exact ⟨hp.1, e, he, hn, by rw [hp.2, hd, if_pos hn]⟩
      · next hn => exact ⟨hp.1, by rw [hp.2, hd, if_neg hn]⟩
  | memoWrite cls pos ret =>
    obtain ⟨hr, e, he, hn, hd⟩ := hp
    simp only [step, he]
    exact finish_ok hr hd.symm
  | cacheWrite cls i v => exact hp.2
  | done cls v => exact hp
  | stuck => exact hp.elim

/-- what a step reads (`step_pc`) and the store it issues (`step_effect`, `writeOf_ok`, `Wr.apply_inv`) put together; in
    particular the step never gets stuck (`PCOK` of `.stuck` is `False`) -/
theorem step_spec {D : String → Option Inst} {slots : List (Nat × Cls)} {n : Nat} {t : TypeRec}
    (hs : SlotsOK slots n) (h : Inv D slots n t) (pc : PC) (hp : PCOK D slots t.entries pc) :
    Kept D slots n t (step slots t pc).1 ∧ PCOK D slots (step slots t pc).1.entries (step slots t pc).2 := by
  have hpc := step_pc hs h pc hp
  rw [step_effect]
  cases hw : writeOf t pc with
  | none => exact ⟨.refl h, hpc⟩
  | some w =>
    have sp := Wr.apply_inv hs h w (writeOf_ok hp hw)
    exact ⟨sp, PCOK.congr sp.skel _ hpc⟩

/-- remaining own steps of a lookup on a record with `n` triples (an upper bound): each state lies above all it can step
    to; `finish` is at most 2 (`finish_measure`), the whole by-name pass (`+ 4`) below every by-pointer state (`+ n + 5`) -/
def pcMeasure (n : Nat) : PC → Nat
  | .start _ _ => 2 * n + 8
  | .hdrRead _ _ => 2 * n + 7
  | .hdrWrite _ _ => 2 * n + 6
  | .scanP _ pos _ => (n - pos) + n + 5
  | .scanN _ pos _ => (n - pos) + 4
  | .memoWrite _ _ _ => 3
  | .cacheWrite _ _ _ => 2
  | .done _ _ => 0
  | .stuck => 0

theorem finish_measure (n : Nat) (cls : Cls) (ret : Ret) (v : Option Inst) : pcMeasure n (finish cls ret v) ≤ 2 := by
  cases ret <;> simp [finish, pcMeasure]

theorem pcMeasure_le_soloFuel (n : Nat) (pc : PC) : pcMeasure n pc ≤ soloFuel n := by
  cases pc <;> simp [pcMeasure, soloFuel] <;> omega

theorem step_measure (slots : List (Nat × Cls)) (t : TypeRec) (pc : PC)
    (hnd : ∀ c v, pc ≠ .done c v) (hns : pc ≠ .stuck) :
    pcMeasure t.entries.length (step slots t pc).2 < pcMeasure t.entries.length pc := by
  cases pc with
  | start uc cls =>
    cases uc with
    | false => simp [step, pcMeasure]
    | true =>
      simp only [step]
      cases slotOf slots cls with
      | none => simp [pcMeasure]
      | some p =>
        simp only
        split
        · split <;> simp [pcMeasure]
        · simp [pcMeasure]
  | hdrRead cls ret => simp only [step]; split <;> simp [pcMeasure] <;> omega
  | hdrWrite cls ret => simp [step, pcMeasure]; omega
  | scanP cls pos ret =>
    simp only [step]
    cases he : t.entries[pos]? with
    | none => simp [pcMeasure]; omega
    | some e =>
      have hlt := (List.getElem?_eq_some_iff.mp he).1
      simp only
      split
      · exact Nat.lt_of_le_of_lt (finish_measure _ cls ret (some e.inst)) (by simp [pcMeasure])
      · simp [pcMeasure]; omega
  | scanN cls pos ret =>
    simp only [step]
    cases he : t.entries[pos]? with
    | none => exact Nat.lt_of_le_of_lt (finish_measure _ cls ret none) (by simp [pcMeasure])
    | some e =>
      have hlt := (List.getElem?_eq_some_iff.mp he).1
      simp only
      split <;> simp [pcMeasure] <;> omega
  | memoWrite cls pos ret =>
    simp only [step]
    cases he : t.entries[pos]? with
    | none => simp [pcMeasure]
    | some e => exact Nat.lt_of_le_of_lt (finish_measure _ cls ret (some e.inst)) (by simp [pcMeasure])
  | cacheWrite cls i v => simp [step, pcMeasure]
  | done cls v => exact absurd rfl (hnd cls v)
  | stuck => exact absurd rfl hns

end Cello.Dispatch
