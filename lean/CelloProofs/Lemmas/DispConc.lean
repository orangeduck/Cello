/-
  Threads on one shared type object: safety under any schedule (`runSched_spec`, from `step_spec` and `PCOK.congr`);
  a thread that is scheduled often enough completes its program whatever the others do in between (`sched_progress`);
  the machine with a shared name register is the plain machine when the register is not used (`grunSched_false`).
-/
import CelloProofs.Lemmas.DispStep

namespace Cello.Dispatch

def ThreadOK (D : String → Option Inst) (slots : List (Nat × Cls)) (es : List Entry) (th : Thread) : Prop :=
  (∀ pc, th.pc = some pc → PCOK D slots es pc) ∧ ∀ p ∈ th.log, p.2 = D p.1.name

theorem ThreadOK.congr {D : String → Option Inst} {slots : List (Nat × Cls)} {es es' : List Entry}
    (h : es'.map Entry.skel = es.map Entry.skel) {th : Thread} (ht : ThreadOK D slots es th) : ThreadOK D slots es' th :=
  ⟨fun pc hpc => PCOK.congr h pc (ht.1 pc hpc), ht.2⟩

theorem threadStep_running (slots : List (Nat × Cls)) (t : TypeRec) (th : Thread) {pc : PC} (hpc : th.pc = some pc)
    (hnd : ∀ c v, pc ≠ .done c v) :
    threadStep slots t th = ((step slots t pc).1, { th with pc := some (step slots t pc).2 }) := by
  unfold threadStep
  rw [hpc]
  cases pc <;> first | rfl | exact absurd rfl (hnd _ _)

theorem threadStep_spec {D : String → Option Inst} {slots : List (Nat × Cls)} {n : Nat} {t : TypeRec}
    (hs : SlotsOK slots n) (h : Inv D slots n t) (th : Thread) (ht : ThreadOK D slots t.entries th) :
    Kept D slots n t (threadStep slots t th).1 ∧
      ThreadOK D slots (threadStep slots t th).1.entries (threadStep slots t th).2 := by
  cases hpc : th.pc with
  | none =>
    unfold threadStep
    rw [hpc]
    cases th.todo with
    | nil => exact ⟨.refl h, ht⟩
    | cons p rest => exact ⟨.refl h, fun pc e => (by cases e; trivial), ht.2⟩
  | some pc =>
    have hp := ht.1 pc hpc
    by_cases hd : ∃ c v, pc = .done c v
    · obtain ⟨c, v, rfl⟩ := hd
      unfold threadStep
      rw [hpc]
      refine ⟨.refl h, fun pc e => (by cases e), ?_⟩
      intro p hpm
      rcases List.mem_cons.mp hpm with rfl | hpm
      · exact hp
      · exact ht.2 p hpm
    · rw [threadStep_running slots t th hpc (fun c v e => hd ⟨c, v, e⟩)]
      have sp := step_spec hs h pc hp
      exact ⟨sp.1, fun pc' e => (by cases e; exact sp.2), ht.2⟩

def SysOK (D : String → Option Inst) (slots : List (Nat × Cls)) (n : Nat) (s : Sys) : Prop :=
  Inv D slots n s.shared ∧ ∀ th ∈ s.threads, ThreadOK D slots s.shared.entries th

theorem sysOK_new {D : String → Option Inst} {slots : List (Nat × Cls)} {n : Nat} {t : TypeRec} (h : Inv D slots n t)
    (progs : List (List (Bool × Cls))) : SysOK D slots n { shared := t, threads := progs.map Thread.new } := by
  refine ⟨h, fun th hth => ?_⟩
  obtain ⟨p, _, rfl⟩ := List.mem_map.mp hth
  exact ⟨fun pc e => (by cases e), fun p hp => (by cases hp)⟩

theorem sysStep_spec {D : String → Option Inst} {slots : List (Nat × Cls)} {n : Nat} {s : Sys}
    (hs : SlotsOK slots n) (h : SysOK D slots n s) (tid : Nat) :
    SysOK D slots n (sysStep slots s tid) ∧
      (sysStep slots s tid).shared.entries.map Entry.skel = s.shared.entries.map Entry.skel ∧
      (sysStep slots s tid).threads.length = s.threads.length := by
  unfold sysStep
  cases hth : s.threads[tid]? with
  | none => exact ⟨h, rfl, rfl⟩
  | some th =>
    simp only
    have hmem : th ∈ s.threads := List.mem_of_getElem? hth
    have sp := threadStep_spec hs h.1 th (h.2 th hmem)
    refine ⟨⟨sp.1.inv, ?_⟩, sp.1.skel, by simp⟩
    intro th' hth'
    rcases List.mem_or_eq_of_mem_set hth' with hm | rfl
    · exact ThreadOK.congr sp.1.skel (h.2 th' hm)
    · exact sp.2

theorem runSched_spec {D : String → Option Inst} {slots : List (Nat × Cls)} {n : Nat}
    (hs : SlotsOK slots n) : ∀ (sched : List Nat) (s : Sys), SysOK D slots n s →
    SysOK D slots n (runSched slots s sched) ∧
      (runSched slots s sched).shared.entries.map Entry.skel = s.shared.entries.map Entry.skel ∧
      (runSched slots s sched).threads.length = s.threads.length
  | [], s, h => ⟨h, rfl, rfl⟩
  | tid :: sched, s, h => by
    have sp := sysStep_spec hs h tid
    have ih := runSched_spec hs sched (sysStep slots s tid) sp.1
    simp only [runSched]
    exact ⟨ih.1, by rw [ih.2.1, sp.2.1], by rw [ih.2.2, sp.2.2]⟩

/-- own steps a thread still needs at most (record with `n` triples); a lookup still to do costs one step to start it,
    `pcMeasure n (.start ..) = 2 * n + 8` to run it and the `+ 1` of a running lookup to log it -/
def thMeasure (n : Nat) (th : Thread) : Nat :=
  (match th.pc with
   | none => 0
   | some pc => pcMeasure n pc + 1) + th.todo.length * (2 * n + 10)

theorem finished_of_measure_zero {n : Nat} {th : Thread} (h : thMeasure n th = 0) : th.finished = true := by
  unfold thMeasure at h
  cases hpc : th.pc with
  | some pc => simp [hpc] at h
  | none =>
    cases htd : th.todo with
    | nil => simp [Thread.finished, hpc, htd]
    | cons p rest =>
      simp only [hpc, htd, List.length_cons] at h
      have : (rest.length + 1) * (2 * n + 10) ≥ 1 * (2 * n + 10) := Nat.mul_le_mul_right _ (by omega)
      omega

/-- truncated `- 1` and not `<`: a finished thread has no measure left and stays as it is -/
theorem threadStep_progress {D : String → Option Inst} {slots : List (Nat × Cls)} {t : TypeRec} (th : Thread)
    (ht : ThreadOK D slots t.entries th) :
    thMeasure t.entries.length (threadStep slots t th).2 ≤ thMeasure t.entries.length th - 1 := by
  obtain ⟨pc0, todo, log⟩ := th
  cases pc0 with
  | none =>
    cases todo with
    | nil => simp [threadStep, thMeasure]
    | cons p rest =>
      obtain ⟨uc, cls⟩ := p
      simp only [threadStep, thMeasure, pcMeasure, List.length_cons, Nat.add_mul, Nat.one_mul]
      omega
  | some pc =>
    by_cases hd : ∃ c v, pc = .done c v
    · obtain ⟨c, v, rfl⟩ := hd
      simp [threadStep, thMeasure]
    · have hns : pc ≠ .stuck := by intro e; subst e; exact ht.1 _ rfl
      have sm := step_measure slots t pc (fun c v e => hd ⟨c, v, e⟩) hns
      rw [threadStep_running slots t _ rfl (fun c v e => hd ⟨c, v, e⟩)]
      simp only [thMeasure]
      omega

/-- fairness is counted, not assumed of the order of the schedule: `tid` occurs in it at least as often as its thread has
    steps left (`thMeasure`) -/
theorem sched_progress {D : String → Option Inst} {slots : List (Nat × Cls)} {n m : Nat} (hs : SlotsOK slots n) :
    ∀ (sched : List Nat) (s : Sys), SysOK D slots n s → s.shared.entries.length = m →
      ∀ (tid : Nat) (th : Thread), s.threads[tid]? = some th → thMeasure m th ≤ sched.count tid →
        ∃ th', (runSched slots s sched).threads[tid]? = some th' ∧ th'.finished = true
  | [], s, _, _, tid, th, hth, hm => ⟨th, hth, finished_of_measure_zero (Nat.le_zero.mp hm)⟩
  | x :: sched, s, h, hlen, tid, th, hth, hm => by
    have sp := sysStep_spec hs h x
    have hlen' : (sysStep slots s x).shared.entries.length = m := by rw [skel_length sp.2.1]; exact hlen
    rw [runSched]
    by_cases hx : x = tid
    · subst hx
      have pr := threadStep_progress (slots := slots) (t := s.shared) th (h.2 th (List.mem_of_getElem? hth))
      have hth' : (sysStep slots s x).threads[x]? = some (threadStep slots s.shared th).2 := by
        unfold sysStep
        rw [hth]
        exact List.getElem?_set_self (List.getElem?_eq_some_iff.mp hth).1
      rw [hlen] at pr
      rw [List.count_cons_self] at hm
      exact sched_progress hs sched _ sp.1 hlen' x _ hth' (by omega)
    · have hth' : (sysStep slots s x).threads[tid]? = some th := by
        unfold sysStep
        cases s.threads[x]? with
        | none => exact hth
        | some thx => simp only; rw [List.getElem?_set_ne hx]; exact hth
      rw [List.count_cons_of_ne hx] at hm
      exact sched_progress hs sched _ sp.1 hlen' tid th hth' hm

theorem gthreadStep_false (slots : List (Nat × Cls)) (t : TypeRec) (reg : String) (th : Thread) :
    gthreadStep false slots ⟨t, reg⟩ th.lift = (⟨(threadStep slots t th).1, reg⟩, (threadStep slots t th).2.lift) := by
  rcases th with ⟨pc, todo, log⟩
  cases pc with
  | none =>
    cases todo with
    | nil => rfl
    | cons p rest => rfl
  | some pc =>
    cases pc <;> rfl

theorem gsysStep_false (slots : List (Nat × Cls)) (reg : String) (s : Sys) (tid : Nat) :
    gsysStep false slots (s.lift reg) tid = (sysStep slots s tid).lift reg := by
  simp only [gsysStep, sysStep, Sys.lift, List.getElem?_map]
  cases h : s.threads[tid]? with
  | none => simp
  | some th =>
    simp only [Option.map_some, gthreadStep_false, List.map_set]

theorem grunSched_false (slots : List (Nat × Cls)) (reg : String) : ∀ (sched : List Nat) (s : Sys),
    grunSched false slots (s.lift reg) sched = (runSched slots s sched).lift reg
  | [], _ => rfl
  | tid :: sched, s => by
    simp only [grunSched, runSched, gsysStep_false]
    exact grunSched_false slots reg sched _

theorem lift_new (progs : List (List (Bool × Cls))) :
    progs.map GThread.new = (progs.map Thread.new).map Thread.lift := by
  simp [List.map_map, Function.comp_def, Thread.lift, Thread.new, GThread.new]

end Cello.Dispatch
