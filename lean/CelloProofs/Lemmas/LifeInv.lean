/-
  Lemmas for C06, the invariants of histories of `Cfg.current`.  Exactly once is at most once plus nothing left behind.
  At most once is `SInv`: after every well-formed history, since every operation is safe work (`Work`).  Nothing left
  behind is `Live`: after the histories in which no destructor allocates, since there every operation takes off the
  collector's tables exactly the objects it finalises (`Eff` with `Good`).  Together they are the exact invariant `Inv`.
-/
import CelloProofs.Lemmas.LifeFin
import CelloProofs.Lemmas.LifeSafe
import CelloProofs.Lemmas.LifeHist

namespace Cello.Life

/-- at most once (`total`), with what carries it from one operation to the next: the collector state is `Safe` and knows
    allocated identities only; identities not yet allocated have no event -/
structure SInv (g : Ghost) (s : St) : Prop where
  safe : Safe s
  total : ∀ x, Clean x s.log ∨ Once x s.log
  tracked_alloc : ∀ x, Tracked s x → x ∈ g.allocd
  kids_alloc : ∀ p ∈ s.dalloc, ∀ x ∈ kidsOf p, x ∈ g.allocd
  fresh : ∀ x, x ∉ g.allocd → Clean x s.log
  /-- a raw object not yet released and an object lost to a stopped collector are allocated, unknown to the collector and
      have no event -/
  loose : ∀ x, x ∈ g.rawLive ∨ x ∈ g.lost → x ∈ g.allocd ∧ ¬ Pot s x ∧ Clean x s.log
  sep : ∀ x ∈ g.rawLive, x ∉ g.lost

theorem SInv.init : SInv Ghost.init St.init where
  safe := {
    inert := fun x _ => Clean.nil x
    disj := fun _ ha => by cases ha
    nodup := List.nodup_nil
    kids_untracked := fun _ ⟨_, hp, _⟩ => by cases hp
    kids_nodup := fun _ hp => by cases hp
    kids_disj := fun _ hp => by cases hp }
  total := fun x => Or.inl (Clean.nil x)
  tracked_alloc := fun _ hx => by rcases hx with hx | hx <;> cases hx
  kids_alloc := fun _ hp => by cases hp
  fresh := fun x _ => Clean.nil x
  loose := fun _ hx => by rcases hx with hx | hx <;> cases hx
  sep := fun _ hx => by cases hx

theorem SInv.pot_alloc {g : Ghost} {s : St} (h : SInv g s) {x : Addr} (hx : Pot s x) : x ∈ g.allocd := by
  rcases hx with hx | ⟨p, hp, _, hx⟩
  · exact h.tracked_alloc x hx
  · exact h.kids_alloc p hp x hx

/-- the invariant reads `reg`, `pending`, `log` and `dalloc` only -/
theorem SInv.congr {g : Ghost} {s s' : St} (h : SInv g s) (hr : s'.reg = s.reg) (hp : s'.pending = s.pending)
    (hl : s'.log = s.log) (hd : s'.dalloc = s.dalloc) : SInv g s' := by
  have ht : ∀ x, Tracked s' x ↔ Tracked s x := fun x => Tracked.congr hr hp
  have hra := St.regAddrs_congr hr
  have hsafe : Safe s' := h.safe.of_sub hl hd (fun x hx => (ht x).1 hx)
    (by intro a ha; rw [hp] at ha; rw [hra]; exact h.safe.disj a ha) (by rw [hra]; exact h.safe.nodup)
  refine ⟨hsafe, by rw [hl]; exact h.total, fun x hx => h.tracked_alloc x ((ht x).1 hx), by rw [hd]; exact h.kids_alloc,
    by rw [hl]; exact h.fresh, ?_, h.sep⟩
  intro x hx
  obtain ⟨r1, r2, r3⟩ := h.loose x hx
  exact ⟨r1, fun hp' => r2 (Pot.of_sub hl hd (fun y hy => (ht y).1 hy) hp'), by rw [hl]; exact r3⟩

/-- collector work keeps the invariant; `A` = what the work may touch besides the potential objects: identities that are
    allocated afterwards and are not (any more) loose -/
theorem SInv.work {A : Addr → Prop} {g g' : Ghost} {s s' : St} {E : List Ev} (h : SInv g s) (w : Work A s s' E)
    (hal : ∀ x, x ∈ g.allocd → x ∈ g'.allocd) (hA : ∀ x, A x → x ∈ g'.allocd)
    (hloose : ∀ x, x ∈ g'.rawLive ∨ x ∈ g'.lost → (x ∈ g.rawLive ∨ x ∈ g.lost) ∧ ¬ A x)
    (hsep : ∀ x ∈ g'.rawLive, x ∉ g'.lost) : SInv g' s' := by
  exact {
    safe := w.safe
    total := by rw [w.log]; exact w.good.total h.total
    tracked_alloc := fun x hx => (w.pot x (Or.inl hx)).elim (fun hp => hal x (h.pot_alloc hp)) (hA x)
    kids_alloc := by
      intro p hp x hx
      rw [w.dalloc] at hp
      exact hal x (h.kids_alloc p hp x hx)
    fresh := fun x hx =>
      (w.untouched (fun hp => hx (hal x (h.pot_alloc hp))) (fun ha => hx (hA x ha)) (h.fresh x fun h' => hx (hal x h'))).2
    loose := by
      intro x hx
      obtain ⟨r1, r2, r3⟩ := h.loose x (hloose x hx).1
      exact ⟨hal x r1, w.untouched r2 (hloose x hx).2 r3⟩
    sep := hsep }

/-- a fresh identity that the collector does not hear of: raw (`toRaw`), or allocated while it was stopped -/
theorem SInv.unknown {g : Ghost} {s : St} (h : SInv g s) {a : Addr} (hok : a ∉ g.allocd) (toRaw : Bool) :
    SInv { g with allocd := a :: g.allocd, rawLive := if toRaw then a :: g.rawLive else g.rawLive,
                  lost := if toRaw then g.lost else a :: g.lost } s where
  safe := h.safe
  total := h.total
  tracked_alloc := fun x hx => List.mem_cons_of_mem _ (h.tracked_alloc x hx)
  kids_alloc := fun p hp x hx => List.mem_cons_of_mem _ (h.kids_alloc p hp x hx)
  fresh := fun x hx => h.fresh x fun hh => hx (List.mem_cons_of_mem _ hh)
  loose := by
    intro x hx
    have : x = a ∨ (x ∈ g.rawLive ∨ x ∈ g.lost) := by
      cases toRaw
      · exact hx.elim (fun h => Or.inr (Or.inl h)) fun h => (List.mem_cons.1 h).imp_right Or.inr
      · exact hx.elim (fun h => (List.mem_cons.1 h).imp_right Or.inl) fun h => Or.inr (Or.inr h)
    rcases this with rfl | hx
    · exact ⟨List.mem_cons_self, fun hp => hok (h.pot_alloc hp), h.fresh _ hok⟩
    · obtain ⟨r1, r2, r3⟩ := h.loose x hx
      exact ⟨List.mem_cons_of_mem _ r1, r2, r3⟩
  sep := by
    intro x hx
    cases toRaw
    · exact fun hl => (List.mem_cons.1 hl).elim (fun e => hok (e ▸ (h.loose x (Or.inl hx)).1)) (h.sep x hx)
    · exact (List.mem_cons.1 hx).elim (fun e hl => hok (e ▸ (h.loose x (Or.inr hl)).1)) (h.sep x)

theorem SInv.allocBy {g : Ghost} {s : St} (h : SInv g s) (a : Addr) (k : Kind) (marks order : List Addr)
    (hok : a ∉ g.allocd) : ∃ E, Work (· = a) s (allocBy Cfg.current s a k marks order) E ∧
      SInv (galloc g s a k) (allocBy Cfg.current s a k marks order) := by
  obtain ⟨E, w⟩ := allocBy_safe (c := Cfg.current) rfl rfl s a k marks order h.safe
    (fun hp => hok (h.pot_alloc hp)) (h.fresh a hok)
  refine ⟨E, w, ?_⟩
  by_cases hk : k = .raw
  · subst hk
    exact h.unknown hok true
  by_cases hrun : s.running = true
  · rw [galloc_running g a hk hrun]
    exact h.work w (fun x hx => List.mem_cons_of_mem _ hx) (fun x hx => hx ▸ List.mem_cons_self)
      (fun x hx => ⟨hx, fun e => hok (e ▸ (h.loose x hx).1)⟩) h.sep
  · have hrun' : s.running = false := by simpa using hrun
    rw [galloc_stopped g a hk hrun', allocBy_registers _ _ _ hk, gcSet_stopped hrun']
    exact h.unknown hok false

theorem SInv.release_raw {g : Ghost} {s : St} (h : SInv g s) (a : Addr) (hraw : a ∈ g.rawLive) :
    ∃ E, Work (· = a) s (finalise (fuelFor s) Cfg.current s a) E ∧
      SInv { g with rawLive := g.rawLive.filter (fun x => x != a) } (finalise (fuelFor s) Cfg.current s a) := by
  obtain ⟨r1, r2, r3⟩ := h.loose a (Or.inl hraw)
  obtain ⟨E, w⟩ := finalise_safe (c := Cfg.current) rfl rfl (fuelFor s) s a h.safe r2 r3
  refine ⟨E, w, h.work w (fun x hx => hx) (fun x hx => hx ▸ r1) ?_ fun x hx => h.sep x (List.mem_filter.1 hx).1⟩
  rintro x (hx | hx)
  · have := List.mem_filter.1 hx
    exact ⟨Or.inl this.1, by simpa using this.2⟩
  · exact ⟨Or.inr hx, fun e => h.sep a hraw (e ▸ hx)⟩

/-- a destructor table entry with fresh identities (`Op.dtor`) -/
theorem SInv.declare {g : Ghost} {s : St} (h : SInv g s) (q : Addr) {l : List DAlloc}
    (hfresh : ∀ d ∈ l, d.addr ∉ g.allocd) (hnd : (l.map (·.addr)).Nodup) :
    SInv { g with allocd := l.map (·.addr) ++ g.allocd } { s with dalloc := (q, l) :: s.dalloc } := by
  have hnew : ∀ x, x ∈ kidsOf (q, l) → x ∉ g.allocd := by
    intro x hx
    obtain ⟨d, hd, rfl⟩ := List.mem_map.1 hx
    exact hfresh d hd
  have hkids : ∀ x, Kids { s with dalloc := (q, l) :: s.dalloc } x → Kids s x ∨ x ∈ kidsOf (q, l) := by
    rintro x ⟨p, hp, hc, hx⟩
    rcases List.mem_cons.1 hp with rfl | hp
    · exact Or.inr hx
    · exact Or.inl ⟨p, hp, hc, hx⟩
  exact {
    safe := {
      inert := by
        rintro x (hx | hx)
        · exact h.safe.inert x (Or.inl hx)
        · exact (hkids x hx).elim (fun h' => h.safe.inert x (Or.inr h')) fun h' => h.fresh x (hnew x h')
      disj := h.safe.disj
      nodup := h.safe.nodup
      kids_untracked := fun x hx htx =>
        (hkids x hx).elim (fun h' => h.safe.kids_untracked x h' htx) fun h' => hnew x h' (h.tracked_alloc x htx)
      kids_nodup := by
        intro p hp
        rcases List.mem_cons.1 hp with rfl | hp
        · exact hnd
        · exact h.safe.kids_nodup p hp
      kids_disj := by
        intro p hp p' hp' hne x hx hx'
        rcases List.mem_cons.1 hp with rfl | hp <;> rcases List.mem_cons.1 hp' with rfl | hp'
        · exact hne rfl
        · exact hnew x hx (h.kids_alloc p' hp' x hx')
        · exact hnew x hx' (h.kids_alloc p hp x hx)
        · exact h.safe.kids_disj p hp p' hp' hne x hx hx' }
    total := h.total
    tracked_alloc := fun x hx => List.mem_append_right _ (h.tracked_alloc x hx)
    kids_alloc := by
      intro p hp x hx
      rcases List.mem_cons.1 hp with rfl | hp
      · exact List.mem_append_left _ hx
      · exact List.mem_append_right _ (h.kids_alloc p hp x hx)
    fresh := fun x hx => h.fresh x fun hh => hx (List.mem_append_right _ hh)
    loose := by
      intro x hx
      obtain ⟨r1, r2, r3⟩ := h.loose x hx
      refine ⟨List.mem_append_right _ r1, ?_, r3⟩
      rintro (hp | hp)
      · exact r2 (Or.inl hp)
      · exact (hkids x hp).elim (fun h' => r2 (Or.inr h')) fun h' => hnew x h' r1
    sep := h.sep }

/-- with the invariant, what `C06_ledger_only_grows` and `running_run` need of one operation: the ledger is extended, and
    `running` stays set unless the operation is `stop` -/
theorem sinv_step {g : Ghost} {s : St} (h : SInv g s) (op : Op) (hok : OpOk g op) :
    SInv (gstep g s op) (step Cfg.current s op) ∧ (∃ E, (step Cfg.current s op).log = s.log ++ E) ∧
      (op ≠ .stop → s.running = true → (step Cfg.current s op).running = true) := by
  have hframe : ∀ {A : Addr → Prop} {s' : St} {E : List Ev}, Work A s s' E →
      (∃ E, s'.log = s.log ++ E) ∧ (op ≠ .stop → s.running = true → s'.running = true) :=
    fun w => ⟨⟨_, w.log⟩, fun _ hr => w.running.trans hr⟩
  have hsame : ∀ {s' : St} {E : List Ev}, Work (fun _ => False) s s' E →
      SInv g s' ∧ (∃ E, s'.log = s.log ++ E) ∧ (op ≠ .stop → s.running = true → s'.running = true) :=
    fun w => ⟨h.work w (fun x hx => hx) (fun x hx => absurd hx id) (fun x hx => ⟨hx, id⟩) h.sep, hframe w⟩
  have hnil : ∃ E, s.log = s.log ++ E := ⟨[], (List.append_nil _).symm⟩
  obtain ⟨hcol, htear, hdel⟩ := step_safe (c := Cfg.current) rfl rfl s h.safe
  cases op with
  | stop => exact ⟨h.congr rfl rfl rfl rfl, hnil, fun hne => absurd rfl hne⟩
  | start => exact ⟨h.congr rfl rfl rfl rfl, hnil, fun _ _ => rfl⟩
  | delNull => exact hsame (Work.of_eff h.safe (Eff.maybe_null Cfg.current true s))
  | collect marks order => obtain ⟨E, w⟩ := hcol marks order; exact hsame w
  | teardown order => obtain ⟨E, w⟩ := htear order; exact hsame w
  | dealloc a k => obtain ⟨E, w, h1⟩ := h.release_raw a hok; exact ⟨h1, hframe w⟩
  | del a k =>
    cases k with
    | raw => obtain ⟨E, w, h1⟩ := h.release_raw a hok; exact ⟨h1, hframe w⟩
    | std => obtain ⟨E, w⟩ := hdel a .std (by simp); exact hsame w
    | root => obtain ⟨E, w⟩ := hdel a .root (by simp); exact hsame w
  | alloc a k marks order => obtain ⟨E, w, h1⟩ := h.allocBy a k marks order hok; exact ⟨h1, hframe w⟩
  | new a k owned marks order =>
    obtain ⟨E, w, h1⟩ := h.allocBy a k marks order hok
    -- stated for the state before the constructor's `owns` update, which has the same `log` and `running` by evaluation
    have hf := hframe w
    exact ⟨h1.congr rfl rfl rfl rfl, hf⟩
  | dtor q l => exact ⟨h.declare q hok.1 hok.2, hnil, fun _ h => h⟩
  | _ => exact ⟨h.congr rfl rfl rfl rfl, hnil, fun _ h => h⟩

theorem sinv_run : ∀ (ops : List Op) (g : Ghost) (s : St), SInv g s → WF g s ops →
    SInv (grun g s ops) (run Cfg.current s ops) ∧ ∃ E, (run Cfg.current s ops).log = s.log ++ E := by
  intro ops
  induction ops with
  | nil => intro g s h _; exact ⟨h, [], (List.append_nil _).symm⟩
  | cons op ops ih =>
    intro g s h hw
    obtain ⟨h1, ⟨E1, hE1⟩, _⟩ := sinv_step h op hw.1
    obtain ⟨h2, E2, hE2⟩ := ih _ _ h1 hw.2
    exact ⟨h2, E1 ++ E2, by rw [← List.append_assoc, ← hE1]; exact hE2⟩

theorem sinv_final (ops : List Op) (h : WellFormed ops) : SInv (ghost ops) (final ops) :=
  (sinv_run ops _ _ SInv.init h).1

theorem running_run : ∀ (ops : List Op) (g : Ghost) (s : St), SInv g s → WF g s ops →
    (∀ op ∈ ops, op ≠ Op.stop) → s.running = true → g.lost = [] →
    (run Cfg.current s ops).running = true ∧ (grun g s ops).lost = [] := by
  intro ops
  induction ops with
  | nil => intro g s _ _ _ hr hl; exact ⟨hr, hl⟩
  | cons op ops ih =>
    intro g s h hw hns hr hl
    obtain ⟨h1, _, h3⟩ := sinv_step h op hw.1
    exact ih _ _ h1 hw.2 (fun o ho => hns o (List.mem_cons_of_mem _ ho))
      (h3 (hns op List.mem_cons_self) hr) ((gstep_lost g op hr).trans hl)

/-- between two operations of a history in which no destructor allocates nothing has been left behind: an allocated
    object without a ledger event is still registered, raw or lost -/
structure Live (g : Ghost) (s : St) : Prop where
  pending : s.pending = []
  nodalloc : NoDAlloc s
  kept : ∀ a ∈ g.allocd, Clean a s.log → a ∈ s.regAddrs ∨ a ∈ g.rawLive ∨ a ∈ g.lost

theorem Live.init : Live Ghost.init St.init := ⟨rfl, rfl, fun _ ha => by cases ha⟩

theorem Live.congr {g : Ghost} {s s' : St} (l : Live g s) (hr : s'.reg = s.reg) (hp : s'.pending = s.pending)
    (hl : s'.log = s.log) (hd : s'.dalloc = s.dalloc) : Live g s' :=
  ⟨hp.trans l.pending, by unfold NoDAlloc; rw [hd]; exact l.nodalloc, by rw [St.regAddrs_congr hr, hl]; exact l.kept⟩

/-- collector work that gives every object it takes off the tables an event leaves nothing behind -/
theorem Live.eff {g : Ghost} {s s' : St} {D : List Addr} {E : List Ev} (l : Live g s) (he : Eff s s' D E)
    (hD : ∀ d ∈ D, ¬ Clean d E) : Live g s' where
  pending := by rw [he.pending, l.pending]; rfl
  nodalloc := he.nodalloc l.nodalloc
  kept := by
    intro a ha hc
    rw [he.log, clean_append] at hc
    exact (l.kept a ha hc.1).imp_left fun h => he.mem_regAddrs.2 ⟨h, fun hd => hD a hd hc.2⟩

/-- a raw object that has an event is the program's no longer -/
theorem Live.drop_raw {g : Ghost} {s : St} (l : Live g s) {a : Addr} (ha : ¬ Clean a s.log) :
    Live { g with rawLive := g.rawLive.filter (fun x => x != a) } s :=
  ⟨l.pending, l.nodalloc, fun x hx hc => (l.kept x hx hc).imp_right
    (Or.imp_left fun hr => List.mem_filter.2 ⟨hr, by simpa using fun e : x = a => ha (e ▸ hc)⟩)⟩

/-- an allocation: the new identity is registered, raw or lost; nothing else changes hands -/
theorem Live.alloc {g g' : Ghost} {s s' : St} {a : Addr} (l : Live g s)
    (ha : ∀ x ∈ g'.allocd, x = a ∨ x ∈ g.allocd) (hnew : a ∈ s'.regAddrs ∨ a ∈ g'.rawLive ∨ a ∈ g'.lost)
    (hreg : ∀ x ∈ s.regAddrs, x ∈ s'.regAddrs) (hraw : ∀ x ∈ g.rawLive, x ∈ g'.rawLive) (hlost : ∀ x ∈ g.lost, x ∈ g'.lost)
    (hp : s'.pending = s.pending) (hl : s'.log = s.log) (hd : s'.dalloc = s.dalloc) : Live g' s' where
  pending := hp.trans l.pending
  nodalloc := by unfold NoDAlloc; rw [hd]; exact l.nodalloc
  kept := by
    intro x hx hc
    rcases ha x hx with rfl | hx
    · exact hnew
    · exact (l.kept x hx (hl ▸ hc)).imp (hreg x) (Or.imp (hraw x) (hlost x))

theorem Live.sweep {g : Ghost} {s : St} (l : Live g s) (hn : s.regAddrs.Nodup) (marks order : List Addr) :
    Live g (sweep Cfg.current s marks order) := by
  obtain ⟨D, E, he, hg, _⟩ := sweep_spec s marks order l.pending hn l.nodalloc
  exact l.eff he hg.not_clean

theorem Live.gcRem {g : Ghost} {s : St} (l : Live g s) (a : Addr) :
    Live g (gcRem (finalise (fuelFor s) Cfg.current) Cfg.current s a) := by
  obtain ⟨D, E, he, hg, _⟩ := gcRem_fuelFor l.pending l.nodalloc a
  exact l.eff he hg.not_clean

theorem Live.release_raw {g : Ghost} {s : St} (l : Live g s) (a : Addr) :
    Live { g with rawLive := g.rawLive.filter (fun x => x != a) } (finalise (fuelFor s) Cfg.current s a) := by
  obtain ⟨D, E, he, hg, _⟩ := finalise_fuelFor l.pending l.nodalloc a
  refine (l.eff he fun d hd hc => hg.not_clean d hd ?_).drop_raw ?_
  · rw [clean_cons_fin, clean_append] at hc; exact hc.2.1
  · rw [he.log]; exact fun hc => (clean_append.1 hc).2.1 List.mem_cons_self

theorem Live.allocBy {g : Ghost} {s : St} (h : SInv g s) (l : Live g s) (a : Addr) (k : Kind) (marks order : List Addr)
    (hok : a ∉ g.allocd) : Live (galloc g s a k) (allocBy Cfg.current s a k marks order) := by
  have hcons : ∀ x ∈ a :: g.allocd, x = a ∨ x ∈ g.allocd := fun x hx => List.mem_cons.1 hx
  by_cases hk : k = .raw
  · subst hk
    exact l.alloc hcons (Or.inr (Or.inl List.mem_cons_self)) (fun _ h => h)
      (fun _ h => List.mem_cons_of_mem _ h) (fun _ h => h) rfl rfl rfl
  rw [allocBy_registers _ _ _ hk]
  by_cases hrun : s.running = true
  · rw [galloc_running g a hk hrun, gcSet_running hrun]
    have l1 : Live { g with allocd := a :: g.allocd } { s with reg := s.reg ++ [⟨a, k == .root⟩] } :=
      l.alloc hcons (Or.inl (mem_regAddrs_register.2 (Or.inr rfl)))
        (fun x hx => mem_regAddrs_register.2 (Or.inl hx)) (fun _ h => h) (fun _ h => h) rfl rfl rfl
    split
    · exact l1.sweep (nodup_regAddrs_register h.safe.nodup (fun hr => hok (h.tracked_alloc a (Or.inr hr))) _) _ order
    · exact l1
  · have hrun' : s.running = false := by simpa using hrun
    rw [galloc_stopped g a hk hrun', gcSet_stopped hrun']
    exact l.alloc hcons (Or.inr (Or.inr List.mem_cons_self)) (fun _ h => h)
      (fun _ h => h) (fun _ h => List.mem_cons_of_mem _ h) rfl rfl rfl

theorem live_step {g : Ghost} {s : St} (h : SInv g s) (l : Live g s) (op : Op) (hok : OpOk g op) (hnd : op.isDtor = false) :
    Live (gstep g s op) (step Cfg.current s op) := by
  cases op with
  | dtor a l => cases hnd
  | delNull => exact l.eff (Eff.maybe_null Cfg.current true s) fun _ hd => nomatch hd
  | collect marks order => exact l.sweep h.safe.nodup _ order
  | teardown order => exact l.sweep h.safe.nodup _ order
  | dealloc a k => exact l.release_raw a
  | del a k =>
    cases k with
    | raw => exact l.release_raw a
    | _ => exact l.gcRem a
  | alloc a k marks order => exact l.allocBy h a k marks order hok
  | new a k owned marks order => exact (l.allocBy h a k marks order hok).congr rfl rfl rfl rfl
  | _ => exact l.congr rfl rfl rfl rfl

theorem live_run : ∀ (ops : List Op) (g : Ghost) (s : St), SInv g s → Live g s → WF g s ops → NoDtor ops →
    Live (grun g s ops) (run Cfg.current s ops) := by
  intro ops
  induction ops with
  | nil => intro g s _ l _ _; exact l
  | cons op ops ih =>
    intro g s h l hw hnd
    exact ih _ _ (sinv_step h op hw.1).1 (live_step h l op hw.1 hnd.head) hw.2 hnd.tail

theorem live_final (ops : List Op) (h : WellFormed ops) (hnd : NoDtor ops) : Live (ghost ops) (final ops) :=
  live_run ops _ _ SInv.init Live.init h hnd

/-- the two halves side by side; `C06_teardown_classification` is this after a teardown -/
theorem final_classified (ops : List Op) (h : WellFormed ops) (hnd : NoDtor ops) {a : Addr} (ha : a ∈ (ghost ops).allocd) :
    Once a (final ops).log ∨ a ∈ (final ops).regAddrs ∨ a ∈ (ghost ops).rawLive ∨ a ∈ (ghost ops).lost :=
  ((sinv_final ops h).total a).symm.imp_right ((live_final ops h hnd).kept a ha)

/-- the state between two operations: nothing pending; a registered object (`reg`), a raw object not yet released or an
    object lost to a stopped collector (`loose`) and an identity not yet allocated (`fresh`) have no ledger event; every
    other allocated object has been finalised exactly once (`done`) -/
structure Inv (g : Ghost) (s : St) : Prop where
  pending : s.pending = []
  nodup : s.regAddrs.Nodup
  reg : ∀ a ∈ s.regAddrs, a ∈ g.allocd ∧ a ∉ g.rawLive ∧ a ∉ g.lost ∧ Clean a s.log
  loose : ∀ a, a ∈ g.rawLive ∨ a ∈ g.lost → a ∈ g.allocd ∧ a ∉ s.regAddrs ∧ Clean a s.log
  done : ∀ a ∈ g.allocd, a ∉ s.regAddrs → a ∉ g.rawLive → a ∉ g.lost → Once a s.log
  fresh : ∀ a, a ∉ g.allocd → Clean a s.log
  sep : ∀ a ∈ g.rawLive, a ∉ g.lost
  nodalloc : NoDAlloc s

theorem Inv.of_sinv {g : Ghost} {s : St} (h : SInv g s) (l : Live g s) : Inv g s where
  pending := l.pending
  nodup := h.safe.nodup
  reg := fun a ha =>
    have hp : Pot s a := Or.inl (Or.inr ha)
    ⟨h.pot_alloc hp, fun hr => (h.loose a (Or.inl hr)).2.1 hp, fun hl => (h.loose a (Or.inr hl)).2.1 hp, h.safe.inert a hp⟩
  loose := fun a ha => (h.loose a ha).imp_right (·.imp_left fun r2 hreg => r2 (Or.inl (Or.inr hreg)))
  done := fun a ha h2 h3 h4 => (h.total a).resolve_left fun hc => (l.kept a ha hc).elim h2 fun h => h.elim h3 h4
  fresh := h.fresh
  sep := h.sep
  nodalloc := l.nodalloc

theorem inv_final (ops : List Op) (h : WellFormed ops) (hnd : NoDtor ops) : Inv (ghost ops) (final ops) :=
  Inv.of_sinv (sinv_final ops h) (live_final ops h hnd)

theorem Inv.sweep {g : Ghost} {s : St} (h : Inv g s) (marks order : List Addr) :
    SweepSpec s marks (sweep Cfg.current s marks order) :=
  sweep_spec s marks order h.pending h.nodup h.nodalloc

theorem gcRem_registered {g : Ghost} {s : St} (hI : Inv g s) (b : Addr) (hrun : s.running = true) (hb : b ∈ s.regAddrs) :
    Once b (gcRem (finalise (fuelFor s) Cfg.current) Cfg.current s b).log ∧
    b ∉ (gcRem (finalise (fuelFor s) Cfg.current) Cfg.current s b).regAddrs ∧
    ∀ x ∈ s.ownsOf b, x ∈ s.regAddrs →
      Once x (gcRem (finalise (fuelFor s) Cfg.current) Cfg.current s b).log ∧
      x ∉ (gcRem (finalise (fuelFor s) Cfg.current) Cfg.current s b).regAddrs := by
  obtain ⟨D, E, he, hg, _, _, hc, hk⟩ := gcRem_fuelFor hI.pending hI.nodalloc b
  have hbD : b ∈ D := hc b (List.mem_singleton.2 rfl) ⟨hrun, Or.inr hb⟩
  have key : ∀ d ∈ D, d ∈ s.regAddrs → Once d (gcRem (finalise (fuelFor s) Cfg.current) Cfg.current s b).log ∧
      d ∉ (gcRem (finalise (fuelFor s) Cfg.current) Cfg.current s b).regAddrs := by
    intro d hd hdreg
    refine ⟨?_, ?_⟩
    · rw [he.log]; exact Once.append_left (hI.reg d hdreg).2.2.2 (hg.once d hd)
    · exact fun h => (he.mem_regAddrs.1 h).2 hd
  exact ⟨(key b hbD hb).1, (key b hbD hb).2, fun x hx hxreg => key x (hk hrun b hbD x hx (Or.inr hxreg)) hxreg⟩

theorem Inv.release_raw {g : Ghost} {s : St} (hI : Inv g s) (a : Addr) (hraw : a ∈ g.rawLive) :
    Once a (finalise (fuelFor s) Cfg.current s a).log := by
  obtain ⟨D, E, he, hg, ht, _⟩ := finalise_fuelFor hI.pending hI.nodalloc a
  obtain ⟨_, hareg, hcl⟩ := hI.loose a (Or.inl hraw)
  rw [he.log]
  exact Once.append_left hcl (Once.own_bracket (hg.clean a fun hd => (ht a hd).elim (by simp [hI.pending]) hareg))

end Cello.Life

