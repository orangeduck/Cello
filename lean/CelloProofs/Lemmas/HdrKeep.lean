/-
  Lemmas for C19: no operation of the model ever changes the header or the reserved size of an existing object, and an
  object whose class is not `heap` is never released (`Stable`).  Purely structural: no assumption on the configuration.
-/
import CelloProofs.Lemmas.HdrMoves
import CelloProofs.Lemmas.Hdr

namespace Cello.Hdr

variable {cfg : Config}

/-- `o'` is `o` later: same header, same reserved bytes; if `o` is not a heap object it is as alive as before -/
def Keeps (cfg : Config) (o o' : Obj) : Prop :=
  o'.hdr = o.hdr ∧ o'.cap = o.cap ∧ (o.hdr.alloc ≠ cfg.cHeap → o'.live = o.live)

theorem keeps_refl (o : Obj) : Keeps cfg o o := ⟨rfl, rfl, fun _ => rfl⟩

theorem keeps_trans {a b c : Obj} (h1 : Keeps cfg a b) (h2 : Keeps cfg b c) : Keeps cfg a c :=
  ⟨h2.1.trans h1.1, h2.2.1.trans h1.2.1, fun hn => (h2.2.2 (by rw [h1.1]; exact hn)).trans (h1.2.2 hn)⟩

def Stable (cfg : Config) (s s' : St) : Prop := ∀ id o, s.get id = some o → ∃ o', s'.get id = some o' ∧ Keeps cfg o o'

theorem stable_refl (s : St) : Stable cfg s s := fun _ o h => ⟨o, h, keeps_refl o⟩

theorem stable_trans {a b c : St} (h1 : Stable cfg a b) (h2 : Stable cfg b c) : Stable cfg a c := by
  intro id o h
  obtain ⟨o1, g1, k1⟩ := h1 id o h
  obtain ⟨o2, g2, k2⟩ := h2 id o1 g1
  exact ⟨o2, g2, keeps_trans k1 k2⟩

theorem stable_updBody (s : St) (id : Nat) (f : Body → Body) : Stable cfg s (s.updBody id f) := by
  intro k o h
  rw [get_updBody, h]
  by_cases hk : k = id
  · exact ⟨{ o with body := f o.body }, by simp [hk], rfl, rfl, fun _ => rfl⟩
  · exact ⟨o, by simp [hk], keeps_refl o⟩

/-- `get` finds the first entry of a handle: entries added at the end hide nothing -/
theorem stable_of_append {s s' : St} (l : List (Nat × Obj)) (h : s'.objs = s.objs ++ l) : Stable cfg s s' := by
  intro k o hg
  refine ⟨o, ?_, keeps_refl o⟩
  simp only [St.get] at *
  rw [h, assoc_append, hg]

theorem stable_of_objs {s s' : St} (h : s'.objs = s.objs) : Stable cfg s s' :=
  stable_of_append [] (by rw [h, List.append_nil])

theorem stable_unreg (s : St) (id : Nat) : Stable cfg s (s.unreg id) := stable_of_objs rfl

theorem stable_rtSizes (s : St) (x : List (Nat × Nat)) : Stable cfg s { s with rtSizes := x } := stable_of_objs rfl

theorem stable_release {s : St} {id : Nat} {o : Obj} (hget : s.get id = some o) (hheap : o.hdr.alloc = cfg.cHeap) :
    Stable cfg s (s.release id) := by
  intro k o' h
  rw [get_release, h]
  by_cases hk : k = id
  · subst hk
    rw [hget] at h; cases h
    exact ⟨{ o with live := false }, by simp, rfl, rfl, fun hn => absurd hheap hn⟩
  · exact ⟨o', by simp [hk], keeps_refl o'⟩

theorem stable_addObj {s : St} (id : Nat) (o : Obj) : Stable cfg s { s with objs := s.objs ++ [(id, o)] } :=
  stable_of_append _ rfl

theorem stable_birth (s : St) (id : Nat) (r : Route) (ty : Ty) (b : Body) : Stable cfg s (s.birth cfg id r ty b) :=
  stable_of_append _ rfl

/-- `dealloc` looks at the header only -/
theorem stable_dealloc {s : St} {id : Nat} {o o' : Obj} (hget : s.get id = some o) (hh : o'.hdr = o.hdr) :
    Stable cfg s (dealloc cfg s id o').1 := by
  rcases dealloc_state cfg s id o' with e | ⟨hheap, e⟩ <;> rw [e]
  · exact stable_refl s
  · exact stable_release hget (hh ▸ hheap)

theorem stable_destruct_dealloc {s : St} {id : Nat} {o : Obj} (hget : s.get id = some o) (b : Body) :
    Stable cfg s (dealloc cfg (s.updBody id (fun _ => b)) id { o with body := b }).1 := by
  refine stable_trans (stable_updBody s id _) (stable_dealloc ?_ rfl)
  rw [get_updBody, hget]; simp

theorem stable_setPending (s : St) (p : List (Option Nat)) : Stable cfg s { s with pending := p } := stable_of_objs rfl

theorem stable_setReg (s : St) (r : List (Nat × Bool)) : Stable cfg s { s with reg := r } := stable_of_objs rfl

/-- a call that may raise, followed by one more step when it did not -/
theorem stable_then {fin : St → Nat → St × Outcome} (hfin : ∀ s x, Stable cfg s (fin s x).1) (s : St) (x : Nat)
    {r : St × Outcome} {g : St → St} (hg : ∀ t, Stable cfg t (g t))
    (hr : r = (match fin s x with | (s1, .ok) => (g s1, Outcome.ok) | r => r)) : Stable cfg s r.1 := by
  subst hr
  split
  · rename_i s1 heq
    have h := hfin s x
    rw [heq] at h
    exact stable_trans h (hg s1)
  · exact hfin s x

theorem stable_gcRem {fin : St → Nat → St × Outcome} (hfin : ∀ s x, Stable cfg s (fin s x).1) (s : St) (x : Nat) :
    Stable cfg s (gcRem fin cfg s x).1 := by
  unfold gcRem
  split
  · split
    · split
      · exact stable_trans (stable_setPending s _) (hfin _ _)
      · exact stable_then hfin s x (g := fun t => { t with pending := strike x t.pending }) (fun t => stable_setPending t _) rfl
      · exact hfin s x
    · split
      · exact stable_refl s
      · exact stable_setPending s _
  · split
    · split
      · exact stable_trans (stable_unreg s x) (hfin _ _)
      · exact stable_then hfin s x (g := fun t => t.unreg x) (fun t => stable_unreg t x) rfl
      · exact hfin s x
    · exact stable_refl s

theorem stable_finalise : ∀ (fuel : Nat) (s : St) (id : Nat), Stable cfg s (finalise fuel cfg s id).1 := by
  intro fuel
  induction fuel with
  | zero => intro s id; exact stable_refl s
  | succ fuel ih =>
    intro s id
    rw [finalise_succ]
    split
    · exact stable_refl s
    · rename_i o hget
      split
      · exact stable_refl s
      · split
        · rename_i x hbx
          split
          · split
            · rename_i s1 heq
              have h1 : Stable cfg s s1 := by
                have := stable_gcRem (cfg := cfg) ih s x
                rw [heq] at this; exact this
              split
              · obtain ⟨o1, hg1, k1⟩ := h1 id o hget
                refine stable_trans h1 (stable_trans (stable_updBody s1 id _) (stable_dealloc (o := { o1 with body := .box none }) ?_ k1.1.symm))
                rw [get_updBody, hg1]; simp
              · exact h1
            · exact stable_gcRem ih s x
          · exact stable_destruct_dealloc hget _
        · cases hdb : destructBody cfg o.hdr o.body with
          | mk b out =>
            cases out with
            | ok => exact stable_destruct_dealloc hget b
            | raised e => exact stable_refl s
            | ub => exact stable_refl s

theorem stable_destructObj {s : St} {id : Nat} {o : Obj} : Stable cfg s (destructObj cfg s id o).1 := by
  unfold destructObj
  split
  · rename_i x _
    split
    · have ht := stable_gcRem (cfg := cfg) (stable_finalise (fuelFor s)) s x
      split
      · rename_i s1 heq
        rw [heq] at ht
        exact stable_trans ht (stable_updBody s1 id _)
      · exact ht
    · exact stable_updBody s id _
  · exact stable_updBody s id _

theorem stable_freeObj {s : St} (f : FreeOp) {id : Nat} {o : Obj} (hget : s.get id = some o) :
    Stable cfg s (freeObj cfg s f id o).1 := by
  cases f with
  | dealloc | deallocRaw | deallocRoot => exact stable_dealloc hget rfl
  | destruct => simp only [freeObj]; exact stable_destructObj
  | delRaw =>
    simp only [freeObj]
    split
    · exact stable_dealloc hget rfl
    · exact stable_finalise _ s id
  | del | delRoot =>
    simp only [freeObj]
    split
    · exact stable_gcRem (stable_finalise _) s id
    · exact stable_finalise _ s id

theorem stable_sweepLoop (fuel : Nat) : ∀ (todo : List Nat) (s : St), Stable cfg s (sweepLoop fuel cfg todo s).1 := by
  intro todo
  induction todo with
  | nil => intro s; exact stable_refl s
  | cons a rest ih =>
    intro s
    rw [sweepLoop]
    split
    · split
      · -- the loop finalises
        have hfin : ∀ (t : St) (x : Nat), Stable cfg t (finalise fuel cfg t x).1 := fun t x => stable_finalise fuel t x
        have hr : ∀ r : St × Outcome, Stable cfg s r.1 →
            Stable cfg s (match r with | (s', Outcome.ok) => sweepLoop fuel cfg rest s' | r => r).1 := by
          intro r h
          split
          · exact stable_trans h (ih _)
          · exact h
        apply hr
        split
        · exact stable_trans (stable_setPending s _) (hfin _ _)
        · exact stable_then hfin s a (g := fun t => { t with pending := strike a t.pending }) (fun t => stable_setPending t _) rfl
        · exact hfin s a
      · split
        · exact ih s
        · exact stable_trans (stable_setPending s _) (ih _)
    · exact ih s

theorem stable_collect (s : St) (vs : List Nat) : Stable cfg s (s.collect cfg vs).1 := by
  unfold St.collect
  simp only
  generalize hs1 : ({ s with reg := s.reg.filter (fun p => !vs.contains p.1), pending := vs.map some } : St) = s1
  have h1 : Stable cfg s s1 := hs1 ▸ stable_of_objs rfl
  have h2 := stable_sweepLoop (cfg := cfg) (fuelFor s1) vs s1
  split
  · rename_i s2 heq
    rw [heq] at h2
    exact stable_trans h1 (stable_trans h2 (stable_setPending s2 _))
  · exact stable_trans h1 h2

theorem stable_does {s s' : St} {op : Op} {obs : Obs} (m : Does cfg s op (s', obs)) : Stable cfg s s' := by
  cases m with
  | same => exact stable_refl s
  | make hfresh hb x => exact stable_trans (stable_birth s _ _ _ _) (stable_rtSizes _ x)
  | static hfresh => exact stable_addObj _ _
  | copy hfresh _ hcp => exact stable_birth s _ _ _ _
  | free hget hlive hskip => exact stable_freeObj _ hget
  | elem he hh => exact stable_updBody s _ _
  | inplace hget hip => exact stable_updBody s _ _
  | own id v => exact stable_updBody s id _
  | sweep how victims order => exact stable_collect s _

theorem stable_step (s : St) (op : Op) : Stable cfg s (step cfg s op).1 :=
  stable_does (step_does s op)

theorem stable_run (ops : List Op) : ∀ s : St, Stable cfg s (run cfg s ops) := by
  induction ops with
  | nil => intro s; exact stable_refl s
  | cons op r ih => intro s; exact stable_trans (stable_step s op) (ih _)

end Cello.Hdr
