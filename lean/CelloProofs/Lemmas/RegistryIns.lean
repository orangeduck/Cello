/-
  GC_Set_Ptr on a table that does not hold the pointer: its loop, early return on an equal pointer included, is an
  insertion loop (`RH.InsLoop`, Lemmas/RHIns.lean).  GC_Rehash is a fold of GC_Set_Ptr over the old entries in slot order.
-/
import Cello.Registry
import CelloProofs.Lemmas.RHIns
namespace Cello.Registry
open RH

theorem insLoop_setPtrLoop {n : Nat} (ge : Bool) : InsLoop ge (fun s => s) (setPtrLoop (n := n) ge) := by
  refine ⟨?_, ?_, ?_⟩
  · intro fuel s c i j hi h; simp only [setPtrLoop, h]
  · intro fuel s c i j hi r h hk hc; simp only [setPtrLoop, h, if_neg hk, if_pos hc]
  · intro fuel s c i j hi r h hk hc; simp only [setPtrLoop, h, if_neg hk, if_neg hc]

/-- one empty slot is enough: the loop stops there.  That an empty slot is left AFTER the insertion is what the next probe
    needs (`Inv`), and what GC_Resize_More provides. -/
theorem setPtr_spec {n : Nat} (c : Cfg) (s : Slots Nat Payload n) (inv : Inv0 (hashOf c) s) (p : Nat) (root : Bool)
    (hfresh : ∀ q (hq : q < n) e, s[q] = some e → e.key ≠ p) (hroom : occ s < n) :
    ∃ s', setPtr c s p root = some s' ∧ Inv0 (hashOf c) s' ∧
      (∀ e, Mem s' e ↔ Mem s e ∨ e = ⟨p, hashOf c p % n, ⟨root, false⟩⟩) ∧ occ s' = occ s + 1 := by
  obtain ⟨z, hz, hze⟩ := exists_empty_of_occ_lt s hroom
  have hn : 0 < n := Nat.zero_lt_of_lt hz
  have hhome : hashOf c p % n < n := Nat.mod_lt _ hn
  rw [setPtr, dif_pos hn]
  exact (insLoop_setPtrLoop c.tieGe).spec (hashOf c) n s _ _ 0 z hhome
    (Pending.start inv ⟨p, hashOf c p % n, ⟨root, false⟩⟩ rfl hfresh hz hze) (dist_lt hz hhome)

/-- an old entry as GC_Rehash re-inserts it into a table of `m` slots -/
def rehome (c : Cfg) (m : Nat) (e : Ent) : Ent := ⟨e.key, hashOf c e.key % m, ⟨e.val.root, false⟩⟩

/-- the loop over the old slots is a fold of GC_Set_Ptr over the entries in them (`RH.entries` of the old array) -/
theorem reinsert_spec {m : Nat} (c : Cfg) :
    ∀ (es : List (Option Ent)) (t : Slots Nat Payload m),
      Inv0 (hashOf c) t →
      ((es.filterMap id).map (·.key)).Nodup →
      (∀ ea ∈ es.filterMap id, ∀ q (hq : q < m) e, t[q] = some e → e.key ≠ ea.key) →
      occ t + (es.filterMap id).length ≤ m →
      ∃ t', reinsert c es t = some t' ∧ Inv0 (hashOf c) t' ∧
        (∀ e', Mem t' e' ↔ Mem t e' ∨ ∃ ea ∈ es.filterMap id, e' = rehome c m ea) ∧
        occ t' = occ t + (es.filterMap id).length := by
  intro es
  induction es with
  | nil => intro t inv _ _ _; exact ⟨t, rfl, inv, by simp, rfl⟩
  | cons a es ih =>
    cases a with
    | none => exact ih
    | some ea =>
      intro t inv hnd hfresh hroom
      have hl : (some ea :: es).filterMap id = ea :: es.filterMap id := rfl
      simp only [hl, List.map_cons, List.nodup_cons, List.length_cons, List.forall_mem_cons] at hnd hfresh hroom ⊢
      obtain ⟨t1, hs1, inv1, hmem1, hocc1⟩ := setPtr_spec c t inv ea.key ea.val.root hfresh.1 (by omega)
      have hfresh1 : ∀ eb ∈ es.filterMap id, ∀ q (hq : q < m) e, t1[q] = some e → e.key ≠ eb.key := by
        intro eb heb q hq e he
        rcases (hmem1 e).1 ⟨q, hq, he⟩ with ⟨q', hq', he'⟩ | rfl
        · exact hfresh.2 eb heb q' hq' e he'
        · exact fun hk => hnd.1 (List.mem_map.2 ⟨eb, heb, hk.symm⟩)
      obtain ⟨t', h1, h2, h3, h4⟩ := ih t1 inv1 hnd.2 hfresh1 (by omega)
      refine ⟨t', by simp only [reinsert, hs1]; exact h1, h2, fun e' => ?_, by rw [h4, hocc1]; omega⟩
      rw [h3 e', hmem1 e', or_assoc]
      simp only [List.mem_cons, exists_eq_or_imp]
      rfl

theorem rehash_spec (c : Cfg) (r : Reg) (inv : Inv0 (hashOf c) r.slots) (newSize : Nat) (hroom : occ r.slots ≤ newSize) :
    ∃ t : Slots Nat Payload newSize, rehash c r newSize = some { r with n := newSize, slots := t } ∧ Inv0 (hashOf c) t ∧
      (∀ e', Mem t e' ↔ ∃ e, Mem r.slots e ∧ e' = rehome c newSize e) ∧ occ t = occ r.slots := by
  have hlen : (r.slots.toList.filterMap id).length = occ r.slots := length_entries r.slots
  obtain ⟨t, h1, h2, h3, h4⟩ := reinsert_spec c r.slots.toList (Vector.replicate newSize none)
    (inv0_replicate_none _) (nodup_keys_entries inv) (fun _ _ q hq e he => by simp at he)
    (by rw [occ_replicate_none, hlen]; omega)
  refine ⟨t, by unfold rehash; rw [h1], h2, fun e' => ?_, by rw [h4, occ_replicate_none, hlen, Nat.zero_add]⟩
  rw [h3 e', or_iff_right (not_mem_replicate_none e')]
  exact exists_congr fun e => and_congr_left' (mem_entries r.slots e)

end Cello.Registry
