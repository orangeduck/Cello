/-
  The extracted loops of the container Mark instances (`CelloGen.GcWalk`: `CountLoop` of Array_Mark / Table_Mark, `PtrLoop` of List_Mark,
  `SentLoop` of Tuple_Mark), run by Cello/HeapWalk.lean: a loop of the complete shape visits every position of the block exactly once, in
  order (C01).  Last: the bound updates of `GC_Set` (`boundStep`) are `max` / `min`, and each of the two loops of `GC_Mark_Stack`
  (`scanLoop`) visits, when its guard holds, every word between its ends, both included.
-/
import Cello.HeapWalk

namespace CelloGen.GcWalk

/-- a loop that runs its body with `i`, `i+1`, … while `i < n`, on enough fuel: the positions `i`, …, `n - 1`, in order -/
theorem go_eq_range' (go : Nat → Nat → List Nat) (n : Nat) (h0 : ∀ i, go 0 i = [])
    (hs : ∀ f i, i ≤ n → go (f + 1) i = if i < n then i :: go f (i + 1) else []) :
    ∀ f i, i ≤ n → n - i ≤ f → go f i = List.range' i (n - i) := by
  intro f
  induction f with
  | zero => intro i _ h; simp [h0, show n - i = 0 by omega]
  | succ f ih =>
    intro i hi hf
    rw [hs f i hi]
    split
    · rw [ih (i + 1) (by omega) (by omega), show n - i = (n - (i + 1)) + 1 by omega, List.range'_succ]
    · simp [show n - i = 0 by omega]

theorem CountLoop.go_complete (L : CountLoop) (h1 : L.step = 1) (hc : L.cmp = .lt ∨ L.cmp = .ne) (n : Nat) :
    ∀ f i, i ≤ n → n - i < f → CountLoop.go L n f i = List.range' i (n - i) := by
  have hs : ∀ f i, i ≤ n → CountLoop.go L n (f + 1) i = if i < n then i :: CountLoop.go L n f (i + 1) else [] := by
    intro f i hi
    have ht : L.cmp.test i n = decide (i < n) := by
      rcases hc with hc | hc <;> rw [hc]
      · rfl
      · rw [Bool.eq_iff_iff]; simp [LCmp.test]; omega
    simp [CountLoop.go, ht, h1]
  exact fun f i hi hf => go_eq_range' _ n (fun _ => rfl) hs f i hi (by omega)

theorem CountLoop.visits_complete (L : CountLoop) (h : L.Complete) (n : Nat) : L.visits n = List.range n := by
  obtain ⟨h0, h1, h2, hc⟩ := h
  unfold CountLoop.visits CountLoop.bound
  rw [h2, h0, if_pos (Nat.zero_le n), Nat.sub_zero, CountLoop.go_complete L h1 hc n (n + 2) 0 (Nat.zero_le n) (by omega)]
  simp [List.range_eq_range']

theorem PtrLoop.go_complete (L : PtrLoop) (h : L.Complete) (n : Nat) :
    ∀ f i, i < n → n - i ≤ f → PtrLoop.go L n f (some i) = List.range' i (n - i) := by
  obtain ⟨_, hc, ha⟩ := h
  -- the link of the last cell is NULL: the loop on `some i` / `none` is the counting loop on `i < n`
  have := go_eq_range' (fun f i => PtrLoop.go L n f (if i < n then some i else none)) n (fun _ => rfl) fun f i _ => by
    by_cases hi : i < n
    · simp [PtrLoop.go, hc, ha, hi, PtrLoop.nextOf]
    · simp [PtrLoop.go, hi]
  intro f i hi hf
  simpa [hi] using this f i (by omega) hf

theorem PtrLoop.visits_complete (L : PtrLoop) (h : L.Complete) (n : Nat) : L.visits n = List.range n := by
  unfold PtrLoop.visits
  by_cases hn : n = 0
  · subst hn; simp [PtrLoop.go]
  · rw [if_neg hn, h.1, if_pos rfl, PtrLoop.go_complete L h n (n + 1) 0 (by omega) (by omega)]
    simp [List.range_eq_range']

theorem SentLoop.go_complete (L : SentLoop) (h1 : L.step = 1) (n : Nat) :
    ∀ f i, i ≤ n → n - i < f → SentLoop.go L n f i = List.range' i (n - i) :=
  fun f i hi hf => go_eq_range' _ n (fun _ => rfl) (fun f i _ => by simp [SentLoop.go, h1]) f i hi (by omega)

theorem SentLoop.visits_complete (L : SentLoop) (h : L.Complete) (n : Nat) : L.visits n = List.range n := by
  unfold SentLoop.visits
  rw [h.1, SentLoop.go_complete L h.2 n (n + 1) 0 (Nat.zero_le n) (by omega)]
  simp [List.range_eq_range']

end CelloGen.GcWalk

namespace Cello.Heap.Walk
open CelloGen.GcWalk

theorem range_flatMap_get {α β : Type} (l : List α) (g : Option α → List β) :
    (List.range l.length).flatMap (fun i => g l[i]?) = l.flatMap (fun x => g (some x)) := by
  induction l with
  | nil => simp
  | cons x xs ih =>
    rw [List.length_cons, List.range_succ_eq_map, List.flatMap_cons, List.flatMap_cons, List.flatMap_map]
    simp only [List.getElem?_cons_zero, List.getElem?_cons_succ]
    rw [ih]

theorem arrayPresented_all (L : CountLoop) (h : L.Complete) (hp : L.presents = [.item]) (es : List Obj) :
    arrayPresented L es = es := by
  unfold arrayPresented
  rw [L.visits_complete h, range_flatMap_get es (itemOut L)]
  induction es with
  | nil => rfl
  | cons x xs ih => rw [List.flatMap_cons, ih]; simp [itemOut, hp]

theorem tablePresented_all (L : CountLoop) (h : L.Complete) (hp : L.presents = [.key, .val]) (slots : List Slot) :
    tablePresented L slots = tableElems slots := by
  unfold tablePresented tableElems
  rw [L.visits_complete h, range_flatMap_get slots (slotOut L)]
  congr 1
  funext s
  cases s with
  | none => rfl
  | some kv => simp [slotOut, slotParts, hp]

theorem boundStep_max (key cur : Nat) : boundStep ">" key cur = max cur key := by
  unfold boundStep
  simp
  by_cases h : cur < key <;> simp [h] <;> omega

theorem boundStep_min (key cur : Nat) : boundStep "<" key cur = min cur key := by
  unfold boundStep
  simp
  by_cases h : key < cur <;> simp [h] <;> omega

/-- `if (bot > top) for (p = top; p <= bot; p += 1)` -/
theorem mem_scanLoop_up {top bot w : Nat} (h : top < bot) (hlo : top ≤ w) (hhi : w ≤ bot) :
    w ∈ scanLoop (">", "top", "<=", "bot", "+") top bot := by
  rw [show scanLoop (">", "top", "<=", "bot", "+") top bot = (List.range (bot - top + 1)).map (fun j => top + j) by simp [scanLoop, h],
    List.mem_map]
  exact ⟨w - top, List.mem_range.mpr (by omega), by omega⟩

/-- `if (bot < top) for (p = top; p >= bot; p -= 1)` -/
theorem mem_scanLoop_down {top bot w : Nat} (h : bot < top) (hlo : bot ≤ w) (hhi : w ≤ top) :
    w ∈ scanLoop ("<", "top", ">=", "bot", "-") top bot := by
  rw [show scanLoop ("<", "top", ">=", "bot", "-") top bot = (List.range (top - bot + 1)).map (fun j => top - j) by simp [scanLoop, h],
    List.mem_map]
  exact ⟨top - w, List.mem_range.mpr (by omega), by omega⟩

end Cello.Heap.Walk
