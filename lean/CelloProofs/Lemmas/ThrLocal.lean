/-
  C13 (threads), one thread's component: what a local operation (`lstep`; `lrun` for a running thread) does to the
  component it is handed, with no process state in sight: its cases (`lstep_cases`), the class cache passed through
  (`lstep_spec`), and what it writes (`lrun_write`).
-/
import Cello.Threads

namespace Cello.Thr

/-- every filled cache word is the declared (non-NULL) instance -/
def CacheOK (cfg : Cfg) (c : Cache) : Prop := ∀ k ∈ c, cfg.scan k = true

theorem cacheOK_nil (cfg : Cfg) : CacheOK cfg [] := by intro k hk; cases hk

theorem cacheLookup_val {cfg : Cfg} {c : Cache} (h : CacheOK cfg c) (k : Nat × Nat) :
    (cacheLookup cfg c k).2 = cfg.scan k := by
  by_cases hc : k ∈ c
  · simp [cacheLookup, hc, h k hc]
  · by_cases hs : cfg.scan k = true <;> simp [cacheLookup, hc, hs]

theorem cacheLookup_ok {cfg : Cfg} {c : Cache} (h : CacheOK cfg c) (k : Nat × Nat) :
    CacheOK cfg (cacheLookup cfg c k).1 := by
  by_cases hc : k ∈ c
  · simpa [cacheLookup, hc] using h
  · by_cases hs : cfg.scan k = true
    · simp only [cacheLookup, List.contains_eq_mem, hc, decide_false, hs, if_true, Bool.false_eq_true, if_false]
      intro k' hk'
      rcases List.mem_cons.mp hk' with rfl | hk'
      · exact hs
      · exact h k' hk'
    · simpa [cacheLookup, hc, hs] using h

theorem lstep_cases (cfg : Cfg) (t : Tid) (fm : List Obj) (op : LOp) (ts : TS) :
    (ts.phase = .running ∧ ∀ c, lstep cfg t c fm op ts = lrun cfg t c fm op ts) ∨
    (ts.phase = .ready ∧ op = .begin_ ∧ ∀ c, lstep cfg t c fm op ts =
      ({ ts with phase := .running, gc := some ⟨[]⟩, exc := some Exn.St.init }, c, .begun 0 true true)) ∨
    (ts.phase ≠ .running ∧ ∀ c, lstep cfg t c fm op ts = (ts, c, .dead)) := by
  unfold lstep
  split
  · by_cases h : ts.phase = .ready
    · exact .inr (.inl ⟨h, rfl, fun c => by rw [if_pos h]⟩)
    · by_cases hr : ts.phase = .running
      · exact .inl ⟨hr, fun c => by rw [if_neg h]; rfl⟩
      · exact .inr (.inr ⟨hr, fun c => by rw [if_neg h]⟩)
  · by_cases hr : ts.phase = .running
    · exact .inl ⟨hr, fun c => by rw [if_pos hr]⟩
    · exact .inr (.inr ⟨hr, fun c => by rw [if_neg hr]⟩)

theorem lstep_not_live (cfg : Cfg) (t : Tid) (c : Cache) (fm : List Obj) (op : LOp) (ts : TS) (h1 : ts.phase ≠ .running)
    (h2 : ts.phase ≠ .ready) : lstep cfg t c fm op ts = (ts, c, .dead) := by
  rcases lstep_cases cfg t fm op ts with ⟨hr, _⟩ | ⟨hy, _⟩ | ⟨_, h⟩
  · exact absurd hr h1
  · exact absurd hy h2
  · exact h c

theorem lstep_live (cfg : Cfg) (t : Tid) (c : Cache) (fm : List Obj) (op : LOp) (ts : TS)
    (h : isLive (lstep cfg t c fm op ts).1.phase = true) : isLive ts.phase = true := by
  rcases lstep_cases cfg t fm op ts with ⟨hr, _⟩ | ⟨hy, _⟩ | ⟨_, hl⟩
  · simp [isLive, hr]
  · simp [isLive, hy]
  · rw [hl] at h; exact h

theorem lrun_perr (cfg : Cfg) (t : Tid) (fm : List Obj) (f : PFn) (e : Errno) (ts : TS) :
    (∃ o, o ≠ .crash ∧ ∀ c, lrun cfg t c fm (.perr f e) ts = (ts, c, o)) ∨
    (∃ x, ∀ c, lrun cfg t c fm (.perr f e) ts = ({ ts with exc := caught x ts.exc }, c, .raised x)) := by
  cases f <;> dsimp only [lrun] <;> split <;>
    first | exact .inr ⟨_, fun _ => rfl⟩ | exact .inl ⟨_, Out.noConfusion, fun _ => rfl⟩

theorem lstep_perr (cfg : Cfg) (t : Tid) (c : Cache) (fm : List Obj) (f : PFn) (e : Errno) (ts : TS) :
    ∃ x, (lstep cfg t c fm (.perr f e) ts).1 = { ts with exc := x } := by
  rcases lstep_cases cfg t fm (.perr f e) ts with ⟨_, hl⟩ | ⟨_, h, _⟩ | ⟨_, hl⟩
  · rw [hl]
    rcases lrun_perr cfg t fm f e ts with ⟨o, _, hp⟩ | ⟨x, hp⟩ <;> rw [hp c]
    · exact ⟨ts.exc, rfl⟩
    · exact ⟨_, rfl⟩
  · cases h
  · rw [hl]; exact ⟨ts.exc, rfl⟩

theorem joinTrOf_edeadlk {cfg : Cfg} (hj : cfg.joinIgnoresDeadlk = false) : joinTrOf cfg .edeadlk = some .resourceError := by
  simp [joinTrOf, hj, joinTr]

/-- the local operation a raising self-join is: `pthread_join` fails with EDEADLK -/
theorem lstep_perr_join (cfg : Cfg) (t : Tid) (c : Cache) (fm : List Obj) (ts : TS) (hr : ts.phase = .running) (x : Exc)
    (hx : joinTrOf cfg .edeadlk = some x) :
    lstep cfg t c fm (.perr .join .edeadlk) ts = ({ ts with exc := caught x ts.exc }, c, .raised x) := by
  simp [lstep, lrun, hr, hx]

theorem lrun_cache (cfg : Cfg) (t : Tid) (c : Cache) (fm : List Obj) (op : LOp) (ts : TS) (h : ∀ ty cls, op ≠ .lookup ty cls) :
    lrun cfg t c fm op ts = ((lrun cfg t [] fm op ts).1, c, (lrun cfg t [] fm op ts).2.2) := by
  cases op with
  | lookup ty cls => exact absurd rfl (h ty cls)
  | perr f e => rcases lrun_perr cfg t fm f e ts with ⟨o, _, hp⟩ | ⟨x, hp⟩ <;> rw [hp c, hp []]
  | _ =>
    dsimp only [lrun]
    repeat' split
    all_goals rfl

theorem lstep_spec {cfg : Cfg} {c : Cache} (h : CacheOK cfg c) (t : Tid) (fm : List Obj) (op : LOp) (ts : TS) :
    ((lstep cfg t c fm op ts).1, (lstep cfg t c fm op ts).2.2) = lstepSpec cfg t fm op ts ∧ CacheOK cfg (lstep cfg t c fm op ts).2.1 := by
  rcases lstep_cases cfg t fm op ts with ⟨hr, hl⟩ | ⟨_, rfl, hl⟩ | ⟨hr, hl⟩
  · unfold lstepSpec
    split
    · rw [hl c, if_pos hr]
      exact ⟨by simp only [lrun, cacheLookup_val h], cacheLookup_ok h _⟩
    · rename_i hne
      rw [hl c, hl [], lrun_cache cfg t c fm op ts hne]
      exact ⟨rfl, h⟩
  · rw [hl c]; exact ⟨by simp only [lstepSpec, hl], h⟩
  · unfold lstepSpec
    split
    · rw [hl c, if_neg hr]; exact ⟨rfl, h⟩
    · rw [hl c, hl []]; exact ⟨rfl, h⟩

/-- thread `u` alone, with the class cache replaced by its specification -/
def soloSpec (cfg : Cfg) (u : Tid) : List Act → TS → TS × List Out
  | [], ts => (ts, [])
  | .op o fm :: as, ts =>
    let r := lstepSpec cfg u fm o ts
    let r2 := soloSpec cfg u as r.1
    (r2.1, r.2 :: r2.2)
  | .born :: as, ts => soloSpec cfg u as (if ts.phase = .unborn ∨ ts.phase = .done then { ts with phase := .ready } else ts)

theorem solo_eq_spec (cfg : Cfg) (u : Tid) (as : List Act) :
    ∀ (c : Cache) (ts : TS), CacheOK cfg c → solo cfg u as c ts = soloSpec cfg u as ts := by
  induction as with
  | nil => intro c ts _; rfl
  | cons a as ih =>
    intro c ts hc
    cases a with
    | born => simp only [solo, soloSpec]; exact ih c _ hc
    | op o fm =>
      have h := lstep_spec hc u fm o ts
      simp only [solo, soloSpec]
      rw [ih _ _ h.2, ← h.1]

theorem soloSpec_append_nil (cfg : Cfg) (u : Tid) (as : List Act) (ts : TS) : soloSpec cfg u ([] ++ as) ts = soloSpec cfg u as ts := rfl

theorem soloSpec_append (cfg : Cfg) (u : Tid) (as bs : List Act) : ∀ ts : TS,
    soloSpec cfg u (as ++ bs) ts =
      ((soloSpec cfg u bs (soloSpec cfg u as ts).1).1, (soloSpec cfg u as ts).2 ++ (soloSpec cfg u bs (soloSpec cfg u as ts).1).2) := by
  induction as with
  | nil => intro ts; rfl
  | cons a as ih =>
    intro ts
    cases a with
    | op o fm => simp only [List.cons_append, soloSpec, ih]
    | born => simp only [List.cons_append, soloSpec, ih]

theorem GC.set_mem (g : GC) (o : Obj) (r : Bool) : ∀ e ∈ (g.set o r).reg, e ∈ g.reg ∨ e.1 = o := by
  intro e he
  unfold GC.set at he
  split at he
  · exact Or.inl he
  · simp only [List.mem_append, List.mem_singleton] at he
    exact he.imp_right (fun h => by rw [h])

theorem GC.setAll_mem (os : List Obj) : ∀ (g : GC), ∀ e ∈ (g.setAll os).reg, e ∈ g.reg ∨ e.1 ∈ os := by
  induction os with
  | nil => intro g e he; exact Or.inl he
  | cons o os ih =>
    intro g e he
    simp only [GC.setAll, List.foldl_cons] at he
    rcases ih (g.set o false) e he with h | h
    · rcases GC.set_mem g o false e h with h | h
      · exact Or.inl h
      · exact Or.inr (by simp [h])
    · exact Or.inr (by simp [h])

theorem GC.rem_sub (g : GC) (o : Obj) :
    (∀ e ∈ (g.rem o).1.reg, e ∈ g.reg) ∧ (∀ x ∈ (g.rem o).2, x = o ∧ ∃ e ∈ g.reg, e.1 = o) := by
  unfold GC.rem
  split
  · rename_i h
    refine ⟨fun e he => (List.mem_filter.mp he).1, fun x hx => ⟨List.mem_singleton.mp hx, ?_⟩⟩
    obtain ⟨e, he, hp⟩ := List.any_eq_true.mp h
    exact ⟨e, he, by simpa using hp⟩
  · exact ⟨fun e he => he, fun x hx => by cases hx⟩

theorem GC.sweep_sub (g : GC) (marked : List Obj) :
    (∀ e ∈ (g.sweep marked).1.reg, e ∈ g.reg) ∧ (∀ x ∈ (g.sweep marked).2, (x, false) ∈ g.reg ∧ x ∉ marked) := by
  unfold GC.sweep
  refine ⟨fun e he => (List.mem_filter.mp he).1, ?_⟩
  intro x hx
  simp only [List.mem_map, List.mem_filter] at hx
  obtain ⟨⟨y, r⟩, ⟨he, hp⟩, rfl⟩ := hx
  simp at hp
  exact ⟨by rw [← hp.1]; exact he, by simpa using hp.2⟩

theorem GC.sweep_congr (g : GC) (a b : List Obj) (h : ∀ e ∈ g.reg, e.2 = false → a.contains e.1 = b.contains e.1) :
    g.sweep a = g.sweep b := by
  have hf : ∀ e ∈ g.reg, (e.2 || a.contains e.1) = (e.2 || b.contains e.1) := by
    intro e he
    cases h2 : e.2 with
    | true => rfl
    | false => rw [h e he h2]
  have h1 : g.reg.filter (fun e => e.2 || a.contains e.1) = g.reg.filter (fun e => e.2 || b.contains e.1) :=
    List.filter_congr hf
  have h2 : g.reg.filter (fun e => !(e.2 || a.contains e.1)) = g.reg.filter (fun e => !(e.2 || b.contains e.1)) :=
    List.filter_congr (fun e he => by rw [hf e he])
  simp only [GC.sweep, h1, h2]

theorem garbage_owner (t : Tid) (a n : Nat) : ∀ o ∈ garbage t a n, o.owner = t := by
  intro o ho
  simp only [garbage, List.mem_map] at ho
  obtain ⟨i, _, rfl⟩ := ho
  rfl

/-- the objects operation `op` of thread `t` can finalise -/
def killedBy (t : Tid) (fm : List Obj) (ts : TS) : LOp → Obj → Prop
  | .end_, x => ∃ g, ts.gc = some g ∧ (x, false) ∈ g.reg
  | .del o, x => x = o ∧ ∃ g, ts.gc = some g ∧ ∃ e ∈ g.reg, e.1 = o
  | .collect stack, x => ∃ g, ts.gc = some g ∧ (x, false) ∈ g.reg ∧
      x ∉ (ts.tls.map (·.2) ++ stack.map (fun k => (⟨t, k⟩ : Obj)) ++ fm)
  | _, _ => False

/-- a running thread has its exception record: the invariant under which no destructor finds it gone
    (`lstep_hasExc_nocrash`) -/
def HasExc (ts : TS) : Prop := ts.phase = .running → ts.exc ≠ none

theorem caught_some (x : Exc) (e : Option Exn.St) (h : e ≠ none) : caught x e ≠ none := by
  cases e with
  | none => exact absurd rfl h
  | some s => simp [caught]

theorem runDtors_some (xd : List Nat) (dead : List Obj) (s : Exn.St) :
    ∃ e', runDtors xd dead (some s) = some e' ∧ e' ≠ none := by
  unfold runDtors
  split
  · exact ⟨_, rfl, by simp [caught]⟩
  · exact ⟨_, rfl, by simp⟩

/-- what a local operation of a running thread does to the ledger and the exception record -/
inductive LWrite (cfg : Cfg) (t : Tid) (fm : List Obj) (op : LOp) (ts ts' : TS) (o : Out) : Prop
  /-- no sweep: the ledger stays, a thread that has its exception record keeps one, no destructor runs -/
  | quiet (hfin : ts'.fin = ts.fin) (hexc : ts.exc ≠ none → HasExc ts') (ho : o ≠ .crash)
  /-- a sweep (`end_`, `del`, `collect`) finalises `dead`; the destructors find the record `seen` — the thread's own,
      unless the teardown deletes the record first — and `crash` means they found none -/
  | sweep (dead : List Obj) (seen : Option Exn.St) (hfin : ts'.fin = ts.fin ++ dead)
      (hdead : ∀ y ∈ dead, killedBy t fm ts op y) (hseen : cfg.gcFirst = true → seen = ts.exc)
      (hrun : runDtors ts.xd dead seen = none ∧ o = .crash ∨
        o ≠ .crash ∧ (ts'.phase = .running → runDtors ts.xd dead seen = some ts'.exc))

/-- ledger and exception record by `LWrite`; the registry gains objects of `t` only -/
theorem lrun_write (cfg : Cfg) (t : Tid) (c : Cache) (fm : List Obj) (op : LOp) (ts : TS) :
    LWrite cfg t fm op ts (lrun cfg t c fm op ts).1 (lrun cfg t c fm op ts).2.2 ∧
    ∀ g', (lrun cfg t c fm op ts).1.gc = some g' → ∃ g, ts.gc = some g ∧ ∀ e ∈ g'.reg, e ∈ g.reg ∨ e.1.owner = t := by
  let P : TS × Cache × Out → Prop := fun r => LWrite cfg t fm op ts r.1 r.2.2 ∧
    ∀ g', r.1.gc = some g' → ∃ g, ts.gc = some g ∧ ∀ e ∈ g'.reg, e ∈ g.reg ∨ e.1.owner = t
  have keep : ∀ {ts' : TS} {c' : Cache} {o : Out}, ts'.gc = ts.gc → ts'.fin = ts.fin → (ts.exc ≠ none → ts'.exc ≠ none) →
      o ≠ .crash → P (ts', c', o) :=
    fun hgc hfin hexc ho => ⟨.quiet hfin (fun h _ => hexc h) ho, fun g' hg' => ⟨g', hgc ▸ hg', fun e he => .inl he⟩⟩
  have reg : ∀ {g g' : GC}, ts.gc = some g → (∀ e ∈ g'.reg, e ∈ g.reg ∨ e.1.owner = t) →
      ∀ g'', some g' = some g'' → ∃ g, ts.gc = some g ∧ ∀ e ∈ g''.reg, e ∈ g.reg ∨ e.1.owner = t :=
    fun hg h _ hg'' => Option.some.inj hg'' ▸ ⟨_, hg, h⟩
  show P (lrun cfg t c fm op ts)
  cases op with
  | end_ =>
    dsimp only [lrun]
    cases hg : ts.gc with
    | none =>
      exact ⟨.sweep [] ts.exc (List.append_nil _).symm (fun _ h => nomatch h) (fun _ => rfl)
        (.inr ⟨Out.noConfusion, fun hp => nomatch hp⟩), fun g' hg' => ⟨g', hg ▸ hg', fun e he => .inl he⟩⟩
    | some g =>
      simp only []
      have hdead : ∀ y ∈ (g.sweep []).2, killedBy t fm ts .end_ y := fun y hy => ⟨g, hg, ((GC.sweep_sub g []).2 y hy).1⟩
      have hseen : cfg.gcFirst = true → (if cfg.gcFirst then ts.exc else none) = ts.exc := fun h => if_pos h
      cases hrd : runDtors ts.xd (g.sweep []).2 (if cfg.gcFirst then ts.exc else none) with
      | none => exact ⟨.sweep _ _ rfl hdead hseen (.inl ⟨hrd, rfl⟩), fun _ h => nomatch h⟩
      | some _ => exact ⟨.sweep _ _ rfl hdead hseen (.inr ⟨Out.noConfusion, fun hp => nomatch hp⟩), fun _ h => nomatch h⟩
  | new k root xdtor =>
    dsimp only [lrun]
    -- the `if` by `iteInduction`: cheaper than `split` on a large goal
    refine iteInduction (fun _ => keep rfl rfl id Out.noConfusion) fun _ => ?_
    cases hg : ts.gc with
    | none => exact keep rfl rfl id Out.noConfusion
    | some g => exact ⟨.quiet rfl (fun h _ => h) Out.noConfusion, reg hg fun e he => (GC.set_mem g ⟨t, k⟩ root e he).imp_right fun h => by rw [h]⟩
  | del o =>
    dsimp only [lrun]
    cases hg : ts.gc with
    | none => exact keep rfl rfl id Out.noConfusion
    | some g =>
      simp only []
      have hdead : ∀ y ∈ (g.rem o).2, killedBy t fm ts (.del o) y :=
        fun y hy => ⟨((GC.rem_sub g o).2 y hy).1, g, hg, ((GC.rem_sub g o).2 y hy).2⟩
      have hreg := reg hg fun e he => .inl ((GC.rem_sub g o).1 e he)
      cases hrd : runDtors ts.xd (g.rem o).2 ts.exc with
      | none => exact ⟨.sweep _ _ rfl hdead (fun _ => rfl) (.inl ⟨hrd, rfl⟩), hreg⟩
      | some e' => exact ⟨.sweep _ _ rfl hdead (fun _ => rfl) (.inr ⟨Out.noConfusion, fun _ => hrd⟩), hreg⟩
  | collect st =>
    dsimp only [lrun]
    cases hg : ts.gc with
    | none => exact keep rfl rfl id Out.noConfusion
    | some g =>
      simp only []
      have hdead : ∀ y ∈ (g.sweep (ts.tls.map (·.2) ++ st.map (fun k => (⟨t, k⟩ : Obj)) ++ fm)).2,
          killedBy t fm ts (.collect st) y := fun y hy => ⟨g, hg, (GC.sweep_sub g _).2 y hy⟩
      have hreg := reg hg fun e he => .inl ((GC.sweep_sub g (ts.tls.map (·.2) ++ st.map (fun k => (⟨t, k⟩ : Obj)) ++ fm)).1 e he)
      cases hrd : runDtors ts.xd (g.sweep (ts.tls.map (·.2) ++ st.map (fun k => (⟨t, k⟩ : Obj)) ++ fm)).2 ts.exc with
      | none => exact ⟨.sweep _ _ rfl hdead (fun _ => rfl) (.inl ⟨hrd, rfl⟩), hreg⟩
      | some e' => exact ⟨.sweep _ _ rfl hdead (fun _ => rfl) (.inr ⟨Out.noConfusion, fun _ => hrd⟩), hreg⟩
  | churn n =>
    dsimp only [lrun]
    cases hg : ts.gc with
    | none => exact keep rfl rfl id Out.noConfusion
    | some g =>
      exact ⟨.quiet rfl (fun h _ => h) Out.noConfusion,
        reg hg fun e he => (GC.setAll_mem _ g e he).imp_right (garbage_owner t _ _ _)⟩
  | tset key o =>
    dsimp only [lrun]
    exact iteInduction (fun _ => keep rfl rfl id Out.noConfusion) fun _ => keep rfl rfl id Out.noConfusion
  | tget key =>
    dsimp only [lrun]
    cases ts.tls.lookup key with
    | some o => exact keep rfl rfl id Out.noConfusion
    | none => exact keep rfl rfl (caught_some _ _) Out.noConfusion
  | trem key =>
    dsimp only [lrun]
    exact iteInduction (fun _ => keep rfl rfl id Out.noConfusion)
      fun _ => keep rfl rfl (caught_some _ _) Out.noConfusion
  | exn p =>
    dsimp only [lrun]
    cases ts.exc with
    | none => exact keep rfl rfl id Out.noConfusion
    | some s => exact keep rfl rfl (fun _ => Option.some_ne_none _) Out.noConfusion
  | perr f e =>
    rcases lrun_perr cfg t fm f e ts with ⟨o, ho, hp⟩ | ⟨x, hp⟩ <;> rw [hp c]
    · exact keep rfl rfl id ho
    · exact keep rfl rfl (caught_some _ _) Out.noConfusion
  | _ => exact keep rfl rfl id Out.noConfusion

theorem lstep_fin (cfg : Cfg) (t : Tid) (c : Cache) (fm : List Obj) (op : LOp) (ts : TS) :
    ∀ x ∈ (lstep cfg t c fm op ts).1.fin, x ∈ ts.fin ∨ killedBy t fm ts op x := by
  rcases lstep_cases cfg t fm op ts with ⟨_, hl⟩ | ⟨_, _, hl⟩ | ⟨_, hl⟩
  · rw [hl]
    intro x hx
    cases (lrun_write cfg t c fm op ts).1 with
    | quiet hfin _ _ => exact .inl (hfin ▸ hx)
    | sweep dead _ hfin hdead _ _ => rw [hfin] at hx; exact (List.mem_append.mp hx).imp_right (hdead x)
  · rw [hl]; exact fun x hx => .inl hx
  · rw [hl]; exact fun x hx => .inl hx

/-- registry and ledger of the component hold objects `t` allocated only: the invariant behind `C13_teardown_own` -/
def Own (t : Tid) (ts : TS) : Prop :=
  (∀ g, ts.gc = some g → ∀ e ∈ g.reg, e.1.owner = t) ∧ (∀ o ∈ ts.fin, o.owner = t)

/-- whatever a thread can finalise is in its registry, hence its own -/
theorem killedBy_owner {t : Tid} {fm : List Obj} {ts : TS} {op : LOp} {x : Obj}
    (h : ∀ g, ts.gc = some g → ∀ e ∈ g.reg, e.1.owner = t) (hk : killedBy t fm ts op x) : x.owner = t := by
  cases op with
  | end_ => obtain ⟨g, hg, hreg⟩ := hk; exact h g hg _ hreg
  | del o => obtain ⟨rfl, g, hg, e, he, rfl⟩ := hk; exact h g hg e he
  | collect st => obtain ⟨g, hg, hreg, _⟩ := hk; exact h g hg _ hreg
  | _ => exact hk.elim

theorem lstep_own (cfg : Cfg) (t : Tid) (c : Cache) (fm : List Obj) (op : LOp) (ts : TS) (h : Own t ts) :
    Own t (lstep cfg t c fm op ts).1 := by
  refine ⟨?_, fun x hx => (lstep_fin cfg t c fm op ts x hx).elim (h.2 x) (killedBy_owner h.1)⟩
  rcases lstep_cases cfg t fm op ts with ⟨_, hl⟩ | ⟨_, _, hl⟩ | ⟨_, hl⟩
  · rw [hl]
    intro g' hg' e he
    obtain ⟨g, hg, hreg⟩ := (lrun_write cfg t c fm op ts).2 g' hg'
    exact (hreg e he).elim (h.1 g hg e) id
  · rw [hl]; exact fun g hg e he => by cases hg; cases he
  · rw [hl]; exact h.1

/-- teardown with the collector first (`gcFirst`): no destructor finds the exception record gone (`crash`) -/
theorem lstep_hasExc_nocrash (cfg : Cfg) (hgf : cfg.gcFirst = true) (t : Tid) (c : Cache) (fm : List Obj) (op : LOp) (ts : TS)
    (h : HasExc ts) : HasExc (lstep cfg t c fm op ts).1 ∧ (lstep cfg t c fm op ts).2.2 ≠ .crash := by
  rcases lstep_cases cfg t fm op ts with ⟨hr, hl⟩ | ⟨_, _, hl⟩ | ⟨_, hl⟩
  · rw [hl]
    cases (lrun_write cfg t c fm op ts).1 with
    | quiet _ hexc ho => exact ⟨hexc (h hr), ho⟩
    | sweep dead seen _ _ hseen hrun =>
      obtain ⟨s, hs⟩ := Option.ne_none_iff_exists'.mp (h hr)
      obtain ⟨e', he', hne⟩ := runDtors_some ts.xd dead s
      rw [hseen hgf, hs, he'] at hrun
      rcases hrun with ⟨hn, _⟩ | ⟨ho, hexc⟩
      · cases hn
      · exact ⟨fun hp => Option.some.inj (hexc hp) ▸ hne, ho⟩
  · rw [hl]; exact ⟨fun _ => Option.some_ne_none _, Out.noConfusion⟩
  · rw [hl]; exact ⟨h, Out.noConfusion⟩

end Cello.Thr
