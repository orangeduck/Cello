/-
  CelloProofs/Lemmas/Own.lean — C05: conservation of element identities (`Conserves`) and fresh identities (`FreshFrom`)
  of one operation on one container, and how they compose; then the sequence operations (Array.c, List.c) of
  Cello/Own.lean on probe elements, and `push_at` of a Box: each conserves and hands out fresh identities, and one that
  raises has done nothing.  `set` asks for constructed elements, `List_Resize` must not grow the list.
  Lemmas/SortSorted.lean gives one fact: an exchange in an array is a permutation (the sort).
-/
import Cello.Own
import Mathlib.Data.List.Perm.Basic
import Mathlib.Data.List.Nodup
import Mathlib.Data.List.Range
import CelloProofs.Lemmas.SortSorted

namespace Cello.Own
open List

def ids (ts : List Tok) : List Nat := ts.map (·.id)

@[simp] theorem ids_nil : ids [] = [] := rfl
@[simp] theorem ids_cons (t : Tok) (ts : List Tok) : ids (t :: ts) = t.id :: ids ts := rfl
@[simp] theorem ids_append (a b : List Tok) : ids (a ++ b) = ids a ++ ids b := by simp [ids]
@[simp] theorem ids_reverse (a : List Tok) : ids a.reverse = (ids a).reverse := by simp [ids]
@[simp] theorem ids_length (a : List Tok) : (ids a).length = a.length := by simp [ids]
theorem ids_perm {a b : List Tok} (h : a ~ b) : ids a ~ ids b := h.map _

/-- **conservation** of one operation on one container: what it holds afterwards together with what it passed to
    `destruct` is, as a multiset of identities, what it held before together with what it constructed -/
def Conserves (before after issued retired : List Tok) : Prop :=
  ids (after ++ retired) ~ ids (before ++ issued)

def FreshFrom (next : Nat) (issued : List Tok) : Prop := ids issued = List.range' next issued.length

theorem conserves_iff {a b i r : List Tok} : Conserves a b i r ↔ ids b ++ ids r ~ ids a ++ ids i := by
  simp only [Conserves, ids_append]

theorem Conserves.of_perm {a b i r : List Tok} (h : b ++ r ~ a ++ i) : Conserves a b i r := ids_perm h

theorem Conserves.refl (xs : List Tok) : Conserves xs xs [] [] := Perm.refl _

theorem Conserves.issue {a b i : List Tok} (h : b ~ a ++ i) : Conserves a b i [] :=
  .of_perm (by rwa [List.append_nil])

theorem Conserves.retire {a b r : List Tok} (h : b ++ r ~ a) : Conserves a b [] r :=
  .of_perm (by rwa [List.append_nil])

theorem Conserves.of_ids {a b : List Tok} (h : ids b ~ ids a) : Conserves a b [] [] :=
  conserves_iff.mpr (by simpa using h)

theorem Conserves.trans {a b c i1 r1 i2 r2 : List Tok} (h1 : Conserves a b i1 r1) (h2 : Conserves b c i2 r2) :
    Conserves a c (i1 ++ i2) (r1 ++ r2) := by
  rw [conserves_iff] at *
  simp only [ids_append]
  calc ids c ++ (ids r1 ++ ids r2)
      ~ (ids c ++ ids r2) ++ ids r1 := by
        rw [List.append_assoc]; exact Perm.append_left _ perm_append_comm
    _ ~ (ids b ++ ids i2) ++ ids r1 := Perm.append_right _ h2
    _ ~ (ids b ++ ids r1) ++ ids i2 := by
        rw [List.append_assoc, List.append_assoc]; exact Perm.append_left _ perm_append_comm
    _ ~ (ids a ++ ids i1) ++ ids i2 := Perm.append_right _ h1
    _ = ids a ++ (ids i1 ++ ids i2) := List.append_assoc _ _ _

theorem Conserves.congr {a a' b b' i r r' : List Tok} (ha : a' ~ a) (hb : b' ~ b) (hr : r' ~ r)
    (h : Conserves a b i r) : Conserves a' b' i r' :=
  ((ids_perm (hb.append hr)).trans h).trans (ids_perm (ha.symm.append_right _))

theorem Conserves.mem {a b i r : List Tok} (h : Conserves a b i r) {x : Nat} (hx : x ∈ ids b ∨ x ∈ ids r) :
    x ∈ ids a ∨ x ∈ ids i := by
  exact List.mem_append.mp ((conserves_iff.mp h).mem_iff.mp (List.mem_append.mpr hx))

theorem conserves_clear (xs : List Tok) : Conserves xs [] [] xs := .retire (.refl _)

theorem FreshFrom.append {n : Nat} {a b : List Tok} (ha : FreshFrom n a) (hb : FreshFrom (n + a.length) b) :
    FreshFrom n (a ++ b) := by
  simp only [FreshFrom, ids_append, List.length_append] at *
  rw [ha, hb, List.range'_append_1]

theorem FreshFrom.ge {n : Nat} {a : List Tok} (h : FreshFrom n a) : ∀ i ∈ ids a, n ≤ i ∧ i < n + a.length := by
  intro i hi
  rw [h] at hi
  have := List.mem_range'_1.mp hi
  omega

theorem FreshFrom.nodup {n : Nat} {a : List Tok} (h : FreshFrom n a) : (ids a).Nodup := by
  rw [h]; exact List.nodup_range'

theorem noraw_after {a b i r : List Tok} {n : Nat} (h : Conserves a b i r) (hf : FreshFrom n i) (hn : 0 < n)
    (ha : 0 ∉ ids a) : 0 ∉ ids b := by
  intro h0
  rcases h.mem (.inl h0) with h1 | h1
  · exact ha h1
  · have := (hf.ge 0 h1).1; omega

theorem ids_mkFresh (n : Nat) (ps : List Nat) : ids (mkFresh n ps) = List.range' n ps.length := by
  induction ps generalizing n with
  | nil => rfl
  | cons p ps ih => simp [mkFresh, ih, List.range'_succ]

@[simp] theorem length_mkFresh (n : Nat) (ps : List Nat) : (mkFresh n ps).length = ps.length := by
  induction ps generalizing n with
  | nil => rfl
  | cons p ps ih => simp [mkFresh, ih]

theorem pays_mkFresh (n : Nat) (ps : List Nat) : (mkFresh n ps).map (·.pay) = ps := by
  induction ps generalizing n with
  | nil => rfl
  | cons p ps ih => simp [mkFresh, ih]

theorem fresh_mkFresh (n : Nat) (ps : List Nat) : FreshFrom n (mkFresh n ps) := by
  simp [FreshFrom, ids_mkFresh]

theorem fresh_nil (n : Nat) : FreshFrom n [] := rfl
theorem fresh_one (n p : Nat) : FreshFrom n [⟨n, p⟩] := rfl
theorem fresh_two (n p q : Nat) : FreshFrom n [⟨n, p⟩, ⟨n + 1, q⟩] := rfl
theorem fresh_of_eq_nil {n : Nat} {l : List Tok} (h : l = []) : FreshFrom n l := by subst h; rfl

theorem takeFirst_eq {α : Type} (p : α → Bool) (l : List α) :
    takeFirst p l = (l.find? p).map fun x => (x, l.eraseP p) := by
  induction l with
  | nil => rfl
  | cons y ys ih =>
    cases hy : p y
    · simp only [takeFirst, hy, ih, List.find?_cons, List.eraseP_cons]
      cases ys.find? p <;> rfl
    · simp [takeFirst, hy]

theorem takeFirst_eq_some {α : Type} {p : α → Bool} {l : List α} {x : α} {r : List α}
    (h : takeFirst p l = some (x, r)) : l.find? p = some x ∧ l.eraseP p = r := by
  rw [takeFirst_eq, Option.map_eq_some_iff] at h
  obtain ⟨_, hf, rfl, rfl⟩ := h
  exact ⟨hf, rfl⟩

theorem takeFirst_split {α : Type} {p : α → Bool} {l : List α} {x : α} {r : List α}
    (h : takeFirst p l = some (x, r)) :
    ∃ as bs, l = as ++ x :: bs ∧ r = as ++ bs ∧ p x = true ∧ ∀ a ∈ as, p a = false := by
  obtain ⟨hf, rfl⟩ := takeFirst_eq_some h
  obtain ⟨hx, as, bs, rfl, has⟩ := List.find?_eq_some_iff_append.mp hf
  have has' : ∀ a ∈ as, p a = false := fun a ha => (Bool.not_eq_true' _).mp (has a ha)
  refine ⟨as, bs, rfl, ?_, hx, has'⟩
  rw [List.eraseP_append_right _ fun a ha => (Bool.not_eq_true _).mpr (has' a ha), List.eraseP_cons_of_pos hx]

theorem takeFirst_perm {α : Type} {p : α → Bool} {l : List α} {x : α} {r : List α}
    (h : takeFirst p l = some (x, r)) : l ~ x :: r ∧ p x = true := by
  obtain ⟨as, bs, rfl, rfl, hx, -⟩ := takeFirst_split h
  exact ⟨perm_middle, hx⟩

theorem takeFirst_none {α : Type} {p : α → Bool} {l : List α} (h : takeFirst p l = none) :
    ∀ y ∈ l, p y = false := by
  rw [takeFirst_eq, Option.map_eq_none_iff, List.find?_eq_none] at h
  exact fun y hy => (Bool.not_eq_true _).mp (h y hy)

theorem takeFirst_none_find? {α : Type} {p : α → Bool} {l : List α} (h : takeFirst p l = none) : l.find? p = none := by
  rwa [takeFirst_eq, Option.map_eq_none_iff] at h

theorem takeFirst_find?_rest {α : Type} {p : α → Bool} {l : List α} {y : α} {r : List α}
    (h : takeFirst p l = some (y, r)) {q : α → Bool} (hq : q y = false) : l.find? q = r.find? q := by
  obtain ⟨as, bs, rfl, rfl, -, -⟩ := takeFirst_split h
  simp [List.find?_append, hq]

theorem perm_cons_eraseIdx {α : Type} {l : List α} {j : Nat} {t : α} (h : l[j]? = some t) :
    l ~ t :: l.eraseIdx j := by
  obtain ⟨hj, rfl⟩ := List.getElem?_eq_some_iff.1 h
  have := List.perm_insertIdx l[j] (l.eraseIdx j) (i := j) (by rw [List.length_eraseIdx_of_lt hj]; omega)
  rwa [List.insertIdx_eraseIdx_getElem hj] at this

theorem set_perm_cons_eraseIdx {α : Type} {l : List α} {j : Nat} {t : α} (new : α) (h : l[j]? = some t) :
    l.set j new ~ new :: l.eraseIdx j := by
  have hj : j < l.length := (List.getElem?_eq_some_iff.mp h).1
  simpa only [List.eraseIdx_set_eq] using perm_cons_eraseIdx (List.getElem?_set_self hj (a := new))

def Res.inert {α : Type} (r : Res α) (x : α) : Prop := r.val = x ∧ r.issued = [] ∧ r.retired = [] ∧ r.updated = []

theorem inert_refused {α : Type} (x : α) (e : Exc) : (refused x e).inert x := ⟨rfl, rfl, rfl, rfl⟩

theorem seqPush_spec (next : Nat) (xs : List Tok) (p : Nat) :
    let r := seqPush next xs p
    Conserves xs r.val r.issued r.retired ∧ FreshFrom next r.issued :=
  ⟨.issue (.refl _), fresh_one _ _⟩

theorem conserves_insertIdx {xs : List Tok} {j : Nat} (t : Tok) (h : j ≤ xs.length) :
    Conserves xs (xs.insertIdx j t) [t] [] :=
  .issue ((perm_insertIdx _ _ h).trans (perm_append_singleton _ _).symm)

theorem arrayPushAt_spec (next : Nat) (xs : List Tok) (i : Int) (p : Nat) :
    let r := arrayPushAt next xs i p
    (Conserves xs r.val r.issued r.retired ∧ FreshFrom next r.issued) ∧ (r.out ≠ .ok → r.inert xs) := by
  simp only [arrayPushAt]
  generalize (if i < 0 then (xs.length : Int) + 1 + i else i) = j
  by_cases hb : j < 0 ∨ j > (xs.length : Int)
  · simp only [hb, if_true]
    exact ⟨⟨.refl _, rfl⟩, fun _ => inert_refused xs _⟩
  · simp only [hb, if_false]
    exact ⟨⟨conserves_insertIdx _ (by omega), rfl⟩, fun h => absurd rfl h⟩

theorem listPushAt_spec (next : Nat) (xs : List Tok) (i : Int) (p : Nat) :
    let r := listPushAt next xs i p
    (Conserves xs r.val r.issued r.retired ∧ FreshFrom next r.issued) ∧ (r.out ≠ .ok → r.inert xs) := by
  simp only [listPushAt]
  by_cases hi : i = 0
  · simp only [hi, if_true]
    exact ⟨⟨conserves_insertIdx (xs := xs) _ (Nat.zero_le _), rfl⟩, fun h => absurd rfl h⟩
  · simp only [hi, if_false]
    generalize (if i < 0 then (xs.length : Int) + i else i) = j
    by_cases hb : j < 0 ∨ j ≥ (xs.length : Int)
    · simp only [hb, if_true]
      exact ⟨⟨.refl _, rfl⟩, fun _ => inert_refused xs _⟩
    · simp only [hb, if_false]
      exact ⟨⟨conserves_insertIdx _ (by omega), rfl⟩, fun h => absurd rfl h⟩

/-- Array_Push_At / List_Push_At with a Box argument: the pointee constructed for the call ends up in the container, or —
    when the index is refused — is deleted again by the caller -/
theorem arrayPushAtBox_spec (next : Nat) (xs : List Tok) (i : Int) (p : Nat) :
    let r := withPointee next p (fun t => arrayPushAtTok xs i t)
    (Conserves xs r.val r.issued r.retired ∧ FreshFrom next r.issued) ∧
    ((arrayPushAtTok xs i ⟨next, p⟩).out ≠ .ok → (arrayPushAtTok xs i ⟨next, p⟩).inert xs) := by
  simp only [withPointee, arrayPushAtTok]
  generalize (if i < 0 then (xs.length : Int) + 1 + i else i) = j
  by_cases hb : j < 0 ∨ j > (xs.length : Int)
  · simp only [hb, if_true]
    exact ⟨⟨.of_perm (.refl _), fresh_one _ _⟩, fun _ => inert_refused xs _⟩
  · simp only [hb, if_false]
    exact ⟨⟨conserves_insertIdx _ (by omega), rfl⟩, fun h => absurd rfl h⟩

theorem listPushAtBox_spec (next : Nat) (xs : List Tok) (i : Int) (p : Nat) :
    let r := withPointee next p (fun t => listPushAtTok xs i t)
    (Conserves xs r.val r.issued r.retired ∧ FreshFrom next r.issued) ∧
    ((listPushAtTok xs i ⟨next, p⟩).out ≠ .ok → (listPushAtTok xs i ⟨next, p⟩).inert xs) := by
  simp only [withPointee, listPushAtTok]
  by_cases hi : i = 0
  · simp only [hi, if_true]
    exact ⟨⟨conserves_insertIdx (xs := xs) _ (Nat.zero_le _), rfl⟩, fun h => absurd rfl h⟩
  · simp only [hi, if_false]
    generalize (if i < 0 then (xs.length : Int) + i else i) = j
    by_cases hb : j < 0 ∨ j ≥ (xs.length : Int)
    · simp only [hb, if_true]
      exact ⟨⟨.of_perm (.refl _), fresh_one _ _⟩, fun _ => inert_refused xs _⟩
    · simp only [hb, if_false]
      exact ⟨⟨conserves_insertIdx _ (by omega), rfl⟩, fun h => absurd rfl h⟩

theorem seqPop_spec (xs : List Tok) :
    let r := seqPop xs
    (Conserves xs r.val r.issued r.retired ∧ r.issued = []) ∧ (r.out ≠ .ok → r.inert xs) := by
  simp only [seqPop]
  cases h : xs.getLast? with
  | none => exact ⟨⟨.refl _, rfl⟩, fun _ => inert_refused xs _⟩
  | some t =>
    exact ⟨⟨.retire (.of_eq (List.dropLast_append_getLast? t (by simp [h]))), rfl⟩, fun h => absurd rfl h⟩

theorem seqPopAt_spec (xs : List Tok) (i : Int) :
    let r := seqPopAt xs i
    (Conserves xs r.val r.issued r.retired ∧ r.issued = []) ∧ (r.out ≠ .ok → r.inert xs) := by
  simp only [seqPopAt]
  generalize (if i < 0 then (xs.length : Int) + i else i) = j
  by_cases hb : j < 0 ∨ j ≥ (xs.length : Int)
  · simp only [hb, if_true]
    exact ⟨⟨.refl _, trivial⟩, fun _ => inert_refused xs _⟩
  · simp only [hb, if_false]
    split
    · exact ⟨⟨.refl _, rfl⟩, fun _ => inert_refused xs _⟩
    · rename_i t ht
      exact ⟨⟨.retire ((perm_append_singleton _ _).trans (perm_cons_eraseIdx ht).symm), rfl⟩, fun h => absurd rfl h⟩

theorem assignProbe_live (next : Nat) (dst : Tok) (p : Nat) (h : dst.id ≠ 0) :
    (assignProbe next dst p).val.id = dst.id ∧ (assignProbe next dst p).issued = [] := by
  simp [assignProbe, h]

theorem assignProbe_fresh (next : Nat) (dst : Tok) (p : Nat) : FreshFrom next (assignProbe next dst p).issued := by
  unfold assignProbe; split
  exacts [fresh_one _ _, fresh_nil _]

theorem assignProbe_pay (next : Nat) (dst : Tok) (p : Nat) : (assignProbe next dst p).val.pay = p := by
  unfold assignProbe; split <;> rfl

theorem seqSetProbe_spec (next : Nat) (xs : List Tok) (i : Int) (p : Nat) :
    let r := seqSetProbe next xs i p
    (0 ∉ ids xs → Conserves xs r.val r.issued r.retired ∧ FreshFrom next r.issued) ∧ (r.out ≠ .ok → r.inert xs) := by
  simp only [seqSetProbe]
  generalize (if i < 0 then (xs.length : Int) + i else i) = j
  by_cases hb : j < 0 ∨ j ≥ (xs.length : Int)
  · simp only [hb, if_true]
    exact ⟨fun _ => ⟨.refl _, rfl⟩, fun _ => inert_refused xs _⟩
  · simp only [hb, if_false]
    split
    · exact ⟨fun _ => ⟨.refl _, rfl⟩, fun _ => inert_refused xs _⟩
    · rename_i old hold
      refine ⟨fun hraw => ?_, fun h => absurd rfl h⟩
      have hne : old.id ≠ 0 := fun h0 => hraw (h0 ▸ List.mem_map_of_mem (List.mem_of_getElem? hold))
      obtain ⟨hid, hiss⟩ := assignProbe_live next old p hne
      rw [hiss]
      refine ⟨.of_ids ?_, fresh_nil _⟩
      have h1 := ids_perm (set_perm_cons_eraseIdx (assignProbe next old p).val hold)
      simp only [ids_cons, hid] at h1
      exact h1.trans (ids_perm (perm_cons_eraseIdx hold)).symm

theorem seqRem_spec (xs : List Tok) (p : Nat) :
    let r := seqRem xs p
    (Conserves xs r.val r.issued r.retired ∧ r.issued = []) ∧ (r.out ≠ .ok → r.inert xs) := by
  simp only [seqRem]
  cases h : takeFirst (fun t => t.pay == p) xs with
  | none => exact ⟨⟨.refl _, rfl⟩, fun _ => inert_refused xs _⟩
  | some q =>
    exact ⟨⟨.retire ((perm_append_singleton _ _).trans (takeFirst_perm h).1.symm), rfl⟩, fun h => absurd rfl h⟩

theorem take_drop_reverse_perm {α : Type} (xs : List α) (n : Nat) : xs.take n ++ (xs.drop n).reverse ~ xs := by
  conv_rhs => rw [← List.take_append_drop n xs]
  exact Perm.append_left _ (reverse_perm _)

theorem arrayResize_spec (xs : List Tok) (n : Nat) :
    let r := arrayResize xs n
    (Conserves xs r.val r.issued r.retired ∧ r.issued = []) ∧ r.out = .ok := by
  simp only [arrayResize]
  split
  · exact ⟨⟨conserves_clear xs, rfl⟩, rfl⟩
  · exact ⟨⟨.retire (take_drop_reverse_perm xs n), rfl⟩, rfl⟩

/-- List_Resize conserves when it does not grow the list.  Growing links `List_Alloc`ed elements that were never assigned
    (`Tok.raw`, identity 0): no construction stands against them, which is the known finding KF-C05-list-resize-raw -/
theorem listResize_spec (xs : List Tok) (n : Nat) :
    let r := listResize xs n
    (n ≤ xs.length → Conserves xs r.val r.issued r.retired ∧ r.issued = []) ∧ r.out = .ok := by
  simp only [listResize]
  split
  · exact ⟨fun _ => ⟨conserves_clear xs, rfl⟩, rfl⟩
  · split
    · exact ⟨fun _ => ⟨.retire (take_drop_reverse_perm xs n), rfl⟩, rfl⟩
    · exact ⟨fun h => absurd h ‹_›, rfl⟩

theorem seqConcatProbe_spec (next : Nat) (xs src : List Tok) :
    let r := seqConcatProbe next xs src
    Conserves xs r.val r.issued r.retired ∧ FreshFrom next r.issued :=
  ⟨.issue (.refl _), fresh_mkFresh _ _⟩

theorem seqAssignProbe_spec (next : Nat) (xs src : List Tok) :
    let r := seqAssignProbe next xs src
    Conserves xs r.val r.issued r.retired ∧ FreshFrom next r.issued :=
  ⟨.of_perm perm_append_comm, fresh_mkFresh _ _⟩

theorem partLoop_perm (r k : Nat) (a : Array Tok) (s : Nat) : (partLoop r k a s).1.toList ~ a.toList := by
  induction k generalizing a s with
  | zero => exact Perm.refl _
  | succ k ih =>
    simp only [partLoop]
    split
    · exact (ih _ _).trans (Cello.Sort.swapIfInBounds_perm _ _ _).toList
    · exact ih _ _

theorem partition_perm (a : Array Tok) (l r : Nat) : (partition a l r).1.toList ~ a.toList := by
  simp only [partition]
  exact (Cello.Sort.swapIfInBounds_perm _ _ _).toList.trans
    ((partLoop_perm _ _ _ _).trans (Cello.Sort.swapIfInBounds_perm _ _ _).toList)

theorem sortPart_perm (f : Nat) (a : Array Tok) (l r : Nat) : (sortPart f a l r).toList ~ a.toList := by
  induction f generalizing a l r with
  | zero => exact Perm.refl _
  | succ f ih =>
    simp only [sortPart]
    split
    · exact (ih _ _ _).trans ((ih _ _ _).trans (partition_perm _ _ _))
    · exact Perm.refl _

theorem seqSort_perm (xs : List Tok) : (seqSort xs).val ~ xs := by
  simpa [seqSort] using sortPart_perm xs.length xs.toArray 0 (xs.length - 1)

theorem seqSort_spec (xs : List Tok) :
    let r := seqSort xs
    Conserves xs r.val r.issued r.retired ∧ r.issued = [] :=
  ⟨.of_ids (ids_perm (seqSort_perm xs)), rfl⟩

end Cello.Own
