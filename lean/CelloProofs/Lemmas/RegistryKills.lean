/-
  Removals that happen while a sweep (or another removal) is in progress, on the model's side: well-formedness with objects
  waiting on the pending list (`WFP`), and what runs around a nested removal in such a state: GC_Rem_Ptr (strike off / erase /
  nothing), the tail of GC_Rem, the first half of GC_Sweep as it hands over to the release loop.
-/
import Cello.Registry
import CelloProofs.Lemmas.RegistryKillsAbs
namespace Cello.Registry
open RH

/-- the addresses still waiting on the pending list -/
def pendList (r : Reg) : List Nat := r.pending.toList.filterMap id

theorem pendList_congr {r r' : Reg} (h : r'.pending = r.pending) : pendList r' = pendList r := by
  unfold pendList; rw [h]

theorem pendList_nil {r : Reg} (h : r.pending = #[]) : pendList r = [] := by
  unfold pendList; rw [h]; rfl

theorem pendList_of_map_some {r : Reg} {order : List Nat} (h : r.pending = (order.map some).toArray) : pendList r = order := by
  unfold pendList; rw [h]; simp

theorem pendList_length_le (r : Reg) : (pendList r).length ≤ r.pending.size := by
  unfold pendList
  have := List.length_filterMap_le id r.pending.toList
  simpa using this

/-- clearing a slot of the pending list (GC_Sweep before it runs the destructor, GC_Rem_Ptr when it strikes an object off)
    takes at most one address off the list of those waiting -/
theorem pendList_set_none_sublist (r : Reg) (i : Nat) :
    (pendList { r with pending := r.pending.setIfInBounds i none }).Sublist (pendList r) := by
  show ((r.pending.setIfInBounds i none).toList.filterMap id).Sublist (r.pending.toList.filterMap id)
  rw [Array.toList_setIfInBounds]
  induction r.pending.toList generalizing i with
  | nil => exact List.Sublist.refl _
  | cons a l ih =>
    cases i with
    | zero => cases a with
      | none => exact List.Sublist.refl _
      | some v => exact List.sublist_cons_self v _
    | succ i => cases a with
      | none => exact ih i
      | some v => exact (ih i).cons_cons v

/-- no destructor passes NULL to `del` (needed only for the variant of GC_Rem_Ptr without the NULL test, which matches NULL
    against the struck-off slots of the pending list) -/
def NoNull (K : Nat → List Nat) : Prop := ∀ p, 0 ∉ K p

/-- what the destructor theorems need about NULL: nothing when GC_Rem_Ptr returns at once for NULL (the source as it is
    now), `NoNull K` for the variant before fix d3e4e44 -/
def NullOk (c : Cfg) (K : Nat → List Nat) : Prop := c.remNullGuard = true ∨ NoNull K

/-- the commands for which GC_Rem_Ptr behaves as a search for the object: every command when GC_Rem_Ptr returns at once for
    NULL; without that test, a removal of a non-NULL pointer, or any removal while no sweep is in progress (empty pending
    list) -/
def CmdOk (c : Cfg) (r : Reg) : Cmd → Prop
  | .fin _ => True
  | .rem x => c.remNullGuard = true ∨ x ≠ 0 ∨ r.pending = #[]

theorem NullOk.cmdOk {c : Cfg} {K : Nat → List Nat} (hK : NullOk c K) {p z : Nat} (hz : z ∈ K p) (r : Reg) : CmdOk c r (.rem z) :=
  hK.elim Or.inl fun hK => Or.inr (Or.inl fun hz0 => hK p (hz0 ▸ hz))

/-- a pointer that passed the entry test of GC_Rem_Ptr is searched for as an object -/
theorem cmdOk_past_guard {c : Cfg} {r : Reg} {x : Nat} (h : CmdOk c r (.rem x))
    (hg : ¬ (c.remNullGuard && x == 0) = true) : x ≠ 0 ∨ r.pending = #[] := by
  rcases h with h | h
  · left; intro hx; apply hg; simp [h, hx]
  · exact h

/-- for a non-NULL pointer the raw comparison `freelist[i] is ptr` is the search for a slot holding that object -/
theorem pendPred_eq (x : Nat) (hx : x ≠ 0) : (fun y : Option Nat => y.getD 0 == x) = (fun y => y == some x) := by
  funext y
  cases y with
  | none => simp; exact fun h => hx h.symm
  | some v => simp

theorem findIdx_pend (r : Reg) (x : Nat) (hx : x ≠ 0 ∨ r.pending = #[]) :
    r.pending.findIdx? (fun y => y.getD 0 == x) = r.pending.findIdx? (fun y => y == some x) := by
  rcases hx with h | h
  · rw [pendPred_eq x h]
  · rw [h]; simp

/-- well-formedness while objects may be waiting on the pending list (`pzero`: with `nslots = 0` GC_Rem_Ptr returns before
    it scans the list, so nothing may be waiting then) -/
structure WFP (c : Cfg) (r : Reg) (L : Ledger) : Prop where
  core : Core c r L noMark
  count : r.nitems = occ r.slots
  room : Room r
  bounded : Bounded r L
  nodup : (L.map Prod.fst).Nodup
  pzero : r.n = 0 → pendList r = []
  /-- no NULL object is waiting (the pending list is filled from the registry) -/
  pnz : 0 ∉ pendList r

theorem WFP.marked {c : Cfg} {r : Reg} {L : Ledger} (h : WFP c r L) : Marked c r L noMark :=
  ⟨h.core, h.count, h.room, h.bounded, h.nodup⟩

theorem Marked.wfp {c : Cfg} {r : Reg} {L : Ledger} (h : Marked c r L noMark) (hz : r.n = 0 → pendList r = [])
    (hnz : 0 ∉ pendList r) : WFP c r L :=
  ⟨h.core, h.count, h.room, h.bounded, h.nodup, hz, hnz⟩

theorem WF.toWFP {c : Cfg} {r : Reg} {L : Ledger} (h : WF c r L) : WFP c r L :=
  h.marked.wfp (fun _ => pendList_nil h.pend) (by rw [pendList_nil h.pend]; simp)

theorem WFP.toWF {c : Cfg} {r : Reg} {L : Ledger} (h : WFP c r L) (hp : r.pending = #[]) : WF c r L :=
  h.marked.wf hp

/-- `WFP` looks at the pending array through `pendList` only, and nothing may be added to that -/
theorem WFP.of_pending {c : Cfg} {r : Reg} {L : Ledger} (h : WFP c r L) (pend : Array (Option Nat))
    (hp : ∀ y, y ∈ pendList { r with pending := pend } → y ∈ pendList r) : WFP c { r with pending := pend } L :=
  ⟨⟨h.core.inv, h.core.ents⟩, h.count, h.room, h.bounded.sub (fun _ hx => hx) rfl rfl id, h.nodup,
    fun h0 => List.eq_nil_iff_forall_not_mem.2 fun y hy => List.not_mem_nil (h.pzero h0 ▸ hp y hy),
    fun h0 => h.pnz (hp 0 h0)⟩

theorem wfp_set_pending (c : Cfg) (r : Reg) (L : Ledger) (h : WFP c r L) (i : Nat) :
    WFP c { r with pending := r.pending.setIfInBounds i none } L :=
  h.of_pending _ fun _ hy => (pendList_set_none_sublist r i).subset hy

/-- with the pending list dropped (as GC_Sweep does at its end) a `WFP` state is a `WF` state -/
theorem WFP.clear {c : Cfg} {r : Reg} {L : Ledger} (h : WFP c r L) : WF c { r with pending := #[] } L :=
  (h.of_pending #[] fun y hy => by cases hy).toWF rfl

theorem nestFuel_ge (c : Cfg) (r : Reg) (L : Ledger) (h : WFP c r L) : 2 * (L.length + (pendList r).length) + 1 ≤ nestFuel r := by
  have h1 := h.marked.count_eq
  have h2 := pendList_length_le r
  unfold nestFuel
  omega

/-- **GC_Rem_Ptr** with a pending list: an address waiting to be finalised is struck off (the first slot that holds it);
    otherwise a registered address is erased from the table; otherwise nothing happens. -/
theorem remPtr_absO (c : Cfg) (r : Reg) (L : Ledger) (hwf : WFP c r L) (x : Nat)
    (hok : CmdOk c r (.rem x)) :
    ∃ r1 fi, remPtr c r x = some (r1, fi) ∧ r1.running = r.running ∧ r1.mitems = r.mitems ∧
      ((∃ i, r.pending.toList.findIdx? (fun y => y == some x) = some i ∧ fi = some x ∧
          r1.pending.toList = r.pending.toList.set i none ∧ WFP c r1 L) ∨
       (r.pending.toList.findIdx? (fun y => y == some x) = none ∧ x ∈ L.map Prod.fst ∧ fi = some x ∧ r1.pending = r.pending ∧
          WFP c r1 (L.filter (fun y => y.1 != x)) ∧ r1.nitems + 1 = r.nitems) ∨
       (r.pending.toList.findIdx? (fun y => y == some x) = none ∧ x ∉ L.map Prod.fst ∧ fi = none ∧ r1 = r)) := by
  have hconv : r.pending.findIdx? (fun y => y == some x) = r.pending.toList.findIdx? (fun y => y == some x) := by
    cases r.pending; simp
  unfold remPtr
  rcases Nat.eq_zero_or_pos r.n with h0 | hn
  · rw [dif_neg (by omega)]
    have hx : x ∉ L.map Prod.fst := by
      intro hx
      obtain ⟨i, hi, _⟩ := (Core.present_iff hwf.core x).2 hx
      omega
    refine ⟨r, none, rfl, rfl, rfl, Or.inr (Or.inr ⟨(findIdx?_none_iff _ x).2 ?_, hx, rfl, rfl⟩)⟩
    show x ∉ pendList r
    rw [hwf.pzero h0]; simp
  · rw [dif_pos hn]
    by_cases hg : (c.remNullGuard && x == 0) = true
    · -- `ptr is NULL`: GC_Rem_Ptr returns at once; NULL is neither live nor waiting
      rw [if_pos hg]
      have hx0 : x = 0 := by simpa using (Bool.and_eq_true_iff.1 hg).2
      have hx : x ∉ L.map Prod.fst := by
        intro hx
        obtain ⟨⟨q, b⟩, hqb, hq⟩ := List.mem_map.1 hx
        exact hwf.bounded.nonnull q b hqb (by simpa [hx0] using hq)
      exact ⟨r, none, rfl, rfl, rfl, Or.inr (Or.inr ⟨(findIdx?_none_iff _ x).2 (by rw [hx0]; exact hwf.pnz), hx, rfl, rfl⟩)⟩
    have hx0 := cmdOk_past_guard hok hg
    rw [if_neg hg, findIdx_pend r x hx0, hconv]
    cases hfi : r.pending.toList.findIdx? (fun y => y == some x) with
    | some i =>
      simp only []
      have hxne : x ≠ 0 := by
        rcases hx0 with h | h
        · exact h
        · rw [h] at hfi; simp at hfi
      rw [if_neg hxne]
      exact ⟨_, some x, rfl, rfl, rfl, Or.inl ⟨i, rfl, rfl, by simp, wfp_set_pending c r L hwf i⟩⟩
    | none =>
      simp only []
      have inv : Inv (hashOf c) r.slots := hwf.marked.inv hn
      obtain ⟨z, hz, hze⟩ := inv.has_empty
      rcases find_correct (hashOf c) r.slots inv hn x with ⟨p, hp, e, he, hk, hres⟩ | ⟨habs, hres⟩ <;> rw [hres]
      · have hxL : x ∈ L.map Prod.fst := (Core.present_iff hwf.core x).1 ⟨p, hp, e, he, hk⟩
        obtain ⟨s', hs', inv', hz', hmem', hocc', _⟩ := eraseAt_spec (hashOf c) r.slots hwf.core.inv p hp e he z hz hze
        simp only [hs']
        refine ⟨_, some x, rfl, rfl, rfl, Or.inr (Or.inl ⟨trivial, hxL, rfl, rfl,
          ⟨?_, ?_, hwf.room.of_le rfl (Nat.sub_le _ _), hwf.bounded.sub (fun y hy => (List.mem_filter.1 hy).1) rfl rfl (fun h0' => h0'),
            List.Nodup.sublist (List.Sublist.map _ List.filter_sublist) hwf.nodup, hwf.pzero, hwf.pnz⟩, ?_⟩)⟩
        · -- the entries that stay are those with another key: the items of the ledger without `x`
          refine hwf.core.filter inv' (P := (·.key ≠ x)) (fun e' => ?_) (fun y _ => bne_iff_ne.symm) rfl
          show Mem s' e' ↔ _
          rw [hmem' e', hwf.core.inv.mem_ne_iff ⟨p, hp, he⟩, hk]
        · show r.nitems - 1 = occ s'
          rw [hwf.count]; omega
        · show r.nitems - 1 + 1 = r.nitems
          rw [hwf.count]; omega
      · have hx : x ∉ L.map Prod.fst := fun hx => habs ((Core.present_iff hwf.core x).2 hx)
        exact ⟨r, none, rfl, rfl, rfl, Or.inr (Or.inr ⟨trivial, hx, rfl, rfl⟩)⟩

/-- `remPtr_absO` read through `pendList`: which slot was struck off is forgotten -/
theorem remPtr_abs (c : Cfg) (r : Reg) (L : Ledger) (hwf : WFP c r L) (x : Nat)
    (hok : CmdOk c r (.rem x)) :
    ∃ r1 fi, remPtr c r x = some (r1, fi) ∧ r1.running = r.running ∧ r1.mitems = r.mitems ∧
      ((x ∈ pendList r ∧ fi = some x ∧ pendList r1 = (pendList r).erase x ∧ WFP c r1 L ∧ r1.pending.size = r.pending.size) ∨
       (x ∉ pendList r ∧ x ∈ L.map Prod.fst ∧ fi = some x ∧ r1.pending = r.pending ∧ WFP c r1 (L.filter (fun y => y.1 != x)) ∧
          r1.nitems + 1 = r.nitems) ∨
       (x ∉ pendList r ∧ x ∉ L.map Prod.fst ∧ fi = none ∧ r1 = r)) := by
  obtain ⟨r1, fi, h1, h2, h3, hc⟩ := remPtr_absO c r L hwf x hok
  refine ⟨r1, fi, h1, h2, h3, ?_⟩
  rcases hc with ⟨i, hi, hfi, hpl, hw⟩ | ⟨hn, hxL, hfi, hp, hw, hni⟩ | ⟨hn, hxL, hfi, hr⟩
  · obtain ⟨m1, m2⟩ := findIdx?_some_filterMap _ x i hi
    refine Or.inl ⟨m1, hfi, ?_, hw, ?_⟩
    · unfold pendList; rw [hpl]; exact m2
    · have := congrArg List.length hpl
      simpa using this
  · exact Or.inr (Or.inl ⟨(findIdx?_none_iff _ x).1 hn, hxL, hfi, hp, hw, hni⟩)
  · exact Or.inr (Or.inr ⟨(findIdx?_none_iff _ x).1 hn, hxL, hfi, hr⟩)

/-- the tail of GC_Rem (GC_Resize_Less, threshold) keeps everything the simulation looks at -/
theorem rem_tail (c : Cfg) (g : GoodCfg c) (r2 : Reg) (L : Ledger) (h : WFP c r2 L) :
    ∃ r3, resizeLess c r2 = some r3 ∧ WFP c { r3 with mitems := c.mitemsOf r3.nitems } L ∧
      r3.pending = r2.pending ∧ r3.running = r2.running := by
  obtain ⟨r3, hr3, hmeta, hcore, hocc, hroom, hz⟩ := resizeLess_spec c g r2 L h.core h.count h.room
  have hpl : pendList { r3 with mitems := c.mitemsOf r3.nitems } = pendList r2 := pendList_congr hmeta.pending
  exact ⟨r3, hr3, ⟨⟨hcore.inv, hcore.ents⟩, by show r3.nitems = occ r3.slots; rw [hmeta.nitems, hocc]; exact h.count, hroom,
    h.bounded.sub (fun _ hx => hx) hmeta.minptr hmeta.maxptr hz, h.nodup, fun h0 => by rw [hpl]; exact h.pzero (hz h0),
    by rw [hpl]; exact h.pnz⟩, hmeta.pending, hmeta.running⟩

theorem sweepPhase_wfp (c : Cfg) (g : GoodCfg c) (r : Reg) (L : Ledger) (mk : Nat → Bool → Bool)
    (h : Marked c r L mk) :
    ∃ (order : List Nat) (r2 : Reg), sweepPhase c r = some r2 ∧ WFP c r2 (collectBy L mk) ∧
      r2.pending = (order.map some).toArray ∧ r2.running = r.running ∧ order.Nodup ∧
      (∀ p, p ∈ order ↔ ∃ b, (p, b) ∈ L ∧ (p, b) ∉ collectBy L mk) := by
  obtain ⟨order, r2, h2, hcore2, hc2, hroom2, hz2, hmin, hmax, hrun, hpend, hnd', hmem⟩ :=
    sweepPhase_core c g r L mk h.core h.count h.room
  have hpl : pendList r2 = order := pendList_of_map_some hpend
  refine ⟨order, r2, h2, ⟨hcore2, hc2, hroom2, h.bounded.sub (collectBy_sub L mk) hmin hmax hz2,
    collectBy_nodup L mk h.nodup, ?_, ?_⟩, hpend, hrun, hnd', hmem⟩
  · -- an empty table reclaims nothing
    intro h0
    rw [hpl]
    apply List.eq_nil_iff_forall_not_mem.2
    intro p hp
    obtain ⟨b, hL, _⟩ := (hmem p).1 hp
    obtain ⟨q, hq, _⟩ := (h.core.mem_iff _).2 ⟨(p, b), hL, rfl⟩
    have := hz2 h0
    omega
  · -- what the sweep lists are registered objects: none of them is NULL
    rw [hpl]
    intro h0
    obtain ⟨b, hL, _⟩ := (hmem 0).1 h0
    exact h.bounded.nonnull 0 b hL rfl

theorem exec_rem_succ (c : Cfg) (K : Nat → List Nat) (f : Nat) (r : Reg) (x : Nat) :
    exec c K (f+1) r (.rem x) =
      if !r.running then some (r, [])
      else
        match remPtr c r x with
        | none => none
        | some (r1, fi) =>
          match (match fi with
                 | none => some (r1, [])
                 | some p => exec c K f r1 (.fin p)) with
          | none => none
          | some (r2, t) =>
            match resizeLess c r2 with
            | none => none
            | some r3 => some ({ r3 with mitems := c.mitemsOf r3.nitems }, t) := by
  rw [exec]; rfl

theorem exec_fin_succ (c : Cfg) (K : Nat → List Nat) (f : Nat) (r : Reg) (p : Nat) :
    exec c K (f+1) r (.fin p) =
      match (K p).foldl (stepTr (fun r' y => exec c K f r' (.rem y))) (some (r, [])) with
      | none => none
      | some (r', t) => some (r', t ++ [p]) := by
  rw [exec]
  congr 2
  funext acc y
  rcases acc with _ | ⟨a', t⟩
  · rfl
  · unfold stepTr; simp only []; cases exec c K f a' (.rem y) <;> rfl

end Cello.Registry
