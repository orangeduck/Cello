/-
  CelloProofs/Lemmas/TableArgs.lean — operations whose argument objects live in the table they are applied to
  (`Cello.Table.stepA`): what the model reads out of its own records is what the map says those objects hold, and every
  step refines the step of the association-list specification.
-/
import CelloProofs.Lemmas.TableRefine
namespace Cello.Table
variable {κ ν : Type} [DecidableEq κ]

theorem readKey_rep (hash : κ → Nat) (asKey : ν → Option κ) (t : Tab κ ν) (m : Spec κ ν) (r : Rep hash t m) (kr : Ref κ κ) :
    kr.readKey hash asKey t = .ok (kr.specKey asKey m) := by
  cases kr with
  | obj k => rfl
  | keyOf k | valOf k =>
    rcases find_rep hash t m r k with ⟨h1, h2⟩ | ⟨v, p, hp, e, h1, h2, h3, h4, h5⟩
    · simp only [Ref.readKey, Ref.locate, h2, Ref.specKey, h1]
    · simp only [Ref.readKey, Ref.locate, h2, Ref.specKey, h1, KeyArg.denote, dif_pos hp, h3, h4, h5]

theorem readVal_rep (hash : κ → Nat) (asVal : κ → Option ν) (t : Tab κ ν) (m : Spec κ ν) (r : Rep hash t m) (vr : Ref κ ν) :
    vr.readVal hash asVal t = .ok (vr.specVal asVal m) := by
  cases vr with
  | obj v => rfl
  | keyOf k | valOf k =>
    rcases find_rep hash t m r k with ⟨h1, h2⟩ | ⟨v, p, hp, e, h1, h2, h3, h4, h5⟩
    · simp only [Ref.readVal, Ref.locate, h2, Ref.specVal, h1]
    · simp only [Ref.readVal, Ref.locate, h2, Ref.specVal, h1, KeyArg.denoteVal, dif_pos hp, h3, h4, h5]

/-- `Table_Get` (whole function, address test as it is since fix bc940bb) on an argument object of table `t` itself -/
theorem stepA_getA (cfg : Cfg) (hc : cfg.getChecksKey = true) (hash : κ → Nat) (asKey : ν → Option κ) (asVal : κ → Option ν)
    (ts : List (Tab κ ν)) (t : Nat) (tb : Tab κ ν) (h : ts[t]? = some tb) (m : Spec κ ν) (r : Rep hash tb m) (kr : Ref κ κ) :
    stepA cfg hash asKey asVal ts (.getA t kr) = .ok (ts, match keyArg1 (ν := ν) (kr.specKey asKey m) with
      | .error o => o
      | .ok k => match Spec.get m k with | none => .raised .KeyError | some v => .val v) := by
  have hk := readKey_rep hash asKey tb m r kr
  unfold Ref.readKey at hk
  simp only [stepA, h]
  cases hl : kr.locate hash tb with
  | error f => rw [hl] at hk; cases hk
  | ok oa =>
    rw [hl] at hk
    cases oa with
    | none =>
      simp only [Except.ok.injEq] at hk
      simp only [← hk, keyArg1]
    | some a =>
      simp only [Except.ok.injEq] at hk
      simp only [getArg_rep_checked cfg hc hash asKey tb m r a, hk]
      cases kr.specKey asKey m with
      | none => rfl
      | some x => cases x <;> rfl

theorem stepA_refines (cfg : Cfg) (g : GoodCfg cfg) (hc : cfg.getChecksKey = true) (hash : κ → Nat) (asKey : ν → Option κ)
    (asVal : κ → Option ν) (ts : List (Tab κ ν)) (ms : List (Spec κ ν)) (R : StRel hash ts ms) (op : AOp κ ν) :
    ∃ ts' o, stepA cfg hash asKey asVal ts op = .ok (ts', o) ∧ StRel hash ts' (specStepA asKey asVal ms op).1 ∧
      ObsRel o (specStepA asKey asVal ms op).2 := by
  cases op with
  | plain op => exact step_refines cfg g hash ts ms R op
  | setA t kr vr =>
    refine R.at t (ObsRel.refl _) fun tb m _ _ r => ?_
    simp only [readKey_rep hash asKey tb m r kr, readVal_rep hash asVal tb m r vr]
    cases hs : setArgs (kr.specKey asKey m) (vr.specVal asVal m) with
    | error o => exact ⟨_, _, rfl, R, ObsRel.refl o⟩
    | ok kv => exact step_refines cfg g hash ts ms R (.set t kv.1 kv.2)
  | remA t kr | memA t kr =>
    refine R.at t (ObsRel.refl _) fun tb m _ _ r => ?_
    simp only [readKey_rep hash asKey tb m r kr]
    cases hs : keyArg1 (ν := ν) (kr.specKey asKey m) with
    | error o => exact ⟨_, _, rfl, R, ObsRel.refl o⟩
    | ok k => exact step_refines cfg g hash ts ms R _
  | getA t kr =>
    rcases R.lookup t with ⟨h, hm⟩ | ⟨tb, m, h, hm, r⟩
    · simp only [stepA, specStepA, h, hm]; exact ⟨_, _, rfl, R, rfl⟩
    · rw [stepA_getA cfg hc hash asKey asVal ts t tb h m r kr]
      simp only [specStepA, hm]
      cases hs : keyArg1 (ν := ν) (kr.specKey asKey m) with
      | error o => exact ⟨_, _, rfl, R, ObsRel.refl o⟩
      | ok k =>
        simp only [specStep, hm]
        cases hgk : Spec.get m k <;> exact ⟨_, _, rfl, R, rfl⟩

theorem runA_refines (cfg : Cfg) (g : GoodCfg cfg) (hc : cfg.getChecksKey = true) (hash : κ → Nat) (asKey : ν → Option κ)
    (asVal : κ → Option ν) :
    ∀ (ops : List (AOp κ ν)) (ts : List (Tab κ ν)) (ms : List (Spec κ ν)), StRel hash ts ms →
      ∃ ts' os, runA cfg hash asKey asVal ts ops = .ok (ts', os) ∧
        List.Forall₂ ObsRel os (specRunA asKey asVal ms ops).2 ∧ StRel hash ts' (specRunA asKey asVal ms ops).1 :=
  history_refines (fun _ => rfl) (fun e1 e2 => by simp only [runA, e1, e2]) (fun _ => rfl) (fun _ _ _ => rfl)
    fun ts ms R => stepA_refines cfg g hc hash asKey asVal ts ms R

theorem runA_plain (cfg : Cfg) (hash : κ → Nat) (asKey : ν → Option κ) (asVal : κ → Option ν) :
    ∀ (ops : List (Op κ ν)) (ts : List (Tab κ ν)), runA cfg hash asKey asVal ts (ops.map .plain) = run cfg hash ts ops := by
  intro ops
  induction ops with
  | nil => intro ts; rfl
  | cons op ops ih =>
    intro ts
    simp only [List.map_cons, runA, run, stepA]
    cases step cfg hash ts op with
    | error f => rfl
    | ok p => simp only [ih]

end Cello.Table
