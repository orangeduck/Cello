import Cello.Fail
/-
  C12: the `int64_t` / `size_t` index arithmetic on `BitVec 64`, the `…Exc` functions the specifications are made of, and what each
  shared check of the model (`resolve`, `assignTo`, `castTo`, the push positions) makes of a well-formed argument: a slot / position /
  element, or the documented refusal, never `ub` (`…_cases`).
-/
namespace Cello.Fail

/-- an `Int` payload fits `int64_t` -/
def Val.inRange : Val → Prop
  | .int i => -(2 ^ 63 : Int) ≤ i ∧ i < (2 ^ 63 : Int)
  | _ => True

/-- an element stored in a typed container: of the container's type, and not the NULL-buffer String that only known
    finding F15 produces -/
def Val.elemOf (ty : Ty) (v : Val) : Prop := v.ty? = some ty ∧ v ≠ .nullstr

/-- `ref`, what a failed `assign` re-types a container to, is the type of no value, and `assignTo .ref` is `ub` -/
def Ty.isElemTy : Ty → Prop
  | .ref => False
  | _ => True

theorem R.exc?_eq_some {α : Type} {r : R α} {e : Exc} : r.exc? = some e ↔ r = .raised e := by
  cases r <;> simp [R.exc?]

theorem toInt_zero64 : (0 : BitVec 64).toInt = 0 := BitVec.toInt_zero

theorem toInt_ofNat_small (n : Nat) (h : n < 2 ^ 63) : (BitVec.ofNat 64 n).toInt = n := by
  rw [BitVec.toInt_ofNat', Int.bmod_def]
  omega

theorem toInt_bounds (k : BitVec 64) : -(2 ^ 63 : Int) ≤ k.toInt ∧ k.toInt < (2 ^ 63 : Int) :=
  ⟨BitVec.le_toInt k, BitVec.toInt_lt⟩

/-- `(nitems + i)` computed modulo 2^64 and read back as `int64_t` -/
theorem toInt_add_ofNat (n : Nat) (hn : n < 2 ^ 63) (k : BitVec 64) (hk : k.toInt < 0) :
    (BitVec.ofNat 64 n + k).toInt = (n : Int) + k.toInt := by
  have hb := toInt_bounds k
  rw [BitVec.toInt_add, toInt_ofNat_small n hn, Int.bmod_def]
  omega

theorem ofInt_eq_zero_iff (i : Int) (h1 : -(2 ^ 63 : Int) ≤ i) (h2 : i < (2 ^ 63 : Int)) : BitVec.ofInt 64 i = 0 ↔ i = 0 := by
  constructor
  · intro h
    have := BitVec.toInt_ofInt_eq_self (w := 64) (by decide) h1 h2
    rw [h, toInt_zero64] at this; omega
  · intro h; subst h; rfl

/-- `i = i < 0 ? nitems + i : i; if (i < 0 or i >= (int64_t)nitems)` accepts exactly `-nitems ≤ i < nitems` -/
theorem inBounds_normIdx (n : Nat) (hn : n < 2 ^ 63) (k : BitVec 64) :
    inBounds n (normIdx n k) = true ↔ (-(n : Int) ≤ k.toInt ∧ k.toInt < n) := by
  have hb := toInt_bounds k
  simp only [inBounds, normIdx, BitVec.slt_eq_decide, toInt_zero64]
  by_cases h : k.toInt < 0
  · simp only [h, decide_true, if_true, toInt_add_ofNat n hn k h, toInt_ofNat_small n hn]
    simp only [Bool.and_eq_true, Bool.not_eq_true', decide_eq_false_iff_not, decide_eq_true_eq]
    omega
  · simp only [h, decide_false, toInt_ofNat_small n hn]
    simp only [Bool.and_eq_true, Bool.not_eq_true', decide_eq_false_iff_not, decide_eq_true_eq, Bool.false_eq_true, if_false]
    omega

/-- the slot an accepted index addresses -/
def idxOf (n : Nat) (i : Int) : Nat := (if i < 0 then (n : Int) + i else i).toNat

theorem toNat_of_toInt_nonneg (x : BitVec 64) (h : 0 ≤ x.toInt) : (x.toNat : Int) = x.toInt := by
  have hlt := x.isLt
  rw [BitVec.toInt_eq_toNat_cond] at h ⊢
  have h64 : ((2 ^ 64 : Nat) : Int) = 18446744073709551616 := by decide
  split at h <;> split <;> omega

theorem normIdx_toNat (n : Nat) (hn : n < 2 ^ 63) (k : BitVec 64)
    (h : -(n : Int) ≤ k.toInt ∧ k.toInt < n) : (normIdx n k).toNat = idxOf n k.toInt := by
  unfold normIdx idxOf
  simp only [BitVec.slt_eq_decide, toInt_zero64]
  by_cases h0 : k.toInt < 0
  · simp only [h0, decide_true, if_true]
    have h1 := toInt_add_ofNat n hn k h0
    have h2 := toNat_of_toInt_nonneg (BitVec.ofNat 64 n + k) (by omega)
    omega
  · simp only [h0, decide_false, Bool.false_eq_true, if_false]
    have h2 := toNat_of_toInt_nonneg k (by omega)
    omega

theorem idxOf_lt (n : Nat) (i : Int) (h : -(n : Int) ≤ i ∧ i < n) : idxOf n i < n := by
  unfold idxOf; split <;> omega

theorem resolveB_eq (n : Nat) (hn : n < 2 ^ 63) (k : BitVec 64) :
    resolveB n k = if -(n : Int) ≤ k.toInt ∧ k.toInt < n then .ok (idxOf n k.toInt) else .raised .IndexOutOfBoundsError := by
  unfold resolveB
  by_cases h : -(n : Int) ≤ k.toInt ∧ k.toInt < n
  · have hb := (inBounds_normIdx n hn k).mpr h
    simp only [hb, if_true, h, and_self, normIdx_toNat n hn k h]
  · have hb : inBounds n (normIdx n k) = false := by
      cases hx : inBounds n (normIdx n k) with
      | false => rfl
      | true => exact absurd ((inBounds_normIdx n hn k).mp hx) h
    simp only [hb, h, if_false, Bool.false_eq_true]

/-- `Array_Push_At` normalises and tests an index as the other functions do on one more item -/
theorem normIdxPush_eq (n : Nat) (k : BitVec 64) : normIdxPush n k = normIdx (n + 1) k := by
  have h1 : (BitVec.ofNat 64 n + 1 : BitVec 64) = BitVec.ofNat 64 (n + 1) := by
    apply BitVec.eq_of_toNat_eq; simp [BitVec.toNat_add, BitVec.toNat_ofNat]
  rw [normIdxPush, h1, normIdx]

theorem inBoundsIncl_eq (n : Nat) (hn : n + 1 < 2 ^ 63) (i : BitVec 64) : inBoundsIncl n i = inBounds (n + 1) i := by
  simp only [inBoundsIncl, inBounds, BitVec.slt_eq_decide, toInt_ofNat_small n (by omega), toInt_ofNat_small (n + 1) hn]
  by_cases h : (n : Int) < i.toInt <;> simp [h] <;> omega

theorem inBoundsIncl_normIdxPush (n : Nat) (hn : n + 1 < 2 ^ 63) (k : BitVec 64) :
    inBoundsIncl n (normIdxPush n k) = true ↔ (-((n : Int) + 1) ≤ k.toInt ∧ k.toInt ≤ n) := by
  rw [normIdxPush_eq, inBoundsIncl_eq n hn, inBounds_normIdx (n + 1) hn]
  omega

theorem normIdxPush_toNat (n : Nat) (hn : n + 1 < 2 ^ 63) (k : BitVec 64)
    (h : -((n : Int) + 1) ≤ k.toInt ∧ k.toInt ≤ n) : (normIdxPush n k).toNat = idxOf (n + 1) k.toInt := by
  rw [normIdxPush_eq]
  exact normIdx_toNat (n + 1) hn k (by omega)

/-- an index argument: NULL → ValueError, not an `Int` → ClassError, outside `[-n, n)` → IndexOutOfBoundsError -/
def idxExc (n : Nat) (k : Val) : Option Exc :=
  match k with
  | .int i => if -(n : Int) ≤ i ∧ i < n then none else some .IndexOutOfBoundsError
  | .null => some .ValueError
  | _ => some .ClassError

/-- an insertion position of `Array_Push_At`: `[-(n+1), n]` -/
def pushIdxExc (n : Nat) (k : Val) : Option Exc :=
  match k with
  | .int i => if -((n : Int) + 1) ≤ i ∧ i ≤ n then none else some .IndexOutOfBoundsError
  | .null => some .ValueError
  | _ => some .ClassError

/-- an element / key / value offered to a slot of type `ty`: NULL → ValueError; another type → ClassError
    (TypeError when `ty` has no instances at all) -/
def elemExc (ty : Ty) (v : Val) : Option Exc :=
  match v with
  | .null => some .ValueError
  | _ => if v.ty? = some ty then none else some (if ty = .plain then .TypeError else .ClassError)

theorem resolve_cases (n : Nat) (hn : n < 2 ^ 63) (k : Val) (hk : k.inRange) :
    (∃ i, resolve n k = .ok i ∧ idxExc n k = none) ∨ (∃ e, resolve n k = .raised e ∧ idxExc n k = some e) := by
  cases k with
  | int i =>
    obtain ⟨h1, h2⟩ := hk
    simp only [resolve, cInt, resolveB_eq n hn, BitVec.toInt_ofInt_eq_self (w := 64) (by decide) h1 h2, idxExc]
    split
    · exact .inl ⟨_, rfl, rfl⟩
    · exact .inr ⟨_, rfl, rfl⟩
  | _ => exact .inr ⟨_, rfl, rfl⟩

theorem resolveB_ok_lt (n : Nat) (hn : n < 2 ^ 63) (k : BitVec 64) (i : Nat) (h : resolveB n k = .ok i) : i < n := by
  rw [resolveB_eq n hn] at h
  split at h
  · cases h; exact idxOf_lt n _ ‹_›
  · cases h

theorem resolve_ok_lt (n : Nat) (hn : n < 2 ^ 63) (k : Val) (hk : k.inRange) (i : Nat) (h : resolve n k = .ok i) : i < n := by
  cases k with
  | int j => exact resolveB_ok_lt n hn _ i h
  | _ => cases h

theorem assignTo_cases (ty : Ty) (hty : ty.isElemTy) (v : Val) (hv : v ≠ .nullstr) :
    (∃ w, assignTo ty v = .ok w ∧ elemExc ty v = none) ∨ (∃ e, assignTo ty v = .raised e ∧ elemExc ty v = some e) := by
  cases ty <;> cases v <;> simp_all [assignTo, elemExc, Val.ty?, Ty.isElemTy]

theorem assignTo_ok (ty : Ty) (v w : Val) (h : assignTo ty v = .ok w) : w = v ∧ v.ty? = some ty ∧ v ≠ .nullstr := by
  cases ty <;> cases v <;> simp [assignTo] at h <;> subst h <;> simp [Val.ty?]

theorem assignTo_elemOf (ty : Ty) (v w : Val) (h : assignTo ty v = .ok w) : w.elemOf ty := by
  obtain ⟨h1, h2, h3⟩ := assignTo_ok ty v w h
  subst h1; exact ⟨h2, h3⟩

/-- the position `Array_Push_At` inserts at (the index part of `Arr.pushAt` and of `Nest.pushAt` on an outer Array) -/
def arrPushPos (n : Nat) (k : Val) : R Nat :=
  match cInt k with
  | .ok kb => if inBoundsIncl n (normIdxPush n kb) then .ok (normIdxPush n kb).toNat else .raised .IndexOutOfBoundsError
  | .raised e => .raised e
  | .ub => .ub

theorem Arr.pushAt_eq (a : Arr) (v k : Val) :
    a.pushAt v k =
      match arrPushPos a.items.length k with
      | .ok i =>
        let cap := reserveMore (a.items.length + 1) a.nslots
        (match assignTo a.ty v with
         | .ok v' => ({ a with items := insertAt a.items i v', nslots := cap }, .ok .unit)
         | .raised e => ({ a with items := insertAt a.items i (zeroVal a.ty), nslots := cap }, .raised e)
         | .ub => ({ a with items := insertAt a.items i (zeroVal a.ty), nslots := cap }, .ub))
      | .raised e => (a, .raised e)
      | .ub => (a, .ub) := by
  unfold Arr.pushAt arrPushPos
  cases cInt k with
  | ok kb => dsimp only; split <;> rfl
  | _ => rfl

theorem arrPushPos_cases (n : Nat) (hn : n + 1 < 2 ^ 63) (k : Val) (hk : k.inRange) :
    (∃ i, arrPushPos n k = .ok i ∧ pushIdxExc n k = none) ∨ (∃ e, arrPushPos n k = .raised e ∧ pushIdxExc n k = some e) := by
  cases k with
  | int i =>
    obtain ⟨h1, h2⟩ := hk
    have hb := inBoundsIncl_normIdxPush n hn (BitVec.ofInt 64 i)
    rw [BitVec.toInt_ofInt_eq_self (w := 64) (by decide) h1 h2] at hb
    simp only [arrPushPos, cInt, pushIdxExc]
    by_cases h : -((n : Int) + 1) ≤ i ∧ i ≤ n
    · exact .inl ⟨_, by rw [if_pos (hb.mpr h)], if_pos h⟩
    · exact .inr ⟨_, by rw [if_neg (fun hx => h (hb.mp hx))], if_neg h⟩
  | _ => exact .inr ⟨_, rfl, rfl⟩

/-- position argument of `List_Push_At`: 0, or an existing position -/
def lstPushIdxExc (n : Nat) (k : Val) : Option Exc :=
  match k with
  | .int i => if i = 0 ∨ (-(n : Int) ≤ i ∧ i < n) then none else some .IndexOutOfBoundsError
  | .null => some .ValueError
  | _ => some .ClassError

/-- the position `List_Push_At` links at (the index part of `Lst.pushAt` and of `Nest.pushAt` on an outer List) -/
def lstPushPos (n : Nat) (k : Val) : R Nat :=
  match cInt k with
  | .ok kb => if kb = 0 then .ok 0 else resolveB n kb
  | .raised e => .raised e
  | .ub => .ub

theorem Lst.pushAt_eq (l : Lst) (v k : Val) :
    l.pushAt v k =
      match lstPushPos l.items.length k with
      | .ok i =>
        (match assignTo l.ty v with
         | .ok v' => ({ l with items := insertAt l.items i v' }, .ok .unit)
         | .raised e => (l, .raised e)
         | .ub => (l, .ub))
      | .raised e => (l, .raised e)
      | .ub => (l, .ub) := by
  unfold Lst.pushAt lstPushPos
  cases cInt k with
  | ok kb => dsimp only; split <;> rfl
  | _ => rfl

theorem lstPushPos_cases (n : Nat) (hn : n < 2 ^ 63) (k : Val) (hk : k.inRange) :
    (∃ i, lstPushPos n k = .ok i ∧ lstPushIdxExc n k = none) ∨ (∃ e, lstPushPos n k = .raised e ∧ lstPushIdxExc n k = some e) := by
  cases k with
  | int i =>
    obtain ⟨h1, h2⟩ := hk
    simp only [lstPushPos, cInt, lstPushIdxExc, ofInt_eq_zero_iff i h1 h2, resolveB_eq n hn, BitVec.toInt_ofInt_eq_self (w := 64) (by decide) h1 h2]
    by_cases h0 : i = 0
    · exact .inl ⟨0, if_pos h0, if_pos (.inl h0)⟩
    · by_cases hb : -(n : Int) ≤ i ∧ i < n
      · exact .inl ⟨_, by rw [if_neg h0, if_pos hb], if_pos (.inr hb)⟩
      · exact .inr ⟨_, by rw [if_neg h0, if_neg hb], if_neg (by simp [h0, hb])⟩
  | _ => exact .inr ⟨_, rfl, rfl⟩

/-- a key / value handed to a typed map goes through `cast`: NULL or another type → ValueError -/
def castExc (ty : Ty) (v : Val) : Option Exc :=
  match v with
  | .null => some .ValueError
  | _ => if v.ty? = some ty then none else some .ValueError

theorem castTo_cases (ty : Ty) (v : Val) :
    (castTo ty v = .ok v ∧ castExc ty v = none ∧ v.ty? = some ty) ∨
    (castTo ty v = .raised .ValueError ∧ castExc ty v = some .ValueError) := by
  unfold castTo castExc
  cases v with
  | null => exact Or.inr ⟨rfl, rfl⟩
  | _ =>
    dsimp only
    split
    · exact Or.inl ⟨rfl, rfl, by assumption⟩
    · exact Or.inr ⟨rfl, rfl⟩

theorem castTo_of_ty (ty : Ty) (v : Val) (h : v.ty? = some ty) : castTo ty v = .ok v := by
  cases v with
  | null => cases h
  | _ => exact if_pos h

end Cello.Fail
