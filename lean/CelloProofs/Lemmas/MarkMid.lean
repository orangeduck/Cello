/-
  The intermediate container states of Cello/HeapMid.lean.  `MarkSafe` speaks of the views of a finished run, but it is an invariant of the
  run: a state stays mark-safe over a statement that brings no element into view that was not in view before, and that lets element code
  run only where the Mark instance finds no empty slot (`MarkSafe.step`).  `Mach.step` creates no element (`step_cells`), so the first
  condition fails only where a hidden cell comes into view (`step_presented`); the second needs one bit of knowledge per program point,
  which `flowProg` computes and `markSafe_of_flow` proves sound.  Array_Push and Array_Push_At, whose `nitems++` exposes a slot that
  `Array_Alloc` fills before the call, are checked from the state behind `Array_Alloc`, which is written out (`markSafe_of_flow_behind`).
  Nothing here depends on the statement ORDER of the source (the lists of CelloGen/GcMid.lean): the theorems that do are in
  CelloProofs/Props/C01.lean, so that a source change that breaks one is reported by the name of that theorem.
-/
import Cello.Heap
import Cello.HeapMid
import CelloProofs.Lemmas.MarkFields

namespace Cello.Heap.Mid
open CelloGen.GcMid

variable {α : Type}

theorem mem_takePad_iff {n : Nat} {l : List (Cell α)} {c : Cell α} :
    c ∈ takePad n l ↔ c ∈ l.take n ∨ (l.length < n ∧ c = none) := by
  simp only [takePad, List.mem_append, List.mem_replicate, ne_eq, Nat.sub_eq_zero_iff_le, Nat.not_le]

theorem mem_takePad {n : Nat} {l : List (Cell α)} {c : Cell α} (h : c ∈ takePad n l) : c ∈ l.take n ∨ c = none :=
  (mem_takePad_iff.mp h).imp id And.right

theorem takePad_of_le {n : Nat} {l : List (Cell α)} (h : n ≤ l.length) : takePad n l = l.take n := by
  simp [takePad, Nat.sub_eq_zero_of_le h]

theorem takePad_length_self (l : List (Cell α)) : takePad l.length l = l := by simp [takePad]

theorem takePad_map_some (elems : List α) (spare : List (Cell α)) :
    takePad elems.length (elems.map some ++ spare) = elems.map some := by
  simp [takePad]

theorem takePad_mono {n' n : Nat} (h : n' ≤ n) {l : List (Cell α)} {c : Cell α} (hc : c ∈ takePad n' l) : c ∈ takePad n l := by
  rw [mem_takePad_iff] at hc ⊢
  exact hc.imp (fun hc => List.take_subset_take_left l h hc) fun hc => ⟨by omega, hc.2⟩

theorem mem_takePad_set {n p : Nat} {v c : Cell α} {l : List (Cell α)} (hc : c ∈ takePad n (l.set p v)) : c ∈ takePad n l ∨ c = v := by
  rw [mem_takePad_iff, List.length_set, List.take_set] at hc
  rw [mem_takePad_iff]
  rcases hc with hc | hc
  · exact (List.mem_or_eq_of_mem_set hc).imp .inl id
  · exact .inl (.inr hc)

theorem mem_takePad_append {n : Nat} {c : Cell α} {l r : List (Cell α)} (hc : c ∈ takePad n (l ++ r)) : c ∈ takePad n l ∨ c ∈ r := by
  rw [mem_takePad_iff, List.length_append, List.take_append, List.mem_append] at hc
  rw [mem_takePad_iff]
  rcases hc with (hc | hc) | hc
  · exact .inl (.inl hc)
  · exact .inr (List.mem_of_mem_take hc)
  · exact .inl (.inr ⟨by omega, hc.2⟩)

theorem mem_takePad_take {n : Nat} {c : Cell α} {l : List (Cell α)} (hc : c ∈ takePad n (l.take n)) : c ∈ takePad n l := by
  rw [mem_takePad_iff, List.length_take, List.take_take, Nat.min_self] at hc
  exact mem_takePad_iff.mpr (hc.imp id fun hc => ⟨by omega, hc.2⟩)

theorem mem_takePad_none {n : Nat} {c : Cell α} {l : List (Cell α)} (hl : ∀ c ∈ l, c = none) (hc : c ∈ takePad n l) : c = none :=
  (mem_takePad hc).elim (fun h => hl c (List.mem_of_mem_take h)) id

theorem mem_takePad_takePad {a b : Nat} {l : List (Cell α)} {c : Cell α} (h : c ∈ takePad a (takePad b l)) :
    c ∈ l.take a ∨ c = none := by
  rcases mem_takePad h with h | h
  · -- position-wise: a cell among the first `a` of `take b l ++ none…`
    simp only [takePad, List.take_append, List.mem_append] at h
    rcases h with h | h
    · rw [List.take_take] at h
      exact Or.inl (List.take_subset_take_left l (Nat.min_le_left a b) h)
    · have := List.mem_of_mem_take h
      simp only [List.mem_replicate] at this
      exact Or.inr this.2
  · exact Or.inr h

theorem mem_moveDown {l : List α} {i cnt : Nat} {c : α} (h : c ∈ moveDown l i cnt) : c ∈ l := by
  simp only [moveDown, List.mem_append] at h
  rcases h with (h | h) | h
  · exact List.mem_of_mem_take h
  · exact List.mem_of_mem_drop (List.mem_of_mem_take h)
  · exact List.mem_of_mem_drop h

theorem mem_moveUp {l : List α} {i cnt : Nat} {c : α} (h : c ∈ moveUp l i cnt) : c ∈ l := by
  simp only [moveUp, List.mem_append] at h
  rcases h with (h | h) | h
  · exact List.mem_of_mem_take h
  · exact List.mem_of_mem_drop (List.mem_of_mem_take h)
  · exact List.mem_of_mem_drop h

theorem mem_filterMap_id {l : List (Cell α)} {x : α} : x ∈ l.filterMap id ↔ some x ∈ l := by
  simp [List.mem_filterMap]

theorem all_some_map (l : List α) : ∀ c ∈ l.map some, c ≠ none := by
  intro c hc
  obtain ⟨x, _, rfl⟩ := List.mem_map.mp hc
  simp

/-- a block that is exactly full is what its Mark instance presents, whichever instance it is (an empty Tree is the empty block) -/
theorem presented_full (sh : Shape) (cells : List (Cell α)) : presented sh cells cells.length = cells := by
  unfold presented
  split
  · rename_i h
    simp only [Bool.and_eq_true, beq_iff_eq] at h
    exact (List.eq_nil_of_length_eq_zero h.2).symm
  · split
    · exact takePad_length_self cells
    · rfl

theorem presented_list (cells : List (Cell α)) (n : Nat) : presented Shape.list cells n = cells := by
  simp [presented, Shape.list]

theorem presented_table (cells : List (Cell α)) (n : Nat) : presented Shape.table cells n = cells := by
  simp [presented, Shape.table]

theorem mem_presented_iff {sh : Shape} {cells : List (Cell α)} {n : Nat} {c : Cell α} :
    c ∈ presented sh cells n ↔ ¬ (sh.emptyAt0 = true ∧ n = 0) ∧ c ∈ (if sh.bounded then takePad n cells else cells) := by
  unfold presented
  split <;> simp_all

theorem mem_presented {sh : Shape} {cells : List (Cell α)} {n : Nat} {c : Cell α} (h : c ∈ presented sh cells n) : c ∈ cells ∨ c = none := by
  have h := (mem_presented_iff.mp h).2
  split at h
  · exact (mem_takePad h).imp List.mem_of_mem_take id
  · exact .inl h

theorem eachLoop_inv (env : Env α) (body : List Ev) (I : Mach α → Prop)
    (hstep : ∀ j st, I st → I (st.run { env with j := j } body)) : ∀ (js : List Nat) (st : Mach α), I st → I (Mach.eachLoop env body js st)
  | [], _, h => h
  | j :: js, st, h => eachLoop_inv env body I hstep js _ (hstep j st h)

theorem whileLoop_inv (env : Env α) (body : List Ev) (I : Mach α → Prop)
    (hstep : ∀ st, I st → env.m < st.n → I (st.run env body)) : ∀ (fuel : Nat) (st : Mach α), I st → I (Mach.whileLoop env body fuel st)
  | 0, _, h => h
  | fuel + 1, st, h => by
    unfold Mach.whileLoop
    split
    · exact whileLoop_inv env body I hstep fuel _ (hstep st h ‹_›)
    · exact h

/-- like `eachLoop_inv`, for an invariant that also knows which rounds are still to come -/
theorem eachLoop_inv_idx (env : Env α) (body : List Ev) (I : List Nat → Mach α → Prop)
    (hstep : ∀ j js st, I (j :: js) st → I js (st.run { env with j := j } body)) :
    ∀ (js : List Nat) (st : Mach α), I js st → I [] (Mach.eachLoop env body js st)
  | [], _, h => h
  | j :: js, st, h => eachLoop_inv_idx env body I hstep js _ (hstep j js st h)

/-- the statement kinds, by what they can do to what the Mark instance presents -/
inductive Cls where
  | call    -- runs element code (a collection can run inside): records a view
  | up      -- raises the length field
  | down    -- lowers it
  | reset   -- sets it to the length of the operand
  | wipe    -- leaves a block of no slots
  | blank   -- can leave slots that hold no element
  | shift   -- moves cells to other positions, or in and out of the block
  | plain

/-- `memmove` down by at least one slot is `plain`: it stays inside the first `nitems` slots (`mem_takePad_moveDown`) -/
def cls : Ev → Cls
  | .destructKey _ | .destruct _ | .assignKey _ | .assign _ | .destructOut | .assignPendKey | .assignPend => .call
  | .inc | .addLen => .up
  | .dec | .len0 => .down
  | .lenSrc => .reset
  | .capZero | .dataNull | .dropAll => .wipe
  | .free _ | .freeData | .mallocCap | .reallocCap | .reserveMore | .reserveFor _ => .blank
  | .unlink _ | .moveUp _ | .linkPend _ | .storePend _ => .shift
  | .moveDown k => if k < 0 then .plain else .shift
  | _ => .plain

theorem linkPos_le (env : Env α) (st : Mach α) (s : Sel) : st.linkPos env s ≤ st.cells.length := by
  unfold Mach.linkPos
  split
  · exact Nat.le_refl _
  · exact Nat.min_le_right _ _

/-- **where the cells behind a statement come from**: `Mach.step` creates no element.  A cell of the block was a cell of the block, or is
    the pending cell, or holds the operand or a zeroed element, or (behind a `blank` statement) holds no element; the pending cell is the
    old one or holds the operand or a zeroed element; the unlinked cell was a cell of the block -/
theorem step_cells (env : Env α) (st : Mach α) (e : Ev) :
    (∀ c ∈ (st.step env e).cells, c ∈ st.cells ∨ (st.pend = some c ∨ c = some env.val ∨ c = some env.zero) ∨ (c = none ∧ cls e = .blank)) ∧
    (∀ c, (st.step env e).pend = some c → st.pend = some c ∨ c = some env.val ∨ c = some env.zero) ∧
    (∀ c, (st.step env e).out = some c → st.out = some c ∨ c ∈ st.cells) := by
  -- a statement that changes the block only: `cells` says where the new cells come from
  have cells : ∀ {P : Cell α → Prop} {st' : Mach α}, st'.pend = st.pend → st'.out = st.out → (∀ c ∈ st'.cells, c ∈ st.cells ∨ P c) →
      (∀ c ∈ st'.cells, c ∈ st.cells ∨ P c) ∧ (∀ c, st'.pend = some c → st.pend = some c ∨ c = some env.val ∨ c = some env.zero) ∧
      (∀ c, st'.out = some c → st.out = some c ∨ c ∈ st.cells) :=
    fun hp ho hc => ⟨hc, fun c h => .inl (hp ▸ h), fun c h => .inl (ho ▸ h)⟩
  have same : ∀ {P : Cell α → Prop} {st' : Mach α}, st'.cells = st.cells → st'.pend = st.pend → st'.out = st.out → _ :=
    fun {P} _ hc hp ho => cells (P := P) hp ho fun c h => .inl (hc ▸ h)
  have set : ∀ {P : Prop} {p : Nat} {v c : Cell α}, c ∈ st.cells.set p v → (c = v → P) → c ∈ st.cells ∨ P :=
    fun h hv => (List.mem_or_eq_of_mem_set h).imp id hv
  cases e
  case assign s =>
    dsimp only [Mach.step]; split
    · exact cells rfl rfl fun c h => set h fun h => .inl (.inr (.inl h))
    · exact same rfl rfl rfl
  case alloc s =>
    dsimp only [Mach.step]; split
    · exact cells rfl rfl fun c h => set h fun h => .inl (.inr (.inr h))
    · exact same rfl rfl rfl
  case reserveMore | reserveFor =>
    dsimp only [Mach.step]; split
    · exact cells rfl rfl fun c h => (List.mem_append.mp h).imp id fun h => .inr ⟨(List.mem_replicate.mp h).2, rfl⟩
    · exact same rfl rfl rfl
  case reserveLess =>
    dsimp only [Mach.step]; split
    · exact cells rfl rfl fun c h => .inl (List.mem_of_mem_take h)
    · exact same rfl rfl rfl
  case capZero | dataNull | dropAll => exact cells rfl rfl fun c h => nomatch h
  case mallocCap => exact cells rfl rfl fun c h => .inr (.inr ⟨(List.mem_replicate.mp h).2, rfl⟩)
  case reallocCap =>
    exact cells rfl rfl fun c h => (mem_takePad h).imp List.mem_of_mem_take fun h => .inr ⟨h, rfl⟩
  case freeData =>
    refine cells rfl rfl fun c h => ?_
    obtain ⟨_, _, rfl⟩ := List.mem_map.mp h
    exact .inr (.inr ⟨rfl, rfl⟩)
  case moveDown k => exact cells rfl rfl fun c h => .inl (mem_moveDown h)
  case moveUp k => exact cells rfl rfl fun c h => .inl (mem_moveUp h)
  case free s => exact cells rfl rfl fun c h => set h fun h => .inr ⟨h, rfl⟩
  case unlink s =>
    exact ⟨fun c h => .inl (List.mem_of_mem_eraseIdx h), fun c h => .inl h, fun c h => .inr (List.mem_of_getElem? h)⟩
  case freeOut => exact ⟨fun c h => .inl h, fun c h => .inl h, fun c h => nomatch h⟩
  case allocPend => exact ⟨fun c h => .inl h, fun c h => .inr (.inr (Option.some.inj h).symm), fun c h => .inl h⟩
  case assignPend => exact ⟨fun c h => .inl h, fun c h => .inr (.inl (Option.some.inj h).symm), fun c h => .inl h⟩
  case linkPend s =>
    dsimp only [Mach.step]; split
    · rename_i c0 hp0
      refine ⟨fun c h => ?_, (fun c h => nomatch h), fun c h => .inl h⟩
      rcases (List.mem_insertIdx (linkPos_le env st s)).mp h with h | h
      · exact .inr (.inl (.inl (h ▸ hp0)))
      · exact .inl h
    · exact same rfl rfl rfl
  case storePend s =>
    dsimp only [Mach.step]; split
    · rename_i c0 hp0
      refine ⟨fun c h => ?_, (fun c h => nomatch h), fun c h => .inl h⟩
      dsimp only at h
      split at h
      · exact set h fun h => .inl (.inl (h ▸ hp0))
      · rcases List.mem_append.mp h with h | h
        · exact .inl h
        · exact .inr (.inl (.inl (List.mem_singleton.mp h ▸ hp0)))
    · exact same rfl rfl rfl
  all_goals exact same rfl rfl rfl

/-- what a statement does to the views (a view it records is what the container presents behind it), to the length field, and — a
    `wipe` — to the block -/
theorem step_meta (env : Env α) (st : Mach α) (e : Ev) :
    ((st.step env e).views = st.views ∨
      (cls e = .call ∧ ∃ t, (st.step env e).views = ⟨t, (st.step env e).presented env⟩ :: st.views)) ∧
    ((st.step env e).n ≤ st.n ∨ cls e = .up ∨ cls e = .reset) ∧ (st.n ≤ (st.step env e).n ∨ cls e = .down ∨ cls e = .reset) ∧
    (cls e = .wipe → (st.step env e).cells = []) := by
  have same : ∀ {k : Cls} {st' : Mach α}, st'.views = st.views → st'.n = st.n → k ≠ .wipe →
      (st'.views = st.views ∨ (k = .call ∧ ∃ t, st'.views = ⟨t, st'.presented env⟩ :: st.views)) ∧
      (st'.n ≤ st.n ∨ k = .up ∨ k = .reset) ∧ (st.n ≤ st'.n ∨ k = .down ∨ k = .reset) ∧ (k = .wipe → st'.cells = []) :=
    fun hv hn hw => ⟨.inl hv, .inl (Nat.le_of_eq hn), .inl (Nat.le_of_eq hn.symm), fun h => absurd h hw⟩
  cases e
  case destructKey | destruct | assignKey | destructOut | assignPendKey | assignPend =>
    exact ⟨.inr ⟨rfl, _, rfl⟩, .inl (Nat.le_refl _), .inl (Nat.le_refl _), Cls.noConfusion⟩
  case assign =>
    dsimp only [Mach.step]; split
    · exact ⟨.inr ⟨rfl, _, rfl⟩, .inl (Nat.le_refl _), .inl (Nat.le_refl _), Cls.noConfusion⟩
    · exact same rfl rfl Cls.noConfusion
  case alloc | reserveMore | reserveFor | reserveLess | linkPend | storePend =>
    dsimp only [Mach.step]; split <;> exact same rfl rfl Cls.noConfusion
  case inc | addLen => exact ⟨.inl rfl, .inr (.inl rfl), .inl (Nat.le_add_right _ _), Cls.noConfusion⟩
  case dec => exact ⟨.inl rfl, .inl (Nat.sub_le _ _), .inr (.inl rfl), Cls.noConfusion⟩
  case len0 => exact ⟨.inl rfl, .inl (Nat.zero_le _), .inr (.inl rfl), Cls.noConfusion⟩
  case lenSrc => exact ⟨.inl rfl, .inr (.inr rfl), .inr (.inr rfl), Cls.noConfusion⟩
  case capZero | dataNull | dropAll => exact ⟨.inl rfl, .inl (Nat.le_refl _), .inl (Nat.le_refl _), fun _ => rfl⟩
  case moveDown k => exact same rfl rfl (by intro h; simp only [cls] at h; split at h <;> cases h)
  all_goals exact same rfl rfl Cls.noConfusion

/-- **a view is mark-safe for the elements `keep`**: the Mark instance reads only constructed elements, and presents every element of `keep`.
    `MarkSafe` writes the two clauses out, `keep` being the elements of the completed container that are neither the operand's nor zeroed. -/
def View.Safe (keep : List α) (v : View α) : Prop := (∀ c ∈ v.cells, c ≠ none) ∧ ∀ x ∈ keep, some x ∈ v.cells

/-- **mark-safe intermediate states**: inside every element call of the operation (destructor or Assign instance: a collection can run there)
    the container's Mark instance reads only constructed elements and presents every element the container holds when the operation
    completes, except those the operand of the operation supplies (the caller holds the operand) and zeroed elements (`Array_Alloc`: every
    word 0) -/
def MarkSafe (env : Env α) (r : Mach α) : Prop :=
  ∀ v ∈ r.views, (∀ c ∈ v.cells, c ≠ none) ∧ ∀ x ∈ r.final env, x ∈ env.src ∨ x = env.zero ∨ some x ∈ v.cells

theorem markSafe_reverse {env : Env α} {r : Mach α} (h : MarkSafe env r) : MarkSafe env { r with views := r.views.reverse } := by
  intro v hv
  exact h v (List.mem_reverse.mp hv)

theorem init_presented (env : Env α) (elems : List α) : (Mach.init elems).presented env = elems.map some := by
  show presented env.shape (elems.map some ++ []) elems.length = _
  rw [List.append_nil, ← List.length_map (as := elems) some]
  exact presented_full _ _

theorem initCap_presented (env : Env α) (elems : List α) (spare : List (Cell α)) (hs : env.shape = Shape.array) :
    (Mach.initCap elems spare).presented env = elems.map some := by
  simp [Mach.presented, Mach.initCap, presented, hs, Shape.array, takePad_map_some]

/-- the operand of the round: the element of the source the loop variable selects, or (past its end) a zeroed element -/
theorem val_mem_drop_or_zero (env : Env α) : env.val ∈ env.src.drop env.j ∨ env.val = env.zero := by
  unfold Env.val
  by_cases h : env.j < env.src.length
  · left
    rw [List.getD_eq_getElem?_getD, List.getElem?_eq_getElem h, Option.getD_some]
    exact List.mem_drop_iff_getElem.mpr ⟨0, by simpa using h, by simp⟩
  · right
    rw [List.getD_eq_getElem?_getD, List.getElem?_eq_none (Nat.le_of_not_lt h), Option.getD_none]

/-- a cell that holds an element of the operand or a zeroed element -/
def Clean (env : Env α) (c : Cell α) : Prop := ∃ x, c = some x ∧ (x ∈ env.src ∨ x = env.zero)

theorem clean_val (env : Env α) : Clean env (some env.val) :=
  ⟨_, rfl, (val_mem_drop_or_zero env).imp List.mem_of_mem_drop id⟩

theorem clean_zero (env : Env α) : Clean env (some env.zero) := ⟨_, rfl, .inr rfl⟩

/-- **the step that every statement of every admitted operation is an instance of**: a state is mark-safe when its predecessor is, it
    presents no element the predecessor did not present (operand and zeroed elements aside), and a view it has recorded is what it
    presents, without an empty slot -/
theorem MarkSafe.step {env : Env α} {st st' : Mach α} (h : MarkSafe env st)
    (hsub : ∀ c ∈ st'.presented env, c ∈ st.presented env ∨ Clean env c ∨ c = none)
    (hv : ∀ v ∈ st'.views, v ∈ st.views ∨ (v.cells = st'.presented env ∧ ∀ c ∈ v.cells, c ≠ none)) : MarkSafe env st' := by
  intro v hvm
  rcases hv v hvm with hold | ⟨hnew, hd⟩
  · refine ⟨(h v hold).1, fun x hx => ?_⟩
    -- an element of the final state was presented before (the old view covers it), or is the operand's / zeroed
    rcases hsub _ (mem_filterMap_id.mp hx) with h1 | ⟨y, hy, h1⟩ | h1
    · exact (h v hold).2 x (mem_filterMap_id.mpr h1)
    · cases hy; exact h1.elim .inl fun h => .inr (.inl h)
    · cases h1
  · exact ⟨hd, fun x hx => .inr (.inr (hnew ▸ mem_filterMap_id.mp hx))⟩

/-- a state in which element code may run: the Mark instance finds no empty slot — and a container whose Mark instance presents nothing
    while the length field is 0 (a Tree) holds only operand and zeroed elements then, so that raising the field brings nothing old into
    view -/
def Mach.Ok (env : Env α) (st : Mach α) : Prop :=
  (∀ c ∈ st.presented env, c ≠ none) ∧ (env.shape.emptyAt0 = true → st.n = 0 → ∀ c ∈ st.cells, Clean env c)

def PendOk (env : Env α) (st : Mach α) : Prop := ∀ c, st.pend = some c → Clean env c

theorem PendOk.clean {env : Env α} {st : Mach α} (hp : PendOk env st) {c : Cell α}
    (h : st.pend = some c ∨ c = some env.val ∨ c = some env.zero) : Clean env c :=
  h.elim (hp c) fun h => h.elim (· ▸ clean_val env) (· ▸ clean_zero env)

theorem moveCount_neg_one {n i : Nat} : moveCount n i (-1) = n - i - 1 := by
  unfold moveCount; omega

/-- `memmove(data + i, data + i + 1, nitems - i + k)` with `k ≤ -1` stays inside the first `nitems` slots -/
theorem mem_takePad_moveDown {n i : Nat} {k : Int} (hk : k ≤ -1) {l : List (Cell α)} {c : Cell α}
    (hc : c ∈ takePad n (moveDown l i (moveCount n i k))) : c ∈ takePad n l := by
  generalize hcnt : moveCount n i k = cnt at hc
  rcases Nat.eq_zero_or_pos cnt with h0 | hpos
  · subst h0
    rwa [show moveDown l i 0 = l by simp [moveDown]] at hc
  have hle : i + 1 + cnt ≤ n := by unfold moveCount at hcnt; omega
  rw [mem_takePad_iff] at hc ⊢
  by_cases hL : i + 1 + cnt ≤ l.length
  · -- the first `n` slots behind the move: `take i`, `cnt` slots from `i + 1` on, and the slots from `i + cnt` up to `n`
    have hAB : (l.take i ++ (l.drop (i + 1)).take cnt).length = i + cnt := by
      rw [List.length_append, List.length_take_of_le (by omega), List.length_take_of_le (by rw [List.length_drop]; omega)]
    have hmv : moveDown l i cnt = (l.take i ++ (l.drop (i + 1)).take cnt) ++ l.drop (i + cnt) := rfl
    have hlen : (moveDown l i cnt).length = l.length := by rw [hmv, List.length_append, hAB, List.length_drop]; omega
    rw [hlen] at hc
    refine hc.imp (fun hc => ?_) id
    rw [hmv, List.take_append, hAB, List.take_drop, List.take_drop, show i + cnt + (n - (i + cnt)) = n by omega] at hc
    rcases List.mem_append.mp hc with hc | hc
    · rcases List.mem_append.mp (List.mem_of_mem_take hc) with hc | hc
      · exact List.take_subset_take_left l (by omega) hc
      · exact List.take_subset_take_left l hle (List.mem_of_mem_drop hc)
    · exact List.mem_of_mem_drop hc
  · -- a block shorter than the range that moves: every slot lies in front of `nitems`
    rcases hc with hc | hc
    · exact .inl (by rw [List.take_of_length_le (by omega)]; exact mem_moveDown (List.mem_of_mem_take hc))
    · exact .inr ⟨by omega, hc.2⟩

/-- **every presented cell behind a statement was presented in front of it**, or holds an operand / zeroed element, or (`blank`, `wipe`)
    holds none.  Not followed on a bounded block (`Array_Mark` walks `nitems` slots): the statements that raise `nitems` or move cells
    across it.  A statement that raises the length field of a Tree from 0 needs `Ok` in front of it. -/
theorem step_presented (env : Env α) (st : Mach α) (e : Ev)
    (hb : env.shape.bounded = true → cls e ≠ .up ∧ cls e ≠ .reset ∧ cls e ≠ .shift) (hp : PendOk env st)
    (hx : env.shape.emptyAt0 = true → cls e = .up ∨ cls e = .reset → st.Ok env) :
    ∀ c ∈ (st.step env e).presented env, c ∈ st.presented env ∨ Clean env c ∨ (c = none ∧ (cls e = .blank ∨ cls e = .wipe)) := by
  intro c hc
  by_cases hbd : env.shape.bounded = true
  · -- a bounded block: the first `n` slots, `n` not raised
    have key : ∀ {Q : Cell α → Prop} (cells' : List (Cell α)) (n' : Nat), n' ≤ st.n →
        (∀ c ∈ takePad n' cells', c ∈ takePad st.n st.cells ∨ Q c) →
        ∀ c ∈ presented env.shape cells' n', c ∈ presented env.shape st.cells st.n ∨ Q c := by
      intro Q cells' n' hn h c hc
      simp only [mem_presented_iff, hbd, if_true] at hc ⊢
      exact (h c hc.2).imp (fun h' => ⟨fun h0 => hc.1 ⟨h0.1, by omega⟩, h'⟩) id
    have hnone : ∀ {c : Cell α}, c = none → cls e = .blank ∨ cls e = .wipe →
        Clean env c ∨ (c = none ∧ (cls e = .blank ∨ cls e = .wipe)) := fun h1 h2 => .inr ⟨h1, h2⟩
    specialize hb hbd
    revert c
    cases e
    case destructKey | destruct | assignKey | destructOut | assignPendKey | assignPend | capLen | capN | clear | freeOut | allocPend =>
      exact fun c hc => .inl hc
    case inc | addLen => exact absurd rfl hb.1
    case lenSrc => exact absurd rfl hb.2.1
    case unlink | moveUp | linkPend | storePend => exact absurd rfl hb.2.2
    case moveDown k =>
      by_cases hk : k < 0
      · exact key _ _ (Nat.le_refl _) fun c hc => .inl (mem_takePad_moveDown (by omega) hc)
      · exact absurd (by simp only [cls, hk, if_false]) hb.2.2
    case dec => exact key _ _ (Nat.sub_le _ _) fun c hc => .inl (takePad_mono (Nat.sub_le _ _) hc)
    case len0 => exact key _ _ (Nat.zero_le _) fun c hc => .inl (takePad_mono (Nat.zero_le _) hc)
    case assign s =>
      dsimp only [Mach.step]; split
      · exact key _ _ (Nat.le_refl _) fun c hc => (mem_takePad_set hc).imp id fun (h : c = _) => Or.inl (h ▸ clean_val env)
      · exact fun c hc => .inl hc
    case alloc s =>
      dsimp only [Mach.step]; split
      · exact key _ _ (Nat.le_refl _) fun c hc => (mem_takePad_set hc).imp id fun (h : c = _) => Or.inl (h ▸ clean_zero env)
      · exact fun c hc => .inl hc
    case free s => exact key _ _ (Nat.le_refl _) fun c hc => (mem_takePad_set hc).imp id fun h => hnone h (.inl rfl)
    case reserveMore | reserveFor =>
      dsimp only [Mach.step]; split
      · exact key _ _ (Nat.le_refl _) fun c hc => (mem_takePad_append hc).imp id fun h => hnone (List.mem_replicate.mp h).2 (.inl rfl)
      · exact fun c hc => .inl hc
    case reserveLess =>
      dsimp only [Mach.step]; split
      · exact key _ _ (Nat.le_refl _) fun c hc => .inl (mem_takePad_take hc)
      · exact fun c hc => .inl hc
    case capZero | dataNull | dropAll =>
      exact key _ _ (Nat.le_refl _) fun c hc => .inr (hnone (mem_takePad_none (fun _ h => by cases h) hc) (.inr rfl))
    case mallocCap =>
      exact key _ _ (Nat.le_refl _) fun c hc => .inr (hnone (mem_takePad_none (fun _ h => (List.mem_replicate.mp h).2) hc) (.inl rfl))
    case freeData =>
      exact key _ _ (Nat.le_refl _) fun c hc =>
        .inr (hnone (mem_takePad_none (fun _ h => by obtain ⟨_, _, rfl⟩ := List.mem_map.mp h; rfl) hc) (.inl rfl))
    case reallocCap =>
      exact key _ _ (Nat.le_refl _) fun c hc => (mem_takePad_takePad hc).elim
        (fun h => .inl (List.mem_append_left _ h)) fun h => .inr (hnone h (.inl rfl))
  · -- the Mark instance follows the links: every cell, or (a Tree with length field 0) none
    have hlink : ∀ {cells : List (Cell α)} {n : Nat},
        c ∈ presented env.shape cells n ↔ ¬ (env.shape.emptyAt0 = true ∧ n = 0) ∧ c ∈ cells := by
      intro cells n; rw [mem_presented_iff, if_neg hbd]
    have hc' := hlink.mp hc
    rcases (step_cells env st e).1 c hc'.2 with h | h | ⟨h, hbl⟩
    · by_cases h0 : env.shape.emptyAt0 = true ∧ st.n = 0
      · rcases (step_meta env st e).2.1 with hr | hr
        · exact absurd ⟨h0.1, by omega⟩ hc'.1
        · exact .inr (.inl ((hx h0.1 hr).2 h0.1 h0.2 c h))
      · exact .inl (hlink.mpr ⟨h0, h⟩)
    · exact .inr (.inl (hp.clean h))
    · exact .inr (.inr ⟨h, .inl hbl⟩)

/-! ### the flow check

  One bit per program point: `true` = the state is known to be `Ok` (the Mark instance finds no empty slot; an emptied Tree holds
  nothing old).  Element code may run only where the bit is set.  A `blank` statement clears it, a `wipe` of a linked structure sets it
  (nothing is left to present); the other statements keep it, because every cell they present was presented or is a constructed
  operand / zeroed element (`step_presented`).  `none`: the program is not admitted. -/

def flowCls (sh : Shape) (ok : Bool) : Cls → Option Bool
  | .call => if ok then some true else none
  -- `nitems` of an Array raised: a spare slot comes into view (not followed); of a Tree raised from 0: all its cells do (bit needed)
  | .up => if sh.bounded || (sh.emptyAt0 && !ok) then none else some ok
  -- a Tree may stand at 0 over old cells now
  | .down => some (ok && !sh.emptyAt0)
  | .reset => if sh.bounded || (sh.emptyAt0 && !ok) then none else some (ok && !sh.emptyAt0)
  -- no cell left: a linked structure presents nothing; `Array_Mark` still walks `nitems` slots
  | .wipe => some (!sh.bounded)
  | .blank => some false
  -- across `nitems` (not followed); in a linked structure every cell is in view wherever it stands
  | .shift => if sh.bounded then none else some ok
  | .plain => some ok

def flow (sh : Shape) (o : Option Bool) (e : Ev) : Option Bool := o.bind fun ok => flowCls sh ok (cls e)

def flowRun (sh : Shape) (o : Option Bool) (evs : List Ev) : Option Bool := evs.foldl (flow sh) o

/-- a loop runs its body any number of times: it is admitted when the body, started with the bit the loop is reached with, ends with
    the same bit — then that bit holds in front of every round and behind the loop -/
def flowInstr (sh : Shape) (o : Option Bool) : Instr → Option Bool
  | .seq evs => flowRun sh o evs
  | .each body | .whileLen body | .fill body => if flowRun sh o body = o then o else none

/-- **the check**: the fold reaches the end of the program, started with the bit set (the container before the operation is `Ok`:
    `init_ok`, `initCap_ok`) -/
def flowProg (sh : Shape) (p : List Instr) : Bool := (p.foldl (flowInstr sh) (some true)).isSome

/-! the table `flowCls`, as the three facts the soundness proof uses: which statements are not followed on a bounded block; where the
    bit is needed; what a set bit behind the statement comes from -/

theorem flowCls_bars {sh : Shape} {ok ok' : Bool} {k : Cls} (h : flowCls sh ok k = some ok') (hb : sh.bounded = true) :
    k ≠ .up ∧ k ≠ .reset ∧ k ≠ .shift := by
  cases k <;> simp_all [flowCls]

theorem flowCls_needs {sh : Shape} {ok ok' : Bool} {k : Cls} (h : flowCls sh ok k = some ok')
    (hk : k = .call ∨ (sh.emptyAt0 = true ∧ (k = .up ∨ k = .reset))) : ok = true := by
  cases k <;> simp_all [flowCls]

theorem flowCls_gives {sh : Shape} {ok : Bool} {k : Cls} (h : flowCls sh ok k = some true) :
    (k = .wipe ∧ sh.bounded = false) ∨ (ok = true ∧ k ≠ .blank ∧ k ≠ .wipe ∧ (sh.emptyAt0 = true → k ≠ .down ∧ k ≠ .reset)) := by
  cases k <;> simp_all [flowCls]

/-- what the check knows at a program point it reaches with the bit `o` -/
def Flow (env : Env α) (o : Option Bool) (st : Mach α) : Prop :=
  ∀ ok, o = some ok → PendOk env st ∧ MarkSafe env st ∧ (ok = true → st.Ok env)

theorem flow_step (env : Env α) (st : Mach α) (e : Ev) (o : Option Bool) (h : Flow env o st) :
    Flow env (flow env.shape o e) (st.step env e) := by
  intro ok' hok'
  cases o with
  | none => cases hok'
  | some ok =>
    obtain ⟨hp, hs, hk⟩ := h ok rfl
    replace hok' : flowCls env.shape ok (cls e) = some ok' := hok'
    obtain ⟨hcell, hpend, _⟩ := step_cells env st e
    obtain ⟨hviews, _, hdown, hwipe⟩ := step_meta env st e
    have hpres := step_presented env st e (flowCls_bars hok') hp fun hz hr => hk (flowCls_needs hok' (.inr ⟨hz, hr⟩))
    refine ⟨fun c hc => hp.clean (hpend c hc), ?_, fun hok => ?_⟩
    · refine hs.step (fun c hc => (hpres c hc).imp id (.imp id And.left)) fun v hv => ?_
      rcases hviews with h | ⟨hcall, t, h⟩
      · exact .inl (h ▸ hv)
      · rw [h] at hv
        rcases List.mem_cons.mp hv with rfl | hv
        · -- element code runs here: the bit is set, so what was presented had no empty slot, and a `call` leaves none
          refine .inr ⟨rfl, fun c hc => ?_⟩
          rcases hpres c hc with h1 | ⟨_, rfl, _⟩ | ⟨_, h1 | h1⟩
          · exact (hk (flowCls_needs hok' (.inl hcall))).1 c h1
          · exact fun h => nomatch h
          · rw [hcall] at h1; cases h1
          · rw [hcall] at h1; cases h1
        · exact .inl hv
    · subst hok
      rcases flowCls_gives hok' with ⟨hw, hbd⟩ | ⟨hok0, hbl, hw, hlow⟩
      · -- nothing is left to present
        have hc := hwipe hw
        refine ⟨fun c hc' => ?_, fun _ _ c hc' => by rw [hc] at hc'; cases hc'⟩
        have := (mem_presented_iff.mp hc').2
        simp only [hc, hbd, Bool.false_eq_true, if_false, List.not_mem_nil] at this
      · obtain ⟨hd, hz⟩ := hk hok0
        refine ⟨fun c hc => ?_, fun h0 hn c hc => ?_⟩
        · rcases hpres c hc with h1 | ⟨_, rfl, _⟩ | ⟨_, h1 | h1⟩
          · exact hd c h1
          · exact fun h => nomatch h
          · exact absurd h1 hbl
          · exact absurd h1 hw
        · -- the length field is 0 behind a statement that does not lower it: it was 0, the cells were clean
          have hn0 : st.n = 0 := by
            rcases hdown with h | h | h
            · omega
            · exact absurd h (hlow h0).1
            · exact absurd h (hlow h0).2
          rcases hcell c hc with h | h | ⟨_, h⟩
          · exact hz h0 hn0 c h
          · exact hp.clean h
          · exact absurd h hbl

theorem flow_run (env : Env α) : ∀ (evs : List Ev) (o : Option Bool) (st : Mach α), Flow env o st →
    Flow env (flowRun env.shape o evs) (st.run env evs)
  | [], _, _, h => h
  | e :: es, o, st, h => flow_run env es _ _ (flow_step env st e o h)

theorem flow_instr (env : Env α) (ins : Instr) (o : Option Bool) (st : Mach α) (h : Flow env o st) :
    Flow env (flowInstr env.shape o ins) (st.instr env ins) := by
  cases ins with
  | seq evs => exact flow_run env evs o st h
  | each body | fill body =>
    simp only [flowInstr]
    split
    · rename_i heq
      exact eachLoop_inv env body (Flow env o) (fun j st' h' => heq ▸ flow_run { env with j := j } body o st' h') _ st h
    · exact fun _ h => nomatch h
  | whileLen body =>
    simp only [flowInstr]
    split
    · rename_i heq
      exact whileLoop_inv env body (Flow env o) (fun st' h' _ => heq ▸ flow_run env body o st' h') _ st h
    · exact fun _ h => nomatch h

theorem flow_exec (env : Env α) : ∀ (p : List Instr) (o : Option Bool) (st : Mach α), Flow env o st →
    Flow env (p.foldl (flowInstr env.shape) o) (st.exec env p)
  | [], _, _, h => h
  | i :: p, o, st, h => flow_exec env p _ _ (flow_instr env i o st h)

/-- **Every program the flow check admits is mark-safe**, from every state that is `Ok` (`hk`: the bit the check starts with), has
    recorded no view (`hv`: `MarkSafe` holds of it) and has no cell under construction (`hp`: `PendOk`) -/
theorem markSafe_of_flow {env : Env α} {st : Mach α} (hv : st.views = []) (hp : st.pend = none) (hk : st.Ok env) {p : List Instr}
    (h : flowProg env.shape p = true) : MarkSafe env (st.exec env p) := by
  have h0 : Flow env (some true) st :=
    fun _ _ => ⟨fun c hc => (by rw [hp] at hc; cases hc), fun v hvm => (by rw [hv] at hvm; cases hvm), fun _ => hk⟩
  -- `h`: the fold ends with some bit; at that point `Flow` holds, of which `MarkSafe` is the second part
  obtain ⟨ok, hok⟩ := Option.isSome_iff_exists.mp h
  exact (flow_exec env p _ st h0 ok hok).2.1

theorem init_ok (env : Env α) (elems : List α) : (Mach.init elems).Ok env := by
  refine ⟨fun c hc => ?_, fun _ hn c hc => ?_⟩
  · rw [init_presented] at hc; exact all_some_map elems c hc
  · have : elems = [] := List.eq_nil_of_length_eq_zero hn
    subst this; cases hc

/-- an Array, whatever its spare slots hold: the check does not follow the statements that could bring them into view -/
theorem initCap_ok (env : Env α) (elems : List α) (spare : List (Cell α)) (hs : env.shape = Shape.array) :
    (Mach.initCap elems spare).Ok env := by
  refine ⟨fun c hc => ?_, fun h => by rw [hs] at h; cases h⟩
  rw [initCap_presented env elems spare hs] at hc; exact all_some_map elems c hc

/-! ### `Array_Push`, `Array_Push_At`: the state in front of their `assign`, statement by statement (the check does not follow `nitems++`
  of an Array; Lemmas/MarkDeep.lean needs that state too, slot by slot, for an element type whose Assign instance allocates) -/

theorem Mach.run_append (env : Env α) (evs evs' : List Ev) (st : Mach α) : st.run env (evs ++ evs') = (st.run env evs).run env evs' :=
  List.foldl_append

theorem Mach.exec_seq (env : Env α) (evs : List Ev) (st : Mach α) : st.exec env [.seq evs] = st.run env evs := rfl

theorem Mach.step_alloc {env : Env α} {s : Sel} {st : Mach α} {A R : List (Cell α)} {x : Cell α}
    (hc : st.cells = A ++ x :: R) (hp : st.pos env s = A.length) :
    st.step env (.alloc s) = { st with cells := A ++ some env.zero :: R } := by
  simp [Mach.step, hc, hp]

theorem Mach.step_assign {env : Env α} {s : Sel} {st : Mach α} {A R : List (Cell α)} {old : α}
    (hc : st.cells = A ++ some old :: R) (hp : st.pos env s = A.length) :
    st.step env (.assign s) = ({ st with cells := A ++ some env.val :: R }).view env .asg := by
  simp [Mach.step, hc, hp]

theorem init_split (elems : List α) {i : Nat} (hi : i < elems.length) :
    (Mach.init elems).cells = (elems.map some).take i ++ some elems[i] :: (elems.map some).drop (i + 1) := by
  show elems.map some ++ [] = _
  conv => lhs; rw [List.append_nil, ← List.take_append_drop i (elems.map some)]
  rw [← List.getElem_cons_drop (by simpa using hi)]
  simp

theorem all_some_take_drop (elems : List α) (i j : Nat) : ∀ c ∈ (elems.map some).take i ++ (elems.map some).drop j, c ≠ none := by
  intro c hc
  rcases List.mem_append.mp hc with h | h
  · exact all_some_map elems c (List.mem_of_mem_take h)
  · exact all_some_map elems c (List.mem_of_mem_drop h)

theorem all_some_insert {A B : List (Cell α)} (hall : ∀ c ∈ A ++ B, c ≠ none) (q : α) : ∀ c ∈ A ++ some q :: B, c ≠ none := by
  intro c hc
  rcases List.mem_append.mp hc with h | h
  · exact hall c (List.mem_append_left _ h)
  · rcases List.mem_cons.mp h with h | h
    · rw [h]; simp
    · exact hall c (List.mem_append_right _ h)

theorem presented_array_cons (A B R : List (Cell α)) (x : Cell α) {n : Nat} (hn : n = A.length + B.length + 1) :
    presented Shape.array (A ++ x :: (B ++ R)) n = A ++ x :: B := by
  have hl : n = (A ++ x :: B).length := by simp [hn]; omega
  rw [show A ++ x :: (B ++ R) = (A ++ x :: B) ++ R by simp, hl]
  generalize A ++ x :: B = l
  simp [presented, Shape.array, takePad]

/-- **a statement list whose first statements the check does not follow**: behind them the state is computed, and where it is `Ok`
    again, with no view recorded yet, the check takes over (`markSafe_of_flow` starts from any such state).  `all` is the extracted list:
    that it is the one written out (`hall`) is checked at the call, by `rfl` -/
theorem markSafe_of_flow_behind {env : Env α} {st : Mach α} {evs evs' all : List Ev} (hall : all = evs ++ evs')
    (hv : (st.run env evs).views = []) (hp : (st.run env evs).pend = none) (hk : (st.run env evs).Ok env)
    (h : flowProg env.shape [.seq evs'] = true) : MarkSafe env (st.exec env [.seq all]) := by
  rw [hall, Mach.exec_seq, Mach.run_append]
  exact markSafe_of_flow hv hp hk h

/-- `nitems++; Array_Reserve_More`: behind the elements there is at least one slot (`x`: what the first spare slot held, or a slot of the
    block as it has grown) -/
theorem inc_reserve (elems : List α) (spare : List (Cell α)) (env : Env α) :
    ∃ x rest, Mach.run env [.inc, .reserveMore] (Mach.initCap elems spare) =
      { cells := elems.map some ++ x :: rest, n := elems.length + 1 } := by
  cases spare with
  | nil =>
    have : elems.length + 1 + (elems.length + 1) / 2 - elems.length = (elems.length + 1) / 2 + 1 := by omega
    exact ⟨none, List.replicate ((elems.length + 1) / 2) none, by simp [Mach.run, Mach.step, Mach.initCap, this, List.replicate_succ]⟩
  | cons x sp => exact ⟨x, sp, by simp [Mach.run, Mach.step, Mach.initCap]⟩

/-- Array_Push in front of its `assign`: `nitems++`, room, `Array_Alloc(last)` — whatever the spare slots held -/
theorem array_push_pre (elems : List α) (spare : List (Cell α)) (env : Env α) (hs : env.shape = Shape.array) :
    ∃ rest, Mach.run env [.inc, .reserveMore, .alloc .last] (Mach.initCap elems spare) =
      { cells := elems.map some ++ some env.zero :: rest, n := elems.length + 1 } := by
  obtain ⟨x, rest, h⟩ := inc_reserve elems spare env
  refine ⟨rest, ?_⟩
  rw [show [Ev.inc, .reserveMore, .alloc .last] = [.inc, .reserveMore] ++ [.alloc .last] from rfl, Mach.run_append, h]
  exact Mach.step_alloc rfl (by simp [Mach.pos, hs, Shape.array])

/-- the block after `memmove(data + i + 1, data + i, B.length)`: the slots from `i` on (`B`) are one further up (over `x`), slot `i`
    keeps what it held (`x0`) -/
theorem moveUp_split (A B rest : List (Cell α)) (x : Cell α) :
    ∃ x0, moveUp (A ++ B ++ x :: rest) A.length B.length = A ++ x0 :: B ++ rest := by
  cases B with
  | nil => exact ⟨x, by simp [moveUp, List.take_append, List.drop_append, List.take_of_length_le, List.drop_of_length_le]⟩
  | cons b B' =>
    refine ⟨b, ?_⟩
    simp only [moveUp, List.append_assoc, List.cons_append]
    have h1 : List.take (A.length + 1) (A ++ (b :: (B' ++ x :: rest))) = A ++ [b] := by
      rw [List.take_append]; simp [List.take_of_length_le]
    have h2 : List.drop A.length (A ++ (b :: (B' ++ x :: rest))) = b :: (B' ++ x :: rest) := by simp
    have h3 : List.take (b :: B').length (b :: (B' ++ x :: rest)) = b :: B' := by
      rw [show b :: (B' ++ x :: rest) = (b :: B') ++ x :: rest by simp, List.take_left' rfl]
    have h4 : List.drop (A.length + 1 + (b :: B').length) (A ++ (b :: (B' ++ x :: rest))) = rest := by
      rw [show A ++ (b :: (B' ++ x :: rest)) = (A ++ b :: B') ++ x :: rest by simp]
      rw [List.drop_append]
      have h5 : A.length + 1 + (b :: B').length - (A ++ b :: B').length = 1 := by simp; omega
      rw [List.drop_of_length_le (by simp), h5]
      rfl
    rw [h1, h2, h3, h4]; simp

/-- Array_Push_At in front of its `assign`: `nitems++`, room, the elements from `i` on moved up, `Array_Alloc(i)` -/
theorem array_push_at_pre (elems : List α) (spare : List (Cell α)) (env : Env α) (hi : env.i ≤ elems.length) :
    ∃ rest, Mach.run env [.inc, .reserveMore, .moveUp (-1), .alloc .idx] (Mach.initCap elems spare) =
      { cells := (elems.map some).take env.i ++ some env.zero :: ((elems.map some).drop env.i ++ rest), n := elems.length + 1 } := by
  obtain ⟨x, rest, h⟩ := inc_reserve elems spare env
  refine ⟨rest, ?_⟩
  have hA : ((elems.map some).take env.i).length = env.i := by simp [hi]
  obtain ⟨x0, hmove⟩ := moveUp_split ((elems.map some).take env.i) ((elems.map some).drop env.i) rest x
  rw [List.take_append_drop, hA] at hmove
  have hcnt : moveCount (elems.length + 1) env.i (-1) = ((elems.map some).drop env.i).length := by
    rw [moveCount_neg_one, List.length_drop, List.length_map]; omega
  rw [show [Ev.inc, .reserveMore, .moveUp (-1), .alloc .idx] = [.inc, .reserveMore] ++ [.moveUp (-1), .alloc .idx] from rfl, Mach.run_append, h]
  simp only [Mach.run, List.foldl, Mach.step, hcnt, hmove]
  exact Mach.step_alloc (List.append_assoc ..) (by simp [Mach.pos, hA])

/-! ### where the cells of a run come from, whatever the order of its statements

  `From` is kept by every statement (`step_from`, from `step_cells` alone), hence by every program (`exec_from`): an element the container
  holds at the end was in it before, or is an element of the operand, or a zeroed element (`final_from`).  `MarkSafe` and the flow check do
  not use `From`. -/

/-- a cell holds no element, an element the container held before the operation, an element of the operand, or a zeroed element -/
def From (env : Env α) (elems : List α) (c : Cell α) : Prop :=
  c = none ∨ ∃ x, c = some x ∧ (x ∈ elems ∨ x ∈ env.src ∨ x = env.zero)

def Mach.From (env : Env α) (elems : List α) (st : Mach α) : Prop :=
  (∀ c ∈ st.cells, Mid.From env elems c) ∧ (∀ c, st.out = some c → Mid.From env elems c) ∧ (∀ c, st.pend = some c → Mid.From env elems c)

theorem from_val (env : Env α) (elems : List α) : Mid.From env elems (some env.val) :=
  Or.inr ⟨env.val, rfl, Or.inr ((val_mem_drop_or_zero env).imp List.mem_of_mem_drop id)⟩

theorem from_zero (env : Env α) (elems : List α) : Mid.From env elems (some env.zero) := Or.inr ⟨_, rfl, Or.inr (Or.inr rfl)⟩
theorem from_none (env : Env α) (elems : List α) : Mid.From env elems none := Or.inl rfl

theorem from_j (env : Env α) (j : Nat) (elems : List α) (c : Cell α) : Mid.From { env with j := j } elems c ↔ Mid.From env elems c := Iff.rfl

theorem Mach.from_j (env : Env α) (j : Nat) (elems : List α) (st : Mach α) : st.From { env with j := j } elems ↔ st.From env elems := Iff.rfl

theorem step_from (env : Env α) (elems : List α) (st : Mach α) (h : st.From env elems) (e : Ev) : (st.step env e).From env elems := by
  obtain ⟨hc, ho, hp⟩ := h
  obtain ⟨h1, h2, h3⟩ := step_cells env st e
  refine ⟨fun c hm => ?_, fun c hm => (h3 c hm).elim (ho c) (hc c), fun c hm => ?_⟩
  · rcases h1 c hm with h | (h | h | h) | ⟨h, _⟩
    · exact hc c h
    · exact hp c h
    · exact h ▸ from_val env elems
    · exact h ▸ from_zero env elems
    · exact h ▸ from_none env elems
  · rcases h2 c hm with h | h | h
    · exact hp c h
    · exact h ▸ from_val env elems
    · exact h ▸ from_zero env elems

theorem run_from (env : Env α) (elems : List α) : ∀ (evs : List Ev) (st : Mach α), st.From env elems → (st.run env evs).From env elems
  | [], _, h => h
  | e :: es, st, h => run_from env elems es _ (step_from env elems st h e)

theorem exec_from (env : Env α) (elems : List α) : ∀ (prog : List Instr) (st : Mach α), st.From env elems → (st.exec env prog).From env elems
  | [], _, h => h
  | i :: p, st, h => exec_from env elems p _ (by
      cases i with
      | seq evs => exact run_from env elems evs st h
      | each body | fill body => exact eachLoop_inv env body _ (fun j st' h' => run_from { env with j := j } elems body st' h') _ st h
      | whileLen body => exact whileLoop_inv env body _ (fun st' h' _ => run_from env elems body st' h') _ st h)

theorem init_from (env : Env α) (elems : List α) : (Mach.init elems).From env elems := by
  refine ⟨fun c hc => ?_, fun c h => (by cases h), fun c h => (by cases h)⟩
  rw [show (Mach.init elems).cells = elems.map some from List.append_nil _] at hc
  obtain ⟨x, hx, rfl⟩ := List.mem_map.mp hc
  exact Or.inr ⟨x, rfl, Or.inl hx⟩

/-- an element the container holds when the operation completes was in it before, or is an element of the operand, or is a zeroed element -/
theorem final_from {env : Env α} {elems : List α} {st : Mach α} (h : st.From env elems) {x : α} (hx : x ∈ st.final env) :
    x ∈ elems ∨ x ∈ env.src ∨ x = env.zero := by
  rw [Mach.final, mem_filterMap_id] at hx
  rcases mem_presented hx with hc | hc
  · rcases h.1 _ hc with h0 | ⟨y, hy, hfrom⟩
    · cases h0
    · cases hy; exact hfrom
  · cases hc

end Cello.Heap.Mid

namespace Cello.Heap
open Cello.Heap.Mid

/-- **from the machine to words** (what the heap-level step `mid_collection_safe`, Lemmas/MarkFields.lean, asks for): a mark-safe view of a
    container of embedded elements presents every word of the completed container, except words of the operand's elements and of a zeroed
    element -/
theorem fields_covered_of_markSafe (c : Cfg) (ty : String) {env : Env Obj} {r : Mach Obj} (hs : MarkSafe env r) {v : View Obj}
    (hv : v ∈ r.views) :
    ∀ w ∈ fields c (.cont ty (r.final env)), w ∈ fields c (.cont ty v.elems) ∨ w ∈ fieldsL c env.src ++ fields c env.zero :=
  fields_cont_covered c ty fun e he => ((hs v hv).2 e he).elim
    (fun h => .inr fun _ hw => List.mem_append_left _ (mem_fieldsL.mpr ⟨e, h, hw⟩)) fun h => h.elim
    (fun h => .inr fun _ hw => List.mem_append_right _ (h ▸ hw)) fun h => .inl (mem_filterMap_id.mpr h)

end Cello.Heap
