/- The backing store of an Array (`AR`) under every mutation, for C11: the first `nitems` cells are initialised and hold the abstract
   sequence, `nitems ≤ nslots`; iteration over such an Array is lawful -/
import Cello.IterMut
import CelloProofs.Lemmas.IterMutSpec

namespace Cello.Iter

/-- Array: the abstract effect and the outcome of one mutation -/
def arraySpec {α : Type} [DecidableEq α] (vs : List α) : SOp α → List α × MOut
  | .push v => (vs ++ [v], .ok)
  | .pop => if vs.length = 0 then (vs, .index) else (vs.take (vs.length - 1), .ok)
  | .pushAt v i =>
    if (if i < 0 then (vs.length : Int) + 1 + i else i) < 0 ∨ (if i < 0 then (vs.length : Int) + 1 + i else i) > (vs.length : Int)
    then (vs, .index)
    else (vs.take (if i < 0 then (vs.length : Int) + 1 + i else i).toNat ++
          v :: vs.drop (if i < 0 then (vs.length : Int) + 1 + i else i).toNat, .ok)
  | .popAt i => match idxOf vs.length i with
    | none => (vs, .index)
    | some k => (vs.take k ++ vs.drop (k + 1), .ok)
  | .rem v => if v ∈ vs then (vs.erase v, .ok) else (vs, .value)
  | .put i v => match idxOf vs.length i with
    | none => (vs, .index)
    | some k => (vs.take k ++ v :: vs.drop (k + 1), .ok)
  | .concat ws => (vs ++ ws, .ok)
  | .resize n => (vs.take n, .ok)

namespace AR
variable {α : Type}

/-- **the store invariant**: cells `0 … nitems-1` are initialised and hold `vs` (so `nitems ≤ nslots`) -/
structure Holds (a : AR α) (vs : List α) : Prop where
  cells : a.store.take a.nitems = vs.map some
  count : a.nitems = vs.length

theorem Holds.le {a : AR α} {vs : List α} (h : Holds a vs) : a.nitems ≤ a.store.length := by
  have := congrArg List.length h.cells
  simp only [List.length_take, List.length_map, ← h.count] at this
  omega

theorem Holds.store_eq {a : AR α} {vs : List α} (h : Holds a vs) : a.store = vs.map some ++ a.store.drop a.nitems := by
  rw [← h.cells, List.take_append_drop]

/-- the store seen as the cells that hold `vs` and whatever lies above them -/
theorem holds_append {s : List (Option α)} {n : Nat} (vs : List α) (rest : List (Option α))
    (hs : s = vs.map some ++ rest) (hn : n = vs.length) : Holds ⟨s, n⟩ vs :=
  ⟨by rw [hs, hn, ← List.length_map (f := some), List.take_left], hn⟩

theorem Holds.store_at {a : AR α} {vs : List α} (h : Holds a vs) (k : Nat) (hk : k < vs.length) :
    a.store = (vs.take k).map some ++ some vs[k] :: (vs.drop (k + 1)).map some ++ a.store.drop a.nitems := by
  rw [← List.map_cons, ← List.map_append, ← List.drop_eq_getElem_cons hk, List.take_append_drop, ← h.store_eq]

theorem Holds.take {a : AR α} {vs : List α} (h : Holds a vs) (m n : Nat) (hm : m = min n a.nitems) :
    Holds ⟨a.store, m⟩ (vs.take n) :=
  ⟨by rw [hm, ← List.take_take, h.cells, List.map_take], by rw [hm, List.length_take, h.count]⟩

theorem realloc_length (s : List (Option α)) (n : Nat) : (realloc s n).length = n := by
  simp only [realloc, List.length_append, List.length_take, List.length_replicate]; omega

theorem realloc_take (s : List (Option α)) (n m : Nat) (h1 : m ≤ n) (h2 : m ≤ s.length) :
    (realloc s n).take m = s.take m := by
  simp only [realloc]
  rw [List.take_append_of_le_length (by simp only [List.length_take]; omega), List.take_take]
  congr 1; omega

theorem realloc_holds {s : List (Option α)} {m : Nat} {vs : List α} (h : Holds ⟨s, m⟩ vs) (n : Nat) (hn : m ≤ n) :
    Holds ⟨realloc s n, m⟩ vs :=
  ⟨(realloc_take s n m hn h.le).trans h.cells, h.count⟩

theorem reserveLess_holds {s : List (Option α)} {m : Nat} {vs : List α} (h : Holds ⟨s, m⟩ vs) : Holds (reserveLess ⟨s, m⟩) vs := by
  unfold reserveLess
  split
  · exact realloc_holds h m (Nat.le_refl m)
  · exact h

/-- `Array_Reserve_More` only appends cells, and leaves at least `nitems` of them -/
theorem reserveMore_eq (s : List (Option α)) (m : Nat) :
    ∃ rest, reserveMore ⟨s, m⟩ = ⟨s ++ rest, m⟩ ∧ m ≤ (s ++ rest).length := by
  unfold reserveMore
  dsimp only
  by_cases hm : m > s.length
  · exact ⟨List.replicate (m + m / 2 - s.length) none, by rw [if_pos hm, realloc, List.take_of_length_le (by omega)],
      by rw [List.length_append, List.length_replicate]; omega⟩
  · exact ⟨[], by rw [if_neg hm, List.append_nil], by rw [List.append_nil]; omega⟩

/-- so the cells that hold `vs` stay where they are -/
theorem reserveMore_split {a : AR α} {vs : List α} (h : Holds a vs) (m : Nat) :
    ∃ rest, reserveMore ⟨a.store, m⟩ = ⟨vs.map some ++ rest, m⟩ ∧ m ≤ vs.length + rest.length := by
  obtain ⟨rest, e, hl⟩ := reserveMore_eq a.store m
  rw [h.store_eq, List.append_assoc] at hl
  exact ⟨a.store.drop a.nitems ++ rest, by rw [e, ← List.append_assoc, ← h.store_eq],
    by rwa [List.length_append, List.length_map] at hl⟩

/-- `Array_Alloc` + `assign` on a store split at the cell written -/
theorem write_split (a : AR α) (X rest : List (Option α)) (r : Option α) (v : α) (k : Nat) (hs : a.store = X ++ r :: rest)
    (hk : k = X.length) : a.write k v = some ⟨X ++ some v :: rest, a.nitems⟩ := by
  subst hk
  rw [write, hs, if_pos (by simp)]
  simp

-- against the value of `arraySpec vs (.push v)` and not the term: `arraySpec` asks for `DecidableEq α`, `pushAll_holds` / `new_holds` do not
theorem push_meets {a : AR α} {vs : List α} (h : Holds a vs) (v : α) : Meets Holds a (a.push v) (vs ++ [v], .ok) := by
  obtain ⟨rest, e, hl⟩ := reserveMore_split h (a.nitems + 1)
  obtain ⟨r, rest, rfl⟩ := List.exists_cons_of_length_pos (l := rest) (by have := h.count; omega)
  simp only [push, e, Nat.add_sub_cancel]
  rw [write_split _ _ rest r v _ rfl (by simp [h.count])]
  exact .ok (holds_append _ rest (by simp) (by simp [h.count])) rfl

theorem pop_meets [DecidableEq α] {a : AR α} {vs : List α} (h : Holds a vs) : Meets Holds a a.pop (arraySpec vs .pop) := by
  simp only [arraySpec, pop, h.count]
  split
  · exact .raise h rfl
  · exact .ok (reserveLess_holds (h.take _ _ (by have := h.count; omega))) rfl

/-- `memmove` one cell up and the write into the gap, on a store split at the gap: `X` below it, `Y` the cells that move, one
    spare cell `r` -/
theorem moveUp_write (X Y rest : List (Option α)) (r : Option α) (v : α) (n k c : Nat) (hk : k = X.length) (hc : c = Y.length) :
    ∃ s, moveUp (X ++ Y ++ r :: rest) k c = some s ∧
      (⟨s, n⟩ : AR α).write k v = some ⟨X ++ some v :: Y ++ rest, n⟩ := by
  subst hk hc
  obtain ⟨z, T, hT⟩ : ∃ z T, Y ++ r :: rest = z :: T := by
    cases Y with
    | nil => exact ⟨r, rest, rfl⟩
    | cons y Y' => exact ⟨y, Y' ++ r :: rest, rfl⟩
  refine ⟨X ++ z :: (Y ++ rest), ?_, by rw [write_split _ X _ z v _ rfl rfl, List.append_assoc]; rfl⟩
  have hlen : X.length + 1 + Y.length ≤ (X ++ Y ++ r :: rest).length := by simp; omega
  have e1 : (X ++ Y ++ r :: rest).take (X.length + 1) = X ++ [z] := by
    rw [List.append_assoc, hT, List.take_append, List.take_of_length_le (Nat.le_succ _)]; simp
  have e2 : ((X ++ Y ++ r :: rest).drop X.length).take Y.length = Y := by
    rw [List.append_assoc, List.drop_left, List.take_left]
  have e3 : (X ++ Y ++ r :: rest).drop (X.length + 1 + Y.length) = rest := by
    have : X.length + 1 + Y.length = (X ++ Y ++ [r]).length := by simp; omega
    rw [this, show X ++ Y ++ r :: rest = (X ++ Y ++ [r]) ++ rest by simp, List.drop_left]
  rw [moveUp, if_pos hlen, e1, e2, e3]
  simp

theorem pushAt_meets [DecidableEq α] {a : AR α} {vs : List α} (h : Holds a vs) (v : α) (i : Int) :
    Meets Holds a (a.pushAt v i) (arraySpec vs (.pushAt v i)) := by
  simp only [arraySpec, pushAt, h.count]
  generalize (if i < 0 then (vs.length : Int) + 1 + i else i) = j
  split
  · exact .raise h rfl
  next hj =>
  have hk : j.toNat ≤ vs.length := by omega
  generalize j.toNat = k at hk
  obtain ⟨rest, e, hl⟩ := reserveMore_split h (vs.length + 1)
  obtain ⟨r, rest, rfl⟩ := List.exists_cons_of_length_pos (l := rest) (by omega)
  have hs : vs.map some ++ r :: rest = (vs.take k).map some ++ (vs.drop k).map some ++ r :: rest := by
    rw [← List.map_append, List.take_append_drop]
  obtain ⟨s, e1, e2⟩ := moveUp_write ((vs.take k).map some) ((vs.drop k).map some) rest r v (vs.length + 1) k
    (vs.length + 1 - 1 - k) (by rw [List.length_map, List.length_take_of_le hk])
    (by rw [List.length_map, List.length_drop, Nat.add_sub_cancel])
  simp only [e, hs, e1, e2]
  exact .ok (holds_append _ rest (by simp) (by simp; omega)) rfl

/-- `memmove` one cell down over cell `y`, on a store split there: the cells `Y` above it move, the last cell is left twice -/
theorem moveDown_append (X Y rest : List (Option α)) (y : Option α) (k c : Nat) (hk : k = X.length) (hc : c = Y.length) :
    ∃ z, moveDown (X ++ y :: Y ++ rest) k c = some (X ++ Y ++ z :: rest) := by
  subst hk hc
  obtain ⟨W, z, hW⟩ : ∃ W z, y :: Y = W ++ [z] := ⟨_, _, (List.dropLast_concat_getLast (List.cons_ne_nil y Y)).symm⟩
  have hWl : W.length = Y.length := by
    have := congrArg List.length hW
    simp only [List.length_cons, List.length_append, List.length_nil] at this; omega
  refine ⟨z, ?_⟩
  have hlen : X.length + 1 + Y.length ≤ (X ++ y :: Y ++ rest).length := by simp; omega
  have e1 : (X ++ y :: Y ++ rest).take X.length = X := by rw [List.append_assoc, List.take_left]
  have e2 : ((X ++ y :: Y ++ rest).drop (X.length + 1)).take Y.length = Y := by
    rw [show X ++ y :: Y ++ rest = (X ++ [y]) ++ (Y ++ rest) by simp, show X.length + 1 = (X ++ [y]).length by simp,
      List.drop_left, List.take_left]
  have e3 : (X ++ (W ++ [z]) ++ rest).drop (X.length + W.length) = z :: rest := by
    rw [show X ++ (W ++ [z]) ++ rest = (X ++ W) ++ (z :: rest) by simp, ← List.length_append, List.drop_left]
  rw [moveDown, if_pos hlen, e1, e2, hW, ← hWl, e3]

/-- `Array_Pop_At` of a cell inside `vs` -/
theorem popAt_nat {a : AR α} {vs : List α} (h : Holds a vs) (k : Nat) (hk : k < vs.length) :
    ∃ s, moveDown a.store k (vs.length - 1 - k) = some s ∧
      Holds (reserveLess ⟨s, vs.length - 1⟩) (vs.take k ++ vs.drop (k + 1)) := by
  obtain ⟨z, e⟩ := moveDown_append ((vs.take k).map some) ((vs.drop (k + 1)).map some) (a.store.drop a.nitems) (some vs[k])
    k (vs.length - 1 - k) (by rw [List.length_map, List.length_take_of_le (Nat.le_of_lt hk)])
    (by rw [List.length_map, List.length_drop, Nat.sub_sub, Nat.add_comm])
  rw [← h.store_at k hk] at e
  exact ⟨_, e, reserveLess_holds (holds_append _ (z :: a.store.drop a.nitems) (by simp) (by simp; omega))⟩

theorem popAt_meets [DecidableEq α] {a : AR α} {vs : List α} (h : Holds a vs) (i : Int) :
    Meets Holds a (a.popAt i) (arraySpec vs (.popAt i)) := by
  simp only [arraySpec, popAt, h.count]
  unfold idxOf normI
  generalize (if i < 0 then (vs.length : Int) + i else i) = j
  split
  · exact .raise h rfl
  next hj =>
  obtain ⟨s, e, c⟩ := popAt_nat h j.toNat (by omega)
  simp only [e]
  exact .ok c rfl

theorem findIdx_some_spec [DecidableEq α] (v : α) : ∀ (vs : List α),
    (v ∉ vs ∧ (vs.map some).findIdx? (fun c => decide (c = some v)) = none) ∨
    (v ∈ vs ∧ ∃ k, (vs.map some).findIdx? (fun c => decide (c = some v)) = some k ∧ k < vs.length ∧
      vs.take k ++ vs.drop (k + 1) = vs.erase v) := by
  intro vs
  induction vs with
  | nil => exact Or.inl ⟨by simp, rfl⟩
  | cons x r ih =>
    by_cases hx : x = v
    · subst hx
      exact Or.inr ⟨by simp, 0, by simp [List.findIdx?_cons], by simp, by simp⟩
    · rcases ih with ⟨h1, h2⟩ | ⟨h1, k, h2, h3, h4⟩
      · refine Or.inl ⟨by simp [h1, Ne.symm hx], ?_⟩
        simp [List.findIdx?_cons, hx, h2]
      · refine Or.inr ⟨by simp [h1], k + 1, ?_, by simpa using h3, ?_⟩
        · simp [List.findIdx?_cons, hx, h2]
        · have : (x :: r).erase v = x :: r.erase v := by
            rw [List.erase_cons_tail]; simpa using hx
          rw [this, ← h4]; simp

theorem rem_meets [DecidableEq α] {a : AR α} {vs : List α} (h : Holds a vs) (v : α) :
    Meets Holds a (a.rem v) (arraySpec vs (.rem v)) := by
  simp only [arraySpec, rem, h.cells]
  rcases findIdx_some_spec v vs with ⟨h1, h2⟩ | ⟨h1, k, h2, h3, h4⟩
  · simp only [h1, if_false, h2]; exact .raise h rfl
  · simp only [h1, if_true, h2, ← h4]
    obtain ⟨s, e, c⟩ := popAt_nat h k h3
    have hk1 : ¬ ((k : Int) < 0) := by omega
    have hk2 : ¬ ((k : Int) ≥ (vs.length : Int)) := by omega
    simp only [popAt, h.count, hk1, if_false, false_or, hk2, Int.toNat_natCast, e]
    exact .ok c rfl

theorem put_meets [DecidableEq α] {a : AR α} {vs : List α} (h : Holds a vs) (i : Int) (v : α) :
    Meets Holds a (a.put i v) (arraySpec vs (.put i v)) := by
  simp only [arraySpec, put, h.count]
  unfold idxOf normI
  generalize (if i < 0 then (vs.length : Int) + i else i) = j
  split
  · exact .raise h rfl
  next hj =>
  have hk : j.toNat < vs.length := by omega
  generalize j.toNat = k at hk
  rw [write_split a _ _ _ v k (by rw [h.store_at k hk, List.append_assoc]; rfl)
    (by rw [List.length_map, List.length_take_of_le (Nat.le_of_lt hk)])]
  exact .ok (holds_append _ (a.store.drop a.nitems) (by simp) (by rw [h.count]; simp; omega)) rfl

theorem writeAll_spec : ∀ (ws : List α) (a : AR α) (at_ : Nat), at_ + ws.length ≤ a.store.length →
    ∃ a', a.writeAll at_ ws = some a' ∧ a'.nitems = a.nitems ∧
      a'.store.take (at_ + ws.length) = a.store.take at_ ++ ws.map some := by
  intro ws
  induction ws with
  | nil => intro a at_ _; exact ⟨a, rfl, rfl, by simp⟩
  | cons w ws ih =>
    intro a at_ hl
    simp only [List.length_cons] at hl
    have hlt : at_ < a.store.length := by omega
    obtain ⟨a', e, n', t'⟩ := ih ⟨a.store.set at_ (some w), a.nitems⟩ (at_ + 1) (by simp only [List.length_set]; omega)
    refine ⟨a', by simp only [writeAll, write, hlt, if_true, e], n', ?_⟩
    have : at_ + (w :: ws).length = at_ + 1 + ws.length := by simp only [List.length_cons]; omega
    rw [this, t', List.take_add_one, List.take_set_of_le (Nat.le_refl _), List.getElem?_set_self hlt]
    simp

theorem concat_meets [DecidableEq α] {a : AR α} {vs : List α} (h : Holds a vs) (ws : List α) :
    Meets Holds a (a.concat ws) (arraySpec vs (.concat ws)) := by
  obtain ⟨rest, e, hl⟩ := reserveMore_split h (a.nitems + ws.length)
  obtain ⟨a', e', n', t'⟩ := writeAll_spec ws ⟨vs.map some ++ rest, a.nitems + ws.length⟩ a.nitems
    (by have := h.count; simp; omega)
  simp only [arraySpec, concat, e, e']
  refine .ok (v' := vs ++ ws) ⟨?_, by rw [n', h.count]; simp⟩ rfl
  rw [n', t', List.take_left' (by simp [h.count])]; simp

theorem resize_meets [DecidableEq α] {a : AR α} {vs : List α} (h : Holds a vs) (n : Nat) :
    Meets Holds a (a.resize n) (arraySpec vs (.resize n)) := by
  simp only [arraySpec, resize]
  split
  · next hn => subst hn; exact .ok (v' := vs.take 0) ⟨rfl, rfl⟩ rfl
  · exact .ok (realloc_holds (h.take _ n (by split <;> omega)) n (by split <;> omega)) rfl

theorem step_meets [DecidableEq α] {a : AR α} {vs : List α} (h : Holds a vs) (op : SOp α) :
    Meets Holds a (AR.step a op) (arraySpec vs op) := by
  cases op with
  | push v => exact push_meets h v
  | pop => exact pop_meets h
  | pushAt v i => exact pushAt_meets h v i
  | popAt i => exact popAt_meets h i
  | rem v => exact rem_meets h v
  | put i v => exact put_meets h i v
  | concat ws => exact concat_meets h ws
  | resize n => exact resize_meets h n

/-- the abstract run of a history of Array mutations -/
def specRun {α : Type} [DecidableEq α] : List α → List (SOp α) → List α × List MOut
  | vs, [] => (vs, [])
  | vs, op :: ops =>
    let (vs1, o) := arraySpec vs op
    let (vs2, os) := specRun vs1 ops
    (vs2, o :: os)

theorem arraySpec_ne_undef [DecidableEq α] (vs : List α) (op : SOp α) : (arraySpec vs op).2 ≠ .undef := by
  cases op <;> simp only [arraySpec] <;> (repeat' split) <;> simp

theorem run_cons [DecidableEq α] {a a1 : AR α} {op : SOp α} {o : MOut} (h : AR.step a op = (a1, o)) (ho : o ≠ .undef)
    (ops : List (SOp α)) : AR.run a (op :: ops) = ((AR.run a1 ops).1, o :: (AR.run a1 ops).2) := by
  cases o <;> first | exact absurd rfl ho | simp only [run, h]

theorem run_holds [DecidableEq α] (ops : List (SOp α)) (a : AR α) (vs : List α) (h : Holds a vs) :
    ∃ a', AR.run a ops = (a', (specRun vs ops).2) ∧ Holds a' (specRun vs ops).1 :=
  history_meets Holds arraySpec AR.run specRun (fun _ => rfl) (fun _ => rfl) (fun _ _ _ => rfl)
    (fun _ vs op h => let ⟨a1, e, r1, _⟩ := step_meets h op; ⟨a1, r1, run_cons e (arraySpec_ne_undef vs op)⟩) ops a vs h

theorem specRun_no_undef [DecidableEq α] : ∀ (ops : List (SOp α)) (vs : List α),
    (specRun vs ops).2.contains .undef = false :=
  history_no_undef arraySpec specRun (fun _ => rfl) (fun _ _ _ => rfl) arraySpec_ne_undef

theorem pushAll_holds : ∀ (ws : List α) (a : AR α) (vs : List α), Holds a vs →
    ∃ a', a.pushAll ws = (a', .ok) ∧ Holds a' (vs ++ ws) := by
  intro ws
  induction ws with
  | nil => intro a vs h; exact ⟨a, rfl, by simpa using h⟩
  | cons w ws ih =>
    intro a vs h
    obtain ⟨a1, e1, c1, -⟩ := push_meets h w
    obtain ⟨a2, e2, c2⟩ := ih a1 _ c1
    exact ⟨a2, by simp only [pushAll, e1, e2], by simpa using c2⟩

theorem new_holds (vs : List α) : ∃ a, AR.new vs = (a, .ok) ∧ Holds a vs := by
  obtain ⟨a, e, c⟩ := pushAll_holds vs empty [] ⟨rfl, rfl⟩
  exact ⟨a, e, by simpa using c⟩

/-- `new(Array, T)` and a `push` per initial element, followed by any history -/
theorem new_run_holds [DecidableEq α] (init : List α) (ops : List (SOp α)) :
    ∃ a0 a, AR.new init = (a0, .ok) ∧ AR.run a0 ops = (a, (specRun init ops).2) ∧ Holds a (specRun init ops).1 :=
  let ⟨a0, e0, c0⟩ := new_holds init
  let ⟨a, e, c⟩ := run_holds ops a0 init c0
  ⟨a0, a, e0, e, c⟩

theorem Holds.getElem? {a : AR α} {vs : List α} (h : Holds a vs) (i : Nat) (hi : i < vs.length) :
    a.store[i]? = some (some vs[i]) := by
  rw [← List.getElem?_take_of_lt (show i < a.nitems by rw [h.count]; exact hi), h.cells, List.getElem?_map,
    List.getElem?_eq_getElem hi]
  rfl

theorem Holds.read {a : AR α} {vs : List α} (h : Holds a vs) (i : Nat) (hi : i < vs.length) :
    a.read i = (some i, .item vs[i]) := by
  simp only [AR.read, h.getElem? i hi]

end AR

theorem ar_cursor {α : Type} (a : AR α) (vs : List α) (h : AR.Holds a vs) : Cursor (arI a) vs some where
  init_nil := by rintro rfl s; simp only [arI, h.count]; rfl
  last_nil := by rintro rfl s; simp only [arI, h.count]; rfl
  init hl s := by simp only [arI, h.count, if_neg (show ¬ vs.length = 0 by omega), h.read 0 hl]
  last hl s := by
    simp only [arI, h.count, if_neg (show ¬ vs.length = 0 by omega), h.read _ (show vs.length - 1 < vs.length by omega)]
  next i hi := by simp only [arI, h.count, if_neg (show ¬ i + 1 ≥ vs.length by omega), h.read (i + 1) hi]
  prev i hi := by simp only [arI, if_neg (show ¬ i + 1 ≤ 0 by omega), Nat.add_sub_cancel, h.read i (by omega)]
  next_end i hi := by simp only [arI, h.count, if_pos (show i + 1 ≥ vs.length by omega)]
  prev_end _ := by simp only [arI, Nat.le_refl, if_true]

theorem ar_lawfulAs {α : Type} (a : AR α) (vs : List α) (h : AR.Holds a vs) : LawfulAs (arI a) vs :=
  ⟨(ar_cursor a vs h).fwd, (ar_cursor a vs h).bwd, fun n hn => by rw [← Option.some.inj hn]; exact h.count,
    fun g hg i hi => by
      rw [← Option.some.inj hg]
      have h1 : ¬ ((i : Int) < 0) := by omega
      have h2 : ¬ ((i : Int) ≥ (a.nitems : Int)) := by rw [h.count]; omega
      simp only [Int.ofNat_eq_natCast, h1, h2, if_false, or_self, Int.toNat_natCast, h.getElem? i hi]⟩

end Cello.Iter
