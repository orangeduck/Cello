/-
  CelloProofs/Lemmas/OwnHist.lean — C05: histories (`run`) of in-contract operations; what `assign` / `copy` commit
  (deep copies); final deletion of all containers.  The histories rest on `step_ok` and `step_frame` of Lemmas/OwnStep.lean;
  the deep copies need no step: `Inv`, the commit lemmas of Lemmas/OwnWorld.lean and `mapSetMany_distinct`.
-/
import CelloProofs.Lemmas.OwnStep

namespace Cello.Own
open List

/-- every operation of the history is outside the territory of the known findings in the world it is applied to -/
def allNKF : World → List Op → Prop
  | _, [] => True
  | w, op :: ops => noKnownFinding w op = true ∧ allNKF (step w op).1 ops

@[simp] theorem run_nil (w : World) : run w [] = (w, []) := rfl
theorem run_cons (w : World) (op : Op) (ops : List Op) :
    run w (op :: ops) = ((run (step w op).1 ops).1, (step w op).2 :: (run (step w op).1 ops).2) := by
  simp [run]

theorem run_append (w : World) (ops ops' : List Op) :
    (run w (ops ++ ops')).1 = (run (run w ops).1 ops').1 := by
  induction ops generalizing w with
  | nil => rfl
  | cons op ops ih => simp [run_cons, ih]

theorem allNKF_append {w : World} {ops ops' : List Op} :
    allNKF w (ops ++ ops') ↔ allNKF w ops ∧ allNKF (run w ops).1 ops' := by
  induction ops generalizing w with
  | nil => simp [allNKF]
  | cons op ops ih => simp [allNKF, run_cons, ih, and_assoc]

theorem run_inv {w : World} (hinv : Inv w) (ops : List Op) (h : allNKF w ops) : Inv (run w ops).1 := by
  induction ops generalizing w with
  | nil => exact hinv
  | cons op ops ih =>
    rw [run_cons]
    exact ih (step_ok hinv op h.1).inv h.2

theorem run_logs_mono {w : World} (hinv : Inv w) (ops : List Op) (h : allNKF w ops) :
    (∀ i ∈ w.retiredLog, i ∈ (run w ops).1.retiredLog) ∧ (∀ i ∈ w.issuedLog, i ∈ (run w ops).1.issuedLog) := by
  induction ops generalizing w with
  | nil => exact ⟨fun _ hi => hi, fun _ hi => hi⟩
  | cons op ops ih =>
    rw [run_cons]
    have hs := step_ok hinv op h.1
    obtain ⟨i1, i2⟩ := ih hs.inv h.2
    exact ⟨fun i hi => i1 i (by rw [hs.retired]; exact List.mem_append_right _ hi),
      fun i hi => i2 i (by rw [hs.issued]; exact List.mem_append_right _ hi)⟩

theorem run_frame (w : World) (ops : List Op) (d : Nat) (h : ∀ op ∈ ops, op.target ≠ d) :
    lookup (run w ops).1.objs d = lookup w.objs d := by
  induction ops generalizing w with
  | nil => rfl
  | cons op ops ih =>
    rw [run_cons]
    rw [ih _ (fun o ho => h o (List.mem_cons_of_mem _ ho))]
    exact step_frame w op (fun he => h op (by simp) he.symm)

def allInContract : World → List Op → Prop
  | _, [] => True
  | w, op :: ops => inContract w op = true ∧ allInContract (step w op).1 ops

theorem inContract_nkf {w : World} {op : Op} (h : inContract w op = true) : noKnownFinding w op = true := by
  simp only [inContract, Bool.and_eq_true] at h; exact h.1

theorem inContract_notBad {w : World} {op : Op} (h : inContract w op = true) : (step w op).2.bad = false := by
  simp only [inContract, Bool.and_eq_true, Bool.not_eq_true'] at h; exact h.2

theorem allInContract.nkf {w : World} {ops : List Op} (h : allInContract w ops) : allNKF w ops := by
  induction ops generalizing w with
  | nil => trivial
  | cons op ops ih => exact ⟨inContract_nkf h.1, ih h.2⟩

theorem allInContract_append {w : World} {ops ops' : List Op} :
    allInContract w (ops ++ ops') ↔ allInContract w ops ∧ allInContract (run w ops).1 ops' := by
  induction ops generalizing w with
  | nil => simp [allInContract]
  | cons op ops ih => simp [allInContract, run_cons, ih, and_assoc]

theorem allInContract_noBad {w : World} {ops : List Op} (h : allInContract w ops) : ∀ o ∈ (run w ops).2, o.bad = false := by
  induction ops generalizing w with
  | nil => intro o ho; simp [run] at ho
  | cons op ops ih =>
    intro o ho
    rw [run_cons] at ho
    rcases List.mem_cons.mp ho with rfl | ho
    · exact inContract_notBad h.1
    · exact ih h.2 o ho

/-- what `assign` / `copy` from the sequence `d` commits to `c` (which held `xs`; `[]` for `copy`) -/
theorem deep_seq {w : World} (hinv : Inv w) (c : Nat) (k : SeqKind) (xs : List Tok) {d : Nat} {k' : SeqKind}
    {src : List Tok} (hd : lookup w.objs d = some (.seq k' .probe src)) (hdc : d ≠ c) (touched : List Nat) :
    let res := commitSeq w c k .probe (seqAssignProbe w.next xs src) touched
    ∃ z, lookup res.1.objs c = some z ∧ z.toks ~ res.2.issued ∧
      res.2.issued.map (·.pay) = (Cont.seq k' .probe src).toks.map (·.pay) ∧ FreshFrom w.next res.2.issued ∧
      res.2.retired = xs ∧ lookup res.1.objs d = some (.seq k' .probe src) ∧
      ∀ i ∈ ids z.toks, i ∉ ids (Cont.seq k' .probe src).toks :=
  ⟨_, commitSeq_lookup_self .., Perm.refl _, pays_mkFresh _ _, fresh_mkFresh _ _, rfl,
    (commit_frame _ _ _ _ _ _ hdc).trans hd, fresh_not_held hinv hd (fresh_mkFresh _ _)⟩

/-- the same from a Table / Tree: the source's keys are distinct, so no `set` of the run meets an existing key and every
    pair is constructed anew -/
theorem deep_map {w : World} (hinv : Inv w) (c : Nat) (k : MapKind) (kvs : List KV) {d : Nat} {k' : MapKind}
    {src : List KV} (hd : lookup w.objs d = some (.map k' src)) (hdc : d ≠ c) (touched : List Nat) :
    let res := commitMap w c k (mapAssign k w.next kvs src) touched
    ∃ z, lookup res.1.objs c = some z ∧ z.toks ~ res.2.issued ∧
      res.2.issued.map (·.pay) = (Cont.map k' src).toks.map (·.pay) ∧ FreshFrom w.next res.2.issued ∧
      res.2.retired = kvToks kvs ∧ lookup res.1.objs d = some (.map k' src) ∧
      ∀ i ∈ ids z.toks, i ∉ ids (Cont.map k' src).toks := by
  obtain ⟨hpay, hret, hperm⟩ := mapSetMany_distinct k (src.map fun kv => (kv.1.pay, kv.2.pay)) w.next []
    (by simpa [keys, Function.comp_def] using inv_keys hinv hd) (fun _ _ => List.not_mem_nil)
  have hf := (mapAssign_spec k w.next kvs src hinv.pos).2
  refine ⟨_, commit_lookup_self .., hperm, ?_, hf, ?_, (commit_frame _ _ _ _ _ _ hdc).trans hd,
    fun i hi => fresh_not_held hinv hd hf i ((ids_perm hperm).mem_iff.mp hi)⟩
  · simp only [commitMap, commit, Res.unit, mapAssign, hpay, Cont.toks, kvToks]
    simp [List.flatMap_map, List.map_flatMap]
  · simp [commitMap, commit, Res.unit, mapAssign, hret]

/-- deleting the containers lowest name first is an in-contract history: every name is bound when its turn comes (`key`);
    with nothing held, `Inv.cons` reads retired ~ issued -/
theorem delAll_spec {w : World} (hinv : Inv w) : allInContract w (delAllOps w) ∧
    (let e := (run w (delAllOps w)).1
     e.objs = [] ∧ e.retiredLog ~ e.issuedLog ∧ e.retiredLog.Nodup ∧ ∀ i ∈ w.issuedLog, i ∈ e.retiredLog) := by
  have key : ∀ (objs : List (Nat × Cont)) (w : World), w.objs = objs →
      allInContract w (objs.map (fun cx => Op.del cx.1)) ∧ (run w (objs.map (fun cx => Op.del cx.1))).1.objs = [] := by
    intro objs
    induction objs with
    | nil => intro w hw; exact ⟨trivial, hw⟩
    | cons cx rest ih =>
      intro w hw
      obtain ⟨c, x⟩ := cx
      have hl : lookup w.objs c = some x := by simp [hw, lookup]
      have hobjs : (step w (.del c)).1.objs = rest := by
        simp only [step, hl, commit_objs, objsAfter]
        simp [hw, erase]
      obtain ⟨i1, i2⟩ := ih _ hobjs
      exact ⟨⟨by simp [inContract, noKnownFinding, step, hl, commit], i1⟩, by rw [List.map_cons, run_cons]; exact i2⟩
  obtain ⟨hdel, hempty⟩ : allInContract w (delAllOps w) ∧ (run w (delAllOps w)).1.objs = [] := key w.objs w rfl
  have hinv' := run_inv hinv _ hdel.nkf
  have hc := hinv'.cons
  rw [hempty] at hc
  simp only [allIds, allToks_nil, ids_nil, List.append_nil] at hc
  exact ⟨hdel, hempty, hc.symm, inv_retired_nodup hinv', fun i hi => hc.mem_iff.mp ((run_logs_mono hinv _ hdel.nkf).2 i hi)⟩

end Cello.Own
