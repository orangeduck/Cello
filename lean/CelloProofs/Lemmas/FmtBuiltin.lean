/-
  C14 helper lemmas: the built-in Show instances stay inside every `SeqClosed` class for arguments that are not the destination
  and do not reach it (`showD_in`, under `plainD`); `plainFor` is the decidable form of `UseOk` for `showD` (`useOk_of_plainFor`);
  the show of a plain argument is one list of calls on every destination (`builtinCalls`, `showD_calls`).
-/
import CelloProofs.Lemmas.FmtRefine
import CelloProofs.Lemmas.FmtPure

namespace Cello.Fmt

section
variable (cfg : Cfg) {prim : Prim} {shw : Obj → Out → Out × Outcome} {P : (Out → Out × Outcome) → Prop} (C : SeqClosed prim P)
include C

theorem showItems_in (hpct : '%' ∉ cfg.conv) {sep : Str}
    (h1 : (parseFmt cfg.conv ['%', '$']).isSome = true) (h2 : (parseFmt cfg.conv sep).isSome = true) :
    ∀ items : List Obj, (∀ a ∈ items, ArgOk shw P a) → P (showItems cfg prim shw sep items)
  | [], _ => C.stop .ok nofun
  | [a], h => printToWith_in_parsed cfg C hpct h1 [a] (by simpa using h)
  | a :: b :: r, h =>
    C.seq (printToWith_in_parsed cfg C hpct h1 [a] (by simpa using h a List.mem_cons_self))
      (C.seq (printToWith_in_parsed cfg C hpct h2 [] (by simp))
        (showItems_in hpct h1 h2 (b :: r) fun x hx => h x (List.mem_cons_of_mem _ hx)))

theorem showPairs_in (hpct : '%' ∉ cfg.conv) {pair sep : Str}
    (h1 : (parseFmt cfg.conv pair).isSome = true) (h2 : (parseFmt cfg.conv sep).isSome = true) :
    ∀ ps : List (Obj × Obj), (∀ p ∈ ps, ArgOk shw P p.1 ∧ ArgOk shw P p.2) → P (showPairs cfg prim shw pair sep ps)
  | [], _ => C.stop .ok nofun
  | [(k, v)], h => printToWith_in_parsed cfg C hpct h1 [k, v] (by simpa using h)
  | (k, v) :: q :: r, h =>
    C.seq (printToWith_in_parsed cfg C hpct h1 [k, v] (by simpa using h (k, v) List.mem_cons_self))
      (C.seq (printToWith_in_parsed cfg C hpct h2 [] (by simp))
        (showPairs_in hpct h1 h2 (q :: r) fun x hx => h x (List.mem_cons_of_mem _ hx)))

theorem showInts_in (hpct : '%' ∉ cfg.conv) (hi : ∀ n, P (shw (.int n))) {item sep : Str}
    (h1 : (parseFmt cfg.conv item).isSome = true) (h2 : (parseFmt cfg.conv sep).isSome = true) :
    ∀ ns : List Int, P (showInts cfg prim shw item sep ns)
  | [] => C.stop .ok nofun
  | [n] => printToWith_in_parsed cfg C hpct h1 [.int n] (by simpa [ArgOk, Obj.isSink] using hi n)
  | n :: m :: r =>
    C.seq (printToWith_in_parsed cfg C hpct h1 [.int n] (by simpa [ArgOk, Obj.isSink] using hi n))
      (C.seq (printToWith_in_parsed cfg C hpct h2 [] (by simp)) (showInts_in hpct hi h1 h2 (m :: r)))

theorem showChars_in (sc : ShowCfg) (hpct : '%' ∉ cfg.conv) (hi : ∀ n, P (shw (.int n)))
    (hd : (parseFmt cfg.conv sc.strDefault).isSome = true) (he : ∀ e ∈ sc.strEsc, (parseFmt cfg.conv e.2).isSome = true) :
    ∀ s : Str, P (showChars cfg prim sc shw s)
  | [] => C.stop .ok nofun
  | c :: r => by
    refine C.seq ?_ (showChars_in sc hpct hi hd he r)
    cases hl : sc.strEsc.lookup c with
    | none => exact printToWith_in_parsed cfg C hpct hd [_] (by simpa [ArgOk, Obj.isSink] using hi _)
    | some e =>
      obtain ⟨l1, l2, h, _⟩ := List.lookup_eq_some_iff.1 hl
      exact printToWith_in_parsed cfg C hpct (he (c, e) (by rw [h]; simp)) [] (by simp)

omit C

theorem plainD_not_sink : ∀ (d : Nat) (a : Obj), plainD d a = true → a.isSink = false := by
  intro d a h
  cases d with
  | zero => simpa [plainD] using h
  | succ d => cases a <;> first | rfl | (simp [plainD] at h)

theorem all_mono {α : Type} {p q : α → Bool} (h : ∀ x, p x = true → q x = true) :
    ∀ l : List α, l.all p = true → l.all q = true := by
  intro l hl
  rw [List.all_eq_true] at hl ⊢
  exact fun x hx => h x (hl x hx)

theorem plainD_of_succ : ∀ (d : Nat) (a : Obj), plainD (d + 1) a = true → plainD d a = true := by
  intro d
  induction d with
  | zero =>
    intro a h
    have := plainD_not_sink 1 a h
    simp [plainD, this]
  | succ d ih =>
    intro a h
    have hp : ∀ (ps : List (Obj × Obj)), (ps.all fun p => plainD (d + 1) p.1 && plainD (d + 1) p.2) = true →
        (ps.all fun p => plainD d p.1 && plainD d p.2) = true :=
      all_mono (fun p hp => by
        simp only [Bool.and_eq_true] at hp ⊢
        exact ⟨ih _ hp.1, ih _ hp.2⟩)
    cases a with
    | array xs => exact all_mono (ih) xs h
    | tuple xs => exact all_mono (ih) xs h
    | list xs => exact all_mono (ih) xs h
    | slice xs => exact all_mono (ih) xs h
    | table ps => exact hp ps h
    | tree ps => exact hp ps h
    | box x => exact ih x h
    | sink => simp [plainD] at h
    | type n => rfl
    | int v => rfl
    | flt v => rfl
    | str s => rfl
    | range ns => rfl
    | null => rfl
    | other t => rfl

theorem plainD_int (d : Nat) (n : Int) : plainD d (.int n) = true := by
  cases d <;> rfl

theorem plainD_type (d : Nat) (t : Str) : plainD d (.type t) = true := by
  cases d <;> rfl

/-- `p` holds of every format the built-in Show instances and `show_to` pass to `print_to` -/
structure ShowCfg.Forall (sc : ShowCfg) (p : Str → Prop) : Prop where
  intFmt : p sc.intFmt
  fltFmt : p sc.fltFmt
  strOpen : p sc.strOpen
  strClose : p sc.strClose
  strDefault : p sc.strDefault
  strEsc : ∀ e ∈ sc.strEsc, p e.2
  arrOpen : p sc.arrOpen
  arrSep : p sc.arrSep
  arrClose : p sc.arrClose
  tupOpen : p sc.tupOpen
  tupSep : p sc.tupSep
  tupClose : p sc.tupClose
  lstOpen : p sc.lstOpen
  lstSep : p sc.lstSep
  lstClose : p sc.lstClose
  tblOpen : p sc.tblOpen
  tblPair : p sc.tblPair
  tblSep : p sc.tblSep
  tblClose : p sc.tblClose
  treOpen : p sc.treOpen
  trePair : p sc.trePair
  treSep : p sc.treSep
  treClose : p sc.treClose
  rngOpen : p sc.rngOpen
  rngItem : p sc.rngItem
  rngSep : p sc.rngSep
  rngClose : p sc.rngClose
  slcOpen : p sc.slcOpen
  slcSep : p sc.slcSep
  slcClose : p sc.slcClose
  boxFmt : p sc.boxFmt
  nullFmt : p sc.nullFmt
  defaultFmt : p sc.defaultFmt
  /-- the item format `"%$"` of the container loops -/
  item : p ['%', '$']
  /-- the format `"%s"` of `Type_Show` -/
  typeName : p ['%', 's']

/-- what the proofs about the built-in Show instances need to know about the scanner configuration and the show formats
    (all of it read from the source; established for `cfgNow` / `showNow` by evaluation) -/
structure ShowFacts (cfg : Cfg) (sc : ShowCfg) : Prop where
  hpct : '%' ∉ cfg.conv
  wf : sc.Forall fun f => (parseFmt cfg.conv f).isSome = true
  /-- `Type_Show` is `return print_to(output, pos, "%s", self);` (fix 0046a69), not the OLD form that returned a length -/
  typeNow : sc.typeOff = false
  /-- among the conversion characters, the dispatch reaches `show_to` through `$` only and `c_str` through `s` only (what makes
      `plainFor` the exact hypothesis about the arguments) -/
  disp : ∀ c ∈ cfg.conv, ∀ mk ∈ cfg.disp, mk.1.hit c = true → (mk.2 = .show → c = '$') ∧ (mk.2 = .cstr → c = 's')

variable {cfg} {sc : ShowCfg}
include C

/-- every case is a sequence of `print_to` calls on well-formed formats whose arguments are the object itself and what it holds,
    one level down -/
theorem showD_in (F : ShowFacts cfg sc) : ∀ (d : Nat) (a : Obj), plainD d a = true → P (showD cfg prim sc d a)
  | 0, _, _ => C.stop _ nofun
  | d + 1, a, hpl => by
    have ok : ∀ x, plainD d x = true → ArgOk (showD cfg prim sc d) P x :=
      fun x hx => ⟨plainD_not_sink d x hx, showD_in F d x hx⟩
    have self : ∀ y ∈ [a], ArgOk (showD cfg prim sc d) P y := fun y hy => List.mem_singleton.1 hy ▸ ok a (plainD_of_succ d a hpl)
    have none : ∀ y ∈ ([] : List Obj), ArgOk (showD cfg prim sc d) P y := nofun
    have int : ∀ n, P (showD cfg prim sc d (.int n)) := fun n => showD_in F d _ (plainD_int d n)
    have W := fun {f} hf args ha => printToWith_in_parsed (shw := showD cfg prim sc d) cfg C F.hpct (f := f) hf args ha
    have I := fun {sep} hsep (items : List Obj) (h : items.all (plainD d) = true) =>
      showItems_in (shw := showD cfg prim sc d) cfg C F.hpct (sep := sep) F.wf.item hsep items
        fun x hx => ok x (List.all_eq_true.1 h x hx)
    have Q := fun {pair sep} hpair hsep (ps : List (Obj × Obj)) (h : (ps.all fun p => plainD d p.1 && plainD d p.2) = true) =>
      showPairs_in (shw := showD cfg prim sc d) cfg C F.hpct (pair := pair) (sep := sep) hpair hsep ps fun p hp => by
        have := List.all_eq_true.1 h p hp
        simp only [Bool.and_eq_true] at this
        exact ⟨ok _ this.1, ok _ this.2⟩
    cases a with
    | int v => exact W F.wf.intFmt _ self
    | flt v => exact W F.wf.fltFmt _ self
    | str s =>
      exact C.seq (W F.wf.strOpen _ self)
        (C.seq (showChars_in cfg C sc F.hpct int F.wf.strDefault F.wf.strEsc s) (W F.wf.strClose _ self))
    | array items => exact C.seq (W F.wf.arrOpen _ self) (C.seq (I F.wf.arrSep items hpl) (W F.wf.arrClose _ none))
    | tuple items => exact C.seq (W F.wf.tupOpen _ self) (C.seq (I F.wf.tupSep items hpl) (W F.wf.tupClose _ none))
    | list items => exact C.seq (W F.wf.lstOpen _ self) (C.seq (I F.wf.lstSep items hpl) (W F.wf.lstClose _ none))
    | slice items => exact C.seq (W F.wf.slcOpen _ self) (C.seq (I F.wf.slcSep items hpl) (W F.wf.slcClose _ none))
    | table ps => exact C.seq (W F.wf.tblOpen _ self) (C.seq (Q F.wf.tblPair F.wf.tblSep ps hpl) (W F.wf.tblClose _ none))
    | tree ps => exact C.seq (W F.wf.treOpen _ self) (C.seq (Q F.wf.trePair F.wf.treSep ps hpl) (W F.wf.treClose _ none))
    | range ns =>
      exact C.seq (W F.wf.rngOpen _ self)
        (C.seq (showInts_in cfg C F.hpct int F.wf.rngItem F.wf.rngSep ns) (W F.wf.rngClose _ none))
    | box x => exact W F.wf.boxFmt [_, x] (by simpa using ⟨self _ List.mem_cons_self, ok x hpl⟩)
    | null => exact W F.wf.nullFmt _ none
    | other t => exact W F.wf.defaultFmt [.type t, _] (by simpa using ⟨ok _ (plainD_type d t), self _ List.mem_cons_self⟩)
    | type n =>
      have e : showD cfg prim sc (d + 1) (.type n) = fun o => (printToWith cfg prim (showD cfg prim sc d) ['%', 's'] [.type n] o).pair := by
        funext o
        simp only [showD, F.typeNow, Bool.false_eq_true, if_false]
      rw [e]
      exact W F.wf.typeName _ self
    | sink => simp [plainD] at hpl

end

variable (cfg : Cfg) (prim : Prim) (shw : Obj → Out → Out × Outcome)

/-- what dispatch kind `k` needs of its argument to touch the destination only through a fixed list of calls -/
def KindPure (k : Kind) (a : Obj) : Prop :=
  match k with
  | .show => Pure prim (shw a)
  | .cstr => a.isSink = false
  | _ => True

/-- `C14_position` states its hypothesis with `KindPure`; everything about `SeqClosed` classes is proved with `KindOk` -/
theorem kindPure_eq : KindPure prim shw = KindOk shw (Pure prim) := by
  funext k a
  cases k <;> rfl

variable (sc : ShowCfg)

theorem useOk_of_plainFor {P : (Out → Out × Outcome) → Prop} (C : SeqClosed prim P) (F : ShowFacts cfg sc)
    (d : Nat) (args : List Obj) :
    ∀ (segs : List Seg) (k : Nat), wfSegs cfg.conv segs = true → plainFor d args segs k = true →
      UseOk cfg (KindOk (showD cfg prim sc d) P) args segs k := by
  intro segs
  induction segs with
  | nil => intro k _ _; trivial
  | cons s r ih =>
    intro k hwf hpl
    obtain ⟨hs, hr, _⟩ := wfSegs_cons hwf
    cases s with
    | lit s => exact ih k hr (by simpa [plainFor] using hpl)
    | pct => exact ih k hr (by simpa [plainFor] using hpl)
    | spec b c =>
      simp only [plainFor, Bool.and_eq_true] at hpl
      refine ⟨fun a ha mk hmk hhit => ?_, ih (k + 1) hr hpl.2⟩
      obtain ⟨m, kd⟩ := mk
      obtain ⟨hshow, hcstr⟩ := F.disp c (spec_wf_iff.1 hs).1 (m, kd) hmk hhit
      have h1 := hpl.1
      rw [ha] at h1
      cases kd with
      | «show» =>
        cases hshow rfl
        exact showD_in C F d a (by simpa using h1)
      | cstr =>
        cases hcstr rfl
        exact (by simpa using h1 : a.isSink = false)
      | cint => trivial
      | cfloat => trivial
      | obj => trivial

theorem plainFor_of_plainArgs (d : Nat) (args : List Obj) (h : plainArgs d args = true) :
    ∀ (segs : List Seg) (k : Nat), plainFor d args segs k = true := by
  intro segs
  induction segs with
  | nil => intro k; rfl
  | cons s r ih =>
    intro k
    cases s with
    | lit s => simpa [plainFor] using ih k
    | pct => simpa [plainFor] using ih k
    | spec b c =>
      simp only [plainFor, Bool.and_eq_true]
      refine ⟨?_, ih (k + 1)⟩
      cases ha : args[k]? with
      | none => rfl
      | some a =>
        have hp : plainD d a = true := List.all_eq_true.1 h a (List.mem_of_getElem? ha)
        have hns := plainD_not_sink d a hp
        simp only []
        split
        · exact hp
        · split
          · simp [hns]
          · rfl

/-- the calls the built-in `show` (fuel `d`) makes for `a`, read off a run on an empty File -/
def builtinCalls (d : Nat) (a : Obj) : List Call := (showD cfg prim sc d a ⟨.file [], 0, []⟩).1.calls

/-- the built-in `show` of `a` completes (fuel suffices, libc accepts every call, nothing inside raises) — decidable by running it once;
    by purity the outcome is the same on every destination -/
def showsOk (d : Nat) (args : List Obj) : Bool := args.all fun a => decide ((showD cfg prim sc d a ⟨.file [], 0, []⟩).2 = .ok)

theorem showD_calls (hg : prim.Guarded) (F : ShowFacts cfg sc) (d : Nat) (a : Obj) (hp : plainD d a = true)
    (hok : (showD cfg prim sc d a ⟨.file [], 0, []⟩).2 = .ok) :
    ∀ o, showD cfg prim sc d a o = (emitAll prim o (builtinCalls cfg prim sc d a), .ok) := by
  obtain ⟨cs, oc, h⟩ := showD_in (pure_closed prim hg) F d a hp
  have h0 := h ⟨.file [], 0, []⟩
  have hcs : builtinCalls cfg prim sc d a = cs := by simp [builtinCalls, h0, emitAll_calls]
  have hoc : oc = .ok := by rw [h0] at hok; exact hok
  intro o
  rw [h o, hcs, hoc]

theorem showD_calls_args (hg : prim.Guarded) (F : ShowFacts cfg sc) (d : Nat) (args : List Obj) (hpl : plainArgs d args = true)
    (hok : showsOk cfg prim sc d args = true) :
    ∀ a ∈ args, ∀ o, showD cfg prim sc d a o = (emitAll prim o (builtinCalls cfg prim sc d a), .ok) := by
  intro a ha
  have h1 : plainD d a = true := List.all_eq_true.1 hpl a ha
  have h2 := List.all_eq_true.1 hok a ha
  exact showD_calls cfg prim sc hg F d a h1 (by simpa using h2)

end Cello.Fmt
