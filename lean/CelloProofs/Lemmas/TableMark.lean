/-
  CelloProofs/Lemmas/TableMark.lean — `Table_Mark` and `Table_Hash` (Cello/TableMark.lean) against the association-list
  specification: what the collector is told and what `hash(t)` answers are functions of the bindings alone.
-/
import CelloProofs.Lemmas.TableArgs
import Cello.TableMark
namespace Cello.Table
open RH
variable {κ ν : Type}

theorem pairsOf_markLoop (l : List (Option (Entry κ ν))) (i : Nat) :
    pairsOf (markLoop l i) = some (l.filterMap (Option.map kv)) := by
  induction l generalizing i with
  | nil => rfl
  | cons a r ih =>
    cases a with
    | none => simp [markLoop, ih]
    | some e => simp [markLoop, pairsOf, ih, kv]

theorem markLoop_length (l : List (Option (Entry κ ν))) (i : Nat) :
    (markLoop l i).length = 2 * (l.filterMap (Option.map kv)).length := by
  induction l generalizing i with
  | nil => rfl
  | cons a r ih => cases a <;> simp [markLoop, ih]; omega

theorem markLoop_slot (l : List (Option (Entry κ ν))) (i : Nat) :
    ∀ x ∈ markLoop l i, i ≤ x.slot ∧ ∃ e, l[x.slot - i]? = some (some e) ∧ (x = .key x.slot e.key ∨ x = .val x.slot e.val) := by
  induction l generalizing i with
  | nil => intro x hx; simp [markLoop] at hx
  | cons a r ih =>
    have tail : ∀ x ∈ markLoop r (i + 1),
        i ≤ x.slot ∧ ∃ e, (a :: r)[x.slot - i]? = some (some e) ∧ (x = .key x.slot e.key ∨ x = .val x.slot e.val) := by
      intro x hx
      obtain ⟨h1, e, h2, h3⟩ := ih (i + 1) x hx
      refine ⟨by omega, e, ?_, h3⟩
      have : x.slot - i = (x.slot - (i + 1)) + 1 := by omega
      rw [this, List.getElem?_cons_succ]; exact h2
    cases a with
    | none => intro x hx; exact tail x (by simpa [markLoop] using hx)
    | some e =>
      intro x hx
      simp only [markLoop, List.mem_cons] at hx
      rcases hx with rfl | rfl | hx
      · exact ⟨Nat.le_refl _, e, by simp [Reported.slot], Or.inl rfl⟩
      · exact ⟨Nat.le_refl _, e, by simp [Reported.slot], Or.inr rfl⟩
      · exact tail x hx

/-- **`Table_Mark` on a well-formed table (`WF`)**: the calls of the callback, read as bindings, are exactly what iteration
    yields (`foreach`), there are two per item, and each names the key / value object of an OCCUPIED record inside the array —
    no empty (zeroed) record and nothing outside `data[0 .. nslots)` is ever handed to the collector. -/
theorem mark_spec (hash : κ → Nat) (t : Tab κ ν) (w : WF hash t) :
    pairsOf (mark t) = some (foreach t) ∧ (mark t).length = 2 * t.nitems ∧
      ∀ x ∈ mark t, ∃ (h : x.slot < t.n) (e : Entry κ ν), t.slots[x.slot] = some e ∧ (x = .key x.slot e.key ∨ x = .val x.slot e.val) := by
  refine ⟨?_, ?_, ?_⟩
  · rw [foreach_eq hash t w]; exact pairsOf_markLoop _ 0
  · rw [mark, markLoop_length, ← entriesList, w.length_entriesList]
  · intro x hx
    obtain ⟨_, e, h2, h3⟩ := markLoop_slot t.slots.toList 0 x hx
    simp only [Nat.sub_zero] at h2
    obtain ⟨hl, he⟩ := List.getElem?_eq_some_iff.mp h2
    have hn : x.slot < t.n := by simpa using hl
    refine ⟨hn, e, ?_, h3⟩
    simpa using he

theorem mark_rep (hash : κ → Nat) (t : Tab κ ν) (m : Spec κ ν) (r : Rep0 hash t m) :
    ∃ ps, pairsOf (mark t) = some ps ∧ ps.Perm m ∧ (mark t).length = 2 * m.length := by
  obtain ⟨h1, h2, _⟩ := mark_spec hash t r.toWF
  exact ⟨foreach t, h1, foreach_perm hash t m r, by rw [h2, r.len]⟩

theorem hashStep_comm (hk : κ → Nat) (hv : ν → Nat) (z : Nat) (x y : κ × ν) :
    hashStep hk hv (hashStep hk hv z x) y = hashStep hk hv (hashStep hk hv z y) x := by
  simp only [hashStep]
  ac_rfl

theorem specHash_perm (hk : κ → Nat) (hv : ν → Nat) {m1 m2 : Spec κ ν} (p : m1.Perm m2) :
    Spec.hash hk hv m1 = Spec.hash hk hv m2 :=
  List.Perm.foldl_eq' p (fun x _ y _ z => hashStep_comm hk hv z x y) 0

theorem tableHash_rep (hash : κ → Nat) (hk : κ → Nat) (hv : ν → Nat) (t : Tab κ ν) (m : Spec κ ν) (r : Rep0 hash t m) :
    tableHash hk hv t = Spec.hash hk hv m :=
  specHash_perm hk hv (foreach_perm hash t m r)

variable [DecidableEq κ]

/-- the callback calls `mark` observes (`marked`) answer the map's `bindings`: read in (key object, value object) pairs they
    are a permutation of them, two calls per binding; hashes are equal; the rest as `ObsRel` -/
def XObsRel (a : XObs κ ν) (b : XSpecObs κ ν) : Prop :=
  match a, b with
  | .base o, .base o' => ObsRel o o'
  | .marked l, .bindings m => ∃ ps, pairsOf l = some ps ∧ ps.Perm m ∧ l.length = 2 * m.length
  | .hashed h, .hashed h' => h = h'
  | _, _ => False

theorem stepX_refines (cfg : Cfg) (g : GoodCfg cfg) (hc : cfg.getChecksKey = true) (hash : κ → Nat) (asKey : ν → Option κ)
    (asVal : κ → Option ν) (hk : κ → Nat) (hv : ν → Nat) (ts : List (Tab κ ν)) (ms : List (Spec κ ν)) (R : StRel hash ts ms)
    (op : XOp κ ν) :
    ∃ ts' o, stepX cfg hash asKey asVal hk hv ts op = .ok (ts', o) ∧ StRel hash ts' (specStepX asKey asVal hk hv ms op).1 ∧
      XObsRel o (specStepX asKey asVal hk hv ms op).2 := by
  cases op with
  | base op =>
    obtain ⟨ts', o, e, R', ho⟩ := stepA_refines cfg g hc hash asKey asVal ts ms R op
    exact ⟨ts', .base o, by simp only [stepX, e], R', ho⟩
  | mark t => exact R.at t (Ob := XObsRel) (by rfl) fun tb m _ _ r => ⟨_, _, rfl, R, mark_rep hash tb m r.toRep0⟩
  | hash t =>
    exact R.at t (Ob := XObsRel) (by rfl) fun tb m _ _ r => ⟨_, _, rfl, R, tableHash_rep hash hk hv tb m r.toRep0⟩

theorem runX_refines (cfg : Cfg) (g : GoodCfg cfg) (hc : cfg.getChecksKey = true) (hash : κ → Nat) (asKey : ν → Option κ)
    (asVal : κ → Option ν) (hk : κ → Nat) (hv : ν → Nat) :
    ∀ (ops : List (XOp κ ν)) (ts : List (Tab κ ν)) (ms : List (Spec κ ν)), StRel hash ts ms →
      ∃ ts' os, runX cfg hash asKey asVal hk hv ts ops = .ok (ts', os) ∧
        List.Forall₂ XObsRel os (specRunX asKey asVal hk hv ms ops).2 ∧ StRel hash ts' (specRunX asKey asVal hk hv ms ops).1 :=
  history_refines (fun _ => rfl) (fun e1 e2 => by simp only [runX, e1, e2]) (fun _ => rfl) (fun _ _ _ => rfl)
    fun ts ms R => stepX_refines cfg g hc hash asKey asVal hk hv ts ms R

theorem runX_base (cfg : Cfg) (hash : κ → Nat) (asKey : ν → Option κ) (asVal : κ → Option ν) (hk : κ → Nat) (hv : ν → Nat) :
    ∀ (ops : List (AOp κ ν)) (ts : List (Tab κ ν)),
      runX cfg hash asKey asVal hk hv ts (ops.map .base) = (runA cfg hash asKey asVal ts ops).map (fun r => (r.1, r.2.map .base)) := by
  intro ops
  induction ops with
  | nil => intro ts; rfl
  | cons op ops ih =>
    intro ts
    simp only [List.map_cons, runX, runA, stepX]
    cases stepA cfg hash asKey asVal ts op with
    | error f => rfl
    | ok p =>
      simp only [ih]
      cases runA cfg hash asKey asVal p.1 ops with
      | error f => rfl
      | ok q => rfl

end Cello.Table
