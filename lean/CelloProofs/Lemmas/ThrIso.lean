/-
  C13 (threads), isolation and non-interference: the schedule predicates `Isolated`, `KeepsWrappers`, `IsolatedN` and how they
  imply each other; one event seen from one thread under `IsolatedN` (`step_actM`), hence the projection theorem `run_projM`,
  and `Isolated` as its special case (`run_proj`).
-/
import CelloProofs.Lemmas.Thr

namespace Cello.Thr

theorem isolatedEv_raw (cfg : Cfg) (g : G) (e : Ev) (h : g.wraps = []) : isolatedEv cfg g e = true := by
  cases e with
  | loc t op =>
    have hh : heldOf g t op = [] := by unfold heldOf; split <;> simp [heldThreads, h]
    simp [isolatedEv, keepsWrappersEv, wrapperKilled, h, hh]
  | _ => rfl

/-- without `bind` events `wraps` stays empty: every `struct Thread` is raw (`new_raw`, static, the main wrapper) -/
theorem isolated_raw (cfg : Cfg) (s : List Ev) : ∀ g : G, g.wraps = [] → (∀ e ∈ s, ∀ t u, e ≠ .bind t u) →
    Isolated cfg s g = true := by
  induction s with
  | nil => intro g _ _; rfl
  | cons e s ih =>
    intro g hw hnb
    simp only [Isolated, Bool.and_eq_true]
    refine ⟨isolatedEv_raw cfg g e hw, ih _ ?_ (fun e' he' => hnb e' (by simp [he']))⟩
    have hb := hnb e List.mem_cons_self
    have : e.writes.contains .wraps = false := by
      cases e <;> first | rfl | exact absurd rfl (hb _ _)
    rw [(step_frame cfg g e).wraps this]
    exact hw

theorem isolatedEv_of_keeps (cfg : Cfg) (hfm : cfg.foreignMark = false) (g : G) (e : Ev)
    (h : keepsWrappersEv cfg g e = true) : isolatedEv cfg g e = true := by
  cases e with
  | loc t op => simp only [isolatedEv, hfm, Bool.not_false, Bool.true_or, Bool.true_and]; exact h
  | _ => rfl

theorem isolated_of_keeps (cfg : Cfg) (hfm : cfg.foreignMark = false) (s : List Ev) : ∀ g : G,
    KeepsWrappers cfg s g = true → Isolated cfg s g = true := by
  induction s with
  | nil => intro g _; rfl
  | cons e s ih =>
    intro g h
    simp only [KeepsWrappers, Bool.and_eq_true] at h
    simp only [Isolated, Bool.and_eq_true]
    exact ⟨isolatedEv_of_keeps cfg hfm g e h.1, ih _ h.2⟩

theorem keeps_of_isolated (cfg : Cfg) (s : List Ev) : ∀ g : G, Isolated cfg s g = true → KeepsWrappers cfg s g = true := by
  induction s with
  | nil => intro g _; rfl
  | cons e s ih =>
    intro g h
    simp only [Isolated, Bool.and_eq_true] at h
    simp only [KeepsWrappers, Bool.and_eq_true]
    refine ⟨?_, ih _ h.2⟩
    cases e with
    | loc t op => have := h.1; simp only [isolatedEv, Bool.and_eq_true] at this; exact this.2
    | _ => rfl

theorem lstep_walk (cfg : Cfg) (g : G) (t : Tid) (c : Cache) (op : LOp) (h : walkNeutral cfg g t op = true) :
    lstep cfg t c (foreignMarks cfg g t op) op (g.thr t) = lstep cfg t c (frozenMarks cfg g t op) op (g.thr t) := by
  cases op with
  | collect st =>
    dsimp only [lstep]
    split
    · dsimp only [lrun]
      cases hg : (g.thr t).gc with
      | none => rfl
      | some gc =>
        simp only [walkNeutral, hg, List.all_eq_true, Bool.or_eq_true, beq_iff_eq] at h
        have := GC.sweep_congr gc
          ((g.thr t).tls.map (·.2) ++ st.map (fun k => (⟨t, k⟩ : Obj)) ++ foreignMarks cfg g t (.collect st))
          ((g.thr t).tls.map (·.2) ++ st.map (fun k => (⟨t, k⟩ : Obj)) ++ frozenMarks cfg g t (.collect st))
          (by intro e he h2
              rcases h e he with h' | h'
              · rw [h2] at h'; cases h'
              · exact h')
        simp only [this]
    · rfl
  | _ => rfl

theorem step_loc_isolatedN (cfg : Cfg) (g : G) (t : Tid) (op : LOp) (h : isolatedEvN cfg g (.loc t op) = true) :
    step cfg g (.loc t op) =
      ({ g with thr := upd g.thr t (lstep cfg t g.cache (frozenMarks cfg g t op) op (g.thr t)).1,
                cache := (lstep cfg t g.cache (frozenMarks cfg g t op) op (g.thr t)).2.1 },
       (lstep cfg t g.cache (frozenMarks cfg g t op) op (g.thr t)).2.2) := by
  simp only [isolatedEvN, keepsWrappersEv, Bool.and_eq_true, Bool.not_eq_true'] at h
  rw [step_loc, h.2, ← lstep_walk cfg g t g.cache op h.1]
  simp

theorem localOuts_join_not_raised (u t v : Tid) (o : Out) (tr : List (Ev × Out)) (h : ∀ x, o ≠ .raised x) :
    localOuts u ((.join t v, o) :: tr) = localOuts u tr := by
  cases o <;> first | rfl | exact absurd rfl (h _)

/-- **one event, seen from thread `u`**: running alone the actions `actM` records for it, `u` reaches the component the
    event leaves it with and sees the outcomes the event adds to `localOuts u` -/
theorem step_actM (cfg : Cfg) (u : Tid) (g : G) (e : Ev) (hc : CacheOK cfg g.cache) (h : isolatedEvN cfg g e = true) :
    (soloSpec cfg u (actM cfg u g e (step cfg g e).2) (g.thr u)).1 = (step cfg g e).1.thr u ∧
    (∀ tr, localOuts u ((e, (step cfg g e).2) :: tr) =
      (soloSpec cfg u (actM cfg u g e (step cfg g e).2) (g.thr u)).2 ++ localOuts u tr) ∧
    CacheOK cfg (step cfg g e).1.cache := by
  have hf := step_frame cfg g e
  cases e with
  | loc t op =>
    have hs := lstep_spec hc t (frozenMarks cfg g t op) op (g.thr t)
    rw [step_loc_isolatedN cfg g t op h]
    by_cases htu : t = u
    · subst htu
      simp only [actM, if_true, soloSpec, localOuts, upd_same, ← hs.1]
      exact ⟨trivial, fun _ => rfl, hs.2⟩
    · simp only [actM, htu, if_false, soloSpec, localOuts, upd_other _ _ _ _ (fun h => htu h.symm)]
      exact ⟨trivial, fun _ => rfl, hs.2⟩
  | spawn t v =>
    cases step_spawn cfg g t v with
    | born hph ho hthr _ =>
      rw [ho, hthr]
      refine ⟨?_, fun tr => ?_, by rw [hf.cache rfl]; exact hc⟩
      all_goals by_cases hvu : v = u
      · subst hvu; simp only [actM, if_true, soloSpec, upd_same, if_pos hph]
      · simp only [actM, hvu, if_false, soloSpec, upd_other _ _ _ _ (fun h => hvu h.symm)]
      · subst hvu; simp only [actM, if_true]; rfl
      · simp only [actM, hvu, if_false]; rfl
    | idle o hr ho =>
      have ha : actM cfg u g (.spawn t v) o = [] := by cases o <;> first | rfl | exact absurd rfl ho
      rw [hr, ha]
      exact ⟨rfl, fun _ => rfl, hc⟩
  | join t w =>
    cases step_join cfg g t w with
    | raise x htw hrun hx hr =>
      subst htw
      rw [hr]
      have hl := lstep_perr_join cfg t [] [] (g.thr t) hrun x hx
      refine ⟨?_, fun tr => ?_, hc⟩
      all_goals by_cases htu : t = u
      · subst htu; simp only [actM, and_self, if_true, soloSpec, upd_same, lstepSpec, hl]
      · simp only [actM, htu, and_false, if_false, soloSpec, upd_other _ _ _ _ (fun h => htu h.symm)]
      · subst htu; simp only [actM, localOuts, and_self, if_true, soloSpec, lstepSpec, hl]; rfl
      · simp only [actM, localOuts, htu, and_false, if_false, soloSpec]; rfl
    | joined _ hr => rw [hr]; exact ⟨rfl, fun _ => rfl, hc⟩
    | idle o hr h1 =>
      have ha : actM cfg u g (.join t w) o = [] := by cases o <;> first | rfl | exact absurd rfl (h1 _)
      rw [hr, ha]
      exact ⟨rfl, fun tr => localOuts_join_not_raised u t w _ tr h1, hc⟩
  | _ => exact ⟨by rw [hf.thr rfl]; rfl, fun _ => rfl, by rw [hf.cache rfl]; exact hc⟩

theorem run_projM (cfg : Cfg) (u : Tid) (s : List Ev) : ∀ g : G, CacheOK cfg g.cache → IsolatedN cfg s g = true →
    (run cfg s g).1.thr u = (soloSpec cfg u (projM cfg u s g) (g.thr u)).1 ∧
    localOuts u (run cfg s g).2 = (soloSpec cfg u (projM cfg u s g) (g.thr u)).2 ∧
    CacheOK cfg (run cfg s g).1.cache := by
  induction s with
  | nil => intro g hc _; exact ⟨rfl, rfl, hc⟩
  | cons e s ih =>
    intro g hc hiso
    simp only [IsolatedN, Bool.and_eq_true] at hiso
    obtain ⟨h1, h2, hc'⟩ := step_actM cfg u g e hc hiso.1
    obtain ⟨i1, i2, i3⟩ := ih _ hc' hiso.2
    rw [run_cons, projM, soloSpec_append, h1, h2, i2]
    exact ⟨i1, rfl, i3⟩

theorem marks_nil_of_isolated (cfg : Cfg) (g : G) (t : Tid) (op : LOp) (h : isolatedEv cfg g (.loc t op) = true) :
    foreignMarks cfg g t op = [] ∧ frozenMarks cfg g t op = [] := by
  simp only [isolatedEv, Bool.and_eq_true, Bool.or_eq_true, Bool.not_eq_true'] at h
  unfold foreignMarks frozenMarks
  rcases h.1 with hf | hq
  · simp [hf]
  · have hnil : ∀ u ∈ heldOf g t op, (g.thr u).tls.map (·.2) = [] := by
      intro u hu
      have := List.all_eq_true.mp hq u hu
      simp only [quiet, Bool.and_eq_true, List.isEmpty_iff] at this
      simp [this.2]
    constructor <;> split
    · exact List.flatMap_eq_nil_iff.mpr hnil
    · rfl
    · exact List.flatMap_eq_nil_iff.mpr fun u hu => hnil u (List.mem_filter.mp hu).1
    · rfl

theorem isolatedEvN_of_isolatedEv (cfg : Cfg) (g : G) (e : Ev) (h : isolatedEv cfg g e = true) : isolatedEvN cfg g e = true := by
  cases e with
  | loc t op =>
    obtain ⟨hfm, hfz⟩ := marks_nil_of_isolated cfg g t op h
    have hk : keepsWrappersEv cfg g (.loc t op) = true := by
      simp only [isolatedEv, Bool.and_eq_true] at h; exact h.2
    simp only [isolatedEvN, Bool.and_eq_true]
    refine ⟨?_, hk⟩
    cases op with
    | collect st =>
      simp only [walkNeutral]
      split
      · rfl
      · rw [hfm, hfz]; simp
    | _ => rfl
  | _ => rfl

theorem isolatedN_of_isolated (cfg : Cfg) (s : List Ev) : ∀ g : G, Isolated cfg s g = true → IsolatedN cfg s g = true := by
  induction s with
  | nil => intro g _; rfl
  | cons e s ih =>
    intro g h
    simp only [Isolated, Bool.and_eq_true] at h
    simp only [IsolatedN, Bool.and_eq_true]
    exact ⟨isolatedEvN_of_isolatedEv cfg g e h.1, ih _ h.2⟩

/-- on an isolated schedule no table is handed to the solo run: `projM` is the projection of the trace -/
theorem projM_of_isolated (cfg : Cfg) (u : Tid) (s : List Ev) : ∀ g : G, Isolated cfg s g = true →
    projM cfg u s g = proj u (run cfg s g).2 := by
  induction s with
  | nil => intro g _; rfl
  | cons e s ih =>
    intro g h
    simp only [Isolated, Bool.and_eq_true] at h
    rw [run_cons, projM, ih _ h.2]
    cases e with
    | loc t op =>
      simp only [actM, proj, (marks_nil_of_isolated cfg g t op h.1).2]
      split <;> rfl
    | spawn t v => cases (step cfg g (.spawn t v)).2 <;> first | rfl | (simp only [actM, proj]; split <;> rfl)
    | join t v => cases (step cfg g (.join t v)).2 <;> first | rfl | (simp only [actM, proj]; split <;> rfl)
    | _ => rfl

theorem run_proj (cfg : Cfg) (u : Tid) (s : List Ev) (g : G) (hc : CacheOK cfg g.cache) (hiso : Isolated cfg s g = true) :
    (run cfg s g).1.thr u = (soloSpec cfg u (proj u (run cfg s g).2) (g.thr u)).1 ∧
    localOuts u (run cfg s g).2 = (soloSpec cfg u (proj u (run cfg s g).2) (g.thr u)).2 ∧
    CacheOK cfg (run cfg s g).1.cache := by
  rw [← projM_of_isolated cfg u s g hiso]
  exact run_projM cfg u s g hc (isolatedN_of_isolated cfg s g hiso)

end Cello.Thr
