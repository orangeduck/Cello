/-
  C09: `valCmp` on the whole value universe is the lexicographic lifting its mutual recursion spells out (`valCmp_seq`,
  `valCmp_tree`), and a strict order on every kind (`valCmp_strict`).
-/
import CelloProofs.Lemmas.Cmp
import CelloProofs.Lemmas.CmpFloat

namespace Cello.Cmp
open CelloGen.Cmp (FloatOps)

theorem seqCmp_cons_cons (ops : FloatOps UInt64) (x y : Val) (xs ys : List Val) :
    seqCmp ops (x :: xs) (y :: ys) = thenCmp (valCmp ops x y) (seqCmp ops xs ys) := rfl

theorem entriesCmp_cons_cons (ops : FloatOps UInt64) (p q : Val × Val) (xs ys : List (Val × Val)) :
    entriesCmp ops (p :: xs) (q :: ys) =
      thenCmp (valCmp ops p.1 q.1) (thenCmp (valCmp ops p.2 q.2) (entriesCmp ops xs ys)) := rfl

theorem seqCmp_eq (ops : FloatOps UInt64) : ∀ xs ys, seqCmp ops xs ys = lexCmp (valCmp ops) xs ys
  | [], [] | [], _ :: _ | _ :: _, [] => rfl
  | x :: xs, y :: ys => by rw [seqCmp_cons_cons, lexCmp_cons_cons, seqCmp_eq ops xs ys]

theorem entriesCmp_eq (ops : FloatOps UInt64) :
    ∀ xs ys, entriesCmp ops xs ys = pairsCmp (valCmp ops) (valCmp ops) xs ys
  | [], [] | [], _ :: _ | _ :: _, [] => rfl
  | (k, v) :: xs, (k', v') :: ys => by
    rw [entriesCmp_cons_cons, entriesCmp_eq ops xs ys]; rfl

theorem valCmp_seq (ops : FloatOps UInt64) (s s' : SeqKind) (xs ys : List Val) :
    valCmp ops (.seq s xs) (.seq s' ys) = lexCmp (valCmp ops) xs ys := by
  rw [valCmp, seqCmp_eq]

theorem valCmp_tree (ops : FloatOps UInt64) (xs ys : List (Val × Val)) :
    valCmp ops (.tree xs) (.tree ys) = lexCmp (pairCmp (valCmp ops) (valCmp ops)) xs ys := by
  rw [valCmp, entriesCmp_eq, pairsCmp_eq_lexCmp]

theorem normList_eq_iff : ∀ xs ys, normList xs = normList ys ↔ Pointwise (fun x y => norm x = norm y) xs ys := by
  intro xs
  induction xs with
  | nil => intro ys; cases ys <;> simp [normList, Pointwise]
  | cons x xs ih => intro ys; cases ys <;> simp [normList, Pointwise, ih]

theorem normPairs_eq_iff : ∀ xs ys,
    normPairs xs = normPairs ys ↔ Pointwise (fun p q : Val × Val => norm p.1 = norm q.1 ∧ norm p.2 = norm q.2) xs ys := by
  intro xs
  induction xs with
  | nil => intro ys; cases ys <;> simp [normPairs, Pointwise]
  | cons x xs ih =>
    intro ys
    obtain ⟨k, v⟩ := x
    cases ys with
    | nil => simp [normPairs, Pointwise]
    | cons y ys => obtain ⟨k', v'⟩ := y; simp [normPairs, Pointwise, ih, and_assoc]

theorem hasKind_int {a : Val} (h : hasKind .int a) : ∃ v, a = .int v := by
  cases a with
  | int v => exact ⟨v, rfl⟩
  | _ => exact h.elim
theorem hasKind_flt {a : Val} (h : hasKind .flt a) : ∃ b, a = .flt b ∧ fIsNaN b = false := by
  cases a with
  | flt b => exact ⟨b, rfl, h⟩
  | _ => exact h.elim
theorem hasKind_str {a : Val} (h : hasKind .str a) : ∃ b, a = .str b := by
  cases a with
  | str b => exact ⟨b, rfl⟩
  | _ => exact h.elim
theorem hasKind_typ {a : Val} (h : hasKind .typ a) : ∃ b, a = .typ b := by
  cases a with
  | typ b => exact ⟨b, rfl⟩
  | _ => exact h.elim
theorem hasKind_plain {t : Nat} {a : Val} (h : hasKind (.plain t) a) : ∃ b, a = .plain t b := by
  cases a with
  | plain t' b => exact ⟨b, by rw [h.1]⟩
  | _ => exact h.elim
theorem hasKind_seq {e : Kind} {a : Val} (h : hasKind (.seq e) a) : ∃ s xs, a = .seq s xs ∧ ∀ x ∈ xs, hasKind e x := by
  cases a with
  | seq s xs => exact ⟨s, xs, rfl, h⟩
  | _ => exact h.elim
theorem hasKind_tree {k v : Kind} {a : Val} (h : hasKind (.tree k v) a) :
    ∃ kvs, a = .tree kvs ∧ ∀ p ∈ kvs, hasKind k p.1 ∧ hasKind v p.2 := by
  cases a with
  | tree kvs => exact ⟨kvs, rfl, h⟩
  | _ => exact h.elim
theorem hasKind_nil {a : Val} (h : hasKind .nil a) : ∃ s, a = .seq s [] := by
  cases a with
  | seq s xs => exact ⟨s, by rw [show xs = [] from h]⟩
  | _ => exact h.elim
theorem hasKind_cons {h t : Kind} {a : Val} (hk : hasKind (.cons h t) a) :
    ∃ s xs, a = .seq s xs ∧ (xs = [] ∨ ∃ x xs', xs = x :: xs' ∧ hasKind h x ∧ hasKind t (.seq s xs')) := by
  cases a with
  | seq s xs =>
    cases xs with
    | nil => exact ⟨s, [], rfl, Or.inl rfl⟩
    | cons x xs' => exact ⟨s, x :: xs', rfl, Or.inr ⟨x, xs', rfl, hk⟩⟩
  | _ => exact hk.elim

/-- a sequence as a list of at most one pair (first element, remaining sequence): what `Kind.cons h t` is compared through -/
def Val.uncons : Val → List (Val × Val)
  | .seq s (x :: xs) => [(x, .seq s xs)]
  | _ => []

theorem valCmp_uncons (ops : FloatOps UInt64) (s s' : SeqKind) :
    ∀ xs ys : List Val, valCmp ops (.seq s xs) (.seq s' ys) =
      lexCmp (pairCmp (valCmp ops) (valCmp ops)) (Val.uncons (.seq s xs)) (Val.uncons (.seq s' ys))
  | [], [] | [], _ :: _ | _ :: _, [] => by rw [valCmp_seq]; rfl
  | x :: xs, y :: ys => by
    -- the view adds two ties at the end (`pairCmp … 0`, then the empty rest): they only take the sign of a sign
    show _ = thenCmp (pairCmp (valCmp ops) (valCmp ops) (x, .seq s xs) (y, .seq s' ys)) 0
    rw [pairCmp_eq, thenCmp_assoc, thenCmp_zero_right, thenCmp_zero_right, sgn_sgn, valCmp_seq, valCmp_seq, lexCmp_cons_cons,
      sgn_lexCmp]

theorem norm_uncons (s s' : SeqKind) (xs ys : List Val) :
    norm (.seq s xs) = norm (.seq s' ys) ↔
      Pointwise (fun p q : Val × Val => norm p.1 = norm q.1 ∧ norm p.2 = norm q.2) (Val.uncons (.seq s xs)) (Val.uncons (.seq s' ys)) := by
  cases xs with
  | nil => cases ys <;> simp [norm, normList, Val.uncons, Pointwise]
  | cons x xs =>
    cases ys with
    | nil => simp [norm, normList, Val.uncons, Pointwise]
    | cons y ys => simp [norm, normList, Val.uncons, Pointwise]

/-- a kind whose values are one constructor `mk` applied to payloads, compared and identified through the payload -/
theorem valCmp_strict_ctor (ops : FloatOps UInt64) {β : Type} {P : β → Prop} {E : β → β → Prop} {c : β → β → Int}
    (h : StrictCmpOn P E c) {Q : Val → Prop} (mk : β → Val) (hQ : ∀ a, Q a → ∃ x, a = mk x) (hP : ∀ x, Q (mk x) → P x)
    (hc : ∀ x y, valCmp ops (mk x) (mk y) = c x y) (hn : ∀ x y, norm (mk x) = norm (mk y) ↔ E x y) :
    StrictCmpOn Q (fun a b => norm a = norm b) (valCmp ops) :=
  h.transfer (fun a x => a = mk x) (fun a qa => (hQ a qa).imp fun x e => ⟨e, hP x (e ▸ qa)⟩)
    (fun a b x y _ _ ra rb => by subst ra rb; rw [hc])
    (fun a b x y _ _ ra rb => by subst ra rb; exact hn x y)

/-- sequences (of any container kind) whose elements lie in a carrier on which `valCmp` is strict; the carrier may be empty -/
theorem valCmp_strict_seq (ops : FloatOps UInt64) {P Q : Val → Prop}
    (h : StrictCmpOn P (fun a b => norm a = norm b) (valCmp ops))
    (hQ : ∀ a, Q a → ∃ s xs, a = .seq s xs ∧ ∀ x ∈ xs, P x) :
    StrictCmpOn Q (fun a b => norm a = norm b) (valCmp ops) :=
  (lexCmp_strict h).transfer (fun a xs => ∃ s, a = .seq s xs)
    (fun a qa => by obtain ⟨s, xs, e, hx⟩ := hQ a qa; exact ⟨xs, ⟨s, e⟩, hx⟩)
    (by rintro _ _ xs ys - - ⟨s, rfl⟩ ⟨s', rfl⟩; rw [valCmp_seq])
    (by rintro _ _ xs ys - - ⟨s, rfl⟩ ⟨s', rfl⟩
        simp only [norm, Val.seq.injEq, true_and]; exact normList_eq_iff xs ys)

/-- what is asked of the float operations is asked only where a Float can occur -/
theorem valCmp_strict (ops : FloatOps UInt64) :
    ∀ k : Kind, (k.floatFree ∨ StrictCmpOn (fun a => fIsNaN a = false) (fun a b => fkey a = fkey b) (floatCmp ops)) →
      StrictCmpOn (hasKind k) (fun a b => norm a = norm b) (valCmp ops) := by
  intro k
  induction k with
  | int =>
    exact fun _ => valCmp_strict_ctor ops intCmp_strict .int
      (fun _ => hasKind_int) (fun _ _ => trivial)
      (fun _ _ => by rw [valCmp]) (by simp [norm])
  | flt =>
    refine fun hf => hf.elim False.elim fun hflt => ?_
    exact valCmp_strict_ctor ops hflt .flt
      (fun _ h => (hasKind_flt h).imp fun _ => And.left) (fun _ h => h)
      (fun _ _ => by rw [valCmp]) (fun x y => by simp only [norm, Val.flt.injEq]; exact (fkey_eq_iff x y).symm)
  | str =>
    exact fun _ => valCmp_strict_ctor ops bytesCmp_strict .str
      (fun _ => hasKind_str) (fun _ _ => trivial)
      (fun _ _ => by rw [valCmp]) (by simp [norm])
  | typ =>
    exact fun _ => valCmp_strict_ctor ops bytesCmp_strict .typ
      (fun _ => hasKind_typ) (fun _ _ => trivial)
      (fun _ _ => by rw [valCmp]) (by simp [norm])
  | plain t =>
    exact fun _ => valCmp_strict_ctor ops bytesCmp_strict (.plain t)
      (fun _ => hasKind_plain) (fun _ _ => trivial)
      (fun _ _ => by rw [valCmp]) (by simp [norm])
  | seq e ih => exact fun hf => valCmp_strict_seq ops (ih hf) fun _ => hasKind_seq
  | tree k v ihk ihv =>
    exact fun hf => valCmp_strict_ctor ops
      (lexCmp_strict (pairCmp_strict (ihk (hf.imp And.left id)) (ihv (hf.imp And.right id)))) .tree
      (fun _ h => (hasKind_tree h).imp fun _ => And.left) (fun _ h => h)
      (fun _ _ => valCmp_tree ops _ _) (fun x y => by simp only [norm, Val.tree.injEq]; exact normPairs_eq_iff x y)
  | nil =>
    -- the empty sequences are the sequences over the empty carrier
    exact fun _ => valCmp_strict_seq ops (P := fun _ => False)
      ⟨⟨fun _ _ h => h.elim, fun _ _ _ h => h.elim⟩, fun _ _ h => h.elim⟩
      fun a h => by obtain ⟨s, rfl⟩ := hasKind_nil h; exact ⟨s, [], rfl, fun _ hx => absurd hx List.not_mem_nil⟩
  | cons h t ihh iht =>
    refine fun hf => (lexCmp_strict (pairCmp_strict (ihh (hf.imp And.left id)) (iht (hf.imp And.right id)))).comap
      Val.uncons ?_ ?_ ?_
    · intro a ha
      obtain ⟨s, xs, rfl, hx⟩ := hasKind_cons ha
      rcases hx with rfl | ⟨x, xs', rfl, h1, h2⟩
      · exact fun _ hp => absurd hp List.not_mem_nil
      · intro p hp'
        rw [List.mem_singleton.mp hp']; exact ⟨h1, h2⟩
    · intro a b ha hb; refine congrArg sgn ?_
      obtain ⟨s, xs, rfl, _⟩ := hasKind_cons ha; obtain ⟨s', ys, rfl, _⟩ := hasKind_cons hb
      exact valCmp_uncons ops s s' xs ys
    · intro a b ha hb
      obtain ⟨s, xs, rfl, _⟩ := hasKind_cons ha; obtain ⟨s', ys, rfl, _⟩ := hasKind_cons hb
      exact norm_uncons s s' xs ys

end Cello.Cmp
