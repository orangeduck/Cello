/-
  Lemmas for C19 (engine `hdr`), on the model alone: `Facts`, what `Config.Sound` says field by field; the association
  lists behind `St.get`; the invariant `WF` and its preservation by the state transformers of Cello/Hdr.lean.  Last,
  `finalise_succ`: one step of `finalise` as an equation, with which the later files take that step and leave the
  recursive call folded.
-/
import Cello.Hdr

namespace Cello.Hdr

/-- what `Config.Sound` says, field by field -/
structure Facts (cfg : Config) : Prop where
  ne_static_heap : cfg.cStatic ≠ cfg.cHeap
  ne_stack_heap : cfg.cStack ≠ cfg.cHeap
  ne_heap_data : cfg.cHeap ≠ cfg.cData
  ne_static_stack : cfg.cStatic ≠ cfg.cStack
  ne_static_data : cfg.cStatic ≠ cfg.cData
  ne_stack_data : cfg.cStack ≠ cfg.cData
  bAllocBy : cfg.bAllocBy = cfg.cHeap
  bTypeAlloc : cfg.bTypeAlloc = cfg.cHeap
  bStack : cfg.bStack = cfg.cStack
  bStaticObj : cfg.bStaticObj = cfg.cStatic
  bArray : cfg.bArray = cfg.cData
  bList : cfg.bList = cfg.cData
  bTableK : cfg.bTableK = cfg.cData
  bTableV : cfg.bTableV = cfg.cData
  bTreeK : cfg.bTreeK = cfg.cData
  bTreeV : cfg.bTreeV = cfg.cData
  writesType : cfg.writesType = true
  writesAlloc : cfg.writesAlloc = true
  writesMagic : cfg.writesMagic = true
  refStatic : assoc cfg.cStatic cfg.deallocRefused = some "ResourceError"
  refStack : assoc cfg.cStack cfg.deallocRefused = some "ResourceError"
  refData : assoc cfg.cData cfg.deallocRefused = some "ResourceError"
  refHeap : assoc cfg.cHeap cfg.deallocRefused = none
  sDel : cfg.sDel.Protects cfg = true
  sAssign : cfg.sAssign.Protects cfg = true
  sConcat : cfg.sConcat.Protects cfg = true
  sResize : cfg.sResize.Protects cfg = true
  tDel : cfg.tDel.Protects cfg = true
  tAssign : cfg.tAssign.Protects cfg = true
  tPush : cfg.tPush.Protects cfg = true
  tPop : cfg.tPop.Protects cfg = true
  tPushAt : cfg.tPushAt.Protects cfg = true
  tPopAt : cfg.tPopAt.Protects cfg = true
  tConcat : cfg.tConcat.Protects cfg = true
  tResize : cfg.tResize.Protects cfg = true
  regStandard : cfg.regStandard = some false
  regRaw : cfg.regRaw = none
  regRoot : cfg.regRoot = some true
  delViaCollector : cfg.delViaCollector = true
  gcSetOnlyAllocBy : cfg.gcSetOnlyAllocBy = true
  swClear : cfg.swClear = .before
  swFinalises : cfg.swFinalises = true
  swUnlistsFirst : cfg.swUnlistsFirst = true
  remPendClear : cfg.remPendClear = .before
  remPendFinalises : cfg.remPendFinalises = true
  remRegErase : cfg.remRegErase = .before
  boxDelDeletes : cfg.boxDelDeletes = true

theorem facts_of_sound {cfg : Config} (h : cfg.Sound = true) : Facts cfg := by
  simp only [Config.Sound, Bool.and_eq_true, bne_iff_ne, ne_eq, beq_iff_eq, Option.isNone_iff_eq_none] at h
  -- `&&` associates to the left: the 47 conjuncts come nested from the left; no two have the same statement, so the types
  -- check the pairing below
  obtain ⟨⟨⟨⟨⟨⟨⟨⟨⟨⟨⟨⟨⟨⟨⟨⟨⟨⟨⟨⟨⟨⟨⟨⟨⟨⟨⟨⟨⟨⟨⟨⟨⟨⟨⟨⟨⟨⟨⟨⟨⟨⟨⟨⟨⟨⟨
    n1, n2⟩, n3⟩, n4⟩, n5⟩, n6⟩, b1⟩, b2⟩, b3⟩, b4⟩, b5⟩, b6⟩, b7⟩, b8⟩, b9⟩, b10⟩, w1⟩, w2⟩, w3⟩, r1⟩, r2⟩, r3⟩, r4⟩,
    g1⟩, g2⟩, g3⟩, g4⟩, g5⟩, g6⟩, g7⟩, g8⟩, g9⟩, g10⟩, g11⟩, g12⟩, c1⟩, c2⟩, c3⟩, c4⟩, c5⟩, c6⟩, c7⟩, c8⟩, c9⟩, c10⟩,
    c11⟩, c12⟩ := h
  exact ⟨n2, n4, n6, n1, n3, n5, b1, b2, b3, b4, b5, b6, b7, b8, b9, b10, w1, w2, w3, r1, r2, r3, r4, g1, g2, g3, g4,
    g5, g6, g7, g8, g9, g10, g11, g12, c1, c2, c3, c4, c5, c6, c7, c8, c9, c10, c11, c12⟩

theorem Guard.protects_iff {cfg : Config} {g : Guard} :
    g.Protects cfg = true ↔ g.first = true ∧ g.classes.contains cfg.cStack = true ∧ g.classes.contains cfg.cStatic = true ∧
      g.classes.contains cfg.cHeap = false ∧ g.classes.contains cfg.cData = false ∧ g.exc = "ValueError" := by
  simp only [Guard.Protects, Bool.and_eq_true, Bool.not_eq_true', beq_iff_eq]
  constructor
  · rintro ⟨⟨⟨⟨⟨a, b⟩, c⟩, d⟩, e⟩, f⟩; exact ⟨a, b, c, d, e, f⟩
  · rintro ⟨a, b, c, d, e, f⟩; exact ⟨⟨⟨⟨⟨a, b⟩, c⟩, d⟩, e⟩, f⟩

theorem Guard.refuses_of_protects {cfg : Config} {g : Guard} (hp : g.Protects cfg = true) {a : Nat}
    (ha : a = cfg.cStack ∨ a = cfg.cStatic) : g.classes.contains a = true := by
  obtain ⟨_, hstack, hstatic, _⟩ := Guard.protects_iff.mp hp
  rcases ha with rfl | rfl <;> assumption

theorem Guard.exc_of_protects {cfg : Config} {g : Guard} (hp : g.Protects cfg = true) : g.exc = "ValueError" :=
  (Guard.protects_iff.mp hp).2.2.2.2.2

theorem headerInit_eq {cfg : Config} (F : Facts cfg) (ty : Ty) (c : Nat) :
    headerInit cfg ty c = { ty := some ty, alloc := c, magic := cfg.magic } := by
  simp [headerInit, F.writesType, F.writesAlloc, F.writesMagic]

/-- the class each route must give -/
def Route.cls (cfg : Config) : Route → Nat
  | .stack => cfg.cStack
  | .static => cfg.cStatic
  | _ => cfg.cHeap

theorem birthHeader_hdr {cfg : Config} (F : Facts cfg) (s : St) (r : Route) (ty : Ty) :
    (birthHeader cfg s r ty).1 = { ty := some ty, alloc := r.cls cfg, magic := cfg.magic } := by
  cases r <;> simp only [birthHeader, Route.cls, headerInit_eq F, F.bStack]
  all_goals
    split
    · rename_i hty; rw [hty, F.bTypeAlloc]
    · rw [F.bAllocBy]

theorem assoc_mem {β : Type} {k : Nat} {l : List (Nat × β)} {v : β} (h : assoc k l = some v) : (k, v) ∈ l := by
  induction l with
  | nil => simp [assoc] at h
  | cons p r ih =>
    simp only [assoc] at h
    split at h
    · rename_i hk; cases h; cases p; simp_all
    · exact List.mem_cons_of_mem _ (ih h)

theorem assoc_append {β : Type} (k : Nat) (l r : List (Nat × β)) :
    assoc k (l ++ r) = match assoc k l with | some v => some v | none => assoc k r := by
  induction l with
  | nil => simp [assoc]
  | cons p t ih =>
    simp only [List.cons_append, assoc]
    split <;> simp_all

theorem assoc_map_upd {β : Type} (k id : Nat) (g : β → β) (l : List (Nat × β)) :
    assoc k (l.map (fun p => if p.1 = id then (p.1, g p.2) else p)) =
      (assoc k l).map (fun v => if k = id then g v else v) := by
  induction l with
  | nil => simp [assoc]
  | cons p t ih =>
    simp only [List.map_cons, assoc]
    by_cases hp : p.1 = id
    · simp only [hp, if_true]
      by_cases hk : id = k
      · simp [hk]
      · simp only [hk, if_false, ih]
    · simp only [hp, if_false]
      by_cases hk : p.1 = k
      · subst hk; simp [hp]
      · simp only [hk, if_false, ih]

theorem assoc_none_not_mem {β : Type} {k : Nat} {l : List (Nat × β)} (h : assoc k l = none) : k ∉ l.map (·.1) := by
  induction l with
  | nil => simp
  | cons p r ih =>
    simp only [assoc] at h
    split at h
    · cases h
    · rename_i hk
      simp only [List.map_cons, List.mem_cons, not_or]
      exact ⟨fun e => hk e.symm, ih h⟩

theorem assoc_of_mem_nodup {β : Type} {k : Nat} {v : β} {l : List (Nat × β)} (hn : (l.map (·.1)).Nodup) (hm : (k, v) ∈ l) :
    assoc k l = some v := by
  induction l with
  | nil => cases hm
  | cons p r ih =>
    simp only [List.map_cons, List.nodup_cons] at hn
    simp only [List.mem_cons] at hm
    simp only [assoc]
    rcases hm with hm | hm
    · subst hm; simp
    · have hne : p.1 ≠ k := by
        intro e; apply hn.1; rw [e]; exact List.mem_map.mpr ⟨(k, v), hm, rfl⟩
      simp [hne, ih hn.2 hm]

theorem map_fst_upd {β : Type} (id : Nat) (g : β → β) (l : List (Nat × β)) :
    (l.map (fun p => if p.1 = id then (p.1, g p.2) else p)).map (·.1) = l.map (·.1) := by
  induction l with
  | nil => rfl
  | cons p r ih => simp only [List.map_cons, ih]; split <;> rfl

/-- the header every embedded object must carry -/
def dataHdr (cfg : Config) (ty : Ty) : Header := { ty := some ty, alloc := cfg.cData, magic := cfg.magic }

/-- every element / key / value of a container body carries the declared type, class `data` and the magic number -/
def BodyOK (cfg : Config) : Body → Prop
  | .seq _ ety es => ∀ e ∈ es, e.hdr = dataHdr cfg ety
  | .map _ kty vty ents => ∀ p ∈ ents, p.1.hdr = dataHdr cfg kty ∧ p.2.hdr = dataHdr cfg vty
  | _ => True

structure WF (cfg : Config) (s : St) : Prop where
  bodies : ∀ p ∈ s.objs, BodyOK cfg p.2.body
  reg : ∀ p ∈ s.reg, ∃ o, s.get p.1 = some o ∧ o.hdr.alloc = cfg.cHeap ∧ o.live = true
  freed : ∀ id ∈ s.freed, ∃ o, s.get id = some o ∧ o.hdr.alloc = cfg.cHeap ∧ o.live = false
  once : s.freed.Nodup
  keys : (s.objs.map (·.1)).Nodup

theorem wf_init (cfg : Config) : WF cfg St.init := by
  constructor <;> simp [St.init, St.get, assoc]

/-- with distinct handles, the entry found by `get` is the only one with that handle -/
theorem get_of_mem {cfg : Config} {s : St} (h : WF cfg s) {p : Nat × Obj} (hp : p ∈ s.objs) : s.get p.1 = some p.2 :=
  assoc_of_mem_nodup h.keys (by cases p; exact hp)

theorem bodyOK_of_get {cfg : Config} {s : St} (h : WF cfg s) {id : Nat} {o : Obj} (hget : s.get id = some o) : BodyOK cfg o.body :=
  h.bodies (id, o) (assoc_mem hget)

theorem isLive_of_get {s : St} {k : Nat} {o : Obj} (h : s.get k = some o) : s.isLive k = o.live := by
  simp [St.isLive, h]

theorem get_updBody (s : St) (id k : Nat) (f : Body → Body) :
    (s.updBody id f).get k = (s.get k).map (fun o => if k = id then { o with body := f o.body } else o) := by
  simp only [St.get, St.updBody]
  exact assoc_map_upd k id (fun o => { o with body := f o.body }) s.objs

theorem get_updBody_other {s : St} {id k : Nat} (f : Body → Body) (hk : k ≠ id) : (s.updBody id f).get k = s.get k := by
  rw [get_updBody]; cases s.get k <;> simp [hk]

theorem get_release (s : St) (id k : Nat) :
    (s.release id).get k = (s.get k).map (fun o => if k = id then { o with live := false } else o) := by
  simp only [St.get, St.release]
  exact assoc_map_upd k id (fun o => { o with live := false }) s.objs

theorem dealloc_state (cfg : Config) (s : St) (id : Nat) (o : Obj) :
    (dealloc cfg s id o).1 = s ∨ (o.hdr.alloc = cfg.cHeap ∧ (dealloc cfg s id o).1 = s.release id) := by
  unfold dealloc
  split
  · exact Or.inl rfl
  · split
    · rename_i hheap; exact Or.inr ⟨hheap, rfl⟩
    · exact Or.inl rfl

theorem pending_dealloc {cfg : Config} (s : St) (id : Nat) (o : Obj) : (dealloc cfg s id o).1.pending = s.pending := by
  rcases dealloc_state cfg s id o with e | ⟨_, e⟩ <;> rw [e] <;> rfl

variable {cfg : Config} in
theorem get_dealloc_other {s : St} {id k : Nat} {o : Obj} (hk : k ≠ id) : (dealloc cfg s id o).1.get k = s.get k := by
  rcases dealloc_state cfg s id o with e | ⟨_, e⟩ <;> rw [e]
  rw [get_release]; cases s.get k <;> simp [hk]

theorem get_birth (cfg : Config) (s : St) (id k : Nat) (r : Route) (ty : Ty) (b : Body) (hfresh : s.get id = none) :
    (s.birth cfg id r ty b).get k =
      if k = id then some { hdr := (birthHeader cfg s r ty).1, cap := (birthHeader cfg s r ty).2, body := b, live := true }
      else s.get k := by
  simp only [St.get, St.birth] at *
  rw [assoc_append]
  by_cases hk : k = id
  · subst hk; simp [hfresh, assoc]
  · cases h : assoc k s.objs with
    | some v => simp [hk]
    | none => simp [assoc, hk, Ne.symm hk]

theorem get_birth_self {cfg : Config} (F : Facts cfg) (s : St) (id : Nat) (r : Route) (ty : Ty) (b : Body) (hfresh : s.get id = none) :
    ∃ cap, (s.birth cfg id r ty b).get id =
      some { hdr := { ty := some ty, alloc := r.cls cfg, magic := cfg.magic }, cap := cap, body := b, live := true } :=
  ⟨_, by rw [get_birth cfg s id id r ty b hfresh, if_pos rfl, birthHeader_hdr F]⟩

theorem wf_updBody {cfg : Config} {s : St} (h : WF cfg s) (id : Nat) (f : Body → Body)
    (hf : ∀ p ∈ s.objs, p.1 = id → BodyOK cfg (f p.2.body)) : WF cfg (s.updBody id f) := by
  constructor
  · intro p hp
    simp only [St.updBody, List.mem_map] at hp
    obtain ⟨q, hq, rfl⟩ := hp
    by_cases hk : q.1 = id
    · simp only [hk, if_true]; exact hf q hq hk
    · simp only [hk, if_false]; exact h.bodies q hq
  · intro p hp
    obtain ⟨o, ho, ha, hl⟩ := h.reg p hp
    rw [get_updBody, ho]
    by_cases hk : p.1 = id <;> simp [hk, ha, hl]
  · intro k hk
    obtain ⟨o, ho, ha, hl⟩ := h.freed k hk
    rw [get_updBody, ho]
    by_cases hk' : k = id <;> simp [hk', ha, hl]
  · exact h.once
  · simp only [St.updBody]
    rw [map_fst_upd id (fun o => { o with body := f o.body }) s.objs]; exact h.keys

theorem wf_unreg {cfg : Config} {s : St} (h : WF cfg s) (id : Nat) : WF cfg (s.unreg id) := by
  constructor
  · exact h.bodies
  · intro p hp
    simp only [St.unreg, List.mem_filter] at hp
    exact h.reg p hp.1
  · exact h.freed
  · exact h.once
  · exact h.keys

theorem not_reg_unreg (s : St) (id : Nat) : ∀ p ∈ (s.unreg id).reg, p.1 ≠ id := by
  intro p hp
  simp only [St.unreg, List.mem_filter, bne_iff_ne] at hp
  exact hp.2

theorem isReg_false {s : St} {id : Nat} (h : s.isReg id = false) : ∀ p ∈ s.reg, p.1 ≠ id := by
  intro p hp heq
  have : s.isReg id = true := by
    simp only [St.isReg, List.any_eq_true]
    exact ⟨p, hp, by simp [heq]⟩
  simp [h] at this

theorem isReg_true {s : St} {id : Nat} (h : s.isReg id = true) : ∃ p ∈ s.reg, p.1 = id := by
  simp only [St.isReg, List.any_eq_true, beq_iff_eq] at h
  exact h

theorem not_freed_of_live {cfg : Config} {s : St} (h : WF cfg s) {id : Nat} {o : Obj} (hget : s.get id = some o)
    (hlive : o.live = true) : id ∉ s.freed := by
  intro hin
  obtain ⟨o', ho', _, hl'⟩ := h.freed id hin
  rw [hget] at ho'; cases ho'; simp [hlive] at hl'

theorem not_freed_of_reg {cfg : Config} {s : St} (h : WF cfg s) {p : Nat × Bool} (hp : p ∈ s.reg) : p.1 ∉ s.freed := by
  obtain ⟨o, hg, _, hl⟩ := h.reg p hp
  exact not_freed_of_live h hg hl

theorem isReg_false_of_freed {cfg : Config} {s : St} (h : WF cfg s) {id : Nat} (hid : id ∈ s.freed) : s.isReg id = false := by
  cases hr : s.isReg id with
  | false => rfl
  | true =>
    obtain ⟨p, hp, rfl⟩ := isReg_true hr
    exact absurd hid (not_freed_of_reg h hp)

theorem isReg_false_of_nonheap {cfg : Config} {s : St} (hw : WF cfg s) {id : Nat} {o : Obj} (hget : s.get id = some o)
    (hnh : o.hdr.alloc ≠ cfg.cHeap) : s.isReg id = false := by
  cases hr : s.isReg id with
  | false => rfl
  | true =>
    obtain ⟨p, hp, rfl⟩ := isReg_true hr
    obtain ⟨o1, hget1, hheap, _⟩ := hw.reg p hp
    rw [hget] at hget1; cases hget1; exact absurd hheap hnh

theorem wf_release {cfg : Config} {s : St} (h : WF cfg s) (id : Nat) (o : Obj)
    (hreg : ∀ p ∈ s.reg, p.1 ≠ id) (hget : s.get id = some o) (hheap : o.hdr.alloc = cfg.cHeap) (hlive : o.live = true) :
    WF cfg (s.release id) := by
  have hnot : id ∉ s.freed := not_freed_of_live h hget hlive
  constructor
  · intro p hp
    simp only [St.release, List.mem_map] at hp
    obtain ⟨q, hq, rfl⟩ := hp
    split <;> exact h.bodies q hq
  · intro p hp
    have hp' : p ∈ s.reg := hp
    obtain ⟨o', ho', ha, hl⟩ := h.reg p hp'
    rw [get_release, ho']
    have := hreg p hp'
    simp [this, ha, hl]
  · intro k hk
    simp only [St.release, List.mem_append, List.mem_singleton] at hk
    rw [get_release]
    rcases hk with hk | hk
    · obtain ⟨o', ho', ha, hl⟩ := h.freed k hk
      rw [ho']
      by_cases hk' : k = id <;> simp [hk', ha, hl]
    · subst hk; rw [hget]; simp [hheap]
  · simp only [St.release]
    rw [List.nodup_append]
    refine ⟨h.once, by simp, ?_⟩
    intro a ha b hb
    simp only [List.mem_singleton] at hb
    subst hb
    intro heq; subst heq; exact hnot ha
  · simp only [St.release]
    rw [map_fst_upd id (fun o => { o with live := false }) s.objs]; exact h.keys

/-- `dealloc` of an unregistered live object, called with any object that has its header (the destructed object) -/
theorem wf_dealloc {cfg : Config} {s : St} (h : WF cfg s) {id : Nat} {o o' : Obj} (hget : s.get id = some o)
    (hh : o'.hdr = o.hdr) (hlive : o.live = true) (hnreg : ∀ p ∈ s.reg, p.1 ≠ id) : WF cfg (dealloc cfg s id o').1 := by
  rcases dealloc_state cfg s id o' with e | ⟨hheap, e⟩ <;> rw [e]
  · exact h
  · exact wf_release h id o hnreg hget (hh ▸ hheap) hlive

/-- the end of `dealloc(destruct(id))`: the destructed body is stored, then `dealloc` sees the object -/
theorem wf_store_dealloc {cfg : Config} {s : St} (h : WF cfg s) {id : Nat} {o o' : Obj} (hget : s.get id = some o)
    (hh : o'.hdr = o.hdr) (hlive : o.live = true) (hnreg : ∀ p ∈ s.reg, p.1 ≠ id) (b : Body) (hb : BodyOK cfg b) :
    WF cfg (dealloc cfg (s.updBody id (fun _ => b)) id o').1 :=
  wf_dealloc (wf_updBody h id _ (fun _ _ _ => hb)) (o := { o with body := b }) (by rw [get_updBody, hget]; simp) hh hlive hnreg

theorem wf_addObj {cfg : Config} {s : St} (h : WF cfg s) (id : Nat) (o : Obj) (hfresh : s.get id = none) (hb : BodyOK cfg o.body) :
    WF cfg { s with objs := s.objs ++ [(id, o)] } := by
  have hother : ∀ k o', s.get k = some o' → St.get { s with objs := s.objs ++ [(id, o)] } k = some o' := by
    intro k o' hk
    simp only [St.get] at *
    rw [assoc_append, hk]
  constructor
  · intro p hp
    simp only [List.mem_append, List.mem_singleton] at hp
    rcases hp with hp | hp
    · exact h.bodies p hp
    · subst hp; exact hb
  · intro p hp
    obtain ⟨o', ho', ha, hl⟩ := h.reg p hp
    exact ⟨o', hother _ _ ho', ha, hl⟩
  · intro k hk
    obtain ⟨o', ho', ha, hl⟩ := h.freed k hk
    exact ⟨o', hother _ _ ho', ha, hl⟩
  · exact h.once
  · simp only [List.map_append, List.map_cons, List.map_nil]
    rw [List.nodup_append]
    refine ⟨h.keys, by simp, ?_⟩
    intro a ha b' hb'
    simp only [List.mem_singleton] at hb'
    subst hb'
    intro heq; subst heq
    exact assoc_none_not_mem hfresh ha

theorem wf_birth {cfg : Config} {s : St} (h : WF cfg s) (id : Nat) (r : Route) (ty : Ty) (b : Body)
    (hfresh : s.get id = none) (hb : BodyOK cfg b)
    (hheap : ∀ root, r.registers cfg = some root → (birthHeader cfg s r ty).1.alloc = cfg.cHeap) :
    WF cfg (s.birth cfg id r ty b) := by
  have h1 := wf_addObj h id { hdr := (birthHeader cfg s r ty).1, cap := (birthHeader cfg s r ty).2, body := b, live := true }
    hfresh hb
  refine ⟨h1.bodies, ?_, h1.freed, h1.once, h1.keys⟩
  intro p hp
  simp only [St.birth] at hp
  cases hr : r.registers cfg with
  | none => rw [hr] at hp; exact h1.reg p hp
  | some root =>
    rw [hr] at hp
    rcases List.mem_append.mp hp with hp | hp
    · exact h1.reg p hp
    · cases List.mem_singleton.mp hp
      exact ⟨_, by rw [get_birth cfg s id id r ty b hfresh, if_pos rfl], hheap root hr, rfl⟩

theorem finalise_succ (fuel : Nat) (cfg : Config) (s : St) (id : Nat) :
    finalise (fuel + 1) cfg s id =
      match s.get id with
      | none => (s, .ub)
      | some o =>
        if !o.live then (s, .ub) else
        match o.body with
        | .box (some x) =>
          if cfg.boxDelDeletes then
            (match gcRem (finalise fuel cfg) cfg s x with
             | (s1, .ok) =>
               if s1.isLive id then dealloc cfg (s1.updBody id (fun _ => .box none)) id { o with body := .box none }
               else (s1, .ub)
             | r => r)
          else dealloc cfg (s.updBody id (fun _ => .box none)) id { o with body := .box none }
        | _ =>
          let (b, out) := destructBody cfg o.hdr o.body
          match out with
          | .ok => dealloc cfg (s.updBody id (fun _ => b)) id { o with body := b }
          | other => (s, other) := by
  rfl

end Cello.Hdr
