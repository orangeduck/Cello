/- Every composition of views, to any nesting depth, for C11: induction over the expression language that the driver and the harness
   interpret, PER DIRECTION.  `defOf e` is the sequence the definitions select, `dirOf e` says for which walks (forward / backward)
   the C code is right and whether the object absorbs a Terminal cursor -/
import Cello.IterExpr
import CelloProofs.Lemmas.IterContainers
import CelloProofs.Lemmas.IterTree
import CelloProofs.Lemmas.IterViews
import CelloProofs.Lemmas.IterSlice
import CelloProofs.Lemmas.IterMutListOps
import CelloProofs.Lemmas.IterMutLawful
import CelloProofs.Lemmas.IterMutArray
import CelloProofs.Lemmas.IterMutKeyed

namespace Cello.Iter

instance (n a b c : Int) : Decidable (SliceRegionFwd n a b c) := by unfold SliceRegionFwd; infer_instance
instance (n a b c : Int) : Decidable (SliceRegionBwd n a b c) := by unfold SliceRegionBwd; infer_instance
instance (n a b c : Int) : Decidable (SliceRegionFwdAbs n a b c) := by unfold SliceRegionFwdAbs; infer_instance
instance (n a b c : Int) : Decidable (SliceRegionBwdAbs n a b c) := by unfold SliceRegionBwdAbs; infer_instance

mutual
/-- does the object denoted by `e` implement Len -/
def Expr.hasLen : Expr → Bool
  | .filter _ _ _ => false
  | .map e _ _ => e.hasLen
  | .zip es => Expr.hasLenList es
  | .enum e => e.hasLen
  | _ => true
def Expr.hasLenList : List Expr → Bool
  | [] => true
  | e :: es => e.hasLen && Expr.hasLenList es
end

/-- all the lists have the length of the first -/
def sameLength (ls : List (List Val)) : Bool :=
  match ls with
  | [] => true
  | l :: ls => ls.all (fun x => x.length == l.length)

/-- the backward walk of a Zip over inputs with these sequences is right: equal lengths, or one input empty (then
    Zip_Iter_Last answers Terminal at once) -/
def zipBwdOk : Option (List (List Val)) → Bool
  | some ls => sameLength ls || ls.any List.isEmpty
  | none => false

/-- `no`: nothing (known-finding territory); `run`: the walk yields the defined sequence and then Terminal; `abs`: … and
    the object answers Terminal again whenever Terminal is handed back to it as a cursor -/
inductive Lvl where
  | no | run | abs
deriving DecidableEq, Repr

def Lvl.ok : Lvl → Bool
  | .no => false
  | _ => true

/-- Zip (hence enumerate) does not absorb: Zip_Iter_Next calls `get(Terminal, i)` -/
def Lvl.cap : Lvl → Lvl
  | .abs => .run
  | x => x

/-- what the forward walk of `I` over `l` owes at a level; `BwdAt`: the backward walk -/
def FwdAt {α : Type} (I : Iterable α) (l : List α) : Lvl → Prop
  | .no => True
  | .run => FwdAs I l
  | .abs => AbsFwdAs I l
def BwdAt {α : Type} (I : Iterable α) (l : List α) : Lvl → Prop
  | .no => True
  | .run => BwdAs I l
  | .abs => AbsBwdAs I l

theorem FwdAt.fwd {α : Type} {I : Iterable α} {l : List α} {lv : Lvl} (h : FwdAt I l lv) (hok : lv.ok = true) : FwdAs I l := by
  cases lv with
  | no => simp [Lvl.ok] at hok
  | run => exact h
  | abs => exact h.1
theorem BwdAt.bwd {α : Type} {I : Iterable α} {l : List α} {lv : Lvl} (h : BwdAt I l lv) (hok : lv.ok = true) : BwdAs I l := by
  cases lv with
  | no => simp [Lvl.ok] at hok
  | run => exact h
  | abs => exact h.1

section
variable {α β : Type} {I : Iterable α} {J : Iterable β} {l : List α} {m : List β}

theorem FwdAt.imp (hr : FwdAs I l → FwdAs J m) (ha : AbsFwdAs I l → AbsFwdAs J m) : ∀ {lv : Lvl}, FwdAt I l lv → FwdAt J m lv
  | .no, _ => trivial
  | .run, h => hr h
  | .abs, h => ha h
theorem BwdAt.imp (hr : BwdAs I l → BwdAs J m) (ha : AbsBwdAs I l → AbsBwdAs J m) : ∀ {lv : Lvl}, BwdAt I l lv → BwdAt J m lv
  | .no, _ => trivial
  | .run, h => hr h
  | .abs, h => ha h

/-- what every right walk of `I` gives holds at the capped level -/
theorem FwdAt.cap (hr : FwdAs I l → FwdAs J m) : ∀ {lv : Lvl}, FwdAt I l lv → FwdAt J m lv.cap
  | .no, _ => trivial
  | .run, h => hr h
  | .abs, h => hr h.1
theorem BwdAt.cap (hr : BwdAs I l → BwdAs J m) : ∀ {lv : Lvl}, BwdAt I l lv → BwdAt J m lv.cap
  | .no, _ => trivial
  | .run, h => hr h
  | .abs, h => hr h.1
end

theorem emb_fwdAt {α β : Type} (I : Iterable α) (f : α → β) {l : List α} {lv : Lvl} (h : FwdAt I l lv) :
    FwdAt (embI I f) (l.map f) lv :=
  h.imp (emb_fwdAs I f) (emb_absFwd I f)
theorem emb_bwdAt {α β : Type} (I : Iterable α) (f : α → β) {l : List α} {lv : Lvl} (h : BwdAt I l lv) :
    BwdAt (embI I f) (l.map f) lv :=
  h.imp (emb_bwdAs I f) (emb_absBwd I f)

/-- forward walk of `slice(x, a, b, c)` (parameters clamped; `n = len x`): step 0 is Terminal at once; over an absorbing `x`
    the walk is right (and absorbing) in the region `SliceRegionFwdAbs`; over an `x` that does not take Terminal as a cursor
    it is right only where the stride lands exactly on Terminal, `SliceRegionFwd`.  A positive step walks `x` forwards, a
    negative step backwards. -/
def sliceLvlFwd (n a b c : Int) (uf ub : Lvl) : Lvl :=
  if c = 0 then .abs else
  let u := if c > 0 then uf else ub
  if u = .abs ∧ SliceRegionFwdAbs n a b c then .abs
  else if u.ok = true ∧ SliceRegionFwd n a b c then .run else .no

def sliceLvlBwd (n a b c : Int) (uf ub : Lvl) : Lvl :=
  if c = 0 then .abs else
  let u := if c > 0 then ub else uf
  if u = .abs ∧ SliceRegionBwdAbs n a b c then .abs
  else if u.ok = true ∧ SliceRegionBwd n a b c then .run else .no

/-- a level computed by the three guards of `sliceLvlFwd` / `sliceLvlBwd` is met as soon as each guard gives its own level -/
theorem Lvl.at_guards {X : Lvl → Prop} (hno : X .no) {p q r : Prop} [Decidable p] [Decidable q] [Decidable r]
    (h0 : p → X .abs) (h1 : ¬ p → q → X .abs) (h2 : ¬ p → r → X .run) :
    X (if p then .abs else if q then .abs else if r then .run else .no) := by
  by_cases hp : p
  · rw [if_pos hp]; exact h0 hp
  · rw [if_neg hp]
    by_cases hq : q
    · rw [if_pos hq]; exact h1 hp hq
    · rw [if_neg hq]
      by_cases hr : r
      · rw [if_pos hr]; exact h2 hp hr
      · rw [if_neg hr]; exact hno

theorem slice_fwdAt {α : Type} (I : Iterable α) {l : List α} (A B : Nat) (c : Int) (uf ub : Lvl)
    (hf : FwdAt I l uf) (hb : BwdAt I l ub) (hA : A ≤ l.length) (hB : B ≤ l.length) :
    FwdAt (sliceI I l.length A B c) (sliceSpec l A B c) (sliceLvlFwd l.length A B c uf ub) := by
  unfold sliceLvlFwd
  refine Lvl.at_guards (X := FwdAt _ _) trivial (fun hc => ?_) (fun hc h1 => ?_) (fun hc h2 => ?_)
  · subst hc; exact (slice_abs_zero I l A B).1
  · refine slice_absFwd I (fun hc' => ?_) (fun hc' => ?_) A B hA hB h1.2
    · have e := h1.1; rw [if_pos hc'] at e; subst e; exact hf
    · have e := h1.1; rw [if_neg (by omega)] at e; subst e; exact hb
  · refine slice_fwdAs I (fun hc' => ?_) (fun hc' => ?_) A B hA hB h2.2
    · have e := h2.1; rw [if_pos hc'] at e; exact hf.fwd e
    · have e := h2.1; rw [if_neg (by omega)] at e; exact hb.bwd e

theorem slice_bwdAt {α : Type} (I : Iterable α) {l : List α} (A B : Nat) (c : Int) (uf ub : Lvl)
    (hf : FwdAt I l uf) (hb : BwdAt I l ub) (hA : A ≤ l.length) (hB : B ≤ l.length) :
    BwdAt (sliceI I l.length A B c) (sliceSpec l A B c) (sliceLvlBwd l.length A B c uf ub) := by
  unfold sliceLvlBwd
  refine Lvl.at_guards (X := BwdAt _ _) trivial (fun hc => ?_) (fun hc h1 => ?_) (fun hc h2 => ?_)
  · subst hc; exact (slice_abs_zero I l A B).2
  · refine slice_absBwd I (fun hc' => ?_) (fun hc' => ?_) A B hA hB h1.2
    · have e := h1.1; rw [if_pos hc'] at e; subst e; exact hb
    · have e := h1.1; rw [if_neg (by omega)] at e; subst e; exact hf
  · refine slice_bwdAs I (fun hc' => ?_) (fun hc' => ?_) A B hA hB h2.2
    · have e := h2.1; rw [if_pos hc'] at e; exact hb.bwd e
    · have e := h2.1; rw [if_neg (by omega)] at e; exact hf.fwd e

theorem sliceArg_bounds (n : Nat) (x : Int) : 0 ≤ sliceArg n x ∧ sliceArg n x ≤ n := by
  simp only [sliceArg]
  omega

theorem sliceArg_opt_bounds (n : Nat) (x : Option Int) (d : Int) (hd : 0 ≤ d ∧ d ≤ n) :
    0 ≤ (x.map (sliceArg n)).getD d ∧ (x.map (sliceArg n)).getD d ≤ n := by
  cases x with
  | none => exact hd
  | some v => exact sliceArg_bounds n v

theorem sliceStack_bounds (n : Nat) (args : List (Option Int)) (a b c : Int) (h : sliceStack n args = some (a, b, c)) :
    0 ≤ a ∧ a ≤ n ∧ 0 ≤ b ∧ b ≤ n := by
  have h0 : (0 : Int) ≤ 0 ∧ (0 : Int) ≤ n := ⟨Int.le_refl 0, Int.natCast_nonneg n⟩
  have hn : (0 : Int) ≤ n ∧ (n : Int) ≤ n := ⟨h0.2, Int.le_refl _⟩
  match args, h with
  | [], h => cases h; exact ⟨h0.1, h0.2, hn⟩
  | [x], h => cases h; exact ⟨h0.1, h0.2, sliceArg_opt_bounds n x n hn⟩
  | [x, y], h => cases h; exact ⟨(sliceArg_opt_bounds n x 0 h0).1, (sliceArg_opt_bounds n x 0 h0).2, sliceArg_opt_bounds n y n hn⟩
  | [x, y, z], h => cases h; exact ⟨(sliceArg_opt_bounds n x 0 h0).1, (sliceArg_opt_bounds n x 0 h0).2, sliceArg_opt_bounds n y n hn⟩
  | _ :: _ :: _ :: _ :: _, h => cases h

mutual
/-- the sequence that the DEFINITION of an expression selects — defined whenever the object can be constructed (also in
    known-finding territory: a Tuple with a repeated object, any Slice, a Zip of unequal inputs), except for `zip()` of no
    inputs, whose `get` answers the empty tuple at every index (`zip_nil_get`) -/
def defOf : Expr → Option (List Val)
  | .array vs => some (vs.map Val.int)
  | .list vs => some (vs.map Val.int)
  | .tuple ids => some (ids.map (fun (i : Nat) => Val.int (i : Int)))
  | .table slots => some (occupied (slots.map (fun o => o.map Val.int)))
  | .tree t => some (t.inorder.map Val.int)
  | .rtree ks => some ((ks.foldl T.insert .nil).inorder.map Val.int)
  | .range args => match rangeStack args with
    | some (a, b, c) => some ((rangeList a b c).map Val.int)
    | none => none
  | .slice e args => match defOf e with
    | some l =>
      if e.hasLen then
        match sliceStack l.length args with
        | some (a, b, c) => some (sliceSpec l a b c)
        | none => none
      else none
    | none => none
  | .zip es => match defOfList es with
    | some ls => if es ≠ [] then some ((zipLists ls).map Val.tup) else none
    | none => none
  | .enum e => match defOf e with
    | some l => if e.hasLen then some ((enumSpec Val.int l).map Val.tup) else none
    | none => none
  | .filter e m r => match defOf e with
    | some l => some (l.filter (testPred m r))
    | none => none
  | .map e a b => match defOf e with
    | some l => some (l.map (testFun a b))
    | none => none
  -- containers MUTATED before they are iterated: the sequence that the documented meaning of the history leaves
  -- (List, Array: `LL.specRun` / `AR.specRun`); Table: the keys in the slots of the table the model of Table.c builds, in
  -- slot order (a permutation of the keys of the finite map: `C11_table_mutated_lawful`); Tree: the in-order sequence
  | .mlist init ops => some ((LL.specRun 0 init ops).1.map Val.int)
  | .marray init ops => some ((AR.specRun init ops).1.map Val.int)
  | .mtable init ops => match mtableOf init ops with
    | some t => some ((occupied (tabSlots t)).map Val.int)
    | none => none
  | .mtree init ops => some ((mtreeOf init ops).root.inorder.map Val.int)
def defOfList : List Expr → Option (List (List Val))
  | [] => some []
  | e :: es => match defOf e, defOfList es with
    | some l, some ls => some (l :: ls)
    | _, _ => none
end

mutual
/-- (level of the forward walk, level of the backward walk) of the object `denote e` -/
def dirOf : Expr → Lvl × Lvl
  | .tuple ids => if ids.Nodup then (.abs, .abs) else (.no, .no)                 -- F13 otherwise
  | .range _ => (.abs, .abs)
  | .slice e args => match defOf e with
    | some l => match sliceStack l.length args with
      | some (a, b, c) => (sliceLvlFwd l.length a b c (dirOf e).1 (dirOf e).2, sliceLvlBwd l.length a b c (dirOf e).1 (dirOf e).2)
      | none => (.no, .no)
    | none => (.no, .no)
  | .zip es => (if allFwd es then .run else .no,
                if allBwd es && zipBwdOk (defOfList es) then .run else .no)   -- F12 otherwise
  | .enum e => ((dirOf e).1.cap, (dirOf e).2.cap)
  | .filter e _ _ => match defOf e with
    | some l => if l.length < filterFuel then dirOf e else (.no, .no)
    | none => (.no, .no)
  | .map e _ _ => dirOf e
  | _ => (.run, .run)
def allFwd : List Expr → Bool
  | [] => true
  | e :: es => (dirOf e).1.ok && allFwd es
def allBwd : List Expr → Bool
  | [] => true
  | e :: es => (dirOf e).2.ok && allBwd es
end

/-- the sequence foreach is PROVED to yield: defined wherever the forward walk is right -/
def specFwd (e : Expr) : Option (List Val) := if (dirOf e).1.ok then defOf e else none
/-- … the backward walk (its reverse) -/
def specBwd (e : Expr) : Option (List Val) := if (dirOf e).2.ok then defOf e else none
/-- … both -/
def specOf (e : Expr) : Option (List Val) := if (dirOf e).1.ok ∧ (dirOf e).2.ok then defOf e else none

theorem mlistOf_spec (init : List Int) (ops : List (SOp Int)) :
    ∃ l xs, mlistOf init ops = some l ∧ LL.Chain l xs ∧ LL.vals xs = (LL.specRun 0 init ops).1 := by
  obtain ⟨l0, l, xs, e0, e, c, v⟩ := LL.new_run_chain 0 init ops
  refine ⟨l, xs, ?_, c, v⟩
  simp only [mlistOf, e0, e, LL.specRun_no_undef]
  rfl

theorem marrayOf_spec (init : List Int) (ops : List (SOp Int)) :
    ∃ a, marrayOf init ops = some a ∧ AR.Holds a (AR.specRun init ops).1 := by
  obtain ⟨a0, a, e0, e, c⟩ := AR.new_run_holds init ops
  refine ⟨a, ?_, c⟩
  simp only [marrayOf, e0, e, AR.specRun_no_undef]
  rfl

theorem mtableOf_spec (init : List Int) (ops : List KOp) :
    ∃ t, mtableOf init ops = some t ∧ Cello.Table.Rep intHash t (keyedRun [] (init.map KOp.set ++ ops)).1 := by
  obtain ⟨t, e, r⟩ := tabRun_rep (init.map KOp.set ++ ops) (Cello.Table.new tabCfg) []
    (Cello.Table.new_rep tabCfg tabCfg_good intHash)
  refine ⟨t, ?_, r⟩
  simp only [mtableOf, e, keyedRun_no_undef]
  rfl

theorem mtreeOf_count (init : List Int) (ops : List KOp) :
    (mtreeOf init ops).nitems = (mtreeOf init ops).root.size :=
  treeRun_count _ ⟨.nil, 0⟩ rfl

theorem sameLength_spec : ∀ (ls : List (List Val)), sameLength ls = true → ∃ n, ∀ l ∈ ls, l.length = n := by
  intro ls h
  cases ls with
  | nil => exact ⟨0, by simp⟩
  | cons l ls =>
    refine ⟨l.length, ?_⟩
    intro x hx
    simp only [sameLength, List.all_eq_true, beq_iff_eq] at h
    simp only [List.mem_cons] at hx
    rcases hx with rfl | hx
    · rfl
    · exact h x hx

/-- what `zipBwdOk` tests is the hypothesis of `zipLists_map_reverse` -/
theorem zipBwdOk_spec {ls : List (List Val)} (h : zipBwdOk (some ls) = true) :
    (∃ n, ∀ l ∈ ls, l.length = n) ∨ (∃ l ∈ ls, l = []) := by
  simp only [zipBwdOk, Bool.or_eq_true] at h
  rcases h with hsame | hemp
  · exact Or.inl (sameLength_spec ls hsame)
  · obtain ⟨l, hl, he⟩ := List.any_eq_true.mp hemp
    exact Or.inr ⟨l, hl, List.isEmpty_iff.mp he⟩

/- `defOf` read backwards, one view constructor at a time (`defOf_range` … `defOfList_cons`): a defined sequence fixes the sequences of
   the parts and the side conditions under which the definition exists -/
theorem defOf_range {args : List (Option Int)} {l : List Val} (h : defOf (.range args) = some l) :
    ∃ a b c, rangeStack args = some (a, b, c) ∧ l = (rangeList a b c).map Val.int := by
  unfold defOf at h
  split at h
  · exact ⟨_, _, _, ‹_›, (Option.some.inj h).symm⟩
  · cases h

theorem defOf_slice {e : Expr} {args : List (Option Int)} {l : List Val} (h : defOf (.slice e args) = some l) :
    ∃ l0 a b c, defOf e = some l0 ∧ e.hasLen = true ∧ sliceStack l0.length args = some (a, b, c) ∧ l = sliceSpec l0 a b c := by
  unfold defOf at h
  split at h
  · split at h
    · split at h
      · exact ⟨_, _, _, _, ‹_›, ‹_›, ‹_›, (Option.some.inj h).symm⟩
      · cases h
    · cases h
  · cases h

theorem defOf_zip {es : List Expr} {l : List Val} (h : defOf (.zip es) = some l) :
    ∃ ls, defOfList es = some ls ∧ es ≠ [] ∧ l = (zipLists ls).map Val.tup := by
  unfold defOf at h
  split at h
  · split at h
    · exact ⟨_, ‹_›, ‹_›, (Option.some.inj h).symm⟩
    · cases h
  · cases h

theorem defOf_enum {e : Expr} {l : List Val} (h : defOf (.enum e) = some l) :
    ∃ l0, defOf e = some l0 ∧ e.hasLen = true ∧ l = (enumSpec Val.int l0).map Val.tup := by
  unfold defOf at h
  split at h
  · split at h
    · exact ⟨_, ‹_›, ‹_›, (Option.some.inj h).symm⟩
    · cases h
  · cases h

theorem defOf_filter {e : Expr} {m r : Int} {l : List Val} (h : defOf (.filter e m r) = some l) :
    ∃ l0, defOf e = some l0 ∧ l = l0.filter (testPred m r) := by
  unfold defOf at h
  split at h
  · exact ⟨_, ‹_›, (Option.some.inj h).symm⟩
  · cases h

theorem defOf_map {e : Expr} {a b : Int} {l : List Val} (h : defOf (.map e a b) = some l) :
    ∃ l0, defOf e = some l0 ∧ l = l0.map (testFun a b) := by
  unfold defOf at h
  split at h
  · exact ⟨_, ‹_›, (Option.some.inj h).symm⟩
  · cases h

theorem defOfList_cons {e : Expr} {es : List Expr} {ls : List (List Val)} (h : defOfList (e :: es) = some ls) :
    ∃ l ls', defOf e = some l ∧ defOfList es = some ls' ∧ ls = l :: ls' := by
  unfold defOfList at h
  split at h
  · exact ⟨_, _, ‹_›, ‹_›, (Option.some.inj h).symm⟩
  · cases h

/-- a lawful object with a `len` meets the clauses of `denote_dir` at the level `(.run, .run)` of the containers -/
theorem LawfulAs.dir {I : Iterable Val} {l : List Val} (hl : LawfulAs I l) {n : Nat} (hn : I.len = some n) (p : Prop) :
    LenGetAs I l ∧ FwdAt I l .run ∧ BwdAt I l .run ∧ (p → I.len = some l.length) :=
  ⟨hl.lg, hl.fwd, hl.bwd, fun _ => hl.lg.len_eq hn⟩

mutual
/-- **every composition, per direction** — by induction over the expression, so to any nesting depth: the model object is
    constructed, `len` and `get` agree with the defined sequence, and each walk is right at the level `dirOf` says -/
theorem denote_dir : ∀ (e : Expr) (l : List Val), defOf e = some l →
    ∃ I, denote e = .ok I ∧ LenGetAs I l ∧ FwdAt I l (dirOf e).1 ∧ BwdAt I l (dirOf e).2 ∧
      (e.hasLen = true → I.len = some l.length)
  | .array vs, l, h => by
    cases h
    exact ⟨_, rfl, (array_lawfulAs _).dir rfl _⟩
  | .list vs, l, h => by
    cases h
    exact ⟨_, rfl, (list_lawfulAs _).dir rfl _⟩
  | .tuple ids, l, h => by
    cases h
    have hlg := emb_lenGet _ (fun (i : Nat) => Val.int i) (tuple_lenGet ids)
    refine ⟨_, rfl, hlg, ?_⟩
    simp only [dirOf]
    split
    · next hnd => exact ⟨emb_absFwd _ _ (tuple_abs ids hnd).1, emb_absBwd _ _ (tuple_abs ids hnd).2, fun _ => hlg.len_eq rfl⟩
    · exact ⟨trivial, trivial, fun _ => hlg.len_eq rfl⟩
  | .table slots, l, h => by
    cases h
    exact ⟨_, rfl, (table_lawfulAs _).dir rfl _⟩
  | .tree t, l, h => by
    cases h
    exact ⟨_, rfl, (emb_lawfulAs _ Val.int (tree_lawfulAs t)).dir rfl _⟩
  | .rtree ks, l, h => by
    cases h
    exact ⟨_, rfl, (emb_lawfulAs _ Val.int (tree_lawfulAs (ks.foldl T.insert .nil))).dir rfl _⟩
  | .range args, l, h => by
    obtain ⟨a, b, c, hr, rfl⟩ := defOf_range h
    refine ⟨embI (rangeI a b c) Val.int, by unfold denote; rw [hr], emb_lenGet _ _ (range_lawfulAs a b c).lg,
      emb_absFwd _ _ (range_abs a b c).1, emb_absBwd _ _ (range_abs a b c).2,
      fun _ => (emb_lenGet _ _ (range_lawfulAs a b c).lg).len_eq rfl⟩
  | .slice e args, l, h => by
    obtain ⟨l0, a, b, c, hs, hhl, hst, rfl⟩ := defOf_slice h
    obtain ⟨I, hd, hlg, hfw, hbw, hlen⟩ := denote_dir e l0 hs
    have hIlen := hlen hhl
    obtain ⟨ha0, han, hb0, hbn⟩ := sliceStack_bounds l0.length args a b c hst
    obtain ⟨A, rfl⟩ := Int.eq_ofNat_of_zero_le ha0
    obtain ⟨B, rfl⟩ := Int.eq_ofNat_of_zero_le hb0
    have hA : A ≤ l0.length := Int.ofNat_le.mp han
    have hB : B ≤ l0.length := Int.ofNat_le.mp hbn
    have hlg' := slice_lenGet I hlg A B c hB
    refine ⟨sliceI I l0.length A B c, by simp only [denote, hd, hIlen, hst], hlg', ?_, ?_, fun _ => ?_⟩
    · simp only [dirOf, hs, hst]
      exact slice_fwdAt I A B c _ _ hfw hbw hA hB
    · simp only [dirOf, hs, hst]
      exact slice_bwdAt I A B c _ _ hfw hbw hA hB
    · exact hlg'.len_eq rfl
  | .zip es, l, h => by
    obtain ⟨ls, hs, _, rfl⟩ := defOf_zip h
    obtain ⟨Is, hd, hall, hF, hB, hlens⟩ := denoteList_dir es ls hs
    refine ⟨embI (zipI Is) Val.tup, by simp only [denote, hd], emb_lenGet _ _ (zip_lenGet Is ls hall), ?_, ?_, fun hh => ?_⟩
    · simp only [dirOf]
      split
      · next hf => exact emb_fwdAs _ _ (zip_fwdAs Is ls (hF hf))
      · trivial
    · simp only [dirOf, hs]
      split
      · next hb =>
        rw [Bool.and_eq_true] at hb
        exact emb_bwdAs _ _ (zip_bwdAs Is ls (zipLists_map_reverse ls (zipBwdOk_spec hb.2)) (hB hb.1))
      · trivial
    · rw [List.length_map]; exact zipLen_of_all Is ls (hlens hh)
  | .enum e, l, h => by
    obtain ⟨l0, hs, hhl, rfl⟩ := defOf_enum h
    obtain ⟨I, hd, hlg, hfw, hbw, hlen⟩ := denote_dir e l0 hs
    have hIlen := hlen hhl
    refine ⟨embI (enumI I l0.length Val.int) Val.tup, by simp only [denote, hd, hIlen],
      emb_lenGet _ _ (enum_lenGet I Val.int hlg), ?_, ?_, fun _ => ?_⟩
    · exact hfw.cap (fun h => emb_fwdAs _ _ (enum_fwdAs I Val.int h))
    · exact hbw.cap (fun h => emb_bwdAs _ _ (enum_bwdAs I Val.int h))
    · have hr := (enum_counter Val.int l0.length).lg.len_eq rfl
      have hz := zipLen_of_all [embI (rangeI 0 l0.length 1) Val.int, I] _ (All₂.cons hr (All₂.cons hIlen All₂.nil))
      rw [List.length_map]; exact hz
  | .filter e m r, l, h => by
    obtain ⟨l0, hs, rfl⟩ := defOf_filter h
    obtain ⟨I, hd, _, hfw, hbw, _⟩ := denote_dir e l0 hs
    refine ⟨filterI I (testPred m r) filterFuel, by simp only [denote, hd], filter_lenGet _ _ _ _, ?_⟩
    simp only [dirOf, hs]
    split
    · next hf =>
      exact ⟨hfw.imp (fun h => filter_fwdAs I _ _ h hf) (fun h => filter_absFwd I _ _ h hf),
        hbw.imp (fun h => filter_bwdAs I _ _ h hf) (fun h => filter_absBwd I _ _ h hf), nofun⟩
    · exact ⟨trivial, trivial, nofun⟩
  | .map e a b, l, h => by
    obtain ⟨l0, hs, rfl⟩ := defOf_map h
    obtain ⟨I, hd, hlg, hfw, hbw, hlen⟩ := denote_dir e l0 hs
    exact ⟨mapI I (testFun a b), by simp only [denote, hd], map_lenGet _ _ hlg, hfw.imp (map_fwdAs I _) (map_absFwd I _),
      hbw.imp (map_bwdAs I _) (map_absBwd I _),
      fun hh => by rw [List.length_map]; exact hlen hh⟩
  | .mlist init ops, l, h => by
    cases h
    obtain ⟨ll, xs, e, c, v⟩ := mlistOf_spec init ops
    have hl := emb_lawfulAs _ Val.int (ll_lawfulAs ll xs c)
    rw [v] at hl
    exact ⟨embI (llI ll) Val.int, by simp only [denote, e], hl.dir rfl _⟩
  | .marray init ops, l, h => by
    cases h
    obtain ⟨a, e, c⟩ := marrayOf_spec init ops
    exact ⟨embI (arI a) Val.int, by simp only [denote, e], (emb_lawfulAs _ Val.int (ar_lawfulAs a _ c)).dir rfl _⟩
  | .mtable init ops, l, h => by
    obtain ⟨t, e, r⟩ := mtableOf_spec init ops
    unfold defOf at h; rw [e] at h; cases h
    exact ⟨embI (tabI t) Val.int, by simp only [denote, e], (emb_lawfulAs _ Val.int (tabI_lawful t _ r).1).dir rfl _⟩
  | .mtree init ops, l, h => by
    cases h
    exact ⟨_, rfl, (emb_lawfulAs _ Val.int (treeNI_lawfulAs _ _ (mtreeOf_count init ops))).dir rfl _⟩
theorem denoteList_dir : ∀ (es : List Expr) (ls : List (List Val)), defOfList es = some ls →
    ∃ Is, denoteList es = .ok Is ∧ All₂ (fun I l => LenGetAs I l) Is ls ∧
      (allFwd es = true → All₂ (fun I l => FwdAs I l) Is ls) ∧ (allBwd es = true → All₂ (fun I l => BwdAs I l) Is ls) ∧
      (Expr.hasLenList es = true → All₂ (fun (I : Iterable Val) l => I.len = some l.length) Is ls)
  | [], ls, h => by
    cases h
    exact ⟨[], rfl, All₂.nil, fun _ => All₂.nil, fun _ => All₂.nil, fun _ => All₂.nil⟩
  | e :: es, ls, h => by
    obtain ⟨l, ls', h1, h2, rfl⟩ := defOfList_cons h
    obtain ⟨I, hd, hlg, hfw, hbw, hlen⟩ := denote_dir e l h1
    obtain ⟨Is, hds, hall, hF, hB, hlens⟩ := denoteList_dir es ls' h2
    refine ⟨I :: Is, by simp only [denoteList, hd, hds], All₂.cons hlg hall, fun hh => ?_, fun hh => ?_, fun hh => ?_⟩
    · simp only [allFwd, Bool.and_eq_true] at hh
      exact All₂.cons (hfw.fwd hh.1) (hF hh.2)
    · simp only [allBwd, Bool.and_eq_true] at hh
      exact All₂.cons (hbw.bwd hh.1) (hB hh.2)
    · simp only [Expr.hasLenList, Bool.and_eq_true] at hh
      exact All₂.cons (hlen hh.1) (hlens hh.2)
end

theorem denote_fwd (e : Expr) (l : List Val) (h : specFwd e = some l) : ∃ I, denote e = .ok I ∧ LawfulFwdAs I l := by
  unfold specFwd at h
  split at h
  · next hok =>
    obtain ⟨I, hd, hlg, hfw, _, _⟩ := denote_dir e l h
    exact ⟨I, hd, hfw.fwd hok, hlg⟩
  · simp at h

theorem denote_bwd (e : Expr) (l : List Val) (h : specBwd e = some l) : ∃ I, denote e = .ok I ∧ LawfulBwdAs I l := by
  unfold specBwd at h
  split at h
  · next hok =>
    obtain ⟨I, hd, hlg, _, hbw, _⟩ := denote_dir e l h
    exact ⟨I, hd, hbw.bwd hok, hlg⟩
  · simp at h

theorem denote_lawful (e : Expr) (l : List Val) (h : specOf e = some l) :
    ∃ I, denote e = .ok I ∧ LawfulAs I l ∧ (e.hasLen = true → I.len = some l.length) := by
  unfold specOf at h
  split at h
  · next hok =>
    obtain ⟨I, hd, hlg, hfw, hbw, hlen⟩ := denote_dir e l h
    exact ⟨I, hd, .of_lg (hfw.fwd hok.1) (hbw.bwd hok.2) hlg, hlen⟩
  · simp at h

end Cello.Iter
