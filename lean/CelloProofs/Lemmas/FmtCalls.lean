/-
  C14 helper lemmas: the dispatch when exactly one `if` fires per conversion (`Dispatches`) and the C value it passes for an
  argument of the conversion's class (`specVal`); the primitive calls of a well-typed, well-formed format in closed form
  (`expectCalls`, `refRun_expectCalls`); and that each of them is inside libc's contract when the specifications belong to the printf grammar.
-/
import CelloProofs.Lemmas.FmtPure
import CelloProofs.Lemmas.FmtNow
import CelloProofs.Lemmas.FmtGrammar

namespace Cello.Fmt

variable (prim : Prim) (shw : Obj → Out → Out × Outcome)

theorem dispatch_firing (c : Char) (buf : Str) (a : Obj) : ∀ d : List (Matcher × Kind),
    dispatch prim shw d c buf a =
      ((d.filter fun mk => mk.1.hit c).map (·.2)).foldr (fun k g => andThen (action prim shw k buf a) g) fun o => (o, .ok)
  | [] => rfl
  | (m, k) :: r => by
    rw [dispatch_cons, dispatch_firing c buf a r]
    cases h : m.hit c <;> simp [h]

variable (cfg : Cfg)

theorem dispatch_single {c : Char} {k : Kind} (hf : firing cfg c = [k]) (buf : Str) (a : Obj) :
    dispatch prim shw cfg.disp c buf a = action prim shw k buf a := by
  rw [dispatch_firing]
  change (firing cfg c).foldr _ _ = _
  rw [hf]
  exact andThen_ok _

/-- the dispatch the grammar expects: for every conversion character exactly one `if` fires, with the C value the conversion
    needs (`C14_dispatch_table`: the dispatch read from the source is one) -/
def Dispatches (cfg : Cfg) : Prop :=
  (∀ c ∈ intConvs, firing cfg c = [.cint]) ∧ (∀ c ∈ fltConvs, firing cfg c = [.cfloat]) ∧
  firing cfg 'c' = [.cint] ∧ firing cfg 's' = [.cstr] ∧ firing cfg 'p' = [.obj] ∧ firing cfg '$' = [.show]

/-- the C value a conversion of the grammar takes from an argument of the matching class -/
def specVal (c : Char) (a : Obj) : Option PVal :=
  if c ∈ intConvs ∨ c = 'c' then (match a with | .int v => some (.i64 v) | _ => none)
  else if c ∈ fltConvs then (match a with | .flt x => some (.dbl x) | _ => none)
  else if c = 's' then (match a with | .str s => some (.cstr s) | _ => none)
  else if c = 'p' then some .ptr
  else none

theorem specVal_some {c : Char} {a : Obj} {v : PVal} (hv : specVal c a = some v) :
    (∃ n, a = .int n ∧ v = .i64 n ∧ (c ∈ intConvs ∨ c = 'c')) ∨ (∃ x, a = .flt x ∧ v = .dbl x ∧ c ∈ fltConvs) ∨
    (∃ s, a = .str s ∧ v = .cstr s ∧ c = 's') ∨ (v = .ptr ∧ c = 'p') := by
  unfold specVal at hv
  by_cases h1 : c ∈ intConvs ∨ c = 'c'
  · rw [if_pos h1] at hv
    cases a <;> cases hv
    exact .inl ⟨_, rfl, rfl, h1⟩
  rw [if_neg h1] at hv
  by_cases h2 : c ∈ fltConvs
  · rw [if_pos h2] at hv
    cases a <;> cases hv
    exact .inr (.inl ⟨_, rfl, rfl, h2⟩)
  rw [if_neg h2] at hv
  by_cases h3 : c = 's'
  · rw [if_pos h3] at hv
    cases a <;> cases hv
    exact .inr (.inr (.inl ⟨_, rfl, rfl, h3⟩))
  rw [if_neg h3] at hv
  by_cases h4 : c = 'p'
  · rw [if_pos h4] at hv; cases hv
    exact .inr (.inr (.inr ⟨rfl, h4⟩))
  · rw [if_neg h4] at hv; cases hv

theorem specVal_show (a : Obj) : specVal '$' a = none := by
  have h1 : ¬ ('$' ∈ intConvs ∨ '$' = 'c') := by decide
  have h2 : '$' ∉ fltConvs := by decide
  have h3 : ('$' : Char) ≠ 's' := by decide
  have h4 : ('$' : Char) ≠ 'p' := by decide
  unfold specVal
  rw [if_neg h1, if_neg h2, if_neg h3, if_neg h4]

theorem dispatch_specVal (ht : Dispatches cfg) {c : Char} {a : Obj} {v : PVal} (hv : specVal c a = some v) (buf : Str) (o : Out) :
    dispatch prim shw cfg.disp c buf a o = o.call prim buf v := by
  rcases specVal_some hv with ⟨n, rfl, rfl, hc⟩ | ⟨x, rfl, rfl, hc⟩ | ⟨s, rfl, rfl, rfl⟩ | ⟨rfl, rfl⟩
  · exact congrFun (dispatch_single prim shw cfg (hc.elim (ht.1 c) (· ▸ ht.2.2.1)) buf _) o
  · exact congrFun (dispatch_single prim shw cfg (ht.2.1 c hc) buf _) o
  · exact congrFun (dispatch_single prim shw cfg ht.2.2.2.1 buf _) o
  · exact congrFun (dispatch_single prim shw cfg ht.2.2.2.2.1 buf _) o

/-- the calls a format makes when every specification finds an argument of its class: the literal run verbatim, `%%`,
    the fragment `%` body conv with the k-th argument's C value, and for `%$` the calls of the k-th argument's `show` -/
def expectCalls (showCalls : Obj → List Call) (args : List Obj) : List Seg → Nat → Option (List Call)
  | [], _ => some []
  | .lit s :: r, k => (expectCalls showCalls args r k).map (⟨s, .none⟩ :: ·)
  | .pct :: r, k => (expectCalls showCalls args r k).map (⟨['%', '%'], .none⟩ :: ·)
  | .spec b c :: r, k =>
    match args[k]? with
    | none => none
    | some a =>
      if c = '$' then (expectCalls showCalls args r (k + 1)).map (showCalls a ++ ·)
      else match specVal c a with
        | none => none
        | some v => (expectCalls showCalls args r (k + 1)).map (⟨'%' :: (b ++ [c]), v⟩ :: ·)

theorem expectCalls_spec {showCalls : Obj → List Call} {args : List Obj} {b : Str} {c : Char} {r : List Seg} {k : Nat}
    {cs : List Call} (h : expectCalls showCalls args (.spec b c :: r) k = some cs) :
    ∃ a cs', args[k]? = some a ∧ expectCalls showCalls args r (k + 1) = some cs' ∧
      (c = '$' ∧ cs = showCalls a ++ cs' ∨ ∃ v, specVal c a = some v ∧ cs = ⟨'%' :: (b ++ [c]), v⟩ :: cs') := by
  simp only [expectCalls] at h
  cases hk : args[k]? with
  | none => simp [hk] at h
  | some a =>
    simp only [hk] at h
    by_cases hc : c = '$'
    · simp only [hc, if_true, Option.map_eq_some_iff] at h
      obtain ⟨cs', h1, rfl⟩ := h
      exact ⟨a, cs', rfl, h1, .inl ⟨hc, rfl⟩⟩
    · simp only [hc, if_false] at h
      cases hv : specVal c a with
      | none => simp [hv] at h
      | some v =>
        simp only [hv, Option.map_eq_some_iff] at h
        obtain ⟨cs', h1, rfl⟩ := h
        exact ⟨a, cs', rfl, h1, .inr ⟨v, hv, rfl⟩⟩

theorem refRun_expectCalls (ht : Dispatches cfg)
    (showCalls : Obj → List Call) (args : List Obj) (hs : ∀ a ∈ args, ∀ o, shw a o = (emitAll prim o (showCalls a), .ok)) :
    ∀ (segs : List Seg) (k : Nat) (cs : List Call) (o : Out), expectCalls showCalls args segs k = some cs →
      AllAcc prim cs → refRun cfg prim shw args segs k o = (emitAll prim o cs, .ok) := by
  intro segs
  induction segs with
  | nil => intro k cs o h _; simp [expectCalls] at h; subst h; rfl
  | cons s r ih =>
    intro k cs o h hacc
    cases s with
    | lit s =>
      obtain ⟨cs', h1, rfl⟩ := Option.map_eq_some_iff.1 h
      have h0 : prim.rej s .none = false := hacc ⟨s, .none⟩ (by simp)
      simpa [refRun, emitAll_cons, call_acc prim o h0] using ih k cs' _ h1 (fun c hc => hacc c (by simp [hc]))
    | pct =>
      obtain ⟨cs', h1, rfl⟩ := Option.map_eq_some_iff.1 h
      have h0 : prim.rej ['%', '%'] .none = false := hacc ⟨['%', '%'], .none⟩ (by simp)
      simpa [refRun, emitAll_cons, call_acc prim o h0] using ih k cs' _ h1 (fun c hc => hacc c (by simp [hc]))
    | spec b c =>
      obtain ⟨a, cs', hk, h1, hcs⟩ := expectCalls_spec h
      simp only [refRun, hk]
      rcases hcs with ⟨rfl, rfl⟩ | ⟨v, hv, rfl⟩
      · rw [dispatch_single prim shw cfg ht.2.2.2.2.2]
        simp only [action, hs a (List.mem_of_getElem? hk) o]
        simpa [emitAll_append] using ih (k + 1) cs' _ h1 (fun c hc => hacc c (by simp [hc]))
      · have h0 : prim.rej ('%' :: (b ++ [c])) v = false := hacc ⟨'%' :: (b ++ [c]), v⟩ (by simp)
        rw [dispatch_specVal prim shw cfg ht hv, call_acc prim o h0]
        simpa [emitAll_cons] using ih (k + 1) cs' _ h1 (fun c hc => hacc c (by simp [hc]))

/-- every specification that has an argument has one of its class (anything for `%$` and `%p`) -/
def Typed (args : List Obj) : List Seg → Nat → Prop
  | [], _ => True
  | .spec _ c :: r, k => (∀ a, args[k]? = some a → c = '$' ∨ (specVal c a).isSome = true) ∧ Typed args r (k + 1)
  | _ :: r, k => Typed args r k

instance Typed.decidable (args : List Obj) : ∀ segs k, Decidable (Typed args segs k)
  | [], _ => isTrue trivial
  | .spec _ c :: r, k =>
    have := Typed.decidable args r (k + 1)
    inferInstanceAs (Decidable ((∀ a ∈ args[k]?, c = '$' ∨ (specVal c a).isSome = true) ∧ Typed args r (k + 1)))
  | .lit _ :: r, k => Typed.decidable args r k
  | .pct :: r, k => Typed.decidable args r k

theorem spec_inContract (b : Str) (c : Char) (a : Obj) (v : PVal) (hb : specOK b c = true) (hv : specVal c a = some v) :
    (Call.mk ('%' :: (b ++ [c])) v).inContract = true := by
  have hfit : valFits c v = true := by
    rcases specVal_some hv with ⟨n, -, rfl, hc⟩ | ⟨x, -, rfl, hc⟩ | ⟨s, -, rfl, rfl⟩ | ⟨rfl, rfl⟩
    · simpa [valFits] using hc
    · simpa [valFits] using hc
    · rfl
    · rfl
  have hne : v ≠ .none := by
    intro h; subst h; simp [valFits] at hfit
  have hl : (b ++ [c]).getLast? = some c := by simp
  have hd : (b ++ [c]).dropLast = b := by simp
  cases v <;> first | exact absurd rfl hne | simp [Call.inContract, hl, hd, hb, hfit]

theorem expectCalls_inContract (showCalls : Obj → List Call) (args : List Obj)
    (hsh : ∀ a ∈ args, ∀ c ∈ showCalls a, c.inContract = true) :
    ∀ (segs : List Seg) (k : Nat) (cs : List Call), wfSegs cfg.conv segs = true → segs.all Seg.printfOK = true →
      expectCalls showCalls args segs k = some cs → ∀ c ∈ cs, c.inContract = true := by
  intro segs
  induction segs with
  | nil => intro k cs _ _ h; simp [expectCalls] at h; subst h; simp
  | cons s r ih =>
    intro k cs hwf hpf h
    obtain ⟨hs, hr, _⟩ := wfSegs_cons hwf
    simp only [List.all_cons, Bool.and_eq_true] at hpf
    cases s with
    | lit s =>
      obtain ⟨cs', h1, rfl⟩ := Option.map_eq_some_iff.1 h
      intro c hc
      rcases List.mem_cons.1 hc with rfl | hc
      · have := (lit_wf_iff.1 hs).2
        simp only [Call.inContract, Bool.or_eq_true, decide_eq_true_eq, List.all_eq_true]
        right; intro x hx; exact (this x hx).2
      · exact ih k cs' hr hpf.2 h1 c hc
    | pct =>
      obtain ⟨cs', h1, rfl⟩ := Option.map_eq_some_iff.1 h
      intro c hc
      rcases List.mem_cons.1 hc with rfl | hc
      · simp [Call.inContract]
      · exact ih k cs' hr hpf.2 h1 c hc
    | spec b c =>
      obtain ⟨a, cs', hk, h1, hcs⟩ := expectCalls_spec h
      intro x hx
      rcases hcs with ⟨-, rfl⟩ | ⟨v, hv, rfl⟩
      · rcases List.mem_append.1 hx with hx | hx
        · exact hsh a (List.mem_of_getElem? hk) x hx
        · exact ih (k + 1) cs' hr hpf.2 h1 x hx
      · rcases List.mem_cons.1 hx with rfl | hx
        · exact spec_inContract b c a v (by simpa [Seg.printfOK] using hpf.1) hv
        · exact ih (k + 1) cs' hr hpf.2 h1 x hx

end Cello.Fmt
