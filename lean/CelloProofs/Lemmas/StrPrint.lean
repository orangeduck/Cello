/-
  Lemmas for C16: formatted writes that reach a String through `print_to` / `print_to_with` / `show_to`.  With lawful position
  arithmetic the machine `emit` is the run `printTo` of `format_to` calls on the texts of its calls (`emit_eq_printTo`), and that
  run is a history of `.format` operations (`printTo_eq_run`).
-/
import CelloProofs.Lemmas.StrOps
namespace Cello.Str

/-- the position handed back is arithmetic on the lengths written: it never looks at the block -/
theorem printTo_pos (P : Params) (J : Nat → Byte) : ∀ (fs : List (List Byte)) (s : Str) (pos : Nat),
    (printTo P J s pos fs).2.1 = pos + fs.flatten.length
  | [], _, _ => rfl
  | f :: fs, s, pos => by simp only [printTo, printTo_pos P J fs, List.flatten_cons, List.length_append, Nat.add_assoc]

/-- it is the first `format_to` that cuts the text at `pos`: with no fragment there is no call and the text stays whole -/
theorem printTo_ok {P : Params} (hP : P.Lawful) (J : Nat → Byte) : ∀ (fs : List (List Byte)) (s : Str) (pos : Nat) (a : List Byte),
    Holds s.buf a → pos ≤ a.length → (∀ f ∈ fs, NulFree f) →
    Holds (printTo P J s pos fs).1.buf (if fs = [] then a else a.take pos ++ fs.flatten) ∧
    (printTo P J s pos fs).2.2.all Acc.inBounds = true
  | [], s, pos, a, h, _, _ => ⟨h, rfl⟩
  | f :: fs, s, pos, a, h, hpos, hfs => by
    obtain ⟨hf, hfs⟩ := List.forall_mem_cons.mp hfs
    obtain ⟨h1, _, hsafe⟩ := format_ok hP J h pos hf
    rw [if_pos hpos] at h1
    -- the position handed on is the end of the text
    have hlen : (a.take pos ++ f).length = pos + f.length := by simp [Nat.min_eq_left hpos]
    have ih := printTo_ok hP J fs (formatTo P J s pos f).st (pos + f.length) _ h1 (Nat.le_of_eq hlen.symm) hfs
    rw [show (a.take pos ++ f).take (pos + f.length) = a.take pos ++ f by rw [← hlen, List.take_length]] at ih
    simp only [printTo, if_neg (List.cons_ne_nil f fs)]
    refine ⟨?_, by rw [List.all_append, ih.2, Bool.and_true]; exact hsafe⟩
    by_cases hnil : fs = []
    · subst hnil; simpa using ih.1
    · simpa [hnil, List.append_assoc] using ih.1

theorem adv_ok {Q : PosParams} (hQ : Q.Lawful) (br : Branch) (w : Nat) (t : List Byte) (pos : Nat)
    (h : (Item.call br w t).OK) : Q.adv br pos t.length w = pos + t.length := by
  obtain ⟨_, hl, hp⟩ := h
  by_cases h1 : br = .lit
  · subst h1; rw [hl rfl]; exact hQ.lit pos _
  · by_cases h2 : br = .pct
    · subst h2; obtain ⟨hw, ht⟩ := hp rfl; subst hw; subst ht; exact hQ.pct pos
    · exact hQ.spec br h1 h2 pos _ w

theorem emit_eq_printTo (P : Params) {Q : PosParams} (hQ : Q.Lawful) (J : Nat → Byte) (items : List Item) (s : Str)
    (pos : Nat) (stk : List Nat) (h : ∀ it ∈ items, it.OK) :
    emit P Q J s pos stk items = printTo P J s pos (callTexts items) := by
  induction items generalizing s pos stk with
  | nil => rfl
  | cons it r ih =>
    obtain ⟨h1, hr⟩ := List.forall_mem_cons.mp h
    cases it with
    | call br w t =>
      have e : (formatTo P J s pos t).out = .ok t.length := rfl
      simp only [emit, callTexts, printTo, e, adv_ok hQ br w t pos h1, ih _ _ stk hr]
    | enter => exact ih s pos (pos :: stk) hr
    | leave =>
      cases stk with
      | nil => exact ih s pos [] hr
      | cons p0 stk => simp only [emit, callTexts, hQ.shw]; exact ih s pos stk hr
    | rejected br => exact h1.elim

theorem flatten_callTexts (items : List Item) : (callTexts items).flatten = textOf items := by
  fun_induction callTexts items with
  | case1 => rfl
  | case2 br w t r ih => exact congrArg (t ++ ·) ih
  | case3 => rfl
  | case4 it r h1 h2 ih =>
    cases it with
    | call => exact absurd rfl (h1 _ _ _)
    | rejected => exact absurd rfl (h2 _)
    | _ => exact ih

theorem callTexts_nulFree (items : List Item) (h : ∀ it ∈ items, it.OK) : ∀ f ∈ callTexts items, NulFree f := by
  fun_induction callTexts items with
  | case1 => simp
  | case2 br w t r ih =>
    obtain ⟨h1, hr⟩ := List.forall_mem_cons.mp h
    exact List.forall_mem_cons.mpr ⟨h1.1, ih hr⟩
  | case3 => simp
  | case4 it r _ _ ih => exact ih (List.forall_mem_cons.mp h).2

theorem emit_ok {P : Params} (hP : P.Lawful) {Q : PosParams} (hQ : Q.Lawful) (J : Nat → Byte) (items : List Item)
    (s : Str) (pos : Nat) (stk : List Nat) (hs : s.WF) (hpos : pos ≤ s.abs.length) (hok : ∀ it ∈ items, it.OK) :
    (emit P Q J s pos stk items).1.WF ∧
    (callTexts items ≠ [] → (emit P Q J s pos stk items).1.abs = s.abs.take pos ++ textOf items) ∧
    (callTexts items = [] → (emit P Q J s pos stk items).1 = s) ∧
    (emit P Q J s pos stk items).2.1 = pos + (textOf items).length ∧
    (emit P Q J s pos stk items).2.2.all Acc.inBounds = true := by
  rw [emit_eq_printTo P hQ J items s pos stk hok]
  obtain ⟨h, hsafe⟩ := printTo_ok hP J (callTexts items) s pos _ hs.holds hpos (callTexts_nulFree items hok)
  refine ⟨h.wf, fun hne => ?_, fun e => by rw [e]; rfl, by rw [printTo_pos, flatten_callTexts], hsafe⟩
  rw [if_neg hne, flatten_callTexts] at h
  exact h.abs

theorem printTo_eq_run (P : Params) (J : Nat → Byte) (items : List Item) (s : Str) (pos : Nat) :
    (printTo P J s pos (callTexts items)).1 = (run P J s (asFormats pos items)).1 ∧
    (printTo P J s pos (callTexts items)).2.2 = ((run P J s (asFormats pos items)).2.map Res.log).flatten := by
  fun_induction asFormats pos items generalizing s with
  | case1 => exact ⟨rfl, rfl⟩
  | case2 pos br w t r ih =>
    have ih := ih (formatTo P J s pos t).st
    exact ⟨ih.1, congrArg ((formatTo P J s pos t).log ++ ·) ih.2⟩
  | case3 => exact ⟨rfl, rfl⟩
  | case4 pos it r h1 h2 ih =>
    cases it with
    | call => exact absurd rfl (h1 _ _ _)
    | rejected => exact absurd rfl (h2 _)
    | _ => exact ih s

theorem asFormats_nulFree (items : List Item) (pos : Nat) (h : ∀ it ∈ items, it.OK) :
    ∀ op ∈ asFormats pos items, op.NulFree := by
  fun_induction asFormats pos items with
  | case1 => simp
  | case2 pos br w t r ih =>
    obtain ⟨h1, hr⟩ := List.forall_mem_cons.mp h
    exact List.forall_mem_cons.mpr ⟨h1.1, ih hr⟩
  | case3 => simp
  | case4 pos it r _ _ ih => exact ih (List.forall_mem_cons.mp h).2

theorem emit_rejected (P : Params) (Q : PosParams) (J : Nat → Byte) (br : Branch) (rest pre : List Item) (s : Str) (pos : Nat)
    (stk : List Nat) :
    emit P Q J s pos stk (pre ++ .rejected br :: rest) = emit P Q J s pos stk pre := by
  induction pre generalizing s pos stk with
  | nil => cases stk <;> rfl
  | cons it r ih =>
    cases it with
    | call b w t => simp only [List.cons_append, emit, ih]
    | enter => exact ih ..
    | leave => cases stk <;> exact ih ..
    | rejected => cases stk <;> rfl

end Cello.Str
