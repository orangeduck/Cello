/-
  CelloProofs/Lemmas/OwnCompose.lean — C05: the ownership steps of Cello/Own.lean (`tableSet`, `treeSet`, `mapRem`,
  `mapResize`, `mapSetMany`, `mapAssign`) are what the *concrete* container models of Cello/OwnConc.lean — C02's slot array
  `Tab Nat KV`, C03's red-black tree `Tree Tok Tok` — do to the tokens they store.

  The representation theorems of those models are used as they stand (`Table.set_rep / rem_rep / resize_rep / get_rep`
  under `Rep`, `rehash_rep / setMove_rep0` under `Rep0`; `RB.set_valid / rem_valid / clear_valid` under `Valid` and the
  split lemmas `Spec.getKV_mid / set_mid / rem_mid`).  For a slot array / tree that represents the association list `kvs`
  (`AbsT` / `AbsR`), each concrete operation succeeds, reports the events of the abstract step and represents its result
  (`ResRel`); conservation over rehash, displacement, backward shift, rotation and predecessor copy then comes from the
  abstract step's (`conserves_lift`): a model that dropped or doubled a record in a move would make `Rep` / `Valid`
  unprovable upstream, or these lemmas here.
-/
import CelloProofs.Lemmas.OwnMap
import CelloProofs.Lemmas.TableErase
import CelloProofs.Lemmas.TableIter
import CelloProofs.Lemmas.RBValid
import Cello.OwnConc

namespace Cello.Own.Conc
open List

/-- the table model's binding for one abstract pair: the payload the key hashes / compares by ↦ the record's two tokens -/
def kvKey (kv : KV) : Nat × KV := (kv.1.pay, kv)

theorem map_snd_kvKey (kvs : List KV) : (kvs.map kvKey).map Prod.snd = kvs := by
  induction kvs with
  | nil => rfl
  | cons x xs ih => simp [kvKey, ih]

theorem map_fst_kvKey (kvs : List KV) : (kvs.map kvKey).map Prod.fst = keys kvs := by
  simp [keys, kvKey, List.map_map, Function.comp_def]

/-- what `r` and the abstract result `a` must agree on: related values, the same constructions in the same order, the
    same finalisations (as a multiset: `clear` walks the slots / nodes, the abstract step the sorted list), the same
    in-place assignments, the same outcome -/
def ResRel {γ : Type} (R : γ → List KV → Prop) (r : Res γ) (a : Res (List KV)) : Prop :=
  R r.val a.val ∧ r.issued = a.issued ∧ r.retired ~ a.retired ∧ r.updated = a.updated ∧ r.out = a.out

theorem ResRel.mono {γ : Type} {R R' : γ → List KV → Prop} {r : Res γ} {a : Res (List KV)}
    (h : ResRel R r a) (hR : R r.val a.val → R' r.val a.val) : ResRel R' r a :=
  ⟨hR h.1, h.2⟩

/-- the concrete operation conserves the tokens the concrete container stores, because the abstract step conserves and
    the two containers hold the same tokens before and after -/
theorem conserves_lift {γ : Type} {R : γ → List KV → Prop} {toks : γ → List Tok}
    (hR : ∀ x kvs, R x kvs → toks x ~ kvToks kvs) {x : γ} {kvs : List KV} (hx : R x kvs)
    {r : Res γ} {a : Res (List KV)} (h : ResRel R r a)
    (hc : Conserves (kvToks kvs) (kvToks a.val) a.issued a.retired) :
    Conserves (toks x) (toks r.val) r.issued r.retired := by
  obtain ⟨h1, h2, h3, _, _⟩ := h
  exact h2 ▸ hc.congr (hR _ _ hx) (hR _ _ h1) h3

section table
open Cello.Table

variable {hash : Nat → Nat} {cfg : Cfg}

/-- the slot array `t` holds exactly the pairs `kvs` (each once, keyed by its key's payload), satisfies the robin-hood
    invariant, `nitems` counts them and there is an empty slot (or the array has no slots at all) -/
def AbsT (hash : Nat → Nat) (t : CTab) (kvs : List KV) : Prop := Rep hash t (kvs.map kvKey)

theorem slotKVs_eq {t : CTab} (w : WF hash t) : slotKVs t = (foreach t).map Prod.snd := by
  rw [foreach_eq hash t w, entriesList, List.map_filterMap]
  unfold slotKVs
  congr 1
  funext o
  cases o <;> rfl

theorem slotKVs_perm_spec {t : CTab} {m : Spec Nat KV} (R : Rep0 hash t m) : slotKVs t ~ m.map Prod.snd := by
  rw [slotKVs_eq R.toWF]
  exact (foreach_perm hash t _ R).map Prod.snd

theorem slotKVs_perm {t : CTab} {kvs : List KV} (R : AbsT hash t kvs) : slotKVs t ~ kvs :=
  (slotKVs_perm_spec R.toRep0).trans (.of_eq (map_snd_kvKey kvs))

theorem tabToks_perm {t : CTab} {kvs : List KV} (R : AbsT hash t kvs) : tabToks t ~ kvToks kvs :=
  kvToks_perm (slotKVs_perm R)

theorem AbsT.keys_nodup {t : CTab} {kvs : List KV} (R : AbsT hash t kvs) : (keys kvs).Nodup := by
  have := R.nodup; rwa [map_fst_kvKey] at this

theorem spec_get_kvKey (kvs : List KV) (k : Nat) :
    Spec.get (kvs.map kvKey) k = (takeFirst (keyIs k) kvs).map Prod.fst := by
  have : (fun p : Nat × KV => decide (p.1 = k)) ∘ kvKey = keyIs k := funext fun kv => (_root_.beq_eq_decide ..).symm
  simp [Spec.get, takeFirst_eq, List.find?_map, this, Function.comp_def, kvKey]

/-- the probing loop finds the pair the abstract step takes out -/
theorem resident_abs {t : CTab} {kvs : List KV} (R : AbsT hash t kvs) (k : Nat) :
    resident hash t k = .ok ((takeFirst (keyIs k) kvs).map Prod.fst) := by
  unfold resident
  rw [get_rep hash t _ R k, spec_get_kvKey]
  cases takeFirst (keyIs k) kvs <;> rfl

theorem rest_keys_ne {kvs rest : List KV} {old : KV} {k : Nat} (hq : takeFirst (keyIs k) kvs = some (old, rest))
    (hnd : (keys kvs).Nodup) : ∀ x ∈ rest, x.1.pay ≠ k :=
  fun x hx hxk => (List.nodup_cons.mp ((keys_takeKey hq).nodup_iff.mp hnd)).1 (List.mem_map.mpr ⟨x, hx, hxk⟩)

theorem spec_rem_some {kvs rest : List KV} {old : KV} {k : Nat} (hq : takeFirst (keyIs k) kvs = some (old, rest))
    (hnd : (keys kvs).Nodup) : Spec.rem (kvs.map kvKey) k ~ rest.map kvKey := by
  obtain ⟨hp, hk⟩ := takeKey_some hq
  have h1 : Spec.rem (kvs.map kvKey) k ~ Spec.rem ((old :: rest).map kvKey) k := (hp.map kvKey).filter _
  refine h1.trans ?_
  have hne := rest_keys_ne hq hnd
  simp only [Spec.rem, List.map_cons, List.filter_cons, kvKey, hk, decide_true, Bool.not_true, Bool.false_eq_true, if_false]
  rw [List.filter_eq_self.mpr]
  intro p hp'
  obtain ⟨x, hx, rfl⟩ := List.mem_map.mp hp'
  simp [kvKey, hne x hx]

theorem spec_rem_none {kvs : List KV} {k : Nat} (hq : takeFirst (keyIs k) kvs = none) :
    Spec.rem (kvs.map kvKey) k = kvs.map kvKey := by
  apply spec_rem_absent
  intro v hv
  obtain ⟨x, hx, he⟩ := List.mem_map.mp hv
  simp only [kvKey, Prod.mk.injEq] at he
  exact takeKey_none hq (List.mem_map.mpr ⟨x, hx, he.1⟩)

theorem spec_set_tableSet {kvs : List KV} (hnd : (keys kvs).Nodup) (next k v : Nat) :
    Spec.set (kvs.map kvKey) k ((⟨next, k⟩ : Tok), (⟨next + 1, v⟩ : Tok)) ~ (tableSet next kvs k v).val.map kvKey := by
  simp only [tableSet]
  cases hq : takeFirst (keyIs k) kvs with
  | none =>
    simp only [Spec.set, spec_rem_none hq]
    have := ((mapInsert_perm ((⟨next, k⟩ : Tok), (⟨next + 1, v⟩ : Tok)) kvs).map kvKey).symm
    simpa [kvKey] using this
  | some q =>
    obtain ⟨old, rest⟩ := q
    simp only [Spec.set]
    have := ((mapInsert_perm ((⟨next, k⟩ : Tok), (⟨next + 1, v⟩ : Tok)) rest).map kvKey).symm
    exact ((spec_rem_some hq hnd).cons _).trans (by simpa [kvKey] using this)

/-- what `tableSet` reports, in the order of `ResRel`: two constructions, the resident pair finalised, no raise -/
theorem tableSet_events (next : Nat) (kvs : List KV) (k v : Nat) :
    (tableSet next kvs k v).issued = [⟨next, k⟩, ⟨next + 1, v⟩] ∧
    (tableSet next kvs k v).retired = retiredOf ((takeFirst (keyIs k) kvs).map Prod.fst) ∧
    (tableSet next kvs k v).updated = [] ∧ (tableSet next kvs k v).out = .ok := by
  simp only [tableSet]
  cases takeFirst (keyIs k) kvs <;> exact ⟨rfl, rfl, rfl, rfl⟩

theorem length_tableSet (next : Nat) (kvs : List KV) (k v : Nat) : (tableSet next kvs k v).val.length ≤ kvs.length + 1 := by
  simp only [tableSet]
  cases hq : takeFirst (keyIs k) kvs with
  | none => simp [(mapInsert_perm _ _).length_eq]
  | some q => simp [(mapInsert_perm _ _).length_eq, (takeKey_some hq).1.length_eq]

theorem tableSetC_refines (g : GoodCfg cfg) {t : CTab} {kvs : List KV} (R : AbsT hash t kvs) (next k v : Nat) :
    ∃ r, tableSetC cfg hash next t k v = .ok r ∧ ResRel (AbsT hash) r (tableSet next kvs k v) := by
  obtain ⟨t', e, r'⟩ := set_rep cfg g hash t _ R k ((⟨next, k⟩ : Tok), (⟨next + 1, v⟩ : Tok))
  obtain ⟨hi, hr, hu, ho⟩ := tableSet_events next kvs k v
  refine ⟨_, by simp only [tableSetC, resident_abs R k, e]; rfl, ?_⟩
  exact ⟨r'.perm (spec_set_tableSet R.keys_nodup next k v), hi.symm, .of_eq hr.symm, hu.symm, ho.symm⟩

theorem tableRemC_refines (g : GoodCfg cfg) {t : CTab} {kvs : List KV} (R : AbsT hash t kvs) (k : Nat) :
    ∃ r, tableRemC cfg hash t k = .ok r ∧ ResRel (AbsT hash) r (mapRem kvs k) := by
  obtain ⟨t', e, r'⟩ := rem_rep cfg g hash t _ R k
  rw [spec_get_kvKey] at e r'
  simp only [mapRem]
  cases hq : takeFirst (keyIs k) kvs with
  | none =>
    rw [hq] at e r'
    have he : tableRemC cfg hash t k = .ok { val := t', out := .raised .keyError } := by
      simp only [tableRemC, resident_abs R k, e, hq, Option.map]
    refine ⟨_, he, ?_⟩
    exact ⟨r', rfl, Perm.refl _, rfl, rfl⟩
  | some q =>
    obtain ⟨old, rest⟩ := q
    rw [hq] at e r'
    have he : tableRemC cfg hash t k = .ok { val := t', retired := retiredOf (some old) } := by
      simp only [tableRemC, resident_abs R k, e, hq, Option.map]
    refine ⟨_, he, ?_⟩
    exact ⟨r'.perm (spec_rem_some hq R.keys_nodup), rfl, by simp [retiredOf], rfl, rfl⟩

theorem tableResizeC_refines (g : GoodCfg cfg) {t : CTab} {kvs : List KV} (R : AbsT hash t kvs) (n : Nat) :
    ∃ r, tableResizeC cfg hash t n = .ok r ∧ ResRel (AbsT hash) r (mapResize .table kvs n) := by
  by_cases h0 : n = 0
  · subst h0
    have he : tableResizeC cfg hash t 0 = .ok { val := Table.clear t, retired := tabToks t } := by
      simp only [tableResizeC, if_true]
    refine ⟨_, he, ?_⟩
    simp only [mapResize, if_true, mapClear]
    exact ⟨rep_empty_zero hash, rfl, tabToks_perm R, rfl, rfl⟩
  · obtain ⟨t', e, r'⟩ := resize_rep cfg g hash t _ R n
    simp only [h0, if_false, List.length_map] at e r'
    simp only [mapResize, h0, if_false]
    by_cases hlt : n < kvs.length
    · simp only [hlt, if_true] at e ⊢
      have he : tableResizeC cfg hash t n = .ok { val := t', out := .raised .formatError } := by
        simp only [tableResizeC, h0, if_false, e]
      exact ⟨_, he, r', rfl, Perm.refl _, rfl, rfl⟩
    · simp only [hlt, if_false] at e ⊢
      have he : tableResizeC cfg hash t n = .ok { val := t' } := by
        simp only [tableResizeC, h0, if_false, e]
      exact ⟨_, he, r', rfl, Perm.refl _, rfl, rfl⟩

theorem rehash_moves {t : CTab} {m : Spec Nat KV} (R : Rep0 hash t m) (newSize : Nat) (hbig : t.nitems < newSize) :
    ∃ t', rehash cfg hash t newSize = .ok t' ∧ t'.n = newSize ∧ slotKVs t' ~ slotKVs t := by
  obtain ⟨t', e, hn, r'⟩ := rehash_rep cfg hash t m R newSize hbig
  exact ⟨t', e, hn, (slotKVs_perm_spec r'.toRep0).trans (slotKVs_perm_spec R).symm⟩

theorem setMove_moves (hge : cfg.ge = false) {t : CTab} {m : Spec Nat KV} (R : Rep0 hash t m) (hroom : t.nitems < t.n)
    (k : Nat) (kv : KV) (hfresh : ∀ v, (k, v) ∉ m) :
    ∃ t', setMove cfg hash t k kv = .ok t' ∧ slotKVs t' ~ kv :: slotKVs t := by
  obtain ⟨t', e, _, r'⟩ := setMove_rep0 cfg hge hash t m R hroom k kv
  refine ⟨t', e, (slotKVs_perm_spec r').trans ?_⟩
  simp only [Spec.set, spec_rem_absent m k hfresh, List.map_cons]
  exact (slotKVs_perm_spec R).symm.cons _

/-- the insertion loop of `Table_New` / `Table_Assign` does not resize: `nitems + |ps| < n` keeps a free slot for every
    `Table_Set_Move` -/
theorem tableFillC_refines (hge : cfg.ge = false) :
    ∀ (ps : List (Nat × Nat)) (next : Nat) (t : CTab) (kvs : List KV), Rep0 hash t (kvs.map kvKey) →
      t.nitems + ps.length < t.n →
      ∃ r, tableFillC cfg hash next t ps = .ok r ∧
        ResRel (fun t' kvs' => Rep0 hash t' (kvs'.map kvKey) ∧ t'.n = t.n ∧ t'.nitems ≤ t.nitems + ps.length) r
          (mapSetMany .table next kvs ps) := by
  intro ps
  induction ps with
  | nil =>
    intro next t kvs R _
    exact ⟨_, rfl, ⟨R, rfl, by simp⟩, rfl, Perm.refl _, rfl, rfl⟩
  | cons p ps ih =>
    intro next t kvs R hroom
    obtain ⟨k, v⟩ := p
    simp only [List.length_cons] at hroom
    have RR : AbsT hash t kvs := ⟨R, Or.inl (by omega)⟩
    obtain ⟨t1, e1, n1, r1⟩ := setMove_rep0 cfg hge hash t _ R (by omega) k ((⟨next, k⟩ : Tok), (⟨next + 1, v⟩ : Tok))
    obtain ⟨si, sr, su, -⟩ := tableSet_events next kvs k v
    have r1' := r1.perm (spec_set_tableSet RR.keys_nodup next k v)
    have hni : t1.nitems ≤ t.nitems + 1 := by
      have h1 := r1'.len; have h2 := R.len; have h3 := length_tableSet next kvs k v
      simp only [List.length_map] at h1 h2
      omega
    obtain ⟨r, e, ⟨hrep, hn, hb⟩, hi, hr, hu, ho⟩ := ih (next + 2) t1 _ r1' (by rw [n1]; omega)
    have he : tableFillC cfg hash next t ((k, v) :: ps) =
        .ok (Res.mk r.val (⟨next, k⟩ :: ⟨next + 1, v⟩ :: r.issued)
          (retiredOf ((takeFirst (keyIs k) kvs).map Prod.fst) ++ r.retired) r.updated .ok) := by
      simp only [tableFillC, resident_abs RR k, e1, e]
    refine ⟨_, he, ?_⟩
    simp only [mapSetMany, mapSet, si, List.length_cons, List.length_nil]
    refine ⟨⟨hrep, by rw [hn, n1], by dsimp only; omega⟩, ?_, ?_, ?_, ?_⟩
    · simp only [hi]; rfl
    · simp only [sr]; exact hr.append_left _
    · simp only [su, hu]; rfl
    · rfl

/-- `Table_New` with initial pairs = `mapSetMany .table` from the empty map, and the new table has its spare slot -/
theorem tableNewC_refines (g : GoodCfg cfg) (next : Nat) (ps : List (Nat × Nat)) :
    ∃ r, tableNewC cfg hash next ps = .ok r ∧ ResRel (AbsT hash) r (mapSetMany .table next [] ps) := by
  have hid := g.ideal_gt ps.length
  obtain ⟨r, e, h⟩ := tableFillC_refines (hash := hash) g.strict ps next (Tab.empty (cfg.ideal ps.length)) []
    (rep_empty hash _ (by omega)).toRep0 (by simp only [Tab.empty]; omega)
  refine ⟨r, by simp only [tableNewC, if_neg (show ¬ cfg.ideal ps.length = 0 by omega), e], h.mono ?_⟩
  rintro ⟨h1, h2, h3⟩
  exact ⟨h1, Or.inl (by simp only [Tab.empty] at h2 h3; omega)⟩

theorem tableAssignC_refines (g : GoodCfg cfg) {t : CTab} {kvs : List KV} (R : AbsT hash t kvs) (next : Nat) (src : List KV) :
    ∃ r, tableAssignC cfg hash next t (pays src) = .ok r ∧ ResRel (AbsT hash) r (mapAssign .table next kvs src) := by
  obtain ⟨r, e, h1, h2, h3, h4, h5⟩ := tableNewC_refines (hash := hash) g next (pays src)
  refine ⟨{ r with retired := tabToks t ++ r.retired }, by simp only [tableAssignC, e], ?_⟩
  simp only [mapAssign]
  exact ⟨h1, h2, (tabToks_perm R).append h3, h4, h5.trans (mapSetMany_out _ _ _ _)⟩

theorem tableStepC_refines (g : GoodCfg cfg) {t : CTab} {kvs : List KV} (R : AbsT hash t kvs) (next : Nat) (op : MOp) :
    ∃ r, tableStepC cfg hash next t op = .ok r ∧ ResRel (AbsT hash) r (absStep .table next kvs op) := by
  cases op with
  | set k v => exact tableSetC_refines g R next k v
  | rem k => exact tableRemC_refines g R k
  | resize n => exact tableResizeC_refines g R n
  | assign src => exact tableAssignC_refines g R next src

theorem tableRunC_refines (g : GoodCfg cfg) : ∀ (ops : List MOp) (next : Nat) (t : CTab) (kvs : List KV), AbsT hash t kvs →
    ∃ rs, tableRunC cfg hash next t ops = .ok rs ∧ List.Forall₂ (ResRel (AbsT hash)) rs (absRun .table next kvs ops) := by
  intro ops
  induction ops with
  | nil => intro next t kvs _; exact ⟨[], rfl, List.Forall₂.nil⟩
  | cons op ops ih =>
    intro next t kvs R
    obtain ⟨r, e, h⟩ := tableStepC_refines g R next op
    obtain ⟨rs, e2, h2⟩ := ih (next + r.issued.length) r.val _ h.1
    refine ⟨r :: rs, by simp only [tableRunC, e, e2], ?_⟩
    simp only [absRun]
    rw [← h.2.1]
    exact List.Forall₂.cons h h2

end table

section tree
open Cello.RB Std

instance : OrientedCmp tokCmp :=
  ⟨fun {a b} => by unfold tokCmp; exact OrientedCmp.eq_swap (cmp := (compare : Nat → Nat → Ordering))⟩
instance : TransCmp tokCmp :=
  ⟨fun {a b c} h1 h2 => by
    unfold tokCmp at *; exact TransCmp.isLE_trans (cmp := (compare : Nat → Nat → Ordering)) h1 h2⟩
/-- reading back the two words of a probe element gives the element: the predecessor `memcpy` carries the identity -/
instance : LawfulPacked Tok := ⟨fun x => by cases x; simp [Packed.words, Packed.ofWords]⟩

theorem tokCmp_eq {a b : Tok} : tokCmp a b = .eq ↔ a.pay = b.pay := by unfold tokCmp; exact _root_.compare_eq_iff_eq
theorem tokCmp_lt {a b : Tok} : tokCmp a b = .lt ↔ a.pay < b.pay := by unfold tokCmp; exact _root_.compare_lt_iff_lt
theorem tokCmp_gt {a b : Tok} : tokCmp a b = .gt ↔ a.pay > b.pay := by unfold tokCmp; exact _root_.compare_gt_iff_gt

theorem fits_probe (a b : Tok) : Fits (probeSize, probeSize) (a, b) := ⟨rfl, rfl⟩

/-- the tree `m` is a valid red-black tree (black root, no red-red, equal black heights, strictly descending keys,
    `nitems` = number of nodes, node payloads of the Tree's sizes) over probe elements and holds exactly the pairs `kvs` -/
def AbsR (m : CTree) (kvs : List KV) : Prop :=
  Valid tokCmp m ∧ m.sizes = (probeSize, probeSize) ∧ treeKVs m ~ kvs

theorem absR_empty : AbsR treeEmpty [] := ⟨valid_mk0 _ _, rfl, Perm.refl _⟩

theorem treeToks_perm {m : CTree} {kvs : List KV} (R : AbsR m kvs) : treeToks m ~ kvToks kvs := kvToks_perm R.2.2

theorem desc_keys_nodup {l : List KV} (h : Desc tokCmp l) : (keys l).Nodup := by
  unfold keys
  rw [List.Nodup, List.pairwise_map]
  exact h.imp (fun {a b} hab => by have := tokCmp_gt.mp hab; omega)

theorem AbsR.keys_nodup {m : CTree} {kvs : List KV} (R : AbsR m kvs) : (keys kvs).Nodup :=
  (keys_perm R.2.2).nodup_iff.mp (desc_keys_nodup R.1.ordered)

theorem spec_absent (l : List KV) (q v : Tok) (hk : ∀ x ∈ l, x.1.pay ≠ q.pay) :
    Spec.get tokCmp q l = none ∧ Spec.set tokCmp q v l ~ (q, v) :: l ∧ Spec.rem tokCmp q l = l := by
  have hne : ∀ x ∈ l, tokCmp x.1 q ≠ .eq := fun x hx h => hk x hx (tokCmp_eq.mp h)
  refine ⟨Spec.get_none_of_ne q l hne, ?_, Spec.rem_of_ne q l hne⟩
  induction l with
  | nil => exact Perm.refl _
  | cons x l ih =>
    obtain ⟨xk, xv⟩ := x
    simp only [Spec.set]
    cases hc : tokCmp xk q with
    | eq => exact absurd hc (hne (xk, xv) (by simp))
    | lt => exact Perm.refl _
    | gt => exact ((ih (fun y hy => hk y (by simp [hy])) (fun y hy => hne y (by simp [hy]))).cons _).trans (Perm.swap _ _ _)

/-- when the abstract step finds no pair, the tree's in-order sequence holds none with the key's payload -/
theorem absent_keys {l kvs : List KV} {k : Nat} (hp : l ~ kvs) (hq : takeFirst (keyIs k) kvs = none) :
    ∀ x ∈ l, x.1.pay ≠ k :=
  fun x hx hxk => takeKey_none hq (List.mem_map.mpr ⟨x, hp.mem_iff.mp hx, hxk⟩)

/-- where the pair the abstract step takes out stands in the tree's in-order sequence -/
theorem present_split {l kvs rest : List KV} {old : KV} {k : Nat} (hp : l ~ kvs)
    (hq : takeFirst (keyIs k) kvs = some (old, rest)) :
    ∃ A B, l = A ++ old :: B ∧ A ++ B ~ rest ∧ old.1.pay = k := by
  obtain ⟨hpk, hk⟩ := takeKey_some hq
  obtain ⟨A, B, rfl⟩ := List.append_of_mem ((hp.trans hpk).mem_iff.mpr List.mem_cons_self)
  exact ⟨A, B, rfl, (perm_middle.symm.trans (hp.trans hpk)).cons_inv, hk⟩

/-- the in-order list split at the pair with the key's payload: get / set / rem are C03's `_mid` lemmas at an equal key -/
theorem spec_present {A B : List KV} {old : KV} (hd : Desc tokCmp (A ++ old :: B)) (q v : Tok)
    (hq : old.1.pay = q.pay) :
    Spec.getKV tokCmp q (A ++ old :: B) = some old ∧ Spec.set tokCmp q v (A ++ old :: B) = A ++ (q, v) :: B ∧
      Spec.rem tokCmp q (A ++ old :: B) = A ++ B := by
  have he : tokCmp old.1 q = .eq := tokCmp_eq.mpr hq
  refine ⟨?_, ?_, ?_⟩
  · rw [Spec.getKV_mid hd, he]
  · rw [Spec.set_mid hd, he]
  · rw [Spec.rem_mid hd, he]

/-- the descent of Cello/OwnConc.lean is the descent of the red-black model under the payload order -/
theorem findKV_eq (t : T Tok Tok) (k : Nat) : findKV t k = RB.findKV tokCmp t (argTok k) := by
  induction t with
  | nil => rfl
  | node c l nk nv r ihl ihr =>
    simp only [findKV, RB.findKV, ihl, ihr]
    rfl

/-- the descent finds the pair the abstract step takes out -/
theorem findKV_abs {m : CTree} {kvs : List KV} (R : AbsR m kvs) (k : Nat) :
    findKV m.root k = (takeFirst (keyIs k) kvs).map Prod.fst := by
  rw [findKV_eq, findKV_eq_getKV _ _ R.1.ordered]
  cases hq : takeFirst (keyIs k) kvs with
  | none =>
    exact Spec.getKV_none_of_ne _ _ fun b hb he => absent_keys R.2.2 hq b hb (tokCmp_eq.mp he)
  | some q =>
    obtain ⟨old, rest⟩ := q
    obtain ⟨A, B, (hl : toList m.root = A ++ old :: B), -, hk⟩ := present_split R.2.2 hq
    have hd := R.1.ordered
    rw [hl] at hd ⊢
    exact (spec_present hd (argTok k) (argTok k) hk).1

theorem treeSetC_refines (hsrc : SourceOk) {m : CTree} {kvs : List KV} (R : AbsR m kvs) (next k v : Nat) :
    ∃ r, treeSetC next m k v = some r ∧ ResRel AbsR r (treeSet next kvs k v) := by
  have hf := findKV_abs R k
  obtain ⟨hv, hs, hp⟩ := R
  simp only [treeSet]
  cases hq : takeFirst (keyIs k) kvs with
  | none =>
    rw [hq] at hf
    obtain ⟨m', e, hv', ha, hs'⟩ := set_valid (cmp := tokCmp) hsrc m ⟨next, k⟩ ⟨next + 1, v⟩ hv (by rw [hs]; exact fits_probe _ _)
    have he : treeSetC next m k v = some (Res.mk m' [⟨next, k⟩, ⟨next + 1, v⟩] [] [] .ok) := by
      simp only [treeSetC, hf, Option.map, e]
    refine ⟨_, he, ⟨hv', by rw [hs', hs], ?_⟩, rfl, Perm.refl _, rfl, rfl⟩
    show toList m'.root ~ _
    have := (spec_absent (toList m.root) ⟨next, k⟩ ⟨next + 1, v⟩ (absent_keys hp hq)).2.1
    rw [show toList m'.root = Spec.set tokCmp ⟨next, k⟩ ⟨next + 1, v⟩ (toList m.root) from ha]
    exact this.trans ((hp.cons _).trans (mapInsert_perm _ kvs).symm)
  | some q =>
    obtain ⟨old, rest⟩ := q
    rw [hq] at hf
    obtain ⟨A, B, hl, hAB, hk⟩ := present_split hp hq
    obtain ⟨m', e, hv', ha, hs'⟩ := set_valid (cmp := tokCmp) hsrc m (assignProbe next old.1 k).val
      (assignProbe (next + (assignProbe next old.1 k).issued.length) old.2 v).val hv (by rw [hs]; exact fits_probe _ _)
    refine ⟨_, by simp only [treeSetC, hf, Option.map, e]; rfl, ⟨hv', by rw [hs', hs], ?_⟩, rfl, Perm.refl _, rfl, rfl⟩
    have hd : Desc tokCmp (A ++ old :: B) := hl ▸ hv.ordered
    rw [show m.abs = A ++ old :: B from hl, (spec_present hd _ _ (by rw [assignProbe_pay, hk])).2.1] at ha
    show m'.abs ~ _
    rw [ha]
    exact perm_middle.trans ((hAB.cons _).trans (mapInsert_perm _ rest).symm)

theorem treeRemC_refines (hsrc : SourceOk) {m : CTree} {kvs : List KV} (R : AbsR m kvs) (k : Nat) :
    ∃ r, treeRemC m k = some r ∧ ResRel AbsR r (mapRem kvs k) := by
  have hf := findKV_abs R k
  obtain ⟨hv, hs, hp⟩ := R
  obtain ⟨m', o, e, hv', hs', hcase⟩ := rem_valid (cmp := tokCmp) hsrc m (argTok k) hv
  cases hq : takeFirst (keyIs k) kvs with
  | none =>
    simp only [mapRem, hq]
    have hg := (spec_absent (toList m.root) (argTok k) (argTok k) (absent_keys hp hq)).1
    rcases hcase with ⟨_, hm, ho⟩ | ⟨h1, _, _⟩
    · rw [hm, ho] at e
      have he : treeRemC m k = some (Res.mk m [] [] [] (.raised .keyError)) := by simp only [treeRemC, e]
      exact ⟨_, he, ⟨hv, hs, hp⟩, rfl, Perm.refl _, rfl, rfl⟩
    · rw [show m.abs = toList m.root from rfl, hg] at h1; simp at h1
  | some q =>
    obtain ⟨old, rest⟩ := q
    simp only [mapRem, hq]
    rw [hq] at hf
    obtain ⟨A, B, hl, hAB, hk⟩ := present_split hp hq
    have hd : Desc tokCmp (A ++ old :: B) := hl ▸ hv.ordered
    obtain ⟨g1, -, g3⟩ := spec_present hd (argTok k) (argTok k) hk
    rw [show m.abs = A ++ old :: B from hl, Spec.get_eq_getKV, g1, g3] at hcase
    rcases hcase with ⟨h1, _, _⟩ | ⟨_, ho, ha⟩
    · simp at h1
    · rw [ho] at e
      have he : treeRemC m k = some (Res.mk m' [] (retiredOf (some old)) [] .ok) := by
        simp only [treeRemC, e, hf, Option.map]
      exact ⟨_, he, ⟨hv', by rw [hs', hs], by show m'.abs ~ _; rw [ha]; exact hAB⟩, rfl, by simp [retiredOf], rfl, rfl⟩

theorem treeResizeC_refines {m : CTree} {kvs : List KV} (R : AbsR m kvs) (n : Nat) :
    ResRel AbsR (treeResizeC m n) (mapResize .tree kvs n) := by
  unfold treeResizeC mapResize
  by_cases h0 : n = 0
  · simp only [h0, if_true, mapClear]
    obtain ⟨h1, h2, h3⟩ := clear_valid (cmp := tokCmp) m
    exact ⟨⟨h1, by rw [h3, R.2.1], by show toList m.clear.root ~ _; rw [show toList m.clear.root = m.clear.abs from rfl, h2]⟩,
      rfl, treeToks_perm R, rfl, rfl⟩
  · simp only [h0, if_false]
    exact ⟨R, rfl, Perm.refl _, rfl, rfl⟩

theorem setFix_moves (t : T Tok Tok) (p : Path Tok Tok) (t' : T Tok Tok) (h : setFix t p = some t') :
    toList t' = toList (plug t p) := by rw [toList_setFix _ _ _ h, toList_plug]

theorem remFix_moves (p p' : Path Tok Tok) (h : remFix p = some p') (t : T Tok Tok) :
    toList (plug t p') = toList (plug t p) := by
  rw [toList_plug, toList_plug, (ctx_remFix p p' h).1, (ctx_remFix p p' h).2]

theorem relocate_moves (hl : LayoutOk) (hdr : Nat) (dst src : KV) : relocate (⟨hdr, 2, 2⟩ : Lay) dst src = some src :=
  relocate_fits hl _ _ _ ⟨rfl, rfl⟩

theorem treeFillC_refines (hsrc : SourceOk) : ∀ (ps : List (Nat × Nat)) (next : Nat) (m : CTree) (kvs : List KV), AbsR m kvs →
    ∃ r, treeFillC next m ps = some r ∧ ResRel AbsR r (mapSetMany .tree next kvs ps) := by
  intro ps
  induction ps with
  | nil => intro next m kvs R; exact ⟨_, rfl, R, rfl, Perm.refl _, rfl, rfl⟩
  | cons p ps ih =>
    intro next m kvs R
    obtain ⟨k, v⟩ := p
    obtain ⟨r1, e1, g1, g2, g3, g4, g5⟩ := treeSetC_refines hsrc R next k v
    obtain ⟨r2, e2, f1, f2, f3, f4, f5⟩ := ih (next + r1.issued.length) r1.val _ g1
    refine ⟨Res.mk r2.val (r1.issued ++ r2.issued) (r1.retired ++ r2.retired) (r1.updated ++ r2.updated) .ok,
      by simp only [treeFillC, e1, e2], ?_⟩
    simp only [mapSetMany, mapSet]
    rw [← g2]
    exact ⟨f1, by rw [f2], g3.append f3, by rw [g4, f4], rfl⟩

theorem treeAssignC_refines (hsrc : SourceOk) {m : CTree} {kvs : List KV} (R : AbsR m kvs) (next : Nat) (src : List KV) :
    ∃ r, treeAssignC next m (pays src) = some r ∧ ResRel AbsR r (mapAssign .tree next kvs src) := by
  obtain ⟨r, e, h1, h2, h3, h4, h5⟩ := treeFillC_refines hsrc (pays src) next treeEmpty [] absR_empty
  refine ⟨{ r with retired := treeToks m ++ r.retired }, by simp only [treeAssignC, e, Option.map], ?_⟩
  simp only [mapAssign]
  exact ⟨h1, h2, (treeToks_perm R).append h3, h4, h5.trans (mapSetMany_out _ _ _ _)⟩

theorem treeStepC_refines (hsrc : SourceOk) {m : CTree} {kvs : List KV} (R : AbsR m kvs) (next : Nat) (op : MOp) :
    ∃ r, treeStepC next m op = some r ∧ ResRel AbsR r (absStep .tree next kvs op) := by
  cases op with
  | set k v => exact treeSetC_refines hsrc R next k v
  | rem k => exact treeRemC_refines hsrc R k
  | resize n => exact ⟨_, rfl, treeResizeC_refines R n⟩
  | assign src => exact treeAssignC_refines hsrc R next src

theorem treeRunC_refines (hsrc : SourceOk) : ∀ (ops : List MOp) (next : Nat) (m : CTree) (kvs : List KV), AbsR m kvs →
    ∃ rs, treeRunC next m ops = some rs ∧ List.Forall₂ (ResRel AbsR) rs (absRun .tree next kvs ops) := by
  intro ops
  induction ops with
  | nil => intro next m kvs _; exact ⟨[], rfl, List.Forall₂.nil⟩
  | cons op ops ih =>
    intro next m kvs R
    obtain ⟨r, e, h⟩ := treeStepC_refines hsrc R next op
    obtain ⟨rs, e2, h2⟩ := ih (next + r.issued.length) r.val _ h.1
    refine ⟨r :: rs, by simp only [treeRunC, e, e2], ?_⟩
    simp only [absRun]
    rw [← h.2.1]
    exact List.Forall₂.cons h h2

end tree

end Cello.Own.Conc
