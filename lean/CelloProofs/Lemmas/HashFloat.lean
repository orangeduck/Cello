/-
  Lemmas for C10, Float: the plain sign-of-difference program `exactStmts` / `exactRet` (which the extracted `Float_Cmp` is,
  `C10_float_cmp_source_is_sign_of_difference`) under `SubSign`; the exact value of a double
  against its position key (from engine C09's lemmas on the same bit layout); `SubSign` for the exact IEEE-754 arithmetic `sfOps`.
-/
import Cello.Hash
import CelloProofs.Lemmas.HashVal
import CelloProofs.Lemmas.CmpFloat

namespace Cello.Hash

theorem progCmp_exact_unfold (ops : FOps) (a b : UInt64) :
    progCmp ops exactStmts exactRet a b =
      if ops.lt 0 (ops.sub a b) = true then 1 else if ops.lt (ops.sub a b) 0 = true then -1 else 0 := by
  simp [progCmp, exactStmts, exactRet, runStmts, evalRet, evalC, evalE, setLoc]

theorem progCmp_exact (ops : FOps) (h : SubSign ops) (a b : UInt64) :
    progCmp ops exactStmts exactRet a b = floatCmp a b := by
  rw [progCmp_exact_unfold]
  unfold floatCmp
  by_cases hn : (floatIsNaN a || floatIsNaN b) = true
  · obtain ⟨h1, h2⟩ := h.nan a b hn
    simp [h1, h2, hn]
  · obtain ⟨ha, hb⟩ : floatIsNaN a = false ∧ floatIsNaN b = false := by simpa using hn
    simp only [ha, hb, h.pos a b ha hb, h.neg a b ha hb, Bool.or_self, Bool.false_eq_true, if_false, GT.gt]

/-! `floatVal` is the function `fval` of engine C09 (Cello/Cmp.lean) as `floatKey` is its `fkey` (HashVal.lean); the order facts
  are proved there (CelloProofs/Lemmas/CmpFloat.lean) and carried over. -/

open Cello.Cmp (fval fmag fmagOf fExp fMant low63)

theorem magVal_eq_fmagOf (m : Nat) : magVal m = fmagOf (m / 2 ^ 52) (m % 2 ^ 52) := rfl

theorem floatVal_eq_fval (b : UInt64) : floatVal b = fval b := by
  obtain ⟨e, hm⟩ := Cello.Cmp.low63_fields b
  have : magVal (low63 b) = fmag b := by
    rw [magVal_eq_fmagOf, fmag, show low63 b / 2 ^ 52 = fExp b by omega, show low63 b % 2 ^ 52 = fMant b by omega]
  rw [floatVal, floatNeg_eq_fNeg, floatMag_eq_low63, this]; rfl

/-- the position key orders the doubles as their exact values do (for every bit pattern; NaN patterns read as values beyond
    the infinities) -/
theorem floatKey_lt_iff_floatVal_lt (a b : UInt64) : floatKey a < floatKey b ↔ floatVal a < floatVal b := by
  rw [floatKey_eq_fkey, floatKey_eq_fkey, floatVal_eq_fval, floatVal_eq_fval]
  exact (Cello.Cmp.fval_lt_iff_fkey_lt a b).symm

theorem floatCmp_eq_sign_exact (a b : UInt64) (ha : floatIsNaN a = false) (hb : floatIsNaN b = false) :
    floatCmp a b = if floatVal a - floatVal b > 0 then 1 else if floatVal a - floatVal b < 0 then -1 else 0 := by
  unfold floatCmp
  simp only [ha, hb, Bool.or_self, Bool.false_eq_true, if_false, GT.gt, floatKey_lt_iff_floatVal_lt, Int.sub_pos,
    show floatVal a - floatVal b < 0 ↔ floatVal a < floatVal b from ⟨Int.lt_of_sub_neg, Int.sub_neg_of_lt⟩]

theorem floatKey_def (x : UInt64) : floatKey x = if floatNeg x then - (floatMag x : Int) else (floatMag x : Int) := rfl
theorem floatIsNaN_def (x : UInt64) : floatIsNaN x = decide (floatMag x > infMag) := rfl
theorem floatIsInf_def (x : UInt64) : floatIsInf x = (floatMag x == infMag) := rfl

theorem natAbs_floatKey (x : UInt64) : (floatKey x).natAbs = floatMag x := by
  rw [floatKey_def]; split <;> simp

theorem floatKey_zero : floatKey 0 = 0 := by decide
theorem floatIsNaN_zero : floatIsNaN 0 = false := by decide

theorem infMag_lt : infMag < 2 ^ 63 := by decide

theorem toNat_mkBits (neg : Bool) (mag : Nat) (h : mag < 2 ^ 63) :
    (mkBits neg mag).toNat = (if neg then 2 ^ 63 else 0) + mag := by
  unfold mkBits
  rw [UInt64.toNat_ofNat']
  cases neg <;> simp <;> omega

theorem floatMag_mkBits (neg : Bool) (mag : Nat) (h : mag < 2 ^ 63) : floatMag (mkBits neg mag) = mag := by
  unfold floatMag; rw [toNat_mkBits neg mag h]; cases neg <;> simp <;> omega

theorem floatNeg_mkBits (neg : Bool) (mag : Nat) (h : mag < 2 ^ 63) : floatNeg (mkBits neg mag) = neg := by
  unfold floatNeg; rw [toNat_mkBits neg mag h]; cases neg <;> simp <;> omega

theorem floatKey_mkBits (neg : Bool) (mag : Nat) (h : mag < 2 ^ 63) :
    floatKey (mkBits neg mag) = if neg then - (mag : Int) else (mag : Int) := by
  rw [floatKey_def, floatMag_mkBits _ _ h, floatNeg_mkBits _ _ h]

theorem floatIsNaN_mkBits (neg : Bool) (mag : Nat) (h : mag ≤ infMag) : floatIsNaN (mkBits neg mag) = false := by
  rw [floatIsNaN_def, floatMag_mkBits _ _ (Nat.lt_of_le_of_lt h infMag_lt)]; simpa using h

theorem clampInf_le (x : Nat) : (if infMag ≤ x then infMag else x) ≤ infMag := by split <;> omega
theorem clampInf_pos (x : Nat) (h : 0 < x) : 0 < (if infMag ≤ x then infMag else x) := by
  split
  · decide
  · exact h

theorem roundQ_le (n s : Nat) : roundQ n s ≤ infMag := clampInf_le _

theorem roundQ_pos (n : Nat) (h : 0 < n) : 0 < roundQ n 0 := by
  unfold roundQ
  apply clampInf_pos
  simp only [Nat.zero_max, Nat.sub_zero]
  by_cases ht : Nat.log2 n - 52 = 0
  · rw [ht]; simpa using h
  · have h52 : 0 < 2 ^ 52 := by decide
    have : 0 < (Nat.log2 n - 52) * 2 ^ 52 := Nat.mul_pos (by omega) h52
    generalize (Nat.log2 n - 52) * 2 ^ 52 = x at this ⊢
    generalize n / 2 ^ (Nat.log2 n - 52) = q
    split <;> omega

theorem order_of_extreme {ka kb : Int} {I : Nat} (ha : ka.natAbs = I) (hb : kb.natAbs ≤ I) (hne : ka ≠ kb) :
    (0 < ka ↔ kb < ka) ∧ (ka < 0 ↔ ka < kb) := by omega

/-- the sign of `sfSub a b` for non-NaN operands: NaN only for ∞ − ∞ (equal keys); otherwise positive / negative exactly when `a`
    lies above / below `b` -/
theorem sfSub_key (a b : UInt64) (ha : floatIsNaN a = false) (hb : floatIsNaN b = false) :
    (floatIsNaN (sfSub a b) = true ∧ floatKey a = floatKey b) ∨
    (floatIsNaN (sfSub a b) = false ∧ (0 < floatKey (sfSub a b) ↔ floatKey b < floatKey a) ∧
      (floatKey (sfSub a b) < 0 ↔ floatKey a < floatKey b)) := by
  have hma : (floatKey a).natAbs ≤ infMag := by rw [natAbs_floatKey]; rw [floatIsNaN_def] at ha; simpa using ha
  have hmb : (floatKey b).natAbs ≤ infMag := by rw [natAbs_floatKey]; rw [floatIsNaN_def] at hb; simpa using hb
  unfold sfSub
  simp only [ha, hb, Bool.or_self, Bool.false_eq_true, if_false, floatIsInf_def, beq_iff_eq]
  by_cases hia : floatMag a = infMag
  · simp only [hia, if_true]
    by_cases hc : floatMag b = infMag ∧ floatNeg a = floatNeg b
    · -- ∞ − ∞ of one sign
      simp only [hc, Bool.and_self, beq_self_eq_true, if_true]
      exact .inl ⟨by decide, by rw [floatKey_def, floatKey_def, hia, hc.1, hc.2]⟩
    · -- `a` infinite and `b` another value: the difference is `a`
      have hne : floatKey a ≠ floatKey b := fun e => by
        -- an infinity does not stand at 0, so the two are one pattern
        have hz : floatKey a ≠ 0 := fun h0 => by have := natAbs_floatKey a; rw [h0, hia] at this; exact absurd this (by decide)
        obtain rfl := floatKey_inj e hz
        exact hc ⟨hia, rfl⟩
      have : (floatMag b == infMag && floatNeg a == floatNeg b) = false := by rw [Bool.eq_false_iff]; simpa using hc
      simp only [this, Bool.false_eq_true, if_false]
      exact .inr ⟨ha, order_of_extreme ((natAbs_floatKey a).trans hia) hmb hne⟩
  · simp only [hia, if_false]
    by_cases hib : floatMag b = infMag
    · -- `b` infinite: the difference is the infinity of the other sign
      simp only [hib, if_true]
      have hk : floatKey (mkBits (!floatNeg b) infMag) = - floatKey b := by
        rw [floatKey_mkBits _ _ infMag_lt, floatKey_def b, hib]; cases floatNeg b <;> simp
      have hne : floatKey b ≠ floatKey a := fun e => hia (by rw [← natAbs_floatKey, ← e, natAbs_floatKey, hib])
      have := order_of_extreme ((natAbs_floatKey b).trans hib) hma hne
      exact .inr ⟨floatIsNaN_mkBits _ _ (Nat.le_refl _), by rw [hk]; clear hma hmb; omega⟩
    · simp only [hib, if_false]
      clear hma hmb
      have h1 := floatKey_lt_iff_floatVal_lt a b
      have h2 := floatKey_lt_iff_floatVal_lt b a
      by_cases hd : floatVal a - floatVal b = 0
      · -- equal values: a zero
        simp only [hd, if_true]
        have hz : ∀ x : UInt64, (x = mkBits true 0 ∨ x = 0) → floatIsNaN x = false ∧ floatKey x = 0 := by
          intro x hx; rcases hx with rfl | rfl <;> decide
        obtain ⟨z1, z2⟩ := hz (if (floatNeg a && !floatNeg b) = true then mkBits true 0 else 0) (by split <;> simp)
        exact .inr ⟨z1, by rw [z2]; omega⟩
      · -- the rounded difference keeps the sign of the exact one and is not 0
        simp only [hd, if_false]
        have hr := roundQ_le (floatVal a - floatVal b).natAbs 0
        have hp := roundQ_pos (floatVal a - floatVal b).natAbs (by omega)
        refine .inr ⟨floatIsNaN_mkBits _ _ hr, ?_⟩
        rw [floatKey_mkBits _ _ (Nat.lt_of_le_of_lt hr infMag_lt)]
        clear hr
        by_cases hneg : floatVal a - floatVal b < 0
        · simp only [hneg, decide_true, if_true]; omega
        · simp only [hneg, decide_false, Bool.false_eq_true, if_false]; omega

theorem subSign_sfOps : SubSign sfOps where
  pos a b ha hb := by
    show sfLt 0 (sfSub a b) = true ↔ _
    unfold sfLt
    rw [floatIsNaN_zero, floatKey_zero]
    rcases sfSub_key a b ha hb with ⟨h1, h2⟩ | ⟨h1, h2, h3⟩
    · simp [h1]; omega
    · simp [h1, h2]
  neg a b ha hb := by
    show sfLt (sfSub a b) 0 = true ↔ _
    unfold sfLt
    rw [floatIsNaN_zero, floatKey_zero]
    rcases sfSub_key a b ha hb with ⟨h1, h2⟩ | ⟨h1, h2, h3⟩
    · simp [h1]; omega
    · simp [h1, h3]
  nan a b h := by
    have : sfSub a b = sfNaN := by unfold sfSub; simp [h]
    show sfLt 0 (sfSub a b) = false ∧ sfLt (sfSub a b) 0 = false
    rw [this]; decide

end Cello.Hash
