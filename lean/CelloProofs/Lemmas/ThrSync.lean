/-
  C13 (threads), the wrappers as translation ∘ primitive: `syncStep` (Cello/ThreadsSync.lean: flag test, pthread primitive,
  extracted translation table) is the holder / phase machine `step` whenever the tables agree with the model on the return
  values the primitives can produce (`syncStep_eq_step`); and the readers of the extracted error tables that Props/C13
  compares the model's translations with (`tableTr`, `tableTry`).
-/
import Cello.ThreadsSync

namespace Cello.Thr

/-- what `syncStep` needs to know about a set of tables to be the holder / phase machine `step`: their entries for 0,
    EBUSY and EDEADLK, the only values `pmLock`, `pmTrylock`, `pmUnlock`, `pJoin` return -/
structure TabsAgree (cfg : Cfg) (tabs : SyncTabs) : Prop where
  lock0 : trTable tabs.lock .zero = none
  try0 : tryTable tabs.trylock tabs.tryDefault .zero = .val true
  tryBusy : tryTable tabs.trylock tabs.tryDefault .ebusy = .val false
  unlock0 : trTable tabs.unlock .zero = none
  join0 : trTable tabs.join .zero = none
  joinDeadlk : trTable tabs.join .edeadlk = joinTrOf cfg .edeadlk

theorem syncStep_eq_step (cfg : Cfg) (tabs : SyncTabs) (h : TabsAgree cfg tabs) (g : G) (e : Ev) (r : G × Out)
    (hs : syncStep tabs g e = some r) : step cfg g e = r := by
  -- per event: the guards of `step` and `syncStep` are the same tests, and under each the primitive returns one value,
  -- whose table entry is a field of `h`
  cases e with
  | lock t m =>
    cases hs
    dsimp only [step, syncStep, pmLock]
    cases running g t
    · rfl
    · cases hh : g.holder m <;> simp [h.lock0, acquireIf]
  | trylock t m =>
    cases hs
    dsimp only [step, syncStep, pmTrylock]
    cases running g t
    · rfl
    · cases hh : g.holder m <;> simp [h.try0, h.tryBusy, acquireIf]
  | unlock t m =>
    cases hs
    dsimp only [step, syncStep, pmUnlock]
    cases running g t
    · rfl
    · by_cases hh : g.holder m = some t <;> simp [hh, h.unlock0]
  | join t u =>
    cases hs
    dsimp only [step, syncStep]
    cases hr : running g t
    · rfl
    · cases hw : wrapperGone g u
      · by_cases htu : t = u
        · subst htu
          have hph : (g.thr t).phase = .running := by simpa [running] using hr
          have hjd := h.joinDeadlk
          cases hx : joinTrOf cfg .edeadlk <;> rw [hx] at hjd <;> simp [raiseIn, hph, hjd, pJoin, threadField]
        · cases hp : (g.thr u).phase with
          | done => cases hj : g.joined u <;> simp [htu, hp, pJoin, threadField, h.join0]
          | _ => simp [htu, hp, pJoin, threadField]
      · rfl
  | _ => cases hs

def Errno.name : Errno → String
  | .zero => "0" | .einval => "EINVAL" | .edeadlk => "EDEADLK" | .ebusy => "EBUSY" | .eperm => "EPERM"
  | .esrch => "ESRCH" | .eagain => "EAGAIN"

def excOfName : String → Option Exc
  | "ValueError" => some .valueError | "ResourceError" => some .resourceError | "KeyError" => some .keyError
  | "OutOfMemoryError" => some .outOfMemoryError | "BusyError" => some .busyError | _ => none

/-- what a table `[(errno, exception)]` extracted from the source does with error code `e` -/
def tableTr (tab : List (String × String)) (e : Errno) : Option Exc := (tab.lookup e.name).bind excOfName

/-- what the extracted table of a `bool` wrapper (`Mutex_Trylock`) does with error code `e`: return a Bool (entry `"true"` / `"false"`),
    raise the named exception, or, for a code without entry, return `dflt`; `none` when the table names anything else -/
def tableTry (tab : List (String × String)) (dflt : String) (e : Errno) : Option (Except Exc Bool) :=
  match tab.lookup e.name with
  | some "false" => some (.ok false)
  | some "true" => some (.ok true)
  | some x => (excOfName x).map .error
  | none => if dflt = "true" then some (.ok true) else if dflt = "false" then some (.ok false) else none

/-- `tableTr` (with `Errno.name`, `excOfName`) is `trTable` (`Errno.cname`, `excNamed`) of Cello/ThreadsSync.lean, which the driver runs -/
theorem trTable_eq_tableTr (tab : List (String × String)) (e : Errno) : trTable tab e = tableTr tab e := by
  have h1 : e.cname = e.name := by cases e <;> rfl
  have h2 : excNamed = excOfName := by funext s; rfl
  simp [trTable, tableTr, h1, h2]

end Cello.Thr
