/-
  An abstract Tuple step that does not store a pointer that is already in the Tuple keeps the stored pointers pairwise
  distinct: `(l.map ident).Nodup`, which is `Tup.Distinct`, the hypothesis of the iteration lemmas of SeqTup, by unfolding.
-/
import CelloProofs.Lemmas.SeqBasic
import CelloProofs.Lemmas.SortSorted

namespace Cello.Seq
variable {α : Type}

/-- the operation does not store a pointer that the sequence already holds (what the harness and the driver enforce) -/
def FreshOp (ident : α → Nat) (l : List α) : Op α → Prop
  | .push x => ident x ∉ l.map ident
  | .append x => ident x ∉ l.map ident
  | .pushAt x _ => ident x ∉ l.map ident
  | .set i x => ∀ k, Spec.idx l.length i = some k → ident x ∉ (l.eraseIdx k).map ident   -- `x` may be the pointer it replaces
  | .concat ys => (ys.map ident).Nodup ∧ ∀ y ∈ ys, ident y ∉ l.map ident
  | .assign ys _ => (ys.map ident).Nodup
  | _ => True

theorem nodup_insert (ident : α → Nat) (l : List α) (k : Nat) (x : α) (hk : k ≤ l.length)
    (hn : (l.map ident).Nodup) (hx : ident x ∉ l.map ident) : ((l.insertIdx k x).map ident).Nodup := by
  rw [← take_cons_drop_eq_insertIdx l k x hk]
  have hp : (l.take k ++ x :: l.drop k).Perm (x :: l) := by
    have := List.perm_middle (a := x) (l₁ := l.take k) (l₂ := l.drop k)
    rwa [List.take_append_drop] at this
  rw [(hp.map ident).nodup_iff, List.map_cons, List.nodup_cons]
  exact ⟨hx, hn⟩

theorem nodup_set (ident : α → Nat) (l : List α) (k : Nat) (x : α) (hk : k < l.length)
    (hn : (l.map ident).Nodup) (hx : ident x ∉ (l.eraseIdx k).map ident) : ((l.set k x).map ident).Nodup := by
  rw [List.set_eq_take_append_cons_drop, if_pos hk]
  have hp : (l.take k ++ x :: l.drop (k + 1)).Perm (x :: (l.take k ++ l.drop (k + 1))) := List.perm_middle
  rw [(hp.map ident).nodup_iff, List.map_cons, List.nodup_cons, ← List.eraseIdx_eq_take_drop_succ]
  exact ⟨hx, ((List.eraseIdx_sublist l k).map ident).nodup hn⟩

theorem tupStep_distinct [BEq α] (ident : α → Nat) (l l' : List α) (op : Op α)
    (hn : (l.map ident).Nodup) (hf : FreshOp ident l op) (h : Spec.tupStep l op = some l') : (l'.map ident).Nodup := by
  cases op with
  | push x =>
    simp [Spec.tupStep] at h; subst h
    have := nodup_insert ident l l.length x (Nat.le_refl _) hn hf
    rwa [List.insertIdx_length_self] at this
  | append x =>
    simp [Spec.tupStep] at h; subst h
    have := nodup_insert ident l l.length x (Nat.le_refl _) hn hf
    rwa [List.insertIdx_length_self] at this
  | pop =>
    simp only [Spec.tupStep] at h
    split at h
    · cases h
    · cases h; exact ((List.dropLast_sublist l).map ident).nodup hn
  | pushAt x i =>
    simp only [Spec.tupStep, Option.map_eq_some_iff] at h
    obtain ⟨k, hk, rfl⟩ := h
    exact nodup_insert ident l k x (Nat.le_of_lt (idx_lt hk)) hn hf
  | popAt i =>
    simp only [Spec.tupStep, Option.map_eq_some_iff] at h
    obtain ⟨k, _, rfl⟩ := h
    exact ((List.eraseIdx_sublist l k).map ident).nodup hn
  | set i x =>
    simp only [Spec.tupStep, Option.map_eq_some_iff] at h
    obtain ⟨k, hk, rfl⟩ := h
    exact nodup_set ident l k x (idx_lt hk) hn (hf k hk)
  | rem x =>
    simp only [Spec.tupStep] at h
    split at h
    · cases h; exact (List.eraseP_sublist.map ident).nodup hn
    · cases h
  | concat ys =>
    simp [Spec.tupStep] at h; subst h
    rw [List.map_append, List.nodup_append]
    refine ⟨hn, hf.1, ?_⟩
    intro a ha b hb hab
    obtain ⟨y, hy, rfl⟩ := List.mem_map.1 hb
    exact hf.2 y hy (hab ▸ ha)
  | resize n =>
    simp only [Spec.tupStep] at h
    split at h
    · cases h; exact ((List.take_sublist n l).map ident).nodup hn
    · cases h
  | sort f =>
    simp [Spec.tupStep] at h; subst h
    exact ((Sort.sortList_perm f l).map ident).nodup_iff.2 hn
  | assign ys b =>
    simp only [Spec.tupStep] at h
    split at h
    · cases h; exact hf
    · cases h

end Cello.Seq
