/-
  Lemmas for C19: a refused operation returns the very same state, because what is written back is what was already there
  (`updBody_self`, `setElemAt_self`).  `del_raw` and `destruct` are left out where they run an unguarded destructor before
  the refusal (known finding KF-C19-delraw-embedded): `delrawTerritory` among whole objects, `Scalar.dtorFrees` among
  embedded ones.
-/
import CelloProofs.Lemmas.HdrRelease
import CelloProofs.Lemmas.HdrMoves

namespace Cello.Hdr

variable {cfg : Config}

/-- **the territory of known finding KF-C19-delraw-embedded among whole objects**: `del_raw` / `destruct` run a destructor
    that is not guarded for the object's allocation class — a Box that points to something (Box_Del has no guard: it deletes
    the pointee and clears the Box), an Array / List / Table / Tree (no guard: the backing store is freed), a String or Tuple
    of class `data` (String_Del / Tuple_Del let that class through).  Everything else — Int, Ref, Type objects, objects of
    run-time types, an empty Box, and every stack or static String or Tuple — is outside. -/
def delrawTerritory (cfg : Config) (o : Obj) : Bool :=
  match o.body with
  | .box (some _) => true
  | .seq _ _ _ => true
  | .map _ _ _ _ => true
  | .scalar (.str _) => o.hdr.alloc == cfg.cData
  | .tuple _ => o.hdr.alloc == cfg.cData
  | _ => false

/-- **the embedded territory of KF-C19-delraw-embedded, exactly**: the destructor of the element frees a block the element
    owns (or touches one it freed before) — a String (its characters: never NULL), a Tuple (its `items`: never NULL), an
    Array that has a backing store, and the three dangling forms.  An **empty** embedded Array is outside: `Array_Del` frees
    a NULL backing store, `dealloc` refuses, the object is intact. -/
def Scalar.dtorFrees : Scalar → Bool
  | .int _ => false
  | .raw _ => false
  | .arr vals => !vals.isEmpty
  | _ => true

theorem map_upd_self (l : List (Nat × Obj)) (id : Nat) (f : Obj → Obj) (h : ∀ p ∈ l, p.1 = id → f p.2 = p.2) :
    l.map (fun p => if p.1 = id then (p.1, f p.2) else p) = l := by
  conv => rhs; rw [← List.map_id l]
  refine List.map_congr_left fun p hp => ?_
  by_cases hpi : p.1 = id
  · rw [if_pos hpi, h p hp hpi]; rfl
  · rw [if_neg hpi]; rfl

theorem updBody_self {s : St} (hw : WF cfg s) {id : Nat} {o : Obj} (hget : s.get id = some o) (f : Body → Body)
    (hf : f o.body = o.body) : s.updBody id f = s := by
  unfold St.updBody
  have : s.objs.map (fun p => if p.1 = id then (p.1, { p.2 with body := f p.2.body }) else p) = s.objs := by
    apply map_upd_self s.objs id (fun o' => { o' with body := f o'.body })
    intro p hp hk
    have h1 := get_of_mem hw hp
    rw [hk, hget] at h1
    have h2 : p.2 = o := (Option.some.inj h1).symm
    show { p.2 with body := f p.2.body } = p.2
    rw [h2, hf]
  rw [this]

theorem list_set_self {α : Type} (l : List α) (i : Nat) (x : α) (h : l[i]? = some x) : l.set i x = l := by
  obtain ⟨hi, rfl⟩ := List.getElem?_eq_some_iff.mp h
  exact List.set_getElem_self hi

theorem setElemAt_self {b : Body} {t : Target} {e : Elem} (h : b.elemAt t = some e) : b.setElemAt t e = b := by
  obtain ⟨k, ety, es, id, i, rfl, rfl, hi⟩ | ⟨k, kty, vty, ents, id, i, v, rfl, rfl, hi⟩ |
    ⟨k, kty, vty, ents, id, i, c, rfl, rfl, hi⟩ := elemAt_cases h
  all_goals simp only [Body.setElemAt, hi, list_set_self _ _ _ hi]

theorem ne_heap_of_class (F : Facts cfg) {a : Nat} (h : a = cfg.cStatic ∨ a = cfg.cStack ∨ a = cfg.cData) : a ≠ cfg.cHeap := by
  rcases h with h | h | h <;> rw [h]
  · exact F.ne_static_heap
  · exact F.ne_stack_heap
  · exact fun e => F.ne_heap_data e.symm

theorem dealloc_refused (F : Facts cfg) (s : St) (id : Nat) (o : Obj)
    (hcls : o.hdr.alloc = cfg.cStatic ∨ o.hdr.alloc = cfg.cStack ∨ o.hdr.alloc = cfg.cData) :
    dealloc cfg s id o =
      (s, .raised (if o.body = .tyobj (.builtin "Terminal") 0 then "FormatError" else "ResourceError")) := by
  rcases hcls with h | h | h <;> simp [dealloc, h, F.refStatic, F.refStack, F.refData]

/-- outside the territory the destructor of a non-heap object either does nothing or is the guarded String_Del / Tuple_Del,
    which refuses; the body is untouched in both cases -/
theorem destructBody_outside (F : Facts cfg) {o : Obj}
    (hcls : o.hdr.alloc = cfg.cStatic ∨ o.hdr.alloc = cfg.cStack ∨ o.hdr.alloc = cfg.cData)
    (ht : delrawTerritory cfg o = false) :
    destructBody cfg o.hdr o.body = (o.body, .ok) ∨ destructBody cfg o.hdr o.body = (o.body, .raised "ValueError") := by
  have hss : o.hdr.alloc ≠ cfg.cData → o.hdr.alloc = cfg.cStack ∨ o.hdr.alloc = cfg.cStatic := by
    intro hn; rcases hcls with h | h | h
    · exact Or.inr h
    · exact Or.inl h
    · exact absurd h hn
  unfold delrawTerritory at ht
  cases hb : o.body with
  | scalar v =>
    cases v with
    | str t =>
      rw [hb] at ht
      simp only [beq_eq_false_iff_ne, ne_eq] at ht
      right; simp only [destructBody, Guard.refuses_of_protects F.sDel (hss ht), if_true, Guard.exc_of_protects F.sDel]
    | _ => left; rfl
  | tuple items =>
    rw [hb] at ht
    simp only [beq_eq_false_iff_ne, ne_eq] at ht
    right; simp only [destructBody, Guard.refuses_of_protects F.tDel (hss ht), if_true, Guard.exc_of_protects F.tDel]
  | seq k ety es => rw [hb] at ht; cases ht
  | map k kty vty ents => rw [hb] at ht; cases ht
  | box v =>
    cases v with
    | none => left; rfl
    | some x => rw [hb] at ht; cases ht
  | ref x => left; rfl
  | tyobj t n => left; rfl
  | destroyed => left; rfl

/-- **`del_raw` of a live object that is not on the heap, outside the territory: an exception and the very same state** —
    whether `del_by` tests the class first (the proposed repair) or runs `dealloc(destruct(self))` as the code does -/
theorem freeObj_delRaw_refused (F : Facts cfg) {s : St} (hw : WF cfg s) {id : Nat} {o : Obj}
    (hget : s.get id = some o) (hlive : o.live = true)
    (hcls : o.hdr.alloc = cfg.cStatic ∨ o.hdr.alloc = cfg.cStack ∨ o.hdr.alloc = cfg.cData)
    (ht : delrawTerritory cfg o = false) :
    ∃ e, freeObj cfg s .delRaw id o = (s, .raised e) := by
  have hd := dealloc_refused F s id o hcls
  simp only [freeObj]
  split
  · exact ⟨_, hd⟩
  · have hfuel : fuelFor s = (s.listed + 1) + 1 := rfl
    rw [hfuel, finalise_succ, hget]
    simp only [hlive, Bool.not_true, Bool.false_eq_true, if_false]
    split
    · rename_i x hbx
      simp [delrawTerritory, hbx] at ht
    · rcases destructBody_outside F hcls ht with h | h
      · simp only [h]
        rw [updBody_self hw hget _ rfl]
        exact ⟨_, hd⟩
      · simp only [h]
        exact ⟨_, rfl⟩

theorem destructObj_unchanged (F : Facts cfg) {s : St} (hw : WF cfg s) {id : Nat} {o : Obj}
    (hget : s.get id = some o)
    (hcls : o.hdr.alloc = cfg.cStatic ∨ o.hdr.alloc = cfg.cStack ∨ o.hdr.alloc = cfg.cData)
    (ht : delrawTerritory cfg o = false) :
    (destructObj cfg s id o).1 = s := by
  unfold destructObj
  split
  · rename_i x hbx
    simp [delrawTerritory, hbx] at ht
  · rcases destructBody_outside F hcls ht with h | h <;> simp only [h] <;> exact updBody_self hw hget _ rfl

/-- with the class check first, `del_raw` of *any* live object that is not on the heap is refused with the state unchanged:
    no territory is left -/
theorem freeObj_delRaw_classFirst (F : Facts cfg) (hcf : cfg.delRawClassFirst = true) (s : St) (id : Nat) (o : Obj)
    (hcls : o.hdr.alloc = cfg.cStatic ∨ o.hdr.alloc = cfg.cStack ∨ o.hdr.alloc = cfg.cData) :
    freeObj cfg s .delRaw id o =
      (s, .raised (if o.body = .tyobj (.builtin "Terminal") 0 then "FormatError" else "ResourceError")) := by
  have hnh : o.hdr.alloc ≠ cfg.cHeap := ne_heap_of_class F hcls
  simp only [freeObj, hcf, Bool.true_and, bne_iff_ne, ne_eq, hnh, not_false_eq_true, if_true]
  exact dealloc_refused F s id o hcls

theorem freeObj_del_not_listed (F : Facts cfg) {s : St} (hnp : NoPend s) {id : Nat} (hnr : s.isReg id = false) (o : Obj)
    {f : FreeOp} (hf : f = .del ∨ f = .delRoot) : freeObj cfg s f id o = (s, .ok) := by
  rcases hf with rfl | rfl <;> simp only [freeObj, F.delViaCollector, if_true] <;> exact gcRem_not_listed _ (hnp id) hnr

/-- **a freeing operation on a live object that is not on the heap returns the very same state** (outside the territory, for
    `del_raw` and `destruct`): the object is not registered, so `del` finds nothing; `dealloc` refuses; the destructor does
    nothing or refuses -/
theorem stepFree_nonheap_unchanged (F : Facts cfg) {s : St} (hw : WF cfg s) (hnp : NoPend s) {id : Nat} {o : Obj} (f : FreeOp)
    (hf : f = .delRaw ∨ f = .destruct → delrawTerritory cfg o = false) (hget : s.get id = some o) (hlive : o.live = true)
    (hcls : o.hdr.alloc = cfg.cStatic ∨ o.hdr.alloc = cfg.cStack ∨ o.hdr.alloc = cfg.cData) :
    (stepFree cfg s f (.obj id)).1 = s := by
  have hnr : s.isReg id = false := isReg_false_of_nonheap hw hget (ne_heap_of_class F hcls)
  rw [stepFree_obj f hget hlive]
  split
  · rfl
  · show (freeObj cfg s f id o).1 = s
    cases f with
    | dealloc | deallocRaw | deallocRoot => simp only [freeObj, dealloc_refused F s id o hcls]
    | del | delRoot => rw [freeObj_del_not_listed F hnp hnr o (by decide)]
    | delRaw =>
      obtain ⟨e, he⟩ := freeObj_delRaw_refused F hw hget hlive hcls (hf (Or.inl rfl))
      rw [he]
    | destruct => exact destructObj_unchanged F hw hget hcls (hf (Or.inr rfl))

theorem destructElem_noFree {e : Elem} (h : e.val.dtorFrees = false) : destructElem cfg e = (e, .ok) := by
  unfold destructElem
  cases hv : e.val <;> simp only [hv, Scalar.dtorFrees] at h ⊢ <;> try cases h
  rename_i vals
  have : vals.isEmpty = true := by simpa using h
  simp [this]

theorem not_dangling_of_noFree {v : Scalar} (h : v.dtorFrees = false) : v.dangling = false := by
  cases v <;> simp_all [Scalar.dtorFrees, Scalar.dangling]

theorem dtorFrees_of_noDtor {v : Scalar} (h : v.hasDestructor = false) : v.dtorFrees = false := by
  cases v <;> simp_all [Scalar.dtorFrees, Scalar.hasDestructor]

theorem destructElem_noDtor {e : Elem} (h : e.val.hasDestructor = false) : destructElem cfg e = (e, .ok) :=
  destructElem_noFree (dtorFrees_of_noDtor h)

theorem not_dangling_of_noDtor {v : Scalar} (h : v.hasDestructor = false) : v.dangling = false :=
  not_dangling_of_noFree (dtorFrees_of_noDtor h)

theorem deallocElem_data (F : Facts cfg) {e : Elem} (h : e.hdr.alloc = cfg.cData) (hv : e.val.dangling = false) :
    deallocElem cfg e = .raised "ResourceError" := by
  simp [deallocElem, h, F.refData, hv]

theorem freeElem_intact (F : Facts cfg) {f : FreeOp} {e : Elem} (hf : f = .delRaw ∨ f = .destruct → e.val.dtorFrees = false) :
    freeElem cfg f e = (e, if f = .del ∨ f = .delRoot ∨ f = .destruct then .ok else deallocElem cfg e) := by
  cases f with
  | dealloc | deallocRaw | deallocRoot => simp [freeElem]
  | del | delRoot => simp [freeElem, F.delViaCollector]
  | destruct => simp [freeElem, destructElem_noFree (hf (Or.inr rfl))]
  | delRaw => simp [freeElem, destructElem_noFree (hf (Or.inl rfl))]

/-- **a freeing operation on an element, key or value of a live container returns the very same state**: the element written
    back is the element that was there (`del_raw` / `destruct`: provided its destructor frees nothing), and every operation
    that reaches `dealloc` raises -/
theorem stepFree_elem_unchanged (F : Facts cfg) {s : St} (hw : WF cfg s) {t : Target} {o : Obj} {e : Elem} (f : FreeOp)
    (hf : f = .delRaw ∨ f = .destruct → e.val.dtorFrees = false) (hget : s.get t.id = some o) (hlive : o.live = true)
    (he : o.body.elemAt t = some e) (hnd : e.val.dangling = false) :
    stepFree cfg s f t =
      (s, .did f.name (if f = .del ∨ f = .delRoot ∨ f = .destruct then .ok else .raised "ResourceError") t) := by
  have hde : deallocElem cfg e = .raised "ResourceError" := by
    obtain ⟨ty, _, hh⟩ := elemAt_hdr (bodyOK_of_get hw hget) he
    exact deallocElem_data F (by rw [hh]; rfl) hnd
  rw [stepFree_elem f hget hlive he, freeElem_intact F hf, hde, updBody_self hw hget _ (setElemAt_self he)]

/-- **a refused in-place operation returns the very same state**: the body written back is the body that was there.
    `hrem`: String's `rem` edits in place behind no guard and is not refused; Tuple's goes through the guard of Tuple_Pop_At. -/
theorem stepInplace_refused (F : Facts cfg) {s : St} (hw : WF cfg s) {id : Nat} {o : Obj} (ip : InPlace)
    (hrem : ∀ x, ip ≠ .rem x ∨ ∃ items, o.body = .tuple items) (hnself : ip.srcs.contains id = false)
    (hget : s.get id = some o) (hlive : o.live = true) (hcls : o.hdr.alloc = cfg.cStack ∨ o.hdr.alloc = cfg.cStatic)
    (hbody : (∃ t, o.body = .scalar (.str t)) ∨ ∃ items, o.body = .tuple items) :
    (stepInplace cfg s ip (.obj id)).1 = s ∧
    ∀ name out t, (stepInplace cfg s ip (.obj id)).2 = .did name out t → ∃ e, out = .raised e := by
  rw [stepInplace_obj ip hget hlive hnself]
  cases hip : inPlaceObj cfg s o ip with
  | none => exact ⟨rfl, fun _ _ _ h => by cases h⟩
  | some p =>
    obtain ⟨b, out⟩ := p
    obtain ⟨rfl, e, rfl⟩ : b = o.body ∧ ∃ e, out = .raised e := by
      unfold inPlaceObj at hip
      rcases hbody with ⟨cur, hb⟩ | ⟨items, hb⟩ <;> rw [hb] at hip ⊢
      · exact stringOp_refused F hcls (fun x => (hrem x).resolve_right fun ⟨_, hi⟩ => by rw [hb] at hi; cases hi) hip
      · exact tupleOp_refused F hcls hip
    exact ⟨updBody_self hw hget (fun _ => o.body) rfl, fun name out t h => by cases h; exact ⟨e, rfl⟩⟩

end Cello.Hdr
