/-
  Lemmas for C16: every step `print_to_with` makes on a String target hands a C string to `format_to` (`Item.OK`) — the steps
  planned for a well-formed format, those of the built-in Show instances, the rendered specifications.
-/
import CelloProofs.Lemmas.Str
namespace Cello.Str

theorem Item.okb_iff (it : Item) : it.okb = true ↔ it.OK := by
  cases it with
  | call br w t => simp [Item.okb, Item.OK, ← nulFree_iff_contains, Decidable.imp_iff_not_or, and_assoc]
  | _ => simp [Item.okb, Item.OK]

theorem Item.OK.text_nulFree : ∀ {it : Item}, it.OK → NulFree it.text
  | .call .., h => h.1
  | .enter, _ | .leave, _ => nulFree_nil
  | .rejected _, h => h.elim

theorem lit_ok {t : List Byte} (ht : NulFree t) : (Item.call .lit t.length t).OK := ⟨ht, fun _ => rfl, nofun⟩

/-- takes the guards of an `if` chain one at a time: `split at h` on the chains of `branchOf` and `renderSpec` is slow to check -/
theorem of_ite_eq_some {α : Type} {c : Prop} [Decidable c] {a b : Option α} {x : α} (h : (if c then a else b) = some x) :
    (c ∧ a = some x) ∨ (¬ c ∧ b = some x) := by
  by_cases hc : c
  · exact Or.inl ⟨hc, by rwa [if_pos hc] at h⟩
  · exact Or.inr ⟨hc, by rwa [if_neg hc] at h⟩

theorem branchOf_ne_lit_pct {c : Byte} {br : Branch} (h : branchOf c = some br) : br ≠ .lit ∧ br ≠ .pct := by
  unfold branchOf at h
  -- every value returned is neither `lit` nor `pct`
  rcases of_ite_eq_some h with ⟨_, ⟨⟩⟩ | ⟨_, h⟩; · decide
  rcases of_ite_eq_some h with ⟨_, ⟨⟩⟩ | ⟨_, h⟩; · decide
  rcases of_ite_eq_some h with ⟨_, ⟨⟩⟩ | ⟨_, h⟩; · decide
  rcases of_ite_eq_some h with ⟨_, ⟨⟩⟩ | ⟨_, h⟩; · decide
  rcases of_ite_eq_some h with ⟨_, ⟨⟩⟩ | ⟨_, ⟨⟩⟩; decide

theorem plan_ok {α : Type} (prim : List Byte → Byte → α → Option (List Byte)) (shw : α → List Item)
    (segs : List Seg) (args : List α) (items : List Item)
    (hprim : ∀ a ∈ args, ∀ b c t, prim b c a = some t → NulFree t) (hshw : ∀ a ∈ args, ∀ it ∈ shw a, it.OK)
    (hl : ∀ t, Seg.lit t ∈ segs → NulFree t) (h : plan prim shw segs args = some items) : ∀ it ∈ items, it.OK := by
  fun_induction plan prim shw segs args generalizing items with
  | case1 => cases h; simp
  | case2 t r as ih =>                                            -- a literal run
    obtain ⟨l, hp, rfl⟩ := Option.map_eq_some_iff.mp h
    exact List.forall_mem_cons.mpr ⟨lit_ok (hl t List.mem_cons_self), ih l hprim hshw (fun t ht => hl t (List.mem_cons_of_mem _ ht)) hp⟩
  | case3 r as ih =>                                              -- `%%`
    obtain ⟨l, hp, rfl⟩ := Option.map_eq_some_iff.mp h
    exact List.forall_mem_cons.mpr ⟨⟨by decide, nofun, fun _ => ⟨rfl, rfl⟩⟩,
      ih l hprim hshw (fun t ht => hl t (List.mem_cons_of_mem _ ht)) hp⟩
  | case4 => cases h                                              -- a specification and no argument left
  | case5 b r a as ih =>                                          -- `%$`
    obtain ⟨l, hp, rfl⟩ := Option.map_eq_some_iff.mp h
    obtain ⟨hpa, hpas⟩ := List.forall_mem_cons.mp hprim
    obtain ⟨hsa, hsas⟩ := List.forall_mem_cons.mp hshw
    have ihl := ih l hpas hsas (fun t ht => hl t (List.mem_cons_of_mem _ ht)) hp
    exact List.forall_mem_cons.mpr ⟨trivial, List.forall_mem_append.mpr ⟨hsa, List.forall_mem_cons.mpr ⟨trivial, ihl⟩⟩⟩
  | case6 b c r a as _ br t ht hb ih =>                           -- a conversion with a branch and a C value
    obtain ⟨l, hp, rfl⟩ := Option.map_eq_some_iff.mp h
    obtain ⟨hpa, hpas⟩ := List.forall_mem_cons.mp hprim
    exact List.forall_mem_cons.mpr
      ⟨⟨hpa b c t ht, fun e => absurd e (branchOf_ne_lit_pct hb).1, fun e => absurd e (branchOf_ne_lit_pct hb).2⟩,
       ih l hpas (List.forall_mem_cons.mp hshw).2 (fun t ht => hl t (List.mem_cons_of_mem _ ht)) hp⟩
  | case7 => cases h                                              -- no branch, or no C value

theorem parseSegs_lit_sub (conv : List Byte) (fuel : Nat) (l : List Byte) (segs : List Seg)
    (h : parseSegs conv fuel l = some segs) (t : List Byte) (ht : Seg.lit t ∈ segs) : ∀ x ∈ t, x ∈ l := by
  fun_induction parseSegs conv fuel l generalizing segs with
  | case1 => cases h
  | case2 => cases h; simp at ht
  | case3 fuel r' ih =>                                           -- `%%`
    obtain ⟨l', hp, rfl⟩ := Option.map_eq_some_iff.mp h
    rcases List.mem_cons.mp ht with e | ht
    · cases e
    · exact fun x hx => by simp [ih l' hp ht x hx]
  | case4 fuel r hd => rw [hd] at h; cases h                      -- a `%` that no conversion character follows
  | case5 fuel r d r' hd _ ih =>                                  -- a specification
    rw [hd] at h
    obtain ⟨l', hp, rfl⟩ := Option.map_eq_some_iff.mp h
    rcases List.mem_cons.mp ht with e | ht
    · cases e
    · intro x hx
      have h2 : x ∈ r.dropWhile (fun x => !conv.contains x) := by rw [hd]; simp [ih l' hp ht x hx]
      exact List.mem_cons_of_mem _ ((List.dropWhile_suffix _).subset h2)
  | case6 fuel c r _ ih =>                                        -- a literal run
    obtain ⟨l', hp, rfl⟩ := Option.map_eq_some_iff.mp h
    rcases List.mem_cons.mp ht with e | ht
    · cases e; exact fun x hx => (List.takeWhile_prefix _).subset hx
    · exact fun x hx => (List.dropWhile_suffix _).subset (ih l' hp ht x hx)

theorem parseFmt_lit_nulFree {fmt : List Byte} (hf : NulFree fmt) {segs : List Seg} (h : parseFmt fmt = some segs) :
    ∀ t, Seg.lit t ∈ segs → NulFree t :=
  fun t ht h0 => hf (parseSegs_lit_sub convSet _ fmt segs h t ht 0 h0)

theorem toUInt8_ne_zero {n : Nat} (h0 : 0 < n) (h : n < 256) : n.toUInt8 ≠ 0 := by
  intro e
  have := congrArg UInt8.toNat e
  rw [Nat.toUInt8_eq, UInt8.toNat_ofNat', UInt8.toNat_zero, Nat.mod_eq_of_lt h] at this
  omega

theorem digitByte_ne_zero (u : Bool) (d : Nat) : digitByte u d ≠ 0 := by
  unfold digitByte
  by_cases h1 : d < 10
  · rw [if_pos h1]; exact toUInt8_ne_zero (by omega) (by omega)
  rw [if_neg h1]
  by_cases h2 : d < 16
  · rw [if_pos h2]; cases u <;> simp only [Bool.false_eq_true, if_true, if_false] <;> exact toUInt8_ne_zero (by omega) (by omega)
  · rw [if_neg h2]; decide

theorem digitsAux_nulFree (base : Nat) (u : Bool) : ∀ (fuel n : Nat) (acc : List Byte), NulFree acc →
    NulFree (digitsAux base u fuel n acc)
  | 0, _, acc, h => by simpa [digitsAux] using h
  | fuel + 1, n, acc, h => by
    have h' : NulFree (digitByte u (n % base) :: acc) := nulFree_cons.mpr ⟨digitByte_ne_zero u _, h⟩
    simp only [digitsAux]
    split
    · exact h'
    · exact digitsAux_nulFree base u fuel _ _ h'

theorem digitsOf_nulFree (base : Nat) (u : Bool) (n : Nat) : NulFree (digitsOf base u n) :=
  digitsAux_nulFree base u _ _ [] nulFree_nil

theorem decimal_nulFree (v : Int) : NulFree (decimal v) := by
  unfold decimal
  apply nulFree_append _ (digitsOf_nulFree _ _ _)
  split <;> decide

theorem showChar_ok (b : Byte) (hb : b ≠ 0) : (showChar b).OK := by
  unfold showChar
  cases he : escOf b with
  | some e =>
    have key : ∀ p ∈ escTable, p.2 ≠ 0 := by decide
    obtain ⟨p, hp, rfl⟩ := Option.map_eq_some_iff.mp he
    exact lit_ok (t := [92, p.2]) (by simp [nulFree_cons, nulFree_nil, key p (List.mem_of_find?_eq_some hp)])
  | none => exact ⟨nulFree_cons.mpr ⟨hb, nulFree_nil⟩, nofun, nofun⟩

theorem showChar_text_ne_nil (b : Byte) : (showChar b).text ≠ [] := by
  unfold showChar; cases escOf b <;> simp [Item.text]

mutual
theorem showVal_ok : ∀ v : Val, v.nulFree = true → ∀ it ∈ showVal v, it.OK
  | .int v, _ => List.forall_mem_singleton.mpr ⟨decimal_nulFree v, nofun, nofun⟩
  | .str t, h => by
    have ht : NulFree t := (nulFree_iff_contains t).mp h
    have quote := lit_ok (t := [34]) (by decide)
    exact List.forall_mem_cons.mpr ⟨quote, List.forall_mem_append.mpr
      ⟨List.forall_mem_map.mpr fun b hb => showChar_ok b (ht.ne_zero hb), List.forall_mem_singleton.mpr quote⟩⟩
  | .tup vs, h =>
    List.forall_mem_cons.mpr ⟨lit_ok (t := [116, 117, 112, 108, 101, 40]) (by decide), List.forall_mem_append.mpr
      ⟨showTupItems_ok vs h, List.forall_mem_singleton.mpr (lit_ok (t := [41]) (by decide))⟩⟩
theorem showTupItems_ok : ∀ vs : List Val, Val.nulFreeAll vs = true → ∀ it ∈ showTupItems vs, it.OK
  | [], _ => by simp [showTupItems]
  | [v], h =>
    List.forall_mem_cons.mpr ⟨trivial, List.forall_mem_append.mpr
      ⟨showVal_ok v (by simpa [Val.nulFreeAll] using h), List.forall_mem_singleton.mpr trivial⟩⟩
  | v :: w :: r, h => by
    simp only [Val.nulFreeAll, Bool.and_eq_true] at h
    exact List.forall_mem_cons.mpr ⟨trivial, List.forall_mem_append.mpr ⟨showVal_ok v h.1, List.forall_mem_cons.mpr
      ⟨trivial, List.forall_mem_cons.mpr ⟨lit_ok (t := [44, 32]) (by decide), showTupItems_ok (w :: r) (by simp [Val.nulFreeAll, h.2])⟩⟩⟩⟩
end

theorem padTo_nulFree (sp : SpecF) {sign digits : List Byte} (hs : NulFree sign) (hd : NulFree digits) :
    NulFree (padTo sp sign digits) := by
  unfold padTo
  have h32 := nulFree_replicate (sp.width - (sign.length + digits.length)) (b := 32) (by decide)
  have h48 := nulFree_replicate (sp.width - (sign.length + digits.length)) (b := 48) (by decide)
  simp only []
  split
  · exact nulFree_append (nulFree_append hs hd) h32
  · split
    · exact nulFree_append (nulFree_append hs h48) hd
    · exact nulFree_append (nulFree_append h32 hs) hd

theorem sign_nulFree (m : Int) (p : Bool) : NulFree (if m < 0 then [45] else if p = true then [43] else ([] : List Byte)) := by
  split
  · decide
  · split <;> decide

/-- what the rendered part of the printf grammar prints is a C string: every text `renderSpec` returns is
    `padTo sp sign digits` with a sign and digits that are C strings -/
theorem renderSpec_nulFree (body : List Byte) (conv : Byte) (v : Val) (hv : v.nulFree = true) (t : List Byte)
    (h : renderSpec body conv v = some t) : NulFree t := by
  have pad : ∀ {sp : SpecF} {sign digits : List Byte}, NulFree sign → NulFree digits →
      some (padTo sp sign digits) = some t → NulFree t :=
    fun hs hd e => Option.some.inj e ▸ padTo_nulFree _ hs hd
  cases hp : parseSpec body with
  | none => simp [renderSpec, hp] at h
  | some sp =>
    cases v with
    | tup vs => simp [renderSpec, hp] at h
    | str x =>
      have hx : NulFree x := (nulFree_iff_contains x).mp hv
      simp only [renderSpec, hp] at h
      rcases of_ite_eq_some h with ⟨_, h⟩ | ⟨_, ⟨⟩⟩
      refine pad nulFree_nil ?_ h
      cases sp.prec with
      | some p => exact hx.take p
      | none => exact hx
    | int n =>
      have unsigned : ∀ {base : Nat} {upper : Bool} {m : Nat},
          some (padTo sp [] (digitsOf base upper m)) = some t → NulFree t := pad nulFree_nil (digitsOf_nulFree _ _ _)
      simp only [renderSpec, hp] at h
      rcases of_ite_eq_some h with ⟨_, ⟨⟩⟩ | ⟨_, h⟩                          -- a precision
      rcases of_ite_eq_some h with ⟨_, h⟩ | ⟨_, h⟩
      · rcases of_ite_eq_some h with ⟨hb, h⟩ | ⟨_, ⟨⟩⟩                       -- `%c`: not the NUL character
        have : (n % 256).toNat.toUInt8 ≠ 0 := by simpa using (Bool.and_eq_true_iff.mp hb).2
        exact pad nulFree_nil (nulFree_cons.mpr ⟨this, nulFree_nil⟩) h
      rcases of_ite_eq_some h with ⟨_, h⟩ | ⟨_, h⟩
      · exact pad (sign_nulFree _ _) (digitsOf_nulFree _ _ _) h               -- `%d %i`
      rcases of_ite_eq_some h with ⟨_, ⟨⟩⟩ | ⟨_, h⟩                          -- `+` with an unsigned conversion
      rcases of_ite_eq_some h with ⟨_, h⟩ | ⟨_, h⟩; · exact unsigned h
      rcases of_ite_eq_some h with ⟨_, h⟩ | ⟨_, h⟩; · exact unsigned h
      rcases of_ite_eq_some h with ⟨_, h⟩ | ⟨_, h⟩; · exact unsigned h
      rcases of_ite_eq_some h with ⟨_, h⟩ | ⟨_, ⟨⟩⟩; exact unsigned h

end Cello.Str
