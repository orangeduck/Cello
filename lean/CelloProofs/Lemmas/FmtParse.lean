/-
  C14 helper lemmas: the parser `parse` (decidable well-formedness) is sound and complete for the grammar `wfSegs`: one induction
  each way, over any fuel; `parseFmt_iff` puts the two together for `parseFmt`.  Completeness needs `'%' ∉ conv` (`%` ends no
  specification, else `%%` is ambiguous; for the source: `C14_scan_set`), and so does everything built on it.
-/
import CelloProofs.Lemmas.FmtGrammar

namespace Cello.Fmt

theorem dropWhile_head_false {p : Char → Bool} {l : Str} {d : Char} {r : Str} (h : l.dropWhile p = d :: r) : p d = false := by
  simpa [h] using List.head?_dropWhile_not p l

/-- the third conjunct is for the induction: it is what makes the literal in front of a parsed rest maximal (`wfSegs_mk`) -/
theorem parse_sound (conv : Str) : ∀ (fuel : Nat) (fmt : Str) (segs : List Seg),
    parse conv fuel fmt = some segs →
    render segs = fmt ∧ wfSegs conv segs = true ∧
      (ordinary (headOrNul fmt) = false → ∀ t ∈ segs.head?, t.isLit = false) := by
  intro fuel
  induction fuel with
  | zero => intro fmt segs h; simp [parse] at h
  | succ f ih =>
    intro fmt segs h
    cases fmt with
    | nil => simp [parse] at h; subst h; simp [render_nil, wfSegs]
    | cons c r =>
      simp only [parse] at h
      by_cases hc : c = '%'
      · subst hc
        simp only [if_true] at h
        by_cases hr : r.head? = some '%'
        · simp only [hr, if_true, Option.map_eq_some_iff] at h
          obtain ⟨segs', h1, rfl⟩ := h
          obtain ⟨e1, e2, _⟩ := ih _ _ h1
          refine ⟨?_, wfSegs_mk rfl e2 nofun, fun _ t ht => by cases ht; rfl⟩
          rw [render_cons, e1]
          cases r with
          | nil => simp at hr
          | cons d r => simp at hr; subst hr; simp [Seg.text]
        · simp only [hr, if_false] at h
          split at h
          · simp at h
          · rename_i d r' hd
            by_cases hdn : d = NUL
            · simp [hdn] at h
            · simp only [hdn, if_false, Option.map_eq_some_iff] at h
              obtain ⟨segs', h1, rfl⟩ := h
              obtain ⟨e1, e2, _⟩ := ih _ _ h1
              have hdc : d ∈ conv :=
                (strchrHit_eq_true.1 (by simpa using dropWhile_head_false hd)).resolve_left hdn
              have hbody : ∀ x ∈ r.takeWhile (fun x => !strchrHit conv x), x ∉ conv ∧ x ≠ NUL := fun x hx =>
                (strchrHit_eq_false.1 (by simpa using List.all_eq_true.1 List.all_takeWhile _ hx)).symm
              have hhead : (r.takeWhile fun x => !strchrHit conv x).head? ≠ some '%' := by
                cases r with
                | nil => simp
                | cons a r =>
                  simp only [List.head?_cons, Option.some.injEq] at hr
                  simp only [List.takeWhile_cons]
                  split <;> simp [hr]
              refine ⟨?_, wfSegs_mk ?_ e2 nofun, fun _ t ht => by cases ht; rfl⟩
              · rw [render_cons, e1]
                simp only [Seg.text, List.cons_append, List.append_assoc, List.cons.injEq, true_and]
                simp only [List.nil_append]
                rw [← hd]; exact List.takeWhile_append_dropWhile
              · exact spec_wf_iff.2 ⟨hdc, hdn, hbody, hhead⟩
      · simp only [hc, if_false] at h
        by_cases hn : c = NUL
        · simp [hn] at h
        · simp only [hn, if_false, Option.map_eq_some_iff] at h
          obtain ⟨segs', h1, rfl⟩ := h
          obtain ⟨e1, e2, e3⟩ := ih _ _ h1
          have hco : ordinary c = true := ordinary_iff.2 ⟨hn, hc⟩
          refine ⟨?_, wfSegs_mk ?_ e2 (fun _ => e3 ?_), fun hh => ?_⟩
          · rw [render_cons, e1]; simp only [Seg.text]; exact List.takeWhile_append_dropWhile
          · exact lit_wf_iff.2 ⟨by rw [List.takeWhile_cons_of_pos hco]; simp,
              fun x hx => ordinary_iff.1 (List.all_eq_true.1 List.all_takeWhile x hx)⟩
          · -- the rest starts with a non-ordinary character (or is empty)
            cases hd : (c :: r).dropWhile ordinary with
            | nil => rfl
            | cons d r' => exact dropWhile_head_false hd
          · cases hco.symm.trans hh

theorem takeWhile_append_stop {p : Char → Bool} (s t : Str) (hs : ∀ x ∈ s, p x = true) (ht : ∀ d ∈ t.head?, p d = false) :
    (s ++ t).takeWhile p = s ∧ (s ++ t).dropWhile p = t := by
  rw [List.takeWhile_append_of_pos hs, List.dropWhile_append_of_pos hs]
  cases t with
  | nil => simp
  | cons d t => simp [ht d rfl]

theorem parse_render (conv : Str) (hpct : '%' ∉ conv) : ∀ (segs : List Seg), wfSegs conv segs = true →
    ∀ fuel, segs.length < fuel → parse conv fuel (render segs) = some segs := by
  intro segs
  induction segs with
  | nil =>
    intro _ fuel hf
    obtain ⟨f, rfl⟩ := Nat.exists_eq_add_one_of_ne_zero (Nat.ne_of_gt (Nat.zero_lt_of_lt hf))
    simp [render_nil, parse]
  | cons seg rest ih =>
    intro hwf fuel hf
    obtain ⟨f, rfl⟩ := Nat.exists_eq_add_one_of_ne_zero (Nat.ne_of_gt (Nat.zero_lt_of_lt hf))
    obtain ⟨hseg, hrest, hstop⟩ := wfSegs_cons hwf
    have hf' : rest.length < f := Nat.lt_of_succ_lt_succ hf
    have ihr := ih hrest f hf'
    rw [render_cons]
    cases seg with
    | lit s =>
      obtain ⟨hs0, hs⟩ := lit_wf_iff.1 hseg
      obtain ⟨c, s', rfl⟩ := List.exists_cons_of_ne_nil hs0
      have hc := hs c (by simp)
      have hst : ∀ d ∈ (render rest).head?, ordinary d = false := by
        have := hstop rfl
        revert this
        cases render rest with
        | nil => exact fun _ => nofun
        | cons e r => intro this d hd; cases hd; exact this
      obtain ⟨h1, h2⟩ := takeWhile_append_stop (p := ordinary) (c :: s') (render rest)
        (fun x hx => ordinary_iff.2 (hs x hx)) hst
      simp only [Seg.text, List.cons_append] at h1 h2 ⊢
      simp only [parse, hc.2, hc.1, if_false, h1, h2, ihr, Option.map_some]
    | pct =>
      simp [Seg.text, parse, ihr]
    | spec b d =>
      obtain ⟨hd, hd0, hb, hb0⟩ := spec_wf_iff.1 hseg
      have hdp : d ≠ '%' := fun h => hpct (h ▸ hd)
      have hhead : (b ++ d :: render rest).head? ≠ some '%' := by
        cases b with
        | nil => simpa using hdp
        | cons x b => simpa using hb0
      obtain ⟨h1, h2⟩ := takeWhile_append_stop (p := fun x => !strchrHit conv x) b (d :: render rest)
        (fun x hx => by rw [strchrHit_eq_false.2 ⟨(hb x hx).2, (hb x hx).1⟩]; rfl)
        (fun e he => by cases he; rw [strchrHit_eq_true.2 (.inr hd)]; rfl)
      simp only [Seg.text, List.cons_append, List.append_assoc, List.nil_append]
      simp only [parse, if_true, hhead, if_false, h1, h2, hd0, ihr, Option.map_some]

theorem parseFmt_iff {conv : Str} (hpct : '%' ∉ conv) {fmt : Str} {segs : List Seg} :
    parseFmt conv fmt = some segs ↔ render segs = fmt ∧ wfSegs conv segs = true :=
  ⟨fun h => let ⟨h1, h2, _⟩ := parse_sound conv _ _ _ h; ⟨h1, h2⟩,
   fun ⟨h1, h2⟩ => h1 ▸ parse_render conv hpct segs h2 _ (Nat.lt_succ_of_le (length_le_render segs h2))⟩

end Cello.Fmt
