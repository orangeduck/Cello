/-
  Lemmas/RBArgs.lean — the second layer of histories (`AOp` / `stepA` / `runA` of Cello/RBTree.lean): `set` / `get` / `mem` /
  `rem` given the tree's OWN key and value objects (what `foreach (k in t)` and `get(t, k)` hand out), assignment from a map
  that is not a Tree, the odd-count constructor.  An own object is the binding the map holds (`entry_eq`), so every case but
  `setA` is a case of `step_refines` (RBStore); `setA` is defined because `String_Assign` tests `val is s->val` before it
  reallocates (`g = true`).
-/
import CelloProofs.Lemmas.RBStore

namespace Cello.RB
open Std
variable {α β : Type} {cmp : α → α → Ordering}

section
variable [Packed α] [Packed β]

omit [Packed α] [Packed β] in
theorem entry_eq [TransCmp cmp] (hsrc : SourceOk) (m : Tree α β) (k : α) (hd : Desc cmp m.abs) :
    m.entry cmp k = Spec.getKV cmp k m.abs := by
  simp only [Tree.entry, hsrc.orient_get, findKV_eq_getKV m.root k hd, Tree.abs]

def tyStepA (env : Store (Nat × Nat)) : AOp α β → Store (Nat × Nat)
  | .base op => tyStep env op
  | .setA t _ _ => match env.get? t with | none => env | some z => env.put t z
  | .remK t _ => match env.get? t with | none => env | some z => env.put t z
  | .assignMap t ks vs _ => match env.get? t with | none => env | some _ => env.put t (ks, vs)
  | _ => env

/-- key / value objects of the caller have the sizes of the tree's key / value types (`cast` raises otherwise); the tree's own
    objects need no such hypothesis; a foreign map's bindings have the sizes of ITS key / value types -/
def AOp.typed (env : Store (Nat × Nat)) : AOp α β → Prop
  | .base op => op.typed env
  | .setA t ka va => ∀ z, env.get? t = some z →
      (∀ k, ka = .val k → 8 * (Packed.words k).length = z.1) ∧ (∀ v, va = .val v → 8 * (Packed.words v).length = z.2)
  | .assignMap _ ks vs kvs => ∀ e ∈ kvs, Fits (ks, vs) e
  | _ => True

def WellTypedA : Store (Nat × Nat) → List (AOp α β) → Prop
  | _, [] => True
  | env, op :: ops => op.typed env ∧ WellTypedA (tyStepA env op) ops

/-- with `g = true` every object may be assigned from itself (`selfAssignDefined`), so which node an own object lives in plays
    no part: what is left is that an own object is the binding the map holds, and `set_valid` -/
theorem setArgs_valid [TransCmp cmp] (hsrc : SourceOk) (m : Tree α β) (ka : KArg α) (va : VArg α β) (h : Valid cmp m)
    (hk : ∀ k, ka = .val k → 8 * (Packed.words k).length = m.sizes.1)
    (hv : ∀ v, va = .val v → 8 * (Packed.words v).length = m.sizes.2) :
    ∃ m' o, m.setArgs true cmp ka va = some (m', o) ∧ Spec.setArgs cmp ka va m.abs = (m'.abs, o) ∧
      Valid cmp m' ∧ m'.sizes = m.sizes := by
  have key : (∃ key home, m.keyArg cmp ka = some (key, home) ∧ Spec.keyArg cmp m.abs ka = some key ∧
      8 * (Packed.words key).length = m.sizes.1) ∨ (m.keyArg cmp ka = none ∧ Spec.keyArg cmp m.abs ka = none) := by
    cases ka with
    | val k => exact Or.inl ⟨k, none, rfl, rfl, hk k rfl⟩
    | own k =>
      simp only [Tree.keyArg, Spec.keyArg, entry_eq hsrc m k h.ordered]
      cases hg : Spec.getKV cmp k m.abs with
      | none => exact Or.inr ⟨rfl, rfl⟩
      | some e => exact Or.inl ⟨e.1, some e.1, rfl, rfl, (h.sized e (Spec.getKV_mem k _ e hg).1).1⟩
  have val : (∃ val home, m.valArg cmp va = some (val, home) ∧ Spec.valArg cmp m.abs va = some val ∧
      8 * (Packed.words val).length = m.sizes.2) ∨ (m.valArg cmp va = none ∧ Spec.valArg cmp m.abs va = none) := by
    cases va with
    | val v => exact Or.inl ⟨v, none, rfl, rfl, hv v rfl⟩
    | own k =>
      simp only [Tree.valArg, Spec.valArg, entry_eq hsrc m k h.ordered]
      cases hg : Spec.getKV cmp k m.abs with
      | none => exact Or.inr ⟨rfl, rfl⟩
      | some e => exact Or.inl ⟨e.2, some e.1, rfl, rfl, (h.sized e (Spec.getKV_mem k _ e hg).1).2⟩
  rcases key with ⟨key, kh, k1, k2, k3⟩ | ⟨k1, k2⟩
  · rcases val with ⟨val, vh, v1, v2, v3⟩ | ⟨v1, v2⟩
    · obtain ⟨m', e, v', a, z⟩ := set_valid hsrc m key val h ⟨k3, v3⟩
      refine ⟨m', .done, ?_, ?_, v', z⟩
      · simp only [Tree.setArgs, k1, v1, selfAssignDefined, Bool.true_or, Bool.not_true, Bool.and_false, Bool.or_false,
          Bool.false_eq_true, if_false, e, Option.map_some]
      · simp only [Spec.setArgs, k2, v2, a]
    · exact ⟨m, .err .KeyError, by simp only [Tree.setArgs, k1, v1], by simp only [Spec.setArgs, k2, v2], h, rfl⟩
  · exact ⟨m, .noobj, by simp only [Tree.setArgs, k1], by simp only [Spec.setArgs, k2], h, rfl⟩

variable [LawfulPacked α] [LawfulPacked β]

theorem stepA_refines [TransCmp cmp] (hsrc : SourceOk) (st : Store (Tree α β)) (op : AOp α β) (hv : AllValid cmp st)
    (hty : op.typed (sizeStore st)) :
    Refines cmp (stepA true cmp st op) (Spec.stepA cmp (absStore st) op) (tyStepA (sizeStore st) op) := by
  cases op <;> dsimp only [stepA, Spec.stepA, tyStepA]
  case base op => exact step_refines hsrc st op hv hty
  case setA t ka va =>
    rw [get?_abs, get?_size]
    cases hg : st.get? t with
    | none => exact refines_same hv _
    | some m =>
      have ht := hty m.sizes (by rw [get?_size, hg]; rfl)
      obtain ⟨m', o, e, a, v', z⟩ := setArgs_valid hsrc m ka va (hv.get hg) ht.1 ht.2
      simp only [e, a, ← z, Option.map_some]
      exact refines_put hv t v' o
  case getK t k =>
    rw [get?_abs]
    cases hg : st.get? t with
    | none => exact refines_same hv _
    | some m =>
      simp only [Option.map_some, entry_eq hsrc m k (hv.get hg).ordered]
      cases Spec.getKV cmp k m.abs with
      | none => exact refines_same hv _
      | some e => exact step_refines hsrc st (.get t e.1) hv trivial
  case memK t k =>
    rw [get?_abs]
    cases hg : st.get? t with
    | none => exact refines_same hv _
    | some m =>
      simp only [Option.map_some, entry_eq hsrc m k (hv.get hg).ordered]
      cases Spec.getKV cmp k m.abs with
      | none => exact refines_same hv _
      | some e => exact step_refines hsrc st (.mem t e.1) hv trivial
  case remK t k =>
    rw [get?_abs]
    cases hg : st.get? t with
    | none => rw [get?_size, hg]; exact refines_same hv _
    | some m =>
      simp only [Option.map_some, entry_eq hsrc m k (hv.get hg).ordered]
      cases Spec.getKV cmp k m.abs with
      | none => rw [get?_size, hg]; exact refines_put hv t (hv.get hg) _
      | some e => exact step_refines hsrc st (.rem t e.1) hv trivial
  case assignMap t ks vs kvs =>
    rw [get?_abs, get?_size]
    cases hg : st.get? t with
    | none => exact refines_same hv _
    | some m => exact step_refines hsrc st (.new t ks vs kvs) hv hty
  case newOdd t => exact refines_same hv _

theorem runA_refines [TransCmp cmp] (hsrc : SourceOk) (ops : List (AOp α β)) (st : Store (Tree α β)) (hv : AllValid cmp st)
    (hty : WellTypedA (sizeStore st) ops) :
    ∃ st' os, runA true cmp st ops = some (st', os) ∧ Spec.runA cmp (absStore st) ops = (absStore st', os) ∧
      AllValid cmp st' := by
  induction ops generalizing st with
  | nil => exact ⟨st, [], rfl, rfl, hv⟩
  | cons op ops ih =>
    obtain ⟨st1, o, e1, s1, v1, z1⟩ := stepA_refines hsrc st op hv hty.1
    obtain ⟨st2, os, e2, s2, v2⟩ := ih st1 v1 (by rw [← z1]; exact hty.2)
    exact ⟨st2, o :: os, by simp [runA, e1, e2], by simp [Spec.runA, s1, s2], v2⟩

end

end Cello.RB
