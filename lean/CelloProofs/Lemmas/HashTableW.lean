/-
  Lemmas for C10: the Table code with its slot copies spelt out (`setMoveLoopW`, `rehashW`, `backShiftW`, … — every memcpy at
  the width the source gives it) computes the same slot arrays as the Table model over whole entries (`setMoveLoop`, `rehash`,
  `backShift`, …) on every Table whose keys and values fill the widths of the layout — for every header, key and value width.
-/
import Cello.Hash
import CelloProofs.Lemmas.HashMove

namespace Cello.Hash

def TableSized (L : Layout) (t : Table) : Prop := ∀ i s, t.slots.getD i none = some s → SlotSized L s

theorem getD_setIfInBounds (a : Array (Option Slot)) (i j : Nat) (x : Option Slot) :
    (a.setIfInBounds i x).getD j none = if i = j ∧ i < a.size then x else a.getD j none := by
  simp only [Array.getD_eq_getD_getElem?, Array.getElem?_setIfInBounds]
  by_cases h : i = j
  · subst h
    by_cases hi : i < a.size
    · simp [hi]
    · simp [hi]
  · simp [h]

theorem TableSized.set {L : Layout} {t : Table} (h : TableSized L t) (i : Nat) (c : Slot) (hc : SlotSized L c) (n : Nat) :
    TableSized L { t with slots := t.slots.setIfInBounds i (some c), nitems := n } := by
  intro j s hs
  simp only [getD_setIfInBounds] at hs
  split at hs
  · cases hs; exact hc
  · exact h j s hs

theorem TableSized.setNone {L : Layout} {t : Table} (h : TableSized L t) (i : Nat) (n : Nat) :
    TableSized L { t with slots := t.slots.setIfInBounds i none, nitems := n } := by
  intro j s hs
  simp only [getD_setIfInBounds] at hs
  split at hs
  · cases hs
  · exact h j s hs

theorem TableSized.fresh (L : Layout) (n m : Nat) : TableSized L ⟨n, Array.replicate n none, m⟩ := by
  intro i s hs
  simp only [Array.getD_eq_getD_getElem?, Array.getElem?_replicate] at hs
  split at hs <;> simp at hs

theorem TableSized.empty (L : Layout) : TableSized L Table.empty := by
  intro i s hs
  simp [Table.empty] at hs

theorem TableSized.nitems {L : Layout} {t : Table} (h : TableSized L t) (n : Nat) : TableSized L { t with nitems := n } := h

theorem TableSized.of_mem {L : Layout} {t : Table} (h : TableSized L t) {s : Slot} (hs : s ∈ t.entriesInSlotOrder) :
    SlotSized L s := by
  simp only [Table.entriesInSlotOrder, List.mem_filterMap, id] at hs
  obtain ⟨o, ho, rfl⟩ := hs
  obtain ⟨i, hi, hget⟩ := List.getElem_of_mem ho
  apply h i s
  simp only [Array.getD_eq_getD_getElem?]
  have : t.slots[i]? = some (some s) := by
    rw [Array.getElem?_eq_getElem (by simpa using hi)]
    simpa using hget
  simp [this]

theorem TableSized.entries {L : Layout} {t : Table} (h : TableSized L t) : ∀ e ∈ t.entries, EntrySized L e := by
  intro e he
  simp only [Table.entries, List.mem_map] at he
  obtain ⟨s, hs, rfl⟩ := he
  exact ⟨(h.of_mem hs).2.1, (h.of_mem hs).2.2⟩

theorem setMoveLoopW_eq (addr : Nat → Bytes) (L : Layout) : ∀ (fuel : Nat) (t : Table) (cur : Slot) (sp1 : Option Slot) (i j : Nat),
    TableSized L t → SlotSized L cur → (∀ s, sp1 = some s → SlotSized L s) →
    setMoveLoopW addr L fuel t cur sp1 i j = setMoveLoop addr fuel t cur i j ∧ TableSized L (setMoveLoop addr fuel t cur i j) := by
  intro fuel
  induction fuel with
  | zero => intro t cur sp1 i j ht _ _; exact ⟨rfl, ht⟩
  | succ fuel ih =>
    intro t cur sp1 i j ht hc hsp
    simp only [setMoveLoopW, setMoveLoop]
    cases hs : t.slots.getD i none with
    | none =>
      simp only [copySlot_full L cur none hc (fun s e => by cases e)]
      exact ⟨trivial, ht.set i cur hc _⟩
    | some s =>
      have hss : SlotSized L s := ht i s hs
      simp only []
      rw [copySlot_full L cur (some s) hc (fun s' e => by cases e; exact hss),
        copySlot_full L s sp1 hss hsp]
      simp only [copySlot_full L s (some cur) hss (fun s' e => by cases e; exact hc)]
      by_cases hk : keyEq addr s.k cur.k = true
      · rw [if_pos hk, if_pos hk]; exact ⟨rfl, ht.set i cur hc _⟩
      · rw [if_neg hk, if_neg hk]
        by_cases hj : j > probe t.nslots i s.stored
        · rw [if_pos hj, if_pos hj]
          exact ih _ s (some s) _ _ (ht.set i cur hc _) hss (fun s' e => by cases e; exact hss)
        · rw [if_neg hj, if_neg hj]; exact ih _ cur sp1 _ _ ht hc hsp

theorem setMoveW_eq (addr : Nat → Bytes) (L : Layout) (t : Table) (k v : Scalar) (ht : TableSized L t)
    (hk : Sized L.kw k) (hv : Sized L.vw v) : setMoveW addr L t k v = setMove addr t k v ∧ TableSized L (setMove addr t k v) :=
  setMoveLoopW_eq addr L _ t _ none _ _ ht ⟨Nat.succ_ne_zero _, hk, hv⟩ (fun s e => by cases e)

theorem setMoveFromW_eq (addr : Nat → Bytes) (L : Layout) (t : Table) (old : Slot) (ht : TableSized L t)
    (ho : SlotSized L old) : setMoveFromW addr L t old = setMove addr t old.k old.v ∧ TableSized L (setMove addr t old.k old.v) := by
  unfold setMoveFromW
  simp only [loadSlot_full L _ old (Nat.succ_ne_zero _) ho]
  exact setMoveLoopW_eq addr L _ t _ none _ _ ht ⟨Nat.succ_ne_zero _, ho.2.1, ho.2.2⟩ (fun s e => by cases e)

theorem rehashW_eq (addr : Nat → Bytes) (L : Layout) (t : Table) (n : Nat) (ht : TableSized L t) :
    rehashW addr L t n = rehash addr t n ∧ TableSized L (rehash addr t n) := by
  unfold rehashW rehash
  exact List.foldl_rel (r := fun a b => a = b ∧ TableSized L b) ⟨rfl, TableSized.fresh L n 0⟩
    fun s hs _ _ ⟨rfl, h⟩ => setMoveFromW_eq addr L _ s h (ht.of_mem hs)

theorem tableSetW_eq (addr : Nat → Bytes) (L : Layout) (t : Table) (k v : Scalar) (ht : TableSized L t)
    (hk : Sized L.kw k) (hv : Sized L.vw v) :
    tableSetW addr L t k v = tableSet addr t k v ∧ TableSized L (tableSet addr t k v) := by
  unfold tableSetW tableSet
  obtain ⟨h1, hs1⟩ : (if t.nslots = 0 then rehashW addr L t (idealSize 0) else t) = (if t.nslots = 0 then rehash addr t (idealSize 0) else t) ∧
      TableSized L (if t.nslots = 0 then rehash addr t (idealSize 0) else t) := by
    split
    · exact rehashW_eq addr L t _ ht
    · exact ⟨rfl, ht⟩
  simp only [h1]
  generalize (if t.nslots = 0 then rehash addr t (idealSize 0) else t) = t1 at hs1 ⊢
  obtain ⟨e2, hs2⟩ := setMoveW_eq addr L t1 k v hs1 hk hv
  rw [e2]
  generalize setMove addr t1 k v = t2 at hs2 ⊢
  by_cases hgt : idealSize t2.nitems > t2.nslots
  · simp only [hgt, if_true]; exact rehashW_eq addr L t2 _ hs2
  · simp only [hgt, if_false]; exact ⟨trivial, hs2⟩

theorem backShiftW_eq (L : Layout) : ∀ (fuel : Nat) (t : Table) (i : Nat), TableSized L t →
    backShiftW L fuel t i = backShift fuel t i ∧ TableSized L (backShift fuel t i) := by
  intro fuel
  induction fuel with
  | zero => intro t i ht; exact ⟨rfl, ht⟩
  | succ fuel ih =>
    intro t i ht
    simp only [backShiftW, backShift]
    cases hs : t.slots.getD ((i + 1) % t.nslots) none with
    | none => exact ⟨rfl, ht⟩
    | some s =>
      have hss : SlotSized L s := ht _ s hs
      simp only [copySlot_full L s none hss (fun s' e => by cases e)]
      by_cases hp : probe t.nslots ((i + 1) % t.nslots) s.stored > 0
      · rw [if_pos hp, if_pos hp]; exact ih _ _ ((ht.set i s hss t.nitems).setNone _ t.nitems)
      · rw [if_neg hp, if_neg hp]; exact ⟨rfl, ht⟩

theorem remLoopW_eq (addr : Nat → Bytes) (L : Layout) (key : Scalar) : ∀ (fuel : Nat) (t : Table) (i j : Nat), TableSized L t →
    remLoopW addr L key fuel t i j = remLoop addr key fuel t i j ∧
    ∀ t', remLoop addr key fuel t i j = some t' → TableSized L t' := by
  intro fuel
  induction fuel with
  | zero => intro t i j _; exact ⟨rfl, fun t' h => by simp [remLoop] at h⟩
  | succ fuel ih =>
    intro t i j ht
    simp only [remLoopW, remLoop]
    cases hs : t.slots.getD i none with
    | none => exact ⟨rfl, fun t' h => by simp at h⟩
    | some s =>
      simp only []
      by_cases hj : j > probe t.nslots i s.stored
      · rw [if_pos hj, if_pos hj]; exact ⟨rfl, fun t' h => by cases h⟩
      · rw [if_neg hj, if_neg hj]
        by_cases hk : keyEq addr s.k key = true
        · rw [if_pos hk, if_pos hk]
          obtain ⟨e, hb⟩ := backShiftW_eq L t.nslots { t with slots := t.slots.setIfInBounds i none } i (ht.setNone i t.nitems)
          rw [e]
          generalize backShift t.nslots { t with slots := t.slots.setIfInBounds i none } i = t1 at hb ⊢
          have hs2 : TableSized L { t1 with nitems := t1.nitems - 1 } := hb.nitems _
          split
          · obtain ⟨e2, hr⟩ := rehashW_eq addr L _ (idealSize (t1.nitems - 1)) hs2
            exact ⟨by rw [e2], fun t' h => by cases h; exact hr⟩
          · exact ⟨rfl, fun t' h => by cases h; exact hs2⟩
        · rw [if_neg hk, if_neg hk]; exact ih _ _ _ ht

theorem tableRemW_eq (addr : Nat → Bytes) (L : Layout) (t : Table) (key : Scalar) (ht : TableSized L t) :
    tableRemW addr L t key = tableRem addr t key ∧ ∀ t', tableRem addr t key = some t' → TableSized L t' := by
  unfold tableRemW tableRem
  split
  · exact ⟨rfl, fun t' h => by simp at h⟩
  · exact remLoopW_eq addr L key _ t _ _ ht

theorem tableOfEntriesW_eq (addr : Nat → Bytes) (L : Layout) (es : List (Scalar × Scalar)) (hs : ∀ e ∈ es, EntrySized L e) :
    tableOfEntriesW addr L es = tableOfEntries addr es ∧ TableSized L (tableOfEntries addr es) := by
  unfold tableOfEntriesW tableOfEntries
  simp only []
  split
  · exact ⟨rfl, TableSized.empty L⟩
  · exact List.foldl_rel (r := fun a b => a = b ∧ TableSized L b) ⟨rfl, TableSized.fresh L _ 0⟩
      fun e he _ _ ⟨rfl, h⟩ => setMoveW_eq addr L _ e.1 e.2 h (hs e he).1 (hs e he).2

end Cello.Hash
