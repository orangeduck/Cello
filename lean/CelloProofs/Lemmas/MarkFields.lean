/-
  What an object presents to the marker (`Cello.Heap.fields`, `fieldsL`, `viaMark`): by the kind of its type, by representation, and for
  typed containers, which present what their CURRENT element / key / value types say, also across the re-typing operations.  Last:
  reachability is monotone in what the objects present (`mid_collection_safe`, the heap-level step of a collection inside a container operation).
-/
import Cello.Heap
import CelloProofs.Lemmas.Mark

namespace Cello.Heap

variable (c : Cfg)

theorem fieldsL_eq_flatMap (es : List Obj) : fieldsL c es = es.flatMap (fields c) := by
  induction es with
  | nil => rfl
  | cons x xs ih => simp [fieldsL, ih]

theorem mem_fieldsL {c : Cfg} {es : List Obj} {w : Word} : w ∈ fieldsL c es ↔ ∃ e ∈ es, w ∈ fields c e := by
  rw [fieldsL_eq_flatMap]; exact List.mem_flatMap

theorem fieldsL_append (xs ys : List Obj) : fieldsL c (xs ++ ys) = fieldsL c xs ++ fieldsL c ys := by
  simp only [fieldsL_eq_flatMap, List.flatMap_append]

/-- what the Mark instance of the object's type hands on (given that the type has one).  `own`: the object is the marking
    thread's `current(Thread)`; `Thread_Mark` walks `t->tls` always (`c.foreignTls`, the source as it is) or only then (the
    variant of the withdrawn repair 80c795e) -/
def markBody (c : Cfg) (own : Bool) : Obj → List Word
  | .raw _ _ => []
  | .cont _ es => fieldsL c es
  | .tup _ items => items
  | .thr _ tls => if own || c.foreignTls then viaMark c tls else []

theorem viaMark_eq (o : Obj) : viaMark c o = if c.hasMark o.ty then markBody c true o else [] := by
  cases o with
  | raw ty ws => exact (ite_self _).symm
  | cont ty es | tup ty es => rfl
  | thr ty tls => simp only [viaMark, markBody, Obj.ty, Bool.true_or, if_true]

theorem fields_leaf (o : Obj) (hl : c.isLeaf o.ty = true) : fields c o = [] := by
  cases o <;> simp_all [fields, Obj.ty]

theorem fields_mark (o : Obj) (hl : c.isLeaf o.ty = false) (hm : c.hasMark o.ty = true) : fields c o = markBody c false o := by
  cases o <;> simp_all [fields, markBody, Obj.ty]

theorem fields_scan (o : Obj) (hl : c.isLeaf o.ty = false) (hm : c.hasMark o.ty = false) :
    fields c o = match o with | .raw _ ws => scanWords c ws | _ => [] := by
  cases o <;> simp only [Obj.ty] at hl hm <;> simp [fields, hl, hm]

/-- the words an embedded element of type `ety` with struct words `ws` presents to `GC_Mark_Item`: none when the type is
    a leaf type of `GC_Recurse` (or has its own Mark instance, which a plain struct representation does not use), all
    (scanned) words otherwise -/
def elemWords (ety : String) (ws : List Word) : List Word :=
  if c.isLeaf ety || c.hasMark ety then [] else scanWords c ws

theorem fields_raw (ety : String) (ws : List Word) : fields c (.raw ety ws) = elemWords c ety ws := by
  unfold fields elemWords
  cases c.isLeaf ety <;> cases c.hasMark ety <;> simp

theorem fields_cont {ty : String} (hl : c.isLeaf ty = false) (hm : c.hasMark ty = true) (es : List Obj) :
    fields c (.cont ty es) = fieldsL c es := by
  simp [fields, hl, hm]

theorem fields_tup {ty : String} (hl : c.isLeaf ty = false) (hm : c.hasMark ty = true) (items : List Word) :
    fields c (.tup ty items) = items := by
  simp [fields, hl, hm]

theorem fieldsL_seqElems (ety : String) (vals : List (List Word)) :
    fieldsL c (seqElems ety vals) = vals.flatMap (elemWords c ety) := by
  simp only [fieldsL_eq_flatMap, seqElems, List.flatMap_map, fields_raw]

theorem fieldsL_mapElems (kty vty : String) (kvs : List (List Word × List Word)) :
    fieldsL c (mapElems kty vty kvs) = kvs.flatMap (fun kv => elemWords c kty kv.1 ++ elemWords c vty kv.2) := by
  simp only [fieldsL_eq_flatMap, mapElems, List.flatMap_assoc, List.flatMap_cons, List.flatMap_nil, List.append_nil, fields_raw]

theorem elemWords_leaf {ety : String} (hl : c.isLeaf ety = true) (ws : List Word) : elemWords c ety ws = [] := by
  simp [elemWords, hl]

theorem elemWords_scan {ety : String} (hl : c.isLeaf ety = false) (hm : c.hasMark ety = false) (hs : c.scanInclusive = true)
    (ws : List Word) : elemWords c ety ws = ws := by
  simp [elemWords, hl, hm, scanWords, hs]

theorem fields_assignFrom_cont (h : Heap) {ty ty' : String} (hl : c.isLeaf ty = false) (hm : c.hasMark ty = true)
    (hl' : c.isLeaf ty' = false) (hm' : c.hasMark ty' = true) (es0 es : List Obj) :
    fields c (Obj.assignFrom h (.cont ty es0) (.cont ty' es)) = fields c (.cont ty' es) := by
  show fields c (.cont ty es) = _
  rw [fields_cont c hl hm, fields_cont c hl' hm']

theorem fields_assignFrom_tup (h : Heap) {ty ty' : String} (hl : c.isLeaf ty = false) (hm : c.hasMark ty = true)
    (hl' : c.isLeaf ty' = false) (hm' : c.hasMark ty' = true) (i0 items : List Word) :
    fields c (Obj.assignFrom h (.tup ty i0) (.tup ty' items)) = fields c (.tup ty' items) := by
  show fields c (.tup ty items) = _
  rw [fields_tup c hl hm, fields_tup c hl' hm']

theorem fields_assignFrom_cont_tup (h : Heap) {ty ty' : String} (hl : c.isLeaf ty = false) (hm : c.hasMark ty = true)
    (es0 : List Obj) (items : List Word) :
    fields c (Obj.assignFrom h (.cont ty es0) (.tup ty' items)) = items.flatMap (fun w => elemWords c "Ref" [h.derefIfPtr w]) := by
  show fields c (.cont ty (seqElems "Ref" (items.map fun w => [h.derefIfPtr w]))) = _
  rw [fields_cont c hl hm, fieldsL_seqElems, List.flatMap_map]

theorem fields_cleared_cont {ty : String} (es : List Obj) : fields c (Obj.cleared (.cont ty es)) = [] := by
  show fields c (.cont ty []) = []
  unfold fields
  cases c.isLeaf ty <;> cases c.hasMark ty <;> simp [fieldsL]

/-- `copy(src)` of a container or Tuple is `src` itself as a value, so it presents what `src` presents -/
theorem fields_copyOf_cont (h : Heap) (ty : String) (es : List Obj) : Obj.copyOf h (.cont ty es) = .cont ty es := rfl
theorem fields_copyOf_tup (h : Heap) (ty : String) (items : List Word) : Obj.copyOf h (.tup ty items) = .tup ty items := rfl

theorem fields_cont_covered (ty : String) {es es' : List Obj} {extra : List Word}
    (hcov : ∀ e ∈ es, e ∈ es' ∨ ∀ w ∈ fields c e, w ∈ extra) :
    ∀ w ∈ fields c (.cont ty es), w ∈ fields c (.cont ty es') ∨ w ∈ extra := by
  intro w hw
  simp only [fields] at hw ⊢
  split at hw
  · cases hw
  · split at hw
    · rename_i hleaf hmark
      simp only [hleaf, hmark, if_true, if_false, Bool.false_eq_true]
      obtain ⟨e, he, hwe⟩ := mem_fieldsL.mp hw
      exact (hcov e he).imp (fun he' => mem_fieldsL.mpr ⟨e, he', hwe⟩) fun hx => hx w hwe
    · cases hw

/-- reachability is monotone in what the objects present; the words `extra` that only the objects of `h'` present become roots -/
theorem reachable_of_fields_covered (c : Cfg) (h h' : Heap) (roots extra : List Word)
    (hreg : ∀ a, (h'.lookup a).isSome = (h.lookup a).isSome)
    (hcov : ∀ a e', h'.lookup a = some e' → ∃ e, h.lookup a = some e ∧ ∀ w ∈ fields c e'.obj, w ∈ fields c e.obj ∨ w ∈ extra)
    {x : Addr} (hr : Reachable c h' roots x) : Reachable c h (roots ++ extra) x := by
  induction hr with
  | root hmem hs => exact Reachable.root (List.mem_append_left _ hmem) (by rw [← hreg]; exact hs)
  | step _ hp hs ih =>
    obtain ⟨e', hl', hb⟩ := hp
    obtain ⟨e, hl, hcv⟩ := hcov _ e' hl'
    rcases hcv _ hb with hw | hw
    · exact Reachable.step ih ⟨e, hl, hw⟩ (by rw [← hreg]; exact hs)
    · exact Reachable.root (List.mem_append_right _ hw) (by rw [← hreg]; exact hs)

/-- **The heap-level step.**  `h`: the heap while the container at `a` is in an intermediate state; `h.write a post`: the heap when the
    operation has completed; `extra`: the words the operand supplies, which the caller's frame holds.  What is reachable THEN survives a
    collection that runs NOW (in the terms of the C library: `C01_mid_collection_safe`). -/
theorem mid_collection_safe {σ : Type} (S : MarkSet σ) (c : Cfg) (h : Heap) (wf : h.WF) (thread : Obj) (stack extra : List Word)
    (a : Addr) (e : Entry) (hl : h.lookup a = some e) (post : Obj)
    (hcov : ∀ w ∈ fields c post, w ∈ fields c e.obj ∨ w ∈ extra)
    (x : Addr) (hr : Reachable c (h.write a post) (rootWords c (h.write a post) thread stack) x) :
    (collect S c h thread (stack ++ extra)).1.lookup x = h.lookup x ∧ (h.lookup x).isSome = true ∧
      x ∉ (collect S c h thread (stack ++ extra)).2 := by
  have hr2 : Reachable c h (rootWords c h thread stack ++ extra) x := by
    have := reachable_of_fields_covered c h (h.write a post) (rootWords c (h.write a post) thread stack) extra
      (fun y => write_isSome a y post)
      (by
        intro y e' hy
        by_cases hya : y = a
        · subst hya
          rw [write_lookup_self hl] at hy
          cases hy
          exact ⟨e, hl, hcov⟩
        · rw [write_lookup_ne hya] at hy
          exact ⟨e', hy, fun w hw => Or.inl hw⟩)
      hr
    simpa [rootWords, rootAddrs_write] using this
  have hr3 : Reachable c h (rootWords c h thread (stack ++ extra)) x := by
    have hEq : rootWords c h thread stack ++ extra = rootWords c h thread (stack ++ extra) := by simp [rootWords, List.append_assoc]
    rw [← hEq]; exact hr2
  exact collect_keeps_reachable S c h wf thread (stack ++ extra) x hr3

end Cello.Heap
