/-
  Histories of registry operations: the operations, the ledger of live managed objects they define, reachability.  That
  every reachable state is well formed (`reach_wf`) is the case `K = noK` at the end of RegistryKillsHist.lean.
-/
import Cello.Registry
import CelloProofs.Lemmas.RegistryOps
namespace Cello.Registry

/-- what a program can do to the collector's registry -/
inductive Op where
  /-- `alloc` / `alloc_root` of an object at address `p`; if the allocation reaches the collection threshold the mark phase
      reaches the roots and the addresses in `marks` -/
  | new (p : Nat) (root : Bool) (marks : List Nat)
  /-- `alloc_raw`: the collector is not told -/
  | newRaw (p : Nat)
  /-- `del` / `del_root` -/
  | del (p : Nat)
  /-- `del_raw` of an object the collector does not know: `dealloc(destruct(p))` without GC_Rem (what the destructor of `p`
      deletes does go through GC_Rem) -/
  | delRaw (p : Nat)
  /-- a collection whose mark phase reaches the addresses in `marks` (GC_Mark_Item on each, then GC_Sweep) -/
  | sweep (marks : List Nat)
  | stop
  | start

/-- the model's transition: `stepK` (RegistryKillsHist.lean) at `noK`, written out (`step_eq_stepK`) -/
def step (c : Cfg) (r : Reg) : Op → Option Reg
  | .new p root marks => (gcSet c noK r p root marks).map (fun x => x.1)
  | .newRaw _ => some r
  | .del p => (gcRem c noK r p).map (fun x => x.1)
  | .delRaw p => (exec c noK (nestFuel r + 1) r (.fin p)).map (fun x => x.1)
  | .sweep marks =>
    match markAll c r marks with
    | none => none
    | some r1 => (gcSweep c noK r1).map (fun x => x.1)
  | .stop => some (gcStop r)
  | .start => some (gcStart r)

/-- the `running` flag after an operation that answers, `b` being the flag before: only `stop` and `start` write it
    (`stepK_wf`, `step_wf` in RegistryKillsHist.lean) -/
def runAfter (b : Bool) : Op → Bool
  | .stop => false
  | .start => true
  | _ => b

/-- a collection keeps the roots and what the mark phase reached -/
def collectL (L : Ledger) (marks : List Nat) : Ledger := L.filter (fun x => x.2 || marks.contains x.1)

/-- `mk0`: the bits the mark phase starts from (none, or the roots'); they add nothing to the root flag -/
theorem collectBy_eq_collectL (L : Ledger) (mk0 : Nat → Bool → Bool) (marks : List Nat) (hmk0 : ∀ q b, (b || mk0 q b) = b) :
    collectBy L (fun q b => mk0 q b || marks.contains q) = collectL L marks := by
  unfold collectBy collectL
  apply List.filter_congr
  intro x _
  rw [← Bool.or_assoc, hmk0]

/-- the ledger of live managed objects: allocated through the collector while it runs, neither deleted (while it runs) nor
    reclaimed.  *When* an allocation triggers a collection is the implementation's choice (`nitems + 1 > mitems`). -/
def ledgerStep (r : Reg) (L : Ledger) : Op → Ledger
  | .new p root marks =>
    if r.running then (if r.nitems + 1 > r.mitems then collectL ((p, root) :: L) marks else (p, root) :: L) else L
  | .newRaw _ => L
  | .del p => if r.running then L.filter (fun y => y.1 != p) else L
  | .delRaw _ => L
  | .sweep marks => collectL L marks
  | .stop => L
  | .start => L

theorem filter_ne_self (L : Ledger) (x : Nat) (h : x ∉ L.map Prod.fst) : L.filter (fun y => y.1 != x) = L := by
  apply List.filter_eq_self.2
  intro y hy
  simp only [bne_iff_ne, ne_eq]
  intro heq; apply h; rw [← heq]; exact List.mem_map.2 ⟨y, hy, rfl⟩

theorem not_mem_keys_filter (L : Ledger) (x : Nat) : x ∉ (L.filter (fun y => y.1 != x)).map Prod.fst := by
  intro h
  obtain ⟨y, hy, hyx⟩ := List.mem_map.1 h
  have := (List.mem_filter.1 hy).2
  simp [hyx] at this

theorem length_filter_ne_lt (L : Ledger) (x : Nat) (h : x ∈ L.map Prod.fst) : (L.filter (fun y => y.1 != x)).length < L.length := by
  rw [List.length_filter_lt_length_iff_exists]
  obtain ⟨y, hy, hyx⟩ := List.mem_map.1 h
  exact ⟨y, hy, by simp [hyx]⟩

/-- what `malloc` guarantees: a new object's address is 8-aligned, differs from every live managed object's, and is not
    NULL (GC_Sweep's finalisation loop reads a NULL word as "no object" and GC_Rem_Ptr returns at once for NULL).  `del`
    carries no condition: of any pointer, NULL included, it is admissible in every state. -/
def okOp (L : Ledger) : Op → Prop
  | .new p _ _ => p ∉ L.map Prod.fst ∧ p % 8 = 0 ∧ p ≠ 0
  | .delRaw p => p ∉ L.map Prod.fst     -- `del_raw` is for objects allocated with `alloc_raw` / `new_raw`
  | _ => True

/-- the states (with their ledgers) reached by some history from the state GC_New leaves -/
inductive Reach (c : Cfg) : Reg → Ledger → Prop where
  | init : Reach c Reg.init []
  | step {r : Reg} {L : Ledger} {op : Op} {r' : Reg} :
      Reach c r L → okOp L op → step c r op = some r' → Reach c r' (ledgerStep r L op)

end Cello.Registry
