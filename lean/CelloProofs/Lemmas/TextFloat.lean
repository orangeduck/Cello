/-
  Lemmas for C15 (engine `text`): the *position* part of the Float round trip — the floating conversions of scanf (into a `double`
  or into a `float`) consume exactly the text printf's `%f` `%e` `%g` produced (`FloatText`), and for `%f` / `%e` which decimal
  they convert (`printF_scan`, `printE_scan`; how near the result is: Lemmas/TextRound.lean).
-/
import CelloProofs.Lemmas.Text

namespace Cello.Text

theorem digitsVal_snoc (l : List Nat) (c : Nat) : digitsVal (l ++ [c]) = digitsVal l * 10 + (c - 48) := by
  simp [digitsVal, List.foldl_append]

theorem digitsVal_natDigits (n : Nat) : digitsVal (natDigits n) = n := by
  induction n using Nat.strongRecOn with
  | _ n ih =>
    by_cases h : n < 10
    · rw [natDigits_lt10 n h]; simp [digitsVal]
    · rw [natDigits_ge10 n (by omega), digitsVal_snoc, ih (n / 10) (by omega)]
      omega

/-- `(natDigits (10 ^ k + b)).drop 1`, the way `printF` / `printE` write the fraction, is `b` in exactly `k` digits, zero-padded -/
theorem natDigits_padded (k : Nat) : ∀ b, b < 10 ^ k → ∀ l : List Nat,
    ((natDigits (10 ^ k + b)).drop 1).length = k ∧
      digitsVal (l ++ (natDigits (10 ^ k + b)).drop 1) = digitsVal l * 10 ^ k + b := by
  induction k with
  | zero =>
    intro b hb l
    have : b = 0 := by simpa using hb
    subst this
    simp [natDigits_lt10]
  | succ k ih =>
    intro b hb l
    rw [Nat.pow_succ] at hb ⊢
    have hP : 0 < 10 ^ k := Nat.pow_pos (by decide)
    obtain ⟨ihl, ihv⟩ := ih (b / 10) (by omega) l
    have hl : 1 ≤ (natDigits (10 ^ k + b / 10)).length := List.length_pos_iff.2 (natDigits_ne_nil _)
    rw [natDigits_ge10 _ (by omega), show (10 ^ k * 10 + b) / 10 = 10 ^ k + b / 10 by omega, List.drop_append_of_le_length hl]
    constructor
    · rw [List.length_append, ihl]; rfl
    · rw [← List.append_assoc, digitsVal_snoc, ihv, ← Nat.mul_assoc]
      omega

theorem digitsVal_zero_cons (l : List Nat) : digitsVal (48 :: l) = digitsVal l := by
  simp [digitsVal]

/-- the text after the integer digits, from its parts: `dot` = the fraction digits if there is a point; `ex` = the exponent part
    (letter, sign byte, digits) if there is one -/
def dotText : Option (List Nat) → List Nat
  | none => []
  | some fp => 46 :: fp

def exText : Option (Nat × Nat × List Nat) → List Nat
  | none => []
  | some (l, s, ed) => l :: s :: ed

def exVal : Option (Nat × Nat × List Nat) → Int
  | none => 0
  | some (_, s, ed) => if s = 45 then -(digitsVal ed : Int) else (digitsVal ed : Int)

/-- an exponent part as printf writes it: the letter `e`/`E`, a sign, digits -/
def exOK : Option (Nat × Nat × List Nat) → Prop
  | none => True
  | some (l, s, ed) => (l = 101 ∨ l = 69) ∧ (s = 43 ∨ s = 45) ∧ ∀ b ∈ ed, isDigit b = true

theorem gSafe_fltSafe (f : List Nat) (h : gSafe f = true) : fltSafe f = true := by
  cases f with
  | nil => rfl
  | cons b t =>
    simp only [gSafe, fltSafe, headIs, Bool.not_eq_true', Bool.or_eq_false_iff] at h ⊢
    exact ⟨⟨h.1.1.1.1, h.1.1.1.2⟩, h.1.1.2⟩

theorem lower_digit (e : Nat) (he : 48 ≤ e ∧ e ≤ 57) : lower e = e := by
  simp only [lower]; split <;> omega

theorem spanDigits_run (ds r : List Nat) (hds : ∀ b ∈ ds, isDigit b = true) (hr : headIs isDigit r = false) :
    spanDigits (ds ++ r) = (ds, r) := by
  induction ds with
  | nil =>
    cases r with
    | nil => simp [spanDigits]
    | cons b t => simp only [headIs] at hr; simp [spanDigits, hr]
  | cons d ds ih =>
    have hd := hds d List.mem_cons_self
    simp only [List.cons_append, spanDigits, hd, if_true]
    rw [ih (fun b hb => hds b (List.mem_cons_of_mem _ hb))]

/-- **a decimal floating text** `[-]ip[.fp][e±ed]` followed by text that does not continue it — never a digit or an exponent
    letter (`fltSafe`); after a text with neither point nor exponent also no point and no `x`/`X` (`gSafe`: a lone `0` would become a
    hexadecimal prefix): scanf consumes exactly the text and converts mantissa and exponent -/
theorem scanFloating_shape (narrow neg : Bool) (ip : List Nat) (dot : Option (List Nat)) (ex : Option (Nat × Nat × List Nat))
    (f : List Nat) (hip : ∀ b ∈ ip, isDigit b = true) (hne : ip ≠ []) (hfp : ∀ b ∈ dot.getD [], isDigit b = true) (hex : exOK ex)
    (hf : fltSafe f = true) (hg : dot = none → ex = none → gSafe f = true) :
    scanFloating narrow ((if neg then [45] else []) ++ ip ++ (dotText dot ++ (exText ex ++ f)))
      = .ok (decToBitsW narrow neg (digitsVal (ip ++ dot.getD [])) (exVal ex - (dot.getD []).length), f) := by
  obtain ⟨d, ip', rfl⟩ := List.exists_cons_of_ne_nil hne
  have hd := (isDigit_iff d).1 (hip d List.mem_cons_self)
  have hf0 := hf
  simp only [fltSafe, Bool.not_eq_true', headIs_false_iff, Bool.or_eq_false_iff, beq_eq_false_iff_ne] at hf0
  -- what follows the mantissa: the exponent part is read as such, and the first byte is no digit; without a point before it,
  -- it is neither a point nor an `x` (which after a lone `0` would start a hexadecimal float)
  obtain ⟨hexp, hR⟩ : spanExponent (exText ex ++ f) = (exVal ex, f) ∧
      ∀ b t, exText ex ++ f = b :: t → isDigit b = false ∧ (dot = none → b ≠ 46 ∧ lower b ≠ 120) := by
    cases ex with
    | none =>
      refine ⟨?_, fun b t hbt => ⟨(hf0 b t hbt).1.1, fun hdot => ?_⟩⟩
      · cases f with
        | nil => rfl
        | cons e t =>
          have : ¬(e = 101 ∨ e = 69) := by have := hf0 e t rfl; omega
          simp [exText, exVal, spanExponent, this]
      · have hg0 := hg hdot rfl
        simp only [gSafe, Bool.not_eq_true', headIs_false_iff, Bool.or_eq_false_iff, beq_eq_false_iff_ne] at hg0
        obtain ⟨⟨-, h46⟩, hx⟩ := hg0 b t hbt
        simp only [isXx, Bool.or_eq_false_iff, beq_eq_false_iff_ne] at hx
        exact ⟨h46, by simp only [lower]; split <;> omega⟩
    | some les =>
      obtain ⟨l, s, ed⟩ := les
      obtain ⟨hl, hs, hed⟩ := hex
      have hsd : spanDigits (ed ++ f) = (ed, f) :=
        spanDigits_run ed f hed ((headIs_false_iff _ _).2 fun b t hbt => (hf0 b t hbt).1.1)
      constructor
      · simp only [exText, exVal, List.cons_append, spanExponent, hl, if_true]
        -- `spanExponent` drops either sign byte and negates after `-`, as `exVal` says
        rcases hs with rfl | rfl <;> simp [hsd]
      · intro b t hbt
        simp only [exText, List.cons_append, List.cons.injEq] at hbt
        rcases hl with rfl | rfl <;> (rw [← hbt.1]; exact ⟨rfl, fun _ => ⟨by decide, by decide⟩⟩)
  generalize exText ex ++ f = R at hexp hR ⊢
  have hRd : headIs isDigit R = false := (headIs_false_iff _ _).2 fun b t hbt => (hR b t hbt).1
  have hman : spanMantissa (d :: ip' ++ (dotText dot ++ R)) = (d :: ip', dot.getD [], R) := by
    cases dot with
    | some fp =>
      have hspan1 : spanDigits (d :: ip' ++ 46 :: (fp ++ R)) = (d :: ip', 46 :: (fp ++ R)) := spanDigits_run _ _ hip rfl
      have hspan2 : spanDigits (fp ++ R) = (fp, R) := spanDigits_run _ _ hfp hRd
      simp only [dotText, List.cons_append, Option.getD_some] at hspan1 ⊢
      simp only [spanMantissa, hspan1, hspan2]
    | none =>
      have hspan1 : spanDigits (d :: ip' ++ R) = (d :: ip', R) := spanDigits_run _ _ hip hRd
      simp only [dotText, List.nil_append, Option.getD_none] at hspan1 ⊢
      simp only [spanMantissa, hspan1]
      split
      · rename_i r1'; exact absurd rfl ((hR 46 r1' rfl).2 rfl).1
      · rfl
  have hnx : ∀ p r', ip' ++ (dotText dot ++ R) = p :: r' → lower p ≠ 120 := by
    intro p r' h
    cases ip' with
    | cons e t =>
      simp only [List.cons_append, List.cons.injEq] at h
      have he := (isDigit_iff e).1 (hip e (by simp))
      rw [← h.1, lower_digit e he]; omega
    | nil =>
      cases dot with
      | some fp =>
        simp only [List.nil_append, dotText, List.cons_append, List.cons.injEq] at h
        rw [← h.1]; decide
      | none => exact ((hR p r' h).2 rfl).2
  have hspec : floatSpecial (d :: ip' ++ (dotText dot ++ R)) = none := by
    have h1 : ¬ d = 110 := by omega
    have h2 : ¬ d = 105 := by omega
    simp only [List.cons_append, floatSpecial, lower_digit d hd, h1, h2, if_false]
    split
    · cases hr : ip' ++ (dotText dot ++ R) with
      | nil => rfl
      | cons p r' => simp [hnx p r' hr]
    · rfl
  cases neg with
  | true =>
    simp only [if_true, List.cons_append, List.nil_append, scanFloating]
    rw [skipSpace_nonspace 45 _ (by decide)]
    simp only [List.cons_append] at hman hspec
    simp [hman, hspec, hexp]
  | false =>
    simp only [Bool.false_eq_true, if_false, List.cons_append, List.nil_append, scanFloating]
    rw [skipSpace_nonspace d _ (isSpace_of_ge d hd.1)]
    have e2 : ¬ d = 45 := by omega
    have e3 : ¬ d = 43 := by omega
    simp only [List.cons_append] at hman hspec
    simp [e2, e3, hman, hspec, hexp]

/-- a text is *a decimal floating text* for what the contract allows after it (`safe`: `fltSafe` or `gSafe`): scanf (any floating
    conversion, either destination) consumes exactly it when what follows is `safe`, and converts a mantissa and exponent that do
    not depend on what follows -/
def FloatText (t : List Nat) (safe : List Nat → Bool) : Prop :=
  ∃ (neg : Bool) (mant : Nat) (k : Int), ∀ (narrow : Bool) (f : List Nat), safe f = true →
    scanFloating narrow (t ++ f) = .ok (decToBitsW narrow neg mant k, f)

theorem floatText_of_shape (neg : Bool) (ip : List Nat) (dot : Option (List Nat)) (ex : Option (Nat × Nat × List Nat))
    (hip : ∀ b ∈ ip, isDigit b = true) (hne : ip ≠ []) (hfp : ∀ b ∈ dot.getD [], isDigit b = true) (hex : exOK ex) :
    FloatText ((if neg then [45] else []) ++ ip ++ dotText dot ++ exText ex) gSafe := by
  refine ⟨neg, digitsVal (ip ++ dot.getD []), exVal ex - (dot.getD []).length, fun narrow f hf => ?_⟩
  have := scanFloating_shape narrow neg ip dot ex f hip hne hfp hex (gSafe_fltSafe f hf) (fun _ _ => hf)
  simpa [List.append_assoc] using this

/-- the shape `%f` and `%e` share: the digits of `q` with a point before the last six -/
theorem scanFloating_six (narrow sg : Bool) (q : Nat) (ex : Option (Nat × Nat × List Nat)) (f : List Nat) (hex : exOK ex)
    (hf : fltSafe f = true) :
    scanFloating narrow ((if sg then [45] else []) ++ natDigits (q / 10 ^ 6) ++ [46] ++ (natDigits (10 ^ 6 + q % 10 ^ 6)).drop 1 ++
        exText ex ++ f) = .ok (decToBitsW narrow sg q (exVal ex - 6), f) := by
  obtain ⟨hlen, hval⟩ := natDigits_padded 6 (q % 10 ^ 6) (Nat.mod_lt _ (by decide)) (natDigits (q / 10 ^ 6))
  have := scanFloating_shape narrow sg (natDigits (q / 10 ^ 6)) (some ((natDigits (10 ^ 6 + q % 10 ^ 6)).drop 1)) ex f
    (natDigits_isDigit _) (natDigits_ne_nil _) (fun b hb => natDigits_isDigit _ b (List.mem_of_mem_drop hb)) hex hf nofun
  simp only [dotText, Option.getD_some, hlen, hval, digitsVal_natDigits] at this
  have hq : q / 10 ^ 6 * 10 ^ 6 + q % 10 ^ 6 = q := by
    have := Nat.div_add_mod q (10 ^ 6); rw [Nat.mul_comm] at this; exact this
  rw [hq] at this
  simpa [List.append_assoc] using this

theorem expText_val (upper : Bool) (x : Int) : ∃ ex, expText upper x = exText (some ex) ∧ exOK (some ex) ∧ exVal (some ex) = x := by
  refine ⟨(if upper then 69 else 101, if x < 0 then 45 else 43, (if x.natAbs < 10 then [48] else []) ++ natDigits x.natAbs),
    by simp [expText, exText], ⟨by cases upper <;> simp, by split <;> simp, fun b hb => ?_⟩, ?_⟩
  · simp only [List.mem_append] at hb
    rcases hb with hb | hb
    · split at hb <;> simp at hb; subst hb; rfl
    · exact natDigits_isDigit _ b hb
  · have hv : digitsVal ((if x.natAbs < 10 then [48] else []) ++ natDigits x.natAbs) = x.natAbs := by
      split
      · simp only [List.cons_append, List.nil_append]; rw [digitsVal_zero_cons, digitsVal_natDigits]
      · simp only [List.nil_append]; rw [digitsVal_natDigits]
    simp only [exVal, hv]
    by_cases hx : x < 0
    · simp only [hx, if_true]; omega
    · simp only [hx, if_false]; omega

theorem printF_scan (narrow : Bool) (bits : Nat) (f : List Nat) (hf : fltSafe f = true) :
    scanFloating narrow (printF bits ++ f) =
      .ok (decToBitsW narrow (fDecode bits).1 (fScaled (fDecode bits).2.1 (fDecode bits).2.2) (-6), f) := by
  simp only [printF]
  generalize fDecode bits = d
  obtain ⟨sg, m, e⟩ := d
  have := scanFloating_six narrow sg (fScaled m e) none f trivial hf
  simpa [exText, exVal] using this

/-- what scanf makes of the text `%e` wrote for `bits`: the decimal `D · 10^(X-6)`, converted to the destination -/
theorem printE_scan (narrow upper : Bool) (bits : Nat) (f : List Nat) (hf : fltSafe f = true) :
    scanFloating narrow (printE upper bits ++ f) =
      .ok (decToBitsW narrow (fDecode bits).1
        (if (fDecode bits).2.1 = 0 then ((0, 0) : Nat × Int) else
          sciDigits 6 (fFrac (fDecode bits).2.1 (fDecode bits).2.2).1 (fFrac (fDecode bits).2.1 (fDecode bits).2.2).2).1
        ((if (fDecode bits).2.1 = 0 then ((0, 0) : Nat × Int) else
          sciDigits 6 (fFrac (fDecode bits).2.1 (fDecode bits).2.2).1 (fFrac (fDecode bits).2.1 (fDecode bits).2.2).2).2 - 6), f) := by
  simp only [printE]
  generalize fDecode bits = dd
  obtain ⟨sg, m, e⟩ := dd
  simp only
  generalize (if m = 0 then ((0, 0) : Nat × Int) else sciDigits 6 (fFrac m e).1 (fFrac m e).2) = dx
  obtain ⟨ex, hE, hok, hval⟩ := expText_val upper dx.2
  have := scanFloating_six narrow sg dx.1 (some ex) f hok hf
  rw [hval] at this
  rw [hE]
  simpa [List.append_assoc] using this

theorem printF_floatText (bits : Nat) : FloatText (printF bits) fltSafe :=
  ⟨_, _, _, fun narrow f hf => printF_scan narrow bits f hf⟩

theorem printE_floatText (upper : Bool) (bits : Nat) : FloatText (printE upper bits) fltSafe :=
  ⟨_, _, _, fun narrow f hf => printE_scan narrow upper bits f hf⟩

theorem pt_dotText (frac : List Nat) :
    (if frac.isEmpty then [] else 46 :: frac) = dotText (if frac.isEmpty then none else some frac) := by
  split <;> rfl

/-- the shape of every `%g` text -/
theorem floatText_stripped (sg : Bool) (ip frac : List Nat) (ex : Option (Nat × Nat × List Nat))
    (hip : ∀ b ∈ ip, isDigit b = true) (hne : ip ≠ []) (hfr : ∀ b ∈ frac, isDigit b = true) (hex : exOK ex) :
    FloatText ((if sg then [45] else []) ++ ip ++ (if (stripZeros frac).isEmpty then [] else 46 :: stripZeros frac) ++ exText ex) gSafe := by
  rw [pt_dotText]
  exact floatText_of_shape sg ip (if (stripZeros frac).isEmpty then none else some (stripZeros frac)) ex hip hne
    (by
      intro b hb; split at hb
      · exact absurd hb List.not_mem_nil
      · exact hfr b (mem_stripZeros frac b hb)) hex

theorem printG_floatText (upper : Bool) (bits : Nat) : FloatText (printG upper bits) gSafe := by
  simp only [printG]
  generalize fDecode bits = d
  obtain ⟨sg, m, e⟩ := d
  simp only
  have h48 : ∀ b ∈ [48], isDigit b = true := by intro b hb; simp at hb; subst hb; rfl
  split
  · -- zero: "0" / "-0"
    have := floatText_stripped sg [48] [] none h48 (by simp) (by simp) trivial
    simpa [stripZeros, exText] using this
  · generalize sciDigits 5 (fFrac m e).1 (fFrac m e).2 = dx
    have hds := natDigits_isDigit dx.1
    have htake : ∀ k, (natDigits dx.1).take (k + 1) ≠ [] := by
      intro k; obtain ⟨a, t, h⟩ := List.exists_cons_of_ne_nil (natDigits_ne_nil dx.1); rw [h]; simp
    split
    · -- style e
      obtain ⟨ex, hE, hok, _⟩ := expText_val upper dx.2
      have := floatText_stripped sg ((natDigits dx.1).take 1) ((natDigits dx.1).drop 1) (some ex)
        (fun b hb => hds b (List.mem_of_mem_take hb)) (htake 0) (fun b hb => hds b (List.mem_of_mem_drop hb)) hok
      rw [hE]
      simpa [List.append_assoc] using this
    · split
      · -- style f, exponent ≥ 0
        have := floatText_stripped sg ((natDigits dx.1).take (dx.2.toNat + 1)) ((natDigits dx.1).drop (dx.2.toNat + 1)) none
          (fun b hb => hds b (List.mem_of_mem_take hb)) (htake _) (fun b hb => hds b (List.mem_of_mem_drop hb)) trivial
        simpa [exText] using this
      · -- style f, exponent < 0: "0." zeros digits
        have := floatText_stripped sg [48] (List.replicate ((-dx.2).toNat - 1) 48 ++ natDigits dx.1) none h48 (by simp)
          (by
            intro b hb
            simp only [List.mem_append, List.mem_replicate] at hb
            rcases hb with hb | hb
            · rw [hb.2]; rfl
            · exact hds b hb)
          trivial
        simpa [exText] using this

theorem printFloatSpec_floatText (cv : FConv) (bits : Nat) : FloatText (printFloatSpec cv bits) (fspecSafe cv) := by
  cases cv
  · exact printF_floatText bits
  · exact printF_floatText bits
  · exact printE_floatText false bits
  · exact printE_floatText true bits
  · exact printG_floatText false bits
  · exact printG_floatText true bits

theorem reparseSpec_of_scan (narrow : Bool) (cv : FConv) (bits v : Nat) (safe : List Nat → Bool) (hnil : safe [] = true)
    (h : ∀ f, safe f = true → scanFloating narrow (printFloatSpec cv bits ++ f) = .ok (v, f)) :
    reparseSpec narrow cv bits = v := by
  have := h [] hnil
  rw [List.append_nil] at this
  simp only [reparseSpec, this]

/-- the value stored is `reparseSpec`, which reads the text with nothing after it: it does not depend on what follows -/
theorem scanFloating_print (narrow : Bool) (cv : FConv) (bits : Nat) (f : List Nat) (hf : fspecSafe cv f = true) :
    scanFloating narrow (printFloatSpec cv bits ++ f) = .ok (reparseSpec narrow cv bits, f) := by
  obtain ⟨neg, mant, k, h⟩ := printFloatSpec_floatText cv bits
  rw [h narrow f hf, reparseSpec_of_scan narrow cv bits _ (fspecSafe cv) (by cases cv <;> rfl) (h narrow)]

/-- `%lf` on what `%f` wrote (the pair `Float_Show` / `Float_Look` uses) -/
theorem scanDouble_printF (bits : Nat) (f : List Nat) (hf : fltSafe f = true) :
    scanDouble (printF bits ++ f) = .ok (reparse bits, f) :=
  scanFloating_print false .f bits f hf

end Cello.Text
