/-
  From one step to whole histories.  A refinement of the abstract step (with an invariant) lifts to `runOps` against
  `Spec.run`; a simulation between two machines lifts to `runOps` (stop at the first exception) and to `foldl` (exceptions caught).
-/
import Cello.Seq

namespace Cello.Seq
variable {α : Type}

theorem runOps_refines {σ : Type} (step : σ → Op α → σ × Res Unit) (specStep : List α → Op α → Option (List α))
    (abs : σ → List α) (Inv : σ → Prop)
    (hstep : ∀ s op l', Inv s → specStep (abs s) op = some l' →
      (step s op).2 = .ok () ∧ abs (step s op).1 = l' ∧ Inv (step s op).1) :
    ∀ (ops : List (Op α)) (s : σ) (l' : List α), Inv s → Spec.run specStep (abs s) ops = some l' →
      (runOps step s ops).2 = .ok () ∧ abs (runOps step s ops).1 = l' ∧ Inv (runOps step s ops).1 := by
  intro ops
  induction ops with
  | nil => intro s l' hi h; simp [Spec.run] at h; simp [runOps, h, hi]
  | cons op ops ih =>
    intro s l' hi h
    simp only [Spec.run] at h
    cases hs : specStep (abs s) op with
    | none => rw [hs] at h; simp at h
    | some l1 =>
      rw [hs] at h; simp only [Option.bind_some] at h
      obtain ⟨h1, h2, h3⟩ := hstep s op l1 hi hs
      have hr : runOps step s (op :: ops) = runOps step (step s op).1 ops := by
        rw [runOps]
        rcases hst : step s op with ⟨s', r⟩
        rw [hst] at h1; simp only at h1; subst h1
        rfl
      rw [hr]
      exact ih (step s op).1 l' h3 (by rw [h2]; exact h)

theorem runOps_sim {σ τ : Type} (stepS : σ → Op α → σ × Res Unit) (stepA : τ → Op α → τ × Res Unit) (R : σ → τ → Prop)
    (hstep : ∀ s a op, R s a → R (stepS s op).1 (stepA a op).1 ∧ (stepS s op).2 = (stepA a op).2) :
    ∀ (ops : List (Op α)) (s : σ) (a : τ), R s a →
      R (runOps stepS s ops).1 (runOps stepA a ops).1 ∧ (runOps stepS s ops).2 = (runOps stepA a ops).2 := by
  intro ops
  induction ops with
  | nil => intro s a h; exact ⟨h, rfl⟩
  | cons op ops ih =>
    intro s a h
    obtain ⟨h1, h2⟩ := hstep s a op h
    rcases hs : stepS s op with ⟨s', rs⟩
    rcases ha : stepA a op with ⟨a', ra⟩
    rw [hs, ha] at h1 h2
    simp only at h1 h2
    subst h2
    simp only [runOps, hs, ha]
    cases rs with
    | ok u => cases u; exact ih s' a' h1
    | raised e => exact ⟨h1, rfl⟩
    | ub => exact ⟨h1, rfl⟩

theorem foldl_sim {σ τ : Type} (stepS : σ → Op α → σ × Res Unit) (stepA : τ → Op α → τ × Res Unit) (R : σ → τ → Prop)
    (hstep : ∀ s a op, R s a → R (stepS s op).1 (stepA a op).1 ∧ (stepS s op).2 = (stepA a op).2) :
    ∀ (ops : List (Op α)) (s : σ) (a : τ), R s a →
      R (ops.foldl (fun s op => (stepS s op).1) s) (ops.foldl (fun a op => (stepA a op).1) a) := by
  intro ops
  induction ops with
  | nil => intro s a h; exact h
  | cons op ops ih => intro s a h; exact ih _ _ (hstep s a op h).1

end Cello.Seq
