/-
  The store-level List (`LstS`) simulates the list-level `Lst` operation by operation and never touches a
  freed node or follows a NULL link.  The chain is always taken at a split `pre ++ post` (`Chain.split`, `Chain.middle`): link
  surgery writes at the split and frames the two halves, every walk is an induction along a segment (`Seg`).
-/
import Cello.SeqStore
import CelloProofs.Lemmas.SeqLst

namespace Cello.Seq
variable {α : Type}

abbrev Heap (α : Type) := Array (Option (Node α))

theorem heap_lt {h : Heap α} {a : Nat} {nd : Node α} (hn : h[a]? = some (some nd)) : a < h.size := by
  by_cases hlt : a < h.size
  · exact hlt
  · rw [Array.getElem?_eq_none (by omega)] at hn; cases hn

/-- the address a segment is entered through from the left: its first node, or `q` when it is empty -/
def nextOf (cells : List (Nat × α)) (q : Option Nat) : Option Nat :=
  match cells with
  | [] => q
  | (b, _) :: _ => some b

/-- the address a segment is entered through from the right: its last node, or `p` when it is empty -/
def lastOf : List (Nat × α) → Option Nat → Option Nat
  | [], p => p
  | (a, _) :: rest, _ => lastOf rest (some a)

/-- a doubly linked segment: the nodes `cells` (address, element) in order, the first one's `prev` is `p`, the last one's
    `next` is `q`, every inner link points to the neighbour -/
def Seg (h : Heap α) : Option Nat → List (Nat × α) → Option Nat → Prop
  | _, [], _ => True
  | p, (a, v) :: rest, q => h[a]? = some (some ⟨p, nextOf rest q, v⟩) ∧ Seg h (some a) rest q

theorem nextOf_append (xs ys : List (Nat × α)) (q : Option Nat) : nextOf (xs ++ ys) q = nextOf xs (nextOf ys q) := by
  cases xs with
  | nil => rfl
  | cons x xs => rfl

theorem nextOf_cons (a : Nat) (v : α) (rest : List (Nat × α)) (q : Option Nat) : nextOf ((a, v) :: rest) q = some a := rfl

theorem lastOf_append (xs ys : List (Nat × α)) (p : Option Nat) : lastOf (xs ++ ys) p = lastOf ys (lastOf xs p) := by
  induction xs generalizing p with
  | nil => rfl
  | cons x xs ih => obtain ⟨a, v⟩ := x; simp only [List.cons_append, lastOf]; exact ih _

theorem lastOf_ne_nil (xs : List (Nat × α)) (hne : xs ≠ []) (p p' : Option Nat) : lastOf xs p = lastOf xs p' := by
  cases xs with
  | nil => exact absurd rfl hne
  | cons x xs => obtain ⟨a, v⟩ := x; rfl

theorem nextOf_ne_nil (xs : List (Nat × α)) (hne : xs ≠ []) (q q' : Option Nat) : nextOf xs q = nextOf xs q' := by
  cases xs with
  | nil => exact absurd rfl hne
  | cons x xs => obtain ⟨a, v⟩ := x; rfl

theorem lastOf_mem (xs : List (Nat × α)) (hne : xs ≠ []) (p : Option Nat) :
    ∃ a, lastOf xs p = some a ∧ a ∈ xs.map (·.1) := by
  induction xs generalizing p with
  | nil => exact absurd rfl hne
  | cons x xs ih =>
    obtain ⟨a, v⟩ := x
    cases xs with
    | nil => exact ⟨a, rfl, by simp⟩
    | cons y ys =>
      obtain ⟨b, hb, hm⟩ := ih (by simp) (some a)
      exact ⟨b, hb, by simp only [List.map_cons, List.mem_cons] at hm ⊢; exact Or.inr hm⟩

theorem nextOf_mem (xs : List (Nat × α)) (hne : xs ≠ []) (q : Option Nat) :
    ∃ a, nextOf xs q = some a ∧ a ∈ xs.map (·.1) := by
  cases xs with
  | nil => exact absurd rfl hne
  | cons x xs => obtain ⟨a, v⟩ := x; exact ⟨a, rfl, by simp⟩

theorem lastOf_eq_none {xs : List (Nat × α)} : lastOf xs none = none ↔ xs = [] := by
  cases xs with
  | nil => exact ⟨fun _ => rfl, fun _ => rfl⟩
  | cons x xs =>
    obtain ⟨a, ha, _⟩ := lastOf_mem (x :: xs) (List.cons_ne_nil _ _) none
    exact ⟨fun h => (by rw [ha] at h; cases h), fun h => (by cases h)⟩

theorem nextOf_eq_none {xs : List (Nat × α)} : nextOf xs none = none ↔ xs = [] := by
  cases xs with
  | nil => exact ⟨fun _ => rfl, fun _ => rfl⟩
  | cons x xs => exact ⟨fun h => (by cases h), fun h => (by cases h)⟩

theorem nextOf_eq_exit {xs : List (Nat × α)} {a : Nat} (ha : a ∉ xs.map (·.1)) : nextOf xs (some a) = some a ↔ xs = [] := by
  cases xs with
  | nil => exact ⟨fun _ => rfl, fun _ => rfl⟩
  | cons x xs => exact ⟨fun h => absurd (by cases h; exact List.mem_cons_self) ha, fun h => (by cases h)⟩

theorem lastOf_eq_entry {xs : List (Nat × α)} {a : Nat} (ha : a ∉ xs.map (·.1)) : lastOf xs (some a) = some a ↔ xs = [] := by
  cases xs with
  | nil => exact ⟨fun _ => rfl, fun _ => rfl⟩
  | cons x xs =>
    obtain ⟨c, hc, hm⟩ := lastOf_mem (x :: xs) (List.cons_ne_nil _ _) (some a)
    exact ⟨fun h => absurd (by rw [hc] at h; cases h; exact hm) ha, fun h => (by cases h)⟩

theorem Seg.frame {h h' : Heap α} : ∀ {cells : List (Nat × α)} {p q : Option Nat},
    (∀ a ∈ cells.map (·.1), h'[a]? = h[a]?) → Seg h p cells q → Seg h' p cells q := by
  intro cells
  induction cells with
  | nil => intro p q _ _; trivial
  | cons x xs ih =>
    intro p q hf hs
    obtain ⟨a, v⟩ := x
    refine ⟨?_, ih (fun b hb => hf b (by simp only [List.map_cons, List.mem_cons]; exact Or.inr hb)) hs.2⟩
    rw [hf a (by simp)]; exact hs.1

/-- a write (or a free: `c = none`) to a cell that is not a node of the segment leaves the segment as it was -/
theorem Seg.set_other {h : Heap α} {cells : List (Nat × α)} {p q : Option Nat} (a : Nat) (c : Option (Node α))
    (hs : Seg h p cells q) (ha : a ∉ cells.map (·.1)) : Seg (h.setIfInBounds a c) p cells q :=
  hs.frame fun b hb => by rw [Array.getElem?_setIfInBounds, if_neg (fun e : a = b => ha (e ▸ hb))]

theorem Seg.append {h : Heap α} : ∀ {xs ys : List (Nat × α)} {p q : Option Nat},
    Seg h p (xs ++ ys) q ↔ Seg h p xs (nextOf ys q) ∧ Seg h (lastOf xs p) ys q := by
  intro xs
  induction xs with
  | nil => intro ys p q; simp [Seg, lastOf]
  | cons x xs ih =>
    intro ys p q
    obtain ⟨a, v⟩ := x
    simp only [List.cons_append, Seg, lastOf, nextOf_append, ih, and_assoc]

theorem Seg.middle {h : Heap α} {pre post : List (Nat × α)} {a : Nat} {v : α} {p q : Option Nat} :
    Seg h p (pre ++ (a, v) :: post) q ↔
      Seg h p pre (some a) ∧ h[a]? = some (some ⟨lastOf pre p, nextOf post q, v⟩) ∧ Seg h (some a) post q := by
  rw [Seg.append]; simp only [nextOf, Seg]

theorem Seg.live {h : Heap α} : ∀ {cells : List (Nat × α)} {p q : Option Nat}, Seg h p cells q →
    ∀ a ∈ cells.map (·.1), ∃ nd, h[a]? = some (some nd) := by
  intro cells
  induction cells with
  | nil => intro p q _ a ha; simp at ha
  | cons x xs ih =>
    intro p q hs a ha
    obtain ⟨b, w⟩ := x
    simp only [List.map_cons, List.mem_cons] at ha
    rcases ha with rfl | ha
    · exact ⟨_, hs.1⟩
    · exact ih hs.2 a ha

namespace LstS

/-- the abstraction of a store-level List: the chain of nodes from `head` to `tail` -/
structure Chain (s : LstS α) (cells : List (Nat × α)) : Prop where
  nodup : (cells.map (·.1)).Nodup
  seg : Seg s.heap none cells none
  head : s.head = nextOf cells none
  tail : s.tail = lastOf cells none

/-- abstraction relation to the list-level model (which implies the counter invariant `Lst.Inv`) -/
def Abs (s : LstS α) (l : Lst α) : Prop :=
  ∃ cells : List (Nat × α), s.Chain cells ∧ l.items = cells.map (·.2) ∧ l.nitems = cells.length ∧ s.nitems = cells.length

theorem Abs.intro {s : LstS α} {cells : List (Nat × α)} (hc : s.Chain cells) (hn : s.nitems = cells.length) :
    s.Abs ⟨cells.map (·.2), cells.length⟩ := ⟨cells, hc, rfl, rfl, hn⟩

theorem Abs.elim {s : LstS α} {l : Lst α} (h : s.Abs l) :
    ∃ cells, s.Chain cells ∧ s.nitems = cells.length ∧ l = ⟨cells.map (·.2), cells.length⟩ := by
  obtain ⟨cells, hc, hi, hl, hn⟩ := h
  obtain ⟨items, nitems⟩ := l
  exact ⟨cells, hc, hn, by cases hi; cases hl; rfl⟩

theorem Abs.inv {s : LstS α} {l : Lst α} (h : s.Abs l) : l.Inv := by
  obtain ⟨cells, _, _, rfl⟩ := h.elim
  exact (List.length_map ..).symm

theorem Abs.nitems_eq {s : LstS α} {l : Lst α} (h : s.Abs l) : s.nitems = l.nitems := by
  obtain ⟨cells, _, hn, rfl⟩ := h.elim
  exact hn

theorem node_eq (s : LstS α) (a : Nat) (nd : Node α) (h : s.heap[a]? = some (some nd)) : s.node a = some nd := by
  unfold node; rw [h]; rfl

theorem node_some {s : LstS α} {a : Nat} {nd : Node α} (h : s.node a = some nd) : s.heap[a]? = some (some nd) := by
  unfold node at h
  cases hh : s.heap[a]? with
  | none => rw [hh] at h; cases h
  | some o => rw [hh] at h; simp only [Option.getD_some] at h; rw [h]

theorem setNext_eq {s : LstS α} {a : Nat} {nd : Node α} (h : s.heap[a]? = some (some nd)) (v : Option Nat) :
    s.setNext a v = some { s with heap := s.heap.setIfInBounds a (some { nd with next := v }) } := by
  unfold setNext; rw [node_eq s a nd h]; rfl

theorem setPrev_eq {s : LstS α} {a : Nat} {nd : Node α} (h : s.heap[a]? = some (some nd)) (v : Option Nat) :
    s.setPrev a v = some { s with heap := s.heap.setIfInBounds a (some { nd with prev := v }) } := by
  unfold setPrev; rw [node_eq s a nd h]; rfl

theorem nodup_middle_iff {pre post : List (Nat × α)} {a : Nat} {v : α} :
    ((pre ++ (a, v) :: post).map (·.1)).Nodup ↔ a ∉ (pre ++ post).map (·.1) ∧ ((pre ++ post).map (·.1)).Nodup := by
  rw [List.map_append, List.map_cons, List.perm_middle.nodup_iff, List.nodup_cons, ← List.map_append]

theorem not_mem_append {pre post : List (Nat × α)} {a : Nat} (h : a ∉ (pre ++ post).map (·.1)) :
    a ∉ pre.map (·.1) ∧ a ∉ post.map (·.1) := by
  rwa [List.map_append, List.mem_append, not_or] at h

theorem disjoint_of_nodup {pre post : List (Nat × α)} (h : ((pre ++ post).map (·.1)).Nodup) :
    (pre.map (·.1)).Nodup ∧ (post.map (·.1)).Nodup ∧ (∀ b ∈ pre.map (·.1), b ∉ post.map (·.1)) ∧ (∀ b ∈ post.map (·.1), b ∉ pre.map (·.1)) := by
  rw [List.map_append, List.nodup_append] at h
  exact ⟨h.1, h.2.1, fun b hb hb' => h.2.2 b hb b hb' rfl, fun b hb hb' => h.2.2 b hb' b hb rfl⟩

/-- `head` and `tail` are read as the `next` field of a virtual node in front of the chain and the `prev` field of a virtual node
    behind it (`none` is the address of either).  A write to "the `next` field of `p`" or "the `prev` field of `q`" then needs no head / tail
    case, and `List_Link` and `List_Unlink` are two such writes each (`linkPrev_eq`, `linkNext_eq`, `unlink_eq`). -/
def putNext (s : LstS α) (p v : Option Nat) : Option (LstS α) :=
  match p with
  | none => some { s with head := v }
  | some a => s.setNext a v

def putPrev (s : LstS α) (q v : Option Nat) : Option (LstS α) :=
  match q with
  | none => some { s with tail := v }
  | some a => s.setPrev a v

theorem linkPrev_eq (s : LstS α) (item : Nat) (prev : Option Nat) : s.linkPrev item prev = s.putNext prev (some item) := by
  cases prev <;> rfl

theorem linkNext_eq (s : LstS α) (item : Nat) (next : Option Nat) : s.linkNext item next = s.putPrev next (some item) := by
  cases next <;> rfl

/-- the four cases of the C text, looked at here and nowhere else: when `prev` is NULL exactly for the head and `next` is NULL exactly
    for the tail (true in a chain), each of them is the two writes "`prev.next := next`, `next.prev := prev`" -/
theorem unlink_eq {s : LstS α} {a : Nat} {nd : Node α} (hn : s.node a = some nd)
    (hh : some a = s.head ↔ nd.prev = none) (ht : some a = s.tail ↔ nd.next = none) :
    s.unlink a = (s.putNext nd.prev nd.next).bind fun s1 => s1.putPrev nd.next nd.prev := by
  obtain ⟨p, n, v⟩ := nd
  unfold unlink
  rw [hn]
  dsimp only
  cases p with
  | none =>
    cases n with
    | none => rw [if_pos ⟨hh.2 rfl, ht.2 rfl⟩]; rfl
    | some n => rw [if_neg (fun h => nomatch ht.1 h.2), if_pos (hh.2 rfl)]; rfl
  | some p =>
    rw [if_neg (fun h => nomatch hh.1 h.1), if_neg (fun h => nomatch hh.1 h)]
    cases n with
    | none =>
      rw [if_pos (ht.2 rfl)]
      show ({ s with tail := some p } : LstS α).setNext p none = (s.setNext p none).bind _
      unfold setNext
      show (match s.node p with | none => none | some nd => _) = _
      cases s.node p <;> rfl
    | some n => rw [if_neg (fun h => nomatch ht.1 h)]; rfl

/-- the chain from `head` through the cells `pre`, leaving to `q` -/
structure Front (s : LstS α) (pre : List (Nat × α)) (q : Option Nat) : Prop where
  seg : Seg s.heap none pre q
  head : s.head = nextOf pre q

/-- the chain from `tail` back through the cells `post`, leaving to `p` -/
structure Back (s : LstS α) (p : Option Nat) (post : List (Nat × α)) : Prop where
  seg : Seg s.heap p post none
  tail : s.tail = lastOf post p

theorem Chain.split {s : LstS α} {pre post : List (Nat × α)} :
    s.Chain (pre ++ post) ↔
      ((pre ++ post).map (·.1)).Nodup ∧ s.Front pre (nextOf post none) ∧ s.Back (lastOf pre none) post := by
  constructor
  · intro hc
    obtain ⟨h1, h2⟩ := Seg.append.1 hc.seg
    exact ⟨hc.nodup, ⟨h1, hc.head.trans (nextOf_append ..)⟩, ⟨h2, hc.tail.trans (lastOf_append ..)⟩⟩
  · intro ⟨hnd, hf, hb⟩
    exact ⟨hnd, Seg.append.2 ⟨hf.seg, hb.seg⟩, hf.head.trans (nextOf_append ..).symm, hb.tail.trans (lastOf_append ..).symm⟩

theorem Chain.middle {s : LstS α} {pre post : List (Nat × α)} {a : Nat} {v : α} :
    s.Chain (pre ++ (a, v) :: post) ↔
      ((pre ++ (a, v) :: post).map (·.1)).Nodup ∧ s.Front pre (some a) ∧
        s.heap[a]? = some (some ⟨lastOf pre none, nextOf post none, v⟩) ∧ s.Back (some a) post := by
  rw [Chain.split]
  exact ⟨fun ⟨hnd, hf, hb⟩ => ⟨hnd, hf, hb.seg.1, hb.seg.2, hb.tail⟩, fun ⟨hnd, hf, hn, hb⟩ => ⟨hnd, hf, ⟨hn, hb.seg⟩, hb.tail⟩⟩

theorem Front.frame {s : LstS α} {pre : List (Nat × α)} {q : Option Nat} (hf : s.Front pre q) {h' : Heap α} (tl' : Option Nat)
    (hfr : ∀ b ∈ pre.map (·.1), h'[b]? = s.heap[b]?) : ({ s with heap := h', tail := tl' } : LstS α).Front pre q :=
  ⟨hf.seg.frame hfr, hf.head⟩

theorem Back.frame {s : LstS α} {post : List (Nat × α)} {p : Option Nat} (hb : s.Back p post) {h' : Heap α} (hd' : Option Nat)
    (hfr : ∀ b ∈ post.map (·.1), h'[b]? = s.heap[b]?) : ({ s with heap := h', head := hd' } : LstS α).Back p post :=
  ⟨hb.seg.frame hfr, hb.tail⟩

theorem Front.set_other {s : LstS α} {pre : List (Nat × α)} {q : Option Nat} (hf : s.Front pre q) (a : Nat) (c : Option (Node α))
    (ha : a ∉ pre.map (·.1)) : ({ s with heap := s.heap.setIfInBounds a c } : LstS α).Front pre q :=
  ⟨hf.seg.set_other a c ha, hf.head⟩

theorem Back.set_other {s : LstS α} {post : List (Nat × α)} {p : Option Nat} (hb : s.Back p post) (a : Nat) (c : Option (Node α))
    (ha : a ∉ post.map (·.1)) : ({ s with heap := s.heap.setIfInBounds a c } : LstS α).Back p post :=
  ⟨hb.seg.set_other a c ha, hb.tail⟩

/-- one write redirects the way out of a front and touches no cell outside it; the result state is given explicitly so that `tail` and
    `nitems` are unchanged by `rfl` -/
theorem Front.putNext {s : LstS α} {pre : List (Nat × α)} {q : Option Nat} (hf : s.Front pre q)
    (hnd : (pre.map (·.1)).Nodup) (q' : Option Nat) :
    ∃ h' hd', s.putNext (lastOf pre none) q' = some { s with heap := h', head := hd' } ∧
      ({ s with heap := h', head := hd' } : LstS α).Front pre q' ∧ ∀ b, b ∉ pre.map (·.1) → h'[b]? = s.heap[b]? := by
  rcases List.eq_nil_or_concat pre with rfl | ⟨init, ⟨p, w⟩, rfl⟩
  · exact ⟨s.heap, q', rfl, ⟨trivial, rfl⟩, fun _ _ => rfl⟩
  · rw [List.concat_eq_append] at hf hnd ⊢
    obtain ⟨g1, g2, _⟩ := Seg.middle.1 hf.seg
    obtain ⟨hp, _⟩ := nodup_middle_iff.1 hnd
    rw [List.append_nil] at hp
    refine ⟨s.heap.setIfInBounds p (some ⟨lastOf init none, q', w⟩), s.head,
      by rw [lastOf_append]; exact setNext_eq g2 q',
      ⟨Seg.middle.2 ⟨g1.set_other _ _ hp, Array.getElem?_setIfInBounds_self_of_lt (heap_lt g2), trivial⟩,
        hf.head.trans (by rw [nextOf_append, nextOf_append]; rfl)⟩,
      fun b hb => Array.getElem?_setIfInBounds_ne fun e : p = b => hb (by rw [← e]; simp)⟩

theorem Back.putPrev {s : LstS α} {post : List (Nat × α)} {p : Option Nat} (hb : s.Back p post)
    (hnd : (post.map (·.1)).Nodup) (p' : Option Nat) :
    ∃ h' tl', s.putPrev (nextOf post none) p' = some { s with heap := h', tail := tl' } ∧
      ({ s with heap := h', tail := tl' } : LstS α).Back p' post ∧ ∀ b, b ∉ post.map (·.1) → h'[b]? = s.heap[b]? := by
  cases post with
  | nil => exact ⟨s.heap, p', rfl, ⟨trivial, rfl⟩, fun _ _ => rfl⟩
  | cons x xs =>
    obtain ⟨c, w⟩ := x
    rw [List.map_cons, List.nodup_cons] at hnd
    exact ⟨s.heap.setIfInBounds c (some ⟨p', nextOf xs none, w⟩), s.tail, setPrev_eq hb.seg.1 p',
      ⟨⟨Array.getElem?_setIfInBounds_self_of_lt (heap_lt hb.seg.1), hb.seg.2.set_other _ _ hnd.1⟩, hb.tail⟩,
      fun b hb' => Array.getElem?_setIfInBounds_ne fun e : c = b => hb' (e ▸ List.mem_cons_self)⟩

/-- `List_Unlink` of the node at a position of the chain: the chain without it (the node itself stays allocated) -/
theorem unlink_chain {s : LstS α} {pre post : List (Nat × α)} {a : Nat} {v : α} (hc : s.Chain (pre ++ (a, v) :: post)) :
    ∃ s', s.unlink a = some s' ∧ s'.Chain (pre ++ post) ∧ s'.nitems = s.nitems ∧ ∃ nd, s'.heap[a]? = some (some nd) := by
  obtain ⟨hnd, hf, hna, hb⟩ := Chain.middle.1 hc
  obtain ⟨hfresh, hnd'⟩ := nodup_middle_iff.1 hnd
  obtain ⟨ha1, ha2⟩ := not_mem_append hfresh
  obtain ⟨n1, n2, d1, d2⟩ := disjoint_of_nodup hnd'
  obtain ⟨h1, hd1, e1, f1, o1⟩ := hf.putNext n1 (nextOf post none)
  obtain ⟨h2, tl2, e2, b2, o2⟩ := (hb.frame hd1 fun b hb' => o1 b (d2 b hb')).putPrev n2 (lastOf pre none)
  refine ⟨_, ?_, Chain.split.2 ⟨hnd', f1.frame tl2 fun b hb' => o2 b (d1 b hb'), b2⟩, rfl, _, (o2 a ha2).trans ((o1 a ha1).trans hna)⟩
  rw [unlink_eq (node_eq s a _ hna), e1]
  · exact e2
  -- `a` is the head exactly when `pre` is empty, the tail exactly when `post` is
  · rw [hf.head, eq_comm, nextOf_eq_exit ha1, lastOf_eq_none]
  · rw [hb.tail, eq_comm, lastOf_eq_entry ha2, nextOf_eq_none]

theorem remove_chain {s : LstS α} {pre post : List (Nat × α)} {a : Nat} {v : α} (hc : s.Chain (pre ++ (a, v) :: post)) :
    ∃ s', s.remove a = (s', .ok ()) ∧ s'.Chain (pre ++ post) ∧ s'.nitems = s.nitems - 1 := by
  obtain ⟨s1, e1, c1, n1, nd, hnd⟩ := unlink_chain hc
  unfold remove free
  rw [e1]; dsimp only; rw [node_eq s1 a nd hnd]
  exact ⟨_, rfl, ⟨c1.nodup, c1.seg.set_other _ _ (nodup_middle_iff.1 hc.nodup).1, c1.head, c1.tail⟩, congrArg (· - 1) n1⟩

/-- the node's own two links, which `List_Link` writes last -/
theorem setLinks_eq {s : LstS α} {n : Nat} {nd0 : Node α} (hn : s.heap[n]? = some (some nd0)) (p q : Option Nat) :
    ((s.setNext n q).bind fun s3 => s3.setPrev n p) = some { s with heap := s.heap.setIfInBounds n (some ⟨p, q, nd0.val⟩) } := by
  have hlt := heap_lt hn
  rw [setNext_eq hn, Option.bind_some]
  unfold setPrev node
  simp only [Array.getElem?_setIfInBounds_self_of_lt hlt, Option.getD_some, setNode, Array.setIfInBounds_setIfInBounds]

/-- `List_Link` of a live node that is not in the chain, between the two halves `pre` / `post` of the chain -/
theorem link_chain {s : LstS α} {pre post : List (Nat × α)} (hc : s.Chain (pre ++ post)) (n : Nat) (nd0 : Node α)
    (hn : s.heap[n]? = some (some nd0)) (hfresh : n ∉ (pre ++ post).map (·.1)) :
    ∃ s', s.link n (lastOf pre none) (nextOf post none) = some s' ∧ s'.Chain (pre ++ (n, nd0.val) :: post) ∧
      s'.nitems = s.nitems := by
  obtain ⟨hnd, hf, hb⟩ := Chain.split.1 hc
  obtain ⟨ha1, ha2⟩ := not_mem_append hfresh
  obtain ⟨n1, n2, d1, d2⟩ := disjoint_of_nodup hnd
  obtain ⟨h1, hd1, e1, f1, o1⟩ := hf.putNext n1 (some n)
  obtain ⟨h2, tl2, e2, b2, o2⟩ := (hb.frame hd1 fun b hb' => o1 b (d2 b hb')).putPrev n2 (some n)
  have f2 := f1.frame tl2 fun b hb' => o2 b (d1 b hb')
  have hn2 : h2[n]? = some (some nd0) := (o2 n ha2).trans ((o1 n ha1).trans hn)
  refine ⟨_, ?_, Chain.middle.2 ⟨nodup_middle_iff.2 ⟨hfresh, hnd⟩,
    f2.set_other n _ ha1, Array.getElem?_setIfInBounds_self_of_lt (heap_lt hn2), b2.set_other n _ ha2⟩, rfl⟩
  unfold link
  rw [linkPrev_eq, e1, Option.bind_some, linkNext_eq, e2, Option.bind_some]
  exact setLinks_eq hn2 _ _

theorem setVal_chain {s : LstS α} {pre post : List (Nat × α)} {a : Nat} {v : α} (hc : s.Chain (pre ++ (a, v) :: post)) (x : α) :
    ∃ s', s.setVal a x = some s' ∧ s'.Chain (pre ++ (a, x) :: post) ∧ s'.nitems = s.nitems := by
  obtain ⟨hnd, hf, hna, hb⟩ := Chain.middle.1 hc
  obtain ⟨ha1, ha2⟩ := not_mem_append (nodup_middle_iff.1 hnd).1
  refine ⟨_, by unfold setVal; rw [node_eq s a _ hna]; rfl, Chain.middle.2 ⟨?_,
    hf.set_other a _ ha1, Array.getElem?_setIfInBounds_self_of_lt (heap_lt hna), hb.set_other a _ ha2⟩, rfl⟩
  rw [nodup_middle_iff] at hnd ⊢; exact hnd

theorem exists_split_at {cells : List (Nat × α)} {k : Nat} (hk : k < cells.length) :
    ∃ pre a v post, cells = pre ++ (a, v) :: post ∧ pre.length = k :=
  ⟨cells.take k, cells[k].1, cells[k].2, cells.drop (k + 1),
    (List.take_append_drop k cells).symm.trans (congrArg _ (List.drop_eq_getElem_cons hk)),
    List.length_take_of_le (Nat.le_of_lt hk)⟩

/-- list surgery at a split position, seen through `map` -/
theorem map_split {β γ : Type} (f : β → γ) (pre post : List β) (x : β) :
    ((pre ++ x :: post).map f).take pre.length = pre.map f ∧ ((pre ++ x :: post).map f).drop pre.length = f x :: post.map f ∧
      ((pre ++ x :: post).map f).drop (pre.length + 1) = post.map f ∧
      ∀ y, ((pre ++ x :: post).map f).set pre.length y = pre.map f ++ y :: post.map f := by
  have h1 : (pre.map f).length = pre.length := List.length_map ..
  have h2 : (pre.map f ++ [f x]).length = pre.length + 1 := by rw [List.length_append, h1]; rfl
  rw [List.map_append, List.map_cons]
  refine ⟨List.take_left' h1, List.drop_left' h1, ?_, fun y => ?_⟩
  · rw [List.append_cons]; exact List.drop_left' h2
  · rw [List.set_append_right _ _ (Nat.le_of_eq h1), h1, Nat.sub_self]; rfl

theorem walkNext_seg {s : LstS α} : ∀ {pre post : List (Nat × α)} {p q : Option Nat},
    Seg s.heap p (pre ++ post) q → s.walkNext pre.length (nextOf (pre ++ post) q) = nextOf post q := by
  intro pre
  induction pre with
  | nil => intro post p q _; rfl
  | cons x rest ih =>
    intro post p q hs
    obtain ⟨a, v⟩ := x
    rw [List.cons_append] at hs
    simp only [List.cons_append, List.length_cons, nextOf_cons, LstS.walkNext, node_eq s a _ hs.1]
    exact ih hs.2

theorem walkPrev_seg {s : LstS α} {pre : List (Nat × α)} {p : Option Nat} : ∀ {post : List (Nat × α)} {q : Option Nat},
    Seg s.heap p (pre ++ post) q → s.walkPrev post.length (lastOf (pre ++ post) p) = lastOf pre p := by
  intro post
  induction hn : post.length generalizing post with
  | zero => intro q _; rw [List.eq_nil_of_length_eq_zero hn, List.append_nil]; rfl
  | succ n ih =>
    intro q hs
    rcases List.eq_nil_or_concat post with rfl | ⟨init, ⟨a, v⟩, rfl⟩
    · cases hn
    · rw [List.concat_eq_append, ← List.append_assoc] at hs ⊢
      obtain ⟨h1, h2, _⟩ := Seg.middle.1 hs
      rw [lastOf_append]
      simp only [lastOf, LstS.walkPrev, node_eq s a _ h2]
      exact ih (by simpa using hn) h1

theorem nodeAt_none {s : LstS α} {cells : List (Nat × α)} (hn : s.nitems = cells.length)
    (i : Int) (hk : Spec.idx cells.length i = none) : s.nodeAt i = .raised .indexOutOfBounds := by
  have hc := idx_none _ _ hk
  unfold LstS.nodeAt
  simp only [hn]
  rw [if_pos hc]

/-- `List_At` on the nodes and on the list level: both refuse the index, or both name the same node, at which the chain splits
    (reached from `head` over `pre` or from `tail` back over `post`, whichever the code chooses) -/
theorem nodeAt_sim {s : LstS α} {cells : List (Nat × α)} (hc : s.Chain cells) (hn : s.nitems = cells.length) (i : Int) :
    (s.nodeAt i = .raised .indexOutOfBounds ∧
      (⟨cells.map (·.2), cells.length⟩ : Lst α).nodeAt i = .raised .indexOutOfBounds) ∨
    ∃ pre a v post, cells = pre ++ (a, v) :: post ∧ s.nodeAt i = .ok a ∧
      (⟨cells.map (·.2), cells.length⟩ : Lst α).nodeAt i = .ok (pre.length, v) := by
  have hinv : (⟨cells.map (·.2), cells.length⟩ : Lst α).Inv := (List.length_map ..).symm
  have hlen : (⟨cells.map (·.2), cells.length⟩ : Lst α).items.length = cells.length := List.length_map ..
  cases hk : Spec.idx cells.length i with
  | none => exact .inl ⟨nodeAt_none hn i hk, Lst.nodeAt_none _ hinv i (hlen ▸ hk)⟩
  | some k =>
    obtain ⟨h1, h2, h3⟩ := idx_some _ _ _ hk
    obtain ⟨pre, a, v, post, rfl, rfl⟩ := exists_split_at h3
    obtain ⟨v', hv', hla⟩ := Lst.nodeAt_some _ hinv i pre.length (hlen ▸ hk)
    rw [List.getElem?_map, List.getElem?_append_right (Nat.le_refl _), Nat.sub_self] at hv'
    cases hv'
    refine .inr ⟨pre, a, v, post, rfl, ?_, hla⟩
    obtain ⟨_, _, hna, _⟩ := Chain.middle.1 hc
    have hlive : (s.node a).isSome = true := by rw [node_eq s _ _ hna]; rfl
    unfold LstS.nodeAt
    simp only [hn]
    rw [if_neg h1, h2]
    by_cases hhalf : pre.length ≤ (pre ++ (a, v) :: post).length / 2
    · rw [if_pos hhalf, hc.head, walkNext_seg hc.seg]
      simp only [nextOf_cons, hlive, if_true]
    · have hs := hc.seg
      have e : (pre ++ (a, v) :: post).length - pre.length - 1 = post.length := by
        rw [List.length_append, List.length_cons, Nat.add_sub_cancel_left, Nat.add_sub_cancel]
      rw [List.append_cons] at hs
      rw [if_neg hhalf, hc.tail, e, List.append_cons, walkPrev_seg hs, lastOf_append]
      simp only [lastOf, hlive, if_true]

theorem alloc_chain {s : LstS α} {cells : List (Nat × α)} (hc : s.Chain cells) (x : α) :
    (s.alloc x).1.Chain cells ∧ (s.alloc x).2 = s.heap.size ∧
    (s.alloc x).1.heap[s.heap.size]? = some (some ⟨none, none, x⟩) ∧ s.heap.size ∉ cells.map (·.1) ∧
    (s.alloc x).1.nitems = s.nitems := by
  have hfresh : s.heap.size ∉ cells.map (·.1) := by
    intro hm
    obtain ⟨nd, hnd⟩ := hc.seg.live _ hm
    have := heap_lt hnd; omega
  refine ⟨⟨hc.nodup, ?_, hc.head, hc.tail⟩, rfl, by simp [LstS.alloc], hfresh, rfl⟩
  apply Seg.frame _ hc.seg
  intro b hb
  show (s.heap.push _)[b]? = _
  rw [Array.getElem?_push, if_neg (by intro e; subst e; exact hfresh hb)]

theorem push_sim {s : LstS α} {l : Lst α} (h : s.Abs l) (x : α) :
    (s.push x).1.Abs (l.push x).1 ∧ (s.push x).2 = (l.push x).2 := by
  obtain ⟨cells, hc, hn, rfl⟩ := h.elim
  obtain ⟨c1, e1, hnode, hfresh, n1⟩ := alloc_chain hc x
  have hc1 : (s.alloc x).1.Chain (cells ++ []) := by rw [List.append_nil]; exact c1
  obtain ⟨s2, e2, c2, n2⟩ := link_chain hc1 s.heap.size ⟨none, none, x⟩ hnode (by rw [List.append_nil]; exact hfresh)
  have e : s.push x = ({ s2 with nitems := s2.nitems + 1 }, .ok ()) := by
    have e2' : (s.alloc x).1.link s.heap.size (lastOf cells none) none = some s2 := e2
    unfold LstS.push
    simp only [e1, c1.tail, e2']
  rw [e]
  refine ⟨⟨cells ++ [(s.heap.size, x)], ⟨c2.nodup, c2.seg, c2.head, c2.tail⟩, by simp [Lst.push], by simp [Lst.push], ?_⟩, rfl⟩
  show s2.nitems + 1 = _
  rw [n2, n1, hn]; simp

/-- the step `List_Pop` and the loop of `List_Resize` share -/
theorem remove_tail {s : LstS α} {cells : List (Nat × α)} (hc : s.Chain cells) (hn : s.nitems = cells.length) (h0 : cells ≠ []) :
    ∃ a s', s.tail = some a ∧ s.remove a = (s', .ok ()) ∧ s'.Chain cells.dropLast ∧ s'.nitems = cells.dropLast.length := by
  have hsplit : cells = cells.dropLast ++ ((cells.getLast h0).1, (cells.getLast h0).2) :: [] := (List.dropLast_concat_getLast h0).symm
  rw [hsplit] at hc
  obtain ⟨s', e, c', n'⟩ := remove_chain hc
  rw [List.append_nil] at c'
  refine ⟨_, s', ?_, e, c', by rw [n', hn, List.length_dropLast]⟩
  rw [hc.tail, lastOf_append]; rfl

theorem pop_sim {s : LstS α} {l : Lst α} (h : s.Abs l) :
    s.pop.1.Abs l.pop.1 ∧ s.pop.2 = l.pop.2 := by
  obtain ⟨cells, hc, hn, rfl⟩ := h.elim
  unfold LstS.pop Lst.pop
  simp only [hn]
  by_cases h0 : cells.length = 0
  · rw [if_pos h0, if_pos h0]; exact ⟨Abs.intro hc hn, rfl⟩
  · rw [if_neg h0, if_neg h0]
    obtain ⟨a, s', ht, e, c', n'⟩ := remove_tail hc hn (fun he => h0 (by rw [he]; rfl))
    rw [ht]; simp only; rw [e]
    exact ⟨⟨_, c', (List.map_dropLast ..).symm, by rw [List.length_dropLast], n'⟩, rfl⟩

theorem pushAt_sim {s : LstS α} {l : Lst α} (h : s.Abs l) (x : α) (i : Int) :
    (s.pushAt x i).1.Abs (l.pushAt x i).1 ∧ (s.pushAt x i).2 = (l.pushAt x i).2 := by
  obtain ⟨cells, hc, hn, rfl⟩ := h.elim
  obtain ⟨c1, e1, hnode, hfresh, n1⟩ := alloc_chain hc x
  -- the new node is linked between the two halves `pre ++ post = cells` of the chain
  have hlink : ∀ pre post, pre ++ post = cells →
      ∃ s2, (s.alloc x).1.link s.heap.size (lastOf pre none) (nextOf post none) = some s2 ∧
        ({ s2 with nitems := s2.nitems + 1 } : LstS α).Abs ⟨pre.map (·.2) ++ x :: post.map (·.2), cells.length + 1⟩ := by
    intro pre post he
    subst he
    obtain ⟨s2, e2, c2, n2⟩ := link_chain c1 s.heap.size ⟨none, none, x⟩ hnode hfresh
    have hlen : (pre ++ post).length + 1 = (pre ++ (s.heap.size, x) :: post).length := by
      rw [List.length_append, List.length_append]; rfl
    exact ⟨s2, e2, pre ++ (s.heap.size, x) :: post, ⟨c2.nodup, c2.seg, c2.head, c2.tail⟩, by rw [List.map_append]; rfl, hlen,
      (congrArg (· + 1) (n2.trans (n1.trans hn))).trans hlen⟩
  unfold LstS.pushAt Lst.pushAt
  by_cases h0 : i = 0
  · obtain ⟨s2, e2, a2⟩ := hlink [] cells rfl
    have e2' : (s.alloc x).1.link s.heap.size none (s.alloc x).1.head = some s2 := by rw [c1.head]; exact e2
    simp only [h0, if_true, e1, e2']
    exact ⟨a2, trivial⟩
  · simp only [h0, if_false]
    rcases nodeAt_sim hc hn i with ⟨e, el⟩ | ⟨pre, a, v, post, rfl, e, el⟩
    · rw [e, el]; exact ⟨Abs.intro hc hn, rfl⟩
    · rw [e, el]
      obtain ⟨s2, e2, a2⟩ := hlink pre ((a, v) :: post) rfl
      obtain ⟨m1, m2, _, _⟩ := map_split (·.2) pre post (a, v)
      have e2' : (s.alloc x).1.link s.heap.size (lastOf pre none) (some a) = some s2 := e2
      simp only [node_eq _ a _ (Chain.middle.1 c1).2.2.1, e1, e2']
      rw [m1, m2]
      exact ⟨a2, trivial⟩

theorem popAt_sim {s : LstS α} {l : Lst α} (h : s.Abs l) (i : Int) :
    (s.popAt i).1.Abs (l.popAt i).1 ∧ (s.popAt i).2 = (l.popAt i).2 := by
  obtain ⟨cells, hc, hn, rfl⟩ := h.elim
  unfold LstS.popAt Lst.popAt
  rcases nodeAt_sim hc hn i with ⟨e, el⟩ | ⟨pre, a, v, post, rfl, e, el⟩
  · rw [e, el]; exact ⟨Abs.intro hc hn, rfl⟩
  · rw [e, el]
    obtain ⟨s', e', c', n'⟩ := remove_chain hc
    obtain ⟨m1, _, m3, _⟩ := map_split (·.2) pre post (a, v)
    dsimp only
    rw [e', m1, m3, ← List.map_append]
    exact ⟨⟨pre ++ post, c', rfl, by simp, by rw [n', hn]; simp⟩, rfl⟩

theorem get_sim {s : LstS α} {l : Lst α} (h : s.Abs l) (i : Int) : s.get i = l.get i := by
  obtain ⟨cells, hc, hn, rfl⟩ := h.elim
  unfold LstS.get Lst.get
  rcases nodeAt_sim hc hn i with ⟨e, el⟩ | ⟨pre, a, v, post, rfl, e, el⟩
  · rw [e, el]
  · rw [e, el]
    simp only [node_eq s a _ (Chain.middle.1 hc).2.2.1]

theorem set_sim {s : LstS α} {l : Lst α} (h : s.Abs l) (i : Int) (x : α) :
    (s.set i x).1.Abs (l.set i x).1 ∧ (s.set i x).2 = (l.set i x).2 := by
  obtain ⟨cells, hc, hn, rfl⟩ := h.elim
  unfold LstS.set Lst.set
  rcases nodeAt_sim hc hn i with ⟨e, el⟩ | ⟨pre, a, v, post, rfl, e, el⟩
  · rw [e, el]; exact ⟨Abs.intro hc hn, rfl⟩
  · rw [e, el]
    obtain ⟨s', e', c', n'⟩ := setVal_chain hc x
    dsimp only
    rw [e', (map_split (·.2) pre post (a, v)).2.2.2 x]
    exact ⟨⟨pre ++ (a, x) :: post, c', by rw [List.map_append]; rfl, by simp, by rw [n', hn]; simp⟩, rfl⟩

theorem find_none [BEq α] (s : LstS α) (x : α) (fuel : Nat) : s.find x fuel none = .ok none := by
  cases fuel <;> rfl

/-- the walk of `List_Mem` / `List_Rem` along a segment: no element is equal and it reaches the end, or it stops at the node of the
    first equal element, at which the segment splits -/
theorem find_seg [BEq α] {s : LstS α} (x : α) : ∀ {cells : List (Nat × α)} {p : Option Nat} (fuel : Nat),
    Seg s.heap p cells none → cells.length < fuel →
    (s.find x fuel (nextOf cells none) = .ok none ∧ (cells.map (·.2)).findIdx? (· == x) = none) ∨
    ∃ pre a v post, cells = pre ++ (a, v) :: post ∧ s.find x fuel (nextOf cells none) = .ok (some a) ∧
      (cells.map (·.2)).findIdx? (· == x) = some pre.length := by
  intro cells
  induction cells with
  | nil => intro p fuel _ _; exact .inl ⟨find_none s x fuel, rfl⟩
  | cons c cs ih =>
    intro p fuel hs hf
    obtain ⟨a, v⟩ := c
    cases fuel with
    | zero => cases hf
    | succ fuel =>
      simp only [nextOf_cons, LstS.find, node_eq s a _ hs.1, List.map_cons, List.findIdx?_cons]
      by_cases hx : (v == x) = true
      · exact .inr ⟨[], a, v, cs, rfl, by rw [if_pos hx], by rw [if_pos hx]; rfl⟩
      · rw [if_neg hx, if_neg hx]
        rcases ih fuel hs.2 (Nat.lt_of_succ_lt_succ hf) with ⟨e1, e2⟩ | ⟨pre, b, w, post, rfl, e1, e2⟩
        · exact .inl ⟨e1, by rw [e2]; rfl⟩
        · exact .inr ⟨(a, v) :: pre, b, w, post, rfl, e1, by rw [e2]; rfl⟩

theorem mem_sim [BEq α] {s : LstS α} {l : Lst α} (h : s.Abs l) (x : α) : s.mem x = .ok (l.mem x) := by
  obtain ⟨cells, hc, hn, rfl⟩ := h.elim
  unfold LstS.mem Lst.mem
  rw [hc.head]
  rcases find_seg x (s.nitems + 1) hc.seg (by rw [hn]; exact Nat.lt_succ_self _) with ⟨e1, e2⟩ | ⟨pre, a, v, post, _, e1, e2⟩
  · rw [e1, (findIdx?_none_any _ _).1 e2]; rfl
  · rw [e1, findIdx?_some_any _ _ _ e2]; rfl

theorem rem_sim [BEq α] {s : LstS α} {l : Lst α} (h : s.Abs l) (x : α) :
    (s.rem x).1.Abs (l.rem x).1 ∧ (s.rem x).2 = (l.rem x).2 := by
  obtain ⟨cells, hc, hn, rfl⟩ := h.elim
  unfold LstS.rem Lst.rem
  rw [hc.head]
  rcases find_seg x (s.nitems + 1) hc.seg (by rw [hn]; exact Nat.lt_succ_self _) with ⟨e1, e2⟩ | ⟨pre, a, v, post, rfl, e1, e2⟩
  · rw [e1]; simp only [e2]; exact ⟨Abs.intro hc hn, trivial⟩
  · rw [e1]; simp only [e2]
    obtain ⟨s', e', c', n'⟩ := remove_chain hc
    obtain ⟨m1, _, m3, _⟩ := map_split (·.2) pre post (a, v)
    rw [e', m1, m3, ← List.map_append]
    exact ⟨⟨pre ++ post, c', rfl, by simp, by rw [n', hn]; simp⟩, rfl⟩

theorem pushAll_sim : ∀ (ys : List α) {s : LstS α} {l : Lst α}, s.Abs l →
    (s.pushAll ys).1.Abs (ys.foldl (fun l y => (l.push y).1) l) ∧ (s.pushAll ys).2 = .ok () := by
  intro ys
  induction ys with
  | nil => intro s l h; exact ⟨h, rfl⟩
  | cons y ys ih =>
    intro s l h
    obtain ⟨h1, h2⟩ := push_sim h y
    rw [LstS.pushAll, show s.push y = ((s.push y).1, .ok ()) from Prod.ext rfl h2]
    exact ih h1

theorem concat_sim {s : LstS α} {l : Lst α} (h : s.Abs l) (ys : List α) :
    (s.concat ys).1.Abs (l.concat ys).1 ∧ (s.concat ys).2 = (l.concat ys).2 := pushAll_sim ys h

/-- the walk of `List_Clear` over a chain does not fail when the fuel covers the chain: every node it reaches is still
    allocated (freeing a node leaves the rest of the segment as it was: `Seg.set_other`), and it stops at the NULL link
    after the last one.  Nothing is claimed about the heap it leaves: `LstS.clear` resets `head`, `tail`, `nitems`. -/
theorem freeAll_some : ∀ (cells : List (Nat × α)) (s : LstS α) (p : Option Nat) (fuel : Nat),
    Seg s.heap p cells none → (cells.map (·.1)).Nodup → cells.length ≤ fuel →
    ∃ s', s.freeAll fuel (nextOf cells none) = some s' := by
  intro cells
  induction cells with
  | nil => intro s p fuel _ _ _; exact ⟨s, by cases fuel <;> rfl⟩
  | cons c cs ih =>
    intro s p fuel hs hnd hf
    obtain ⟨a, v⟩ := c
    cases fuel with
    | zero => simp at hf
    | succ fuel =>
      simp only [List.map_cons, List.nodup_cons] at hnd
      simp only [nextOf, LstS.freeAll, LstS.free, node_eq s a _ hs.1]
      apply ih _ (some a) fuel _ hnd.2 (by simpa using hf)
      exact hs.2.set_other _ _ hnd.1

theorem clear_sim {s : LstS α} {l : Lst α} (h : s.Abs l) : s.clear.1.Abs l.clear ∧ s.clear.2 = .ok () := by
  obtain ⟨cells, hc, hn, rfl⟩ := h.elim
  unfold LstS.clear
  obtain ⟨s1, e⟩ := freeAll_some cells s none (s.nitems + 1) hc.seg hc.nodup (by rw [hn]; exact Nat.le_succ _)
  rw [hc.head, e]
  exact ⟨⟨[], ⟨by simp, trivial, rfl, rfl⟩, rfl, rfl, rfl⟩, rfl⟩

theorem assign_sim {s : LstS α} {l : Lst α} (h : s.Abs l) (ys : List α) (b : Bool) :
    (s.assign ys b).1.Abs (l.assign ys b).1 ∧ (s.assign ys b).2 = (l.assign ys b).2 := by
  obtain ⟨c1, c2⟩ := clear_sim h
  unfold LstS.assign Lst.assign
  rcases hc : s.clear with ⟨c, r⟩
  rw [hc] at c1 c2
  simp only at c1 c2
  subst c2
  simp only
  cases b with
  | false => simp only [Bool.false_eq_true, if_false]; exact ⟨c1, trivial⟩
  | true => simp only [if_true]; exact pushAll_sim ys c1

theorem shrink_sim (n : Nat) : ∀ (fuel : Nat) {s : LstS α} {cells : List (Nat × α)}, s.Chain cells →
    s.nitems = cells.length → fuel = cells.length - n →
    ∃ s', s.shrink n fuel = (s', .ok ()) ∧ s'.Chain (cells.take (cells.length - fuel)) ∧
      s'.nitems = cells.length - fuel := by
  intro fuel
  induction fuel with
  | zero =>
    intro s cells hc hn _
    exact ⟨s, rfl, by simpa using hc, by simpa using hn⟩
  | succ fuel ih =>
    intro s cells hc hn hf
    have hlt : n < s.nitems := by omega
    obtain ⟨a, s1, ht, e, c1, n1⟩ := remove_tail hc hn (fun he => by rw [he, List.length_nil, Nat.zero_sub] at hf; cases hf)
    have hlen1 : cells.dropLast.length = cells.length - 1 := List.length_dropLast
    obtain ⟨s', e', c', n'⟩ := ih c1 n1 (by rw [hlen1, Nat.sub_right_comm, ← hf]; rfl)
    refine ⟨s', ?_, ?_, by rw [n', hlen1, Nat.sub_sub, Nat.add_comm 1 fuel]⟩
    · simp only [LstS.shrink, if_pos hlt, ht, e]; exact e'
    · rw [hlen1, List.dropLast_eq_take, List.take_take, Nat.min_eq_left (Nat.sub_le _ _), Nat.sub_sub, Nat.add_comm 1 fuel] at c'
      exact c'

theorem grow_sim [Inhabited α] (n : Nat) : ∀ (fuel : Nat) {s : LstS α} {l : Lst α}, s.Abs l → fuel = n - l.nitems →
    (s.grow n fuel).1.Abs ⟨l.items ++ List.replicate fuel default, l.nitems + fuel⟩ ∧ (s.grow n fuel).2 = .ok () := by
  intro fuel
  induction fuel with
  | zero =>
    intro s l h _
    obtain ⟨items, nitems⟩ := l
    refine ⟨?_, rfl⟩
    show s.Abs _
    simpa using h
  | succ fuel ih =>
    intro s l h hf
    have hgt : n > s.nitems := by rw [h.nitems_eq]; omega
    obtain ⟨h1, h2⟩ := push_sim h (default : α)
    rw [LstS.grow, if_pos hgt, show s.push default = ((s.push default).1, .ok ()) from Prod.ext rfl h2]
    have := ih h1 (by simp only [Lst.push]; omega)
    simp only [Lst.push, List.append_assoc, List.singleton_append] at this
    rw [List.replicate_succ, show l.nitems + (fuel + 1) = l.nitems + 1 + fuel by omega]
    exact this

theorem resize_sim [Inhabited α] {s : LstS α} {l : Lst α} (h : s.Abs l) (n : Nat) :
    (s.resize n).1.Abs (l.resize n).1 ∧ (s.resize n).2 = (l.resize n).2 := by
  unfold LstS.resize Lst.resize
  by_cases h0 : n = 0
  · rw [if_pos h0, if_pos h0]; exact clear_sim h
  · rw [if_neg h0, if_neg h0]
    obtain ⟨cells, hc, hn, rfl⟩ := h.elim
    obtain ⟨s1, e1, c1, n1⟩ := shrink_sim n (cells.length - n) hc hn rfl
    rw [hn, e1]
    simp only
    have hlen1 : (cells.take (cells.length - (cells.length - n))).length = cells.length - (cells.length - n) := by
      simp
    have habs1 : s1.Abs ⟨(cells.map (·.2)).take ((cells.map (·.2)).length - (cells.length - n)), cells.length - (cells.length - n)⟩ :=
      ⟨_, c1, by simp [List.map_take], by simp, by rw [n1]; simp⟩
    have := grow_sim n (n - s1.nitems) habs1 (by rw [n1])
    rw [n1] at this ⊢
    exact this

theorem iterNext_seg {s : LstS α} : ∀ {cells : List (Nat × α)} {p : Option Nat} (fuel : Nat),
    Seg s.heap p cells none → cells.length < fuel →
    collect s.iterNext (fun a => (s.node a).map (·.val)) fuel (nextOf cells none) = some (cells.map (·.2)) := by
  intro cells
  induction cells with
  | nil => intro p fuel _ _; cases fuel <;> rfl
  | cons c cs ih =>
    intro p fuel hs hf
    obtain ⟨a, v⟩ := c
    cases fuel with
    | zero => cases hf
    | succ fuel =>
      simp only [nextOf_cons, collect, LstS.iterNext, node_eq s a _ hs.1, Option.map_some, Option.bind_some]
      rw [ih fuel hs.2 (Nat.lt_of_succ_lt_succ hf)]; rfl

theorem iterPrev_seg {s : LstS α} : ∀ {cells : List (Nat × α)} {q : Option Nat} (fuel : Nat),
    Seg s.heap none cells q → cells.length < fuel →
    collect s.iterPrev (fun a => (s.node a).map (·.val)) fuel (lastOf cells none) = some (cells.map (·.2)).reverse := by
  intro cells
  induction hn : cells.length generalizing cells with
  | zero => intro q fuel _ _; rw [List.eq_nil_of_length_eq_zero hn]; cases fuel <;> rfl
  | succ n ih =>
    intro q fuel hs hf
    rcases List.eq_nil_or_concat cells with rfl | ⟨init, ⟨a, v⟩, rfl⟩
    · cases hn
    · rw [List.concat_eq_append] at hs hn ⊢
      obtain ⟨h1, h2, _⟩ := Seg.middle.1 hs
      cases fuel with
      | zero => cases hf
      | succ fuel =>
        rw [lastOf_append]
        simp only [lastOf, collect, LstS.iterPrev, node_eq s a _ h2, Option.map_some, Option.bind_some]
        rw [ih (by simpa using hn) fuel h1 (Nat.lt_of_succ_lt_succ hf)]
        simp

theorem iterFwd_sim {s : LstS α} {l : Lst α} (h : s.Abs l) : s.iterFwd = some l.items := by
  obtain ⟨cells, hc, hn, rfl⟩ := h.elim
  have hi : s.iterInit = nextOf cells none := by
    rw [iterInit, hc.head]
    by_cases h0 : s.nitems = 0
    · rw [if_pos h0, List.eq_nil_of_length_eq_zero (hn.symm.trans h0)]; rfl
    · rw [if_neg h0]
  rw [iterFwd, hi]
  exact iterNext_seg _ hc.seg (by rw [hn]; exact Nat.lt_succ_self _)

theorem iterBwd_sim {s : LstS α} {l : Lst α} (h : s.Abs l) : s.iterBwd = some l.items.reverse := by
  obtain ⟨cells, hc, hn, rfl⟩ := h.elim
  have hi : s.iterLast = lastOf cells none := by
    rw [iterLast, hc.tail]
    by_cases h0 : s.nitems = 0
    · rw [if_pos h0, List.eq_nil_of_length_eq_zero (hn.symm.trans h0)]; rfl
    · rw [if_neg h0]
  rw [iterBwd, hi]
  exact iterPrev_seg _ hc.seg (by rw [hn]; exact Nat.lt_succ_self _)

/-- `sort` raises the class error on both levels (List has no Sort) and changes nothing; a `resize` that links
    never-constructed records (`Lst.rawGrow`) reports `.ub` on both levels and leaves the state `resize` produces -/
theorem step_sim [BEq α] [ZeroIsValue α] {s : LstS α} {l : Lst α} (h : s.Abs l) (op : Op α) :
    (s.step op).1.Abs (l.step op).1 ∧ (s.step op).2 = (l.step op).2 := by
  cases op with
  | push x => exact push_sim h x
  | append x => exact push_sim h x
  | pop => exact pop_sim h
  | pushAt x i => exact pushAt_sim h x i
  | popAt i => exact popAt_sim h i
  | set i x => exact set_sim h i x
  | rem x => exact rem_sim h x
  | concat ys => exact concat_sim h ys
  | resize n =>
    have hcond : (!ZeroIsValue.zeroOk α && decide (n > s.nitems)) = l.rawGrow (.resize n) := by
      simp only [Lst.rawGrow, h.nitems_eq]
    simp only [LstS.step, Lst.step, hcond]
    by_cases hc : l.rawGrow (.resize n) = true
    · rw [if_pos hc, if_pos hc]; exact ⟨(resize_sim h n).1, rfl⟩
    · rw [if_neg hc, if_neg hc]; exact resize_sim h n
  | sort f => exact ⟨h, rfl⟩
  | assign ys b => exact assign_sim h ys b

theorem empty_abs : (LstS.empty : LstS α).Abs Lst.empty :=
  ⟨[], ⟨by simp, trivial, rfl, rfl⟩, rfl, rfl, rfl⟩

theorem new_abs (xs : List α) : (LstS.new xs).1.Abs (Lst.empty.concat xs).1 ∧ (LstS.new xs).2 = .ok () :=
  pushAll_sim xs empty_abs

theorem pushElem_sim {s : LstS α} {l : Lst α} (h : s.Abs l) (k : Int) :
    (s.pushElem k).1.Abs (l.pushElem k).1 ∧ (s.pushElem k).2 = (l.pushElem k).2 := by
  unfold LstS.pushElem Lst.pushElem
  rw [get_sim h k]
  cases l.get k with
  | ok x => exact push_sim h x
  | raised e => exact ⟨h, rfl⟩
  | ub => exact ⟨h, rfl⟩

theorem pushAtElem_sim {s : LstS α} {l : Lst α} (h : s.Abs l) (k i : Int) :
    (s.pushAtElem k i).1.Abs (l.pushAtElem k i).1 ∧ (s.pushAtElem k i).2 = (l.pushAtElem k i).2 := by
  unfold LstS.pushAtElem Lst.pushAtElem
  rw [get_sim h k]
  cases l.get k with
  | ok x => exact pushAt_sim h x i
  | raised e => exact ⟨h, rfl⟩
  | ub => exact ⟨h, rfl⟩

theorem remElem_sim [BEq α] {s : LstS α} {l : Lst α} (h : s.Abs l) (k : Int) :
    (s.remElem k).1.Abs (l.remElem k).1 ∧ (s.remElem k).2 = (l.remElem k).2 := by
  unfold LstS.remElem Lst.remElem
  rw [get_sim h k]
  cases l.get k with
  | ok x => exact rem_sim h x
  | raised e => exact ⟨h, rfl⟩
  | ub => exact ⟨h, rfl⟩

end LstS
end Cello.Seq
