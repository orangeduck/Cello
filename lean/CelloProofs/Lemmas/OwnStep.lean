/-
  CelloProofs/Lemmas/OwnStep.lean — C05: what one `step` of the world on an operation outside the known findings
  (`noKnownFinding`; so in particular an in-contract one) establishes (`step_spec`): it keeps the invariant and conserves
  identities (`step_ok`), and when it raises it has done nothing (`Untouched`), up to three named exceptions
  (`step_refused`); frame property of `step`.
-/
import CelloProofs.Lemmas.OwnWorld
import CelloProofs.Lemmas.OwnTyped

namespace Cello.Own
open List

/-- `w'` satisfies the invariant again, and `o` reports exactly what the step from `w` to `w'` constructed and finalised -/
structure StepOK (w w' : World) (o : Obs) : Prop where
  inv : Inv w'
  issued : w'.issuedLog = ids o.issued ++ w.issuedLog
  retired : w'.retiredLog = ids o.retired ++ w.retiredLog
  cons : allIds w'.objs ++ ids o.retired ~ allIds w.objs ++ ids o.issued
  fresh : FreshFrom w.next o.issued
  next : w'.next = w.next + o.issued.length

/-- the container an operation is applied to (the receiver; for `copy` the new container) -/
def Op.target : Op → Nat
  | .new c _ => c | .newSeq c _ _ => c | .newMap c _ _ => c | .box c _ => c | .push c _ => c | .pushAt c _ _ => c
  | .pop c => c | .popAt c _ => c | .set c _ _ => c | .rem c _ => c | .resize c _ => c | .sort c => c
  | .concat c _ => c | .assign c _ => c | .copy c _ => c | .mset c _ _ => c | .mrem c _ => c | .del c => c
  | .bassign c _ => c | .bref c _ => c | .read c => c | .typed c _ => c

def Untouched (w : World) (res : World × Obs) : Prop :=
  res.2.issued = [] ∧ res.2.retired = [] ∧ res.2.updated = [] ∧ ∀ e, lookup res.1.objs e = lookup w.objs e

/-- a refused insertion of a Box argument: the pointee constructed for the call is the only thing constructed, nothing
    but it is finalised (the caller deletes it), no container changes -/
def BoxArgRefused (w : World) (res : World × Obs) : Prop :=
  (∃ t, res.2.issued = [t] ∧ ∀ u ∈ res.2.retired, u = t) ∧ res.2.updated = [] ∧
    ∀ e, lookup res.1.objs e = lookup w.objs e

/-- a constructor call through the typed route (`new(T, …, args)` with `Arg` arguments, wrong-typed or not) -/
def Op.isTypedCtor : Op → Bool
  | .typed _ (.newSeq _ _) => true
  | .typed _ (.newMap _ _) => true
  | _ => false

/-- a refused constructor: no name is bound, no container changes, and the identities finalised (when the half-built
    object is reclaimed) are exactly the identities it constructed -/
def CtorRefused (w : World) (res : World × Obs) : Prop :=
  ids res.2.retired ~ ids res.2.issued ∧ ∀ e, lookup res.1.objs e = lookup w.objs e

/-- the one in-contract call that raises and HAS changed its receiver: `assign(List, non-empty Table / Tree)`.
    `List_Assign` cleared the list — its old elements, and nothing else, were finalised (all of them when the list held
    probe elements; for a List of Box the pointees not finalised before), nothing was constructed or assigned in place —,
    then `get(obj, $I(0))` raised ValueError before anything was pushed: the list is empty, every other container is the
    value it was. -/
def ListClearedRefused (w : World) (op : Op) (res : World × Obs) : Prop :=
  ∃ c d ek xs, op = .assign c d ∧ listCrossCleared w c d = true ∧ lookup w.objs c = some (.seq .list ek xs) ∧
    res.2.out = .raised .valueError ∧ res.2.issued = [] ∧ res.2.updated = [] ∧
    (∀ u ∈ res.2.retired, u ∈ xs) ∧ (ek = .probe → res.2.retired = xs) ∧
    lookup res.1.objs c = some (.seq .list .probe []) ∧ ∀ e, e ≠ c → lookup res.1.objs e = lookup w.objs e

/-- what the result `res` of an operation `op` outside the known findings satisfies (`step_spec`): under the invariant
    it keeps the invariant and conserves identities (`StepOK`), and if it raised it constructed nothing, finalised
    nothing, assigned nothing and left every container as it was — except that a refused insertion of a Box argument
    made (and the caller deleted) the pointee, a refused constructor finalised again what it had constructed, and a List
    assigned from a non-empty Table / Tree was cleared -/
def StepSpec (w : World) (op : Op) (res : World × Obs) : Prop :=
  (Inv w → StepOK w res.1 res.2) ∧
  (res.2.out ≠ .ok →
    Untouched w res ∨ ((∃ c i p, op = .pushAt c i p) ∧ srcIsBox w op.target = true ∧ BoxArgRefused w res) ∨
      (op.isTypedCtor = true ∧ CtorRefused w res) ∨ ListClearedRefused w op res)

theorem isSome_false_iff {α : Type} {o : Option α} : ¬ (o.isSome = true) ↔ o = none :=
  Option.not_isSome_iff_eq_none

theorem lookup_of_free {objs : List (Nat × Cont)} {c : Nat} (h : ¬ (c ≥ maxConts ∨ (lookup objs c).isSome = true)) :
    lookup objs c = none :=
  isSome_false_iff.mp fun hs => h (Or.inr hs)

theorem StepSpec.bad (w : World) (op : Op) : StepSpec w op (badOp w) :=
  ⟨fun hinv => ⟨hinv, rfl, rfl, by simp [badOp], rfl, rfl⟩, fun h => absurd rfl h⟩

theorem stepOK_commit {w : World} (hinv : Inv w) (c : Nat) (isBox : Bool) (cont : Option Cont) (r : Res Unit)
    (touched : List Nat) (hf : FreshFrom w.next r.issued)
    (hc : Conserves (oldToks w c) (newToks cont) r.issued r.retired)
    (hok : ∀ mk kvs, cont = some (.map mk kvs) → (keys kvs).Nodup) :
    StepOK w (commit w c isBox cont r touched).1 (commit w c isBox cont r touched).2 := by
  obtain ⟨h1, h2, h3⟩ := commit_inv hinv c isBox cont r touched hf hc hok
  rw [h2]
  exact ⟨h2 ▸ h1, rfl, rfl, h3, hf, rfl⟩

theorem StepSpec.ofCommit {w : World} {op : Op} {c : Nat} {isBox : Bool} {cont : Option Cont} {r : Res Unit}
    {touched : List Nat} (hout : r.out = .ok)
    (h : Inv w → FreshFrom w.next r.issued ∧ Conserves (oldToks w c) (newToks cont) r.issued r.retired ∧
      ∀ mk kvs, cont = some (.map mk kvs) → (keys kvs).Nodup) :
    StepSpec w op (commit w c isBox cont r touched) :=
  ⟨fun hinv => stepOK_commit hinv c isBox cont r touched (h hinv).1 (h hinv).2.1 (h hinv).2.2, fun hr => absurd hout hr⟩

/-- the step of `read` and of `assign(x, x)`: the container is committed back as it is, with an empty result -/
theorem StepSpec.same {w : World} {op : Op} {c : Nat} {x : Cont} {isBox : Bool} {touched : List Nat}
    (hl : lookup w.objs c = some x) : StepSpec w op (commit w c isBox (some x) { val := () } touched) :=
  .ofCommit rfl fun hinv =>
    ⟨rfl, by rw [oldToks_of_lookup hl]; exact .refl _, fun mk kvs he => inv_keys hinv (hl.trans he)⟩

theorem untouched_commit {w : World} {c : Nat} (isBox : Bool) {r : Res Unit} (touched : List Nat)
    (hi : r.issued = [] ∧ r.retired = [] ∧ r.updated = []) :
    Untouched w (commit w c isBox (lookup w.objs c) r touched) :=
  ⟨hi.1, by simp [commit, hi.2.1, dedupIds], hi.2.2, commit_lookup_same _ _ _ _ _⟩

theorem StepSpec.seq {w : World} {op : Op} {c : Nat} {k : SeqKind} {ek : ElemKind} {xs : List Tok}
    {r : Res (List Tok)} {touched : List Nat} {wasBox : Bool} (hl : lookup w.objs c = some (.seq k ek xs))
    (hc : Inv w → Conserves xs r.val r.issued r.retired ∧ FreshFrom w.next r.issued)
    (hi : r.out ≠ .ok → r.inert xs) : StepSpec w op (commitSeq w c k ek r touched wasBox) := by
  refine ⟨fun hinv => stepOK_commit hinv _ _ _ _ _ (hc hinv).2 ?_ (by simp), fun hr => Or.inl ?_⟩
  · rw [oldToks_of_lookup hl]; exact (hc hinv).1
  · obtain ⟨h1, h2⟩ := hi hr
    unfold commitSeq
    rw [h1, ← hl]
    exact untouched_commit _ _ h2

/-- `.seqOk` / `.mapOk`: for a call that cannot raise, whatever `c` was bound to before (nothing, or a container of another
    kind); `.seq` / `.map` want the receiver of the same kind and cover the raising case -/
theorem StepSpec.seqOk {w : World} {op : Op} {c : Nat} {k : SeqKind} {ek : ElemKind} {r : Res (List Tok)}
    {touched : List Nat} {wasBox : Bool} {old : List Tok} (hold : oldToks w c = old) (hout : r.out = .ok)
    (hc : Inv w → Conserves old r.val r.issued r.retired ∧ FreshFrom w.next r.issued) :
    StepSpec w op (commitSeq w c k ek r touched wasBox) :=
  .ofCommit hout fun hinv => ⟨(hc hinv).2, hold ▸ (hc hinv).1, by simp⟩

theorem StepSpec.map {w : World} {op : Op} {c : Nat} {mk : MapKind} {kvs : List KV} {r : Res (List KV)}
    {touched : List Nat} (hl : lookup w.objs c = some (.map mk kvs))
    (hc : Inv w → (Conserves (kvToks kvs) (kvToks r.val) r.issued r.retired ∧ FreshFrom w.next r.issued) ∧
      (keys r.val).Nodup)
    (hi : r.out ≠ .ok → r.inert kvs) : StepSpec w op (commitMap w c mk r touched) := by
  refine ⟨fun hinv => stepOK_commit hinv _ _ _ _ _ (hc hinv).1.2 ?_ ?_, fun hr => Or.inl ?_⟩
  · rw [oldToks_of_lookup hl]; exact (hc hinv).1.1
  · intro mk' kvs' he
    cases he; exact (hc hinv).2
  · obtain ⟨h1, h2⟩ := hi hr
    unfold commitMap
    rw [h1, ← hl]
    exact untouched_commit _ _ h2

theorem StepSpec.mapOk {w : World} {op : Op} {c : Nat} {mk : MapKind} {r : Res (List KV)} {touched : List Nat}
    {old : List Tok} (hold : oldToks w c = old) (hout : r.out = .ok)
    (hc : Inv w → (Conserves old (kvToks r.val) r.issued r.retired ∧ FreshFrom w.next r.issued) ∧ (keys r.val).Nodup) :
    StepSpec w op (commitMap w c mk r touched) :=
  .ofCommit hout fun hinv =>
    ⟨(hc hinv).1.2, hold ▸ (hc hinv).1.1, fun mk' kvs' he => by cases he; exact (hc hinv).2⟩

theorem StepSpec.boxArg {w : World} {op : Op} {c : Nat} {k : SeqKind} {xs : List Tok} {p : Nat}
    {f : Tok → Res (List Tok)} {touched : List Nat}
    (hl : lookup w.objs c = some (.seq k .box xs)) {i : Int} {q : Nat} (hop : op = .pushAt c i q)
    (h : (let r := withPointee w.next p f; Conserves xs r.val r.issued r.retired ∧ FreshFrom w.next r.issued) ∧
      ((f ⟨w.next, p⟩).out ≠ .ok → (f ⟨w.next, p⟩).inert xs)) :
    StepSpec w op (commitSeq w c k .box (withPointee w.next p f) touched) := by
  refine ⟨fun hinv => stepOK_commit hinv _ _ _ _ _ h.1.2 ?_ (by simp), fun hr => Or.inr (Or.inl ⟨⟨c, i, q, hop⟩, ?_, ?_⟩)⟩
  · rw [oldToks_of_lookup hl]; exact h.1.1
  · simp [srcIsBox, hop, Op.target, hl, Cont.isBox]
  · cases ho : (f ⟨w.next, p⟩).out with
    | ok => exact absurd (by simp only [commitSeq, commit, Res.unit, withPointee, ho]) hr
    | raised e =>
      obtain ⟨h1, h2, h3, h4⟩ := h.2 (ho ▸ Outcome.noConfusion)
      have hw : withPointee w.next p f =
          { val := xs, issued := [⟨w.next, p⟩], retired := [⟨w.next, p⟩], out := .raised e } := by
        simp only [withPointee, ho, h1, h2, h3, h4, List.nil_append]
      rw [hw]
      refine ⟨⟨⟨w.next, p⟩, rfl, fun u hu => List.mem_singleton.mp (commit_retired_sub _ _ _ _ _ _ u hu)⟩, rfl, fun e' => ?_⟩
      rw [commitSeq, ← hl]; exact commit_lookup_same ..

theorem StepSpec.ctor {w : World} {op : Op} {c : Nat} {r : Res Unit} {touched : List Nat}
    (hop : op.isTypedCtor = true) (hnone : lookup w.objs c = none)
    (h : Conserves [] [] r.issued r.retired ∧ FreshFrom w.next r.issued) :
    StepSpec w op (commit w c false none r touched) := by
  refine ⟨fun hinv => stepOK_commit hinv _ _ _ _ _ h.2 (by rw [oldToks_of_none hnone]; exact h.1) (by simp),
    fun _ => Or.inr (Or.inr (Or.inl ⟨hop, conserves_iff.mp h.1, fun e => ?_⟩))⟩
  rw [← hnone]; exact commit_lookup_same ..

theorem stepTyped_spec {w : World} (hpos : 0 < w.next) (c : Nat) (t : TCall) (hin : typedAtomic w c t = true) :
    StepSpec w (.typed c t) (stepTyped w c t) := by
  -- one goal per branch of `stepTyped`, in the order of its definition
  fun_cases stepTyped w c t
  -- push: onto an Array it is not atomic, `hin` excludes it
  next xs hl => simp [typedAtomic, hl] at hin
  next xs hl => exact .seq hl (fun _ => refused_spec xs _ _) (fun _ => inert_refused _ _)
  next => exact .bad w _
  -- pushAt: onto an Array only when the bounds check refuses
  next i _ xs hl =>
    rw [arrayPushAtWrong_oob (by simpa [typedAtomic, hl] using hin)]
    exact .seq hl (fun _ => refused_spec xs _ _) (fun _ => inert_refused _ _)
  next i _ xs hl =>
    obtain ⟨e, he⟩ := listPushAtWrong_refused xs i
    exact he ▸ .seq hl (fun _ => refused_spec xs _ _) (fun _ => inert_refused _ _)
  next => exact .bad w _
  -- set
  next i _ k xs hl =>
    obtain ⟨e, he⟩ := seqSetWrong_refused xs i
    exact he ▸ .seq hl (fun _ => refused_spec xs _ _) (fun _ => inert_refused _ _)
  next => exact .bad w _
  -- rem
  next k xs hl => exact .seq hl (fun _ => refused_spec xs _ _) (fun _ => inert_refused _ _)
  next => exact .bad w _
  -- concat: onto an Array only well-typed items; onto a List also a wrong-typed first item
  next args xs hl =>
    have h := arrayConcatArgs_good_spec w.next xs args (by simpa [typedAtomic, hl] using hin)
    exact .seq hl (fun _ => ⟨h.1, h.2.1⟩) (absurd h.2.2)
  next args xs hl =>
    refine .seq hl (fun _ => listConcatArgs_spec _ _ _) (fun hro => ?_)
    have hg : allGood args = true ∨ (goodPrefix args).1.isEmpty = true := by simpa [typedAtomic, hl] using hin
    rcases hg with hg | hg
    · exact absurd (listConcatArgs_good_ok w.next xs args hg) hro
    · rw [listConcatArgs_first_wrong w.next xs args hg hro]; exact inert_refused _ _
  next => exact .bad w _
  -- mset
  next k v mk kvs hl =>
    by_cases hg : ∃ a b, k = .pay a ∧ v = .pay b
    · obtain ⟨a, b, rfl, rfl⟩ := hg
      exact .map hl (fun hinv => ⟨mapSet_spec mk w.next kvs a b (inv_noraw hinv hl),
        keys_mapSet mk w.next kvs a b (inv_keys hinv hl)⟩) (absurd (mapSet_out ..))
    · rw [mapSetArgs_refused hg]
      exact .map hl (fun hinv => ⟨refusedKV_spec kvs _ _, inv_keys hinv hl⟩) fun _ => inert_refused _ _
  next => exact .bad w _
  -- mrem
  next _ mk kvs hl => exact .map hl (fun hinv => ⟨refusedKV_spec kvs _ _, inv_keys hinv hl⟩) fun _ => inert_refused _ _
  next => exact .bad w _
  -- newSeq: a refused Array_New is a known finding
  next => exact .bad w _
  next k args hfree _ _ =>
    exact .seqOk (oldToks_of_none (lookup_of_free hfree)) rfl fun _ => ⟨.issue (.refl _), fresh_mkFresh _ _⟩
  next args hfree _ =>
    have h := listNewRefused_spec w.next args
    exact .ctor rfl (lookup_of_free hfree) ⟨h.1, h.2.1⟩
  next args _ hng => simp [typedAtomic, hng] at hin
  -- newMap
  next => exact .bad w _
  next k args hfree _ =>
    exact .mapOk (oldToks_of_none (lookup_of_free hfree)) (mapSetMany_out ..) fun _ =>
      ⟨by simpa using mapSetMany_spec k (goodPairs args).1 w.next [] hpos (by simp), keys_mapSetMany k _ w.next [] List.nodup_nil⟩
  next k args hfree _ => exact .ctor rfl (lookup_of_free hfree) (mapNewRefused_spec k w.next args hpos)

theorem step_spec {w : World} (hpos : 0 < w.next) (op : Op) (hin : noKnownFinding w op = true) :
    StepSpec w op (step w op) := by
  -- one goal per branch of `step`, in the order of its definition
  fun_cases step w op
  -- new, newSeq, newMap, box
  next => exact .bad w _
  next c k hfree =>
    refine .ofCommit rfl fun _ => ⟨rfl, ?_, ?_⟩
    · rw [oldToks_of_none (lookup_of_free hfree)]; cases k <;> exact .refl _
    · intro mk kvs he; cases k <;> cases he <;> exact List.nodup_nil
  next => exact .bad w _
  next c k ps hfree _ =>
    exact .seqOk (oldToks_of_none (lookup_of_free hfree)) rfl fun _ => ⟨.issue (.refl _), fresh_mkFresh _ _⟩
  next => exact .bad w _
  next c k kvs hfree =>
    exact .mapOk (oldToks_of_none (lookup_of_free hfree)) (mapSetMany_out ..)
      fun _ => ⟨by simpa using mapSetMany_spec k kvs w.next [] hpos (by simp), keys_mapSetMany k kvs w.next [] List.nodup_nil⟩
  next => exact .bad w _
  next c p hfree _ =>
    refine .ofCommit rfl fun _ => ⟨fresh_one _ _, ?_, by simp⟩
    rw [oldToks_of_none (lookup_of_free hfree)]; exact .issue (.refl _)
  -- push
  next c p k xs hl => exact .seq hl (fun _ => seqPush_spec _ _ _) (absurd rfl)
  next c p k xs hl => exact .seq hl (fun _ => ⟨.issue (.refl _), fresh_one _ _⟩) (absurd rfl)
  next => exact .bad w _
  -- pushAt
  next c i p xs hl => exact .seq hl (fun _ => (arrayPushAt_spec ..).1) ((arrayPushAt_spec ..).2)
  next c i p xs hl => exact .seq hl (fun _ => (listPushAt_spec ..).1) ((listPushAt_spec ..).2)
  next c i p xs hl => exact .boxArg hl rfl (arrayPushAtBox_spec ..)
  next c i p xs hl => exact .boxArg hl rfl (listPushAtBox_spec ..)
  next => exact .bad w _
  -- pop, popAt
  next c k ek xs hl =>
    have h := seqPop_spec xs
    exact .seq hl (fun _ => ⟨h.1.1, fresh_of_eq_nil h.1.2⟩) h.2
  next => exact .bad w _
  next c i k ek xs hl =>
    have h := seqPopAt_spec xs i
    exact .seq hl (fun _ => ⟨h.1.1, fresh_of_eq_nil h.1.2⟩) h.2
  next => exact .bad w _
  -- set: on a container of Box it is a known finding
  next c i p k xs hl =>
    have h := seqSetProbe_spec w.next xs i p
    exact .seq hl (fun hinv => h.1 (inv_noraw hinv hl)) h.2
  next c i p k xs hl => simp [noKnownFinding, hl] at hin
  next => exact .bad w _
  -- rem
  next c p k xs hl =>
    have h := seqRem_spec xs p
    exact .seq hl (fun _ => ⟨h.1.1, fresh_of_eq_nil h.1.2⟩) h.2
  next => exact .bad w _
  -- resize: a List may not grow
  next c n ek xs hl =>
    have h := arrayResize_spec xs n
    exact .seq hl (fun _ => ⟨h.1.1, fresh_of_eq_nil h.1.2⟩) (absurd h.2)
  next c n ek xs hl =>
    have hle : n ≤ xs.length := by simpa [noKnownFinding, hl] using hin
    have h := listResize_spec xs n
    exact .seq hl (fun _ => ⟨(h.1 hle).1, fresh_of_eq_nil (h.1 hle).2⟩) (absurd h.2)
  next c n k kvs hl =>
    have h := mapResize_spec k kvs n
    exact .map hl (fun hinv => ⟨⟨h.1.1, fresh_of_eq_nil h.1.2⟩, keys_mapResize k kvs n (inv_keys hinv hl)⟩) h.2
  next => exact .bad w _
  -- sort
  next c xs hl =>
    have h := seqSort_spec xs
    exact .seq hl (fun _ => ⟨h.1, fresh_of_eq_nil h.2⟩) (absurd rfl)
  next => exact .bad w _
  -- concat
  next => exact .bad w _
  next c d hcd k xs _ src hd hl => exact .seq hl (fun _ => seqConcatProbe_spec _ _ _) (absurd rfl)
  next c d hcd k xs _ src hd hl => simp [noKnownFinding, srcIsBox, hd, Cont.isBox] at hin
  next => exact .bad w _
  -- assign(x, x): nothing happens
  next => exact .bad w _
  next c x _ hl => exact .same hl
  next => exact .bad w _
  -- assign
  next c d hcd k ek xs _ src hd hl => exact .seqOk (oldToks_of_lookup hl) rfl fun _ => seqAssignProbe_spec _ _ _
  next c d hcd k ek xs _ src hd hl => simp [noKnownFinding, srcIsBox, hd, Cont.isBox, hcd] at hin
  next c d hcd k kvs _ src hd hl =>
    exact .mapOk (oldToks_of_lookup hl) rfl fun _ => ⟨mapAssign_spec k w.next kvs _ hpos, keys_mapAssign k w.next kvs _⟩
  next c d hcd k ek xs _ src hd hl =>
    -- sequence ← map.  Array: in contract only for an empty source.  List: the destination is cleared (every element
    -- finalised), then — source non-empty — the call raises: conservation holds either way.
    cases k with
    | array =>
      have hsrc : src = [] := by
        simpa [noKnownFinding, srcIsBox, crossRefused, hl, hd, Cont.isBox, hcd] using hin
      subst hsrc
      exact .seqOk (oldToks_of_lookup hl) rfl fun _ => ⟨conserves_clear xs, fresh_nil _⟩
    | list =>
      refine ⟨fun hinv => stepOK_commit hinv _ _ _ _ _ ?_ ?_ (by simp), fun hr => ?_⟩
      · simp only [seqAssignFromMap]; split <;> rfl
      · rw [oldToks_of_lookup hl]; simp only [seqAssignFromMap]; split <;> exact conserves_clear xs
      · -- it raised, so the source is not empty
        have hne : src.length ≠ 0 := fun h0 => hr (by simp [commitSeq, commit, Res.unit, seqAssignFromMap, h0])
        have hres : seqAssignFromMap .list xs src.length = { val := [], retired := xs, out := .raised .valueError } := by
          simp only [seqAssignFromMap, hne, if_false]
        rw [hres]
        refine Or.inr <| Or.inr <| Or.inr ⟨c, d, ek, xs, rfl, ?_, hl, rfl, rfl, rfl, fun u hu => ?_, fun hek => ?_, ?_, fun e he => ?_⟩
        · simp [listCrossCleared, hl, hd, List.length_eq_zero_iff.not.mp hne]
        · exact commit_retired_sub _ _ _ _ _ _ u hu
        · subst hek; rfl
        · exact commitSeq_lookup_self ..
        · exact commit_frame _ _ _ _ _ _ he
  next => exact .bad w _
  -- copy
  next => exact .bad w _
  next c d hfree k src hd => exact .seqOk (oldToks_of_none (lookup_of_free hfree)) rfl fun _ => seqAssignProbe_spec _ _ _
  next c d hfree k src hd => simp [noKnownFinding, srcIsBox, hd, Cont.isBox] at hin
  next c d hfree k src hd =>
    exact .mapOk (oldToks_of_none (lookup_of_free hfree)) rfl
      fun _ => ⟨by simpa using mapAssign_spec k w.next [] src hpos, keys_mapAssign k w.next [] src⟩
  next c d hfree t hd => simp [noKnownFinding, srcIsBox, hd, Cont.isBox] at hin
  next => exact .bad w _
  -- mset, mrem
  next c k v mk kvs hl =>
    exact .map hl (fun hinv => ⟨mapSet_spec mk w.next kvs k v (inv_noraw hinv hl),
      keys_mapSet mk w.next kvs k v (inv_keys hinv hl)⟩) (absurd (mapSet_out ..))
  next => exact .bad w _
  next c k mk kvs hl =>
    have h := mapRem_spec kvs k
    exact .map hl (fun hinv => ⟨⟨h.1.1, fresh_of_eq_nil h.1.2⟩, keys_mapRem kvs k (inv_keys hinv hl)⟩) h.2
  next => exact .bad w _
  -- del
  next c x hl =>
    refine .ofCommit rfl fun _ => ⟨rfl, ?_, by simp⟩
    rw [oldToks_of_lookup hl]; exact conserves_clear _
  next => exact .bad w _
  -- bassign, bref: known findings
  next => simp [noKnownFinding] at hin
  next => exact .bad w _
  next => simp [noKnownFinding] at hin
  next => exact .bad w _
  -- read
  next c x hl => exact .same hl
  next => exact .bad w _
  next c t => exact stepTyped_spec hpos c t hin

theorem step_ok {w : World} (hinv : Inv w) (op : Op) (hin : noKnownFinding w op = true) :
    StepOK w (step w op).1 (step w op).2 :=
  (step_spec hinv.pos op hin).1 hinv

theorem step_refused {w : World} (hpos : 0 < w.next) (op : Op) (hin : noKnownFinding w op = true)
    (hr : (step w op).2.out ≠ .ok) :
    Untouched w (step w op) ∨
      ((∃ c i p, op = .pushAt c i p) ∧ srcIsBox w op.target = true ∧ BoxArgRefused w (step w op)) ∨
      (op.isTypedCtor = true ∧ CtorRefused w (step w op)) ∨ ListClearedRefused w op (step w op) :=
  (step_spec hpos op hin).2 hr

theorem stepTyped_frame (w : World) (c : Nat) (t : TCall) {e : Nat} (h : e ≠ c) :
    lookup (stepTyped w c t).1.objs e = lookup w.objs e := by
  fun_cases stepTyped w c t <;> simp only [badOp, commitSeq, commitMap, commit_frame _ _ _ _ _ _ h]

/-- in contract or not: every branch of `step` is `badOp w` or a `commit` on the target -/
theorem step_frame (w : World) (op : Op) {e : Nat} (h : e ≠ op.target) :
    lookup (step w op).1.objs e = lookup w.objs e := by
  fun_cases step w op <;> dsimp only [Op.target] at h <;>
    simp only [badOp, commitSeq, commitMap, commit_frame _ _ _ _ _ _ h, stepTyped_frame _ _ _ h]

end Cello.Own
