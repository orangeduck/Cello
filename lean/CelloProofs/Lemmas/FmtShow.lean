/-
  C14 helper lemmas: `print_to(out, pos, "%$", a)` is `show_to(a, out, pos)`; a literal format is one call; the show of a
  container is its elements' own show, each once, in order, between the opening, the separator and the closing text.
  The lemmas are equations between sink actions, so that they rewrite inside `showD`.
-/
import CelloProofs.Lemmas.FmtRefine
import CelloProofs.Lemmas.FmtCalls

namespace Cello.Fmt

variable (cfg : Cfg) (prim : Prim) (shw : Obj → Out → Out × Outcome)

def isLitFmt (s : Str) : Bool := !s.isEmpty && s.all ordinary

theorem isLitFmt_parse {conv : Str} (hpct : '%' ∉ conv) {s : Str} (h : isLitFmt s = true) : parseFmt conv s = some [.lit s] := by
  simp only [isLitFmt, Bool.and_eq_true, Bool.not_eq_true', List.all_eq_true] at h
  exact (parseFmt_iff hpct).2 ⟨List.append_nil s,
    lit_wf_iff.2 ⟨by simpa using h.1, fun x hx => ordinary_iff.1 (h.2 x hx)⟩⟩

theorem print_lit (hpct : '%' ∉ cfg.conv) {s : Str} (hs : isLitFmt s = true) (args : List Obj) :
    (fun o => (printToWith cfg prim shw s args o).pair) = fun o => o.call prim s .none := by
  rw [printToWith_parsed cfg prim shw hpct (isLitFmt_parse hpct hs), refRun_lit, refRun_nil, andThen_ok]

theorem print_show (hpct : '%' ∉ cfg.conv) (hd : '$' ∈ cfg.conv) (hf : firing cfg '$' = [.show]) (a : Obj) :
    (fun o => (printToWith cfg prim shw ['%', '$'] [a] o).pair) = shw a := by
  have hwf : wfSegs cfg.conv [.spec [] '$'] = true := spec_wf_iff.2 ⟨hd, by decide, nofun, nofun⟩
  exact (funext fun o => (printToWith_refines cfg prim shw [a] hpct [.spec [] '$'] hwf o).1).trans <| by
    simp only [refRun_spec, refRun_nil, List.getElem?_cons_zero, andThen_ok, dispatch_single prim shw cfg hf]
    rfl

/-- what a container's show does with its items: each item's own show, in order, the separator between two items -/
def showItemsSpec (sep : Str) : List Obj → Out → Out × Outcome
  | [], o => (o, .ok)
  | [a], o => shw a o
  | a :: b :: r, o => andThen (shw a) (andThen (fun o => o.call prim sep .none) (showItemsSpec sep (b :: r))) o

theorem showItems_eq (hpct : '%' ∉ cfg.conv) (hd : '$' ∈ cfg.conv) (hf : firing cfg '$' = [.show])
    {sep : Str} (hsep : isLitFmt sep = true) :
    ∀ items : List Obj, showItems cfg prim shw sep items = showItemsSpec prim shw sep items
  | [] => rfl
  | [a] => print_show cfg prim shw hpct hd hf a
  | a :: b :: r => by
    funext o
    simp only [showItems, showItemsSpec]
    rw [print_show cfg prim shw hpct hd hf, print_lit cfg prim shw hpct hsep, showItems_eq hpct hd hf hsep (b :: r)]

/-- the opening `pre %p post` of a container's show, as calls -/
def addrCalls (pre post : Str) : Out → Out × Outcome :=
  andThen (fun o => o.call prim pre .none) (andThen (fun o => o.call prim ['%', 'p'] .ptr) (fun o => o.call prim post .none))

theorem print_ptr (hpct : '%' ∉ cfg.conv) (hf : firing cfg 'p' = [.obj]) {f pre post : Str}
    (hp : parseFmt cfg.conv f = some [.lit pre, .spec [] 'p', .lit post]) (a : Obj) :
    (fun o => (printToWith cfg prim shw f [a] o).pair) = addrCalls prim pre post := by
  rw [printToWith_parsed cfg prim shw hpct hp]
  simp only [refRun_lit, refRun_spec, refRun_nil, List.getElem?_cons_zero, andThen_ok, dispatch_single prim shw cfg hf]
  rfl

theorem print_pair (hpct : '%' ∉ cfg.conv) (hf : firing cfg '$' = [.show]) {f mid : Str}
    (hp : parseFmt cfg.conv f = some [.spec [] '$', .lit mid, .spec [] '$']) (k v : Obj) :
    (fun o => (printToWith cfg prim shw f [k, v] o).pair) = andThen (shw k) (andThen (fun o => o.call prim mid .none) (shw v)) := by
  rw [printToWith_parsed cfg prim shw hpct hp]
  simp only [refRun_lit, refRun_spec, refRun_nil, List.getElem?_cons_zero, List.getElem?_cons_succ, andThen_ok,
    dispatch_single prim shw cfg hf]
  rfl

theorem print_int (hpct : '%' ∉ cfg.conv) {b : Str} {c : Char} (hf : firing cfg c = [.cint]) {f : Str}
    (hp : parseFmt cfg.conv f = some [.spec b c]) (n : Int) :
    (fun o => (printToWith cfg prim shw f [.int n] o).pair) = fun o => o.call prim f (.i64 n) := by
  have hr : '%' :: (b ++ [c]) = f := by simpa [render, Seg.text] using ((parseFmt_iff hpct).1 hp).1
  rw [printToWith_parsed cfg prim shw hpct hp]
  simp only [refRun_spec, refRun_nil, List.getElem?_cons_zero, andThen_ok, dispatch_single prim shw cfg hf, hr]
  rfl

/-- `<'Box' at 0x%p (%$)>` with (self, Box_Deref(self)) -/
theorem print_box (hpct : '%' ∉ cfg.conv) (hf : firing cfg '$' = [.show]) (hfp : firing cfg 'p' = [.obj]) {f l1 l2 l3 : Str}
    (hp : parseFmt cfg.conv f = some [.lit l1, .spec [] 'p', .lit l2, .spec [] '$', .lit l3]) (a x : Obj) :
    (fun o => (printToWith cfg prim shw f [a, x] o).pair) =
      andThen (fun o => o.call prim l1 .none) (andThen (fun o => o.call prim ['%', 'p'] .ptr)
        (andThen (fun o => o.call prim l2 .none) (andThen (shw x) (fun o => o.call prim l3 .none)))) := by
  rw [printToWith_parsed cfg prim shw hpct hp]
  simp only [refRun_lit, refRun_spec, refRun_nil, List.getElem?_cons_zero, List.getElem?_cons_succ, andThen_ok,
    dispatch_single prim shw cfg hf, dispatch_single prim shw cfg hfp]
  rfl

/-- `<'%s' At 0x%p>` with (type_of(self), self): the type's name through `c_str`, the pointer -/
theorem print_default (hpct : '%' ∉ cfg.conv) (hfs : firing cfg 's' = [.cstr]) (hfp : firing cfg 'p' = [.obj]) {f l1 l2 l3 : Str}
    (hp : parseFmt cfg.conv f = some [.lit l1, .spec [] 's', .lit l2, .spec [] 'p', .lit l3]) (t : Str) (a : Obj) :
    (fun o => (printToWith cfg prim shw f [.type t, a] o).pair) =
      andThen (fun o => o.call prim l1 .none) (andThen (fun o => o.call prim ['%', 's'] (.cstr t))
        (andThen (fun o => o.call prim l2 .none) (andThen (fun o => o.call prim ['%', 'p'] .ptr)
          (fun o => o.call prim l3 .none)))) := by
  rw [printToWith_parsed cfg prim shw hpct hp]
  simp only [refRun_lit, refRun_spec, refRun_nil, List.getElem?_cons_zero, List.getElem?_cons_succ, andThen_ok,
    dispatch_single prim shw cfg hfs, dispatch_single prim shw cfg hfp]
  rfl

theorem print_type (hpct : '%' ∉ cfg.conv) (hfs : firing cfg 's' = [.cstr]) {f : Str}
    (hp : parseFmt cfg.conv f = some [.spec [] 's']) (t : Str) :
    (fun o => (printToWith cfg prim shw f [.type t] o).pair) = fun o => o.call prim ['%', 's'] (.cstr t) := by
  rw [printToWith_parsed cfg prim shw hpct hp]
  simp only [refRun_spec, refRun_nil, List.getElem?_cons_zero, andThen_ok, dispatch_single prim shw cfg hfs]
  rfl

/-- what Table_Show / Tree_Show do with the pairs: key show, `mid`, value show; the separator between two pairs -/
def showPairsSpec (mid sep : Str) : List (Obj × Obj) → Out → Out × Outcome
  | [], o => (o, .ok)
  | [(k, v)], o => andThen (shw k) (andThen (fun o => o.call prim mid .none) (shw v)) o
  | (k, v) :: q :: r, o =>
    andThen (andThen (shw k) (andThen (fun o => o.call prim mid .none) (shw v)))
      (andThen (fun o => o.call prim sep .none) (showPairsSpec mid sep (q :: r))) o

theorem showPairs_eq (hpct : '%' ∉ cfg.conv) (hf : firing cfg '$' = [.show]) {pair mid sep : Str}
    (hp : parseFmt cfg.conv pair = some [.spec [] '$', .lit mid, .spec [] '$']) (hsep : isLitFmt sep = true) :
    ∀ ps : List (Obj × Obj), showPairs cfg prim shw pair sep ps = showPairsSpec prim shw mid sep ps
  | [] => rfl
  | [(k, v)] => print_pair cfg prim shw hpct hf hp k v
  | (k, v) :: q :: r => by
    funext o
    simp only [showPairs, showPairsSpec]
    rw [print_pair cfg prim shw hpct hf hp, print_lit cfg prim shw hpct hsep, showPairs_eq hpct hf hp hsep (q :: r)]

/-- what Range_Show does with the values: one call `frag` per value, the separator between two -/
def showIntsSpec (frag sep : Str) : List Int → Out → Out × Outcome
  | [], o => (o, .ok)
  | [n], o => o.call prim frag (.i64 n)
  | n :: m :: r, o =>
    andThen (fun o => o.call prim frag (.i64 n)) (andThen (fun o => o.call prim sep .none) (showIntsSpec frag sep (m :: r))) o

theorem showInts_eq (hpct : '%' ∉ cfg.conv) {b : Str} {c : Char} (hf : firing cfg c = [.cint]) {item sep : Str}
    (hp : parseFmt cfg.conv item = some [.spec b c]) (hsep : isLitFmt sep = true) :
    ∀ ns : List Int, showInts cfg prim shw item sep ns = showIntsSpec prim item sep ns
  | [] => rfl
  | [n] => print_int cfg prim shw hpct hf hp n
  | n :: m :: r => by
    funext o
    simp only [showInts, showIntsSpec]
    rw [print_int cfg prim shw hpct hf hp, print_lit cfg prim shw hpct hsep, showInts_eq hpct hf hp hsep (m :: r)]

/-- one `frag` call per value is "each value shown by its own show", when the show of an Int IS that call -/
theorem showIntsSpec_eq_items (frag sep : Str) (elem : Obj → Out → Out × Outcome)
    (he : ∀ n, elem (.int n) = fun o => o.call prim frag (.i64 n)) :
    ∀ ns : List Int, showIntsSpec prim frag sep ns = showItemsSpec prim elem sep (ns.map Obj.int)
  | [] => rfl
  | [n] => (he n).symm
  | n :: m :: r => by
    funext o
    simp only [showIntsSpec, List.map_cons, showItemsSpec]
    rw [he n, ← List.map_cons, ← showIntsSpec_eq_items frag sep elem he (m :: r)]

end Cello.Fmt
