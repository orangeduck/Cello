/-
  CelloProofs/Lemmas/OwnProfile.lean — the ownership profile of the container sources that Cello/Own.lean was written
  against (hand-maintained; compared with the profile regenerated from /repo on every run: Props/C05.lean
  `C05_source_profile`).  How the rows are reflected in the model:

    Array_Push / List_Push        Alloc (zero-fill) then assign                      seqPush: one construction
    Array_Push_At                 throw (bounds) BEFORE Reserve/memmove/Alloc/assign  arrayPushAt: a refused call changes nothing
    List_Push_At                  List_At (which throws) BEFORE List_Alloc, assign    listPushAt: a refused call changes nothing (fix 4077d96)
    Array_Pop / Pop_At, List_*    throw, then one destruct, then the byte move        seqPop / seqPopAt: one retired
    Array_Set / List_Set          assign onto the stored element, no destruct         seqSetProbe: in place
    Array_Clear / List_Clear      destruct in a loop, free                            seqClear
    Array_Resize / List_Resize    Clear | destruct from the back | (List) Alloc+Link without assign   arrayResize / listResize
    Array_Assign / List_Assign    Clear, then Alloc+assign per element                seqAssignProbe
    *_Assign                      `if (self is obj) return;` BEFORE the Clear (fix a3140e4)            step: assign c c is a no-op
    Array_Sort_Partition          swap only                                           partition
    Table_Set_Move                2 assign (swap space) … 2 destruct (replace branch) … memcpy moves   tableSet
    Table_Rem                     2 destruct, memset, memcpy shift                    mapRem
    Tree_Set                      assign, assign on every path; Tree_Alloc only on the insert paths    treeSet
    Tree_Rem                      2 destruct, memcpy (predecessor), free              mapRem
    Tree_Clear_Entry / Table_Clear / *_Del   2 destruct per entry                     mapClear / del
    Box_Del                       del of the pointee;  Box_Assign: Box_Ref only (pointer copy, no del)   ElemKind.box

  Type checks (`cast(<argument>)` rows, and `CelloGen.Own.typeChecks`: where the check stands relative to the first effect):
    Table_Set_Move / Tree_Set     cast(key), cast(val) BEFORE memset / Tree_Alloc / assign            mapSetArgs: a type-refused set is inert
    Table_Rem / Tree_Rem          cast(key) BEFORE the lookup and the destructs                       mapRemWrong
    Array_Push / Push_At / Concat / New   no cast: nitems and the records first, the element's own Assign checks   arrayPushWrong, … (not atomic)
    List_Push / Push_At           no cast: List_Alloc first, the element's own Assign checks, nothing linked     listPushWrong (inert)
    Array_Set / List_Set, *_Rem   no cast: the element's own Assign / Cmp checks before it changes anything     seqSetWrong / seqRemWrong
-/
namespace Cello.Own

def modelledProfile : List (String × List String) := [
  ("Array_Alloc", ["memset"]),
  ("Array_New", ["cast(get(args,$I(0)))", "malloc", "throw", "Array_Alloc", "assign"]),
  ("Array_Del", ["destruct", "free"]),
  ("Array_Clear", ["destruct", "free"]),
  ("Array_Assign", ["return_if_self_is_obj", "Array_Clear", "malloc", "throw", "Array_Alloc", "assign", "Array_Push"]),
  ("Array_Reserve_More", ["realloc", "throw"]),
  ("Array_Concat", ["Array_Reserve_More", "Array_Alloc", "assign"]),
  ("Array_Reserve_Less", ["realloc"]),
  ("Array_Pop_At", ["throw", "destruct", "memmove", "Array_Reserve_Less"]),
  ("Array_Rem", ["Array_Pop_At", "throw"]),
  ("Array_Push", ["Array_Reserve_More", "Array_Alloc", "assign"]),
  ("Array_Push_At", ["throw", "Array_Reserve_More", "memmove", "Array_Alloc", "assign"]),
  ("Array_Pop", ["throw", "destruct", "Array_Reserve_Less"]),
  ("Array_Set", ["throw", "assign"]),
  ("Array_Sort_Partition", ["swap", "swap", "swap"]),
  ("Array_Resize", ["Array_Clear", "destruct", "realloc", "throw"]),
  ("List_Alloc", ["calloc", "throw"]),
  ("List_New", ["cast(get(args,$I(0)))", "List_Push"]),
  ("List_Clear", ["destruct", "List_Free"]),
  ("List_Del", ["List_Clear"]),
  ("List_Assign", ["return_if_self_is_obj", "List_Clear", "List_Push"]),
  ("List_Concat", ["List_Push"]),
  ("List_Pop_At", ["List_At", "List_Unlink", "destruct", "List_Free"]),
  ("List_Rem", ["List_Unlink", "destruct", "List_Free", "throw"]),
  ("List_Push", ["List_Alloc", "assign", "List_Link"]),
  ("List_Push_At", ["List_At", "List_Alloc", "assign", "List_Link", "List_Link"]),
  ("List_Pop", ["throw", "List_Unlink", "destruct", "List_Free"]),
  ("List_Set", ["assign", "List_At"]),
  ("List_Resize", ["List_Clear", "List_Unlink", "destruct", "List_Free", "List_Alloc", "List_Link"]),
  ("Table_New", ["cast(get(args,$(Int,0)))", "cast(get(args,$(Int,1)))", "throw", "calloc", "calloc", "calloc", "throw", "Table_Set_Move"]),
  ("Table_Del", ["destruct", "destruct", "free", "free", "free"]),
  ("Table_Clear", ["destruct", "destruct", "free"]),
  ("Table_Assign", ["return_if_self_is_obj", "Table_Clear", "calloc", "realloc", "realloc", "throw", "memset", "memset", "Table_Set_Move"]),
  ("Table_Set_Move", ["cast(key)", "cast(val)", "memset", "memset", "memcpy", "memcpy", "memcpy", "memcpy", "assign", "assign", "memcpy", "destruct", "destruct", "memcpy", "memcpy", "memcpy", "memcpy"]),
  ("Table_Rehash", ["calloc", "throw", "Table_Set_Move", "free"]),
  ("Table_Rem", ["cast(key)", "throw", "throw", "destruct", "destruct", "memset", "memcpy", "memset", "Table_Resize_Less"]),
  ("Table_Set", ["Table_Rehash", "Table_Set_Move", "Table_Resize_More"]),
  ("Table_Resize", ["Table_Clear", "throw", "Table_Rehash"]),
  ("Tree_Alloc", ["calloc", "throw"]),
  ("Tree_New", ["throw", "Tree_Set"]),
  ("Tree_Clear_Entry", ["Tree_Clear_Entry", "Tree_Clear_Entry", "destruct", "destruct", "free"]),
  ("Tree_Clear", ["Tree_Clear_Entry"]),
  ("Tree_Del", ["Tree_Clear"]),
  ("Tree_Assign", ["return_if_self_is_obj", "Tree_Clear", "Tree_Set"]),
  ("Tree_Set", ["cast(key)", "cast(val)", "Tree_Alloc", "assign", "assign", "Tree_Set_Fix", "assign", "assign", "Tree_Alloc", "assign", "assign", "Tree_Set_Fix", "Tree_Alloc", "assign", "assign", "Tree_Set_Fix"]),
  ("Tree_Rem", ["cast(key)", "throw", "destruct", "destruct", "memcpy", "Tree_Rem_Fix", "Tree_Replace", "free"]),
  ("Tree_Resize", ["Tree_Clear", "throw"]),
  ("Box_New", ["Box_Assign"]),
  ("Box_Del", ["Box_Deref", "del", "Box_Ref"]),
  ("Box_Assign", ["Box_Ref", "Box_Ref"])]


/-- the rows of `CelloGen.Own.typeChecks` the model's type-refused calls were written against: for the functions whose
    refusal is atomic because the `cast` of every element argument precedes the first effect … -/
def modelledTypeChecksFirst : List (String × List String × String × List String) := [
  ("Table_Set_Move", ["key", "val"], "memset", []),
  ("Table_Rem", ["key"], "destruct", []),
  ("Tree_Set", ["key", "val"], "Tree_Alloc", []),
  ("Tree_Rem", ["key"], "destruct", [])]

/-- … and for the functions that never cast an element argument (Array.c, List.c: the stored element's own `Assign` /
    `Cmp` is the type check, reached after the first effect listed here; `Table_Set` grows a table without slots and then
    delegates to `Table_Set_Move`, which casts; the only casts are those of the constructors' type arguments).
    Compared with the regenerated table by Props/C05.lean `C05_type_check_late_array_list`, `C05_type_checks_complete`. -/
def modelledTypeChecksLate : List (String × List String × String × List String) := [
  ("Array_New", ["get(args,$I(0))"], "nitems=", []),
  ("Array_Concat", [], "nitems+=", []),
  ("Array_Rem", [], "Array_Pop_At", []),
  ("Array_Push", [], "nitems++", []),
  ("Array_Push_At", [], "nitems++", []),
  ("Array_Set", [], "assign", []),
  ("List_New", ["get(args,$I(0))"], "nitems=", []),
  ("List_Concat", [], "List_Push", []),
  ("List_Rem", [], "List_Unlink", []),
  ("List_Push", [], "List_Alloc", []),
  ("List_Push_At", [], "List_At", []),
  ("List_Set", [], "assign", []),
  ("Table_New", ["get(args,$(Int,0))", "get(args,$(Int,1))"], "nitems=", []),
  ("Table_Set", [], "Table_Rehash", []),
  ("Tree_New", [], "nitems=", [])]

/-- the row of a function in a `typeChecks` table -/
def typeCheckOf (tbl : List (String × List String × String × List String)) (fn : String) :
    Option (List String × String × List String) :=
  (tbl.find? (fun r => r.1 == fn)).map (·.2)

/-- the functions each container type registers under the classes the harness calls them through (compared with the
    table regenerated from /repo by Props/C05.lean `C05_source_instances`) -/
def modelledInstances : List (String × String × List String) := [
  ("Array", "New", ["Array_New", "Array_Del"]),
  ("Array", "Assign", ["Array_Assign"]),
  ("Array", "Push", ["Array_Push", "Array_Pop", "Array_Push_At", "Array_Pop_At"]),
  ("Array", "Concat", ["Array_Concat", "Array_Push"]),
  ("Array", "Get", ["Array_Get", "Array_Set", "Array_Mem", "Array_Rem"]),
  ("Array", "Sort", ["Array_Sort_By"]),
  ("Array", "Resize", ["Array_Resize"]),
  ("List", "New", ["List_New", "List_Del"]),
  ("List", "Assign", ["List_Assign"]),
  ("List", "Push", ["List_Push", "List_Pop", "List_Push_At", "List_Pop_At"]),
  ("List", "Concat", ["List_Concat", "List_Push"]),
  ("List", "Get", ["List_Get", "List_Set", "List_Mem", "List_Rem"]),
  ("List", "Resize", ["List_Resize"]),
  ("Table", "New", ["Table_New", "Table_Del"]),
  ("Table", "Assign", ["Table_Assign"]),
  ("Table", "Get", ["Table_Get", "Table_Set", "Table_Mem", "Table_Rem", "Table_Key_Type", "Table_Val_Type"]),
  ("Table", "Resize", ["Table_Resize"]),
  ("Tree", "New", ["Tree_New", "Tree_Del"]),
  ("Tree", "Assign", ["Tree_Assign"]),
  ("Tree", "Get", ["Tree_Get", "Tree_Set", "Tree_Mem", "Tree_Rem", "Tree_Key_Type", "Tree_Val_Type"]),
  ("Tree", "Resize", ["Tree_Resize"]),
  ("Box", "New", ["Box_New", "Box_Del"]),
  ("Box", "Assign", ["Box_Assign"])]


end Cello.Own
