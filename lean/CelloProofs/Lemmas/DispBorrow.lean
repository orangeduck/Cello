/-
  The strings a type object borrows (`XHeap`): as long as the caller writes only into buffers that
  no `__Name` cell and no triple name word points into (`quiet`), the pointer-level history IS the value-level history
  `values` on `Heap`, answer by answer and in the heap it ends in (`XHeap.run_quiet`).
-/
import CelloProofs.Lemmas.DispWorld

namespace Cello.Dispatch

theorem zip_range_map_snd {α : Type} (l : List α) : ((List.range l.length).zip l).map (·.2) = l := by
  rw [List.map_snd_zip]
  simp

theorem renameTriples_none (hit : Nat → Bool) (text : String) (t : TypeRec) (h : ∀ i, hit i = false) :
    renameTriples hit text t = t := by
  unfold renameTriples
  have : ((List.range t.entries.length).zip t.entries).map
      (fun p => if hit p.1 then { p.2 with name := text } else p.2) = t.entries := by
    conv => rhs; rw [← zip_range_map_snd t.entries]
    apply List.map_congr_left
    intro p _
    simp [h p.1]
  rw [this]

theorem XHeap.scribbled_unused (x : XHeap) (b : Nat) (text : String) (h : x.unused b = true) : x.scribbled b text = x.h := by
  simp only [XHeap.unused, Bool.and_eq_true, List.all_eq_true, decide_eq_true_eq] at h
  obtain ⟨hn, ht⟩ := h
  have hf : x.nameBuf.filter (fun p => p.2 = b) = [] := by
    rw [List.filter_eq_nil_iff]
    intro p hp
    simpa using hn p hp
  unfold XHeap.scribbled
  simp only [hf, List.map_nil, List.foldl_nil]
  rw [map_eq_self]
  intro p _
  rw [renameTriples_none]
  intro i
  rw [List.any_eq_false]
  intro q hq
  simp [ht q hq]

theorem XHeap.step_h_of_lower {L : Layout} {x : XHeap} {op : XOp} {o : HOp} (hl : x.lower op = some o) :
    (x.step L op).1.h = (x.h.step L o).1 ∧ (x.step L op).2 = [(x.h.step L o).2] := by
  cases op with
  | scribble b text => simp [XHeap.lower] at hl
  | op o' => simp only [XHeap.step, hl, and_self]
  | construct addr nm es => simp only [XHeap.step, hl, and_self]

theorem XHeap.run_quiet (L : Layout) : ∀ (xs : List XOp) (x : XHeap), x.quiet L xs = true →
    (XHeap.run L x xs).2 = (Heap.run L x.h (x.values L xs)).2 ∧ (XHeap.run L x xs).1.h = (Heap.run L x.h (x.values L xs)).1
  | [], _, _ => ⟨rfl, rfl⟩
  | op :: ops, x, hq => by
    simp only [XHeap.quiet, Bool.and_eq_true] at hq
    obtain ⟨hq1, hq2⟩ := hq
    have ih := XHeap.run_quiet L ops (x.step L op).1 hq2
    cases hl : x.lower op with
    | none =>
      cases op with
      | op o' => simp [XHeap.lower] at hl
      | construct addr nm es => simp [XOp.quietIn, hl] at hq1
      | scribble b text =>
        simp only [XOp.quietIn] at hq1
        have hh : (x.step L (.scribble b text)).1.h = x.h := by
          simp only [XHeap.step]; exact XHeap.scribbled_unused x b text hq1
        have h2 : (x.step L (.scribble b text)).2 = [] := rfl
        simp only [XHeap.run, XHeap.values, hl, h2, List.nil_append]
        rw [hh] at ih
        exact ih
    | some o =>
      have hs := XHeap.step_h_of_lower (L := L) hl
      simp only [XHeap.run, XHeap.values, hl, hs.2, List.singleton_append, Heap.run]
      rw [hs.1] at ih
      exact ⟨by rw [ih.1], ih.2⟩

end Cello.Dispatch
