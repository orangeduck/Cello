/-
  CelloProofs/Lemmas/OwnWorld.lean — C05, the world of named containers: the invariant `Inv`; what `lookup`, `store` and
  `erase` do to names and to the elements held; what `Inv` implies; what `commit` does to the containers and reports, and
  that it preserves `Inv` (`commit_inv`).
-/
import CelloProofs.Lemmas.OwnMap

namespace Cello.Own
open List

def allIds (objs : List (Nat × Cont)) : List Nat := ids (allToks objs)

/-- The invariant of every in-contract history.
    `cons`: the elements ever constructed are exactly the finalised ones together with the ones the containers hold
    (as multisets of identities) — so the live elements are exactly the union of the container contents;
    `nodup`: no identity was handed out twice — together with `cons`: nothing is finalised twice, nothing finalised is
    still contained, no element is in two places;
    `bound`: every identity handed out is positive and below `next`; `pos`: `next` itself is positive — identity 0 is
    the zero-filled record (`Tok.raw`), so no container of the world holds one, and whatever `next` hands out afterwards
    is new and is not 0;
    `mapsOK`: the keys of a Table / Tree are pairwise distinct (what the count of a deep copy needs). -/
structure Inv (w : World) : Prop where
  cons : w.issuedLog ~ w.retiredLog ++ allIds w.objs
  nodup : w.issuedLog.Nodup
  bound : ∀ i ∈ w.issuedLog, 0 < i ∧ i < w.next
  pos : 0 < w.next
  mapsOK : ∀ c mk kvs, (c, Cont.map mk kvs) ∈ w.objs → (keys kvs).Nodup

theorem inv_init : Inv {} := by
  refine ⟨?_, ?_, ?_, ?_, ?_⟩ <;> simp [allIds, allToks]

@[simp] theorem allToks_nil : allToks [] = [] := rfl
@[simp] theorem allToks_cons (c : Nat) (x : Cont) (rest : List (Nat × Cont)) :
    allToks ((c, x) :: rest) = x.toks ++ allToks rest := by simp [allToks]

theorem allToks_perm {a b : List (Nat × Cont)} (h : a ~ b) : allToks a ~ allToks b := h.flatMap_right _

theorem erase_perm {objs : List (Nat × Cont)} {c : Nat} {x : Cont} (h : lookup objs c = some x) :
    objs ~ (c, x) :: erase objs c := by
  induction objs with
  | nil => simp [lookup] at h
  | cons cx rest ih =>
    obtain ⟨d, y⟩ := cx
    simp only [lookup] at h
    by_cases hd : d = c
    · simp only [hd, if_true, Option.some.injEq] at h
      subst h; simp [erase, hd]
    · simp only [hd, if_false] at h
      simp only [erase, hd, if_false]
      exact ((ih h).cons _).trans (Perm.swap _ _ _)

theorem allToks_erase {objs : List (Nat × Cont)} {c : Nat} {x : Cont} (h : lookup objs c = some x) :
    allToks objs ~ x.toks ++ allToks (erase objs c) := by
  simpa using allToks_perm (erase_perm h)

theorem erase_of_lookup_none {objs : List (Nat × Cont)} {c : Nat} (h : lookup objs c = none) : erase objs c = objs := by
  induction objs with
  | nil => rfl
  | cons cx rest ih =>
    obtain ⟨d, y⟩ := cx
    simp only [lookup] at h
    by_cases hd : d = c
    · simp [hd] at h
    · simp only [hd, if_false] at h
      simp [erase, hd, ih h]

theorem insertSorted_perm (d : Nat) (y : Cont) (l : List (Nat × Cont)) : insertSorted d y l ~ (d, y) :: l := by
  induction l with
  | nil => exact Perm.refl _
  | cons cx rest ih =>
    simp only [insertSorted]
    split
    · exact Perm.refl _
    · exact (ih.cons _).trans (Perm.swap _ _ _)

theorem allToks_store (objs : List (Nat × Cont)) (c : Nat) (y : Cont) :
    allToks (store objs c y) ~ y.toks ++ allToks (erase objs c) := by
  simpa [store] using allToks_perm (insertSorted_perm c y (erase objs c))

theorem lookup_insertSorted (d : Nat) (y : Cont) (l : List (Nat × Cont)) (e : Nat) :
    lookup (insertSorted d y l) e = if e = d then some y else lookup l e := by
  induction l with
  | nil => simp only [insertSorted, lookup, eq_comm]
  | cons cx rest ih =>
    obtain ⟨c, x⟩ := cx
    by_cases h1 : d ≤ c
    · simp only [insertSorted, h1, if_true, lookup, eq_comm]
    · simp only [insertSorted, h1, if_false, lookup, ih]
      by_cases h : e = d
      · rw [if_pos h, if_pos h, if_neg (by omega)]
      · rw [if_neg h, if_neg h]

theorem lookup_erase_ne (objs : List (Nat × Cont)) {c e : Nat} (h : e ≠ c) :
    lookup (erase objs c) e = lookup objs e := by
  induction objs with
  | nil => rfl
  | cons dx rest ih =>
    obtain ⟨d, x⟩ := dx
    simp only [erase]
    by_cases hd : d = c
    · have : ¬ c = e := fun h' => h h'.symm
      simp [hd, lookup, this]
    · simp only [hd, if_false, lookup, ih]

theorem mem_of_lookup {objs : List (Nat × Cont)} {c : Nat} {x : Cont} (h : lookup objs c = some x) : (c, x) ∈ objs := by
  induction objs with
  | nil => simp [lookup] at h
  | cons dx rest ih =>
    obtain ⟨d, y⟩ := dx
    simp only [lookup] at h
    by_cases hd : d = c
    · simp only [hd, if_true, Option.some.injEq] at h; subst h; simp [hd]
    · simp only [hd, if_false] at h; exact List.mem_cons_of_mem _ (ih h)

theorem mem_erase_sub {objs : List (Nat × Cont)} {c : Nat} {p : Nat × Cont} (h : p ∈ erase objs c) : p ∈ objs := by
  cases hl : lookup objs c with
  | none => rwa [erase_of_lookup_none hl] at h
  | some x => exact (erase_perm hl).mem_iff.mpr (List.mem_cons_of_mem _ h)

theorem mem_store {objs : List (Nat × Cont)} {c : Nat} {y : Cont} {p : Nat × Cont} (h : p ∈ store objs c y) :
    p = (c, y) ∨ p ∈ objs :=
  (List.mem_cons.mp ((insertSorted_perm c y _).mem_iff.mp h)).imp_right mem_erase_sub

theorem lookup_store (objs : List (Nat × Cont)) (c : Nat) (y : Cont) (e : Nat) :
    lookup (store objs c y) e = if e = c then some y else lookup objs e := by
  simp only [store, lookup_insertSorted]
  by_cases h : e = c
  · simp [h]
  · simp [h, lookup_erase_ne objs h]

theorem ids_sub_allIds {objs : List (Nat × Cont)} {c : Nat} {x : Cont} (h : lookup objs c = some x) :
    ∀ i ∈ ids x.toks, i ∈ allIds objs := by
  intro i hi
  exact (ids_perm (allToks_erase h)).mem_iff.mpr (by simp [hi])

theorem inv_retired_issued {w : World} (hinv : Inv w) : ∀ i ∈ w.retiredLog, i ∈ w.issuedLog :=
  fun _ hi => hinv.cons.mem_iff.mpr (List.mem_append_left _ hi)

theorem inv_held_bound {w : World} (hinv : Inv w) {c : Nat} {x : Cont} (h : lookup w.objs c = some x) :
    ∀ i ∈ ids x.toks, 0 < i ∧ i < w.next :=
  fun i hi => hinv.bound i (hinv.cons.mem_iff.mpr (List.mem_append_right _ (ids_sub_allIds h i hi)))

theorem inv_noraw {w : World} (hinv : Inv w) {c : Nat} {x : Cont} (h : lookup w.objs c = some x) : 0 ∉ ids x.toks :=
  fun h0 => Nat.lt_irrefl 0 (inv_held_bound hinv h 0 h0).1

theorem inv_keys {w : World} (hinv : Inv w) {c : Nat} {mk : MapKind} {kvs : List KV}
    (h : lookup w.objs c = some (.map mk kvs)) : (keys kvs).Nodup :=
  hinv.mapsOK c mk kvs (mem_of_lookup h)

theorem inv_disjoint {w : World} (hinv : Inv w) : ∀ i ∈ w.retiredLog, i ∉ allIds w.objs := by
  intro i hi hc
  exact (List.disjoint_of_nodup_append (hinv.cons.nodup_iff.mp hinv.nodup)) hi hc

theorem inv_retired_nodup {w : World} (hinv : Inv w) : w.retiredLog.Nodup :=
  (List.nodup_append.mp (hinv.cons.nodup_iff.mp hinv.nodup)).1

theorem inv_contents_nodup {w : World} (hinv : Inv w) : (allIds w.objs).Nodup :=
  (List.nodup_append.mp (hinv.cons.nodup_iff.mp hinv.nodup)).2.1

theorem fresh_not_held {w : World} (hinv : Inv w) {d : Nat} {x : Cont} (hd : lookup w.objs d = some x)
    {iss : List Tok} (hf : FreshFrom w.next iss) : ∀ i ∈ ids iss, i ∉ ids x.toks := by
  intro i hi hix
  have h1 := (inv_held_bound hinv hd i hix).2
  have h2 := (hf.ge i hi).1
  omega

/-- `liveCount` is a truncated subtraction: the equation is derived from the multiset equation `Inv.cons`, not from the
    subtraction -/
theorem inv_liveCount {w : World} (hinv : Inv w) :
    liveCount w = (w.objs.map (fun cx => cx.2.toks.length)).sum ∧ w.retiredLog.length ≤ w.issuedLog.length := by
  have hl := hinv.cons.length_eq
  have hs : (allIds w.objs).length = (w.objs.map (fun cx => cx.2.toks.length)).sum := by
    simp [allIds, allToks, List.length_flatMap]
  simp only [List.length_append] at hl
  exact ⟨by simp only [liveCount]; omega, by omega⟩

/-- what a `commit` on `c` takes away (`oldToks`: what `c` held, nothing if it was free) and puts in its place (`newToks`) -/
def oldToks (w : World) (c : Nat) : List Tok :=
  match lookup w.objs c with
  | some x => x.toks
  | none => []

def newToks : Option Cont → List Tok
  | some y => y.toks
  | none => []

theorem oldToks_of_lookup {w : World} {c : Nat} {x : Cont} (h : lookup w.objs c = some x) : oldToks w c = x.toks := by
  simp [oldToks, h]

theorem oldToks_of_none {w : World} {c : Nat} (h : lookup w.objs c = none) : oldToks w c = [] := by
  simp [oldToks, h]

def objsAfter (objs : List (Nat × Cont)) (c : Nat) : Option Cont → List (Nat × Cont)
  | some x => store objs c x
  | none => erase objs c

theorem commit_objs (w : World) (c : Nat) (isBox : Bool) (cont : Option Cont) (r : Res Unit) (touched : List Nat) :
    (commit w c isBox cont r touched).1.objs = objsAfter w.objs c cont := by
  cases cont <;> rfl

theorem commit_frame (w : World) (c : Nat) (isBox : Bool) (cont : Option Cont) (r : Res Unit) (touched : List Nat)
    {e : Nat} (h : e ≠ c) : lookup (commit w c isBox cont r touched).1.objs e = lookup w.objs e := by
  rw [commit_objs]
  cases cont with
  | none => exact lookup_erase_ne w.objs h
  | some y => simp [objsAfter, lookup_store, h]

theorem commit_lookup_self (w : World) (c : Nat) (isBox : Bool) (y : Cont) (r : Res Unit) (touched : List Nat) :
    lookup (commit w c isBox (some y) r touched).1.objs c = some y := by
  simp [commit_objs, objsAfter, lookup_store]

theorem commitSeq_lookup_self (w : World) (c : Nat) (k : SeqKind) (ek : ElemKind) (r : Res (List Tok)) (tl : List Nat) (wb : Bool) :
    lookup (commitSeq w c k ek r tl wb).1.objs c = some (.seq k ek r.val) :=
  commit_lookup_self ..

theorem commit_lookup_same (w : World) (c : Nat) (isBox : Bool) (r : Res Unit) (touched : List Nat) (e : Nat) :
    lookup (commit w c isBox (lookup w.objs c) r touched).1.objs e = lookup w.objs e := by
  by_cases he : e = c
  · subst he
    cases hl : lookup w.objs e with
    | none => rw [commit_objs]; simp only [objsAfter, erase_of_lookup_none hl, hl]
    | some x => exact commit_lookup_self ..
  · exact commit_frame _ _ _ _ _ _ he

theorem commitSeq_out (w : World) (c : Nat) (k : SeqKind) (ek : ElemKind) (r : Res (List Tok)) (tl : List Nat) (wb : Bool) :
    (commitSeq w c k ek r tl wb).2.out = r.out := rfl
theorem commitMap_out (w : World) (c : Nat) (k : MapKind) (r : Res (List KV)) (tl : List Nat) :
    (commitMap w c k r tl).2.out = r.out := rfl
theorem commit_out (w : World) (c : Nat) (b : Bool) (cont : Option Cont) (r : Res Unit) (tl : List Nat) :
    (commit w c b cont r tl).2.out = r.out := rfl

theorem mem_dedupIds {l : List Tok} {u : Tok} (h : u ∈ dedupIds l) : u ∈ l := by
  induction l with
  | nil => simp [dedupIds] at h
  | cons t ts ih =>
    simp only [dedupIds, List.mem_cons] at h ⊢
    exact h.imp id fun h => ih (List.mem_filter.mp h).1

/-- the filters of `commit` only drop -/
theorem commit_retired_sub (w : World) (c : Nat) (isBox : Bool) (cont : Option Cont) (r : Res Unit) (touched : List Nat) :
    ∀ u ∈ (commit w c isBox cont r touched).2.retired, u ∈ r.retired := by
  intro u hu
  cases isBox with
  | false => exact hu
  | true => exact (List.mem_filter.mp (mem_dedupIds hu)).1

theorem dedupIds_of_nodup (l : List Tok) (h : (ids l).Nodup) : dedupIds l = l := by
  induction l with
  | nil => rfl
  | cons t ts ih =>
    simp only [ids_cons, List.nodup_cons] at h
    simp only [dedupIds, ih h.2]
    congr 1
    apply List.filter_eq_self.mpr
    intro u hu
    have : u.id ≠ t.id := fun he => h.1 (by rw [← he]; exact List.mem_map_of_mem hu)
    simpa using this

/-- `commit` without its two filters -/
def commitPlain (w : World) (c : Nat) (cont : Option Cont) (r : Res Unit) (touched : List Nat) : World × Obs :=
  ({ next := w.next + r.issued.length, objs := objsAfter w.objs c cont,
     issuedLog := ids r.issued ++ w.issuedLog, retiredLog := ids r.retired ++ w.retiredLog },
   { out := r.out, issued := r.issued, retired := r.retired, updated := r.updated, touched := touched })

/-- the conditions under which the filters of `commit` (zero-filled elements, already finalised Box pointees) do nothing -/
theorem commit_eq (w : World) (c : Nat) (isBox : Bool) (cont : Option Cont) (r : Res Unit) (touched : List Nat)
    (h0 : 0 ∉ ids r.retired) (hnd : (ids r.retired).Nodup) (hdis : ∀ i ∈ ids r.retired, i ∉ w.retiredLog) :
    commit w c isBox cont r touched = commitPlain w c cont r touched := by
  have hf1 : r.retired.filter (fun t => !w.retiredLog.contains t.id) = r.retired := by
    apply List.filter_eq_self.mpr
    intro t ht
    have := hdis t.id (List.mem_map_of_mem ht)
    simpa using this
  have hret : (if isBox then dedupIds (r.retired.filter (fun t => !w.retiredLog.contains t.id)) else r.retired) = r.retired := by
    cases isBox
    · rfl
    · simp only [if_true, hf1]; exact dedupIds_of_nodup _ hnd
  have hf0 : r.retired.filter (fun t => t.id != 0) = r.retired := by
    apply List.filter_eq_self.mpr
    intro t ht
    have : t.id ≠ 0 := fun he => h0 (by rw [← he]; exact List.mem_map_of_mem ht)
    simpa using this
  simp only [commit, commitPlain, hret, hf0]
  cases cont <;> rfl

/-- The identities an operation finalises were held by `c` or are fresh: they are distinct, not 0 and in no log yet, so both
    filters of `commit` pass them all (`commit_eq`, second conjunct) and the new logs are the old ones plus what the
    operation reports; the third conjunct is `hc` with the other containers added on both sides. -/
theorem commit_inv {w : World} (hinv : Inv w) (c : Nat) (isBox : Bool) (cont : Option Cont) (r : Res Unit)
    (touched : List Nat)
    (hf : FreshFrom w.next r.issued)
    (hc : Conserves (oldToks w c) (newToks cont) r.issued r.retired)
    (hok : ∀ mk kvs, cont = some (.map mk kvs) → (keys kvs).Nodup) :
    Inv (commit w c isBox cont r touched).1 ∧
    commit w c isBox cont r touched = commitPlain w c cont r touched ∧
    allIds (objsAfter w.objs c cont) ++ ids r.retired ~ allIds w.objs ++ ids r.issued := by
  have ⟨hcons, hnodup, hbound, hpos, hmaps⟩ := hinv
  -- the world without container c
  have hA : allIds w.objs ~ ids (oldToks w c) ++ allIds (erase w.objs c) := by
    unfold oldToks allIds
    cases hl : lookup w.objs c with
    | none => simp [erase_of_lookup_none hl]
    | some x => simpa using ids_perm (allToks_erase hl)
  have hB : allIds (objsAfter w.objs c cont) ~ ids (newToks cont) ++ allIds (erase w.objs c) := by
    unfold newToks allIds objsAfter
    cases cont with
    | none => simp
    | some y => simpa using ids_perm (allToks_store w.objs c y)
  have hold_in : ∀ i ∈ ids (oldToks w c), i ∈ w.issuedLog ∧ i ∉ w.retiredLog := by
    intro i hi
    have hi' : i ∈ allIds w.objs := hA.mem_iff.mpr (List.mem_append_left _ hi)
    exact ⟨hcons.mem_iff.mpr (List.mem_append_right _ hi'), fun hr => inv_disjoint hinv i hr hi'⟩
  have hret_log : ∀ i ∈ w.retiredLog, i < w.next := fun i hi => (hbound i (inv_retired_issued hinv i hi)).2
  have hret_in : ∀ i ∈ ids r.retired, i ≠ 0 ∧ i ∉ w.retiredLog := by
    intro i hi
    rcases hc.mem (.inr hi) with h | h
    · obtain ⟨h1, h2⟩ := hold_in i h
      exact ⟨by have := (hbound i h1).1; omega, h2⟩
    · have := (hf.ge i h).1
      exact ⟨by omega, fun hr => by have := hret_log i hr; omega⟩
  have hold_nd : (ids (oldToks w c)).Nodup := (List.nodup_append.mp (hA.nodup_iff.mp (inv_contents_nodup hinv))).1
  have hrhs_nd : (ids (oldToks w c) ++ ids r.issued).Nodup := by
    refine List.nodup_append.mpr ⟨hold_nd, hf.nodup, ?_⟩
    intro a ha b hb hab
    have h1 := (hbound a (hold_in a ha).1).2
    have h2 := (hf.ge b hb).1
    omega
  have hc' := conserves_iff.mp hc
  have hret_nd : (ids r.retired).Nodup := (List.nodup_append.mp (hc'.nodup_iff.mpr hrhs_nd)).2.1
  have heq := commit_eq w c isBox cont r touched (fun h => (hret_in 0 h).1 rfl) hret_nd (fun i hi => (hret_in i hi).2)
  have hstep : allIds (objsAfter w.objs c cont) ++ ids r.retired ~ allIds w.objs ++ ids r.issued := by
    calc allIds (objsAfter w.objs c cont) ++ ids r.retired
        ~ (ids (newToks cont) ++ allIds (erase w.objs c)) ++ ids r.retired := Perm.append_right _ hB
      _ ~ allIds (erase w.objs c) ++ (ids (newToks cont) ++ ids r.retired) := by
          rw [List.append_assoc]; exact perm_append_comm_assoc _ _ _
      _ ~ allIds (erase w.objs c) ++ (ids (oldToks w c) ++ ids r.issued) := Perm.append_left _ hc'
      _ ~ (ids (oldToks w c) ++ allIds (erase w.objs c)) ++ ids r.issued := by
          rw [List.append_assoc]; exact perm_append_comm_assoc _ _ _
      _ ~ allIds w.objs ++ ids r.issued := Perm.append_right _ hA.symm
  refine ⟨?_, heq, hstep⟩
  rw [heq]
  refine ⟨?_, ?_, ?_, by simp only [commitPlain]; omega, ?_⟩
  · simp only [commitPlain]
    calc ids r.issued ++ w.issuedLog
        ~ ids r.issued ++ (w.retiredLog ++ allIds w.objs) := Perm.append_left _ hcons
      _ ~ w.retiredLog ++ (allIds w.objs ++ ids r.issued) :=
          perm_append_comm.trans (.of_eq (List.append_assoc _ _ _))
      _ ~ w.retiredLog ++ (allIds (objsAfter w.objs c cont) ++ ids r.retired) := Perm.append_left _ hstep.symm
      _ ~ (ids r.retired ++ w.retiredLog) ++ allIds (objsAfter w.objs c cont) :=
          (Perm.of_eq (List.append_assoc _ _ _).symm).trans (perm_append_comm.trans (.of_eq (List.append_assoc _ _ _).symm))
  · simp only [commitPlain]
    refine List.nodup_append.mpr ⟨hf.nodup, hnodup, ?_⟩
    intro a ha b hb hab
    have h1 := (hf.ge a ha).1
    have h2 := (hbound b hb).2
    omega
  · simp only [commitPlain]
    intro i hi
    rcases List.mem_append.mp hi with h | h
    · have := hf.ge i h; omega
    · have := hbound i h; omega
  · simp only [commitPlain]
    intro e mk kvs hmem
    cases cont with
    | none => exact hmaps e mk kvs (mem_erase_sub hmem)
    | some y =>
      rcases mem_store hmem with h | h
      · have hy : y = Cont.map mk kvs := (Prod.mk.inj h).2.symm
        exact hok mk kvs (by rw [hy])
      · exact hmaps e mk kvs h

end Cello.Own
