/-
  Lemmas for the block-level layer of engine `fmt` (C14, model Cello/FmtSize.lean): `String_Format_To`'s two-pass sizing, one call
  (`run_modelled`) and a whole call log against the abstract String sink of Cello/Fmt.lean (`Follows`, `replay_emitAll`);
  `File_Format_To`; the definitions of the argument-type table.
-/
import Cello.FmtSize
import CelloGen.Fmt
import CelloProofs.Lemmas.FmtNow
import CelloProofs.Lemmas.FmtPure

namespace Cello.Fmt

/-- `String_Format_To` as the translator reads it from src/String.c -/
def sftNow : SftProg :=
  SftProg.ofGen CelloGen.Fmt.stringFormatToSteps CelloGen.Fmt.stringFormatToReallocSize CelloGen.Fmt.stringFormatToWriteOffset

/-- the program the block-level lemmas are about: measure, guard, alloc check, `realloc(val, pos + size + 1)`, NULL check,
    `vsprintf(val + pos, …)` -/
def sftModelled : SftProg :=
  ⟨[.measure, .guard, .allocCheck, .realloc, .memCheck, .write], [.pos, .size, .lit 1], [.pos]⟩

/-- the variant without room for the terminator: `realloc(val, pos + size)` -/
def sftNoTerminator : SftProg := { sftModelled with reallocSize := [.pos, .size] }

/-- the variant that writes one byte late: `vsprintf(val + pos + 1, …)` -/
def sftLate : SftProg := { sftModelled with writeOff := [.pos, .lit 1] }

/-- `File_Format_To` as the translator reads it from src/File.c -/
def fftNow : List FStep := CelloGen.Fmt.fileFormatToSteps.map FStep.ofCode

theorem reallocBlk_length (b : List Cell) (m : Nat) : (reallocBlk b m).length = m := by
  simp [reallocBlk, List.length_take]; omega

theorem reallocBlk_take (b : List Cell) (m k : Nat) (hk : k ≤ b.length) (hm : k ≤ m) : (reallocBlk b m).take k = b.take k := by
  unfold reallocBlk
  rw [List.take_append_of_le_length (by simp [List.length_take]; omega), List.take_take]
  congr 1; omega

theorem writeAt_exact (b : List Cell) (off : Nat) (bytes : Str) (h : b.length = off + bytes.length) :
    writeAt b off bytes = some (b.take off ++ bytes.map some) := by
  unfold writeAt
  rw [if_pos (by omega), List.drop_of_length_le (by omega)]; simp

theorem writeAt_short (b : List Cell) (off : Nat) (bytes : Str) (h : b.length < off + bytes.length) : writeAt b off bytes = none := by
  unfold writeAt; rw [if_neg (by omega)]

theorem reallocBlk_eq_nil (b : List Cell) (m : Nat) : reallocBlk b m = [] ↔ m = 0 := by
  rw [← List.length_eq_zero_iff, reallocBlk_length]

/-- the statements of `String_Format_To` in the order of the source, whatever the two size expressions evaluate to: the block is resized to
    `m` bytes (`realloc(val, 0)` frees it and the NULL check raises), then the text and its terminator are written at `off` if they fit -/
theorem run_sizes (rs wo : List SzAtom) (b : List Cell) (pos : Nat) (t : Str) {m off : Nat}
    (hm : szEval rs pos t.length = m) (ho : szEval wo pos t.length = off) :
    SftProg.run ⟨[.measure, .guard, .allocCheck, .realloc, .memCheck, .write], rs, wo⟩ b pos t =
      if reallocBlk b m = [] then .raised (reallocBlk b m) .OutOfMemoryError
      else match writeAt (reallocBlk b m) off (t ++ [NUL]) with
        | some b' => .ret b' t.length
        | none => .ub (reallocBlk b m) := by
  subst hm ho; rfl

theorem run_modelled (b : List Cell) (pos : Nat) (t : Str) (h : pos ≤ b.length) :
    sftModelled.run b pos t = .ret (b.take pos ++ (t ++ [NUL]).map some) t.length := by
  rw [sftModelled, run_sizes _ _ b pos t (m := pos + (t.length + 1)) (off := pos) rfl rfl, if_neg (by rw [reallocBlk_eq_nil]; omega),
    writeAt_exact _ pos _ (by rw [reallocBlk_length]; simp), reallocBlk_take b _ pos h (by omega)]

/-- without the `+ 1` no accepted call comes back: the terminator lands outside the block (or, at `pos + |t| = 0`, `realloc(val, 0)` has freed
    it and the NULL check raises) -/
theorem run_noTerminator (b : List Cell) (pos : Nat) (t : Str) :
    (∃ b', sftNoTerminator.run b pos t = .ub b') ∨ (∃ b', sftNoTerminator.run b pos t = .raised b' .OutOfMemoryError) := by
  rw [sftNoTerminator, sftModelled, run_sizes _ _ b pos t (m := pos + t.length) (off := pos) rfl rfl,
    writeAt_short _ pos _ (by rw [reallocBlk_length]; simp)]
  split
  · exact .inr ⟨_, rfl⟩
  · exact .inl ⟨_, rfl⟩

/-- one byte late: the terminator lands outside the block -/
theorem run_late (b : List Cell) (pos : Nat) (t : Str) : ∃ b', sftLate.run b pos t = .ub b' := by
  rw [sftLate, sftModelled, run_sizes _ _ b pos t (m := pos + (t.length + 1)) (off := pos + 1) rfl rfl,
    if_neg (by rw [reallocBlk_eq_nil]; omega), writeAt_short _ _ _ (by rw [reallocBlk_length]; simp)]
  exact ⟨_, rfl⟩

theorem cstrCells_text (t : Str) (rest : List Cell) (h : ∀ c ∈ t, c ≠ NUL) : cstrCells (t.map some ++ some NUL :: rest) = some t := by
  induction t with
  | nil => simp [cstrCells]
  | cons c r ih =>
    have hc : c ≠ NUL := h c (by simp)
    simp only [List.map_cons, List.cons_append, cstrCells, if_neg hc, ih (fun x hx => h x (by simp [hx]))]
    rfl

theorem blockOf_length (v : Str) : (blockOf v).length = v.length + 1 := by simp [blockOf]

theorem cstr_blockOf (v : Str) (hv : ∀ c ∈ v, c ≠ NUL) : cstrCells (blockOf v) = some v := by
  have := cstrCells_text v [] hv
  simpa [blockOf] using this

/-- the block follows the abstract String sink: invariant `b[0..pos) = v[0..pos)`, `pos ≤ |v|`, `pos ≤ |b|` -/
structure Follows (b : List Cell) (v : Str) (pos : Nat) : Prop where
  hb : pos ≤ b.length
  hv : pos ≤ v.length
  eq : b.take pos = (v.take pos).map some

theorem follows_blockOf (v : Str) (pos : Nat) (h : pos ≤ v.length) : Follows (blockOf v) v pos := by
  refine ⟨by rw [blockOf_length]; omega, h, ?_⟩
  simp only [blockOf, List.map_append, List.map_take]
  rw [List.take_append_of_le_length (by simp; exact h)]

theorem follows_step (b : List Cell) (v : Str) (pos : Nat) (t : Str) (h : Follows b v pos) :
    sftModelled.run b pos t = .ret (blockOf (v.take pos ++ t)) t.length ∧ Follows (blockOf (v.take pos ++ t)) (v.take pos ++ t) (pos + t.length) := by
  refine ⟨?_, ?_⟩
  · rw [run_modelled b pos t h.hb, h.eq]; simp [blockOf]
  · exact follows_blockOf _ _ (Nat.le_of_eq (length_take_append v t h.hv).symm)

/-- a call log replayed (up to the first call libc rejects) from a block that agrees with the String up to the start position never leaves the
    block; that the text it ends with is the abstract sink's is `replay_emitAll` -/
theorem replay_follows (prim : Prim) (cs : List Call) (b : List Cell) (o : Out) (v : Str) (ho : o.sink = .str v) (h : Follows b v o.pos) :
    ∃ b' p', replayBlock sftModelled prim cs b o.pos = (b', p', true) ∧
      (p' = o.pos ∧ b' = b ∨ ∃ v', b' = blockOf v' ∧ p' = v'.length) := by
  induction cs generalizing b o v with
  | nil => exact ⟨b, o.pos, rfl, .inl ⟨rfl, rfl⟩⟩
  | cons c r ih =>
    unfold replayBlock
    by_cases hr : prim.rej c.frag c.val = true
    · rw [if_pos hr]; exact ⟨b, o.pos, rfl, .inl ⟨rfl, rfl⟩⟩
    · rw [if_neg hr]
      obtain ⟨hrun, hf⟩ := follows_step b v o.pos (prim.text c.frag c.val) h
      rw [hrun]
      have := ih (blockOf (v.take o.pos ++ prim.text c.frag c.val))
        ⟨.str (v.take o.pos ++ prim.text c.frag c.val), o.pos + (prim.text c.frag c.val).length, o.calls⟩ _ rfl hf
      obtain ⟨b', p', he, hc⟩ := this
      refine ⟨b', p', he, .inr ?_⟩
      rcases hc with ⟨hp, hb⟩ | hc
      · refine ⟨_, hb, ?_⟩
        rw [hp, length_take_append v _ h.hv]
      · exact hc

/-- over a log of accepted calls the block replay ends where `emitAll` (the fold the closed-form theorems are stated with) ends, the block
    holding the sink's bytes and one terminator -/
theorem replay_emitAll (prim : Prim) (cs : List Call) (hacc : ∀ c ∈ cs, prim.rej c.frag c.val = false)
    (b : List Cell) (o : Out) (v : Str) (ho : o.sink = .str v) (h : Follows b v o.pos) :
    ∃ v' b', (emitAll prim o cs).sink = .str v' ∧ replayBlock sftModelled prim cs b o.pos = (b', (emitAll prim o cs).pos, true) ∧
      Follows b' v' (emitAll prim o cs).pos ∧ (cs ≠ [] → b' = blockOf v' ∧ v'.length = (emitAll prim o cs).pos) := by
  induction cs generalizing b o v with
  | nil => exact ⟨v, b, ho, rfl, h, fun hne => absurd rfl hne⟩
  | cons c r ih =>
    have hr : prim.rej c.frag c.val = false := hacc c (by simp)
    obtain ⟨hrun, hf⟩ := follows_step b v o.pos (prim.text c.frag c.val) h
    have hs : (o.formatTo prim c.frag c.val).sink = .str (v.take o.pos ++ prim.text c.frag c.val) := by
      rw [formatTo_acc prim o hr, ho]; rfl
    have hp : (o.formatTo prim c.frag c.val).pos = o.pos + (prim.text c.frag c.val).length := by
      rw [formatTo_acc prim o hr]
    obtain ⟨v', b', h1, h2, h3, h4⟩ := ih (fun x hx => hacc x (by simp [hx])) (blockOf (v.take o.pos ++ prim.text c.frag c.val))
      (o.formatTo prim c.frag c.val) _ hs (by rw [hp]; exact hf)
    refine ⟨v', b', by rw [emitAll_cons]; exact h1, ?_, by rw [emitAll_cons]; exact h3, fun _ => ?_⟩
    · rw [emitAll_cons]; unfold replayBlock; simp only [hr, Bool.false_eq_true, if_false, hrun]; rw [← hp]; exact h2
    · rw [emitAll_cons]
      by_cases hrn : r = []
      · subst hrn
        simp only [emitAll, List.foldl] at h1 h2 h3 ⊢
        rw [hs] at h1; cases h1
        simp only [replayBlock] at h2
        refine ⟨(Prod.mk.inj h2).1.symm, ?_⟩
        rw [hp, length_take_append v _ h.hv]
      · exact h4 hrn

theorem fft_open (c t : Str) : fftAccept t [.nullCheck, .write] (some c) = .ret (some (c ++ t)) t.length := by
  simp [fftAccept]

theorem fft_closed (t : Str) : fftAccept t [.nullCheck, .write] none = .ioError none := by
  simp [fftAccept]

/-- for conversion `c` under length modifier `lm`: exactly one dispatch arm fires, the value it passes lives in the register class `printf` fetches
    from, and is at least as wide as what `printf` fetches -/
def argTypeOK (types : List (String × String)) (cfg : Cfg) (lm : Str) (c : Char) : Bool :=
  match firing cfg c, printfReads lm c with
  | [k], some (cls, rb, _) =>
    match passedSlot types k with
    | some (pc, pb) => pc == cls && decide (rb ≤ pb)
    | none => false
  | _, _ => false

/-- every length modifier of C (and none) -/
def allLens : List Str := [[], ['h', 'h'], ['h'], ['l'], ['l', 'l'], ['j'], ['z'], ['t'], ['L']]

end Cello.Fmt
