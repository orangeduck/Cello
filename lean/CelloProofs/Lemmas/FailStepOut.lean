import CelloProofs.Lemmas.FailAux
import CelloProofs.Lemmas.FailNest
import CelloProofs.Lemmas.FailStr
import CelloProofs.Lemmas.FailRange
/-
  C12: what a step does to the STATE (what it answers is FailStepSpec.lean).  Every leaf of a step function either hands back the
  state it was given or has completed the operation: `Out`, and one theorem `X.step_out` per type, proved by splitting the goal
  along the step function.  Failure atomicity (`Out.atomic`) and the preservation of invariants (`Out.rel`) are read off it.
  The territory `X.kf` is a hypothesis where nothing is claimed inside it (Array, Tree, String, Table), and part of `ok` where the
  invariant is kept there too (List, Nest).  A Table has a third kind of leaf (`Tab.Out`: a refused `set` gives a table without slots
  its first block); beside `Tab.step_out` stand which operations replace the slot array (`Tab.moves_cases`) and that no answer
  depends on the slot count (`Tab.step_nslots`).
-/
namespace Cello.Fail

/-- The outcome of an operation on state `a`.  `same`: the state as it was given, whatever the answer — the refusals, and the
    operations that only read.  `done`: another state, which `Rel` relates to `a`, with an answer that `ok` admits — for most types
    `ok` is "succeeded", so that an operation that does not succeed has touched nothing. -/
inductive Out {α : Type} (ok : Res → Prop) (Rel : α → α → Prop) (a : α) : α × Res → Prop
  | same (r : Res) : Out ok Rel a (a, r)
  | done (a' : α) (r : Res) : ok r → Rel a a' → Out ok Rel a (a', r)

theorem Out.atomic {α : Type} {ok : Res → Prop} {Rel : α → α → Prop} {a a' : α} {p : α × Res} {r : Res}
    (h : Out ok Rel a p) (hp : p = (a', r)) (hr : ¬ ok r) : a' = a := by
  cases h with
  | same _ => cases hp; rfl
  | done _ _ hok _ => cases hp; exact absurd hok hr

theorem Out.rel {α : Type} {ok : Res → Prop} {Rel : α → α → Prop} {a : α} {p : α × Res} (h : Out ok Rel a p) (hrefl : Rel a a) :
    Rel a p.1 := by
  cases h with
  | same _ => exact hrefl
  | done _ _ _ hR => exact hR

/-- a step seen through `f` (the constructor that makes an object of a container, `σ.put id` that makes a store of an object) raised:
    the step itself raised, and what is seen is `f` of its state -/
theorem raised_of_wrapped {α β : Type} (f : α → β) (p : α × Res) {b : β} {e : Exc}
    (h : (match p with | (a, r) => (f a, r)) = (b, .raised e)) : ∃ a, p = (a, .raised e) ∧ b = f a := by
  obtain ⟨a, r⟩ := p; cases h; exact ⟨a, rfl, rfl⟩

/-- `Out.atomic` seen through such an `f` (`Obj.stepLocal`, `stepN`) -/
theorem Out.wrapped {α β : Type} {ok : Res → Prop} {Rel : α → α → Prop} {a : α} {p : α × Res} (h : Out ok Rel a p) (f : α → β)
    {b : β} {e : Exc} (hp : (match p with | (a', r) => (f a', r)) = (b, .raised e)) (hok : ¬ ok (.raised e)) : b = f a := by
  obtain ⟨a', hs, rfl⟩ := raised_of_wrapped f p hp
  rw [h.atomic hs hok]

-- The `Rel` of `Out` per type: nothing said of the new state (`anyState`), or the invariant of the old state carried over to it
-- (`Arr.Typed`, `Lst.Typed`, `Nest.Kinds`; for a Range: only the scratch Int differs).
abbrev anyState {α : Type} : α → α → Prop := fun _ _ => True

def Arr.Typed (a a' : Arr) : Prop := typedItems a.ty a.items → typedItems a'.ty a'.items

theorem Arr.step_out (a : Arr) (op : Op) (hk : a.kf op = false) : Out (·.isOk = true) Arr.Typed a (a.step op) := by
  cases op with
  | get k | mem v => simp only [Arr.step, Arr.get, Arr.mem]; split <;> exact .same _
  | set k v =>
    simp only [Arr.step, Arr.set]
    repeat' split
    all_goals first | exact .same _ | exact .done _ _ rfl (typedItems_kept rfl (forall_mem_set · (assignTo_elemOf _ _ _ ‹_›) _))
  | rem v | popAt k =>
    simp only [Arr.step, Arr.rem, Arr.popAt]
    split <;> first | exact .same _ | exact .done _ _ rfl (typedItems_kept rfl (forall_mem_removeAt · _))
  | push v | append v =>
    -- outside the territory of F15 `assign` accepts the element
    simp only [Arr.kf, Bool.not_eq_false'] at hk
    simp only [Arr.step, Arr.push]
    split
    · exact .done _ _ rfl (typedItems_kept rfl (forall_mem_append_singleton · (assignTo_elemOf _ _ _ ‹_›)))
    all_goals simp_all [R.isOk]
  | pushAt v k =>
    simp only [Arr.kf, Bool.not_eq_false'] at hk
    simp only [Arr.step, Arr.pushAt_eq]
    repeat' split
    all_goals first | exact .same _ | exact .done _ _ rfl (typedItems_kept rfl (forall_mem_insertAt · (assignTo_elemOf _ _ _ ‹_›) _)) | simp_all [R.isOk]
  | pop =>
    simp only [Arr.step, Arr.pop]
    split <;> first | exact .same _ | exact .done _ _ rfl (typedItems_kept rfl forall_mem_dropLast)
  | resize n =>
    simp only [Arr.step, Arr.resize]
    split
    · exact .done _ _ rfl (typedItems_kept rfl fun _ => nofun)
    · exact .done _ _ rfl (typedItems_kept rfl fun hel x hx => hel x (List.mem_of_mem_take hx))
  | len => exact .same _
  | concat src =>
    cases src with
    | seq vs =>
      obtain ⟨r, hc, hr⟩ := Arr.concatLoop_ok a.ty vs (by simpa [Arr.kf] using hk)
      simp only [Arr.step, Arr.concat, hc]
      exact .done _ _ rfl (typedItems_kept rfl fun hel y hy => (List.mem_append.mp hy).elim (hel y) (hr y))
    | scalar v => cases v <;> first | exact .same _ | simp [Arr.kf] at hk
  | assign v => simp [Arr.kf] at hk
  | print pos fmt args => rcases fmt with _ | ⟨_ | _ | _ | _, rest⟩ <;> exact .same _

/-- what `C12_invariant_list` says of the new state, under its two hypotheses: `assign` re-types the list (a finding), and growing
    a List of String creates slots with a NULL buffer -/
def Lst.Typed (op : Op) (l l' : Lst) : Prop :=
  (∀ v, op ≠ .assign v) → (∀ n, op = .resize n → l.ty ≠ .str ∨ n ≤ l.items.length) → typedItems l.ty l.items → typedItems l'.ty l'.items

theorem Lst.Typed.intro {op : Op} {l l' : Lst} (hty : l'.ty = l.ty)
    (h : (∀ x ∈ l.items, x.elemOf l.ty) → ∀ x ∈ l'.items, x.elemOf l.ty) : Lst.Typed op l l' :=
  fun _ _ => typedItems_kept hty h

/-- inside the findings a List operation can fail with the list changed: `concat` stopping midway (the contents stay typed there
    too) and `assign` (which re-types the list: `Lst.Typed` asks nothing of it) -/
theorem Lst.step_out (l : Lst) (op : Op) : Out (fun r => l.kf op = true ∨ r.isOk = true) (Lst.Typed op) l (l.step op) := by
  have ok : l.kf op = true ∨ (.ok .unit : Res).isOk = true := .inr rfl
  cases op with
  | get k | mem v => simp only [Lst.step, Lst.get, Lst.mem]; split <;> exact .same _
  | set k v =>
    simp only [Lst.step, Lst.set]
    repeat' split
    all_goals first | exact .same _ | exact .done _ _ ok (.intro rfl (forall_mem_set · (assignTo_elemOf _ _ _ ‹_›) _))
  | rem v | popAt k =>
    simp only [Lst.step, Lst.rem, Lst.popAt]
    split <;> first | exact .same _ | exact .done _ _ ok (.intro rfl (forall_mem_removeAt · _))
  | push v | append v =>
    simp only [Lst.step, Lst.push]
    split <;> first | exact .same _ | exact .done _ _ ok (.intro rfl (forall_mem_append_singleton · (assignTo_elemOf _ _ _ ‹_›)))
  | pushAt v k =>
    simp only [Lst.step, Lst.pushAt_eq]
    repeat' split
    all_goals first | exact .same _ | exact .done _ _ ok (.intro rfl (forall_mem_insertAt · (assignTo_elemOf _ _ _ ‹_›) _))
  | pop =>
    simp only [Lst.step, Lst.pop]
    split <;> first | exact .same _ | exact .done _ _ ok (.intro rfl forall_mem_dropLast)
  | resize n =>
    simp only [Lst.step, Lst.resize]
    split
    · exact .done _ _ ok (.intro rfl fun _ => nofun)
    · refine .done _ _ ok fun _ hg ⟨hty, hel⟩ => ⟨hty, fun x hx => ?_⟩
      rcases List.mem_append.mp hx with h | h
      · exact hel x (List.mem_of_mem_take h)
      · obtain ⟨hn, rfl⟩ := List.mem_replicate.mp h
        exact zeroVal_elemOf _ hty ((hg n rfl).resolve_right (by omega))
  | len => exact .same _
  | concat src =>
    cases src with
    | seq vs =>
      obtain ⟨hty', hok, hel'⟩ := Lst.concatLoop_out vs l
      simp only [Lst.step, Lst.concat]
      rcases hc : l.concatLoop vs with ⟨l', r⟩
      rw [hc] at hty' hok hel'
      refine .done _ _ ?_ (.intro hty' hel')
      cases hk : l.kf (.concat (.seq vs)) with
      | true => exact .inl rfl
      | false => exact .inr (by rw [show r = _ from hok (by simpa [Lst.kf] using hk)]; rfl)
    | scalar v => cases v <;> exact .same _
  | assign v => exact .done _ _ (.inl rfl) fun h => absurd rfl (h v)
  | print pos fmt args => rcases fmt with _ | ⟨_ | _ | _ | _, rest⟩ <;> exact .same _

theorem Tup.step_out (t : Tup) (op : Op) : Out (·.isOk = true) anyState t (t.step op) := by
  cases op with
  | concat src =>
    rcases src with vs | (_ | _ | _ | _ | _) <;> simp only [Tup.step, Tup.concat] <;> (try split) <;>
      first | exact .same _ | exact .done _ _ rfl trivial
  | assign v => cases v <;> exact .same _
  | len => exact .same _
  | print pos fmt args => rcases fmt with _ | ⟨_ | _ | _ | _, rest⟩ <;> exact .same _
  | _ =>
    simp only [Tup.step, Tup.get, Tup.set, Tup.mem, Tup.rem, Tup.push, Tup.pushAt, Tup.pop, Tup.popAt, Tup.resize]
    repeat' split
    all_goals first | exact .same _ | exact .done _ _ rfl trivial

theorem Tre.step_out (t : Tre) (op : Op) (hk : t.kf op = false) : Out (·.isOk = true) anyState t (t.step op) := by
  cases op with
  | assign v => simp [Tre.kf] at hk
  | get k | set k v | mem k | rem k | resize n =>
    simp only [Tre.step, Tre.get, Tre.set, Tre.mem, Tre.rem, Tre.resize]
    repeat' split
    all_goals first | exact .same _ | exact .done _ _ rfl trivial
  | print pos fmt args => rcases fmt with _ | ⟨_ | _ | _ | _, rest⟩ <;> exact .same _
  | _ => exact .same _

theorem Rng.step_out (r : Rng) (op : Op) :
    Out (·.isOk = true) (fun x x' => ∃ v, x' = { x with scratch := v }) r (r.step' op) := by
  cases op with
  | get k =>
    show Out _ _ _ (r.get k)
    rcases Rng.get_cases r k with ⟨v, hv⟩ | ⟨x, hx, _⟩
    · rw [hv]; exact .done _ _ rfl ⟨v, rfl⟩
    · rw [hx]; exact .same _
  | mem v =>
    show Out _ _ _ (r.mem v)
    rw [show r.mem v = (r, (r.mem v).2) from Prod.ext (Rng.mem_fst r v) rfl]
    exact .same _
  | len => simp only [Rng.step']; split <;> exact .same _
  | assign v => cases v <;> exact .same _
  | print pos fmt args => rcases fmt with _ | ⟨_ | _ | _ | _, rest⟩ <;> exact .same _
  | _ => exact .same _

theorem Str.step_out (s : Str) (op : Op) (hk : s.kf op = false) : Out (·.isOk = true) anyState s (s.step op) := by
  cases op with
  | print pos fmt args =>
    -- off the territory of F29 the first segment of `print_to` is not written: it has no text, or its write is refused
    cases fmt with
    | nil => exact .same _
    | cons it rest =>
      rw [Str.kf_print] at hk
      simp only [Str.step, Str.print, Str.printLoop_cons]
      rcases hs : Str.segment args it with ⟨t, args'⟩ | e | _
      · rw [hs, R.isOk, Bool.and_true] at hk
        rcases Str.write_refused s pos t hk with hw | hw <;> simp only [hw] <;> exact .same _
      all_goals exact .same _
  | concat src =>
    cases src with
    | seq vs => simp only [Str.step]; split <;> exact .same _
    | scalar v => simp only [Str.step, Str.concat]; (repeat' split) <;> first | exact .same _ | exact .done _ _ rfl trivial
  | mem v => cases v <;> exact .same _
  | rem v | resize n | append v | assign v =>
    simp only [Str.step, Str.rem, Str.resize, Str.concat, Str.assign]
    repeat' split
    all_goals first | exact .same _ | exact .done _ _ rfl trivial
  | _ => exact .same _

def Nest.Kinds (n n' : Nest) : Prop := (∀ e ∈ n.items, e.kind = n.ek) → ∀ e ∈ n'.items, e.kind = n'.ek

/-- a nested container changes without succeeding inside the findings (`assign` from a value into a slot that stays) and when a
    container of another kind is pushed onto an outer Array (`ub`, not modelled further): it never raises changed outside them -/
theorem Nest.step_out (n : Nest) (op : NOp) : Out (fun r => n.kf op = true ∨ ∀ e, r ≠ .raised e) Nest.Kinds n (n.step op) := by
  have ok : n.kf op = true ∨ ∀ e, (.ok .unit : Res) ≠ .raised e := .inr nofun
  have hz : ∀ src, ((Inner.zero n.ek).assign src).1.kind = n.ek := fun src => by rw [Inner.assign_kind, Inner.zero_kind]
  cases op with
  | get k => simp only [Nest.step]; split <;> exact .same _
  | set k src =>
    simp only [Nest.step, Nest.set]
    split
    · rename_i i hr
      refine .done _ _ ?_ fun hw => forall_mem_set hw (by rw [Inner.assign_kind, n.getD_kind hw i]) i
      exact (Inner.assign_raised_isVal _ src).imp (fun hs => by simp [Nest.kf, hs, hr, R.isOk]) id
    all_goals exact .same _
  | push src =>
    simp only [Nest.step, Nest.push]
    cases ho : n.outer with
    | arr =>
      refine .done _ _ ?_ fun hw => forall_mem_append_singleton hw (hz src)
      exact (Inner.assign_raised_isVal _ src).imp (fun hs => by simp [Nest.kf, hs, ho]) id
    | lst =>
      dsimp only
      split
      · exact .done _ _ (.inr (by simp [*])) fun hw => forall_mem_append_singleton hw (hz src)
      · exact .same _
  | pushAt src k =>
    simp only [Nest.step, Nest.pushAt_eq]
    split
    · cases ho : n.outer with
      | arr =>
        refine .done _ _ ?_ fun hw => forall_mem_insertAt hw (hz src) _
        exact (Inner.assign_raised_isVal _ src).imp (fun hs => by simp [Nest.kf, hs, ho, n.pushIdxOk_of_pushPos k _ ho ‹_›]) id
      | lst =>
        dsimp only
        split
        · exact .done _ _ (.inr (by simp [*])) fun hw => forall_mem_insertAt hw (hz src) _
        · exact .same _
    all_goals exact .same _
  | pop =>
    simp only [Nest.step]
    split <;> first | exact .same _ | exact .done _ _ ok forall_mem_dropLast
  | popAt k =>
    simp only [Nest.step]
    split <;> first | exact .same _ | exact .done _ _ ok (forall_mem_removeAt · _)
  | resize m =>
    simp only [Nest.step]
    cases n.outer <;> dsimp only <;> (repeat' split) <;>
      first | exact .same _ | exact .done _ _ ok fun hw e he => hw e (List.mem_of_mem_take he) | exact .done _ _ ok fun _ e he => nomatch he
  | len => exact .same _

/-- everything an operation outside `assign` can do to a Table: nothing; the first block, given to a table without slots by a `set`
    that is then refused; or it succeeds, and a well-formed table stays well-formed -/
inductive Tab.Out (t : Tab) : Tab × Res → Prop
  | same (r : Res) : Tab.Out t (t, r)
  | firstBlock (e : Exc) : t.nslots = 0 → Tab.Out t ({ t with nslots := idealSize 0 }, .raised e)
  | done (t' : Tab) : (t.wf → t'.wf) → Tab.Out t (t', .ok .unit)

theorem Tab.step_out (t : Tab) (op : Op) (hk : t.kf op = false) : Tab.Out t (t.step op) := by
  -- every success leaves slots (`Table_Ideal_Size` is never 0) and typed keys
  have wf' {t' : Tab} (hn : t'.nslots ≠ 0) (hkeys : ∀ p ∈ t'.items, p.1.ty? = some t'.kty) : t'.wf := ⟨fun hz => absurd hz hn, hkeys⟩
  have pos := idealSize_pos
  cases op with
  | get k => simp only [Tab.step, Tab.get]; (repeat' split) <;> exact .same _
  | mem k => simp only [Tab.step, Tab.mem]; split <;> exact .same _
  | set k v =>
    by_cases h0 : t.nslots = 0 <;> rcases castTo_cases t.kty k with ⟨hc, _, hty⟩ | ⟨hc, _⟩ <;>
      rcases castTo_cases t.vty v with ⟨hd, _⟩ | ⟨hd, _⟩ <;> simp only [Tab.step, Tab.set, hc, hd, h0, if_true, if_false]
    all_goals first | exact .firstBlock _ h0 | exact .same _ | skip
    all_goals
      refine .done _ fun hw => wf' (by have := pos 0; have := pos (assocSet t.items k v).length; dsimp only; split <;> omega) fun p hp => ?_
      rcases mem_assocSet _ _ _ _ hp with h | h
      · exact hw.2 p h
      · exact h ▸ hty
  | rem k =>
    rcases castTo_cases t.kty k with ⟨hc, _⟩ | ⟨hc, _⟩ <;> by_cases h0 : t.nslots = 0 <;> cases hl : t.items.lookup k <;>
      simp only [Tab.step, Tab.rem, hc, h0, hl, if_true, if_false]
    all_goals first | exact .same _ | skip
    exact .done _ fun hw => wf' (by have := pos (assocErase t.items k).length; dsimp only; split <;> omega)
      fun p hp => hw.2 p (List.mem_filter.mp hp).1
  | resize n =>
    simp only [Tab.step, Tab.resize]
    repeat' split
    · exact .done _ fun _ => ⟨fun _ => rfl, nofun⟩
    · exact .same _
    · exact .done _ fun hw => wf' (Nat.ne_of_gt (pos n)) hw.2
  | assign v => simp [Tab.kf] at hk
  | print pos fmt args => rcases fmt with _ | ⟨_ | _ | _ | _, rest⟩ <;> exact .same _
  | _ => exact .same _

/-- the slot count changes only where `Tab.moves` says the slot array is replaced, and outside the known finding on `assign` it is replaced only by an
    operation that succeeds, or on a table without slots -/
theorem Tab.moves_cases (t : Tab) (op : Op) (hk : t.kf op = false) :
    (t.moves op = false ∧ (t.step op).1.nslots = t.nslots) ∨
    (t.moves op = true ∧ (t.nslots = 0 ∨ (t.step op).2 = .ok .unit)) := by
  cases op with
  | set k v =>
    by_cases h0 : t.nslots = 0
    · exact .inr ⟨by simp [Tab.moves, h0], .inl h0⟩
    · rcases castTo_cases t.kty k with ⟨hc, _⟩ | ⟨hc, _⟩ <;> rcases castTo_cases t.vty v with ⟨hd, _⟩ | ⟨hd, _⟩ <;>
        simp only [Tab.moves, Tab.step, Tab.set, h0, if_false, hc, hd]
      · by_cases hg : idealSize (assocSet t.items k v).length > t.nslots <;> simp [hg]
      all_goals exact .inl ⟨trivial, trivial⟩
  | rem k =>
    rcases castTo_cases t.kty k with ⟨hc, _⟩ | ⟨hc, _⟩ <;> simp only [Tab.moves, Tab.step, Tab.rem, hc]
    · by_cases h0 : t.nslots = 0
      · simp [h0]
      · cases hl : t.items.lookup k with
        | none => simp [h0]
        | some w => by_cases hg : idealSize (assocErase t.items k).length < t.nslots <;> simp [h0, hg]
    · exact .inl ⟨trivial, trivial⟩
  | resize n =>
    simp only [Tab.moves, Tab.step, Tab.resize]
    by_cases hn : n = 0
    · by_cases h0 : t.nslots = 0 <;> simp [hn, h0]
    · by_cases hl : n < t.items.length <;> simp [hn, hl]
  | assign v => simp [Tab.kf] at hk
  | get k => exact .inl ⟨rfl, by simp only [Tab.step, Tab.get_fst]⟩
  | mem k => exact .inl ⟨rfl, by simp only [Tab.step, Tab.mem_fst]⟩
  | print pos fmt args => rcases fmt with _ | ⟨_ | _ | _ | _, rest⟩ <;> exact .inl ⟨rfl, rfl⟩
  | _ => exact .inl ⟨rfl, rfl⟩

/-- two Tables with the same types and contents give the same answers, and have the same types and contents afterwards, whatever
    their slot counts — as long as a table without slots is empty -/
theorem Tab.step_nslots (t t' : Tab) (hk : t'.kty = t.kty) (hv : t'.vty = t.vty) (hi : t'.items = t.items)
    (h1 : t.nslots = 0 → t.items = []) (h2 : t'.nslots = 0 → t.items = []) (op : Op) :
    (t'.step op).2 = (t.step op).2 ∧ (t'.step op).1.items = (t.step op).1.items ∧
    (t'.step op).1.kty = (t.step op).1.kty ∧ (t'.step op).1.vty = (t.step op).1.vty := by
  obtain ⟨_, _, _, ns⟩ := t'
  dsimp only at hk hv hi h2
  subst hk hv hi
  have none1 (k : Val) (h : t.nslots = 0) : t.items.lookup k = none := by rw [h1 h]; rfl
  have none2 (k : Val) (h : ns = 0) : t.items.lookup k = none := by rw [h2 h]; rfl
  cases op with
  | get k | mem k | rem k =>
    simp only [Tab.step, Tab.get, Tab.mem, Tab.rem]
    cases castTo t.kty k with
    | ok k' =>
      by_cases ha : t.nslots = 0 <;> by_cases hb : ns = 0 <;> simp [ha, hb, none1, none2]
      all_goals cases t.items.lookup k' <;> simp
    | _ => simp
  | set k v => simp only [Tab.step, Tab.set]; cases castTo t.kty k <;> cases castTo t.vty v <;> simp
  | resize n => simp only [Tab.step, Tab.resize]; (repeat' split) <;> simp
  | assign v => cases v <;> simp [Tab.step, Tab.assign]
  | print pos fmt args => rcases fmt with _ | ⟨_ | _ | _ | _, rest⟩ <;> simp [Tab.step]
  | _ => simp [Tab.step]

end Cello.Fail
