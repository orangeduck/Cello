/-
  One step of the Tuple model against the abstract step; iteration and `mem` by pointer identity
  (they agree with the abstract sequence when the stored pointers are distinct; over `tuple(x, x)` forward iteration never
  ends — known finding F13 — and `mem` still answers `true` for an element met before the first repeated pointer).
-/
import CelloProofs.Lemmas.SeqBasic

namespace Cello.Seq
variable {α : Type}

namespace Tup

theorem pushAt_eq (t : Tup α) (x : α) (i : Int) :
    t.pushAt x i = (Spec.idx t.items.length i).elim (t, .raised .indexOutOfBounds) (fun k =>
      ({ items := t.items.take k ++ x :: t.items.drop k }, .ok ())) := by
  rw [idx_elim]; rfl

theorem popAt_eq (t : Tup α) (i : Int) :
    t.popAt i = (Spec.idx t.items.length i).elim (t, .raised .indexOutOfBounds) (fun k =>
      ({ items := t.items.take k ++ t.items.drop (k + 1) }, .ok ())) := by
  rw [idx_elim]; rfl

theorem set_eq (t : Tup α) (i : Int) (x : α) :
    t.set i x = (Spec.idx t.items.length i).elim (t, .raised .indexOutOfBounds) (fun k =>
      ({ items := t.items.set k x }, .ok ())) := by
  rw [idx_elim]; rfl

/-- one step against the abstract step: an operation in range completes with the abstract contents; an argument out of range
    raises and leaves the Tuple as it was, except that `assign` from an iterator-only source appends (KF-C04-tuple-assign-iter) -/
theorem step_spec [BEq α] (t : Tup α) (op : Op α) :
    match Spec.tupStep t.items op with
    | some l' => (t.step op).2 = .ok () ∧ (t.step op).1.items = l'
    | none => op.iterAssign = false → (t.step op).1 = t ∧ ∃ e, (t.step op).2 = .raised e := by
  cases op with
  | push x => exact ⟨rfl, rfl⟩
  | append x => exact ⟨rfl, rfl⟩
  | concat ys => exact ⟨rfl, rfl⟩
  | sort f => exact ⟨rfl, rfl⟩
  | pop =>
    obtain ⟨l⟩ := t
    cases l with
    | nil => exact fun _ => ⟨rfl, _, rfl⟩
    | cons y ys => exact ⟨rfl, rfl⟩
  | pushAt x i =>
    simp only [Spec.tupStep, step, pushAt_eq]
    cases hk : Spec.idx t.items.length i with
    | none => exact fun _ => ⟨rfl, _, rfl⟩
    | some k => exact ⟨rfl, take_cons_drop_eq_insertIdx _ _ _ (Nat.le_of_lt (idx_lt hk))⟩
  | popAt i =>
    simp only [Spec.tupStep, step, popAt_eq]
    cases Spec.idx t.items.length i with
    | none => exact fun _ => ⟨rfl, _, rfl⟩
    | some k => exact ⟨rfl, (List.eraseIdx_eq_take_drop_succ ..).symm⟩
  | set i x =>
    simp only [Spec.tupStep, step, set_eq]
    cases Spec.idx t.items.length i with
    | none => exact fun _ => ⟨rfl, _, rfl⟩
    | some k => exact ⟨rfl, rfl⟩
  | rem x =>
    simp only [Spec.tupStep, step, rem]
    cases hf : t.items.findIdx? (fun y => x == y) with
    | none => rw [(findIdx?_none_any _ _).1 hf]; exact fun _ => ⟨rfl, _, rfl⟩
    | some k =>
      obtain ⟨hk, he⟩ := findIdx?_eraseP _ _ _ hf
      rw [findIdx?_some_any _ _ _ hf]
      show (t.popAt k).2 = .ok () ∧ (t.popAt k).1.items = t.items.eraseP _
      rw [popAt_eq, idx_natCast hk]
      exact ⟨rfl, (List.eraseIdx_eq_take_drop_succ ..).symm.trans he⟩
  | resize n =>
    simp only [Spec.tupStep, step, resize]
    by_cases hn : n < t.len
    · rw [if_pos hn, if_pos (show n < t.items.length from hn)]; exact ⟨rfl, rfl⟩
    · rw [if_neg hn, if_neg (show ¬ n < t.items.length from hn)]; exact fun _ => ⟨rfl, _, rfl⟩
  | assign ys b =>
    cases b with
    | true => exact ⟨rfl, rfl⟩
    | false =>
      obtain ⟨l⟩ := t
      cases l with
      | nil => exact ⟨rfl, rfl⟩
      | cons y l => exact fun h => nomatch h

theorem step_refines [BEq α] (t : Tup α) (op : Op α) (l' : List α)
    (h : Spec.tupStep t.items op = some l') : (t.step op).2 = .ok () ∧ (t.step op).1.items = l' := by
  have := step_spec t op; rwa [h] at this

theorem step_out_of_range [BEq α] (t : Tup α) (op : Op α) (hop : op.iterAssign = false)
    (h : Spec.tupStep t.items op = none) :
    (t.step op).1 = t ∧ ∃ e, (t.step op).2 = .raised e := by
  have := step_spec t op; rw [h] at this; exact this hop

theorem step_ne_ub [BEq α] (t : Tup α) (op : Op α) : (t.step op).2 ≠ .ub := by
  cases hs : Spec.tupStep t.items op with
  | some l' => rw [(step_refines t op l' hs).1]; intro h; cases h
  | none =>
    cases hop : op.iterAssign with
    | false => obtain ⟨_, e, he⟩ := step_out_of_range t op hop hs; rw [he]; intro h; cases h
    | true => obtain ⟨ys, rfl⟩ := Op.iterAssign_true hop; exact nofun

theorem get_eq (t : Tup α) (i : Int) :
    t.get i = match Spec.get t.items i with
      | some x => .ok x
      | none => .raised .indexOutOfBounds :=
  get_spec t.items i

def Distinct (ident : α → Nat) (t : Tup α) : Prop := (t.items.map ident).Nodup

/-- with distinct pointers the scan of `Tuple_Iter_Next` / `_Prev` finds the current position -/
theorem findIdx_ident (ident : α → Nat) (l : List α) (hnd : (l.map ident).Nodup) (k : Nat) (hk : k < l.length) :
    l.findIdx? (fun y => ident y == ident l[k]) = some k := by
  induction l generalizing k with
  | nil => simp at hk
  | cons y ys ih =>
    simp only [List.map_cons, List.nodup_cons] at hnd
    cases k with
    | zero => simp [List.findIdx?_cons]
    | succ k =>
      simp only [List.length_cons, Nat.add_lt_add_iff_right] at hk
      have hne : (ident y == ident ys[k]) = false := by
        simp only [beq_eq_false_iff_ne, ne_eq]
        intro he
        exact hnd.1 (List.mem_map.2 ⟨ys[k], List.getElem_mem hk, he.symm⟩)
      simp only [List.findIdx?_cons, List.getElem_cons_succ, hne]
      simp [ih hnd.2 k hk]

theorem ident_head_ne (ident : α → Nat) (l : List α) (hnd : (l.map ident).Nodup) (k : Nat) (hk : k < l.length)
    (h0 : k ≠ 0) : (ident (l[0]'(Nat.zero_lt_of_lt hk)) == ident l[k]) = false := by
  cases l with
  | nil => simp at hk
  | cons y ys =>
    simp only [List.map_cons, List.nodup_cons] at hnd
    cases k with
    | zero => exact absurd rfl h0
    | succ k =>
      simp only [List.length_cons, Nat.add_lt_add_iff_right] at hk
      simp only [List.getElem_cons_zero, List.getElem_cons_succ, beq_eq_false_iff_ne, ne_eq]
      intro he
      exact hnd.1 (List.mem_map.2 ⟨ys[k], List.getElem_mem hk, he.symm⟩)

theorem iterNext_at (ident : α → Nat) (t : Tup α) (hd : t.Distinct ident) (k : Nat) (hk : k < t.items.length) :
    t.iterNext ident t.items[k] = t.items[k + 1]? := by
  unfold iterNext
  rw [findIdx_ident ident t.items hd k hk]

theorem iterPrev_at (ident : α → Nat) (t : Tup α) (hd : t.Distinct ident) (k : Nat) (hk : k < t.items.length) :
    t.iterPrev ident t.items[k] = if k = 0 then none else t.items[k - 1]? := by
  unfold iterPrev
  have hpos : 0 < t.items.length := by omega
  rw [List.head?_eq_getElem?, List.getElem?_eq_getElem hpos]
  simp only
  by_cases h0 : k = 0
  · subst h0; simp
  · have hne := ident_head_ne ident t.items hd k hk h0
    rw [hne, findIdx_ident ident t.items hd k hk]
    simp [h0]

theorem iterFwd_eq (ident : α → Nat) (t : Tup α) (hd : t.Distinct ident) (fuel : Nat) (hf : t.items.length + 1 ≤ fuel) :
    t.iterFwd ident fuel = some t.items :=
  collect_fwd t.items (t.iterNext ident) some (fun k o => o = t.items[k]?)
    (fun o h => h.trans (List.getElem?_eq_none (Nat.le_refl _)))
    (fun k hk o h => ⟨t.items[k], h.trans (List.getElem?_eq_getElem hk), rfl, iterNext_at ident t hd k hk⟩)
    fuel 0 _ (Nat.zero_le _) List.head?_eq_getElem? hf

theorem iterBwd_eq (ident : α → Nat) (t : Tup α) (hd : t.Distinct ident) (fuel : Nat) (hf : t.items.length + 1 ≤ fuel) :
    t.iterBwd ident fuel = some t.items.reverse := by
  have := collect_bwd t.items (t.iterPrev ident) some (fun k o => o = if k = 0 then none else t.items[k - 1]?)
    (fun o h => h.trans (if_pos rfl))
    (fun k hk o h => ⟨t.items[k], h.trans ((if_neg (Nat.succ_ne_zero k)).trans (List.getElem?_eq_getElem hk)), rfl,
      iterPrev_at ident t hd k hk⟩)
    fuel t.items.length t.iterLast (Nat.le_refl _) ?_ hf
  · rwa [List.take_length] at this
  · rw [iterLast, List.getLast?_eq_getElem?]
    by_cases h0 : t.items.length = 0
    · rw [if_pos h0, List.getElem?_eq_none (by omega)]
    · rw [if_neg h0]

/-- `Tuple_Mem` is `foreach` with an early exit: where the iteration ends, `mem` has looked at what it yields -/
theorem memLoop_of_collect [BEq α] (ident : α → Nat) (t : Tup α) (x : α) : ∀ (fuel : Nat) (o : Option α) (ys : List α),
    collect (t.iterNext ident) some fuel o = some ys → memLoop ident t x fuel o = some (ys.any (· == x))
  | _, none, ys, h => by rw [collect_none] at h; cases h; cases ‹Nat› <;> rfl
  | 0, some c, _, h => nomatch h
  | fuel + 1, some c, ys, h => by
    obtain ⟨ys', h', rfl⟩ := Option.map_eq_some_iff.1 h
    rw [memLoop, memLoop_of_collect ident t x fuel _ ys' h', List.any_cons]
    cases c == x <;> rfl

theorem mem_eq [BEq α] (ident : α → Nat) (t : Tup α) (hd : t.Distinct ident) (x : α) (fuel : Nat)
    (hf : t.items.length + 1 ≤ fuel) : t.mem ident x fuel = some (Spec.mem t.items x) :=
  memLoop_of_collect ident t x fuel _ _ (iterFwd_eq ident t hd fuel hf)

/-- the scan of `Tuple_Iter_Next` finds a position inside a duplicate-free prefix even when pointers repeat behind it -/
theorem findIdx_ident_prefix (ident : α → Nat) (l : List α) (p : Nat) (hnd : ((l.take (p + 1)).map ident).Nodup)
    (k : Nat) (hk : k ≤ p) (hp : p < l.length) :
    l.findIdx? (fun y => ident y == ident (l[k]'(Nat.lt_of_le_of_lt hk hp))) = some k := by
  have hkl : k < (l.take (p + 1)).length := by simp; omega
  have e : (l.take (p + 1))[k] = l[k]'(Nat.lt_of_le_of_lt hk hp) := by simp
  have h1 := findIdx_ident ident (l.take (p + 1)) hnd k hkl
  rw [e] at h1
  generalize l[k]'(Nat.lt_of_le_of_lt hk hp) = c at h1 ⊢
  have := List.findIdx?_append (xs := l.take (p + 1)) (ys := l.drop (p + 1)) (p := fun y => ident y == ident c)
  rw [List.take_append_drop, h1] at this
  rw [this]; rfl

/-- even in a Tuple that holds a pointer twice (F13), `Tuple_Mem` answers `true` when an element equal to the argument is met
    while the pointers seen so far are still distinct -/
theorem mem_dup_true_prefix [BEq α] (ident : α → Nat) (t : Tup α) (x : α) (p : Nat) (hp : p < t.items.length)
    (hx : (t.items[p] == x) = true) (hnd : ((t.items.take (p + 1)).map ident).Nodup) (fuel : Nat) (hf : p + 1 ≤ fuel) :
    t.mem ident x fuel = some true := by
  have hloop : ∀ (fuel k : Nat) (hk : k ≤ p), p - k < fuel →
      memLoop ident t x fuel (some (t.items[k]'(Nat.lt_of_le_of_lt hk hp))) = some true := by
    intro fuel
    induction fuel with
    | zero => intro k _ hf; omega
    | succ fuel ih =>
      intro k hk hf
      simp only [memLoop]
      by_cases hxk : (t.items[k]'(Nat.lt_of_le_of_lt hk hp) == x) = true
      · rw [if_pos hxk]
      · rw [if_neg hxk]
        have hkp : k < p := by
          refine Nat.lt_of_le_of_ne hk fun e => ?_
          subst e; exact hxk hx
        have hnext : t.iterNext ident (t.items[k]'(Nat.lt_of_le_of_lt hk hp)) = some (t.items[k + 1]'(Nat.lt_of_le_of_lt hkp hp)) := by
          unfold iterNext
          rw [findIdx_ident_prefix ident t.items p hnd k hk hp]
          simp only
          exact List.getElem?_eq_getElem (Nat.lt_of_le_of_lt hkp hp)
        rw [hnext]
        exact ih (k + 1) hkp (by omega)
  unfold mem iterInit
  have h0 : t.items.head? = some (t.items[0]'(Nat.zero_lt_of_lt hp)) := by
    rw [List.head?_eq_getElem?]; exact List.getElem?_eq_getElem (Nat.zero_lt_of_lt hp)
  rw [h0]
  exact hloop fuel 0 (Nat.zero_le p) hf

/-- F13: a Tuple holding the same pointer twice — `foreach` never reaches `Terminal` -/
theorem iterFwd_dup_diverges (ident : α → Nat) (x : α) : ∀ fuel, (⟨[x, x]⟩ : Tup α).iterFwd ident fuel = none := by
  intro fuel
  unfold iterFwd iterInit
  simp only [List.head?_cons]
  induction fuel with
  | zero => rfl
  | succ fuel ih =>
    simp only [collect]
    have : (⟨[x, x]⟩ : Tup α).iterNext ident x = some x := by simp [iterNext, List.findIdx?_cons]
    rw [this, ih]; rfl

end Tup
end Cello.Seq
