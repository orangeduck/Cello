/-
  C13 (threads), one event: which fields of the process state an event can write (`Ev.writes`; `step_frame`: one case
  split of `step` for all events and fields), and `run` on a schedule.  The Mutex and counter lemmas rest on this file alone.
-/
import Cello.Threads

namespace Cello.Thr

theorem upd_same {α : Type} (f : Nat → α) (i : Nat) (v : α) : upd f i v i = v := by simp [upd]
theorem upd_other {α : Type} (f : Nat → α) (i j : Nat) (v : α) (h : j ≠ i) : upd f i v j = f j := by simp [upd, h]

theorem forall_upd {α : Type} {P : Nat → α → Prop} {f : Nat → α} (h : ∀ j, P j (f j)) {i : Nat} {v : α} (hv : P i v) :
    ∀ j, P j (upd f i v j) := by
  intro j
  by_cases hj : j = i
  · subst hj; rw [upd_same]; exact hv
  · rw [upd_other _ _ _ _ hj]; exact h j

inductive Field where
  | thr | cache | holder | counter | reg | joined | wraps | args
deriving DecidableEq

/-- the fields of `G` an event may write, read off `step` -/
def Ev.writes : Ev → List Field
  | .loc .. => [.thr, .cache]
  | .spawn .. => [.thr, .joined, .args]
  | .join .. => [.thr, .joined]
  | .lock .. | .trylock .. | .unlock .. => [.holder]
  | .winc .. => [.counter, .reg]
  | .ld .. => [.reg]
  | .st .. => [.counter]
  | .bind .. => [.wraps]
  | .arg .. => [.args]
  | .rd .. | .rdo .. | .rdarg .. => []

/-- the result `r` of a step from `g` leaves `g` as it is outside the fields `fs`, and does not end in `crash` unless the
    class cache is among them (only a local operation writes the cache, and only a local operation can crash) -/
structure Frame (fs : List Field) (g : G) (r : G × Out) : Prop where
  thr : fs.contains .thr = false → r.1.thr = g.thr
  cache : fs.contains .cache = false → r.1.cache = g.cache
  holder : fs.contains .holder = false → r.1.holder = g.holder
  counter : fs.contains .counter = false → r.1.counter = g.counter
  reg : fs.contains .reg = false → r.1.reg = g.reg
  joined : fs.contains .joined = false → r.1.joined = g.joined
  wraps : fs.contains .wraps = false → r.1.wraps = g.wraps
  args : fs.contains .args = false → r.1.args = g.args
  nocrash : fs.contains .cache = false → r.2 ≠ .crash

theorem Frame.ite {fs : List Field} {g : G} {c : Prop} [Decidable c] {a b : G × Out} (ha : Frame fs g a) (hb : Frame fs g b) :
    Frame fs g (if c then a else b) := by
  split <;> assumption

theorem Frame.same (fs : List Field) (g : G) {o : Out} (ho : o ≠ .crash) : Frame fs g (g, o) :=
  ⟨fun _ => rfl, fun _ => rfl, fun _ => rfl, fun _ => rfl, fun _ => rfl, fun _ => rfl, fun _ => rfl, fun _ => rfl, fun _ => ho⟩

theorem step_frame (cfg : Cfg) (g : G) (e : Ev) : Frame e.writes g (step cfg g e) := by
  -- the `if`s by `Frame.ite`: `split` simplifies the whole goal again at every branch and is several times slower here
  cases e <;> dsimp only [step] <;> repeat' first | apply Frame.ite | split
  all_goals first
    | exact Frame.same _ _ Out.noConfusion
    | (constructor <;> intro h <;> first | rfl | exact Out.noConfusion | exact Bool.noConfusion h)

theorem run_cons (cfg : Cfg) (e : Ev) (s : List Ev) (g : G) :
    run cfg (e :: s) g =
      ((run cfg s (step cfg g e).1).1, (e, (step cfg g e).2) :: (run cfg s (step cfg g e).1).2) := by
  simp [run]

theorem run_nil (cfg : Cfg) (g : G) : run cfg [] g = (g, []) := rfl

theorem run_append (cfg : Cfg) (s1 s2 : List Ev) : ∀ g : G,
    run cfg (s1 ++ s2) g = ((run cfg s2 (run cfg s1 g).1).1, (run cfg s1 g).2 ++ (run cfg s2 (run cfg s1 g).1).2) := by
  induction s1 with
  | nil => intro g; simp [run_nil]
  | cons e s1 ih => intro g; simp only [List.cons_append, run_cons, ih]

end Cello.Thr
