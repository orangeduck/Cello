/-
  Lemmas for C19: every operation of the container models keeps `BodyOK` (each element carries the declared type, class
  `data` and the magic number; String and Tuple results through HdrGuard.lean), and what `get` and iteration hand out is
  read back from it.  Beside them the other two things a birth fixes: the bytes reserved for a slot (`slotCap_ge`) and
  the type `copy` gives (`copyBody_ty`).
-/
import CelloProofs.Lemmas.HdrGuard

namespace Cello.Hdr

variable {cfg : Config}

theorem seqElem_hdr (F : Facts cfg) (s : St) (k : SeqKind) (ety : Ty) (v : Scalar) :
    (seqElem cfg s k ety v).hdr = dataHdr cfg ety := by
  cases k <;> simp [seqElem, mkElem, headerInit_eq F, dataHdr, F.bArray, F.bList]

theorem mapEntry_hdr (F : Facts cfg) (s : St) (k : MapKind) (kty vty : Ty) (a b : Scalar) :
    (mapEntry cfg s k kty vty a b).1.hdr = dataHdr cfg kty ∧ (mapEntry cfg s k kty vty a b).2.hdr = dataHdr cfg vty := by
  cases k <;> simp [mapEntry, mkElem, headerInit_eq F, dataHdr, F.bTableK, F.bTableV, F.bTreeK, F.bTreeV]

theorem round8_ge (n : Nat) : n ≤ round8 n := by unfold round8; omega

theorem slotCap_ge (r : Bool) (n : Nat) : n ≤ slotCap r n := by
  unfold slotCap; split
  · exact round8_ge n
  · exact Nat.le_refl n

theorem insertEnt_mem (e : Elem × Elem) (l : List (Elem × Elem)) (x : Elem × Elem) :
    x ∈ insertEnt e l → x = e ∨ x ∈ l := by
  induction l with
  | nil => intro h; simp [insertEnt] at h; exact Or.inl h
  | cons y r ih =>
    intro h
    simp only [insertEnt] at h
    split at h
    · simp only [List.mem_cons] at h ⊢
      rcases h with h | h | h
      · exact Or.inl h
      · exact Or.inr (Or.inl h)
      · exact Or.inr (Or.inr h)
    · simp only [List.mem_cons] at h ⊢
      rcases h with h | h
      · exact Or.inr (Or.inl h)
      · rcases ih h with h | h
        · exact Or.inl h
        · exact Or.inr (Or.inr h)

theorem elemAt_cases {b : Body} {t : Target} {e : Elem} (h : b.elemAt t = some e) :
    (∃ k ety es id i, b = .seq k ety es ∧ t = .elem id i ∧ es[i]? = some e) ∨
    (∃ k kty vty ents id i v, b = .map k kty vty ents ∧ t = .key id i ∧ ents[i]? = some (e, v)) ∨
    (∃ k kty vty ents id i c, b = .map k kty vty ents ∧ t = .val id i ∧ ents[i]? = some (c, e)) := by
  cases b with
  | seq k ety es =>
    cases t <;> simp only [Body.elemAt] at h <;> try cases h
    exact Or.inl ⟨_, _, _, _, _, rfl, rfl, h⟩
  | map k kty vty ents =>
    cases t with
    | key id i =>
      obtain ⟨p, hp, rfl⟩ := Option.map_eq_some_iff.mp h
      exact Or.inr (Or.inl ⟨_, _, _, _, _, _, p.2, rfl, rfl, hp⟩)
    | val id i =>
      obtain ⟨p, hp, rfl⟩ := Option.map_eq_some_iff.mp h
      exact Or.inr (Or.inr ⟨_, _, _, _, _, _, p.1, rfl, rfl, hp⟩)
    | _ => cases h
  | _ => cases t <;> simp [Body.elemAt] at h

/-- the type a container declares for the object a target designates -/
def declTy : Body → Target → Option Ty
  | .seq _ ety _, .elem _ _ => some ety
  | .map _ kty _ _, .key _ _ => some kty
  | .map _ _ vty _, .val _ _ => some vty
  | _, _ => none

theorem elemAt_hdr {b : Body} {t : Target} {e : Elem} (hb : BodyOK cfg b) (h : b.elemAt t = some e) :
    ∃ ty, declTy b t = some ty ∧ e.hdr = dataHdr cfg ty := by
  obtain ⟨k, ety, es, id, i, rfl, rfl, hi⟩ | ⟨k, kty, vty, ents, id, i, v, rfl, rfl, hi⟩ |
    ⟨k, kty, vty, ents, id, i, c, rfl, rfl, hi⟩ := elemAt_cases h
  · exact ⟨ety, rfl, hb e (List.mem_of_getElem? hi)⟩
  · exact ⟨kty, rfl, (hb _ (List.mem_of_getElem? hi)).1⟩
  · exact ⟨vty, rfl, (hb _ (List.mem_of_getElem? hi)).2⟩

theorem bodyOK_setElemAt {b : Body} {t : Target} {e e1 : Elem} (hb : BodyOK cfg b) (he : b.elemAt t = some e)
    (hh : e1.hdr = e.hdr) : BodyOK cfg (b.setElemAt t e1) := by
  obtain ⟨k, ety, es, id, i, rfl, rfl, hi⟩ | ⟨k, kty, vty, ents, id, i, v, rfl, rfl, hi⟩ |
    ⟨k, kty, vty, ents, id, i, c, rfl, rfl, hi⟩ := elemAt_cases he
  all_goals
    have hold := hb _ (List.mem_of_getElem? hi)
    simp only [Body.setElemAt, hi]
    intro x hx
    rcases List.mem_or_eq_of_mem_set hx with hx | rfl
    · exact hb x hx
  · exact hh.trans hold
  · exact ⟨hh.trans hold.1, hold.2⟩
  · exact ⟨hold.1, hh.trans hold.2⟩

theorem bodyOK_nil (k : SeqKind) (ety : Ty) : BodyOK cfg (.seq k ety []) := fun _ he => nomatch he
theorem bodyOK_append {k : SeqKind} {ety : Ty} {a b : List Elem} (ha : BodyOK cfg (.seq k ety a)) (hb : BodyOK cfg (.seq k ety b)) :
    BodyOK cfg (.seq k ety (a ++ b)) := by
  intro e he; rcases List.mem_append.mp he with h | h
  · exact ha e h
  · exact hb e h
theorem bodyOK_single {k : SeqKind} {ety : Ty} {x : Elem} (hx : x.hdr = dataHdr cfg ety) : BodyOK cfg (.seq k ety [x]) := by
  intro e he; rw [List.mem_singleton.mp he]; exact hx
theorem bodyOK_take {k : SeqKind} {ety : Ty} {l : List Elem} (n : Nat) (hl : BodyOK cfg (.seq k ety l)) :
    BodyOK cfg (.seq k ety (l.take n)) :=
  fun e he => hl e (List.mem_of_mem_take he)
theorem bodyOK_drop {k : SeqKind} {ety : Ty} {l : List Elem} (n : Nat) (hl : BodyOK cfg (.seq k ety l)) :
    BodyOK cfg (.seq k ety (l.drop n)) :=
  fun e he => hl e (List.mem_of_mem_drop he)
theorem bodyOK_eraseIdx {k : SeqKind} {ety : Ty} {l : List Elem} (n : Nat) (hl : BodyOK cfg (.seq k ety l)) :
    BodyOK cfg (.seq k ety (l.eraseIdx n)) :=
  fun e he => hl e (List.mem_of_mem_eraseIdx he)
theorem bodyOK_replicate {k : SeqKind} {ety : Ty} {x : Elem} (n : Nat) (hx : x.hdr = dataHdr cfg ety) :
    BodyOK cfg (.seq k ety (List.replicate n x)) := by
  intro e he; rw [(List.mem_replicate.mp he).2]; exact hx
theorem bodyOK_map_seqElem (F : Facts cfg) (s : St) (k : SeqKind) (ety : Ty) {α : Type} (l : List α) (g : α → Scalar) :
    BodyOK cfg (.seq k ety (l.map (fun a => seqElem cfg s k ety (g a)))) := by
  intro e he
  obtain ⟨a, _, rfl⟩ := List.mem_map.mp he
  exact seqElem_hdr F s k ety (g a)

theorem seqOp_ok (F : Facts cfg) {s : St} {k : SeqKind} {ety : Ty} {es : List Elem} {op : InPlace} {r : Body × Outcome}
    (hb : BodyOK cfg (.seq k ety es)) : seqOp cfg s k ety es op = some r → BodyOK cfg r.1 := by
  have hmk : ∀ v, BodyOK cfg (.seq k ety [seqElem cfg s k ety v]) := fun v => bodyOK_single (seqElem_hdr F s k ety v)
  have hins : ∀ j v, BodyOK cfg (.seq k ety (es.take j ++ [seqElem cfg s k ety v] ++ es.drop j)) :=
    fun j v => bodyOK_append (bodyOK_append (bodyOK_take _ hb) (hmk v)) (bodyOK_drop _ hb)
  have hrep : ∀ n v, BodyOK cfg (.seq k ety (es ++ List.replicate n (seqElem cfg s k ety v))) :=
    fun n v => bodyOK_append hb (bodyOK_replicate n (seqElem_hdr F s k ety v))
  unfold seqOp
  cases op <;> simp only
  case push src =>
    repeat' split
    all_goals rintro ⟨⟩
    exact bodyOK_append hb (hmk _)
  case pop =>
    split <;> rintro ⟨⟩
    · exact hb
    · exact bodyOK_take _ hb
  case pushAt src i =>
    repeat' split
    all_goals rintro ⟨⟩
    all_goals first
      | exact hb
      | exact hins _ _
      | exact bodyOK_append (hmk _) hb
  case popAt i =>
    split <;> rintro ⟨⟩
    · exact hb
    · exact bodyOK_eraseIdx _ hb
  case resize m =>
    repeat' split
    all_goals rintro ⟨⟩
    all_goals first
      | exact hb
      | exact bodyOK_nil k ety
      | exact bodyOK_take _ hb
      | exact hrep _ _
  case concat src =>
    repeat' split
    all_goals rintro ⟨⟩
    exact bodyOK_append hb (bodyOK_map_seqElem F s k ety _ _)
  all_goals rintro ⟨⟩

theorem bodyOK_insertEnt {k : MapKind} {kty vty : Ty} {e : Elem × Elem} {l : List (Elem × Elem)}
    (he : e.1.hdr = dataHdr cfg kty ∧ e.2.hdr = dataHdr cfg vty) (hl : BodyOK cfg (.map k kty vty l)) :
    BodyOK cfg (.map k kty vty (insertEnt e l)) := by
  intro x hx
  rcases insertEnt_mem e l x hx with h | h
  · subst h; exact he
  · exact hl x h

theorem mapOp_ok (F : Facts cfg) {s : St} {k : MapKind} {kty vty : Ty} {ents : List (Elem × Elem)} {op : InPlace}
    {r : Body × Outcome} (hb : BodyOK cfg (.map k kty vty ents)) : mapOp cfg s k kty vty ents op = some r → BodyOK cfg r.1 := by
  have hmk := mapEntry_hdr F s k kty vty
  -- `set` on an existing key rewrites entries: by a fresh entry (Table) or in place, headers kept (Tree)
  have hmap : ∀ f : Elem × Elem → Elem × Elem, (∀ e ∈ ents, (f e).1.hdr = dataHdr cfg kty ∧ (f e).2.hdr = dataHdr cfg vty) →
      BodyOK cfg (.map k kty vty (ents.map f)) := by
    intro f hf x hx
    obtain ⟨y, hy, rfl⟩ := List.mem_map.mp hx
    exact hf y hy
  unfold mapOp
  cases op <;> simp only
  case set key val =>
    repeat' split
    all_goals rintro ⟨⟩
    · exact hmap _ (fun e he => by split <;> first | exact hmk _ _ | exact hb e he)
    · exact hmap _ (fun e he => by split <;> exact hb e he)
    · exact bodyOK_insertEnt (hmk _ _) hb
  case rem key =>
    repeat' split
    all_goals rintro ⟨⟩
    · exact fun x hx => hb x (List.mem_filter.mp hx).1
    · exact hb
  case resize m =>
    repeat' split
    all_goals rintro ⟨⟩
    · exact fun x hx => nomatch hx
    all_goals exact hb
  all_goals rintro ⟨⟩

theorem inPlaceObj_ok (F : Facts cfg) {s : St} {o : Obj} {ip : InPlace} {b : Body} {out : Outcome}
    (hb : BodyOK cfg o.body) (h : inPlaceObj cfg s o ip = some (b, out)) : BodyOK cfg b := by
  unfold inPlaceObj at h
  split at h
  · exact stringOp_ok h
  · exact tupleOp_ok h
  · rename_i k ety es heq; rw [heq] at hb; exact seqOp_ok F hb h
  · rename_i k kty vty ents heq; rw [heq] at hb; exact mapOp_ok F hb h
  · rename_i heq
    split at h
    · cases h; exact hb
    · cases h; exact hb
    · cases h
  · cases h

theorem destructBody_ok {h : Header} {b : Body} (hb : BodyOK cfg b) : BodyOK cfg (destructBody cfg h b).1 := by
  unfold destructBody
  repeat' split
  all_goals first | exact hb | trivial

theorem foldl_insert_ok (F : Facts cfg) (s : St) (k : MapKind) (kty vty : Ty) (l : List (Scalar × Scalar)) :
    ∀ acc, BodyOK cfg (.map k kty vty acc) →
      BodyOK cfg (.map k kty vty (l.foldl (fun acc e => insertEnt (mapEntry cfg s k kty vty e.1 e.2) acc) acc)) := by
  induction l with
  | nil => intro acc h; exact h
  | cons x r ih => intro acc h; exact ih _ (bodyOK_insertEnt (mapEntry_hdr F s k kty vty x.1 x.2) h)

theorem buildBody_ok (F : Facts cfg) {s : St} {r : Route} {i : Init} {b : Body} (h : buildBody cfg s r i = some b) :
    BodyOK cfg b := by
  unfold buildBody at h
  cases i <;> simp only at h
  case seq k ety vals =>
    split at h
    · cases h; exact bodyOK_map_seqElem F s k ety vals id
    · cases h
  case map k kty vty ents =>
    split at h
    · cases h
      exact foldl_insert_ok F s k kty vty _ [] (fun p hp => by cases hp)
    · cases h
  all_goals (repeat' split at h)
  all_goals first
    | (cases h; trivial)
    | (cases h; done)

theorem copyBody_ok (F : Facts cfg) {s : St} {o : Obj} {t : Ty} {b : Body} (h : copyBody cfg s o = some (t, b)) :
    BodyOK cfg b := by
  unfold copyBody at h
  split at h
  all_goals first
    | (cases h; trivial)
    | (cases h; done)
    | (cases h
       intro e he
       obtain ⟨a, _, rfl⟩ := List.mem_map.mp he
       first | exact seqElem_hdr F s _ _ _ | exact mapEntry_hdr F s _ _ _ _ _)

theorem copyBody_ty {s : St} {o : Obj} {t : Ty} {b : Body} (h : copyBody cfg s o = some (t, b)) : typeOf cfg o.hdr = some t := by
  unfold copyBody at h
  split at h
  all_goals first
    | (rename_i heq _; cases h; exact heq)
    | (rename_i heq; cases h; exact heq)
    | (cases h; done)

theorem seenElem_data {e : Elem} {ty : Ty} (h : e.hdr = dataHdr cfg ty) : seenElem cfg e = (some ty, cfg.cData) := by
  simp [seenElem, h, typeOf, dataHdr]

theorem iterate_container {s : St} (hw : WF cfg s) {id : Nat} {o : Obj} {l : List (Option Seen)}
    (hget : s.get id = some o) (hit : s.iterate cfg id = some l) :
    (∀ k ety es, o.body = .seq k ety es → ∀ x ∈ l, x = some (some ety, cfg.cData)) ∧
    (∀ k kty vty ents, o.body = .map k kty vty ents → ∀ x ∈ l, x = some (some kty, cfg.cData)) ∧
    (∀ items, o.body = .tuple items → ∀ x ∈ l, ∃ i ∈ items, x = s.seenObj cfg i) := by
  have hb : BodyOK cfg o.body := bodyOK_of_get hw hget
  simp only [St.iterate, hget] at hit
  split at hit
  · refine ⟨?_, ?_, ?_⟩
    · intro k ety es hbody x hx
      rw [hbody] at hit hb
      cases hit
      obtain ⟨e, he, rfl⟩ := List.mem_map.mp hx
      rw [seenElem_data (hb e he)]
    · intro k kty vty ents hbody x hx
      rw [hbody] at hit hb
      cases hit
      obtain ⟨e, he, rfl⟩ := List.mem_map.mp hx
      rw [seenElem_data (hb e he).1]
    · intro items hbody x hx
      rw [hbody] at hit
      simp only at hit
      split at hit
      · cases hit
        obtain ⟨i, hi, rfl⟩ := List.mem_map.mp hx
        exact ⟨i, hi, rfl⟩
      · cases hit
  · cases hit

theorem mapValues_container {s : St} (hw : WF cfg s) {id : Nat} {o : Obj} {l : List (Option Seen)}
    (hget : s.get id = some o) (hit : s.mapValues cfg id = some l) {k : MapKind} {kty vty : Ty} {ents : List (Elem × Elem)}
    (hbody : o.body = .map k kty vty ents) : ∀ x ∈ l, x = some (some vty, cfg.cData) := by
  have hb : BodyOK cfg o.body := bodyOK_of_get hw hget
  simp only [St.mapValues, hget] at hit
  split at hit
  · intro x hx
    rw [hbody] at hit hb
    cases hit
    obtain ⟨e, he, rfl⟩ := List.mem_map.mp hx
    rw [seenElem_data (hb e he).2]
  · cases hit

theorem everySecond_mem {α : Type} (l : List α) : ∀ x ∈ everySecond l, x ∈ l := by
  induction l using everySecond.induct with
  | case1 => intro x hx; cases hx
  | case2 y => intro x hx; exact hx
  | case3 y z r ih =>
    intro x hx
    simp only [everySecond, List.mem_cons] at hx ⊢
    rcases hx with hx | hx
    · exact Or.inl hx
    · exact Or.inr (Or.inr (ih x hx))

end Cello.Hdr
