/-
  Lemmas for C19: the type edge (an object refers to its Type object; the collector neither marks through that pointer nor
  orders releases by it — KF-C19-type-outlived).  `typeFirst` / `typeOrphans` / `typeLost` are false as soon as no run-time
  Type object *in use* is among the blocks a collection released.
-/
import Cello.Hdr

namespace Cello.Hdr

variable {cfg : Config}

theorem usersOf_nil {s : St} {k : Nat} (h : s.typeInUse k = false) : s.usersOf k = [] := by
  simp only [St.usersOf, St.typeInUse] at *
  rw [List.map_eq_nil_iff, List.filter_eq_nil_iff]
  intro p hp
  have := List.any_eq_false.mp h p hp
  simpa using this

/-- what finalisation reads of a Type is part of what refers to it: the `&& !isEmpty` is dropped -/
theorem usesRtAtDel_uses {o : Obj} {k : Nat} (h : o.usesRtAtDel k = true) : o.usesRt k = true := by
  unfold Obj.usesRtAtDel at h
  unfold Obj.usesRt
  rw [Bool.or_eq_true] at h ⊢
  refine h.imp id (fun h => ?_)
  cases hb : o.body <;> simp only [hb, Bool.and_eq_true] at h ⊢ <;> first | exact h.1 | cases h

theorem finUsersOf_nil {s : St} {k : Nat} (h : s.typeInUse k = false) : s.finUsersOf k = [] := by
  simp only [St.finUsersOf, St.typeInUse] at *
  rw [List.map_eq_nil_iff, List.filter_eq_nil_iff]
  intro p hp
  have := List.any_eq_false.mp h p hp
  intro hc
  simp only [Bool.and_eq_true] at hc
  rw [hc.1, usesRtAtDel_uses hc.2] at this
  simp at this

theorem rtOf_inUse {s : St} {a k : Nat} (h : s.rtOf a = some k) : s.isTypeInUse a = s.typeInUse k := by
  unfold St.rtOf at h
  unfold St.isTypeInUse
  cases hg : s.get a with
  | none => simp [hg] at h
  | some o =>
    simp only [hg] at h ⊢
    split at h
    · rename_i k' sz hb
      simp only [Option.some.injEq] at h
      subst h
      simp
    · cases h

theorem typeFirst_false {s : St} : ∀ rel : List Nat, (∀ e ∈ rel, s.isTypeInUse e = false) → s.typeFirst rel = false
  | [], _ => rfl
  | a :: rest, h => by
    have ih := typeFirst_false rest (fun e he => h e (List.mem_cons_of_mem _ he))
    simp only [St.typeFirst, ih, Bool.or_false]
    cases hk : s.rtOf a with
    | none => rfl
    | some k =>
      have hu : s.finUsersOf k = [] := finUsersOf_nil (by rw [← rtOf_inUse hk]; exact h a List.mem_cons_self)
      simp [hu]

theorem typeOrphans_false {s : St} (rel : List Nat) (h : ∀ e ∈ rel, s.isTypeInUse e = false) : s.typeOrphans rel = false := by
  simp only [St.typeOrphans]
  apply List.any_eq_false.mpr
  intro a ha
  cases hk : s.rtOf a with
  | none => simp
  | some k =>
    have hu : s.usersOf k = [] := usersOf_nil (by rw [← rtOf_inUse hk]; exact h a ha)
    simp [hu]

theorem typeLost_false {s : St} (rel : List Nat) (h : ∀ e ∈ rel, s.isTypeInUse e = false) : s.typeLost rel = false := by
  simp only [St.typeLost, typeFirst_false rel h, typeOrphans_false rel h, Bool.or_self]

end Cello.Hdr
