/-
  C09, second layer (Cello/CmpSrc.lean): what agrees in sign with `bytesCmp` orders NUL-free strings bytewise; the libc
  instances meet ISO C's specification of strcmp / memcmp; what `valDispOps` answers for a plain struct.
-/
import Cello.CmpSrc
import CelloProofs.Lemmas.Cmp

namespace Cello.Cmp

/-- used at `strSrcCmp ops`, `typeSrcCmp ops` for a libc meeting `StrcmpSpec` -/
theorem strcmp_order {c : List UInt8 → List UInt8 → Int}
    (hs : ∀ a b, NulFree a → NulFree b → sgn (c a b) = bytesCmp a b) :
    StrictCmpOn NulFree Eq c ∧ ∀ a b, NulFree a → NulFree b → (c a b < 0 ↔ a < b) ∧ (0 < c a b ↔ b < a) := by
  refine ⟨bytesCmp_strict.comap id (fun _ _ => trivial) (fun a b ha hb => by rw [hs a b ha hb, sgn_bytesCmp]; rfl)
    (fun _ _ _ _ => Iff.rfl), fun a b ha hb => ⟨?_, ?_⟩⟩
  · rw [← bytesCmp_lt_iff, ← hs a b ha hb, sgn_lt_zero]
  · rw [← bytesCmp_gt_iff, ← hs a b ha hb, sgn_gt_zero]

-- 256: a byte difference; any bound inside the range of `int` would do
theorem sgn_ofInt32_small (d : Int) (h1 : -256 < d) (h2 : d < 256) : sgn (BitVec.ofInt 32 d).toInt = sgn d := by
  have : (BitVec.ofInt 32 d).toInt = d := by
    have e : ((2 ^ 32 : Nat) : Int) = 4294967296 := by decide
    rw [BitVec.toInt_ofInt]; simp only [Int.bmod, e]; split <;> omega
  rw [this]

theorem sgn_ofInt32_bytesCmp (a b : List UInt8) : sgn (BitVec.ofInt 32 (bytesCmp a b)).toInt = bytesCmp a b := by
  have e := sgn_bytesCmp a b
  have := sgn_cases (bytesCmp a b)
  rw [sgn_ofInt32_small _ (by omega) (by omega), e]

theorem strcmpSpec_sign : StrcmpSpec signStrOps := ⟨fun a b _ _ => sgn_ofInt32_bytesCmp a b⟩

theorem memcmpSpec_sign : MemcmpSpec signMemcmp := ⟨fun a b n _ _ => sgn_ofInt32_bytesCmp (a.take n) (b.take n)⟩

theorem bytesDiff_bounds : ∀ a b : List UInt8, -256 < bytesDiff a b ∧ bytesDiff a b < 256
  | [], [] => by decide
  | [], y :: _ => by have := y.toNat_lt; simp only [bytesDiff]; omega
  | x :: _, [] => by have := x.toNat_lt; simp only [bytesDiff]; omega
  | x :: xs, y :: ys => by
    have := x.toNat_lt; have := y.toNat_lt
    simp only [bytesDiff]; split
    · exact bytesDiff_bounds xs ys
    · simp only [byteCmp]; omega

theorem toNat_pos_of_ne_zero {x : UInt8} (h : x ≠ 0) : 0 < x.toNat :=
  Nat.pos_of_ne_zero fun e => h (UInt8.toNat_inj.mp e)

/-- on NUL-free strings the byte difference has the sign `bytesCmp` has: where one string ends the other's byte is
    compared with the terminating NUL, which is smaller because it does not occur inside -/
theorem sgn_bytesDiff : ∀ a b : List UInt8, NulFree a → NulFree b → sgn (bytesDiff a b) = bytesCmp a b
  | [], [], _, _ => by decide
  | [], y :: ys, _, hb => by
    have := toNat_pos_of_ne_zero (hb y List.mem_cons_self)
    exact (sgn_neg_iff _).2 (by simp only [bytesDiff]; omega)
  | x :: xs, [], ha, _ => by
    have := toNat_pos_of_ne_zero (ha x List.mem_cons_self)
    exact (sgn_pos_iff _).2 (by simp only [bytesDiff]; omega)
  | x :: xs, y :: ys, ha, hb => by
    rw [bytesCmp, lexCmp_cons_cons]; simp only [bytesDiff]
    by_cases hxy : x = y
    · subst hxy
      rw [if_pos rfl, thenCmp_of_zero _ (byteCmp_strict.toLawfulCmpOn.refl trivial)]
      exact sgn_bytesDiff xs ys (fun z hz => ha z (List.mem_cons_of_mem _ hz)) (fun z hz => hb z (List.mem_cons_of_mem _ hz))
    · rw [if_neg hxy, thenCmp_of_ne _ (mt (byteCmp_strict.zero_iff x y trivial trivial).1 hxy)]

theorem strcmpSpec_diff : StrcmpSpec diffStrOps where
  sign a b ha hb := by
    show sgn (BitVec.ofInt 32 (bytesDiff a b)).toInt = bytesCmp a b
    rw [sgn_ofInt32_small _ (bytesDiff_bounds a b).1 (bytesDiff_bounds a b).2, sgn_bytesDiff a b ha hb]

theorem plainSize_le (t : Nat) : plainSize t ≤ 16 := by
  unfold plainSize; split <;> decide

theorem Val.etype_eq_iff (t : Nat) (b : Val) : b.etype = 100 + t ↔ ∃ ys, b = .plain t ys := by
  cases b with
  | plain t' ys => simp [Val.etype]
  | seq k xs => cases k <;> simp [Val.etype, Val.ctype] <;> omega
  | _ => simp [Val.etype, Val.ctype] <;> omega

theorem valDispOps_plain (mc : List UInt8 → List UInt8 → Nat → BitVec 32) (inst : Val → Val → BitVec 32) (t : Nat)
    (xs : List UInt8) :
    (valDispOps mc inst).hasInstance (.plain t xs) = false ∧
    (∀ b, (valDispOps mc inst).typeOf (.plain t xs) = (valDispOps mc inst).typeOf b ↔ ∃ ys, b = .plain t ys) ∧
    ((valDispOps mc inst).sizeOf ((valDispOps mc inst).typeOf (.plain t xs))).toNat = plainSize t := by
  refine ⟨rfl, fun b => ?_, ?_⟩
  · rw [← Val.etype_eq_iff]
    show ((100 + t : Nat) : Int) = (b.etype : Int) ↔ _
    omega
  · have := plainSize_le t
    show (if (100 : Int) ≤ ((100 + t : Nat) : Int) then BitVec.ofNat 64 (plainSize (((100 + t : Nat) : Int) - 100).toNat) else 8).toNat = _
    rw [if_pos (by omega), show (((100 + t : Nat) : Int) - 100).toNat = t by omega, BitVec.toNat_ofNat]
    omega

end Cello.Cmp
