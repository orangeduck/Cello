/-
  Lemmas/RBList.lean — the in-order sequence (`toList`) of a zipper: a path contributes what stands left (`ctxL`) and right
  (`ctxR`) of its hole (`toList_plug`), `Tree_Maximum` finds its last binding (`maxLoc_spec`), and the rotations and
  recolourings of `setFix` and `remFix` leave it as it is (`toList_setFix`, `ctx_remFix`).
-/
import Cello.RBTree

namespace Cello.RB
variable {α β : Type}

/-- in-order items to the left of the hole of a path -/
def ctxL : Path α β → List (α × β)
  | [] => []
  | f :: p =>
    match f.dir with
    | .L => ctxL p
    | .Rt => ctxL p ++ (toList f.sib ++ [(f.k, f.v)])

/-- in-order items to the right of the hole of a path -/
def ctxR : Path α β → List (α × β)
  | [] => []
  | f :: p =>
    match f.dir with
    | .L => (f.k, f.v) :: toList f.sib ++ ctxR p
    | .Rt => ctxR p

@[simp] theorem ctxL_nil : ctxL ([] : Path α β) = [] := rfl
@[simp] theorem ctxR_nil : ctxR ([] : Path α β) = [] := rfl

theorem ctxL_append (p q : Path α β) : ctxL (p ++ q) = ctxL q ++ ctxL p := by
  induction p with
  | nil => simp
  | cons f p ih => cases hd : f.dir <;> simp [ctxL, hd, ih]

theorem ctxR_append (p q : Path α β) : ctxR (p ++ q) = ctxR p ++ ctxR q := by
  induction p with
  | nil => simp
  | cons f p ih => cases hd : f.dir <;> simp [ctxR, hd, ih]

@[simp] theorem toList_nil : toList (T.nil : T α β) = [] := rfl
@[simp] theorem toList_node (c : Color) (l : T α β) (k : α) (v : β) (r : T α β) :
    toList (T.node c l k v r) = toList l ++ (k, v) :: toList r := rfl

theorem size_eq_length (t : T α β) : size t = (toList t).length := by
  induction t with
  | nil => rfl
  | node c l k v r ihl ihr =>
    rw [size, toList_node, List.length_append, List.length_cons, ihl, ihr, Nat.add_assoc, Nat.add_comm 1]

theorem size_eq_zero_iff (t : T α β) : size t = 0 ↔ t = .nil := by
  cases t with
  | nil => simp [size]
  | node c l k v r => simp [size]

@[simp] theorem toList_setColor (c : Color) (t : T α β) : toList (setColor c t) = toList t := by
  cases t <;> rfl

theorem toList_mk (f : Frame α β) (t : T α β) :
    toList (mk f t) = match f.dir with
      | .L => toList t ++ (f.k, f.v) :: toList f.sib
      | .Rt => toList f.sib ++ (f.k, f.v) :: toList t := by
  unfold mk; cases f.dir <;> rfl

theorem toList_plug (t : T α β) (p : Path α β) : toList (plug t p) = ctxL p ++ toList t ++ ctxR p := by
  induction p generalizing t with
  | nil => simp [plug]
  | cons f p ih =>
    rw [plug, ih, toList_mk]
    cases h : f.dir <;> simp [ctxL, ctxR, h]

theorem toList_plug_congr {a b : T α β} (h : toList a = toList b) (p : Path α β) :
    toList (plug a p) = toList (plug b p) := by
  rw [toList_plug, toList_plug, h]

/-- `Tree_Maximum` below a node: the node found has no right child and is the last of the in-order sequence -/
theorem maxLoc_spec (t : T α β) (p : Path α β) (h : t ≠ .nil) :
    ∃ x, maxLoc t p = some x ∧ x.r = .nil ∧
      ctxL x.path ++ toList x.l ++ [(x.k, x.v)] = ctxL p ++ toList t ∧ ctxR x.path = ctxR p := by
  fun_induction maxLoc t p with
  | case1 => exact absurd rfl h
  | case2 => exact ⟨_, rfl, rfl, List.append_assoc _ _ _, rfl⟩
  | case3 c l k v p _ _ _ _ _ ih =>
    obtain ⟨x, hx, h1, h2, h3⟩ := ih nofun
    exact ⟨x, hx, h1, by rw [h2]; simp [ctxL], h3⟩

theorem maxLoc_mem (t : T α β) (p : Path α β) (x : Loc α β) (h : maxLoc t p = some x) : (x.k, x.v) ∈ toList t := by
  fun_induction maxLoc t p with
  | case1 => cases h
  | case2 => cases h; simp [toList]
  | case3 _ _ _ _ _ _ _ _ _ _ ih => exact List.mem_append_right _ (List.mem_cons_of_mem _ (ih h))

theorem maxLoc_append (t : T α β) (p q : Path α β) :
    maxLoc t (p ++ q) = (maxLoc t p).map (fun x => { x with path := x.path ++ q }) := by
  fun_induction maxLoc t p with
  | case1 => rfl
  | case2 => rfl
  | case3 _ _ _ _ _ _ _ _ _ _ ih => rw [← ih]; rfl

theorem toList_setFix (t : T α β) (p : Path α β) (t' : T α β) (h : setFix t p = some t') :
    toList t' = ctxL p ++ toList t ++ ctxR p := by
  rw [← toList_plug]
  fun_induction setFix t p generalizing t' with
  | case1 t => cases h; exact toList_setColor _ _
  | case2 t f hc => cases h; rfl
  | case3 t f hc => cases h
  | case4 t f g up hc => cases h; rfl
  | case5 t f g up hc hu ih =>
    -- recolouring leaves the sequence of the two closed frames as it was
    rw [ih _ h]
    exact toList_plug_congr (by simp only [toList_mk, toList_setColor]) up
  | case6 f g up hc hu n hf hg =>
    cases h
    exact toList_plug_congr (by simp only [toList_mk, hf, hg, toList_node, List.append_assoc, List.cons_append]) up
  | case7 f g up hc hu c a nk nv b hf hg =>
    cases h
    exact toList_plug_congr (by simp only [toList_mk, hf, hg, toList_node, List.append_assoc, List.cons_append]) up
  | case8 f g up hc hu n hf hg =>
    cases h
    exact toList_plug_congr (by simp only [toList_mk, hf, hg, toList_node, List.append_assoc, List.cons_append]) up
  | case9 f g up hc hu c a nk nv b hf hg =>
    cases h
    exact toList_plug_congr (by simp only [toList_mk, hf, hg, toList_node, List.append_assoc, List.cons_append]) up
  | case10 f g up hc hu x y => cases h

theorem ctx_remCase2 (f : Frame α β) (rest : Path α β) :
    ctxL ((remCase2 f rest).1 :: (remCase2 f rest).2) = ctxL (f :: rest) ∧
    ctxR ((remCase2 f rest).1 :: (remCase2 f rest).2) = ctxR (f :: rest) := by
  fun_cases remCase2 f rest <;> simp_all [ctxL, ctxR]

theorem toList_remCase5 (d : Dir) (sc : Color) (sl : T α β) (sk : α) (sv : β) (sr s : T α β)
    (h : remCase5 d sc sl sk sv sr = some s) : toList s = toList sl ++ (sk, sv) :: toList sr := by
  revert h
  -- every branch that returns a tree returns the sibling as it is or rotated once
  fun_cases remCase5 d sc sl sk sv sr <;> intro h <;> cases h <;> simp

theorem ctx_remCase6 (f : Frame α β) (rest : Path α β) (s : T α β) (p' : Path α β)
    (hs : toList s = toList f.sib) (h : remCase6 f rest s = some p') :
    ctxL p' = ctxL (f :: rest) ∧ ctxR p' = ctxR (f :: rest) := by
  revert h hs
  fun_cases remCase6 f rest s <;> intro hs h <;> cases h
  all_goals rename_i hd _; simp [ctxL, ctxR, hd, ← hs]

theorem ctx_cons_congr {f f' : Frame α β} {p p' : Path α β} (hd : f'.dir = f.dir) (hk : f'.k = f.k) (hv : f'.v = f.v)
    (hs : toList f'.sib = toList f.sib) (hp : ctxL p' = ctxL p ∧ ctxR p' = ctxR p) :
    ctxL (f' :: p') = ctxL (f :: p) ∧ ctxR (f' :: p') = ctxR (f :: p) := by
  simp only [ctxL, ctxR, hd, hk, hv, hs, hp.1, hp.2, and_self]

theorem ctx_remFixBody (f : Frame α β) (rest : Path α β) (up : Option (Path α β)) (p' : Path α β)
    (hup : ∀ r', up = some r' → ctxL r' = ctxL rest ∧ ctxR r' = ctxR rest)
    (h : remFixBody f rest up = some p') :
    ctxL p' = ctxL (f :: rest) ∧ ctxR p' = ctxR (f :: rest) := by
  revert h
  fun_cases remFixBody f rest up with
  | case1 => nofun
  | case2 sc sl sk sv sr hs =>
    cases up with
    | none => nofun
    | some r' => intro h; cases h; exact ctx_cons_congr rfl rfl rfl (by rw [hs]; rfl) (hup r' rfl)
  | case3 sc sl sk sv sr hs => intro h; cases h; exact ctx_cons_congr rfl rfl rfl (by rw [hs]; rfl) ⟨rfl, rfl⟩
  | case4 => nofun
  | case5 sc sl sk sv sr hs _ _ s hs5 =>
    exact ctx_remCase6 f rest s p' (by rw [toList_remCase5 _ _ _ _ _ _ _ hs5, hs]; rfl)

theorem ctx_remFix (p p' : Path α β) (h : remFix p = some p') : ctxL p' = ctxL p ∧ ctxR p' = ctxR p := by
  induction p generalizing p' with
  | nil => simp [remFix] at h; subst h; simp
  | cons f rest ih =>
    rw [remFix] at h
    split at h
    · have h2 := ctx_remCase2 f rest
      have := ctx_remFixBody _ _ none p' (by simp) h
      rw [this.1, this.2]; exact h2
    · exact ctx_remFixBody f rest _ p' (fun r' hr => ih r' hr) h

end Cello.RB
