import CelloProofs.Lemmas.Fail
/-
  C12, Range: `Range_Len` without its division (`Rng.lt_len_iff`: position `j` exists iff element `j` lies in `[start, stop)`), so that
  inside the bounds test nothing overflows (`Rng.inside`) and `Range_Get` has a closed form for every `int64_t` index (`Rng.get_int`;
  its specification is `Rng.getExc`); last what `get` and `mem` can do to the range itself.
-/
namespace Cello.Fail

/-- `start + step*i < stop` for `step > 0`, `i ≥ 0` says exactly that `i` is below the number of elements -/
theorem range_pos_iff (start stop step i : Int) (hst : 0 < step) (hi : 0 ≤ i) :
    start + step * i < stop ↔ i < (if stop ≤ start then 0 else (stop - 1 - start) / step + 1) := by
  have hm : 0 ≤ step * i := Int.mul_nonneg (by omega) hi
  by_cases h : stop ≤ start
  · simp only [h, if_true]; omega
  · simp only [h, if_false]
    have := Int.le_ediv_iff_mul_le (a := i) (b := stop - 1 - start) hst
    rw [Int.mul_comm] at this
    omega

theorem range_neg_iff (start stop step i : Int) (hst : step < 0) (hi : 0 ≤ i) :
    stop - 1 + step * i ≥ start ↔ i < (if stop ≤ start then 0 else (stop - 1 - start) / (-step) + 1) := by
  have hm : 0 ≤ (-step) * i := Int.mul_nonneg (by omega) hi
  have hneg : (-step) * i = -(step * i) := by rw [Int.neg_mul]
  by_cases h : stop ≤ start
  · simp only [h, if_true]; omega
  · simp only [h, if_false]
    have := Int.le_ediv_iff_mul_le (a := i) (b := stop - 1 - start) (c := -step) (by omega)
    rw [Int.mul_comm, hneg] at this
    omega

/-- the fields of a Range are `int64_t` values -/
def Rng.i64 (r : Rng) : Prop :=
  (-(2 ^ 63 : Int) ≤ r.start ∧ r.start < 2 ^ 63) ∧ (-(2 ^ 63 : Int) ≤ r.stop ∧ r.stop < 2 ^ 63) ∧
  (-(2 ^ 63 : Int) ≤ r.step ∧ r.step < 2 ^ 63)

theorem isI64_iff (x : Int) : isI64 x = true ↔ (-(2 ^ 63 : Int) ≤ x ∧ x < 2 ^ 63) := by
  simp [isI64]

theorem Rng.lenOk_spec (r : Rng) (hl : r.lenOk = true) :
    r.len < 2 ^ 63 ∧ (r.step ≠ 0 → r.start < r.stop → r.stop - 1 - r.start < 2 ^ 63) := by
  unfold Rng.lenOk at hl
  unfold Rng.len
  by_cases h0 : r.step = 0
  · simp [h0]
  · by_cases h1 : r.stop ≤ r.start
    · simp only [h0, h1, if_true, if_false]; omega
    · by_cases h2 : r.step > 0 <;> simp only [h0, h1, h2, if_false, if_true, Bool.and_eq_true, isI64_iff] at hl ⊢ <;> omega

theorem Rng.lenOk_of_half (r : Rng) (h1 : -(2 ^ 62 : Int) ≤ r.start) (h2 : r.stop < 2 ^ 62) (h3 : -(2 ^ 63 : Int) < r.step) :
    r.lenOk = true := by
  unfold Rng.lenOk
  by_cases h0 : r.step = 0
  · simp [h0]
  · by_cases hs : r.stop ≤ r.start
    · simp [h0, hs]
    · by_cases hp : r.step > 0
      · have a := Int.ediv_le_self (a := r.stop - 1 - r.start) r.step (by omega)
        have b : 0 ≤ (r.stop - 1 - r.start) / r.step := Int.ediv_nonneg (by omega) (by omega)
        simp only [h0, hs, hp, if_false, if_true, Bool.and_eq_true, isI64_iff]
        omega
      · have a := Int.ediv_le_self (a := r.stop - 1 - r.start) (-r.step) (by omega)
        have b : 0 ≤ (r.stop - 1 - r.start) / (-r.step) := Int.ediv_nonneg (by omega) (by omega)
        simp only [h0, hs, hp, if_false, Bool.and_eq_true, isI64_iff]
        omega

/-- element `j` of a range: counted from `start` upwards for a positive step, from `stop-1` downwards for a negative one -/
def Rng.elem (r : Rng) (j : Int) : Int :=
  if r.step > 0 then r.start + r.step * j else r.stop - 1 + r.step * j

/-- position `j` exists exactly when its element lies in `[start, stop)`: `Range_Len` without the division
    (`range_pos_iff` / `range_neg_iff` are the two signs of the step) -/
theorem Rng.lt_len_iff (r : Rng) (j : Int) (hj : 0 ≤ j) :
    j < r.len ↔ r.step ≠ 0 ∧ r.start ≤ r.elem j ∧ r.elem j < r.stop := by
  unfold Rng.len Rng.elem
  by_cases h0 : r.step = 0
  · simp only [h0, if_true]; omega
  · by_cases hp : r.step > 0
    · have hi := range_pos_iff r.start r.stop r.step j hp hj
      have hm : 0 ≤ r.step * j := Int.mul_nonneg (by omega) hj
      simp only [h0, hp, if_true, if_false, ne_eq, not_false_eq_true, true_and]
      by_cases h1 : r.stop ≤ r.start
      · simp only [h1, if_true]; omega
      · have := Int.ediv_nonneg (a := r.stop - 1 - r.start) (b := r.step) (by omega) (by omega)
        simp only [h1, if_false] at hi ⊢
        omega
    · have hi := range_neg_iff r.start r.stop r.step j (by omega) hj
      have hm : 0 ≤ (-r.step) * j := Int.mul_nonneg (by omega) hj
      rw [Int.neg_mul] at hm
      simp only [h0, hp, if_false, ne_eq, not_false_eq_true, true_and]
      by_cases h1 : r.stop ≤ r.start
      · simp only [h1, if_true]; omega
      · have := Int.ediv_nonneg (a := r.stop - 1 - r.start) (b := -r.step) (by omega) (by omega)
        simp only [h1, if_false] at hi ⊢
        omega

/-- **inside the bounds test nothing overflows**: for `0 ≤ j < len` every intermediate value of `start + step*j` /
    `stop-1 + step*j` is an `int64_t`, and the element lies in `[start, stop)` -/
theorem Rng.inside (r : Rng) (hr : r.i64) (hl : r.lenOk = true) (j : Int) (hj0 : 0 ≤ j) (hj : j < r.len) :
    r.step ≠ 0 ∧ -(2 ^ 63 : Int) ≤ r.stop - 1 ∧
    (-(2 ^ 63 : Int) < r.step * j ∧ r.step * j < 2 ^ 63) ∧
    (r.start ≤ r.elem j ∧ r.elem j < r.stop) := by
  obtain ⟨h0, e1, e2⟩ := (Rng.lt_len_iff r j hj0).mp hj
  have w := (Rng.lenOk_spec r hl).2 h0 (by omega)
  obtain ⟨⟨a1, a2⟩, ⟨b1, b2⟩, _⟩ := hr
  refine ⟨h0, by omega, ?_, e1, e2⟩
  -- `step * j` is the distance of the element from the end the step starts at: less than the width
  unfold Rng.elem at e1 e2
  split at e1
  · have : 0 ≤ r.step * j := Int.mul_nonneg (by omega) hj0
    omega
  · have : 0 ≤ (-r.step) * j := Int.mul_nonneg (by omega) hj0
    rw [Int.neg_mul] at this
    omega

/-- `Rng.inside` as `Range_Get` tests it: the product, the element and (negative step) `stop-1` pass the overflow tests -/
theorem Rng.inside_isI64 (r : Rng) (hr : r.i64) (hl : r.lenOk = true) (j : Int) (hj0 : 0 ≤ j) (hj : j < r.len) :
    isI64 (r.step * j) = true ∧ isI64 (r.elem j) = true ∧ (r.step < 0 → isI64 (r.stop - 1) = true) := by
  obtain ⟨_, hst, ⟨m1, m2⟩, ⟨e1, e2⟩⟩ := Rng.inside r hr hl j hj0 hj
  obtain ⟨⟨a1, a2⟩, ⟨b1, b2⟩, _⟩ := hr
  refine ⟨by rw [isI64_iff]; omega, by rw [isI64_iff]; omega, fun _ => by rw [isI64_iff]; omega⟩

/-- documented outcome of `get(range, i)`: the index must lie in `[-len, len)` — for every range, step 0 (length 0) included -/
def Rng.getExc (r : Rng) (k : Val) : Option Exc :=
  match k with
  | .int i => if -(r.len : Int) ≤ i ∧ i < r.len then none else some .IndexOutOfBoundsError
  | .null => some .ValueError
  | _ => some .ClassError

/-- `Range_Get` in closed form for every `int64_t` index: `ub` (a signed overflow) is not among the outcomes -/
theorem Rng.get_int (r : Rng) (hr : r.i64) (hl : r.lenOk = true) (i : Int) (h1 : -(2 ^ 63 : Int) ≤ i) (h2 : i < 2 ^ 63) :
    r.get (.int i) =
      if -(r.len : Int) ≤ i ∧ i < r.len then
        ({ r with scratch := r.elem (idxOf r.len i) }, .ok (.val (.int (r.elem (idxOf r.len i)))))
      else (r, .raised .IndexOutOfBoundsError) := by
  have hlen := (Rng.lenOk_spec r hl).1
  have hkb : (BitVec.ofInt 64 i).toInt = i := BitVec.toInt_ofInt_eq_self (by decide) h1 h2
  unfold Rng.get
  simp only [hl, Bool.not_true, Bool.false_eq_true, if_false, cInt, hkb]
  generalize hj : (if i < 0 then (r.len : Int) + i else i) = j
  have hjI : isI64 j = true := by rw [isI64_iff]; subst hj; split <;> omega
  have hrange : (-(r.len : Int) ≤ i ∧ i < r.len) ↔ (0 ≤ j ∧ j < r.len) := by subst hj; split <;> omega
  simp only [hjI, Bool.not_true, Bool.false_eq_true, if_false]
  by_cases hb : -(r.len : Int) ≤ i ∧ i < r.len
  · obtain ⟨hj0, hjn⟩ := hrange.mp hb
    have hidx : ((idxOf r.len i : Nat) : Int) = j := by subst hj; unfold idxOf; split <;> omega
    obtain ⟨x1, x2, x0⟩ := Rng.inside_isI64 r hr hl j hj0 hjn
    simp only [hb, and_self, if_true, hidx]
    by_cases hp : r.step > 0
    · simp only [Rng.elem, hp, if_true] at x2 ⊢
      simp [hj0, hjn, x1, x2]
    · have hn : r.step < 0 := by have := ((Rng.lt_len_iff r j hj0).mp hjn).1; omega
      simp only [Rng.elem, hp, if_false] at x2 ⊢
      simp [hn, hj0, hjn, x0 hn, x1, x2]
  · have hnj : ¬ (0 ≤ j ∧ j < r.len) := fun hc => hb (hrange.mpr hc)
    have g : (decide (j ≥ 0) && decide (j < (r.len : Int))) = false := by
      simp only [Bool.and_eq_false_iff, decide_eq_false_iff_not]; omega
    simp only [hb, if_false, Bool.and_assoc, g, Bool.and_false, Bool.false_eq_true]

/-- when `Range_Len` itself overflows, `get` is undefined behaviour whatever the index (the hypothesis of `Rng.get_int` is needed) -/
theorem Rng.get_lenOverflow (r : Rng) (hl : r.lenOk = false) (k : Val) : r.get k = (r, .ub) := by
  unfold Rng.get; simp [hl]

theorem Rng.get_cases (r : Rng) (k : Val) :
    (∃ v, r.get k = ({ r with scratch := v }, .ok (.val (.int v)))) ∨ (∃ x, r.get k = (r, x) ∧ ∀ v, x ≠ .ok v) := by
  -- the property holds at each leaf of the nested `if`s and passes through `if`: no `split` of the whole term is needed
  let P (p : Rng × Res) := (∃ v, p = ({ r with scratch := v }, .ok (.val (.int v)))) ∨ (∃ x, p = (r, x) ∧ ∀ v, x ≠ .ok v)
  have ite {c : Prop} [Decidable c] {a b : Rng × Res} (ha : P a) (hb : P b) : P (if c then a else b) := by
    split <;> assumption
  have ub : P (r, .ub) := Or.inr ⟨_, rfl, fun _ h => nomatch h⟩
  have raised (e : Exc) : P (r, .raised e) := Or.inr ⟨_, rfl, fun _ h => nomatch h⟩
  have ret (v : Int) : P ({ r with scratch := v }, .ok (.val (.int v))) := Or.inl ⟨v, rfl⟩
  show P (r.get k)
  unfold Rng.get
  refine ite ub ?_
  cases cInt k with
  | ok kb => exact ite ub (ite (ite ub (ite ub (ret _))) (ite (ite ub (ite ub (ite ub (ret _)))) (raised _)))
  | raised e => exact raised e
  | ub => exact ub

theorem Rng.mem_fst (r : Rng) (v : Val) : (r.mem v).1 = r := by
  unfold Rng.mem
  cases cInt v <;> simp only [apply_ite Prod.fst, ite_self]

end Cello.Fail
