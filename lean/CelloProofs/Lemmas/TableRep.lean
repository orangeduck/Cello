/-
  CelloProofs/Lemmas/TableRep.lean — the representation relation between a model table and an association list, read
  through the abstraction function `entriesList` (the bindings in slot order: a table represents exactly the permutations
  of it).
-/
import CelloProofs.Lemmas.TableBasic
import CelloProofs.Lemmas.TableSpec
namespace Cello.Table
open RH
variable {κ ν : Type}

/-- the slot array is well formed and `nitems` counts it -/
structure WF (hash : κ → Nat) (t : Tab κ ν) : Prop where
  inv0 : Inv0 hash t.slots
  cnt : count t.slots = t.nitems

/-- `t` represents the finite map `m` (room for one more insertion not included) -/
structure Rep0 (hash : κ → Nat) (t : Tab κ ν) (m : Spec κ ν) : Prop extends WF hash t where
  nodup : (m.map Prod.fst).Nodup
  len : m.length = t.nitems
  has : ∀ k v, Has t.slots k v ↔ (k, v) ∈ m

/-- the invariant between operations: representation + at least one empty slot (or no slots at all) -/
structure Rep (hash : κ → Nat) (t : Tab κ ν) (m : Spec κ ν) : Prop extends Rep0 hash t m where
  room : t.nitems < t.n ∨ t.n = 0

theorem wf_empty (hash : κ → Nat) (n : Nat) : WF hash (Tab.empty n : Tab κ ν) :=
  ⟨inv0_replicate_none hash, occ_replicate_none⟩

theorem not_has_empty (n : Nat) (k : κ) (v : ν) : ¬ Has (Tab.empty n : Tab κ ν).slots k v := by
  rintro ⟨e, he, _⟩; exact not_mem_replicate_none e he

theorem WF.exists_empty {hash : κ → Nat} {t : Tab κ ν} (w : WF hash t) (h : t.nitems < t.n) :
    ∃ z, ∃ hz : z < t.n, t.slots[z] = none :=
  exists_empty_of_occ_lt t.slots (Nat.lt_of_le_of_lt (Nat.le_of_eq w.cnt) h)

theorem WF.nitems_le {hash : κ → Nat} {t : Tab κ ν} (w : WF hash t) : t.nitems ≤ t.n :=
  w.cnt ▸ occ_le t.slots

def kv (e : Entry κ ν) : κ × ν := (e.key, e.val)

/-- the bindings in slot order: what `foreach` yields (`foreach_eq`, Lemmas/TableIter.lean), what `Table_Mark` reports, what
    `Table_Rehash` and `Table_Assign` re-insert -/
def entriesList {n : Nat} (s : Slots κ ν n) : List (κ × ν) := s.toList.filterMap (Option.map kv)

theorem entriesList_eq {n : Nat} (s : Slots κ ν n) : entriesList s = (entries s).map kv := by
  rw [entriesList, entries, List.map_filterMap]; rfl

theorem mem_entriesList {n : Nat} (s : Slots κ ν n) (k : κ) (v : ν) : (k, v) ∈ entriesList s ↔ Has s k v := by
  simp only [entriesList_eq, List.mem_map, mem_entries, kv, Prod.mk.injEq, Has]; rfl

theorem keys_entriesList_nodup {n : Nat} (hash : κ → Nat) (s : Slots κ ν n) (inv : Inv0 hash s) :
    ((entriesList s).map Prod.fst).Nodup := by
  rw [entriesList_eq, List.map_map]; exact nodup_keys_entries inv

theorem length_entriesList {n : Nat} (s : Slots κ ν n) : (entriesList s).length = count s := by
  rw [entriesList_eq, List.length_map]; exact length_entries s

theorem WF.length_entriesList {hash : κ → Nat} {t : Tab κ ν} (w : WF hash t) : (entriesList t.slots).length = t.nitems :=
  (Cello.Table.length_entriesList t.slots).trans w.cnt

theorem WF.entriesList_nil {hash : κ → Nat} {t : Tab κ ν} (w : WF hash t) (h0 : t.nitems = 0) : entriesList t.slots = [] :=
  List.eq_nil_of_length_eq_zero (w.length_entriesList.trans h0)

theorem entriesList_perm {n : Nat} {hash : κ → Nat} {s : Slots κ ν n} (inv : Inv0 hash s) {m : Spec κ ν}
    (nd : (m.map Prod.fst).Nodup) (has : ∀ k v, Has s k v ↔ (k, v) ∈ m) : (entriesList s).Perm m :=
  (List.perm_ext_iff_of_nodup (List.Nodup.of_map _ (keys_entriesList_nodup hash s inv)) (List.Nodup.of_map _ nd)).mpr
    fun ⟨k, v⟩ => (mem_entriesList s k v).trans (has k v)

theorem rep0_iff_perm {hash : κ → Nat} {t : Tab κ ν} {m : Spec κ ν} :
    Rep0 hash t m ↔ WF hash t ∧ (entriesList t.slots).Perm m := by
  constructor
  · exact fun r => ⟨r.toWF, entriesList_perm r.inv0 r.nodup r.has⟩
  · rintro ⟨w, p⟩
    refine ⟨w, (p.map Prod.fst).nodup_iff.mp (keys_entriesList_nodup hash t.slots w.inv0), ?_, ?_⟩
    · rw [← p.length_eq, w.length_entriesList]
    · intro k v; rw [← p.mem_iff, mem_entriesList]

/-- `Rep0` from the binding equivalence alone: that `m` has `nitems` pairs follows -/
theorem Rep0.of_has {hash : κ → Nat} {t : Tab κ ν} {m : Spec κ ν} (w : WF hash t) (nd : (m.map Prod.fst).Nodup)
    (has : ∀ k v, Has t.slots k v ↔ (k, v) ∈ m) : Rep0 hash t m :=
  rep0_iff_perm.mpr ⟨w, entriesList_perm w.inv0 nd has⟩

theorem rep0_empty (hash : κ → Nat) (n : Nat) : Rep0 hash (Tab.empty n : Tab κ ν) [] :=
  Rep0.of_has (wf_empty hash n) List.nodup_nil fun k v => by simp [not_has_empty]

theorem rep_empty (hash : κ → Nat) (n : Nat) (hn : 0 < n) : Rep hash (Tab.empty n : Tab κ ν) [] :=
  ⟨rep0_empty hash n, Or.inl hn⟩

theorem rep_empty_zero (hash : κ → Nat) : Rep hash (Tab.empty 0 : Tab κ ν) [] :=
  ⟨rep0_empty hash 0, Or.inr rfl⟩

theorem Rep0.perm {hash : κ → Nat} {t : Tab κ ν} {m m' : Spec κ ν} (r : Rep0 hash t m) (p : m.Perm m') : Rep0 hash t m' :=
  rep0_iff_perm.mpr ⟨r.toWF, (rep0_iff_perm.mp r).2.trans p⟩

theorem Rep.perm {hash : κ → Nat} {t : Tab κ ν} {m m' : Spec κ ν} (r : Rep hash t m) (p : m.Perm m') : Rep hash t m' :=
  ⟨r.toRep0.perm p, r.room⟩

theorem present_iff_spec {hash : κ → Nat} {t : Tab κ ν} {m : Spec κ ν} (r : Rep0 hash t m) (k : κ) :
    Present t.slots k ↔ ∃ v, (k, v) ∈ m :=
  (present_iff_has t.slots k).trans (exists_congr (r.has k))

variable [DecidableEq κ]

theorem ofPairs_entriesList_perm {hash : κ → Nat} {t : Tab κ ν} {m : Spec κ ν} (r : Rep0 hash t m) :
    (Spec.ofPairs (entriesList t.slots)).Perm m := by
  rw [ofPairs_of_nodup _ (keys_entriesList_nodup hash t.slots r.inv0)]
  exact (List.reverse_perm _).trans (rep0_iff_perm.mp r).2

end Cello.Table
