/-
  Lemmas/RBRefine.lean — on the in-order sequence the tree operations compute the operations of the specification.  Each
  descent (search, insertion, removal; the last stated for `remAtA` of RBSource) is an induction on the tree whose step is a
  `…_mid` lemma of RBSpec; what the repairs do to the sequence is RBList.  The parent-link walks of
  Tree_Iter_Init/Next/Last/Prev (zipper successor / predecessor) enumerate the sequence, forwards and backwards (`Visits`).
-/
import CelloProofs.Lemmas.RBList
import CelloProofs.Lemmas.RBSpec
import CelloProofs.Lemmas.RBSource

namespace Cello.RB
open Std
variable {α β : Type} {cmp : α → α → Ordering}

theorem findKV_eq_getKV [TransCmp cmp] (t : T α β) (k : α) (hd : Desc cmp (toList t)) :
    findKV cmp t k = Spec.getKV cmp k (toList t) := by
  induction t with
  | nil => rfl
  | node c l nk nv r ihl ihr =>
    obtain ⟨hl, hr, -⟩ := (desc_mid_iff (x := (nk, nv))).mp hd
    simp only [toList_node, Spec.getKV_mid hd, findKV]
    cases cmp nk k
    · exact ihl hl
    · rfl
    · exact ihr hr

theorem find_eq_findKV (t : T α β) (k : α) : find cmp t k = (findKV cmp t k).map Prod.snd := by
  induction t with
  | nil => rfl
  | node c l nk nv r ihl ihr =>
    simp only [find, findKV]
    cases cmp nk k
    · exact ihl
    · rfl
    · exact ihr

theorem find_eq_get [TransCmp cmp] (t : T α β) (k : α) (hd : Desc cmp (toList t)) :
    find cmp t k = Spec.get cmp k (toList t) := by
  rw [find_eq_findKV, findKV_eq_getKV t k hd, Spec.get_eq_getKV]

theorem toList_insAt [TransCmp cmp] (t : T α β) (p : Path α β) (k : α) (v : β) (t' : T α β) (fresh : Bool)
    (hd : Desc cmp (toList t)) (h : insAt cmp t p k v = some (t', fresh)) :
    toList t' = ctxL p ++ Spec.set cmp k v (toList t) ++ ctxR p ∧
      fresh = (Spec.get cmp k (toList t)).isNone := by
  induction t generalizing p with
  | nil =>
    simp only [insAt, Option.map_eq_some_iff, Prod.mk.injEq] at h
    obtain ⟨t'', hs, rfl, rfl⟩ := h
    rw [toList_setFix _ _ _ hs]
    simp [Spec.set, Spec.get]
  | node c l nk nv r ihl ihr =>
    obtain ⟨hl, hr, -⟩ := (desc_mid_iff (x := (nk, nv))).mp hd
    simp only [toList_node, Spec.set_mid hd, Spec.get_mid hd]
    simp only [insAt] at h
    cases hc : cmp nk k <;> rw [hc] at h
    · obtain ⟨e1, e2⟩ := ihl _ hl h
      exact ⟨by rw [e1]; simp [ctxL, ctxR], e2⟩
    · cases h
      exact ⟨by rw [toList_plug]; simp, rfl⟩
    · obtain ⟨e1, e2⟩ := ihr _ hr h
      exact ⟨by rw [e1]; simp [ctxL, ctxR], e2⟩

theorem toList_child (x : Loc α β) (h1 : x.l = .nil ∨ x.r = .nil) :
    toList x.child = toList x.l ++ toList x.r := by
  unfold Loc.child
  rcases h1 with h1 | h1
  · rw [h1]; split <;> simp_all
  · rw [h1]; simp

theorem toList_spliceOut (x : Loc α β) (t' : T α β) (h1 : x.l = .nil ∨ x.r = .nil) (h : spliceOut x = some t') :
    toList t' = ctxL x.path ++ (toList x.l ++ toList x.r) ++ ctxR x.path := by
  have hp : ∀ p', (if x.c = .B then remFix x.path else some x.path) = some p' →
      ctxL p' = ctxL x.path ∧ ctxR p' = ctxR x.path := by
    intro p' hp
    split at hp
    · exact ctx_remFix _ _ hp
    · cases hp; exact ⟨rfl, rfl⟩
  rw [← toList_child x h1]
  revert h
  fun_cases spliceOut x with
  | case1 => nofun
  | case2 _ heq => intro h; cases h; rw [toList_setColor, ← (hp _ heq).1, ← (hp _ heq).2]; simp
  | case3 _ p' _ heq => intro h; cases h; rw [toList_plug, (hp _ heq).1, (hp _ heq).2]

theorem toList_remHereA (c : Color) (l : T α β) (nk : α) (nv : β) (r : T α β) (p : Path α β) (t' : T α β)
    (h : remHereA c l nk nv r p = some t') : toList t' = ctxL p ++ (toList l ++ toList r) ++ ctxR p := by
  cases l with
  | nil => exact toList_spliceOut _ _ (Or.inl rfl) h
  | node lc ll lk lv lr =>
    cases r with
    | nil => exact toList_spliceOut _ _ (Or.inr rfl) h
    | node rc rl rk rv rr =>
      -- two children: the predecessor (last of the left subtree) is unlinked, its binding stands where the node's was
      obtain ⟨pr, hpr, h1, h2, h3⟩ := maxLoc_spec (T.node lc ll lk lv lr) ([] : Path α β) nofun
      simp only [remHereA, hpr] at h
      -- `by exact`: the location must come from `h`, not from `h1` (which speaks of `pr`)
      rw [toList_spliceOut _ _ (Or.inr (by exact h1)) h]
      simp only [ctxL_append, ctxR_append, h1, h3, ctxL_nil, List.nil_append] at h2 ⊢
      rw [← h2]
      simp [ctxL, ctxR]

theorem toList_remAtA [TransCmp cmp] (t : T α β) (p : Path α β) (k : α) (hd : Desc cmp (toList t)) :
    (remAtA cmp t p k = some none → Spec.get cmp k (toList t) = none) ∧
    (∀ t', remAtA cmp t p k = some (some t') →
      (Spec.get cmp k (toList t)).isSome ∧ toList t' = ctxL p ++ Spec.rem cmp k (toList t) ++ ctxR p) := by
  induction t generalizing p with
  | nil => simp [remAtA, Spec.get]
  | node c l nk nv r ihl ihr =>
    obtain ⟨hl, hr, -⟩ := (desc_mid_iff (x := (nk, nv))).mp hd
    simp only [toList_node, Spec.rem_mid hd, Spec.get_mid hd, remAtA]
    cases cmp nk k
    · have := ihl ({ dir := .L, c := c, k := nk, v := nv, sib := r } :: p) hl
      refine ⟨this.1, fun t' ht' => ?_⟩
      obtain ⟨g1, g2⟩ := this.2 t' ht'
      exact ⟨g1, by rw [g2]; simp [ctxL, ctxR]⟩
    · refine ⟨by simp, fun t' ht' => ?_⟩
      simp only [Option.map_eq_some_iff, Option.some.injEq] at ht'
      obtain ⟨t'', hs, rfl⟩ := ht'
      exact ⟨rfl, toList_remHereA _ _ _ _ _ _ _ hs⟩
    · have := ihr ({ dir := .Rt, c := c, k := nk, v := nv, sib := l } :: p) hr
      refine ⟨this.1, fun t' ht' => ?_⟩
      obtain ⟨g1, g2⟩ := this.2 t' ht'
      exact ⟨g1, by rw [g2]; simp [ctxL, ctxR]⟩

/-- from the cursor `c` on, the walk `next` visits the bindings `l`, in this order, and then reaches Terminal -/
inductive Visits (next : Loc α β → Cursor α β) : Cursor α β → List (α × β) → Prop
  | term : Visits next none []
  | item (x : Loc α β) (l : List (α × β)) : Visits next (next x) l → Visits next (some x) ((x.k, x.v) :: l)

theorem Visits.of_none {next : Loc α β → Cursor α β} {l : List (α × β)} (h : Visits next none l) : l = [] := by
  cases h; rfl

/-- the forward walk through ONE SUBTREE `t` below the parents `p`: entered at the subtree's first node (`while (left != NULL)`)
    it visits `toList t` and then goes on as it does once it has climbed out of `t`; what the parents still hold is a
    hypothesis (`rest`).  Descending into the left child `l` puts the root of `t` on the path as a left parent, so climbing out
    of `l` stands on that node (`visit`); from there the walk enters the right child `r` with the node as a right parent, and
    climbing out of `r` is climbing out of `t`.  Every step is a reduction of the model. -/
theorem visits_fwd (t : T α β) (ht : t ≠ .nil) (p : Path α β) (rest : List (α × β))
    (h : Visits iterNext (climbNext t p) rest) : Visits iterNext (minLoc t p) (toList t ++ rest) := by
  induction t generalizing p rest with
  | nil => exact absurd rfl ht
  | node c l k v r ihl ihr =>
    have visit : Visits iterNext (some ⟨c, l, k, v, r, p⟩) ((k, v) :: toList r ++ rest) := by
      refine .item _ _ ?_
      cases r with
      | nil => exact h
      | node =>
        show Visits iterNext (minLoc _ (⟨.Rt, c, k, v, l⟩ :: p)) _
        exact ihr nofun _ rest h
    rw [toList_node, List.append_assoc]
    cases l with
    | nil => exact visit
    | node =>
      show Visits iterNext (minLoc _ (⟨.L, c, k, v, r⟩ :: p)) _
      exact ihl nofun _ _ visit

/-- … and the backward walk, entered at the subtree's last node (`Tree_Maximum`) -/
theorem visits_bwd (t : T α β) (ht : t ≠ .nil) (p : Path α β) (rest : List (α × β))
    (h : Visits iterPrev (climbPrev t p) rest) : Visits iterPrev (maxLoc t p) ((toList t).reverse ++ rest) := by
  induction t generalizing p rest with
  | nil => exact absurd rfl ht
  | node c l k v r ihl ihr =>
    have visit : Visits iterPrev (some ⟨c, l, k, v, r, p⟩) ((k, v) :: (toList l).reverse ++ rest) := by
      refine .item _ _ ?_
      cases l with
      | nil => exact h
      | node =>
        show Visits iterPrev (maxLoc _ (⟨.L, c, k, v, r⟩ :: p)) _
        exact ihl nofun _ rest h
    rw [toList_node, List.reverse_append, List.reverse_cons, List.append_assoc, List.append_assoc, List.singleton_append]
    cases r with
    | nil => exact visit
    | node =>
      show Visits iterPrev (maxLoc _ (⟨.Rt, c, k, v, l⟩ :: p)) _
      exact ihr nofun _ _ visit

theorem walk_of_visits {next : Loc α β → Cursor α β} {c : Cursor α β} {l : List (α × β)} (h : Visits next c l) :
    ∀ n, l.length ≤ n → walk next n c = (l, true) := by
  induction h with
  | term => intro n _; cases n <;> rfl
  | item x l _ ih =>
    intro n hn
    cases n with
    | zero => cases hn
    | succ n => simp only [walk, ih n (Nat.le_of_succ_le_succ hn)]

theorem iterInit_spec (m : Tree α β) (hn : size m.root = m.nitems) :
    ∃ c, m.iterInit = some c ∧ Visits iterNext c (toList m.root) := by
  unfold Tree.iterInit
  split
  · rename_i h0
    rw [(size_eq_zero_iff _).mp (hn.trans h0)]
    exact ⟨none, rfl, .term⟩
  · rename_i h0
    cases hr : m.root with
    | nil => exact absurd (by rw [← hn, hr]; rfl) h0
    | node c l k v r =>
      have h := visits_fwd (.node c l k v r) nofun [] [] .term
      rw [List.append_nil] at h
      cases hx : minLoc (T.node c l k v r) ([] : Path α β) with
      | none => exact absurd (hx ▸ h).of_none (by simp)
      | some x => exact ⟨some x, rfl, hx ▸ h⟩

theorem iterLast_spec (m : Tree α β) (hn : size m.root = m.nitems) :
    ∃ c, m.iterLast = some c ∧ Visits iterPrev c (toList m.root).reverse := by
  unfold Tree.iterLast
  split
  · rename_i h0
    rw [(size_eq_zero_iff _).mp (hn.trans h0)]
    exact ⟨none, rfl, .term⟩
  · rename_i h0
    cases hr : m.root with
    | nil => exact absurd (by rw [← hn, hr]; rfl) h0
    | node c l k v r =>
      have h := visits_bwd (.node c l k v r) nofun [] [] .term
      rw [List.append_nil] at h
      cases hx : maxLoc (T.node c l k v r) ([] : Path α β) with
      | none => exact absurd (hx ▸ h).of_none (by simp)
      | some x => exact ⟨some x, rfl, hx ▸ h⟩

theorem iterFwd_eq (m : Tree α β) (hn : size m.root = m.nitems) : m.iterFwd = some (toList m.root, true) := by
  obtain ⟨c, hc, ha⟩ := iterInit_spec m hn
  rw [Tree.iterFwd, hc, Option.map_some, walk_of_visits ha _ (by rw [← size_eq_length]; exact Nat.le_succ _)]

theorem iterBwd_eq (m : Tree α β) (hn : size m.root = m.nitems) : m.iterBwd = some ((toList m.root).reverse, true) := by
  obtain ⟨c, hc, hb⟩ := iterLast_spec m hn
  rw [Tree.iterBwd, hc, Option.map_some,
    walk_of_visits hb _ (by rw [List.length_reverse, ← size_eq_length]; exact Nat.le_succ _)]

end Cello.RB
