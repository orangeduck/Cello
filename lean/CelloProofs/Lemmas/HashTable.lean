/-
  Lemmas for C10: robin-hood insertion keeps the multiset of entries. Hence `Table_Assign` / `copy` of a Table with
  pairwise different keys yields a Table holding a permutation of the same entries (same abstract map, same hash), whatever
  the slot layouts are.
-/
import Cello.Hash
import CelloProofs.Lemmas.HashTree
import Mathlib.Data.List.Perm.Basic

namespace Cello.Hash

/-- overwriting slot `i` adds the new entry and sets the one it held (if any) free -/
theorem perm_set {α : Type} : ∀ (l : List (Option α)) (i : Nat) (o : Option α) (x : α), l[i]? = some o →
    (o.toList ++ (l.set i (some x)).filterMap id).Perm (x :: l.filterMap id)
  | [], _, _, _, h => by simp at h
  | a :: l, 0, o, x, h => by
    obtain rfl : a = o := by simpa using h
    cases a with
    | none => exact List.Perm.refl _
    | some s => exact List.Perm.swap x s _
  | a :: l, i + 1, o, x, h => by
    have ih := perm_set l i o x (by simpa using h)
    cases a with
    | none => exact ih
    | some y => exact List.perm_middle.trans ((ih.cons y).trans (List.Perm.swap x y _))

/-- pigeonhole: fewer occupied slots than slots leaves an empty one -/
theorem exists_none_of_lt {α : Type} (l : List (Option α)) (h : (l.filterMap id).length < l.length) :
    ∃ k, k < l.length ∧ l[k]? = some none := by
  rw [List.length_filterMap_eq_countP] at h
  have hne : ¬ ∀ a ∈ l, (id a).isSome = true := fun hall => Nat.lt_irrefl _ (List.countP_eq_length.2 hall ▸ h)
  obtain ⟨a, ha⟩ := Classical.not_forall.1 hne
  obtain ⟨ha, hn⟩ := Classical.not_imp.1 ha
  obtain ⟨k, hk, rfl⟩ := List.getElem_of_mem ha
  exact ⟨k, hk, (List.getElem?_eq_getElem hk).trans (congrArg some (Option.not_isSome_iff_eq_none.1 hn))⟩

def EntryKeysDistinct (addr : Nat → Bytes) (es : List (Scalar × Scalar)) : Prop :=
  es.Pairwise fun a b => keyEq addr a.1 b.1 = false ∧ keyEq addr b.1 a.1 = false

/-- the check the driver evaluates on Table states is the hypothesis of the Table theorems -/
theorem entryKeysDistinctB_iff (addr : Nat → Bytes) (es : List (Scalar × Scalar)) :
    entryKeysDistinctB addr es = true ↔ EntryKeysDistinct addr es := by
  induction es with
  | nil => simp [entryKeysDistinctB, EntryKeysDistinct]
  | cons e es ih =>
    simp only [entryKeysDistinctB, Bool.and_eq_true, List.all_eq_true, EntryKeysDistinct, List.pairwise_cons,
      Bool.not_eq_true']
    rw [show entryKeysDistinctB addr es = true ↔ List.Pairwise _ es from ih]

theorem EntryKeysDistinct.perm {addr : Nat → Bytes} {l₁ l₂ : List (Scalar × Scalar)} (p : l₁.Perm l₂)
    (h : EntryKeysDistinct addr l₁) : EntryKeysDistinct addr l₂ :=
  (List.Perm.pairwise_iff (fun hxy => ⟨hxy.2, hxy.1⟩) p).mp h

theorem entryKeysDistinct_of_apart {addr : Nat → Bytes} {es : List (Scalar × Scalar)} (h : es.Pairwise (KeysApart addr)) :
    EntryKeysDistinct addr es := by
  refine List.Pairwise.imp ?_ h
  intro a b hab
  obtain ⟨⟨c, hc, hne⟩, ⟨d, hd, hnd⟩⟩ := hab
  simp [keyEq, hc, hd, hne, hnd]

theorem getD_eq_of_toList {t : Table} {i : Nat} {o : Option Slot} (h : t.slots.toList[i]? = some o) :
    t.slots.getD i none = o := by
  rw [Array.getD_eq_getD_getElem?, ← Array.getElem?_toList, h]; rfl

theorem toList_of_getD {t : Table} {i : Nat} (hi : i < t.slots.size) :
    t.slots.toList[i]? = some (t.slots.getD i none) := by
  rw [Array.getD_eq_getD_getElem?, Array.getElem?_toList]
  simp [hi]

theorem entries_set (t : Table) {i : Nat} {o : Option Slot} (cur : Slot) (h : t.slots.toList[i]? = some o) :
    ((o.toList.map fun s => (s.k, s.v)) ++ Table.entries { t with slots := t.slots.setIfInBounds i (some cur) }).Perm
      ((cur.k, cur.v) :: t.entries) := by
  have := (perm_set _ i o cur h).map fun s : Slot => (s.k, s.v)
  simpa only [Table.entries, Table.entriesInSlotOrder, Array.toList_setIfInBounds, List.map_append, List.map_cons] using this

/-- `d`: the distance from `i` to an empty slot, where the loop ends at the latest; a round that goes on moves one slot nearer,
    so fuel above `d` suffices -/
theorem setMoveLoop_perm (addr : Nat → Bytes) : ∀ (fuel : Nat) (t : Table) (cur : Slot) (i j : Nat),
    t.slots.size = t.nslots → i < t.nslots →
    (∃ d, d < fuel ∧ t.slots.toList[(i + d) % t.nslots]? = some none) →
    EntryKeysDistinct addr ((cur.k, cur.v) :: t.entries) →
    (setMoveLoop addr fuel t cur i j).entries.Perm ((cur.k, cur.v) :: t.entries) ∧
      (setMoveLoop addr fuel t cur i j).slots.size = (setMoveLoop addr fuel t cur i j).nslots ∧
      (setMoveLoop addr fuel t cur i j).nslots = t.nslots := by
  intro fuel
  induction fuel with
  | zero => intro t cur i j _ _ hd _; obtain ⟨d, hd, _⟩ := hd; omega
  | succ fuel ih =>
    intro t cur i j hsz hi hd hdist
    have hisz : i < t.slots.size := by omega
    have hti := toList_of_getD hisz
    obtain ⟨d, hdlt, hdn⟩ := hd
    unfold setMoveLoop
    cases hslot : t.slots.getD i none with
    | none =>
      simp only []
      rw [hslot] at hti
      exact ⟨entries_set t cur hti, by simpa using hsz, by first | rfl | trivial⟩
    | some s =>
      simp only []
      rw [hslot] at hti
      have hperm := entries_set t cur hti
      -- the resident's key differs from the carried key
      have hs_mem : (s.k, s.v) ∈ t.entries :=
        List.mem_map.mpr ⟨s, List.mem_filterMap.mpr ⟨some s, List.mem_of_getElem? hti, rfl⟩, rfl⟩
      have hne : keyEq addr s.k cur.k = false := ((List.pairwise_cons.mp hdist).1 _ hs_mem).2
      simp only [hne, Bool.false_eq_true, if_false]
      -- the empty slot is not this one
      have hd0 : d ≠ 0 := by
        intro h0; subst h0
        simp only [Nat.add_zero, Nat.mod_eq_of_lt hi] at hdn
        rw [hti] at hdn; simp at hdn
      have hidx : ((i + 1) % t.nslots + (d - 1)) % t.nslots = (i + d) % t.nslots := by
        rw [Nat.mod_add_mod]; congr 1; omega
      have hi' : (i + 1) % t.nslots < t.nslots := Nat.mod_lt _ (by omega)
      by_cases hj : j > probe t.nslots i s.stored
      · -- displace the resident
        rw [if_pos hj]
        have hkne : (i + d) % t.nslots ≠ i := by
          intro hk; rw [hk, hti] at hdn; simp at hdn
        have := ih { t with slots := t.slots.setIfInBounds i (some cur) } s ((i + 1) % t.nslots)
          (probe t.nslots i s.stored + 1) (by simpa using hsz) hi'
          ⟨d - 1, by omega, by
            simp only [Array.toList_setIfInBounds]
            rw [hidx, List.getElem?_set_ne (Ne.symm hkne)]; exact hdn⟩
          (hdist.perm hperm.symm)
        exact ⟨this.1.trans hperm, this.2.1, this.2.2⟩
      · rw [if_neg hj]
        exact ih t cur ((i + 1) % t.nslots) (j + 1) hsz hi' ⟨d - 1, by omega, by rw [hidx]; exact hdn⟩ hdist

/-- `Table_Set_Move` of an entry whose key differs from all stored ones, into a Table with room for it and `n` more, adds
    exactly that entry and leaves room for `n` -/
theorem setMove_perm (addr : Nat → Bytes) (t : Table) (e : Scalar × Scalar) (n : Nat) (hsz : t.slots.size = t.nslots)
    (hroom : t.entries.length + (n + 1) < t.nslots) (hd : EntryKeysDistinct addr (e :: t.entries)) :
    (setMove addr t e.1 e.2).entries.Perm (e :: t.entries) ∧ (setMove addr t e.1 e.2).slots.size = (setMove addr t e.1 e.2).nslots ∧
      (setMove addr t e.1 e.2).entries.length + n < (setMove addr t e.1 e.2).nslots := by
  have hl : t.slots.toList.length = t.nslots := by rw [Array.length_toList, hsz]
  have hocc : t.entries.length = (t.slots.toList.filterMap id).length := List.length_map _
  obtain ⟨z, hzlt, hzn⟩ := exists_none_of_lt t.slots.toList (by omega)
  rw [hl] at hzlt
  clear hocc hl
  -- the free slot `z` is met within one round from any home slot `i`
  have hfree : ∀ i, i < t.nslots → ∃ d, d < 2 * t.nslots + 2 ∧ t.slots.toList[(i + d) % t.nslots]? = some none := fun i hi => by
    by_cases hle : i ≤ z
    · exact ⟨z - i, by omega, by rw [show i + (z - i) = z by omega, Nat.mod_eq_of_lt hzlt]; exact hzn⟩
    · exact ⟨z + t.nslots - i, by omega, by
        rw [show i + (z + t.nslots - i) = z + t.nslots by omega, Nat.add_mod_right, Nat.mod_eq_of_lt hzlt]; exact hzn⟩
  have hi : (scalarHash addr e.1).toNat % t.nslots < t.nslots := Nat.mod_lt _ (by omega)
  have key : (setMove addr t e.1 e.2).entries.Perm (e :: t.entries) ∧
      (setMove addr t e.1 e.2).slots.size = (setMove addr t e.1 e.2).nslots ∧ (setMove addr t e.1 e.2).nslots = t.nslots :=
    setMoveLoop_perm addr _ t _ _ 0 hsz hi (hfree _ hi) hd
  have hlen := key.1.length_eq
  rw [List.length_cons] at hlen
  exact ⟨key.1, key.2.1, by omega⟩

/-- the load factor `tableLoadNum / 10` is at most 1, so `Table_Ideal_Size` asks for more than `n` slots: a prime of the table at
    least that large, or behind the last prime a multiple of it -/
theorem lt_idealSize (n : Nat) : n < idealSize n := by
  have hload : 0 < CelloGen.Hash.tableLoadNum ∧ CelloGen.Hash.tableLoadNum ≤ 10 := by decide
  have hlast : 0 < CelloGen.Hash.tablePrimes.getLastD 1 := by decide
  unfold idealSize
  have hw : n + 1 ≤ (n + 1) * 10 / CelloGen.Hash.tableLoadNum :=
    (Nat.le_div_iff_mul_le hload.1).mpr (Nat.mul_le_mul_left _ hload.2)
  generalize (n + 1) * 10 / CelloGen.Hash.tableLoadNum = want at hw
  generalize CelloGen.Hash.tablePrimes.getLastD 1 = last at hlast
  simp only []
  cases hf : CelloGen.Hash.tablePrimes.find? (· ≥ want) with
  | some p =>
    have : want ≤ p := by simpa using List.find?_some hf
    exact Nat.lt_of_lt_of_le hw this
  | none =>
    -- `want` rounded up to a multiple of `last`
    simp only [Nat.ne_of_gt hlast, if_false]
    have := Nat.div_add_mod (want + last - 1) last
    have := Nat.mod_lt (want + last - 1) hlast
    rw [Nat.mul_comm]
    omega

theorem tableOfEntries_perm (addr : Nat → Bytes) (es : List (Scalar × Scalar)) (hd : EntryKeysDistinct addr es) :
    (tableOfEntries addr es).entries.Perm es := by
  unfold tableOfEntries
  have hlt := lt_idealSize es.length
  generalize idealSize es.length = n at hlt ⊢
  have h0 : Table.entries ⟨n, Array.replicate n none, 0⟩ = [] := by
    simp [Table.entries, Table.entriesInSlotOrder, List.filterMap_replicate_of_none]
  -- the invariant: the Table has room for what it holds and what is still to come
  have := foldl_insert_perm (α := Scalar × Scalar) (fun acc e => setMove addr acc e.1 e.2) Table.entries (fun h => ⟨h.2, h.1⟩)
    (fun acc rest => acc.slots.size = acc.nslots ∧ acc.entries.length + rest.length < acc.nslots)
    (fun acc e rest h hd => setMove_perm addr acc e rest.length h.1 h.2 hd)
    es ⟨n, Array.replicate n none, 0⟩ ⟨by simp, by rw [h0]; simpa using hlt⟩ (by rw [h0]; exact hd)
  rw [h0] at this
  simpa [show ¬ n = 0 by omega] using this

end Cello.Hash
