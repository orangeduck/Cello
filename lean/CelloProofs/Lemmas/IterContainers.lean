/- The containers of C11: Array and Tuple (no object twice) as instances of `Cursor` (IterRun); List, whose machine is the Array's;
   Table by its two slot scans (`table_fwd_scan`, `scanDown_run`); that a Tuple answers Terminal to a Terminal cursor (`tuple_abs`) -/
import CelloProofs.Lemmas.IterRun

namespace Cello.Iter

variable {α : Type}

theorem atIdx_lt (l : List α) (i : Nat) (h : i < l.length) : atIdx l i = (some i, .item l[i]) := by
  simp [atIdx, List.getElem?_eq_getElem h]

theorem array_cursor (l : List α) : Cursor (arrayI l) l some where
  init_nil := by rintro rfl s; rfl
  last_nil := by rintro rfl s; rfl
  init h s := by simp only [arrayI, if_neg (show ¬ l.length = 0 by omega), atIdx_lt l 0 h]
  last h s := by simp only [arrayI, if_neg (show ¬ l.length = 0 by omega), atIdx_lt l _ (show l.length - 1 < l.length by omega)]
  next i h := by simp only [arrayI, if_neg (show ¬ i + 1 ≥ l.length by omega), atIdx_lt l (i + 1) h]
  prev i h := by simp only [arrayI, if_neg (show ¬ i + 1 ≤ 0 by omega), Nat.add_sub_cancel, atIdx_lt l i (by omega)]
  next_end i h := by simp only [arrayI, if_pos (show i + 1 ≥ l.length by omega)]
  prev_end _ := by simp only [arrayI, Nat.le_refl, if_true]

/-- Array_Get, List_Get (List_At), Tuple_Get are `getIdx` on the elements -/
theorem array_getFull (l : List α) : GetFullAs (arrayI l) l := fun _ hg _ => Option.some.inj hg ▸ rfl
theorem list_getFull (l : List α) : GetFullAs (listI l) l := fun _ hg _ => Option.some.inj hg ▸ rfl
theorem tuple_getFull (ids : List Nat) : GetFullAs (tupleI ids) ids := fun _ hg _ => Option.some.inj hg ▸ rfl

theorem array_lawfulAs (l : List α) : LawfulAs (arrayI l) l :=
  .of_lg (array_cursor l).fwd (array_cursor l).bwd ⟨fun _ hn => (Option.some.inj hn).symm, (array_getFull l).get⟩

/-- with the nodes numbered along the chain, List_Iter_Next / _Prev (follow the link word, NULL = Terminal) are the machine of
    the Array (compare with the last / first cell): the two tests are written differently and decide the same -/
theorem listI_eq_arrayI (l : List α) : listI l = arrayI l := by
  have hn : (listI l).next = (arrayI l).next := by
    funext s
    cases s with
    | none => rfl
    | some i =>
      simp only [listI, arrayI]
      by_cases h : i + 1 < l.length
      · rw [if_pos h, if_neg (by omega)]
      · rw [if_neg h, if_pos (by omega)]
  have hp : (listI l).prev = (arrayI l).prev := by
    funext s
    cases s with
    | none => rfl
    | some i => cases i <;> rfl
  calc listI l = { arrayI l with next := (listI l).next, prev := (listI l).prev } := rfl
    _ = arrayI l := by rw [hn, hp]

theorem list_lawfulAs (l : List α) : LawfulAs (listI l) l := listI_eq_arrayI l ▸ array_lawfulAs l

theorem tupNext_nodup : ∀ (ids : List Nat), ids.Nodup → ∀ (i : Nat) (h : i < ids.length),
    tupNext ids ids[i] = ids[i + 1]? := by
  intro ids
  induction ids with
  | nil => intro _ i h; simp at h
  | cons x t ih =>
    intro hnd i h
    have hx : x ∉ t := (List.nodup_cons.mp hnd).1
    have ht : t.Nodup := (List.nodup_cons.mp hnd).2
    cases i with
    | zero => simp [tupNext, List.head?_eq_getElem?]
    | succ i =>
      have hi : i < t.length := by simpa using h
      have hne : x ≠ t[i] := fun e => hx (e ▸ List.getElem_mem hi)
      simp only [List.getElem_cons_succ, tupNext, hne, if_false]
      rw [ih ht i hi]; simp

theorem tupPrevGo_nodup : ∀ (ids : List Nat), ids.Nodup → ∀ (i : Nat) (h : i + 1 < ids.length),
    tupPrevGo ids ids[i + 1] = some ids[i] := by
  intro ids
  induction ids with
  | nil => intro _ i h; simp at h
  | cons x t ih =>
    intro hnd i h
    have ht : t.Nodup := (List.nodup_cons.mp hnd).2
    cases t with
    | nil => simp at h
    | cons y t' =>
      cases i with
      | zero => simp [tupPrevGo]
      | succ i =>
        have hi : i + 1 < (y :: t').length := by simpa using h
        have hm : (y :: t')[i + 1] ∈ t' := List.getElem_mem (l := t') (Nat.lt_of_succ_lt_succ hi)
        have hne : y ≠ (y :: t')[i + 1] := fun e => (List.nodup_cons.mp ht).1 (e ▸ hm)
        show tupPrevGo (x :: y :: t') (y :: t')[i + 1] = some (y :: t')[i]
        simp only [tupPrevGo, hne, if_false]
        exact ih ht i hi

theorem tuple_cursor (ids : List Nat) (hnd : ids.Nodup) : Cursor (tupleI ids) ids (fun i => ids[i]?) where
  init_nil := by rintro rfl s; rfl
  last_nil := by rintro rfl s; rfl
  init h s := by simp only [tupleI, List.head?_eq_getElem?, List.getElem?_eq_getElem h, idRes]
  last h s := by
    have hl : ids.length - 1 < ids.length := by omega
    simp only [tupleI, if_neg (show ¬ ids.length = 0 by omega), List.getLast?_eq_getElem?, List.getElem?_eq_getElem hl, idRes]
  next i h := by
    have hi : i < ids.length := by omega
    simp only [List.getElem?_eq_getElem hi, tupleI, tupNext_nodup ids hnd i hi, List.getElem?_eq_getElem h, idRes]
  prev i h := by
    have h0 : 0 < ids.length := by omega
    -- the pointer of element `i+1` is not `items[0]`: no object occurs twice
    have hne : ¬ (ids.head? = some ids[i + 1]) := by
      rw [List.head?_eq_getElem?, List.getElem?_eq_getElem h0, Option.some.injEq]
      exact fun e => absurd ((List.getElem_inj hnd).mp e) (by omega)
    simp only [List.getElem?_eq_getElem h, tupleI, if_neg hne, tupPrevGo_nodup ids hnd i h,
      List.getElem?_eq_getElem (show i < ids.length by omega), idRes]
  next_end i h := by
    have hi : i < ids.length := by omega
    simp only [List.getElem?_eq_getElem hi, tupleI, tupNext_nodup ids hnd i hi, List.getElem?_eq_none (Nat.le_of_eq h.symm), idRes]
  prev_end h := by simp only [List.getElem?_eq_getElem h, tupleI, List.head?_eq_getElem?, if_true]

theorem tuple_lenGet (ids : List Nat) : LenGetAs (tupleI ids) ids :=
  ⟨fun _ hn => (Option.some.inj hn).symm, (tuple_getFull ids).get⟩

theorem tuple_lawfulAs (ids : List Nat) (hnd : ids.Nodup) : LawfulAs (tupleI ids) ids :=
  .of_lg (tuple_cursor ids hnd).fwd (tuple_cursor ids hnd).bwd (tuple_lenGet ids)

/-- the forward slot scan; `pre` is the part of the slot array already passed -/
theorem table_fwd_scan (slots : List (Option α)) : ∀ (t pre : List (Option α)), slots = pre ++ t →
    Run (tableI slots).next (scanRes (scanUp t pre.length)) (t.filterMap id) := by
  intro t
  induction t with
  | nil => intro pre _; exact Run.term _
  | cons x t ih =>
    intro pre hs
    cases x with
    | none =>
      have := ih (pre ++ [none]) (by simp [hs])
      simpa [scanUp] using this
    | some a =>
      simp only [scanUp, scanRes, List.filterMap_cons_some (show id (some a) = some a from rfl)]
      refine Run.item _ _ _ ?_
      have hd : slots.drop (pre.length + 1) = t := by
        rw [hs]
        have : pre ++ some a :: t = (pre ++ [some a]) ++ t := by simp
        rw [this]
        have hl : (pre ++ [some a]).length = pre.length + 1 := by simp
        rw [← hl, List.drop_left]
      have := ih (pre ++ [some a]) (by simp [hs])
      have hl : (pre ++ [some a]).length = pre.length + 1 := by simp
      rw [hl] at this
      show Run (tableI slots).next (scanRes (scanUp (slots.drop (pre.length + 1)) (pre.length + 1))) _
      rw [hd]; exact this

theorem scanDown_succ (slots : List (Option α)) (j : Nat) (hj : j < slots.length) :
    scanDown slots (j + 1) = match slots[j] with
      | some a => some (j, a)
      | none => scanDown slots j := by
  simp only [scanDown, List.getElem?_eq_getElem hj]
  cases slots[j] <;> rfl

/-- the backward slot scan, for any step function that scans down from the cursor as Table_Iter_Prev does (the hand model and
    the loop program extracted from src/Table.c) -/
theorem scanDown_run (slots : List (Option α)) (step : Option Nat → Option Nat × Res α)
    (hstep : ∀ i, i < slots.length → step (some i) = scanRes (scanDown slots i)) : ∀ (i : Nat),
    Run step (scanRes (scanDown slots i)) ((slots.take i).filterMap id).reverse := by
  intro i
  induction i with
  | zero => exact Run.term _
  | succ i ih =>
    rw [List.take_add_one]
    cases hx : slots[i]? with
    | none => simpa [scanDown, hx] using ih
    | some x =>
      cases x with
      | none => simpa [scanDown, hx] using ih
      | some a =>
        simp only [scanDown, hx, scanRes, Option.toList_some, List.filterMap_append, List.reverse_append]
        refine Run.item _ _ _ ?_
        rw [hstep i (List.getElem?_eq_some_iff.mp hx).1]
        simpa using ih

theorem table_bwd_run (slots : List (Option α)) (step : Option Nat → Option Nat × Res α)
    (hstep : ∀ i, i < slots.length → step (some i) = scanRes (scanDown slots i)) (s : Option Nat) :
    Run step ((tableI slots).last s) (occupied slots).reverse := by
  dsimp only [tableI]
  split
  · next h0 =>
    have : occupied slots = [] := List.length_eq_zero_iff.mp h0
    rw [this]; exact Run.term _
  · have := scanDown_run slots step hstep slots.length
    rw [List.take_length] at this; exact this

theorem table_lawfulAs (slots : List (Option α)) : LawfulAs (tableI slots) (occupied slots) := by
  refine ⟨?_, table_bwd_run slots _ (fun _ _ => rfl), ?_, ?_⟩
  · intro s
    dsimp only [tableI]
    split
    · next h0 =>
      have : occupied slots = [] := List.length_eq_zero_iff.mp h0
      rw [this]; exact Run.term _
    · exact table_fwd_scan slots slots [] rfl
  · exact fun _ hn => (Option.some.inj hn).symm
  · exact fun _ hg => nomatch hg

theorem idRes_term_state {o : Option Nat} (h : (idRes o).2 = .term) : (idRes o).1 = none := by
  cases o with
  | none => rfl
  | some x => simp [idRes] at h

/-- whichever of the four functions answers Terminal leaves the state `none`, from which Next / Prev answer Terminal again: the states
    that `Run.traces` asks for in `tuple_abs` (the forward pair Init, Next; then the backward pair Last, Prev) -/
theorem tuple_term_none (ids : List Nat) (s : Option Nat) :
    ((((tupleI ids).init s).2 = .term → ((tupleI ids).init s).1 = none) ∧
     (((tupleI ids).next s).2 = .term → ((tupleI ids).next s).1 = none)) ∧
    (((tupleI ids).last s).2 = .term → ((tupleI ids).last s).1 = none) ∧
    (((tupleI ids).prev s).2 = .term → ((tupleI ids).prev s).1 = none) := by
  refine ⟨⟨idRes_term_state, ?_⟩, ?_, ?_⟩
  · cases s with
    | none => exact fun _ => rfl
    | some c => exact idRes_term_state
  · simp only [tupleI]
    split
    · exact fun _ => rfl
    · exact idRes_term_state
  · cases s with
    | none => exact fun _ => rfl
    | some c =>
      simp only [tupleI]
      split
      · exact fun _ => rfl
      · exact idRes_term_state

/-- Tuple_Iter_Next / _Prev search for the pointer, find nothing and answer Terminal -/
theorem tuple_abs (ids : List Nat) (hnd : ids.Nodup) : AbsFwdAs (tupleI ids) ids ∧ AbsBwdAs (tupleI ids) ids := by
  have hl := tuple_lawfulAs ids hnd
  exact ⟨⟨hl.fwd, fun _ s => Run.traces (· = none) (fun _ e => by subst e; exact ⟨rfl, rfl⟩) (fun s => (tuple_term_none ids s).1.2) (hl.fwd s)
      (tuple_term_none ids s).1.1⟩,
    ⟨hl.bwd, fun _ s => Run.traces (· = none) (fun _ e => by subst e; exact ⟨rfl, rfl⟩) (fun s => (tuple_term_none ids s).2.2) (hl.bwd s)
      (tuple_term_none ids s).2.1⟩⟩

end Cello.Iter
