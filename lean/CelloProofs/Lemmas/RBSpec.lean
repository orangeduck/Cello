/-
  Lemmas/RBSpec.lean — the specification of C03: strictly descending association lists (`Desc`; `Spec.set`, `Spec.get` /
  `Spec.getKV`, `Spec.rem` of Cello/RBTree.lean) under a lawful comparison.  A `…_mid` lemma says what an operation does at a
  middle binding of a descending list, which is one step of the tree's descent.  From `mem_set` on: the lists are themselves
  an ordered finite map (`C03_spec_is_ordered_map`).
-/
import Cello.RBTree

namespace Cello.RB
open Std
variable {α β : Type} {cmp : α → α → Ordering}

/-- strictly descending keys (the order in which Tree.c keeps them left → right) -/
def Desc (cmp : α → α → Ordering) (l : List (α × β)) : Prop := l.Pairwise (fun a b => cmp a.1 b.1 = .gt)

theorem Desc.nil : Desc cmp ([] : List (α × β)) := List.Pairwise.nil

theorem desc_cons {a : α × β} {B : List (α × β)} :
    Desc cmp (a :: B) ↔ (∀ b ∈ B, cmp a.1 b.1 = .gt) ∧ Desc cmp B :=
  List.pairwise_cons

theorem desc_mid_iff {A B : List (α × β)} {x : α × β} :
    Desc cmp (A ++ x :: B) ↔ Desc cmp A ∧ Desc cmp B ∧ (∀ a ∈ A, cmp a.1 x.1 = .gt) ∧ (∀ b ∈ B, cmp x.1 b.1 = .gt) ∧
      ∀ a ∈ A, ∀ b ∈ B, cmp a.1 b.1 = .gt := by
  rw [Desc, List.pairwise_append, List.pairwise_cons]
  constructor
  · rintro ⟨hA, ⟨hx, hB⟩, hAB⟩
    exact ⟨hA, hB, fun a ha => hAB a ha x List.mem_cons_self, hx, fun a ha b hb => hAB a ha b (List.mem_cons_of_mem _ hb)⟩
  · rintro ⟨hA, hB, hAx, hxB, hAB⟩
    exact ⟨hA, ⟨hxB, hB⟩, fun a ha b hb => (List.mem_cons.mp hb).elim (fun e => e ▸ hAx a ha) (hAB a ha b)⟩

theorem desc_split [TransCmp cmp] {A B : List (α × β)} {x : α × β} (hd : Desc cmp (A ++ x :: B)) (k : α) :
    (cmp x.1 k = .lt → ∀ b ∈ B, cmp b.1 k = .lt) ∧ (cmp x.1 k ≠ .lt → ∀ a ∈ A, cmp a.1 k = .gt) := by
  obtain ⟨-, -, hAx, hxB, -⟩ := desc_mid_iff.mp hd
  refine ⟨fun hc b hb => TransCmp.lt_trans (OrientedCmp.lt_of_gt (hxB b hb)) hc, fun hc a ha => ?_⟩
  cases hx : cmp x.1 k with
  | lt => exact absurd hx hc
  | eq => exact TransCmp.gt_of_gt_of_eq (hAx a ha) hx
  | gt => exact TransCmp.gt_trans (hAx a ha) hx

namespace Spec

theorem set_append_lt (k : α) (v : β) (A B : List (α × β)) (x : α × β) (hx : cmp x.1 k = .lt) :
    set cmp k v (A ++ x :: B) = set cmp k v A ++ x :: B := by
  induction A with
  | nil => obtain ⟨xk, xv⟩ := x; simp_all [set]
  | cons a A ih =>
    obtain ⟨ak, av⟩ := a
    simp only [List.cons_append, set]
    cases cmp ak k <;> simp [ih]

theorem set_append_of_gt (k : α) (v : β) (A L : List (α × β)) (hA : ∀ a ∈ A, cmp a.1 k = .gt) :
    set cmp k v (A ++ L) = A ++ set cmp k v L := by
  induction A with
  | nil => rfl
  | cons a A ih =>
    simp only [List.cons_append, set, hA a (by simp)]
    rw [ih (fun a ha => hA a (by simp [ha]))]

theorem set_mid [TransCmp cmp] {A B : List (α × β)} {x : α × β} (hd : Desc cmp (A ++ x :: B)) (k : α) (v : β) :
    set cmp k v (A ++ x :: B) = match cmp x.1 k with
      | .lt => set cmp k v A ++ x :: B
      | .eq => A ++ (k, v) :: B
      | .gt => A ++ x :: set cmp k v B := by
  obtain ⟨hB, hA⟩ := desc_split hd k
  obtain ⟨xk, xv⟩ := x
  cases hc : cmp xk k
  · exact set_append_lt k v A B (xk, xv) hc
  · rw [set_append_of_gt k v A _ (hA (by rw [hc]; nofun))]; simp only [set, hc]
  · rw [set_append_of_gt k v A _ (hA (by rw [hc]; nofun))]; simp only [set, hc]

theorem get_eq_getKV (k : α) (l : List (α × β)) : get cmp k l = (getKV cmp k l).map Prod.snd := by
  induction l with
  | nil => rfl
  | cons a l ih =>
    obtain ⟨ak, av⟩ := a
    simp only [get, getKV]
    split
    · rfl
    · exact ih

theorem getKV_none_of_ne (k : α) (B : List (α × β)) (hB : ∀ b ∈ B, cmp b.1 k ≠ .eq) : getKV cmp k B = none := by
  induction B with
  | nil => rfl
  | cons b B ih =>
    simp only [getKV, if_neg (hB b (by simp))]
    exact ih (fun b hb => hB b (by simp [hb]))

theorem get_none_of_ne (k : α) (B : List (α × β)) (hB : ∀ b ∈ B, cmp b.1 k ≠ .eq) : get cmp k B = none := by
  rw [get_eq_getKV, getKV_none_of_ne k B hB]; rfl

theorem get_none_of_lt (k : α) (B : List (α × β)) (hB : ∀ b ∈ B, cmp b.1 k = .lt) : get cmp k B = none :=
  get_none_of_ne k B (fun b hb h => by rw [hB b hb] at h; cases h)

theorem get_none_of_gt (k : α) (B : List (α × β)) (hB : ∀ b ∈ B, cmp b.1 k = .gt) : get cmp k B = none :=
  get_none_of_ne k B (fun b hb h => by rw [hB b hb] at h; cases h)

theorem getKV_append_lt (k : α) (A B : List (α × β)) (x : α × β) (hx : cmp x.1 k = .lt)
    (hB : ∀ b ∈ B, cmp b.1 k = .lt) : getKV cmp k (A ++ x :: B) = getKV cmp k A := by
  induction A with
  | nil =>
    have := getKV_none_of_ne (cmp := cmp) k B (fun b hb h => by rw [hB b hb] at h; cases h)
    simp [getKV, hx, this]
  | cons a A ih => simp only [List.cons_append, getKV, ih]

theorem getKV_append_of_gt (k : α) (A L : List (α × β)) (hA : ∀ a ∈ A, cmp a.1 k = .gt) :
    getKV cmp k (A ++ L) = getKV cmp k L := by
  induction A with
  | nil => rfl
  | cons a A ih =>
    simp only [List.cons_append, getKV, hA a (by simp), reduceCtorEq, if_false]
    exact ih (fun a ha => hA a (by simp [ha]))

theorem getKV_mid [TransCmp cmp] {A B : List (α × β)} {x : α × β} (hd : Desc cmp (A ++ x :: B)) (k : α) :
    getKV cmp k (A ++ x :: B) = match cmp x.1 k with
      | .lt => getKV cmp k A
      | .eq => some x
      | .gt => getKV cmp k B := by
  obtain ⟨hB, hA⟩ := desc_split hd k
  obtain ⟨xk, xv⟩ := x
  cases hc : cmp xk k
  · exact getKV_append_lt k A B (xk, xv) hc (hB hc)
  · rw [getKV_append_of_gt k A _ (hA (by rw [hc]; nofun))]; simp only [getKV, hc, if_true]
  · rw [getKV_append_of_gt k A _ (hA (by rw [hc]; nofun))]; simp only [getKV, hc, reduceCtorEq, if_false]

theorem get_mid [TransCmp cmp] {A B : List (α × β)} {x : α × β} (hd : Desc cmp (A ++ x :: B)) (k : α) :
    get cmp k (A ++ x :: B) = match cmp x.1 k with
      | .lt => get cmp k A
      | .eq => some x.2
      | .gt => get cmp k B := by
  rw [get_eq_getKV, getKV_mid hd]
  cases cmp x.1 k
  · exact (get_eq_getKV k A).symm
  · rfl
  · exact (get_eq_getKV k B).symm

theorem getKV_mem (k : α) (l : List (α × β)) (e : α × β) (h : getKV cmp k l = some e) : e ∈ l ∧ cmp e.1 k = .eq := by
  fun_induction getKV cmp k l with
  | case1 => cases h
  | case2 k' v' l hc => cases h; exact ⟨List.mem_cons_self, hc⟩
  | case3 k' v' l hc ih => exact ⟨List.mem_cons_of_mem _ (ih h).1, (ih h).2⟩

theorem rem_of_ne (k : α) (B : List (α × β)) (hB : ∀ b ∈ B, cmp b.1 k ≠ .eq) : rem cmp k B = B := by
  induction B with
  | nil => rfl
  | cons b B ih =>
    simp only [rem, if_neg (hB b (by simp))]
    rw [ih (fun b hb => hB b (by simp [hb]))]

theorem rem_of_lt (k : α) (B : List (α × β)) (hB : ∀ b ∈ B, cmp b.1 k = .lt) : rem cmp k B = B :=
  rem_of_ne k B (fun b hb h => by rw [hB b hb] at h; cases h)

theorem rem_of_gt (k : α) (B : List (α × β)) (hB : ∀ b ∈ B, cmp b.1 k = .gt) : rem cmp k B = B :=
  rem_of_ne k B (fun b hb h => by rw [hB b hb] at h; cases h)

theorem rem_append_lt (k : α) (A B : List (α × β)) (x : α × β) (hx : cmp x.1 k = .lt)
    (hB : ∀ b ∈ B, cmp b.1 k = .lt) : rem cmp k (A ++ x :: B) = rem cmp k A ++ x :: B := by
  induction A with
  | nil =>
    obtain ⟨xk, xv⟩ := x
    simp only [List.nil_append, rem, (hx : cmp xk k = .lt), reduceCtorEq, if_false, rem_of_lt k B hB]
  | cons a A ih =>
    obtain ⟨ak, av⟩ := a
    simp only [List.cons_append, rem, ih]
    split <;> rfl

theorem rem_append_of_gt (k : α) (A L : List (α × β)) (hA : ∀ a ∈ A, cmp a.1 k = .gt) :
    rem cmp k (A ++ L) = A ++ rem cmp k L := by
  induction A with
  | nil => rfl
  | cons a A ih =>
    simp only [List.cons_append, rem, hA a (by simp), reduceCtorEq, if_false]
    rw [ih (fun a ha => hA a (by simp [ha]))]

theorem rem_mid [TransCmp cmp] {A B : List (α × β)} {x : α × β} (hd : Desc cmp (A ++ x :: B)) (k : α) :
    rem cmp k (A ++ x :: B) = match cmp x.1 k with
      | .lt => rem cmp k A ++ x :: B
      | .eq => A ++ B
      | .gt => A ++ x :: rem cmp k B := by
  obtain ⟨hB, hA⟩ := desc_split hd k
  obtain ⟨xk, xv⟩ := x
  cases hc : cmp xk k
  · exact rem_append_lt k A B (xk, xv) hc (hB hc)
  · rw [rem_append_of_gt k A _ (hA (by rw [hc]; nofun))]; simp only [rem, hc, if_true]
  · rw [rem_append_of_gt k A _ (hA (by rw [hc]; nofun))]; simp only [rem, hc, reduceCtorEq, if_false]

theorem mem_set {k : α} {v : β} {l : List (α × β)} {b : α × β} (h : b ∈ set cmp k v l) : b = (k, v) ∨ b ∈ l := by
  fun_induction set cmp k v l with
  | case1 => exact Or.inl (List.mem_singleton.mp h)
  | case2 k' v' l hc => exact (List.mem_cons.mp h).imp_right (List.mem_cons_of_mem _)
  | case3 k' v' l hc => exact List.mem_cons.mp h
  | case4 k' v' l hc ih =>
    rcases List.mem_cons.mp h with h | h
    · exact Or.inr (h ▸ List.mem_cons_self)
    · exact (ih h).imp_right (List.mem_cons_of_mem _)

theorem desc_set [TransCmp cmp] (k : α) (v : β) (l : List (α × β)) (h : Desc cmp l) : Desc cmp (set cmp k v l) := by
  fun_induction set cmp k v l with
  | case1 => simp [Desc]
  | case2 k' v' l hc =>
    obtain ⟨h1, h2⟩ := desc_cons.mp h
    exact desc_cons.mpr ⟨fun b hb => by rw [← TransCmp.congr_left hc]; exact h1 b hb, h2⟩
  | case3 k' v' l hc =>
    obtain ⟨h1, h2⟩ := desc_cons.mp h
    refine desc_cons.mpr ⟨fun b hb => ?_, h⟩
    rcases List.mem_cons.mp hb with rfl | hb
    · exact OrientedCmp.gt_of_lt hc
    · exact TransCmp.gt_trans (OrientedCmp.gt_of_lt hc) (h1 b hb)
  | case4 k' v' l hc ih =>
    obtain ⟨h1, h2⟩ := desc_cons.mp h
    refine desc_cons.mpr ⟨fun b hb => ?_, ih h2⟩
    rcases mem_set hb with rfl | hb
    · exact hc
    · exact h1 b hb

theorem length_set [TransCmp cmp] (k : α) (v : β) (l : List (α × β)) (h : Desc cmp l) :
    (set cmp k v l).length = l.length + (if (get cmp k l).isNone then 1 else 0) := by
  fun_induction set cmp k v l with
  | case1 => rfl
  | case2 k' v' l hc => simp [get, hc]
  | case3 k' v' l hc =>
    have : get cmp k l = none :=
      get_none_of_lt k l (fun b hb => TransCmp.lt_trans (OrientedCmp.lt_of_gt ((desc_cons.mp h).1 b hb)) hc)
    simp [get, hc, this]
  | case4 k' v' l hc ih =>
    simp only [get, hc, reduceCtorEq, if_false, List.length_cons, ih (desc_cons.mp h).2]
    exact Nat.add_right_comm _ _ _

theorem set_all_gt (k : α) (v : β) (l : List (α × β)) (h : ∀ a ∈ l, cmp a.1 k = .gt) :
    set cmp k v l = l ++ [(k, v)] := by
  rw [← List.append_nil l, set_append_of_gt k v l [] h, List.append_nil]; rfl

theorem rem_sublist (k : α) (l : List (α × β)) : (rem cmp k l).Sublist l := by
  fun_induction rem cmp k l with
  | case1 => exact List.Sublist.slnil
  | case2 k' v' l hc => exact List.sublist_cons_self _ _
  | case3 k' v' l hc ih => exact ih.cons_cons _

theorem desc_rem (k : α) (l : List (α × β)) (h : Desc cmp l) : Desc cmp (rem cmp k l) :=
  List.Pairwise.sublist (rem_sublist k l) h

theorem length_rem (k : α) (l : List (α × β)) (h : (get cmp k l).isSome) : (rem cmp k l).length + 1 = l.length := by
  fun_induction rem cmp k l with
  | case1 => cases h
  | case2 k' v' l hc => rfl
  | case3 k' v' l hc ih => rw [get, if_neg hc] at h; exact congrArg (· + 1) (ih h)

theorem get_of_mem [TransCmp cmp] (k : α) (v : β) (l : List (α × β)) (h : Desc cmp l) (hm : (k, v) ∈ l) :
    get cmp k l = some v := by
  fun_induction get cmp k l with
  | case1 => cases hm
  | case2 k' v' l hc =>
    rcases List.mem_cons.mp hm with heq | hm
    · cases heq; rfl
    · have := (desc_cons.mp h).1 _ hm
      rw [hc] at this; cases this
  | case3 k' v' l hc ih =>
    rcases List.mem_cons.mp hm with heq | hm
    · cases heq; exact absurd ReflCmp.compare_self hc
    · exact ih (desc_cons.mp h).2 hm

theorem get_set [TransCmp cmp] (k k' : α) (v : β) (l : List (α × β)) :
    get cmp k' (set cmp k v l) = if cmp k k' = .eq then some v else get cmp k' l := by
  fun_induction set cmp k v l with
  | case1 => simp [get]
  | case2 ak av l hc => simp only [get, TransCmp.congr_left hc]; split <;> rfl
  | case3 ak av l hc => simp only [get]
  | case4 ak av l hc ih =>
    simp only [get, ih]
    by_cases hk : cmp k k' = .eq
    · have : cmp ak k' = .gt := by rw [← TransCmp.congr_right hk]; exact hc
      simp [hk, this]
    · simp [hk]

theorem get_rem [TransCmp cmp] (k k' : α) (l : List (α × β)) (h : Desc cmp l) :
    get cmp k' (rem cmp k l) = if cmp k k' = .eq then none else get cmp k' l := by
  fun_induction rem cmp k l with
  | case1 => simp [get]
  | case2 ak av l hc =>
    simp only [get, TransCmp.congr_left hc]
    split
    · rename_i hk
      -- everything behind the removed binding is smaller than `k'`
      refine get_none_of_lt k' l (fun b hb => ?_)
      have h3 := (desc_cons.mp h).1 b hb
      rw [TransCmp.congr_left hc, TransCmp.congr_left hk] at h3
      exact OrientedCmp.lt_of_gt h3
    · rfl
  | case3 ak av l hc ih =>
    simp only [get, ih (desc_cons.mp h).2]
    by_cases hk : cmp k k' = .eq
    · have : ¬ cmp ak k' = .eq := by rw [← TransCmp.congr_right hk]; exact hc
      simp [hk, this]
    · simp [hk]

end Spec
end Cello.RB
