/-
  Lemmas for C10: element memory. A value read back from its own words is the value; a memcpy whose width covers the whole
  element (as the widths extracted from the source do, for every layout) moves the element: `treeRelocate`, `copySlot`,
  `loadSlot`, the memmoves of `arrayPopAt` / `arrayPushAt`.
-/
import Cello.Hash

namespace Cello.Hash

def Sized (w : Nat) (s : Scalar) : Prop := (scalarCells s).length = w

def EntrySized (L : Layout) (e : Scalar × Scalar) : Prop := Sized L.kw e.1 ∧ Sized L.vw e.2

instance (w : Nat) (s : Scalar) : Decidable (Sized w s) := by unfold Sized; infer_instance
instance (L : Layout) (e : Scalar × Scalar) : Decidable (EntrySized L e) := by unfold EntrySized; infer_instance

theorem sizedB_iff (w : Nat) (s : Scalar) : sizedB w s = true ↔ Sized w s := by simp [sizedB, Sized]

theorem entrySizedB_iff (L : Layout) (e : Scalar × Scalar) : entrySizedB L e = true ↔ EntrySized L e := by
  simp [entrySizedB, EntrySized, sizedB_iff]

theorem rawCells_length (n : Nat) (b : Bytes) : (rawCells n b).length = n := by
  induction n generalizing b with
  | zero => rfl
  | succ n ih => simp [rawCells, ih]

theorem pad8_length_of_le {b : Bytes} (h : b.length ≤ 8) : (pad8 b).length = 8 := by
  simp [pad8]; omega

/-- the bytes of the first `n` words of a struct are the struct followed by padding -/
theorem rawCells_bytes (n : Nat) : ∀ (b : Bytes), b.length ≤ 8 * n → ((rawCells n b).flatMap cellBytes).take b.length = b := by
  induction n with
  | zero => intro b h; have : b = [] := List.eq_nil_of_length_eq_zero (by omega); subst this; rfl
  | succ n ih =>
    intro b h
    simp only [rawCells, List.flatMap_cons, cellBytes]
    by_cases hb : b.length ≤ 8
    · have : b.take 8 = b := List.take_of_length_le hb
      rw [this, pad8, List.append_assoc, List.take_left']
      rfl
    · have hlen : (b.take 8).length = 8 := by simp; omega
      have hp : pad8 (b.take 8) = b.take 8 := by simp [pad8, hlen]
      rw [hp]
      have hsplit : b.length = (b.take 8).length + (b.drop 8).length := by simp; omega
      rw [hsplit, List.take_length_add_append, ih (b.drop 8) (by simp; omega), List.take_append_drop]

theorem wordsOf_ge (n : Nat) : n ≤ 8 * wordsOf n := by unfold wordsOf; omega

theorem scalarOfCells_cells (s : Scalar) : scalarOfCells s (scalarCells s) = s := by
  cases s with
  | int v => rfl
  | float b => rfl
  | str b => rfl
  | typ n => rfl
  | ptr bx t => rfl
  | raw k b => simp only [scalarCells, scalarOfCells]; rw [rawCells_bytes _ b (wordsOf_ge _)]

theorem scalarCells_length_raw (k : Nat) (b : Bytes) : (scalarCells (.raw k b)).length = wordsOf b.length := by
  simp [scalarCells, rawCells_length]

theorem blit_full (src dst : List Cell) (n : Nat) (hs : src.length ≤ n) (hd : dst.length ≤ n) : blit 0 0 n src dst = src := by
  simp [blit, List.take_of_length_le hs, List.drop_eq_nil_of_le hd]

/-- a copy between two memories given by their parts: the middle part of the source replaces the middle part of the destination -/
theorem blit_parts (A B C P Q R : List Cell) {i j n : Nat} (hA : A.length = i) (hB : B.length = n) (hP : P.length = j)
    (hQ : Q.length = n) : blit i j n (P ++ (Q ++ R)) (A ++ (B ++ C)) = A ++ (Q ++ C) := by
  subst hA hP hB
  simp [blit, hQ]

theorem take_drop_append₃ {α} (a b c : List α) : ((a ++ b ++ c).drop a.length).take b.length = b := by
  simp [List.append_assoc]

theorem take_drop_of_parts {α} (a b c : List α) (i n : Nat) (hi : a.length = i) (hn : b.length = n) :
    ((a ++ (b ++ c)).drop i).take n = b := by
  subst hi hn; rw [← List.append_assoc]; exact take_drop_append₃ a b c

theorem treeNodeCells_length (L : Layout) (e : Scalar × Scalar) (h : EntrySized L e) :
    (treeNodeCells L e).length = L.hw + L.kw + (L.hw + L.vw) := by
  have hk : (scalarCells e.1).length = L.kw := h.1
  have hv : (scalarCells e.2).length = L.vw := h.2
  simp [treeNodeCells, hk, hv]; omega

theorem treeEntryOfCells_cells (L : Layout) (e : Scalar × Scalar) (h : EntrySized L e) :
    treeEntryOfCells L e (treeNodeCells L e) = e := by
  obtain ⟨hk, hv⟩ := h
  unfold Sized at hk hv
  have e1 : ((treeNodeCells L e).drop (evalSize L CelloGen.Hash.treeKeyOff)).take L.kw = scalarCells e.1 := by
    simp only [treeNodeCells, evalSize, CelloGen.Hash.treeKeyOff, List.foldl_cons, List.foldl_nil, termWords, Nat.zero_add]
    rw [List.append_assoc]
    exact take_drop_of_parts _ _ _ _ _ (by simp) hk
  have e2 : ((treeNodeCells L e).drop (evalSize L CelloGen.Hash.treeValOff)).take L.vw = scalarCells e.2 := by
    simp only [treeNodeCells, evalSize, CelloGen.Hash.treeValOff, List.foldl_cons, List.foldl_nil, termWords, Nat.zero_add]
    rw [← List.append_assoc (List.replicate L.hw (Cell.hdr false) ++ scalarCells e.1)]
    have := take_drop_of_parts (List.replicate L.hw (Cell.hdr false) ++ scalarCells e.1 ++ List.replicate L.hw (Cell.hdr true))
      (scalarCells e.2) [] (L.hw + L.kw + L.hw) L.vw (by simp [hk]; omega) hv
    simpa using this
  simp only [treeEntryOfCells, e1, e2, scalarOfCells_cells]

theorem treeRelocate_full (L : Layout) (pred node : Scalar × Scalar) (hp : EntrySized L pred) (hn : EntrySized L node) :
    treeRelocate L pred node = pred := by
  unfold treeRelocate
  rw [blit_full _ _ _ (by rw [treeNodeCells_length L pred hp]; simp [evalSize, CelloGen.Hash.treeRemMoveSize, termWords]; omega)
    (by rw [treeNodeCells_length L node hn]; simp [evalSize, CelloGen.Hash.treeRemMoveSize, termWords]; omega)]
  exact treeEntryOfCells_cells L pred hp

theorem arrayStepW_eq (L : Layout) : arrayStepW L = L.hw + L.vw := by
  simp [arrayStepW, evalSize, CelloGen.Hash.arrayStepTerms, termWords]; omega

theorem elemCells_length (L : Layout) (s : Scalar) (h : Sized L.vw s) : (elemCells L s).length = arrayStepW L := by
  unfold Sized at h
  simp [elemCells, arrayStepW_eq, h]

theorem elemsCells_length (L : Layout) (xs : List Scalar) (h : ∀ x ∈ xs, Sized L.vw x) :
    (elemsCells L xs).length = arrayStepW L * xs.length := by
  induction xs with
  | nil => simp [elemsCells]
  | cons x xs ih =>
    have := ih (fun y hy => h y (by simp [hy]))
    simp only [elemsCells, List.flatMap_cons, List.length_append, List.length_cons] at this ⊢
    rw [this, elemCells_length L x (h x (by simp)), Nat.mul_succ]; omega

theorem elemsCells_append (L : Layout) (xs ys : List Scalar) : elemsCells L (xs ++ ys) = elemsCells L xs ++ elemsCells L ys := by
  simp [elemsCells]

theorem elemsOfCells_cells (L : Layout) (ts : List Scalar) (rest : List Cell) (h : ∀ x ∈ ts, Sized L.vw x) :
    elemsOfCells L ts (elemsCells L ts ++ rest) = ts := by
  induction ts with
  | nil => rfl
  | cons t ts ih =>
    have ht : Sized L.vw t := h t (by simp)
    have e1 : ((elemsCells L (t :: ts) ++ rest).drop (evalSize L CelloGen.Hash.arrayItemOff)).take L.vw = scalarCells t := by
      simp only [elemsCells, List.flatMap_cons, elemCells, evalSize, CelloGen.Hash.arrayItemOff, List.foldl_cons, List.foldl_nil,
        termWords, Nat.zero_add, List.append_assoc]
      exact take_drop_of_parts _ _ _ _ _ (by simp) ht
    have e2 : (elemsCells L (t :: ts) ++ rest).drop (arrayStepW L) = elemsCells L ts ++ rest := by
      simp only [elemsCells, List.flatMap_cons, List.append_assoc]
      exact List.drop_left' (elemCells_length L t ht)
    simp only [elemsOfCells, e1, e2, scalarOfCells_cells, ih (fun y hy => h y (by simp [hy]))]

theorem arrayPopAt_eq (L : Layout) (A B : List Scalar) (x : Scalar) (h : ∀ y ∈ A ++ x :: B, Sized L.vw y) :
    arrayPopAt L (A ++ x :: B) A.length = A ++ B := by
  have hA : ∀ y ∈ A, Sized L.vw y := fun y hy => h y (by simp [hy])
  have hB : ∀ y ∈ B, Sized L.vw y := fun y hy => h y (by simp [hy])
  have hx : Sized L.vw x := h x (by simp)
  have lA := elemsCells_length L A hA
  have lB := elemsCells_length L B hB
  have lx := elemCells_length L x hx
  have hmem : elemsCells L (A ++ x :: B) = elemsCells L A ++ (elemCells L x ++ elemsCells L B) := by
    simp [elemsCells]
  simp only [arrayPopAt, CelloGen.Hash.arrayPopAtDst, CelloGen.Hash.arrayPopAtSrc, Nat.add_zero, blit, hmem]
  have t1 : (elemsCells L A ++ (elemCells L x ++ elemsCells L B)).take (arrayStepW L * A.length) = elemsCells L A :=
    List.take_left' lA
  -- the block that is moved: the cells of `B`, over those of `x`
  have t2 : ((elemsCells L A ++ (elemCells L x ++ elemsCells L B)).drop (arrayStepW L * (A.length + 1))).take
      (arrayStepW L * ((A ++ x :: B).length - 1 - A.length)) = elemsCells L B := by
    rw [← List.append_assoc, List.drop_left' (by simp [lA, lx, Nat.mul_succ])]
    apply List.take_of_length_le
    simp [lB]
  rw [t1, t2]
  have t3 : (A ++ x :: B).take A.length ++ (A ++ x :: B).drop (A.length + 1) = A ++ B := by simp
  rw [t3, ← List.append_assoc, ← elemsCells_append]
  exact elemsOfCells_cells L (A ++ B) _ (fun y hy => by
    rcases List.mem_append.mp hy with hy | hy
    · exact hA y hy
    · exact hB y hy)

theorem arrayPushAt_eq (L : Layout) (A B : List Scalar) (x : Scalar) (h : ∀ y ∈ A ++ B, Sized L.vw y) :
    arrayPushAt L (A ++ B) A.length x = A ++ x :: B := by
  have hA : ∀ y ∈ A, Sized L.vw y := fun y hy => h y (by simp [hy])
  have hB : ∀ y ∈ B, Sized L.vw y := fun y hy => h y (by simp [hy])
  have lA := elemsCells_length L A hA
  have lB := elemsCells_length L B hB
  simp only [arrayPushAt, CelloGen.Hash.arrayPushAtDst, CelloGen.Hash.arrayPushAtSrc, Nat.add_zero, blit, elemsCells_append,
    List.append_assoc]
  have hn : (A ++ B).length + 1 - 1 - A.length = B.length := by simp
  rw [hn]
  -- the block that is moved: the elements from `i` on
  have t2 : ((elemsCells L A ++ (elemsCells L B ++ List.replicate (arrayStepW L) Cell.zero)).drop (arrayStepW L * A.length)).take
      (arrayStepW L * B.length) = elemsCells L B := by
    rw [List.drop_left' lA]; exact List.take_left' lB
  have t3 : (elemsCells L A ++ (elemsCells L B ++ List.replicate (arrayStepW L) Cell.zero)).drop
      (arrayStepW L * (A.length + 1) + arrayStepW L * B.length) = [] := by
    apply List.drop_eq_nil_of_le
    simp [lA, lB, Nat.mul_succ]; omega
  have t1 : (elemsCells L A ++ (elemsCells L B ++ List.replicate (arrayStepW L) Cell.zero)).take (arrayStepW L * (A.length + 1)) =
      elemsCells L A ++ (elemsCells L B ++ List.replicate (arrayStepW L) Cell.zero).take (arrayStepW L) := by
    rw [Nat.mul_succ, ← lA]; exact List.take_length_add_append _
  rw [t2, t3, t1]
  have lgap : ((elemsCells L B ++ List.replicate (arrayStepW L) Cell.zero).take (arrayStepW L)).length = arrayStepW L := by
    simp [lB]
  have hAx : (A ++ B).take A.length = A := by simp
  have hBx : (A ++ B).drop A.length = B := by simp
  rw [hAx, hBx, List.append_assoc, elemsOfCells_cells L A _ hA]
  have t4 : (elemsCells L A ++ ((elemsCells L B ++ List.replicate (arrayStepW L) Cell.zero).take (arrayStepW L) ++
      (elemsCells L B ++ []))).drop (arrayStepW L * (A.length + 1)) = elemsCells L B ++ [] := by
    rw [← List.append_assoc]
    exact List.drop_left' (by simp only [List.length_append, lA, lgap, Nat.mul_succ])
  rw [t4, elemsOfCells_cells L B _ hB]

/-- an occupied slot whose key and value fill the widths of `L` -/
def SlotSized (L : Layout) (s : Slot) : Prop := s.stored ≠ 0 ∧ Sized L.kw s.k ∧ Sized L.vw s.v

instance (L : Layout) (s : Slot) : Decidable (SlotSized L s) := by unfold SlotSized; infer_instance

theorem slotSizedB_iff (L : Layout) (s : Slot) : slotSizedB L s = true ↔ SlotSized L s := by
  simp [slotSizedB, SlotSized, sizedB_iff, and_assoc]

theorem tableStepW_eq (L : Layout) : tableStepW L = 1 + L.hw + L.kw + L.hw + L.vw := by
  simp [tableStepW, evalSize, CelloGen.Hash.tableStepTerms, termWords]

theorem slotCells_length (L : Layout) (o : Option Slot) (h : ∀ s, o = some s → SlotSized L s) :
    (slotCells L o).length = tableStepW L := by
  cases o with
  | none => simp [slotCells]
  | some s =>
    obtain ⟨_, hk, hv⟩ := h s rfl
    unfold Sized at hk hv
    simp [slotCells, tableStepW_eq, hk, hv]; omega

theorem slotOfCells_cells (L : Layout) (s : Slot) (h : SlotSized L s) : slotOfCells L s (slotCells L (some s)) = some s := by
  obtain ⟨h0, hk, hv⟩ := h
  unfold Sized at hk hv
  have e1 : ((slotCells L (some s)).drop (evalSize L CelloGen.Hash.tableKeyOff)).take L.kw = scalarCells s.k := by
    simp only [slotCells, evalSize, CelloGen.Hash.tableKeyOff, List.foldl_cons, List.foldl_nil, termWords, Nat.zero_add]
    have := take_drop_of_parts (Cell.tag s.stored :: List.replicate L.hw (Cell.hdr false)) (scalarCells s.k)
      (List.replicate L.hw (Cell.hdr true) ++ scalarCells s.v) (1 + L.hw) L.kw (by simp; omega) hk
    simpa [List.append_assoc] using this
  have e2 : ((slotCells L (some s)).drop (evalSize L CelloGen.Hash.tableValOff)).take L.vw = scalarCells s.v := by
    simp only [slotCells, evalSize, CelloGen.Hash.tableValOff, List.foldl_cons, List.foldl_nil, termWords, Nat.zero_add]
    have := take_drop_of_parts (Cell.tag s.stored :: (List.replicate L.hw (Cell.hdr false) ++ scalarCells s.k ++
      List.replicate L.hw (Cell.hdr true))) (scalarCells s.v) [] (1 + L.hw + L.kw + L.hw) L.vw (by simp [hk]; omega) hv
    simpa [List.append_assoc] using this
  have hs : slotCells L (some s) = Cell.tag s.stored :: (List.replicate L.hw (Cell.hdr false) ++ scalarCells s.k ++
      (List.replicate L.hw (Cell.hdr true) ++ scalarCells s.v)) := rfl
  unfold slotOfCells
  rw [e1, e2, hs]
  simp [h0, scalarOfCells_cells]

theorem copySlot_full (L : Layout) (src : Slot) (dst : Option Slot) (hs : SlotSized L src)
    (hd : ∀ s, dst = some s → SlotSized L s) : copySlot L src dst = some src := by
  unfold copySlot
  rw [blit_full _ _ _ (by rw [slotCells_length L (some src) (fun s e => by cases e; exact hs)]; exact Nat.le_refl _)
    (by rw [slotCells_length L dst hd]; exact Nat.le_refl _)]
  exact slotOfCells_cells L src hs

open CelloGen.Hash in
theorem loadSlot_full (L : Layout) (home1 : Nat) (old : Slot) (h0 : home1 ≠ 0) (hs : SlotSized L old) :
    loadSlot L home1 old = some { old with stored := home1 } := by
  have hw : tableStepW L - 1 = L.hw + L.kw + (L.hw + L.vw) := by rw [tableStepW_eq]; omega
  -- each memcpy takes a whole block (header and words) from where it stands in the old slot to the same place in the new one
  have off : evalSize L tableMoveKeyDst = 1 ∧ evalSize L tableRehashKeyOff - L.hw = 1 ∧
      evalSize L tableMoveKeySize = L.hw + L.kw ∧ evalSize L tableMoveValDst = L.hw + L.kw + 1 ∧
      evalSize L tableRehashValOff - L.hw = L.hw + L.kw + 1 ∧ evalSize L tableMoveValSize = L.hw + L.vw := by
    simp only [evalSize, tableMoveKeyDst, tableRehashKeyOff, tableMoveKeySize, tableMoveValDst, tableRehashValOff, tableMoveValSize,
      List.foldl_cons, List.foldl_nil, termWords, true_and]
    omega
  obtain ⟨_, hk, hv⟩ := hs
  unfold Sized at hk hv
  generalize hK : List.replicate L.hw (Cell.hdr false) ++ scalarCells old.k = K
  generalize hV : List.replicate L.hw (Cell.hdr true) ++ scalarCells old.v = V
  have lK : K.length = L.hw + L.kw := by subst hK; simp [hk]
  have lV : V.length = L.hw + L.vw := by subst hV; simp [hv]
  have ho : slotCells L (some old) = [Cell.tag old.stored] ++ (K ++ (V ++ [])) := by subst hK hV; simp [slotCells]
  have hz : Cell.tag home1 :: List.replicate (tableStepW L - 1) Cell.zero =
      [Cell.tag home1] ++ (List.replicate (L.hw + L.kw) Cell.zero ++ (List.replicate (L.hw + L.vw) Cell.zero ++ [])) := by
    rw [hw, List.append_nil, List.replicate_append_replicate]; rfl
  unfold loadSlot
  simp only [off, ho, hz]
  rw [blit_parts (i := 1) (j := 1) [_] _ _ [_] K _ rfl (List.length_replicate ..) rfl lK, ← List.append_assoc [_] K,
    ← List.append_assoc [_] K, blit_parts (i := L.hw + L.kw + 1) (j := L.hw + L.kw + 1) _ _ [] _ V [] (congrArg (· + 1) lK)
      (List.length_replicate ..) (congrArg (· + 1) lK) lV]
  have := slotOfCells_cells L { old with stored := home1 } ⟨h0, hk, hv⟩
  simpa [slotCells, hK, hV, slotOfCells] using this

end Cello.Hash
