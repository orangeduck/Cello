/-
  Lemmas/RBCmp.lean — `Tree_Cmp` and `Tree_Hash` (third layer, Cello/RBTreeCmp.lean): on valid trees the lock-step walk of
  `Tree_Cmp` (parent-link successor on both sides, value look-ups by a fresh descent) is the lexicographic comparison of the
  two in-order sequences, and the walk of `Tree_Hash` is the xor-fold over the in-order sequence — whatever the shapes.
  Both walks are inductions on `Visits`, from `iterInit_spec` (RBRefine).  Then what `cmp(t, s) = 0` says about the two
  maps (`Spec.cmpList_eq_iff`), and the third layer of histories (`BOp` / `stepB` / `runB`) refines its specification.
-/
import CelloProofs.Lemmas.RBArgs
import Cello.RBTreeCmp

namespace Cello.RB
open Std
variable {α β : Type} {cmp : α → α → Ordering}

theorem hashLoop_eq (hk : α → UInt64) (hv : β → UInt64) {c : Cursor α β} {l : List (α × β)} (hc : Visits iterNext c l) :
    ∀ (n : Nat) (h : UInt64), l.length ≤ n →
      hashLoop hk hv n c h = some (l.foldl (fun h e => h ^^^ hk e.1 ^^^ hv e.2) h) := by
  induction hc with
  | term => intro n h _; cases n <;> rfl
  | item x l _ ih =>
    intro n h hn
    cases n with
    | zero => cases hn
    | succ n => exact ih n _ (Nat.le_of_succ_le_succ hn)

theorem hashTree_eq (hk : α → UInt64) (hv : β → UInt64) (m : Tree α β) (hn : size m.root = m.nitems) :
    m.hashTree hk hv = some (Spec.hashList hk hv (toList m.root)) := by
  obtain ⟨c, hc, ha⟩ := iterInit_spec m hn
  simp only [Tree.hashTree, hc]
  exact hashLoop_eq hk hv ha _ _ (by rw [← size_eq_length]; exact Nat.le_succ _)

/-! `Tree_Cmp`: the look-ups need the order of the keys and the walks need `nitems` to be the node count; balance plays no
    part. -/

theorem cmpLoop_eq [TransCmp cmp] (hsrc : SourceOk) (vcmp : β → β → Ordering) (m s : Tree α β)
    (hm : Desc cmp m.abs) (hs : Desc cmp s.abs) {c0 c1 : Cursor α β} {l0 l1 : List (α × β)}
    (v0 : Visits iterNext c0 l0) (v1 : Visits iterNext c1 l1)
    (h0 : ∀ e ∈ l0, e ∈ toList m.root) (h1 : ∀ e ∈ l1, e ∈ toList s.root) (n : Nat) (hn : l0.length ≤ n) :
    cmpLoop cmp vcmp m s n c0 c1 = some (.ok (Spec.cmpList cmp vcmp l0 l1)) := by
  induction v0 generalizing c1 l1 n with
  | term => cases v1 <;> cases n <;> rfl
  | item x l0 _ ih =>
    cases n with
    | zero => cases hn
    | succ n =>
      cases v1 with
      | term => rfl
      | item y l1 v1 =>
        -- what the walks have still to visit is in the trees (`h0`, `h1`), so the look-ups by key find the values beside the keys
        simp only [cmpLoop, Spec.cmpList, get_of_mem hsrc m hm (h0 _ List.mem_cons_self),
          get_of_mem hsrc s hs (h1 _ List.mem_cons_self)]
        cases cmp x.k y.k with
        | lt => rfl
        | gt => rfl
        | eq =>
          simp only []
          cases vcmp x.v y.v with
          | lt => rfl
          | gt => rfl
          | eq =>
            exact ih v1 (fun e he => h0 e (List.mem_cons_of_mem _ he))
              (fun e he => h1 e (List.mem_cons_of_mem _ he)) n (Nat.le_of_succ_le_succ hn)

theorem cmpTree_eq [TransCmp cmp] (hsrc : SourceOk) (vcmp : β → β → Ordering) (m s : Tree α β)
    (hm : Desc cmp m.abs) (hmn : size m.root = m.nitems) (hs : Desc cmp s.abs) (hsn : size s.root = s.nitems) :
    m.cmpTree cmp vcmp s = some (.ok (Spec.cmpList cmp vcmp m.abs s.abs)) := by
  obtain ⟨c0, e0, a0⟩ := iterInit_spec m hmn
  obtain ⟨c1, e1, a1⟩ := iterInit_spec s hsn
  simp only [Tree.cmpTree, e0, e1]
  exact cmpLoop_eq hsrc vcmp m s hm hs a0 a1 (fun _ h => h) (fun _ h => h) _
    (by rw [← size_eq_length]; exact Nat.le_succ_of_le (Nat.le_add_right _ _))

theorem Spec.cmpList_eq_iff (vcmp : β → β → Ordering) (l l' : List (α × β)) :
    Spec.cmpList cmp vcmp l l' = .eq ↔
      l.length = l'.length ∧ ∀ p ∈ l.zip l', cmp p.1.1 p.2.1 = .eq ∧ vcmp p.1.2 p.2.2 = .eq := by
  induction l generalizing l' with
  | nil => cases l' <;> simp [Spec.cmpList]
  | cons a l ih =>
    cases l' with
    | nil => simp [Spec.cmpList]
    | cons b l' =>
      simp only [Spec.cmpList, List.zip_cons_cons, List.mem_cons, List.length_cons, forall_eq_or_imp, Nat.add_right_cancel_iff]
      -- the heads decide unless both the keys and the values compare equal
      cases cmp a.1 b.1 <;> cases vcmp a.2 b.2 <;>
        simp only [ih, reduceCtorEq, false_and, and_false, true_and]

theorem Spec.cmpList_self (vcmp : β → β → Ordering) (l : List (α × β))
    (hk : ∀ e ∈ l, cmp e.1 e.1 = .eq) (hv : ∀ e ∈ l, vcmp e.2 e.2 = .eq) : Spec.cmpList cmp vcmp l l = .eq := by
  induction l with
  | nil => rfl
  | cons a l ih =>
    simp only [Spec.cmpList, hk a (by simp), hv a (by simp)]
    exact ih (fun e he => hk e (by simp [he])) (fun e he => hv e (by simp [he]))

section
variable [Packed α] [Packed β]

def tyStepB (env : Store (Nat × Nat)) : BOp α β → Store (Nat × Nat)
  | .a op => tyStepA env op
  | _ => env

def BOp.typed (env : Store (Nat × Nat)) : BOp α β → Prop
  | .a op => op.typed env
  | _ => True

def WellTypedB : Store (Nat × Nat) → List (BOp α β) → Prop
  | _, [] => True
  | env, op :: ops => op.typed env ∧ WellTypedB (tyStepB env op) ops

def BOp.aOp : BOp α β → Option (AOp α β)
  | .a op => some op
  | _ => none

/-- `cmp` and `hash` need no typing hypothesis and change no type: a history is well typed if its second-layer part is -/
theorem wellTypedB_of_A (env : Store (Nat × Nat)) (ops : List (BOp α β))
    (h : WellTypedA env (ops.filterMap BOp.aOp)) : WellTypedB env ops := by
  induction ops generalizing env with
  | nil => trivial
  | cons op ops ih =>
    cases op with
    | a op => exact ⟨h.1, ih _ h.2⟩
    | cmp t s => exact ⟨trivial, ih _ h⟩
    | hash t => exact ⟨trivial, ih _ h⟩

variable [LawfulPacked α] [LawfulPacked β]

theorem stepB_refines [TransCmp cmp] (hsrc : SourceOk) (E : Elem α β) (st : Store (Tree α β)) (op : BOp α β)
    (hv : AllValid cmp st) (hty : op.typed (sizeStore st)) :
    Refines cmp (stepB true cmp E st op) (Spec.stepB cmp E (absStore st) op) (tyStepB (sizeStore st) op) := by
  cases op <;> dsimp only [stepB, Spec.stepB, tyStepB]
  case a op =>
    obtain ⟨st', o, h1, h2, h3, h4⟩ := stepA_refines hsrc st op hv hty
    exact ⟨st', .base o, by rw [h1]; rfl, by rw [h2], h3, h4⟩
  case cmp t s =>
    rw [get?_abs, get?_abs]
    cases hg : st.get? t with
    | none => exact refines_same hv _
    | some m =>
      cases hg2 : st.get? s with
      | none => exact refines_same hv _
      | some m2 =>
        simp only [Option.map_some, cmpTree_eq hsrc E.vcmp m m2 (hv.get hg).ordered (hv.get hg).count (hv.get hg2).ordered
          (hv.get hg2).count]
        exact refines_same hv _
  case hash t =>
    rw [get?_abs]
    cases hg : st.get? t with
    | none => exact refines_same hv _
    | some m =>
      simp only [Option.map_some, hashTree_eq E.hk E.hv m (hv.get hg).count]
      exact refines_same hv _

theorem runB_refines [TransCmp cmp] (hsrc : SourceOk) (E : Elem α β) (ops : List (BOp α β)) (st : Store (Tree α β))
    (hv : AllValid cmp st) (hty : WellTypedB (sizeStore st) ops) :
    ∃ st' os, runB true cmp E st ops = some (st', os) ∧ Spec.runB cmp E (absStore st) ops = (absStore st', os) ∧
      AllValid cmp st' := by
  induction ops generalizing st with
  | nil => exact ⟨st, [], rfl, rfl, hv⟩
  | cons op ops ih =>
    obtain ⟨st1, o, e1, s1, v1, z1⟩ := stepB_refines hsrc E st op hv hty.1
    obtain ⟨st2, os, e2, s2, v2⟩ := ih st1 v1 (by rw [← z1]; exact hty.2)
    exact ⟨st2, o :: os, by simp [runB, e1, e2], by simp [Spec.runB, s1, s2], v2⟩

end

end Cello.RB
