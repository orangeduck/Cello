/-
  CelloProofs/Lemmas/TableLastWrite.lean — the specification is "last write wins": what `specRun` leaves bound to a key,
  read off the operation list alone (`lastWrite` for histories of plain operations, `lastBinding` for every history).
  A simulation of the specification by its pending writes; the model does not enter.
-/
import CelloProofs.Lemmas.TableSpec
namespace Cello.Table
variable {κ ν : Type} [DecidableEq κ]

/-- what one operation does to the binding of key `k` in table variable `t` -/
def writeStep (t : Nat) (k : κ) : Op κ ν → Option ν → Option ν
  | .set t' k' v, acc => if t' = t ∧ k' = k then some v else acc
  | .rem t' k', acc => if t' = t ∧ k' = k then none else acc
  | .resize t' n, acc => if t' = t ∧ n = 0 then none else acc      -- `resize(t, 0)` clears; any other resize binds nothing anew
  | .new t', acc => if t' = t then none else acc
  | _, acc => acc

/-- what a history leaves bound to key `k` in table variable `t` that bound `acc` before: the value of the last `set t k _`
    unless a `rem t k`, a `new t` or a `resize t 0` came after it (then nothing); `acc` if the history has none of these -/
def lastWrite (t : Nat) (k : κ) (ops : List (Op κ ν)) (acc : Option ν) : Option ν :=
  ops.foldl (fun a op => writeStep t k op a) acc

/-- the operations `new / set / rem / get / mem / len / iter / riter / resize` (also refused and growing resizes, and
    `resize(t, 0)`); the others, `assign`, `copy`, `newWith`, `assignMap`, bring in the bindings of another map -/
def Op.isPlain : Op κ ν → Prop
  | .set .. | .rem .. | .get .. | .mem .. | .len .. | .iter .. | .riter .. | .resize .. | .new .. => True
  | _ => False

/-- reading table variable `t` after variable `t'` (which held `m`) was overwritten by `m'`: through `F` if `t' = t`,
    as before otherwise -/
theorem map_getElem?_set {α β : Type} {ms : List α} {t' : Nat} {m : α} (hm : ms[t']? = some m) (m' : α) (t : Nat)
    (g F : α → β) (same : t' = t → g m' = F m) :
    ((ms.set t' m')[t]?).map g = (ms[t]?).map (fun m0 => if t' = t then F m0 else g m0) := by
  by_cases e : t' = t
  · subst e
    rw [List.getElem?_set_self (List.getElem?_eq_some_iff.mp hm).1, hm]
    simp only [Option.map_some, if_true, same rfl]
  · simp only [List.getElem?_set_ne e, if_neg e]

/-- the same reading when `t'` names no table, in which case nothing was written -/
theorem map_getElem?_absent {α β : Type} {ms : List α} {t' : Nat} (hm : ms[t']? = none) (t : Nat) (g F : α → β) :
    (ms[t]?).map g = (ms[t]?).map (fun m0 => if t' = t then F m0 else g m0) := by
  by_cases e : t' = t
  · subst e; rw [hm]; rfl
  · simp only [if_neg e]

theorem specStep_write (t : Nat) (k : κ) (ms : List (Spec κ ν)) (op : Op κ ν) (hop : op.isPlain) :
    ((specStep ms op).1[t]?).map (fun m => Spec.get m k) = (ms[t]?).map (fun m => writeStep t k op (Spec.get m k)) := by
  cases op with
  | set t' k' v =>
    simp only [specStep, writeStep, ite_and]
    cases hm : ms[t']? with
    | none => exact map_getElem?_absent hm t _ _
    | some m => exact map_getElem?_set hm _ t _ _ fun _ => by rw [spec_get_set]; simp only [eq_comm]
  | rem t' k' =>
    simp only [specStep, writeStep, ite_and]
    cases hm : ms[t']? with
    | none => exact map_getElem?_absent hm t _ _
    | some m =>
      cases hg : Spec.get m k' with
      | none =>
        -- nothing is removed and `k'` was not bound: the table keeps its map, as if overwritten with `m` itself
        have := map_getElem?_set hm m t (fun m => Spec.get m k) (fun m => if k' = k then none else Spec.get m k) fun _ => by
          split
          · rename_i h; rw [← h, hg]
          · rfl
        simp only [hg]
        rwa [set_self_of_getElem? hm] at this
      | some v0 =>
        simp only [hg]
        exact map_getElem?_set hm _ t _ _ fun _ => by rw [spec_get_rem]; simp only [eq_comm]
  | get t' k' | mem t' k' | len t' | iter t' | riter t' => simp only [specStep, writeStep]; (repeat' split) <;> rfl
  | new t' =>
    simp only [specStep, writeStep]
    split
    · rename_i hl; exact map_getElem?_set (List.getElem?_eq_getElem hl) _ t _ _ fun _ => rfl
    · rename_i hl; exact map_getElem?_absent (List.getElem?_eq_none (Nat.le_of_not_lt hl)) t _ _
  | resize t' n =>
    simp only [specStep, writeStep, ite_and]
    cases hm : ms[t']? with
    | none => exact map_getElem?_absent hm t _ _
    | some m =>
      by_cases h0 : n = 0
      · simp only [h0, if_true]; exact map_getElem?_set hm _ t _ _ fun _ => rfl
      · simp only [h0, if_false, ite_self]; split <;> rfl
  | assign d s | copy d s | newWith t' kvs odd | assignMap d kvs => exact absurd hop (by simp [Op.isPlain])

/-- **the specification is "last write wins"**: after a plain history, table variable `t` binds `k` to the value of the last
    `set t k _` not followed by a `rem t k`, a `new t` or a `resize t 0` (and to what it bound before if the history has none
    of these) -/
theorem spec_last_write (t : Nat) (k : κ) :
    ∀ (ops : List (Op κ ν)) (ms : List (Spec κ ν)), (∀ op ∈ ops, op.isPlain) →
      ((specRun ms ops).1[t]?).map (fun m => Spec.get m k) = (ms[t]?).map (fun m => lastWrite t k ops (Spec.get m k)) := by
  intro ops
  induction ops with
  | nil => intro ms _; simp [specRun, lastWrite]
  | cons op ops ih =>
    intro ms hplain
    -- one step by `specStep_write`, carried through the rest of the fold; the run of `op :: ops` unfolds by `rfl`
    have h1 := congrArg (Option.map (lastWrite t k ops)) (specStep_write t k ms op (hplain op List.mem_cons_self))
    rw [Option.map_map, Option.map_map] at h1
    exact (ih (specStep ms op).1 fun o ho => hplain o (List.mem_cons_of_mem _ ho)).trans h1

/-! "Last write wins" for every history: `assign` / `copy` take over the pending writes of the source variable,
    `new` with pairs and `assign` from another kind of map bind the last pair that names the key -/

/-- the value of the last pair of a pair list that names `k` -/
def pairsLast (kvs : List (κ × ν)) (k : κ) : Option ν := (kvs.reverse.find? (fun p => decide (p.1 = k))).map (·.2)

/-- what one operation does to the pending writes `w` (per table variable and key) of `N` table variables.  For the plain
    operations this is `writeStep`, for every variable and key at once. -/
def writeAll (N : Nat) (w : Nat → κ → Option ν) : Op κ ν → Nat → κ → Option ν
  | .set t' k' v => fun t k => if t' = t ∧ k' = k then some v else w t k
  | .rem t' k' => fun t k => if t' = t ∧ k' = k then none else w t k
  | .resize t' n => fun t k => if t' = t ∧ n = 0 then none else w t k
  | .new t' => fun t k => if t' = t then none else w t k
  | .assign d s => if d < N ∧ s < N then (fun t k => if d = t then w s k else w t k) else w
  | .copy d s => if d < N ∧ s < N then (fun t k => if d = t then w s k else w t k) else w
  | .newWith t' kvs odd => if odd then w else (fun t k => if t' = t then pairsLast kvs k else w t k)
  | .assignMap d kvs => fun t k => if d = t then pairsLast kvs k else w t k
  | _ => w

/-- what a history leaves bound to key `k` in table variable `t`, starting from empty tables -/
def lastBinding (N : Nat) (ops : List (Op κ ν)) : Nat → κ → Option ν := ops.foldl (writeAll N) (fun _ _ => none)

theorem writeAll_plain (N : Nat) (w : Nat → κ → Option ν) (op : Op κ ν) (hop : op.isPlain) (t : Nat) (k : κ) :
    writeAll N w op t k = writeStep t k op (w t k) := by
  cases op <;> first | rfl | exact absurd hop (by simp [Op.isPlain])

/-- on plain histories the fold of `writeAll` from any `w` (`lastBinding` is the one from `fun _ _ => none`) is the
    single-key reading `lastWrite` -/
theorem foldl_writeAll_plain (N : Nat) (t : Nat) (k : κ) : ∀ (ops : List (Op κ ν)) (w : Nat → κ → Option ν),
    (∀ op ∈ ops, op.isPlain) → ops.foldl (writeAll N) w t k = lastWrite t k ops (w t k) := by
  intro ops
  induction ops with
  | nil => intro w _; rfl
  | cons op ops ih =>
    intro w hplain
    rw [List.foldl_cons, ih _ (fun o ho => hplain o (List.mem_cons_of_mem _ ho)),
      writeAll_plain N w op (hplain op List.mem_cons_self)]
    rfl

theorem specStep_length (ms : List (Spec κ ν)) (op : Op κ ν) : (specStep ms op).1.length = ms.length := by
  cases op <;> dsimp only [specStep] <;> (repeat' split) <;> simp only [List.length_set]

theorem map_ite_some {α β : Type} {o : Option α} {g : α → β} {b : β} (h : o.map g = some b) (c : Prop) [Decidable c]
    (a : β) : o.map (fun x => if c then a else g x) = some (if c then a else b) := by
  obtain ⟨x, rfl, rfl⟩ := Option.map_eq_some_iff.mp h
  rfl

theorem specStep_writeAll (N : Nat) (ms : List (Spec κ ν)) (hN : ms.length = N) (w : Nat → κ → Option ν)
    (hw : ∀ t k, t < N → (ms[t]?).map (fun m => Spec.get m k) = some (w t k)) (op : Op κ ν) :
    ∀ t k, t < N → ((specStep ms op).1[t]?).map (fun m => Spec.get m k) = some (writeAll N w op t k) := by
  subst hN
  intro t k ht
  by_cases hop : op.isPlain
  · rw [specStep_write t k ms op hop, writeAll_plain _ w op hop]
    obtain ⟨m, hm, hg⟩ := Option.map_eq_some_iff.mp (hw t k ht)
    rw [hm, Option.map_some, hg]
  · -- table `t'` takes over the pairs `kvs`
    have pairsCase : ∀ (t' : Nat) (kvs : List (κ × ν)),
        ((if t' < ms.length then (ms.set t' (Spec.ofPairs kvs), (Obs.done : Obs κ ν)) else (ms, .badOp)).1[t]?).map
          (fun m => Spec.get m k) = some (if t' = t then pairsLast kvs k else w t k) := by
      intro t' kvs
      split
      · rename_i hl
        rw [map_getElem?_set (List.getElem?_eq_getElem hl) _ t _ (fun _ => pairsLast kvs k) fun _ => ofPairs_get kvs k]
        exact map_ite_some (hw t k ht) _ _
      · rename_i hl
        rw [if_neg fun (e : t' = t) => hl (e ▸ ht)]; exact hw t k ht
    cases op with
    | assign d s | copy d s =>
      -- table `d` takes over what is pending for `s`, if both exist
      simp only [specStep, writeAll]
      by_cases hds : d < ms.length ∧ s < ms.length
      · have hd := List.getElem?_eq_getElem hds.1
        have hs := List.getElem?_eq_getElem hds.2
        have hws := hw s k hds.2
        rw [hs, Option.map_some] at hws
        simp only [hd, hs, if_pos hds]
        rw [map_getElem?_set hd _ t _ (fun _ => w s k) fun _ => Option.some.inj hws]
        exact map_ite_some (hw t k ht) _ _
      · rw [if_neg hds]
        split
        · rename_i hd hs
          exact absurd ⟨(List.getElem?_eq_some_iff.mp hd).1, (List.getElem?_eq_some_iff.mp hs).1⟩ hds
        · exact hw t k ht
    | newWith t' kvs odd =>
      cases odd with
      | true =>
        simp only [specStep, writeAll, if_true]
        split <;> exact hw t k ht
      | false =>
        simp only [specStep, writeAll, Bool.false_eq_true, if_false]
        exact pairsCase t' kvs
    | assignMap d kvs => simp only [specStep, writeAll]; exact pairsCase d kvs
    | _ => exact absurd (by simp [Op.isPlain]) hop

/-- **the specification is "last write wins", for every history**: if the `N` table variables bind what `w` says,
    then after the history they bind what the fold of `writeAll` makes of `w`, computed from the operations alone; from empty
    tables (`w = fun _ _ => none`) that is `lastBinding N ops` -/
theorem spec_last_binding (N : Nat) : ∀ (ops : List (Op κ ν)) (ms : List (Spec κ ν)) (w : Nat → κ → Option ν),
    ms.length = N → (∀ t k, t < N → (ms[t]?).map (fun m => Spec.get m k) = some (w t k)) →
    ∀ t k, t < N → ((specRun ms ops).1[t]?).map (fun m => Spec.get m k) = some (ops.foldl (writeAll N) w t k) := by
  intro ops
  induction ops with
  | nil => intro ms w _ hw t k ht; simpa [specRun] using hw t k ht
  | cons op ops ih =>
    intro ms w hN hw t k ht
    have hrun : (specRun ms (op :: ops)).1 = (specRun (specStep ms op).1 ops).1 := rfl
    rw [hrun, List.foldl_cons]
    exact ih (specStep ms op).1 (writeAll N w op) (by rw [specStep_length, hN]) (specStep_writeAll N ms hN w hw op) t k ht

theorem specRun_lastBinding (N : Nat) (ops : List (Op κ ν)) (t : Nat) (ht : t < N) (k : κ) :
    ((specRun (List.replicate N []) ops).1[t]?).map (fun m => Spec.get m k) = some (lastBinding N ops t k) :=
  spec_last_binding N ops _ _ List.length_replicate (fun t k ht => by simp [ht, Spec.get]) t k ht

end Cello.Table
