/-
  The executable invariant `invB`, which the driver evaluates on every dumped state, implies the ledger-free part of `WF`:
  the robin-hood invariant (distinct keys through "the probe finds this very slot"), the count, `Room`, the bounds.
-/
import Cello.Registry
import CelloProofs.Lemmas.RegistryOps
namespace Cello.Registry
open RH

theorem slotOk_sound (c : Cfg) (r : Reg) (i : Nat) (hi : i < r.n) (h : slotOk c r i hi = true) (e : Ent)
    (he : r.slots[i] = some e) :
    e.home = hashOf c e.key % r.n ∧
    (0 < dist r.n i e.home → ∃ e', r.slots[prev r.n i]'(prev_lt hi) = some e' ∧ dist r.n i e.home ≤ dist r.n (prev r.n i) e'.home + 1) ∧
    r.minptr ≤ e.key ∧ e.key ≤ r.maxptr ∧
    findLoop r.slots e.key r.n (hashOf c e.key % r.n) 0 (Nat.mod_lt _ (Nat.lt_of_le_of_lt (Nat.zero_le _) hi)) = some (some ⟨i, hi⟩) := by
  unfold slotOk at h
  rw [he] at h
  simp only [Bool.and_eq_true, beq_iff_eq, decide_eq_true_eq, Bool.or_eq_true] at h
  obtain ⟨⟨⟨⟨h1, h2⟩, h3⟩, h4⟩, h5⟩ := h
  refine ⟨h1, ?_, h3, h4, h5⟩
  intro hpos
  rcases h2 with h2 | h2
  · omega
  · cases hp : r.slots[prev r.n i]'(prev_lt hi) with
    | none => rw [hp] at h2; simp at h2
    | some e' => rw [hp] at h2; exact ⟨e', rfl, by simpa using h2⟩

theorem invB_sound (c : Cfg) (r : Reg) (h : invB c r = true) :
    Inv0 (hashOf c) r.slots ∧ r.nitems = occ r.slots ∧ Room r ∧
      (∀ i (hi : i < r.n) e, r.slots[i] = some e → r.minptr ≤ e.key ∧ e.key ≤ r.maxptr) := by
  unfold invB at h
  simp only [Bool.and_eq_true, List.all_eq_true, List.mem_range, beq_iff_eq, Bool.or_eq_true, decide_eq_true_eq] at h
  obtain ⟨⟨hall, hcount⟩, hroom⟩ := h
  have hslot : ∀ i (hi : i < r.n), slotOk c r i hi = true := by
    intro i hi
    have := hall i hi
    rw [dif_pos hi] at this; exact this
  refine ⟨⟨?_, ?_, ?_⟩, hcount, ?_, ?_⟩
  · intro i hi e he; exact (slotOk_sound c r i hi (hslot i hi) e he).1
  · intro i j hi hj e e' he he' hk
    have h1 := (slotOk_sound c r i hi (hslot i hi) e he).2.2.2.2
    have h2 := (slotOk_sound c r j hj (hslot j hj) e' he').2.2.2.2
    -- one key, one probe: it finds slot `i` and slot `j`
    rw [← hk] at h2
    simpa using h1.symm.trans h2
  · intro i hi e he hpos; exact (slotOk_sound c r i hi (hslot i hi) e he).2.1 hpos
  · rcases hroom with h0 | h0
    · exact Or.inr ⟨h0, by
        rw [hcount]
        have := occ_le r.slots
        omega⟩
    · exact Or.inl h0
  · intro i hi e he
    have := slotOk_sound c r i hi (hslot i hi) e he
    exact ⟨this.2.2.1, this.2.2.2.1⟩

end Cello.Registry
