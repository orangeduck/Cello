import CelloProofs.Lemmas.FailStepOut
/-
  C12, objects and the store: the territories of the known findings lifted to objects (`Obj.kf`, `kf`, `kfN`), and what a refused
  operation can leave of the object it was called on (`Obj.Intact`: the object, up to what `view` erases), read off the `X.step_out` of
  every kind of object (`Obj.stepLocal_raised`), for the views (`viewStep_intact`) and for a step of the store (`step_raised`).
-/
namespace Cello.Fail

/-- territory of the known findings for an object -/
def Obj.kf : Obj → Op → Bool
  | .arr a, op => a.kf op
  | .lst l, op => l.kf op
  | .tab t, op => t.kf op
  | .tre t, op => t.kf op
  | .str s, op => s.kf op
  | .nest n, .set k v => n.kf (.set k (.val v))
  | .nest n, .push v => n.kf (.push (.val v))
  | .nest n, .append v => n.kf (.push (.val v))
  | .nest n, .pushAt v k => n.kf (.pushAt (.val v) k)
  | _, _ => false

/-- territory of the known findings for operation `op` on object `id` of the store -/
def kf (σ : Store) (id : Nat) (op : Op) : Bool :=
  match σ.get? id with
  | some o => o.kf op
  | none => false

/-- territory of the known findings for the nested-container operation `op` on object `id` of the store -/
def kfN (σ : Store) (id : Nat) (op : NOp) : Bool :=
  match σ.get? id with
  | some (.nest n) => n.kf op
  | _ => false

/-- objects that a refused operation hands back as the very same value, capacity and scratch included: the last two cases of
    `Obj.Intact` cannot arise -/
def Obj.exact : Obj → Bool
  | .tab t => t.nslots ≠ 0
  | .slc _ => false
  | _ => true

theorem Store.map_put {β : Type} (f : Obj → β) (σ : Store) (id : Nat) {o o' : Obj} (hget : σ.get? id = some o) (hf : f o' = f o) :
    (σ.put id o').map (fun p => (p.1, f p.2)) = σ.map (fun p => (p.1, f p.2)) := by
  induction σ with
  | nil => cases hget
  | cons p ps ih =>
    obtain ⟨pid, po⟩ := p
    simp only [Store.get?, List.lookup_cons] at hget
    by_cases hp : pid = id
    · subst hp
      simp only [beq_self_eq_true, Option.some.injEq] at hget
      subst hget
      simp [Store.put, hf]
    · have hb : (id == pid) = false := beq_eq_false_iff_ne.mpr (Ne.symm hp)
      simp only [hb] at hget
      simp [Store.put, hp, ih hget]

theorem Store.put_view (σ : Store) (id : Nat) {o o' : Obj} (hget : σ.get? id = some o) (hv : o'.view = o.view) :
    (σ.put id o').view = σ.view :=
  Store.map_put Obj.view σ id hget hv

theorem Store.put_same (σ : Store) (id : Nat) {o : Obj} (hget : σ.get? id = some o) : σ.put id o = σ := by
  simpa using Store.map_put (fun x => x) σ id hget rfl

/-- What a refused operation can leave of the object it was called on: the object itself; a Table without slots with the first
    block `Table_Set` gives it before it casts its arguments; a Slice whose `Range_Get` had stored its answer in the range's scratch
    Int before the base refused the index.  The last two differ from the object in nothing `len`, `get` or iteration can see. -/
inductive Obj.Intact : Obj → Obj → Prop
  | refl (o : Obj) : Obj.Intact o o
  | firstBlock (t : Tab) : t.nslots = 0 → Obj.Intact (.tab t) (.tab { t with nslots := idealSize 0 })
  | scratch (s : Slc) (v : Int) : Obj.Intact (.slc s) (.slc { s with rng := { s.rng with scratch := v } })

theorem Obj.Intact.view {o o' : Obj} (h : Obj.Intact o o') : o'.view = o.view := by
  cases h <;> rfl

theorem Obj.Intact.exact {o o' : Obj} (h : Obj.Intact o o') (hx : o.exact = true) : o' = o := by
  cases h with
  | refl => rfl
  | firstBlock t h0 => simp [Obj.exact, h0] at hx
  | scratch s v => cases hx

/-- the operations of the generic interface on a nested container are operations of `Nest.step` with a value as the source -/
theorem Obj.nest_stepLocal (n : Nest) (op : Op) :
    (∃ nop, n.kf nop = (Obj.nest n).kf op ∧ (Obj.nest n).stepLocal op = (match n.step nop with | (n', r) => (Obj.nest n', r))) ∨
    ∃ r, (Obj.nest n).stepLocal op = (.nest n, r) := by
  cases op with
  | get k => exact .inl ⟨.get k, rfl, rfl⟩
  | set k v => exact .inl ⟨.set k (.val v), rfl, rfl⟩
  | push v | append v => exact .inl ⟨.push (.val v), rfl, rfl⟩
  | pushAt v k => exact .inl ⟨.pushAt (.val v) k, rfl, rfl⟩
  | pop => exact .inl ⟨.pop, rfl, rfl⟩
  | popAt k => exact .inl ⟨.popAt k, rfl, rfl⟩
  | resize m => exact .inl ⟨.resize m, rfl, rfl⟩
  | len => exact .inl ⟨.len, rfl, rfl⟩
  | print pos fmt args => rcases fmt with _ | ⟨_ | _ | _ | _, rest⟩ <;> exact .inr ⟨_, rfl⟩
  | _ => exact .inr ⟨_, rfl⟩

theorem Obj.stepLocal_raised (o o' : Obj) (op : Op) (e : Exc) (hk : o.kf op = false) (h : o.stepLocal op = (o', .raised e)) :
    Obj.Intact o o' := by
  have same (heq : o' = o) : Obj.Intact o o' := heq ▸ .refl o
  cases o with
  | arr a => exact same ((Arr.step_out a op hk).wrapped Obj.arr h nofun)
  | lst l => exact same ((Lst.step_out l op).wrapped Obj.lst h (by simp [show l.kf op = false from hk, R.isOk]))
  | tup t => exact same ((Tup.step_out t op).wrapped Obj.tup h nofun)
  | tre t => exact same ((Tre.step_out t op hk).wrapped Obj.tre h nofun)
  | str s => exact same ((Str.step_out s op hk).wrapped Obj.str h nofun)
  | rng r => exact same ((Rng.step_out r op).wrapped Obj.rng h nofun)
  | tab t =>
    obtain ⟨t', hs, rfl⟩ := raised_of_wrapped Obj.tab _ h
    have := Tab.step_out t op hk
    rw [show t.step op = _ from hs] at this
    cases this with
    | same r => exact .refl _
    | firstBlock e h0 => exact .firstBlock t h0
  | scalar a v =>
    cases op with
    | assign w =>
      simp only [Obj.stepLocal] at h
      repeat' split at h
      all_goals first | (cases h; exact .refl _) | cases h
    | print pos fmt args => rcases fmt with _ | ⟨_ | _ | _ | _, rest⟩ <;> cases h <;> exact .refl _
    | _ => cases h; exact .refl _
  | slc s => cases h
  | zip z => cases h
  | nest n =>
    rcases Obj.nest_stepLocal n op with ⟨nop, hkn, hs⟩ | ⟨r, hs⟩ <;> rw [hs] at h
    · exact same ((Nest.step_out n nop).wrapped Obj.nest h (by simp [hkn, hk]))
    · cases h; exact .refl _
  | junk m =>
    simp only [Obj.stepLocal] at h
    split at h <;> first | (cases h; exact .refl _) | cases h

theorem viewStep_intact (σ : Store) (o : Obj) (op : Op) (hv : o.isView = true) : Obj.Intact o (viewStep σ o op).1 := by
  cases o with
  | slc s =>
    cases op with
    | get k =>
      -- whatever `Range_Get` and the base answer, the Slice is handed back with the range `Range_Get` left
      have : (viewStep σ (.slc s) (.get k)).1 = .slc { s with rng := (s.rng.get k).1 } := by simp only [viewStep]; split <;> simp only [*]
      obtain ⟨v, hr⟩ := (Rng.step_out s.rng (.get k)).rel ⟨_, rfl⟩
      rw [this, show (s.rng.get k).1 = _ from hr]
      exact .scratch s v
    | len => simp only [viewStep]; split <;> exact .refl _
    | assign v => cases v <;> exact .refl _
    | print pos fmt args => rcases fmt with _ | ⟨_ | _ | _ | _, rest⟩ <;> exact .refl _
    | _ => exact .refl _
  | zip z =>
    cases op with
    | get k | len => simp only [viewStep]; (repeat' split) <;> exact .refl _
    | assign v => cases v <;> exact .refl _
    | print pos fmt args => rcases fmt with _ | ⟨_ | _ | _ | _, rest⟩ <;> exact .refl _
    | _ => exact .refl _
  | _ => cases hv

theorem step_raised (σ σ' : Store) (id : Nat) (op : Op) (e : Exc) (hk : kf σ id op = false) (h : step σ id op = (σ', .raised e)) :
    ∃ o o', σ.get? id = some o ∧ σ' = σ.put id o' ∧ Obj.Intact o o' := by
  unfold step at h
  unfold kf at hk
  cases hg : σ.get? id with
  | none => simp [hg] at h
  | some o =>
    simp only [hg] at h hk
    obtain ⟨o', hs, rfl⟩ := raised_of_wrapped (σ.put id) _ h
    refine ⟨o, o', rfl, rfl, ?_⟩
    split at hs
    · rw [← show (viewStep σ o op).1 = o' from congrArg Prod.fst hs]; exact viewStep_intact σ o op ‹_›
    · exact Obj.stepLocal_raised o o' op e hk hs

end Cello.Fail
