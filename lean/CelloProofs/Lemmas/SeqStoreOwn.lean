/-
  An Array's own record as the argument, or pointers to own records inside the operand (`tuple(get(a, k0), …)`).
  The list-level formulas of `Arr.pushElem` / `pushAtElem` / `concatElems` / `assignElems` / `setElem` / `remElem` are what the
  CELLS do: a pointer carries the generation of the block it points into, `realloc` / `free` bump the generation (a read
  through an older pointer is `.ub`), and inside one generation the loop that zeroes a record, reads through the pointer
  and writes is the loop that writes the values (`wrPtrsFrom_eq`).
  For a List only push / push_at / rem of an own element are simulated (end of SeqStoreLst: the element is copied into the
  new node before anything is linked); `LstS.concatElems` / `assignElems` / `setElem` have no simulation lemma.
-/
import CelloProofs.Lemmas.SeqStoreArr

namespace Cello.Seq
variable {α : Type}

/-- `List.Forall₂`, which core Lean does not have -/
inductive All2 {β γ : Type} (R : β → γ → Prop) : List β → List γ → Prop where
  | nil : All2 R [] []
  | cons {b : β} {c : γ} {bs : List β} {cs : List γ} : R b c → All2 R bs cs → All2 R (b :: bs) (c :: cs)

theorem All2.length {β γ : Type} {R : β → γ → Prop} : ∀ {xs : List β} {ys : List γ}, All2 R xs ys → xs.length = ys.length
  | _, _, .nil => rfl
  | _, _, .cons _ h => by simp [All2.length h]

/-- two outcomes that agree: both complete, with related values, or both raise the same exception; neither is `.ub` -/
inductive Res.Rel {β γ : Type} (R : β → γ → Prop) : Res β → Res γ → Prop
  | ok {x : β} {y : γ} : R x y → Res.Rel R (.ok x) (.ok y)
  | raised (e : Exc) : Res.Rel R (.raised e) (.raised e)

/-- `push(a, get(a, k))` is `concat(a, tuple(get(a, k)))` in the list-level model … -/
theorem Arr.pushElem_eq (a : Arr α) (k : Int) : a.pushElem k = a.concatElems [k] := by
  unfold Arr.pushElem Arr.concatElems getAll getAll
  cases a.get k <;> simp [Arr.push, Arr.concat]

namespace ArrS

/-- … and on the cells: `Array_Push` with a pointer is one turn of the loop of `Array_Concat` -/
theorem pushElem_eq [Inhabited α] (s : ArrS α) (k : Int) : s.pushElem k = s.concatElems [k] := by
  unfold ArrS.pushElem ArrS.concatElems ArrS.getPtrs ArrS.getPtrs
  cases s.getPtr k with
  | raised e => rfl
  | ub => rfl
  | ok p =>
    show s.pushPtr p = s.concatPtrs [p]
    unfold ArrS.pushPtr ArrS.concatPtrs ArrS.wrPtrsFrom ArrS.wrPtrsFrom
    dsimp only [List.length_singleton]
    cases hz : (ArrS.reserveMore { s with nitems := s.nitems + 1 }).zero _ with
    | none => rfl
    | some s2 =>
      obtain ⟨_, rfl⟩ := wr_inv hz
      dsimp only
      cases ArrS.deref _ p with
      | none => rfl
      | some x => dsimp only; cases ArrS.wr _ _ x <;> rfl

/-- `Array_Get` as an address and as a value: the address is record `k` of the current block, which holds the value -/
theorem getPtr_rel {s : ArrS α} {a : Arr α} (h : s.Abs a) (k : Int) :
    Res.Rel (fun p x => p = ⟨s.blk, (normIdx a.items.length k).toNat⟩ ∧ p.idx < a.items.length ∧ a.items[p.idx]? = some x)
      (s.getPtr k) (a.get k) := by
  unfold ArrS.getPtr Arr.get Arr.nitems
  simp only [h.len]
  by_cases hc : normIdx a.items.length k < 0 ∨ normIdx a.items.length k ≥ (a.items.length : Int)
  · rw [if_pos hc, if_pos hc]; exact .raised _
  · have hkl := toNat_normIdx_lt hc
    rw [if_neg hc, if_neg hc, h.cell.rd _ hkl, List.getElem?_eq_getElem hkl]
    exact .ok ⟨rfl, hkl, List.getElem?_eq_getElem hkl⟩

theorem pushAtElem_sim [Inhabited α] {s : ArrS α} {a : Arr α} (h : s.Abs a) (k i : Int) :
    (s.pushAtElem k i).1.Abs (a.pushAtElem k i).1 ∧ (s.pushAtElem k i).2 = (a.pushAtElem k i).2 := by
  have hr := getPtr_rel h k
  unfold ArrS.pushAtElem Arr.pushAtElem
  generalize s.getPtr k = r1 at hr
  generalize a.get k = r2 at hr
  cases hr with
  | raised e => exact ⟨h, rfl⟩
  | @ok p x0 hpx =>
    obtain ⟨rfl, p2, _⟩ := hpx
    obtain ⟨hp, hni, hsz, hge, hblk⟩ := h.reserveMore 1
    dsimp only at p2 ⊢
    unfold ArrS.pushAtPtr ArrS.zero ArrS.deref ArrS.rd Arr.nitems
    simp only [h.len] at hp hni hsz hblk ⊢
    by_cases hc : pushIdx a.items.length i < 0 ∨ pushIdx a.items.length i > (a.items.length : Int)
    · rw [if_pos hc, if_pos hc]; exact ⟨h, rfl⟩
    · rw [if_neg hc, if_neg hc, hni, Nat.add_sub_cancel]
      have hjl := toNat_pushIdx_le hc
      generalize (pushIdx a.items.length i).toNat = jj at *
      generalize (normIdx a.items.length k).toNat = kk at *
      generalize ArrS.reserveMore { s with nitems := a.items.length + 1 } = s1 at *
      clear hc
      have hlt : a.items.length < s1.cells.size := by rw [hsz]; exact hge
      rw [memmove_eq s1 (by rw [Nat.add_sub_of_le hjl]; exact Nat.le_of_lt hlt)
        (by rw [Nat.add_right_comm, Nat.add_sub_of_le hjl]; exact hlt)]
      dsimp only
      rw [wr_eq _ default (by rw [Block.size_move]; exact Nat.lt_of_le_of_lt hjl hlt)]
      dsimp only
      by_cases hgrow : a.items.length + 1 > a.nslots
      · -- the block is reallocated: the pointer dangles
        rw [if_pos hgrow] at hblk ⊢
        rw [if_neg (by rw [hblk]; exact Nat.ne_of_lt (Nat.lt_succ_self _))]
        exact ⟨h, rfl⟩
      · rw [if_neg hgrow] at hblk ⊢
        -- the block after memmove + zero holds the list `cells` of the list-level formula; record `kk` is read from it
        have hp3 := hp.holds.insert (default : α) hjl hlt
        have hlen3 : (a.items.take jj ++ default :: a.items.drop jj).length = a.items.length + 1 := by
          rw [take_cons_drop_eq_insertIdx _ _ _ hjl, List.length_insertIdx_of_le_length hjl]
        generalize a.items.take jj ++ default :: a.items.drop jj = cl at hp3 hlen3 ⊢
        have hkin : kk < cl.length := by rw [hlen3]; exact Nat.lt_succ_of_lt p2
        rw [if_pos hblk.symm, hp3 kk hkin, List.getElem?_eq_getElem hkin]
        dsimp only [Option.getD]
        generalize cl[kk] = v
        generalize hc3 : (Block.move s1.cells (jj + 1) jj (a.items.length - jj)).setIfInBounds jj (some default) = c3 at hp3 ⊢
        have hs3 : c3.size = a.nslots := by
          rw [← hc3, Array.size_setIfInBounds, Block.size_move, hsz]
          unfold Seq.reserveMore; rw [if_neg hgrow]
        have hj3 : jj < c3.size := by rw [hs3]; omega
        rw [wr_eq _ v hj3]
        exact ⟨⟨(Array.size_setIfInBounds ..).trans hs3, hni.trans (hlen3.symm.trans (List.length_set ..).symm), hp3.set v hj3⟩, rfl⟩

/-- a pointer of the operand: into the block of generation `blk`, at a record that holds `x` -/
def PtrOk (blk : Nat) (l : List α) (p : Ptr) (x : α) : Prop := p.blk = blk ∧ l[p.idx]? = some x

theorem getPtrs_rel {s : ArrS α} {a : Arr α} (h : s.Abs a) : ∀ (ks : List Int),
    Res.Rel (All2 (PtrOk s.blk a.items)) (s.getPtrs ks) (getAll a.get ks)
  | [] => .ok .nil
  | k :: ks => by
    have h1 := getPtr_rel h k
    have h2 := getPtrs_rel h ks
    simp only [getAll, ArrS.getPtrs]
    generalize s.getPtr k = r1 at h1
    generalize a.get k = r2 at h1
    generalize s.getPtrs ks = r3 at h2
    generalize getAll a.get ks = r4 at h2
    cases h1 with
    | raised e => exact .raised e
    | ok hp =>
      cases h2 with
      | raised e => exact .raised e
      | ok hps => exact .ok (.cons ⟨by rw [hp.1], hp.2.2⟩ hps)

/-- a loop whose first pointer is into another block generation stops at once (use after free) -/
theorem wrPtrsFrom_dangling [Inhabited α] (s : ArrS α) (k : Nat) (p : Ptr) (ps : List Ptr) (hb : p.blk ≠ s.blk) :
    s.wrPtrsFrom k (p :: ps) = none := by
  simp only [ArrS.wrPtrsFrom, ArrS.zero]
  cases hz : s.wr k default with
  | none => rfl
  | some s1 =>
    obtain ⟨_, rfl⟩ := wr_inv hz
    simp only [ArrS.deref, if_neg hb]

/-- inside ONE block generation, with every pointer of the operand naming a record below the write position, the pointer loop
    (zero the record, read through the pointer, write) is the loop that writes the values: the records named are intact
    when they are read, and the zeroing is overwritten at once -/
theorem wrPtrsFrom_eq [Inhabited α] {l : List α} : ∀ (ps : List Ptr) (xs : List α) (s : ArrS α) (k : Nat),
    s.Pre l → l.length ≤ k → k + ps.length ≤ s.cells.size → All2 (PtrOk s.blk l) ps xs → s.wrPtrsFrom k ps = s.wrFrom k xs
  | [], _, _, _, _, _, _, .nil => rfl
  | p :: ps, _, s, k, hp, hk, hsz, .cons (c := x) (cs := xs) hpx hrest => by
    rw [List.length_cons] at hsz
    have hks : k < s.cells.size := by omega
    have hidx : p.idx < l.length := (List.getElem?_eq_some_iff.1 hpx.2).1
    simp only [ArrS.wrPtrsFrom, ArrS.zero, ArrS.wrFrom, wr_eq s _ hks, ArrS.deref, ArrS.rd, if_pos hpx.1]
    rw [Block.getElem?_set _ _ hks, if_neg (by omega), hp _ hidx, hpx.2]
    simp only [Option.getD_some]
    rw [wr_eq (s := { s with cells := s.cells.setIfInBounds k (some default) }) x (by rw [Array.size_setIfInBounds]; exact hks)]
    simp only [Array.setIfInBounds_setIfInBounds]
    exact wrPtrsFrom_eq ps xs { s with cells := s.cells.setIfInBounds k (some x) } (k + 1) (hp.holds.set_above _ hk) (by omega)
      (by rw [Array.size_setIfInBounds]; omega) hrest

/-- `concat(a, tuple(get(a, k0), …))` on cells does what `Arr.concatElems` says: `.ub` when the operand is not empty and
    `Array_Reserve_More` reallocates (the first pointer then dangles), the plain `concat` of the values otherwise -/
theorem concatElems_sim [Inhabited α] {s : ArrS α} {a : Arr α} (h : s.Abs a) (ks : List Int) :
    (s.concatElems ks).1.Abs (a.concatElems ks).1 ∧ (s.concatElems ks).2 = (a.concatElems ks).2 := by
  have hr := getPtrs_rel h ks
  unfold ArrS.concatElems Arr.concatElems
  generalize s.getPtrs ks = r1 at hr
  generalize getAll a.get ks = r2 at hr
  cases hr with
  | raised e => exact ⟨h, rfl⟩
  | @ok ps xs q2 =>
    have hlen : ps.length = xs.length := All2.length q2
    obtain ⟨hp, hni, hsz, hge, hblk⟩ := h.reserveMore ps.length
    by_cases hgrow : a.items.length + ps.length > a.nslots
    · rw [if_pos hgrow] at hblk
      cases q2 with
      | nil => exact absurd hgrow (Nat.not_lt.2 h.capOk)
      | @cons p x ps' xs' hpx hrest =>
        -- the block is reallocated: every pointer of the operand dangles
        dsimp only [ArrS.concatPtrs]
        rw [hlen] at hgrow
        rw [if_pos ⟨List.cons_ne_nil _ _, hgrow⟩,
          wrPtrsFrom_dangling _ _ p ps' (by rw [hblk, hpx.1]; exact Nat.ne_of_lt (Nat.lt_succ_self _))]
        exact ⟨h, rfl⟩
    · -- the block stays: the pointers are into it and name records in front of the first one written
      rw [if_neg hgrow] at hblk
      have hc : s.concatPtrs ps = s.concat xs := by
        unfold ArrS.concatPtrs ArrS.concat
        rw [← hlen]; dsimp only
        rw [hni, Nat.add_sub_cancel, wrPtrsFrom_eq ps xs _ _ hp (Nat.le_refl _) (by rw [hsz]; exact hge)
          (by rw [hblk]; exact q2)]
      rw [hlen] at hgrow
      dsimp only
      rw [hc, if_neg (fun hh => hgrow hh.2)]
      exact concat_sim h xs

theorem pushElem_sim [Inhabited α] {s : ArrS α} {a : Arr α} (h : s.Abs a) (k : Int) :
    (s.pushElem k).1.Abs (a.pushElem k).1 ∧ (s.pushElem k).2 = (a.pushElem k).2 := by
  rw [pushElem_eq, Arr.pushElem_eq]; exact concatElems_sim h [k]

/-- `assign(a, tuple(get(a, k0), …))` on cells does what `Arr.assignElems` says: `Array_Clear` frees the block, so a
    non-empty operand is read through dangling pointers (`.ub`); an empty operand just clears -/
theorem assignElems_sim [Inhabited α] {s : ArrS α} {a : Arr α} (h : s.Abs a) (ks : List Int) :
    (s.assignElems ks).1.Abs (a.assignElems ks).1 ∧ (s.assignElems ks).2 = (a.assignElems ks).2 := by
  have hr := getPtrs_rel h ks
  unfold ArrS.assignElems Arr.assignElems
  generalize s.getPtrs ks = r1 at hr
  generalize getAll a.get ks = r2 at hr
  cases hr with
  | raised e => exact ⟨h, rfl⟩
  | @ok ps xs q2 =>
    simp only
    rw [clear_eq h]
    simp only
    cases q2 with
    | nil =>
      simp only [List.length_nil, if_true, ne_eq, not_true_eq_false, if_false]
      exact ⟨nil_abs _, rfl⟩
    | @cons p x ps' xs' hpx hrest =>
      rw [if_neg (by simp), if_pos (by simp)]
      rw [wrPtrsFrom_dangling _ _ p ps' (by show p.blk ≠ s.blk + 1 + 1; rw [hpx.1]; omega)]
      exact ⟨h, rfl⟩

/-- `set(a, i, get(a, k))` on cells (both settings of the element type's `assign(x, x)`): the pointer still points into the block
    (nothing is reallocated), the read through it gives the value of record `k`, the write goes to record `i`; with the old String
    code the call is a use after free exactly when both indices name the same record -/
theorem setElem_sim {s : ArrS α} {a : Arr α} (h : s.Abs a) (i k : Int) (ok : Bool) :
    (s.setElem i k ok).1.Abs (a.setElem i k ok).1 ∧ (s.setElem i k ok).2 = (a.setElem i k ok).2 := by
  have hn : a.nitems = a.items.length := rfl
  have hr := getPtr_rel h k
  unfold ArrS.setElem Arr.setElem
  generalize s.getPtr k = r1 at hr
  generalize hg : a.get k = r2 at hr
  cases hr with
  | raised e => exact ⟨h, rfl⟩
  | @ok p x hpx =>
    obtain ⟨rfl, p2, p3⟩ := hpx
    simp only [h.len, hn] at p2 p3 ⊢
    have hkin : ¬ (normIdx a.items.length k < 0 ∨ normIdx a.items.length k ≥ (a.items.length : Int)) := by
      intro hc
      unfold Arr.get at hg; simp only [hn] at hg; rw [if_pos hc] at hg; cases hg
    by_cases hc : normIdx a.items.length i < 0 ∨ normIdx a.items.length i ≥ (a.items.length : Int)
    · -- `i` out of range: the indices differ, `Array_Set` raises
      have hsame : sameIdx a.items.length i k = false := by
        unfold sameIdx; simp only [beq_eq_false_iff_ne, ne_eq]; intro he; rw [he] at hc; exact hkin hc
      rw [if_pos hc, hsame, Bool.and_false]
      unfold Arr.set; rw [hn, if_pos hc]; exact ⟨h, rfl⟩
    · rw [if_neg hc]
      rw [toNat_normIdx_beq hc hkin]
      by_cases hub : (!ok && sameIdx a.items.length i k) = true
      · rw [if_pos hub, if_pos hub]; exact ⟨h, rfl⟩
      · rw [if_neg hub, if_neg hub]
        have hil : (normIdx a.items.length i).toNat < a.items.length := toNat_normIdx_lt hc
        have hd : s.deref ⟨s.blk, (normIdx a.items.length k).toNat⟩ = some x := by
          unfold ArrS.deref; rw [if_pos rfl, h.cell.rd _ p2, p3]
        rw [hd, h.cell.rd _ hil, List.getElem?_eq_getElem hil]
        simp only
        have := set_sim h i x
        unfold ArrS.set Arr.set at this
        simp only [h.len, hn] at this
        rw [if_neg hc, if_neg hc, h.cell.rd _ hil, List.getElem?_eq_getElem hil] at this
        unfold Arr.set; simp only [hn]; rw [if_neg hc]
        exact this

theorem remElem_sim [BEq α] {s : ArrS α} {a : Arr α} (h : s.Abs a) (k : Int) :
    (s.remElem k).1.Abs (a.remElem k).1 ∧ (s.remElem k).2 = (a.remElem k).2 := by
  unfold ArrS.remElem Arr.remElem
  rw [get_sim h k]
  cases a.get k with
  | ok x => exact rem_sim h x
  | raised e => exact ⟨h, rfl⟩
  | ub => exact ⟨h, rfl⟩

end ArrS

end Cello.Seq
