/-
  CelloProofs/Lemmas/TableKeys.lean — the two key classes the property names, Int and String, as instances of the abstract
  key type of the Table model: the model's key test `r.key = c.key` is run with the decision procedure that the C code runs,
  `eq(a, b)` of src/Cmp.c over `Int_Cmp` of src/Num.c resp. `strcmp` (`String_Cmp`), and the hash is `Int_Hash` resp.
  `String_Hash` = `hash_data` of src/Hash.c.  `CelloGen.Cmp.eq`, `CelloGen.Cmp.intCmp` and the constants of `hashData` are
  regenerated from the source on every run (generators Cmp, Hash), so a change of `Int_Cmp`/`eq`/`hash_data` that breaks
  "eq is equality of the value" breaks the proofs below.

  `String_Cmp` is a call of libc's `strcmp`: there is nothing to translate, the model of it is `Cello.Cmp.bytesCmp` (first
  differing byte as unsigned char; a proper prefix is smaller).  That `String_Cmp` IS that call is an assumption of the String
  instance, stated as `StringCmpIsStrcmp` over the texts generator Table reads from src/String.c on every run: a `String_Cmp`
  that compares anything else (a prefix, a folded case, 7 bits, the hash) does not meet it (`prefixCmp` below is such a
  test; Props/C02.lean shows it identifying two different keys).
-/
import Cello.Cmp
import CelloGen.Cmp
import CelloGen.Table
import CelloProofs.Lemmas.Cmp
import Cello.Hash
namespace Cello.Table

/-- **Int keys: `eq` is equality of the 64-bit value**, all 2^128 pairs (`eq` and `Int_Cmp` as translated from the source) -/
theorem int_eq_iff (a b : BitVec 64) : CelloGen.Cmp.eq Cello.Cmp.intCmp a b = true ↔ a = b := by
  simp only [CelloGen.Cmp.eq, beq_iff_eq]
  rw [(Cello.Cmp.intCmp_sign a b).2.1, BitVec.toInt_inj]

/-- the key test of the model for Int keys: the C predicate `eq(a, b)` -/
def intKeyEq : DecidableEq (BitVec 64) := fun a b => decidable_of_iff _ (int_eq_iff a b)

/-- `Int_Hash`: `(uint64_t)c_int(self)` -/
def intKeyHash (k : BitVec 64) : Nat := k.toNat

/-- the texts the String key instance is written against: `String_Cmp` is `strcmp` on the two character buffers -/
def stringCmpModelled : String := "return strcmp(String_C_Str(self), c_str(obj));"
def stringCStrModelled : String := "struct String* s = self; return s->val;"
def cStrModelled : String := "if (type_of(self) is String) { return ((struct String*)self)->val; } return method(self, C_Str, c_str);"

/-- **the assumption of the String instance, about the text of src/String.c**: `eq` on two String keys runs
    `strcmp(self->val, obj->val)` — the body of `String_Cmp` (String's registered Cmp instance) and of the two accessors it reads
    its operands through are the texts `bytesCmp` models -/
def StringCmpIsStrcmp : Prop :=
  CelloGen.Table.stringCmpText = stringCmpModelled ∧ CelloGen.Table.stringCStrText = stringCStrModelled ∧
  CelloGen.Table.cStrText = cStrModelled

/-- a key test weaker than `strcmp`: `memcmp` over the shorter of the two lengths, the tie-break on the length forgotten -/
def prefixCmp (a b : List UInt8) : Int :=
  Cello.Cmp.bytesCmp (a.take (min a.length b.length)) (b.take (min a.length b.length))

/-- **String keys: `eq` (`strcmp(a, b) is 0`) is equality of the byte strings** -/
theorem string_eq_iff (a b : List UInt8) : CelloGen.Cmp.eq Cello.Cmp.bytesCmp a b = true ↔ a = b := by
  simp only [CelloGen.Cmp.eq, beq_iff_eq]
  exact Cello.Cmp.bytesCmp_strict.zero_iff a b trivial trivial

/-- the key test of the model for String keys: the C predicate `eq(a, b)` over `strcmp` -/
def stringKeyEq : DecidableEq (List UInt8) := fun a b => decidable_of_iff _ (string_eq_iff a b)

/-- `String_Hash`: `hash_data(s->val, strlen(s->val))` -/
def stringKeyHash (k : List UInt8) : Nat := (Cello.Hash.hashData k).toNat

/-- equal keys hash equally (C10), for the two classes: what makes `hash` a function of the abstract key -/
theorem int_eq_hash (a b : BitVec 64) (h : CelloGen.Cmp.eq Cello.Cmp.intCmp a b = true) : intKeyHash a = intKeyHash b := by
  rw [(int_eq_iff a b).mp h]

theorem string_eq_hash (a b : List UInt8) (h : CelloGen.Cmp.eq Cello.Cmp.bytesCmp a b = true) :
    stringKeyHash a = stringKeyHash b := by
  rw [(string_eq_iff a b).mp h]

/-- Float keys are outside: `eq` on doubles is not equality of the value and not even an equivalence — a NaN compares equal
    to every double (`Float_Cmp` answers 0 when the difference is NaN), so 1.0 "=" NaN "=" 2.0 while 1.0 ≠ 2.0 -/
theorem float_eq_not_an_equivalence :
    Cello.Hash.floatCmp 0x3ff0000000000000 0x7ff8000000000000 = 0 ∧ Cello.Hash.floatCmp 0x7ff8000000000000 0x4000000000000000 = 0 ∧
    Cello.Hash.floatCmp 0x3ff0000000000000 0x4000000000000000 ≠ 0 := by decide

end Cello.Table
