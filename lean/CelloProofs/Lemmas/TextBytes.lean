/-
  Lemmas for C15 (engine `text`): what the writers produce is made of bytes (`item_text_bytes`, `items_text_bytes`) when the Strings
  shown and the separators are (`Item.ownBytes`) and the writer's tables hold bytes (`showTextsOK`): the numbers are written in ASCII.
  The typed character path of Cello/TextScan.lean agrees with the byte-level model on such texts only (Lemmas/TextScan.lean).
-/
import CelloProofs.Lemmas.TextString
import CelloProofs.Lemmas.Text

namespace Cello.Text

def Bytes (l : List Nat) : Prop := ∀ b ∈ l, b < 256

theorem bytes_append {a b : List Nat} (ha : Bytes a) (hb : Bytes b) : Bytes (a ++ b) := by
  intro x hx; rcases List.mem_append.1 hx with h | h
  · exact ha x h
  · exact hb x h

theorem bytes_nil : Bytes [] := nofun

theorem bytes_cons {a : Nat} {l : List Nat} (ha : a < 256) (hl : Bytes l) : Bytes (a :: l) := by
  intro x hx; rcases List.mem_cons.1 hx with rfl | h
  · exact ha
  · exact hl x h

theorem bytes_of_lt {l : List Nat} {k : Nat} (hk : k ≤ 256) (h : ∀ b ∈ l, b < k) : Bytes l := fun b hb => by have := h b hb; omega

theorem bytes_drop {l : List Nat} (h : Bytes l) (k : Nat) : Bytes (l.drop k) := fun b hb => h b (List.mem_of_mem_drop hb)
theorem bytes_take {l : List Nat} (h : Bytes l) (k : Nat) : Bytes (l.take k) := fun b hb => h b (List.mem_of_mem_take hb)
theorem bytes_sign (sg : Bool) : Bytes (if sg then [45] else []) := by
  cases sg
  · exact bytes_nil
  · exact bytes_cons (by omega) bytes_nil

theorem digitChar_lt (upper : Bool) (d : Nat) (hd : d < 16) : digitChar upper d < 128 := by
  simp only [digitChar]; split
  · omega
  · split <;> omega

theorem digitsB_lt128 (base : Nat) (hb2 : 2 ≤ base) (hb : base ≤ 16) (upper : Bool) (n : Nat) : ∀ b ∈ digitsB base upper n, b < 128 := by
  intro b hb'
  obtain ⟨d, hd, rfl⟩ := mem_digitsB base upper hb2 n b hb'
  exact digitChar_lt _ _ (by omega)

theorem natDigits_bytes (n : Nat) : Bytes (natDigits n) := fun b hb => by have := (isDigit_iff b).1 (natDigits_isDigit n b hb); omega

theorem printInt_bytes (n : Int) : Bytes (printInt n) := by
  simp only [printInt]; split
  · exact bytes_cons (by omega) (natDigits_bytes _)
  · exact natDigits_bytes _

theorem printIntSpec_bytes (m : IMod) (c : IConv) (n : Int) : Bytes (printIntSpec m c n) := by
  cases c <;> simp only [printIntSpec]
  · exact printInt_bytes _
  · exact printInt_bytes _
  · exact bytes_of_lt (by omega) (digitsB_lt128 8 (by omega) (by omega) _ _)
  · exact natDigits_bytes _
  · exact bytes_of_lt (by omega) (digitsB_lt128 16 (by omega) (by omega) _ _)
  · exact bytes_of_lt (by omega) (digitsB_lt128 16 (by omega) (by omega) _ _)

theorem printF_bytes (bits : Nat) : Bytes (printF bits) := by
  simp only [printF]
  exact bytes_append (bytes_append (bytes_append (bytes_sign _) (natDigits_bytes _)) (bytes_cons (by omega) bytes_nil))
    (bytes_drop (natDigits_bytes _) 1)

theorem expText_bytes (upper : Bool) (x : Int) : Bytes (expText upper x) := by
  simp only [expText]
  refine bytes_append (bytes_append (bytes_cons ?_ (bytes_cons ?_ bytes_nil)) ?_) (natDigits_bytes _)
  · split <;> omega
  · split <;> omega
  · split
    · exact bytes_cons (by omega) bytes_nil
    · exact bytes_nil

theorem printE_bytes (upper : Bool) (bits : Nat) : Bytes (printE upper bits) := by
  simp only [printE]
  exact bytes_append (bytes_append (bytes_append (bytes_append (bytes_sign _) (natDigits_bytes _)) (bytes_cons (by omega) bytes_nil))
    (bytes_drop (natDigits_bytes _) 1)) (expText_bytes _ _)

theorem stripZeros_bytes {l : List Nat} (h : Bytes l) : Bytes (stripZeros l) := fun b hb => h b (mem_stripZeros l b hb)

theorem pt_bytes {f : List Nat} (h : Bytes f) : Bytes (if f.isEmpty then [] else 46 :: f) := by
  split
  · exact bytes_nil
  · exact bytes_cons (by omega) h

theorem printG_bytes (upper : Bool) (bits : Nat) : Bytes (printG upper bits) := by
  simp only [printG]
  split
  · exact bytes_append (bytes_sign _) (bytes_cons (by omega) bytes_nil)
  · split
    · exact bytes_append (bytes_append (bytes_append (bytes_sign _) (bytes_take (natDigits_bytes _) _))
        (pt_bytes (stripZeros_bytes (bytes_drop (natDigits_bytes _) _)))) (expText_bytes _ _)
    · split
      · exact bytes_append (bytes_append (bytes_sign _) (bytes_take (natDigits_bytes _) _))
          (pt_bytes (stripZeros_bytes (bytes_drop (natDigits_bytes _) _)))
      · refine bytes_append (bytes_append (bytes_sign _) (bytes_cons (by omega) bytes_nil)) (pt_bytes (stripZeros_bytes ?_))
        refine bytes_append ?_ (natDigits_bytes _)
        intro b hb; have := List.eq_of_mem_replicate hb; omega

theorem printFloatSpec_bytes (c : FConv) (bits : Nat) : Bytes (printFloatSpec c bits) := by
  cases c <;> simp only [printFloatSpec]
  · exact printF_bytes _
  · exact printF_bytes _
  · exact printE_bytes _ _
  · exact printE_bytes _ _
  · exact printG_bytes _ _
  · exact printG_bytes _ _

def Item.ownBytes : Item → Prop
  | .shw (.str s) => Bytes s
  | .lit t => Bytes t
  | _ => True

theorem showByte_bytes (esc : List (Nat × List Nat)) (he : ∀ p ∈ esc, Bytes p.2) (b : Nat) (hb : b < 256) : Bytes (showByte esc b) := by
  simp only [showByte]
  cases hl : esc.lookup b with
  | some t => exact he _ (mem_of_lookup _ _ _ hl)
  | none => exact bytes_cons hb bytes_nil

/-- the texts the writer's tables hold are bytes (decided on the generated tables) -/
def showTextsOK (c : Cfg) : Bool :=
  c.showEsc.all (fun p => p.2.all (fun b => decide (b < 256))) && c.showOpen.all (fun b => decide (b < 256)) && c.showClose.all (fun b => decide (b < 256))

theorem showString_bytes (c : Cfg) (hT : showTextsOK c = true) (s : List Nat) (hs : Bytes s) :
    Bytes (showString c.showEsc c.showOpen c.showClose s) := by
  simp only [showTextsOK, Bool.and_eq_true, List.all_eq_true, decide_eq_true_eq] at hT
  refine bytes_append (bytes_append hT.1.2 ?_) hT.2
  intro x hx
  obtain ⟨b, hb, hxb⟩ := List.mem_flatMap.1 hx
  exact showByte_bytes c.showEsc (fun p hp => hT.1.1 p hp) b (hs b hb) x hxb

theorem item_text_bytes (c : Cfg) (hT : showTextsOK c = true) (it : Item) (h : it.ownBytes) : Bytes (it.text c) := by
  cases it with
  | shw v =>
    cases v with
    | str s => exact showString_bytes c hT s h
    | int n => exact printInt_bytes n
    | flt b => exact printF_bytes b
  | ispec m cv n => exact printIntSpec_bytes m cv n
  | fspec l cv b => exact printFloatSpec_bytes cv b
  | lit t => exact h
  | pct => exact bytes_cons (by omega) bytes_nil

theorem items_text_bytes (c : Cfg) (hT : showTextsOK c = true) (its : List Item) (h : ∀ it ∈ its, it.ownBytes) :
    Bytes (its.flatMap (Item.text c)) := by
  intro x hx
  obtain ⟨it, hit, hxi⟩ := List.mem_flatMap.1 hx
  exact item_text_bytes c hT it (h it hit) x hxi

end Cello.Text
