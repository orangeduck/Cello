/-
  C13 (threads), the thread table: what one event does to the component of one thread (`step_thr`), from the cases of
  the three events that write the table; on it, properties of single components along schedules (`step_thr_inv`,
  `run_thr_inv`) and the component of a finished thread (`run_after_join`).  Also what `arg` does to `args`, and the outcomes of `rd`, `rdo`.
-/
import CelloProofs.Lemmas.ThrLocal
import CelloProofs.Lemmas.ThrFrame

namespace Cello.Thr

theorem step_loc (cfg : Cfg) (g : G) (t : Tid) (op : LOp) :
    step cfg g (.loc t op) =
      if wrapperKilled g t (lstep cfg t g.cache (foreignMarks cfg g t op) op (g.thr t)).1 = true then (g, .ub)
      else
      ({ g with thr := upd g.thr t (lstep cfg t g.cache (foreignMarks cfg g t op) op (g.thr t)).1,
                cache := (lstep cfg t g.cache (foreignMarks cfg g t op) op (g.thr t)).2.1 },
       (lstep cfg t g.cache (foreignMarks cfg g t op) op (g.thr t)).2.2) := by
  dsimp only [step]

theorem wrapperKilled_gc (g : G) (t : Tid) (ts' : TS) (h : ts'.gc = (g.thr t).gc) : wrapperKilled g t ts' = false := by
  unfold wrapperKilled
  rw [List.any_eq_false]
  intro uw _
  have : registered ts' uw.2 = registered (g.thr t) uw.2 := by simp [registered, h]
  rw [this]
  cases registered (g.thr t) uw.2 <;> simp

/-- what `spawn _ v` does: a Thread object never called, or finished (a joined one is called again), is `ready` and the
    argument tuple of its previous run is dropped; otherwise nothing happens -/
inductive SpawnStep (g : G) (v : Tid) (r : G × Out) : Prop
  | born (hph : (g.thr v).phase = .unborn ∨ (g.thr v).phase = .done) (ho : r.2 = .spawned)
      (hthr : r.1.thr = upd g.thr v { g.thr v with phase := .ready }) (hargs : r.1.args = g.args.filter (fun a => a.1 ≠ v))
  | idle (o : Out) (hr : r = (g, o)) (ho : o ≠ .spawned)

theorem step_spawn (cfg : Cfg) (g : G) (t v : Tid) : SpawnStep g v (step cfg g (.spawn t v)) := by
  rw [step]
  refine iteInduction (fun _ => .idle _ rfl Out.noConfusion) fun _ => ?_
  refine iteInduction (fun _ => .idle _ rfl Out.noConfusion) fun _ => ?_
  refine iteInduction (fun h => .born (.inl h) rfl rfl rfl) fun _ => ?_
  exact iteInduction (fun h => .born (.inr h.1) rfl rfl rfl) fun _ => .idle _ rfl Out.noConfusion

inductive JoinStep (cfg : Cfg) (g : G) (t u : Tid) (r : G × Out) : Prop
  /-- a running thread joins itself: what the translation of EDEADLK says is raised, into its own exception record -/
  | raise (x : Exc) (htu : t = u) (hrun : (g.thr t).phase = .running) (hx : joinTrOf cfg .edeadlk = some x)
      (hr : r = ({ g with thr := upd g.thr t { g.thr t with exc := caught x (g.thr t).exc } }, .raised x))
  /-- the join of a finished thread that has not been joined yet succeeds and sets the flag -/
  | joined (hd : (g.thr u).phase = .done) (hr : r = ({ g with joined := upd g.joined u true }, .joined))
  /-- nothing happens; `early` only as a self-join under a translation without a case for EDEADLK -/
  | idle (o : Out) (hr : r = (g, o)) (h1 : ∀ x, o ≠ .raised x) (h2 : o ≠ .joined) (h3 : o = .early → joinTrOf cfg .edeadlk = none)

theorem JoinStep.same {cfg : Cfg} {g : G} {t u : Tid} (o : Out) (h1 : ∀ x, o ≠ .raised x) (h2 : o ≠ .joined) (h3 : o ≠ .early) :
    JoinStep cfg g t u (g, o) :=
  .idle o rfl h1 h2 fun h => absurd h h3

theorem step_join (cfg : Cfg) (g : G) (t u : Tid) : JoinStep cfg g t u (step cfg g (.join t u)) := by
  rw [step]
  refine iteInduction (fun _ => .same _ (fun _ => Out.noConfusion) Out.noConfusion Out.noConfusion) fun hr => ?_
  refine iteInduction (fun _ => .same _ (fun _ => Out.noConfusion) Out.noConfusion Out.noConfusion) fun _ => ?_
  refine iteInduction (fun htu => ?_) fun _ => ?_
  · cases hx : joinTrOf cfg .edeadlk with
    | none => exact .idle _ rfl (fun _ => Out.noConfusion) Out.noConfusion fun _ => hx
    | some x => exact .raise x htu (by simpa [running] using hr) hx rfl
  · cases hp : (g.thr u).phase with
    | done =>
      exact iteInduction (fun _ => .same _ (fun _ => Out.noConfusion) Out.noConfusion Out.noConfusion) fun _ => .joined hp rfl
    | _ => exact .same _ (fun _ => Out.noConfusion) Out.noConfusion Out.noConfusion

/-- the two outcomes `C13_join_statement` speaks of: `joined`, and (OLD variant only) `early` -/
theorem step_join_returns (cfg : Cfg) (g : G) (t u : Tid) :
    ((step cfg g (.join t u)).2 = .joined → (g.thr u).phase = .done ∧ (step cfg g (.join t u)).1.thr = g.thr) ∧
    (cfg.joinIgnoresDeadlk = false → (step cfg g (.join t u)).2 ≠ .early) := by
  cases step_join cfg g t u with
  | joined hd hr => rw [hr]; exact ⟨fun _ => ⟨hd, rfl⟩, fun _ => Out.noConfusion⟩
  | raise _ _ _ _ hr => rw [hr]; exact ⟨fun h => Out.noConfusion h, fun _ => Out.noConfusion⟩
  | idle o hr _ h2 h3 =>
    rw [hr]
    exact ⟨fun h => absurd h h2, fun hj he => nomatch (joinTrOf_edeadlk hj).symm.trans (h3 he)⟩

/-- `arg` writes no other field (`step_frame`) -/
theorem step_arg (cfg : Cfg) (g : G) (t u : Tid) (os : List Obj) :
    (step cfg g (.arg t u os)).1.args = g.args ∨
    (step cfg g (.arg t u os)).1.args = (u, os) :: g.args.filter (fun a => a.1 ≠ u) := by
  dsimp only [step]
  split
  · exact .inl rfl
  · split
    · exact .inr rfl
    · exact .inl rfl

/-- not for a local operation: there `dead` is `lstep`'s, and the `begin_` of a thread that is `ready` is executed -/
theorem step_dead (cfg : Cfg) (g : G) (e : Ev) (hl : ∀ t op, e ≠ .loc t op) (hr : running g e.tid = false) :
    (step cfg g e).2 = .dead := by
  cases e with
  | loc t op => exact absurd rfl (hl t op)
  | _ => dsimp only [Ev.tid] at hr; dsimp only [step]; rw [hr]; rfl

/-- the middle case covers a raising self-join: for `u` it is the local operation `perr join EDEADLK` -/
theorem step_thr (cfg : Cfg) (g : G) (e : Ev) (u : Tid) :
    (step cfg g e).1.thr u = g.thr u ∨
    (e.tid = u ∧ ∃ c fm op, (step cfg g e).1.thr u = (lstep cfg u c fm op (g.thr u)).1) ∨
    ((∃ t, e = .spawn t u) ∧ ((g.thr u).phase = .unborn ∨ (g.thr u).phase = .done) ∧
      (step cfg g e).1.thr u = { g.thr u with phase := .ready }) := by
  cases hw : e.writes.contains .thr with
  | false => rw [(step_frame cfg g e).thr hw]; exact .inl rfl
  | true =>
    cases e with
    | loc t op =>
      rw [step_loc]
      split
      · exact .inl rfl
      · by_cases h : u = t
        · subst h; exact .inr (.inl ⟨rfl, _, _, op, upd_same _ _ _⟩)
        · exact .inl (upd_other _ _ _ _ h)
    | spawn t v =>
      cases step_spawn cfg g t v with
      | born hph _ hthr _ =>
        rw [hthr]
        by_cases h : u = v
        · subst h; exact .inr (.inr ⟨⟨t, rfl⟩, hph, upd_same _ _ _⟩)
        · exact .inl (upd_other _ _ _ _ h)
      | idle o hr => rw [hr]; exact .inl rfl
    | join t w =>
      cases step_join cfg g t w with
      | raise x _ hrun hx hr =>
        rw [hr]
        by_cases h : u = t
        · subst h
          exact .inr (.inl ⟨rfl, [], [], .perr .join .edeadlk, by rw [lstep_perr_join cfg u [] [] _ hrun x hx]; exact upd_same _ _ _⟩)
        · exact .inl (upd_other _ _ _ _ h)
      | joined _ hr => rw [hr]; exact .inl rfl
      | idle o hr => rw [hr]; exact .inl rfl
    | _ => exact Bool.noConfusion hw

theorem step_thr_inv (cfg : Cfg) {P : Tid → TS → Prop}
    (hl : ∀ t c fm op ts, P t ts → P t (lstep cfg t c fm op ts).1)
    (hb : ∀ t ts, P t ts → P t { ts with phase := .ready })
    (g : G) (e : Ev) (h : ∀ t, P t (g.thr t)) (t : Tid) : P t ((step cfg g e).1.thr t) := by
  rcases step_thr cfg g e t with h' | ⟨_, c, fm, op, h'⟩ | ⟨_, _, h'⟩ <;> rw [h']
  · exact h t
  · exact hl t c fm op _ (h t)
  · exact hb t _ (h t)

theorem run_thr_inv (cfg : Cfg) {P : Tid → TS → Prop}
    (hl : ∀ t c fm op ts, P t ts → P t (lstep cfg t c fm op ts).1)
    (hb : ∀ t ts, P t ts → P t { ts with phase := .ready })
    (s : List Ev) : ∀ g : G, (∀ t, P t (g.thr t)) → ∀ t, P t ((run cfg s g).1.thr t) := by
  induction s with
  | nil => intro g h; exact h
  | cons e s ih => intro g h; rw [run_cons]; exact ih _ (step_thr_inv cfg hl hb g e h)

theorem own_init : ∀ t, Own t (G.init.thr t) := by
  intro t
  simp only [G.init]
  split
  · exact ⟨(by intro g hg e he; simp [TS.main] at hg; subst hg; cases he), (by intro o ho; cases ho)⟩
  · exact ⟨(by intro g hg; simp [TS.unborn] at hg), (by intro o ho; cases ho)⟩

theorem hasExc_init : ∀ t, HasExc (G.init.thr t) := by
  intro t
  simp only [G.init]
  split
  · intro _; simp [TS.main]
  · intro hp; simp [TS.unborn] at hp

/-- `del` of an object another thread allocated finalises nothing: it is looked up in the caller's registry, which holds
    objects of the caller only -/
theorem step_foreign_del (cfg : Cfg) (g : G) (t : Tid) (o : Obj) (ho : o.owner ≠ t)
    (hown : ∀ gc, (g.thr t).gc = some gc → ∀ e ∈ gc.reg, e.1.owner = t) :
    (step cfg g (.loc t (.del o))).2 = .fin [] ∨ (step cfg g (.loc t (.del o))).2 = .dead ∨
    (step cfg g (.loc t (.del o))).2 = .raised .keyError := by
  have key : ∀ fm, (lstep cfg t g.cache fm (.del o) (g.thr t)).1.gc = (g.thr t).gc ∧
      ((lstep cfg t g.cache fm (.del o) (g.thr t)).2.2 = .fin [] ∨ (lstep cfg t g.cache fm (.del o) (g.thr t)).2.2 = .dead ∨
       (lstep cfg t g.cache fm (.del o) (g.thr t)).2.2 = .raised .keyError) := by
    intro fm
    dsimp only [lstep]
    split
    · dsimp only [lrun]
      cases hg : (g.thr t).gc with
      | none => exact ⟨hg, Or.inr (Or.inr rfl)⟩
      | some gc =>
        have : gc.reg.any (fun e => decide (e.1 = o)) = false := by
          rw [List.any_eq_false]
          intro e he
          have := hown gc hg e he
          simp only [decide_eq_true_eq]
          intro h
          exact ho (by rw [← h]; exact this)
        simp [GC.rem, this, runDtors]
    · exact ⟨rfl, Or.inr (Or.inl rfl)⟩
  rw [step_loc, wrapperKilled_gc g t _ (key _).1]
  simpa using (key _).2

theorem run_nocrash (cfg : Cfg) (hgf : cfg.gcFirst = true) (s : List Ev) : ∀ g : G, (∀ t, HasExc (g.thr t)) →
    ∀ eo ∈ (run cfg s g).2, eo.2 ≠ .crash := by
  induction s with
  | nil => intro g _ eo h; cases h
  | cons e s ih =>
    intro g h eo hmem
    rw [run_cons] at hmem
    rcases List.mem_cons.mp hmem with rfl | hmem
    · cases e with
      | loc t op =>
        rw [step_loc]
        split
        · exact Out.noConfusion
        · exact (lstep_hasExc_nocrash cfg hgf t _ _ op _ (h t)).2
      | _ => exact (step_frame cfg g _).nocrash rfl
    · refine ih _ (step_thr_inv cfg (fun t c fm op ts h => (lstep_hasExc_nocrash cfg hgf t c fm op ts h).1) ?_ g e h) eo hmem
      exact fun _ _ _ hp => Phase.noConfusion hp

theorem step_done (cfg : Cfg) (g : G) (e : Ev) (u : Tid) (hd : (g.thr u).phase = .done) :
    ((∀ t', e ≠ .spawn t' u) → (step cfg g e).1.thr u = g.thr u) ∧ (e.tid = u → (step cfg g e).2 = .dead) := by
  have hdead : ∀ c fm op, lstep cfg u c fm op (g.thr u) = (g.thr u, c, .dead) :=
    fun c fm op => lstep_not_live cfg u c fm op _ (by simp [hd]) (by simp [hd])
  refine ⟨fun hns => ?_, fun ht => ?_⟩
  · rcases step_thr cfg g e u with h | ⟨_, c, fm, op, h⟩ | ⟨⟨t, rfl⟩, _⟩
    · exact h
    · rw [h, hdead]
    · exact absurd rfl (hns t)
  · cases e with
    | loc t op =>
      have ht : t = u := ht
      subst ht
      rw [step_loc, hdead, wrapperKilled_gc g t (g.thr t) rfl]
      rfl
    | _ => exact step_dead cfg g _ (fun _ _ => Ev.noConfusion) (by rw [ht]; simp [running, hd])

/-- while the Thread object of a finished thread `u` is not called again, `u`'s component stays as it is: it is the same
    at the end, and every event of the schedule is executed in a state that has it -/
theorem run_done_trace (cfg : Cfg) (u : Tid) (s : List Ev) (hns : ∀ e ∈ s, ∀ t', e ≠ .spawn t' u) : ∀ g : G,
    (g.thr u).phase = .done →
    (run cfg s g).1.thr u = g.thr u ∧ ∀ eo ∈ (run cfg s g).2, ∃ g', g'.thr u = g.thr u ∧ eo.2 = (step cfg g' eo.1).2 := by
  induction s with
  | nil => intro g _; exact ⟨rfl, (by intro eo h; cases h)⟩
  | cons e s ih =>
    intro g hd
    have hs := (step_done cfg g e u hd).1 (hns e (by simp))
    have ih' := ih (fun e' he' => hns e' (by simp [he'])) (step cfg g e).1 (by rw [hs]; exact hd)
    rw [run_cons]
    refine ⟨by rw [ih'.1, hs], ?_⟩
    intro eo hmem
    rcases List.mem_cons.mp hmem with rfl | hmem
    · exact ⟨g, rfl, rfl⟩
    · obtain ⟨g', h1, h2⟩ := ih'.2 eo hmem
      exact ⟨g', by rw [h1, hs], h2⟩

/-- what the three join theorems of Props/C13 read: after a `join u` that returned `joined`, `u`'s component is what
    it was at the join, at the end of every continuation that does not call `u` again and in the state of each of its events -/
theorem run_after_join (cfg : Cfg) (g : G) (t u : Tid) (s : List Ev) (hj : (step cfg g (.join t u)).2 = .joined)
    (hns : ∀ e ∈ s, ∀ t', e ≠ .spawn t' u) :
    (g.thr u).phase = .done ∧ (run cfg s (step cfg g (.join t u)).1).1.thr u = g.thr u ∧
    ∀ eo ∈ (run cfg s (step cfg g (.join t u)).1).2, ∃ g', g'.thr u = g.thr u ∧ eo.2 = (step cfg g' eo.1).2 := by
  obtain ⟨hd, hthr⟩ := (step_join_returns cfg g t u).1 hj
  have h := run_done_trace cfg u s hns (step cfg g (.join t u)).1 (by rw [hthr]; exact hd)
  rw [hthr] at h
  exact ⟨hd, h⟩

theorem step_rd (cfg : Cfg) (g : G) (r u : Tid) :
    (step cfg g (.rd r u)).2 = .num (g.thr u).pub ∨ (step cfg g (.rd r u)).2 = .dead := by
  dsimp only [step]
  split
  · exact .inr rfl
  · exact .inl rfl

theorem step_rdo (cfg : Cfg) (g : G) (r u : Tid) (o : Obj) (hp : (g.thr u).pubo = some o) :
    (step cfg g (.rdo r u)).2 = (if (g.thr o.owner).fin.contains o then .dangling o else .val o) ∨
    (step cfg g (.rdo r u)).2 = .dead := by
  dsimp only [step]
  split
  · exact .inr rfl
  · left; rw [hp]; exact apply_ite Prod.snd _ _ _

end Cello.Thr
