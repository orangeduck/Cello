/-
  Lemmas for the header's type pointer (Cello/HeapRec.lean, `TyMap` … `TState.run`): under `typesAnchored` no mark phase meets a released Type,
  the typed history is the untyped one, and reachability with the header edge is reachability; the witness of KF-C01-type-outlived.
-/
import Cello.Heap
import Cello.HeapRec
import CelloProofs.Lemmas.Mark
import CelloProofs.Lemmas.MarkRelease
import CelloProofs.Lemmas.MarkWitness

namespace Cello.Heap

section typed
variable {σ : Type} (S : MarkSet σ) (c : Cfg)

theorem typesAnchored_spec {h : Heap} {ty : TyMap} {thread : Obj} {stack : List Word}
    (ha : typesAnchored S c h ty thread stack = true) (a : Addr) (hreg : (h.lookup a).isSome = true) (t : Addr) (ht : ty a = some t) :
    ∃ e, h.lookup t = some e ∧ (e.root = true ∨ S.mem t (gcMark S c h thread stack) = true) := by
  obtain ⟨e0, he0⟩ := Option.isSome_iff_exists.mp hreg
  have hmem : a ∈ h.regs := h.complete a e0 he0
  unfold typesAnchored at ha
  have := List.all_eq_true.mp ha a hmem
  simp only [he0, Option.isNone_some, Bool.false_or, ht] at this
  cases hl : h.lookup t with
  | none => simp [hl] at this
  | some e =>
    simp only [hl, Bool.or_eq_true] at this
    exact ⟨e, rfl, this⟩

theorem typesAnchored_not_dangling {h : Heap} {ty : TyMap} {thread : Obj} {stack : List Word}
    (ha : typesAnchored S c h ty thread stack = true) (a : Addr) (hreg : (h.lookup a).isSome = true) :
    typeDangling h ty a = false := by
  unfold typeDangling
  cases ht : ty a with
  | none => rfl
  | some t =>
    obtain ⟨e, hl, _⟩ := typesAnchored_spec S c ha a hreg t ht
    simp [hl]

theorem ubNow_false_of_anchored (cf : Bool) (s : TState)
    (ha : typesAnchored S c s.g.heap s.ty s.g.thread s.g.stack = true) (o : GOp) : s.ubNow S c cf o = false := by
  cases o with
  | base op =>
    cases op <;> try rfl
    simp only [TState.ubNow, markUB]
    rw [List.any_eq_false]
    intro a _
    cases hreg : (s.g.heap.lookup a).isSome with
    | false => simp
    | true => simp [typesAnchored_not_dangling S c ha a hreg]
  | raise k =>
    simp only [TState.ubNow]
    rw [List.any_eq_false]
    intro a _
    cases hreg : (s.g.heap.lookup a).isSome with
    | false => simp
    | true => simp [typesAnchored_not_dangling S c ha a hreg]
  | rehash => rfl

theorem ubNow_false_of_not_marks (cf : Bool) (s : TState) (o : GOp) (hm : o.marks = false) : s.ubNow S c cf o = false := by
  cases o with
  | base op => cases op <;> first | rfl | (simp [GOp.marks] at hm)
  | raise k => simp [GOp.marks] at hm
  | rehash => rfl

/-- **under `TState.anchored` the typed history is the untyped one**: no mark phase meets a released Type, the events are those of
    `GState.run` on the operations the collector sees, and `typesAnchored` held when each of them began -/
theorem run_of_anchored (cf : Bool) : ∀ (ops : List TOp) (s : TState), TState.anchored S c cf ops s = true →
    ∃ s2 evs, TState.run S c cf ops s = some (s2, evs) ∧
      evs.map (·.ev) = (GState.run S c cf (TOp.erase ops) s.g).2 ∧ s2.g = (GState.run S c cf (TOp.erase ops) s.g).1 ∧
      ∀ tev ∈ evs, typesAnchored S c tev.ev.before.heap tev.ty tev.ev.before.thread tev.ev.before.stack = true := by
  intro ops
  induction ops with
  | nil => intro s _; exact ⟨s, [], rfl, rfl, rfl, fun _ h => by cases h⟩
  | cons op ops ih =>
    intro s ha
    cases op with
    | retag a t =>
      simp only [TState.anchored] at ha
      obtain ⟨s2, evs, h1, h2, h3, h4⟩ := ih (s.retag a t) ha
      exact ⟨s2, evs, by simpa [TState.run] using h1, by simpa [TOp.erase, TState.retag] using h2,
        by simpa [TOp.erase, TState.retag] using h3, h4⟩
    | op o =>
      simp only [TState.anchored, Bool.and_eq_true, Bool.or_eq_true, Bool.not_eq_true'] at ha
      obtain ⟨ha1, ha2⟩ := ha
      obtain ⟨s2, evs, h1, h2, h3, h4⟩ := ih { s with g := (s.g.step S c cf o).1 } ha2
      have hub : s.ubNow S c cf o = false := by
        rcases ha1 with h | h
        · exact ubNow_false_of_not_marks S c cf s o h
        · exact ubNow_false_of_anchored S c cf s h o
      cases hev : (s.g.step S c cf o).2 with
      | none =>
        refine ⟨s2, evs, by simp [TState.run, hub, h1, hev], ?_, ?_, h4⟩
        · simpa [TOp.erase, GState.run, hev] using h2
        · simpa [TOp.erase, GState.run] using h3
      | some e =>
        refine ⟨s2, ⟨e, s.ty⟩ :: evs, by simp [TState.run, hub, h1, hev], ?_, ?_, ?_⟩
        · simpa [TOp.erase, GState.run, hev] using h2
        · simpa [TOp.erase, GState.run] using h3
        · intro tev htev
          rcases List.mem_cons.mp htev with h | h
          · subst h
            obtain ⟨rfl, hb, _⟩ := gstep_event S c cf s.g _ e hev
            rcases ha1 with h' | h'
            · cases h'
            · show typesAnchored S c e.before.heap s.ty e.before.thread e.before.stack = true
              rw [hb]; exact h'
          · exact h4 tev h

theorem reachableT_reachable {h : Heap} (wf : h.WF) {ty : TyMap} {thread : Obj} {stack : List Word}
    (ha : typesAnchored S c h ty thread stack = true) (a : Addr)
    (hr : ReachableT c h ty (rootWords c h thread stack) a) : Reachable c h (rootWords c h thread stack) a := by
  induction hr with
  | root hm hreg => exact .root hm hreg
  | step _ hp hreg ih => exact .step ih hp hreg
  | hdr hra ht hreg ih =>
    rename_i a t
    obtain ⟨e, hl, hor⟩ := typesAnchored_spec S c ha a (reachable_registered ih) t ht
    rcases hor with h1 | h1
    · refine .root ?_ hreg
      simp only [rootWords, List.mem_append]
      exact .inr (.inl (mem_rootAddrs hl h1))
    · exact (gcMark_iff_reachable S c h wf thread stack t).mp h1

end typed

/-! ### the witness of KF-C01-type-outlived: `typeHeap` (x at 4096 on the stack, its run-time Type at 4160 referenced by x's header only) -/

theorem typeHeap_wf : typeHeap.WF := wf_of_regs (by decide)

theorem typeHeap_run : dfsFuel Cfg.current typeHeap 2 (rootWords Cfg.current typeHeap emptyThread [4096]) [] = some [4096] := by
  rw [Cfg.current_eq]; decide

/-- the run with the Type also held by a stack word -/
theorem typeHeap_run_held :
    dfsFuel Cfg.current typeHeap 3 (rootWords Cfg.current typeHeap emptyThread [4096, 4160]) [] = some [4160, 4096] := by
  rw [Cfg.current_eq]; decide

theorem typeHeap_type_reachT :
    ReachableT Cfg.current typeHeap typeTy (rootWords Cfg.current typeHeap emptyThread [4096]) 4160 :=
  .hdr (a := 4096) (.root (List.mem_append_right _ (List.mem_append_right _ List.mem_cons_self)) (by decide)) rfl (by decide)

theorem typeHeap_type_unreachable :
    ¬ Reachable Cfg.current typeHeap (rootWords Cfg.current typeHeap emptyThread [4096]) 4160 :=
  fun hr => absurd ((reachable_iff_of_dfsFuel typeHeap_wf typeHeap_run 4160).mp hr) (by decide)

/-- one collection with x on the stack: the Type is put on the pending list, x stays, and the registry afterwards has x without its Type -/
theorem typeHeap_collect :
    4160 ∈ (collectAll listSet Cfg.current typeHeap emptyThread [4096] []).pending ∧
    (collectAll listSet Cfg.current typeHeap emptyThread [4096] []).heap.lookup 4096 = some ⟨.raw "Probe" [7], false⟩ ∧
    (collectAll listSet Cfg.current typeHeap emptyThread [4096] []).heap.lookup 4160 = none := by
  simp only [collectAll, collectFrom, gcMarkFrom_of_dfsFuel typeHeap_run]
  exact ⟨by decide, rfl, rfl⟩

def typeStart : TState := ⟨⟨typeHeap, emptyThread, [4096], []⟩, typeTy⟩

/-- the first collection meets no released Type; the SECOND one traces x, whose Type the first one released -/
theorem typeHeap_second_collection_ub :
    TState.run listSet Cfg.current true [.op (.base .collect), .op (.base .collect)] typeStart = none := by
  -- the second mark phase runs on the registry the first collection left
  have e2 : gcMarkFrom listSet Cfg.current (release typeHeap (sweep listSet typeHeap [4096]).1 (sweep listSet typeHeap [4096]).2).heap
      emptyThread [4096] [] = [4096] :=
    gcMarkFrom_of_dfsFuel (n := 2) (by rw [Cfg.current_eq]; decide)
  simp only [TState.run, TState.ubNow, GState.step, typeStart, collectAll, collectFrom, if_true, seed, List.foldr_nil,
    show listSet.empty = ([] : List Addr) from rfl, gcMarkFrom_of_dfsFuel typeHeap_run, e2]
  decide

end Cello.Heap
