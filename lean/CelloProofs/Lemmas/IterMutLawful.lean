/- Iteration over a List in the doubly-linked invariant is lawful, for C11: forward along `next`, backward along `prev`, `len` = `nitems`,
   `get` = the two-ended walk of List_At -/
import CelloProofs.Lemmas.IterMutList

namespace Cello.Iter
open LL

variable {α : Type}

theorem ll_fwd_from (l : LL α) : ∀ (xs : List (Nat × α)) (x : Nat × α) (p : Option Nat), Seg l.mem p (x :: xs) none →
    Run (llI l).next (some x.1, .item x.2) (x.2 :: vals xs) := by
  intro xs
  induction xs with
  | nil =>
    intro x p h
    refine Run.item _ _ _ ?_
    simp only [llI, h.1, firstAddr, follow]
    exact Run.term _
  | cons y r ih =>
    intro x p h
    refine Run.item _ _ _ ?_
    simp only [llI, h.1, firstAddr, follow, cursor, h.2.1]
    exact ih y (some x.1) h.2

theorem ll_bwd_from (l : LL α) (ini : List (Nat × α)) (w : Nat × α) (n : Option Nat)
    (h : Seg l.mem none (ini ++ [w]) n) : Run (llI l).prev (some w.1, .item w.2) (vals (ini ++ [w])).reverse := by
  induction hm : ini.length generalizing ini w n with
  | zero =>
    have : ini = [] := List.length_eq_zero_iff.mp hm
    subst this
    refine Run.item _ _ _ ?_
    have h1 : l.mem w.1 = some ⟨w.2, n, none⟩ := h.1
    simp only [llI, h1, follow]
    exact Run.term _
  | succ m ih =>
    have hne : ini ≠ [] := by intro e; subst e; simp at hm
    obtain ⟨ini', u, rfl⟩ := snoc_of_ne_nil ini hne
    obtain ⟨h1, h2⟩ := Seg_snoc (ini' ++ [u]) w none n h
    obtain ⟨_, h4⟩ := Seg_snoc ini' u none (some w.1) h1
    rw [lastAddr_snoc] at h2
    have hv : (vals (ini' ++ [u] ++ [w])).reverse = w.2 :: (vals (ini' ++ [u])).reverse := by
      simp [vals]
    rw [hv]
    refine Run.item _ _ _ ?_
    simp only [llI, h2, follow, cursor, h4]
    exact ih ini' u (some w.1) h1 (by simpa using hm)

theorem ll_lawfulAs (l : LL α) (xs : List (Nat × α)) (h : Chain l xs) : LawfulAs (llI l) (vals xs) := by
  refine ⟨?_, ?_, ?_, ?_⟩
  · intro s
    cases xs with
    | nil =>
      have : l.nitems = 0 := h.nil_iff.mpr rfl
      simp only [llI, this, if_true]
      exact Run.term _
    | cons x r =>
      have hn : l.nitems ≠ 0 := fun c => by have := h.nil_iff.mp c; cases this
      have hx : l.mem x.1 = some ⟨x.2, firstAddr r none, none⟩ := h.seg.1
      simp only [llI, hn, if_false, h.head, firstAddr, cursor, hx]
      exact ll_fwd_from l r x none h.seg
  · intro s
    by_cases e : xs = []
    · subst e
      have : l.nitems = 0 := h.nil_iff.mpr rfl
      simp only [llI, this, if_true]
      exact Run.term _
    · obtain ⟨ini, w, rfl⟩ := snoc_of_ne_nil xs e
      have hn : l.nitems ≠ 0 := fun c => e (h.nil_iff.mp c)
      obtain ⟨_, hw⟩ := Seg_snoc ini w none none h.seg
      simp only [llI, hn, if_false, h.tail, lastAddr_snoc, cursor, hw]
      exact ll_bwd_from l ini w none h.seg
  · intro n hn
    simp only [llI, Option.some.injEq] at hn
    rw [← hn, h.count, vals_length]
  · intro g hg i hi
    simp only [llI, Option.some.injEq] at hg
    subst hg
    rw [vals_length] at hi
    obtain ⟨_, en, -⟩ := nodeAt_node l xs h (Int.ofNat i) i (idxOf_ofNat hi)
    obtain ⟨nd, h1, h2⟩ := Seg_live xs none none h.seg xs[i] (List.getElem_mem hi)
    simp only [en, h1, Option.map_some, h2, vals, List.getElem_map]

/-- the invariant in the words of the C structure: the `prev` word of `head` and the `next` word of `tail` are NULL, and
    for every node whose `next` word is `y`, `y` is a live node whose `prev` word points back -/
theorem chain_links (l : LL α) (xs : List (Nat × α)) (h : Chain l xs) :
    (∀ a, l.head = some a → ∃ nd, l.mem a = some nd ∧ nd.prev = none) ∧
    (∀ a, l.tail = some a → ∃ nd, l.mem a = some nd ∧ nd.next = none) ∧
    (∀ x ∈ xs, ∀ nd, l.mem x.1 = some nd → ∀ y, nd.next = some y → ∃ nd', l.mem y = some nd' ∧ nd'.prev = some x.1) ∧
    (l.nitems = 0 ↔ l.head = none) := by
  refine ⟨?_, ?_, ?_, ?_⟩
  · intro a ha
    cases xs with
    | nil => rw [h.head] at ha; cases ha
    | cons x r =>
      rw [h.head] at ha
      simp only [firstAddr, Option.some.injEq] at ha
      subst ha
      exact ⟨_, h.seg.1, rfl⟩
  · intro a ha
    by_cases e : xs = []
    · subst e; rw [h.tail] at ha; cases ha
    · obtain ⟨ini, w, rfl⟩ := snoc_of_ne_nil xs e
      rw [h.tail, lastAddr_snoc] at ha
      simp only [Option.some.injEq] at ha
      subst ha
      exact ⟨_, (Seg_snoc ini w none none h.seg).2, rfl⟩
  · intro x hx nd hnd y hy
    obtain ⟨pre, post, rfl⟩ := List.append_of_mem hx
    obtain ⟨_, hm, sy, _⟩ := h.split
    rw [hm] at hnd
    simp only [Option.some.injEq] at hnd
    subst hnd
    cases post with
    | nil => cases hy
    | cons y' r =>
      simp only [firstAddr, Option.some.injEq] at hy
      subst hy
      exact ⟨_, sy.1, rfl⟩
  · rw [h.nil_iff, h.head]
    cases xs <;> simp [firstAddr]

end Cello.Iter
