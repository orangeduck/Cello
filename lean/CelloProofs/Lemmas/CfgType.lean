/-
  C18, run-time type objects under both values of the cache switch (model: Cello/ConfigType.lean).  `IxCanon ix cfg` says what the
  index expressions of `Type_New` must EVALUATE to under the constants of `cfg` for the constructor to build what C08's `typeNewRaw`
  builds for the layout of `cfg`; `RdCanon` the same for the readers.  Under these the source-driven constructor, readers and life
  cycle are C08's, whose theorems (generic in the layout) then apply to BOTH configurations.
-/
import Cello.ConfigType
import CelloProofs.Lemmas.Cfg
import CelloProofs.Lemmas.Disp
import CelloProofs.Lemmas.DispNew

namespace Cello.CfgType
open Cello.Config (Cfg cacheNum)
open Cello.Dispatch
open CelloGen.Cfg (TypeNewIx typeNewIx)

theorem storeAt_some (mem : List Word) (k : Nat) (a b c : Word) (h : 3 * k + 2 < mem.length) :
    storeAt (some mem) (k : Int) a b c = some (writeCell mem k a b c) := by
  unfold storeAt
  simp only [Int.toNat_natCast]
  rw [if_pos ⟨Int.natCast_nonneg k, h⟩]

theorem loop_clear : ∀ (cnt i : Nat) (mem : List Word), 3 * (i + cnt) ≤ mem.length →
    loopFrom (fun i m => storeAt m (i : Int) .null .null .null) i cnt (some mem) = some (clearCells i cnt mem)
  | 0, _, _, _ => rfl
  | cnt + 1, i, mem, h => by
    simp only [loopFrom, clearCells]
    rw [storeAt_some mem i _ _ _ (by omega)]
    exact loop_clear cnt (i + 1) _ (by rw [writeCell_length]; omega)

theorem argAt_nat (es : List (String × Inst)) (j : Nat) : argAt es ((2 + j : Nat) : Int) = es[j]? := by
  unfold argAt
  have h2 : (2 : Int) ≤ ((2 + j : Nat) : Int) := by omega
  rw [if_pos h2]
  congr 1
  omega

/-- the instance loop from argument `2 + j` on, when `rest` is what the argument list holds from there -/
theorem loop_insts (nb : Nat) (es : List (String × Inst)) : ∀ (rest : List (String × Inst)) (j : Nat) (mem : List Word),
    (∀ k, rest[k]? = es[j + k]?) → 3 * (nb + j + rest.length) ≤ mem.length →
    loopFrom (fun i m => instStep es (i : Int) ((nb : Int) - 2 + (i : Int)) m) (2 + j) rest.length (some mem)
      = some (writeInsts nb j rest mem)
  | [], _, _, _, _ => rfl
  | (nm, ins) :: rest, j, mem, hes, h => by
    have hget : es[j]? = some (nm, ins) := by simpa using (hes 0).symm
    have hidx : (nb : Int) - 2 + ((2 + j : Nat) : Int) = ((nb + j : Nat) : Int) := by omega
    simp only [List.length_cons] at h
    simp only [List.length_cons, loopFrom, writeInsts, instStep]
    rw [argAt_nat es j, hget]
    simp only
    rw [hidx, storeAt_some mem (nb + j) _ _ _ (by omega)]
    exact loop_insts nb es rest (j + 1) _ (fun k => by simpa [Nat.add_assoc, Nat.add_comm 1 k] using hes (k + 1))
      (by rw [writeCell_length]; omega)

theorem loop_insts_all (nb : Nat) (es : List (String × Inst)) (mem : List Word) (h : 3 * (nb + es.length) ≤ mem.length) :
    loopFrom (fun i m => instStep es (i : Int) ((nb : Int) - 2 + (i : Int)) m) 2 es.length (some mem) = some (writeInsts nb 0 es mem) :=
  loop_insts nb es es 0 mem (fun k => by simp) (by simpa using h)

/-- the five stages of `Type_New` with every index in canonical form, on a storage large enough for all of them: each store lands
    inside the storage, so the result is what C08's `clearCells`, `writeCell`, `writeInsts` build -/
theorem stages_eq (ce nb : Nat) (hnb : nb = ce + 2) (mem : List Word) (name : String) (size : Nat) (es : List (String × Inst))
    (hlen : 3 * (nb + es.length + 1) ≤ mem.length) :
    storeAt (loopFrom (fun i m => instStep es (i : Int) ((nb : Int) - 2 + (i : Int)) m) 2 es.length
        (storeAt (storeAt (loopFrom (fun i m => storeAt m (i : Int) .null .null .null) 0 ce (some mem))
          (ce : Int) .null (.str "__Name") (.str name)) ((ce + 1 : Nat) : Int) .null (.str "__Size") (.num size)))
      ((nb + es.length : Nat) : Int) .null .null .null =
    some (writeCell (writeInsts nb 0 es (writeCell (writeCell (clearCells 0 ce mem) ce .null (.str "__Name") (.str name)) (ce + 1)
      .null (.str "__Size") (.num size))) (nb + es.length) .null .null .null) := by
  rw [loop_clear ce 0 mem (by omega),
    storeAt_some _ ce _ _ _ (by rw [clearCells_length]; omega),
    storeAt_some _ (ce + 1) _ _ _ (by rw [writeCell_length, clearCells_length]; omega),
    loop_insts_all nb es _ (by simp only [writeCell_length, clearCells_length]; omega),
    storeAt_some _ (nb + es.length) _ _ _ (by simp only [writeInsts_length, writeCell_length, clearCells_length]; omega)]

/-- the values `Type_New`'s index expressions and loop bounds must take, for every `len(args)` and every value of the loop
    variable, under the constants of configuration `cfg` -/
structure IxCanon (ix : TypeNewIx) (cfg : Cfg) : Prop where
  nameArg : ix.nameArg = 0
  sizeArg : ix.sizeArg = 1
  clearLo : ∀ n, eval (envOf cfg n 0) ix.clearLo = 0
  clearHi : ∀ n, eval (envOf cfg n 0) ix.clearHi = ((cacheNum cfg / 3 : Nat) : Int)
  clearIdx : ∀ n i, eval (envOf cfg n i) ix.clearIdx = (i : Int)
  nameIdx : ∀ n, eval (envOf cfg n 0) ix.nameIdx = ((cacheNum cfg / 3 : Nat) : Int)
  sizeIdx : ∀ n, eval (envOf cfg n 0) ix.sizeIdx = ((cacheNum cfg / 3 + 1 : Nat) : Int)
  instLo : ∀ n, eval (envOf cfg n 0) ix.instLo = 2
  instHi : ∀ n, eval (envOf cfg n 0) ix.instHi = (n : Int)
  instArg : ∀ n i, eval (envOf cfg n i) ix.instArg = (i : Int)
  instIdx : ∀ n i, eval (envOf cfg n i) ix.instIdx = (nbOf (cacheNum cfg) : Int) - 2 + (i : Int)
  termIdx : ∀ n, eval (envOf cfg n 0) ix.termIdx = (nbOf (cacheNum cfg) : Int) + (n : Int) - 2

/-- the same for the readers: `Type_Builtin_Name`, `Type_Builtin_Size`, both walks of `Type_Scan` -/
structure RdCanon (rd : Readers) (cfg : Cfg) : Prop where
  nameIdx : eval (envOf cfg 0 0) rd.nameIdx = ((cacheNum cfg / 3 : Nat) : Int)
  sizeIdx : eval (envOf cfg 0 0) rd.sizeIdx = ((cacheNum cfg / 3 + 1 : Nat) : Int)
  scan1 : eval (envOf cfg 0 0) rd.scan1 = (nbOf (cacheNum cfg) : Int)
  scan2 : eval (envOf cfg 0 0) rd.scan2 = (nbOf (cacheNum cfg) : Int)

/-- **the source's `Type_New` is C08's `typeNewRaw` for the layout of the configuration**, on every storage that is large
    enough (ANY previous contents) and every instance list within the limit -/
theorem typeNewWith_eq_raw {ix : TypeNewIx} {cfg : Cfg} (hC : IxCanon ix cfg) (hL : LayoutOK (layoutOf cfg))
    (mem : List Word) (name : String) (size : Nat) (es : List (String × Inst))
    (hn : es.length ≤ CelloGen.Cfg.maxInstances) (hlen : 3 * ((layoutOf cfg).nBuiltins + es.length + 1) ≤ mem.length) :
    typeNewWith ix cfg mem name size es = typeNewRaw (layoutOf cfg) mem name size es := by
  have hnb : nbOf (cacheNum cfg) = cacheNum cfg / 3 + 2 := hL.first
  have hst := stages_eq (cacheNum cfg / 3) (nbOf (cacheNum cfg)) hnb mem name size es hlen
  have c0 : (0 : Int).toNat = 0 := rfl
  have c2 : (2 : Int).toNat = 2 := rfl
  have c1 : ∀ ce : Nat, ((ce : Int) - 0).toNat = ce := by omega
  have c3 : ∀ n : Nat, (((n + 2 : Nat) : Int) - 2).toNat = n := by omega
  have c4 : ∀ nb n : Nat, (nb : Int) + ((n + 2 : Nat) : Int) - 2 = ((nb + n : Nat) : Int) := by omega
  have hgt : ¬ es.length > CelloGen.Cfg.maxInstances := by omega
  have hargs : ¬ (ix.nameArg ≠ 0 ∨ ix.sizeArg ≠ 1) := by rw [hC.nameArg, hC.sizeArg]; simp
  -- the undefined-behaviour test of `typeNewRaw` (storage too small)
  have hub : (mem.length < 3 * ((layoutOf cfg).nBuiltins + es.length + 1) || mem.length < 3 * ((layoutOf cfg).cacheNum / 3 + 2)) = false := by
    have := hL.first
    simp only [Bool.or_eq_false_iff, decide_eq_false_iff_not, Nat.not_lt]
    omega
  unfold typeNewWith typeNewRaw
  rw [if_neg hgt, if_neg (show ¬ es.length > (layoutOf cfg).maxInstances from hgt), if_neg hargs, hub]
  -- every index expression takes its canonical value; what is left of the casts is arithmetic, and then the stages are `stages_eq`
  simp only [hC.clearLo, hC.clearHi, hC.clearIdx, hC.nameIdx, hC.sizeIdx, hC.instLo, hC.instHi, hC.instArg, hC.instIdx, hC.termIdx]
  rw [if_neg (by omega), c0, c1, c2, c3, c4, hst]
  rfl

theorem ofRawWith_eq {rd : Readers} {cfg : Cfg} (hR : RdCanon rd cfg) (hdr sent : Bool) (mem : List Word) :
    ofRawWith rd cfg hdr sent mem = Store.ofRaw (layoutOf cfg) hdr sent mem := by
  unfold ofRawWith Store.ofRaw
  simp only [hR.nameIdx, hR.sizeIdx, hR.scan1, hR.scan2]
  rw [if_neg (by omega)]
  simp only [Int.toNat_natCast]
  rfl

/-- the storage `Type_Alloc` reserves has exactly the cells C08's layout of the configuration has -/
def CellsOK (cfg : Cfg) : Prop := cellsOf cfg = (layoutOf cfg).cells

/-- everything the current source must satisfy in a configuration -/
structure SrcOK (cfg : Cfg) : Prop where
  layout : LayoutOK (layoutOf cfg)
  slots : SlotsOK (slotsOf cfg) (layoutOf cfg).cacheNum
  cells : CellsOK cfg
  ix : IxCanon typeNewIx cfg
  rd : RdCanon readersSrc cfg

/-! ### the index expressions of the current source

  They are canonical symbolically, whatever the value of `CELLO_CACHE_NUM`: no case split on the switch is needed. -/

theorem nbOf_eq (cn : Nat) : nbOf cn = cn / 3 + 2 := by
  simp only [nbOf, CelloGen.Cfg.nBuiltinsDef, eval]
  omega

theorem ixCanon_src (cfg : Cfg) : IxCanon typeNewIx cfg := by
  have := nbOf_eq (cacheNum cfg)
  constructor <;> first | rfl | (intros; simp only [envOf, typeNewIx, eval] <;> omega)

theorem rdCanon_src (cfg : Cfg) : RdCanon readersSrc cfg := by
  have := nbOf_eq (cacheNum cfg)
  constructor <;> (simp only [envOf, readersSrc, CelloGen.Cfg.builtinNameIdx, CelloGen.Cfg.builtinSizeIdx,
    CelloGen.Cfg.scanStart1, CelloGen.Cfg.scanStart2, eval] <;> omega)

theorem cellsOK_src (cfg : Cfg) : CellsOK cfg := by
  unfold CellsOK cellsOf Layout.cells layoutOf envOf
  simp only [CelloGen.Cfg.typeAllocCells, eval]
  omega

/-- the `Type_Cache_Entry` list a configuration compiles in (all of it, or none) is a cache table for its `CELLO_CACHE_NUM`; the bound
    on the generated indices is decided in Props/C18.lean (`C18_cache_table_sound`) -/
theorem slotsOK_src (cfg : Cfg) (hlt : ∀ e ∈ CelloGen.Cfg.cacheSlots, e.1 < CelloGen.Cfg.cacheNumOn) :
    SlotsOK (slotsOf cfg) (layoutOf cfg).cacheNum := by
  obtain ⟨checks, cache, gc⟩ := cfg
  cases cache
  · exact ⟨List.nodup_nil, fun _ h => absurd h List.not_mem_nil⟩
  · refine ⟨by rw [slotsOf, if_pos rfl, List.map_map]; exact Cello.Config.cacheSlots_idx_nodup, fun s hs => ?_⟩
    obtain ⟨e, he, rfl⟩ := List.mem_map.mp (by rwa [slotsOf, if_pos rfl] at hs)
    exact hlt e he

/-- the storage `Type_Alloc` reserves holds every instance list within `CELLO_MAX_INSTANCES`, and the terminator -/
theorem cells_fit (cfg : Cfg) {n : Nat} (hn : n ≤ CelloGen.Cfg.maxInstances) :
    3 * ((layoutOf cfg).nBuiltins + n + 1) ≤ 3 * (layoutOf cfg).cells := by
  unfold Layout.cells
  have : (layoutOf cfg).maxInstances = CelloGen.Cfg.maxInstances := rfl
  omega

theorem constructInSrc_eq {cfg : Cfg} (h : SrcOK cfg) (s : Store) (name : String) (size : Nat) (es : List (String × Inst))
    (hn : es.length ≤ CelloGen.Cfg.maxInstances) (hlen : s.toRaw.length = 3 * (layoutOf cfg).cells) :
    constructInSrc cfg s name size es = constructIn (layoutOf cfg) s name size es := by
  unfold constructInSrc constructIn constructAt typeNewSrc ofRawSrc
  rw [typeNewWith_eq_raw h.ix h.layout s.toRaw name size es hn (hlen ▸ cells_fit cfg hn)]
  rcases typeNewRaw (layoutOf cfg) s.toRaw name size es with ⟨m, o⟩
  cases o with
  | ok u =>
    simp only
    rw [ofRawWith_eq h.rd]
    cases Store.ofRaw (layoutOf cfg) s.trec.hdr s.trec.sentinel m <;> rfl
  | raised e => rfl
  | ub => rfl

theorem applyLifeSrc_eq {cfg : Cfg} (h : SrcOK cfg) (s : Store) (op : LOp) (hop : LOp.inContract op = true)
    (hlen : s.toRaw.length = 3 * (layoutOf cfg).cells) :
    applyLifeSrc cfg s op = applyLife (layoutOf cfg) (slotsOf cfg) s op := by
  cases op with
  | look o => rfl
  | construct name size es =>
    simp only [applyLifeSrc, applyLife]
    rw [constructInSrc_eq h s name size es (by simpa [LOp.inContract] using hop) hlen]

theorem runLifeSrc_eq {cfg : Cfg} (h : SrcOK cfg) : ∀ (ops : List LOp) (D : String → Option Inst) (s : Store),
    (∀ op ∈ ops, LOp.inContract op = true) → StoreOK (layoutOf cfg) D (slotsOf cfg) s →
    runLifeSrc cfg s ops = runLife (layoutOf cfg) (slotsOf cfg) s ops
  | [], _, _, _, _ => rfl
  | op :: ops, D, s, hops, hs => by
    simp only [runLifeSrc, runLife]
    have e := applyLifeSrc_eq h s op (hops op (List.mem_cons_self ..)) hs.len
    rw [e]
    have sp := applyLife_spec h.layout h.slots hs op
    rw [runLifeSrc_eq h ops _ _ (fun o ho => hops o (List.mem_cons_of_mem _ ho)) sp.2.1]

/-- `layoutOf` puts the one generated `CELLO_MAX_INSTANCES` into the layout of every configuration -/
theorem specLife_sent_irrelevant_layout (cfg₁ cfg₂ : Cfg) :
    (layoutOf cfg₁).maxInstances = (layoutOf cfg₂).maxInstances := rfl

theorem instsOf_length_le : ∀ ks : List Nat, (instsOf ks).length ≤ ks.length
  | [] => Nat.le_refl 0
  | k :: ks => by
    unfold instsOf
    cases instOf k with
    | none => simp only [List.length_cons]; exact Nat.le_succ_of_le (instsOf_length_le ks)
    | some p => simp only [List.length_cons]; exact Nat.succ_le_succ (instsOf_length_le ks)

theorem look_spec {cfg : Cfg} {n : Nat} {D : String → Option Inst} (hs : SlotsOK (slotsOf cfg) n) {s : Store}
    (h : Inv D (slotsOf cfg) n s.trec) (cls : String) :
    (look cfg s cls).2 = D cls ∧ Inv D (slotsOf cfg) n (look cfg s cls).1.trec ∧
      (look cfg s cls).1.name = s.name ∧ (look cfg s cls).1.size = s.size := by
  have sp := instanceOf_spec hs h (clsOf cls)
  unfold look
  simp only
  rw [sp.1]
  exact ⟨rfl, sp.2.inv, trivial, trivial⟩

/-- the member test after `instance(self, C)`, as a function of the declaration -/
def memberOf (D : String → Option Inst) (cls : String) (m : Nat) : Option Nat :=
  match D cls with
  | some i => if i.members[m]?.getD false then some i.id else none
  | none => none

theorem lookMember_spec {cfg : Cfg} {n : Nat} {D : String → Option Inst} (hs : SlotsOK (slotsOf cfg) n) {s : Store}
    (h : Inv D (slotsOf cfg) n s.trec) (cls : String) (m : Nat) :
    (lookMember cfg s cls m).2 = memberOf D cls m ∧ Inv D (slotsOf cfg) n (lookMember cfg s cls m).1.trec ∧
      (lookMember cfg s cls m).1.name = s.name ∧ (lookMember cfg s cls m).1.size = s.size := by
  have sp := look_spec hs h cls
  unfold lookMember memberOf
  simp only
  rw [sp.1]
  exact ⟨rfl, sp.2.1, sp.2.2.1, sp.2.2.2⟩

theorem sizeOf_spec {cfg : Cfg} {n : Nat} {D : String → Option Inst} (hs : SlotsOK (slotsOf cfg) n) {s : Store}
    (h : Inv D (slotsOf cfg) n s.trec) :
    (sizeOf cfg s).2 = (match memberOf D "Size" 0 with | some _ => 32 | none => s.size) ∧
      Inv D (slotsOf cfg) n (sizeOf cfg s).1.trec ∧ (sizeOf cfg s).1.name = s.name ∧ (sizeOf cfg s).1.size = s.size := by
  have sp := lookMember_spec hs h "Size" 0
  unfold sizeOf
  simp only
  rw [sp.1]
  exact ⟨rfl, sp.2.1, sp.2.2.1, sp.2.2.2⟩

theorem implBits_spec {n : Nat} {D : String → Option Inst} {slots : List (Nat × Cls)} (hs : SlotsOK slots n) :
    ∀ (cs : List String) (s : Store), Inv D slots n s.trec →
    (implBits s cs).2 = cs.map (fun c => (D c).isSome) ∧ Inv D slots n (implBits s cs).1.trec ∧
      (implBits s cs).1.name = s.name ∧ (implBits s cs).1.size = s.size
  | [], _, h => ⟨rfl, h, rfl, rfl⟩
  | c :: cs, s, h => by
    have sp := scan_spec hs h (clsOf c)
    have h' : Inv D slots n ({ s with trec := (implementsT s.trec (clsOf c)).1 } : Store).trec := sp.2.inv
    have ih := implBits_spec hs cs { s with trec := (implementsT s.trec (clsOf c)).1 } h'
    simp only [implBits, List.map_cons]
    refine ⟨?_, ih.2.1, ih.2.2.1, ih.2.2.2⟩
    rw [ih.1]
    simp only [implementsT, sp.1]
    rfl

/-- what a construction prints, as a function of the declaration, the name and the size alone -/
theorem describe_spec {cfg : Cfg} {n : Nat} {D : String → Option Inst} (hs : SlotsOK (slotsOf cfg) n) {s : Store}
    (h : Inv D (slotsOf cfg) n s.trec) :
    (describe cfg s).2 = .ty s.name s.size (match memberOf D "Size" 0 with | some _ => 32 | none => s.size)
      (probeClasses.map (fun c => (D c).isSome)) := by
  have s1 := sizeOf_spec hs h
  have s2 := implBits_spec (D := D) hs probeClasses (sizeOf cfg s).1 s1.2.1
  unfold describe
  simp only
  rw [s1.1, s2.1]

end Cello.CfgType
