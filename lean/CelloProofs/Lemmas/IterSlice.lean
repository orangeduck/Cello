/- Slice, for C11.  There is one walk, the stride `C ≥ 1` along a walk of the input from its `A`-th call: `stride_run` where it lands
   exactly on Terminal (right whatever the input does with a Terminal cursor), `stride_abs` over an input that absorbs Terminal.
   Backward it runs over the reversed sequence, and a negative step swaps the two directions (`slice_neg_swap`,
   `sliceSpec_neg_reverse`, `sliceSpec_fit_reverse`).  `len` / `get` hold for all clamped parameters. -/
import CelloProofs.Lemmas.IterRun
import CelloProofs.Lemmas.IterRange

namespace Cello.Iter

variable {σ α : Type}

theorem filterMap_congr' {β γ : Type} {f g : β → Option γ} : ∀ (l : List β), (∀ x ∈ l, f x = g x) →
    l.filterMap f = l.filterMap g := by
  intro l
  induction l with
  | nil => intro _; rfl
  | cons x t ih =>
    intro h
    have hx := h x (by simp)
    have ht := ih (fun y hy => h y (by simp [hy]))
    simp only [List.filterMap_cons, hx, ht]

theorem nat_eq_of_lt_iff {m q : Nat} (h : ∀ j, j < m ↔ j < q) : m = q := by
  have h1 := h m
  have h2 := h q
  omega

theorem sliceSpec_nil (a b c : Int) : sliceSpec ([] : List α) a b c = [] := by
  simp [sliceSpec]

theorem sliceSpec_zero_step (l : List α) (a b : Int) : sliceSpec l a b 0 = [] := by
  rw [sliceSpec, rangeList_eq_nil (rangeLen_zero_step a b)]; rfl

/-- the elements of `l` at the positions `P`, in the order of `P`; a Slice selects those of its Range (`sliceSpec_eq`) -/
def atPositions (l : List α) (P : List Int) : List α := P.filterMap (fun p => if p < 0 then none else l[p.toNat]?)

theorem sliceSpec_eq (l : List α) (a b c : Int) : sliceSpec l a b c = atPositions l (rangeList a b c) := rfl

theorem atPositions_reverse (l : List α) (P : List Int) : atPositions l P.reverse = (atPositions l P).reverse :=
  List.filterMap_reverse ..

/-- Range_Len of a stride that covers `[A, B)` in exactly `q` steps: `stop` lies in the last stride, `A + (q-1)*C < B ≤ A + q*C`
    (the same for the step `-C`: `rangeLen_neg`) -/
theorem rangeLen_stride (A B C q : Nat) (hC : 1 ≤ C) (hhi : B ≤ A + q * C) (hlo : q * C = 0 ∨ A + q * C < B + C) :
    rangeLen A B C = q := by
  apply nat_eq_of_lt_iff
  intro j
  rw [← lt_rangeLen_iff_of_pos (A : Int) (B : Int) (C : Int) (by omega) j,
    show (A : Int) + (C : Int) * (j : Int) = ((A + C * j : Nat) : Int) by push_cast; rfl]
  constructor
  · intro hj
    by_cases hjq : j < q
    · exact hjq
    · have : q * C ≤ j * C := Nat.mul_le_mul_right C (by omega)
      rw [Nat.mul_comm j C] at this; omega
  · intro hj
    have : (j + 1) * C ≤ q * C := Nat.mul_le_mul_right C hj
    rw [Nat.succ_mul, Nat.mul_comm j C] at this; omega

theorem getElem?_filterMap_all_some {β γ : Type} (f : β → Option γ) : ∀ (L : List β), (∀ x ∈ L, (f x).isSome) →
    ∀ i : Nat, (L.filterMap f)[i]? = (L[i]?).bind f := by
  intro L
  induction L with
  | nil => intro _ i; simp
  | cons x t ih =>
    intro hall i
    have hx := hall x (by simp)
    obtain ⟨y, hy⟩ := Option.isSome_iff_exists.mp hx
    rw [List.filterMap_cons_some hy]
    cases i with
    | zero => simp [hy]
    | succ i => simpa using ih (fun z hz => hall z (by simp [hz])) i

theorem getIdx_filterMap_all_some {β γ : Type} (f : β → Option γ) (L : List β) (hall : ∀ x ∈ L, (f x).isSome) (k : Int) :
    getIdx (L.filterMap f) k = (getIdx L k).bind f := by
  rw [getIdx_eq_norm, getIdx_eq_norm, List.filterMap_length_eq_length.mpr hall]
  cases normIdx L.length k with
  | none => rfl
  | some i => exact getElem?_filterMap_all_some f L hall i

theorem rangeList_in_range (n A B : Nat) (c : Int) (hB : B ≤ n) :
    ∀ p ∈ rangeList A B c, 0 ≤ p ∧ p < n := by
  intro p hp
  simp only [rangeList_eq, List.mem_map, List.mem_range] at hp
  obtain ⟨j, hj, rfl⟩ := hp
  have := rangeAt_mem A B c j hj
  omega

theorem sliceSpec_all_some (l : List α) (A B : Nat) (c : Int) (hB : B ≤ l.length) :
    ∀ p ∈ rangeList A B c, ((fun (p : Int) => if p < 0 then none else l[p.toNat]?) p).isSome := by
  intro p hp
  obtain ⟨h0, h1⟩ := rangeList_in_range l.length A B c hB p hp
  have hlt : p.toNat < l.length := by omega
  simp only [if_neg (show ¬ p < 0 by omega), List.getElem?_eq_getElem hlt, Option.isSome_some]

theorem getElem?_sliceSpec (l : List α) (A B C : Nat) (hC : 1 ≤ C) (hB : B ≤ l.length) (k : Nat) :
    (sliceSpec l A B C)[k]? = if k < rangeLen A B C then l[A + k * C]? else none := by
  rw [sliceSpec, getElem?_filterMap_all_some _ _ (sliceSpec_all_some l A B C hB), rangeList_eq, List.getElem?_map]
  by_cases hk : k < rangeLen A B C
  · have e : rangeAt A B C k = ((A + k * C : Nat) : Int) := by
      unfold rangeAt; rw [if_pos (by omega)]; push_cast; rw [Int.mul_comm]
    rw [if_pos hk, List.getElem?_range hk, Option.map_some, Option.bind_some, e, if_neg (by omega), Int.toNat_natCast]
  · rw [if_neg hk, List.getElem?_eq_none (by simpa using hk)]; rfl

/-- with `stop` at the end of `l` the stride simply runs out of `l`: no test against Range_Len is left -/
theorem getElem?_sliceSpec_end (l : List α) (A C : Nat) (hC : 1 ≤ C) (k : Nat) :
    (sliceSpec l A l.length C)[k]? = l[A + k * C]? := by
  rw [getElem?_sliceSpec l A l.length C hC (Nat.le_refl _)]
  split
  · rfl
  · next hk =>
    have := mt (lt_rangeLen_iff_of_pos (A : Int) (l.length : Int) (C : Int) (by omega) k).mp hk
    have e : (A : Int) + (C : Int) * (k : Int) = ((A + k * C : Nat) : Int) := by push_cast; rw [Int.mul_comm]
    rw [List.getElem?_eq_none (by omega)]

/-- position `p` of `l` is position `n - 1 - p` of `l.reverse` -/
theorem getElem?_reverse_int (l : List α) (p : Int) (h0 : 0 ≤ p) (h1 : p < l.length) :
    (if (l.length : Int) - 1 - p < 0 then none else l.reverse[((l.length : Int) - 1 - p).toNat]?) =
      (if p < 0 then none else l[p.toNat]?) := by
  rw [if_neg (by omega), if_neg (by omega)]
  exact List.getElem?_reverse' (by omega)

/-- the elements of a slice with a negative step are those of the slice with the positive step over the reversed sequence -/
theorem sliceSpec_neg_reverse (l : List α) (A B K : Nat) (hK : 1 ≤ K) (hA : A ≤ l.length) (hB : B ≤ l.length) :
    sliceSpec l A B (-(K : Int)) = sliceSpec l.reverse (l.length - B : Nat) (l.length - A : Nat) K := by
  rw [Int.ofNat_sub hA, Int.ofNat_sub hB]
  have hlen : rangeLen ((l.length : Int) - B) ((l.length : Int) - A) K = rangeLen A B (-(K : Int)) := by
    rw [rangeLen_neg]
    apply nat_eq_of_lt_iff
    intro j
    rw [← lt_rangeLen_iff_of_pos _ _ _ (by omega) j, ← lt_rangeLen_iff_of_pos _ _ _ (by omega) j]
    omega
  simp only [sliceSpec, rangeList_eq, List.filterMap_map, hlen]
  apply filterMap_congr'
  intro j hj
  obtain ⟨h1, h2⟩ := rangeAt_mem A B (-(K : Int)) j (List.mem_range.mp hj)
  have e : rangeAt ((l.length : Int) - B) ((l.length : Int) - A) K j = (l.length : Int) - 1 - rangeAt A B (-(K : Int)) j := by
    unfold rangeAt
    rw [if_pos (by omega), if_neg (by omega), Int.neg_mul]
    omega
  simp only [Function.comp, e]
  exact (getElem?_reverse_int l _ (by omega) (by omega)).symm

/-- when the last stride from `A` ends exactly at `B - 1`, the step `-C` visits the positions of the step `C` in the opposite order -/
theorem sliceSpec_fit_reverse (l : List α) (A B C q : Nat) (hC : 1 ≤ C) (hfit : B ≤ A ∨ B + C = A + q * C + 1) :
    sliceSpec l A B (-(C : Int)) = (sliceSpec l A B C).reverse := by
  rw [sliceSpec_eq, sliceSpec_eq, ← atPositions_reverse]
  congr 1
  rcases hfit with h | h
  · have h0 : rangeLen A B C = 0 := rangeLen_stride A B C 0 hC (by omega) (Or.inl (Nat.zero_mul C))
    rw [rangeList_eq_nil h0, rangeList_eq_nil ((rangeLen_neg A B C).trans h0)]; rfl
  · have hq := rangeLen_stride A B C q hC (by omega) (Or.inr (by omega))
    rw [rangeList_eq, rangeList_eq, rangeLen_neg, map_range_reverse, hq]
    apply List.map_congr_left
    intro j hj
    have hj' := List.mem_range.mp hj
    have h' : (B : Int) + C = A + C * q + 1 := by rw [Int.mul_comm]; exact_mod_cast h
    unfold rangeAt
    rw [if_neg (by omega), if_pos (by omega), show ((q - 1 - j : Nat) : Int) = q - 1 - j by omega, Int.mul_sub, Int.mul_sub,
      Int.neg_mul]
    omega

theorem sliceI_pos (I : Iterable α) (n A B C : Nat) (hC : 1 ≤ C) :
    (∀ s, (sliceI I n A B C).init s = stepN I.next A (I.init s)) ∧
    (sliceI I n A B C).next = (fun s => stepN I.next (C - 1) (I.next s)) ∧
    (∀ s, (sliceI I n A B C).last s = stepN I.prev (n - B) (I.last s)) ∧
    (sliceI I n A B C).prev = (fun s => stepN I.prev (C - 1) (I.prev s)) := by
  have hc : (C : Int) > 0 := by omega
  have hnb : ((n : Int) - (B : Int)).toNat = n - B := by omega
  simp only [sliceI, hc, if_true, Int.toNat_natCast, hnb, implies_true, and_self]

/-- a negative step swaps the two directions: the forward functions of `slice(x, a, b, -K)` are the backward functions of
    `slice(x, a, b, K)` and the other way round -/
theorem sliceI_neg (I : Iterable α) (n A B K : Nat) (hK : 1 ≤ K) :
    (sliceI I n A B (-(K : Int))).init = (sliceI I n A B K).last ∧ (sliceI I n A B (-(K : Int))).next = (sliceI I n A B K).prev ∧
    (sliceI I n A B (-(K : Int))).last = (sliceI I n A B K).init ∧ (sliceI I n A B (-(K : Int))).prev = (sliceI I n A B K).next := by
  have h1 : ¬ (-(K : Int) > 0) := by omega
  have h2 : -(K : Int) < 0 := by omega
  have h3 : (K : Int) > 0 := by omega
  simp only [sliceI, h1, h2, h3, if_true, if_false, Int.neg_neg, and_self]

/-- the plain walks, then the absorbing ones; in each pair the forward walk of the negative step first -/
theorem slice_neg_swap (I : Iterable α) (n A B K : Nat) (hK : 1 ≤ K) (L : List α) :
    ((BwdAs (sliceI I n A B K) L.reverse → FwdAs (sliceI I n A B (-(K : Int))) L) ∧
     (FwdAs (sliceI I n A B K) L.reverse → BwdAs (sliceI I n A B (-(K : Int))) L)) ∧
    (AbsBwdAs (sliceI I n A B K) L.reverse → AbsFwdAs (sliceI I n A B (-(K : Int))) L) ∧
    (AbsFwdAs (sliceI I n A B K) L.reverse → AbsBwdAs (sliceI I n A B (-(K : Int))) L) := by
  obtain ⟨e1, e2, e3, e4⟩ := sliceI_neg I n A B K hK
  simp only [AbsFwdAs, AbsBwdAs, FwdAs, BwdAs, e1, e2, e3, e4, List.reverse_reverse, ne_eq, List.reverse_eq_nil_iff]
  exact ⟨⟨id, id⟩, id, id⟩

theorem slice_abs_zero (I : Iterable α) (l : List α) (A B : Nat) :
    AbsFwdAs (sliceI I l.length A B 0) (sliceSpec l A B 0) ∧ AbsBwdAs (sliceI I l.length A B 0) (sliceSpec l A B 0) := by
  rw [sliceSpec_zero_step]
  exact ⟨⟨fun s => Run.of_term rfl, fun h => absurd rfl h⟩, ⟨fun s => Run.of_term rfl, fun h => absurd rfl h⟩⟩

/-- when the stride `C` from the `A`-th call of a walk over `l` lands exactly on Terminal (`A + q*C = n`) and `stop` lies in
    the last stride, the strided walk yields the elements the definition selects -/
theorem stride_run {step : σ → σ × Res α} {r : σ × Res α} {l : List α} (h : Run step r l) (A B C q : Nat) (hC : 1 ≤ C)
    (hA : A + q * C = l.length) (hB : B ≤ l.length) (hreg : A = l.length ∨ l.length < B + C) :
    Run (fun s => stepN step (C - 1) (step s)) (stepN step A r) (sliceSpec l A B C) := by
  have hq : rangeLen A B C = q := rangeLen_stride A B C q hC (by omega) (by omega)
  have hlen : (sliceSpec l A B C).length = q := by
    rw [sliceSpec, List.filterMap_length_eq_length.mpr (sliceSpec_all_some l A B C hB), length_rangeList, hq]
  -- call `k ≤ q` of the stride is call `A + k*C ≤ n` of the walk over `l`
  refine Run.of_stepN fun k hk => ?_
  rw [hlen] at hk
  have hle : A + k * C ≤ l.length := by rw [← hA]; exact Nat.add_le_add_left (Nat.mul_le_mul_right C hk) A
  rw [stepN_stride step C hC, h.stepN_res _ hle]
  refine resAt_of_getElem? ?_
  rw [getElem?_sliceSpec l A B C hC hB, hq]
  split
  · rfl
  · rw [List.getElem?_eq_none]
    have : k = q := by omega
    subst this; omega

theorem slice_fwd_pos (I : Iterable α) {l : List α} (h : FwdAs I l) (A B C q : Nat) (hC : 1 ≤ C)
    (hA : A + q * C = l.length) (hB : B ≤ l.length) (hreg : A = l.length ∨ l.length < B + C) :
    FwdAs (sliceI I l.length A B C) (sliceSpec l A B C) := by
  obtain ⟨e1, e2, -, -⟩ := sliceI_pos I l.length A B C hC
  intro s
  rw [e1, e2]
  exact stride_run (h s) A B C q hC hA hB hreg

/-- positive step, backward: the stride over the reversed sequence from its `(n-B)`-th call (`start` is not looked at); `B'` is the stop
    of the slice over the reversed sequence that is yielded, `n - A` at every use -/
theorem slice_bwd_pos (I : Iterable α) {l : List α} (h : BwdAs I l) (A B B' C q : Nat) (hC : 1 ≤ C)
    (hB : q * C = B) (hBn : B ≤ l.length) (hB' : B' ≤ l.length) (hreg : B = 0 ∨ l.length < B' + C) :
    BwdAs (sliceI I l.length A B C) (sliceSpec l.reverse (l.length - B : Nat) B' C).reverse := by
  obtain ⟨-, -, e3, e4⟩ := sliceI_pos I l.length A B C hC
  intro s
  rw [e3, e4, List.reverse_reverse]
  exact stride_run (h s) (l.length - B) B' C q hC (by simp; omega) (by simp; omega) (by simp; omega)

/-- Slice_Get (`get(s->iter, Range_Get(s->range, key))`) at every index, for all clamped parameters -/
theorem slice_getFull (I : Iterable α) {l : List α} (h : LenGetAs I l) (A B : Nat) (c : Int) (hB : B ≤ l.length) :
    GetFullAs (sliceI I l.length A B c) (sliceSpec l A B c) := by
  intro G hG k
  cases hg : I.get with
  | none => simp [sliceI, hg] at hG
  | some g =>
    simp only [sliceI, hg, Option.some.injEq] at hG
    subst hG
    dsimp only
    rw [sliceSpec, getIdx_filterMap_all_some _ _ (sliceSpec_all_some l A B c hB), rangeGet_eq_getIdx]
    cases hp : getIdx (rangeList A B c) k with
    | none => rfl
    | some p =>
      obtain ⟨h0, h1⟩ := rangeList_in_range l.length A B c hB p (getIdx_mem _ _ _ hp)
      have hlt : p.toNat < l.length := by omega
      have hgp := h.get g hg p.toNat hlt
      rw [show Int.ofNat p.toNat = p by simp only [Int.ofNat_eq_natCast]; omega] at hgp
      simp only [Option.bind_some, hgp, if_neg (show ¬ p < 0 by omega), List.getElem?_eq_getElem hlt]

theorem slice_lenGet (I : Iterable α) {l : List α} (h : LenGetAs I l) (A B : Nat) (c : Int) (hB : B ≤ l.length) :
    LenGetAs (sliceI I l.length A B c) (sliceSpec l A B c) :=
  ⟨fun n hn => by
    rw [sliceSpec, List.filterMap_length_eq_length.mpr (sliceSpec_all_some l A B c hB), length_rangeList]
    exact (Option.some.inj hn).symm,
   (slice_getFull I h A B c hB).get⟩

theorem exists_mul_of_emod (x C : Nat) (h : (x : Int) % (C : Int) = 0) : ∃ q : Nat, q * C = x := by
  obtain ⟨q, rfl⟩ := Int.natCast_dvd_natCast.mp (Int.dvd_of_emod_eq_zero h)
  exact ⟨q, Nat.mul_comm q C⟩

theorem exists_nat_of_pos {c : Int} (hc : c > 0) : ∃ C : Nat, 1 ≤ C ∧ c = C := ⟨c.toNat, by omega, by omega⟩

theorem exists_nat_of_neg {c : Int} (hc : c < 0) : ∃ K : Nat, 1 ≤ K ∧ c = -(K : Int) := ⟨(-c).toNat, by omega, by omega⟩

/-- the region taken apart: each alternative supplies the `q` with `A + q*C = n` (over the reversed sequence: `q*K = B`) that
    `stride_run` asks for; a negative step goes through `slice_neg_swap` and `sliceSpec_neg_reverse` -/
theorem slice_fwdAs (I : Iterable α) {l : List α} {c : Int} (hfw : c > 0 → FwdAs I l) (hbw : c < 0 → BwdAs I l) (A B : Nat)
    (hA : A ≤ l.length) (hB : B ≤ l.length) (hr : SliceRegionFwd l.length A B c) :
    FwdAs (sliceI I l.length A B c) (sliceSpec l A B c) := by
  rcases hr with ⟨hc, hr⟩ | ⟨hc, hr⟩ | hc
  · obtain ⟨C, hC, rfl⟩ := exists_nat_of_pos hc
    rcases hr with ha | ⟨hm, hb⟩
    · exact slice_fwd_pos I (hfw hc) A B C 0 hC (by omega) hB (by omega)
    · rw [← Int.ofNat_sub hA] at hm
      obtain ⟨q, hq⟩ := exists_mul_of_emod (l.length - A) C hm
      exact slice_fwd_pos I (hfw hc) A B C q hC (by omega) hB (by omega)
  · obtain ⟨K, hK1, rfl⟩ := exists_nat_of_neg hc
    apply (slice_neg_swap I l.length A B K hK1 _).1.1
    rw [sliceSpec_neg_reverse l A B K hK1 hA hB]
    rcases hr with hb | ⟨hm, ha⟩
    · exact slice_bwd_pos I (hbw hc) A B (l.length - A) K 0 hK1 (by omega) hB (by omega) (by omega)
    · rw [Int.neg_neg] at hm
      obtain ⟨q, hq⟩ := exists_mul_of_emod B K hm
      exact slice_bwd_pos I (hbw hc) A B (l.length - A) K q hK1 hq hB (by omega) (by omega)
  · subst hc; exact (slice_abs_zero I l A B).1.1

theorem slice_bwdAs (I : Iterable α) {l : List α} {c : Int} (hbw : c > 0 → BwdAs I l) (hfw : c < 0 → FwdAs I l) (A B : Nat)
    (hA : A ≤ l.length) (hB : B ≤ l.length) (hr : SliceRegionBwd l.length A B c) :
    BwdAs (sliceI I l.length A B c) (sliceSpec l A B c) := by
  rcases hr with ⟨hc, hr⟩ | ⟨hc, hr⟩ | hc
  · obtain ⟨C, hC, rfl⟩ := exists_nat_of_pos hc
    obtain ⟨q, hq⟩ : ∃ q, q * C = B := by
      rcases hr with hb | ⟨hm, ha⟩
      · exact ⟨0, by omega⟩
      · exact exists_mul_of_emod B C hm
    -- `stop = 0`, or `step ∣ stop` and `start = step - 1`: the last stride from `start` ends exactly at `stop - 1`; so read backward
    -- these are the positions of the step `-C`, which are those of `C` over the reversed sequence
    rw [← List.reverse_reverse (sliceSpec l A B C),
      ← sliceSpec_fit_reverse l A B C q hC (show B ≤ A ∨ B + C = A + q * C + 1 by omega), sliceSpec_neg_reverse l A B C hC hA hB]
    exact slice_bwd_pos I (hbw hc) A B (l.length - A) C q hC hq hB (by omega) (by omega)
  · obtain ⟨K, hK1, rfl⟩ := exists_nat_of_neg hc
    obtain ⟨q, hq⟩ : ∃ q, q * K = l.length - A := by
      rcases hr with ha | ⟨hm, hb⟩
      · exact ⟨0, by omega⟩
      · rw [Int.neg_neg, ← Int.ofNat_sub hA] at hm
        exact exists_mul_of_emod (l.length - A) K hm
    apply (slice_neg_swap I l.length A B K hK1 _).1.2
    -- `start = n`, or `step ∣ n - start` and `stop = n - step + 1`: again the last stride from `start` ends at `stop - 1`
    rw [sliceSpec_fit_reverse l A B K q hK1 (show B ≤ A ∨ B + K = A + q * K + 1 by omega), List.reverse_reverse]
    exact slice_fwd_pos I (hfw hc) A B K q hK1 (by omega) hB (by omega)
  · subst hc; exact (slice_abs_zero I l A B).2.1

/-- the stride `C` from the `A`-th call of an absorbing walk over `l` visits the positions `A, A+C, …` to the end of `l`
    (`stop` is never looked at), and answers Terminal to a Terminal cursor in its turn -/
theorem stride_abs {step : σ → σ × Res α} {r : σ × Res α} {l : List α} (h : Run step r l) (ht : l ≠ [] → Traces step r l)
    (A C : Nat) (hC : 1 ≤ C) (hA : A ≤ l.length) :
    Run (fun s => stepN step (C - 1) (step s)) (stepN step A r) (sliceSpec l A l.length C) ∧
    (sliceSpec l A l.length C ≠ [] →
      Traces (fun s => stepN step (C - 1) (step s)) (stepN step A r) (sliceSpec l A l.length C)) := by
  by_cases hl : l = []
  · subst hl
    have hA0 : A = 0 := by simpa using hA
    subst hA0
    rw [sliceSpec_nil]
    exact ⟨Run.of_term h.inv_nil, fun h => absurd rfl h⟩
  · have T := Traces.stride step C hC (ht hl) A _ (getElem?_sliceSpec_end l A C hC)
    exact ⟨T.run, fun _ => T⟩

theorem slice_absFwd_pos (I : Iterable α) {l : List α} (h : AbsFwdAs I l) (A B C : Nat) (hC : 1 ≤ C) (hA : A ≤ l.length) :
    AbsFwdAs (sliceI I l.length A B C) (sliceSpec l A l.length C) := by
  obtain ⟨e1, e2, -, -⟩ := sliceI_pos I l.length A B C hC
  have T := fun s => stride_abs (h.1 s) (fun hl => h.2 hl s) A C hC hA
  rw [AbsFwdAs, FwdAs]
  simp only [e1, e2]
  exact ⟨fun s => (T s).1, fun hne s => (T s).2 hne⟩

/-- … and its backward walk is that stride over the reversed sequence from its `(n-B)`-th call: the positions `B-1, B-1-C, …`
    down to the beginning (`start` is never looked at) -/
theorem slice_absBwd_pos (I : Iterable α) {l : List α} (h : AbsBwdAs I l) (A B C : Nat) (hC : 1 ≤ C) (hB : B ≤ l.length) :
    AbsBwdAs (sliceI I l.length A B C) (sliceSpec l 0 B (-(C : Int))).reverse := by
  obtain ⟨-, -, e3, e4⟩ := sliceI_pos I l.length A B C hC
  have T := fun s => stride_abs (h.1 s) (fun hl => h.2 (by simpa using hl) s) (l.length - B) C hC (by simp)
  have e := sliceSpec_neg_reverse l 0 B C hC (Nat.zero_le _) hB
  rw [Int.natCast_zero, Nat.sub_zero] at e
  rw [AbsBwdAs, BwdAs, List.reverse_reverse, e]
  simp only [e3, e4, List.length_reverse] at T ⊢
  exact ⟨fun s => (T s).1, fun hne s => (T s).2 (by simpa using hne)⟩

/-- over an absorbing iterable, whatever the parameters, the forward walk yields the elements at the positions `sliceVisitFwd`, and the
    Slice absorbs a Terminal cursor in its turn -/
theorem slice_abs_visits_fwd (I : Iterable α) {l : List α} {c : Int} (hfw : c > 0 → AbsFwdAs I l) (hbw : c < 0 → AbsBwdAs I l)
    (A B : Nat) (hA : A ≤ l.length) (hB : B ≤ l.length) :
    AbsFwdAs (sliceI I l.length A B c) (atPositions l (sliceVisitFwd l.length A B c)) := by
  rcases Int.lt_trichotomy c 0 with hc | hc | hc
  · obtain ⟨K, hK1, rfl⟩ := exists_nat_of_neg hc
    rw [sliceVisitFwd, if_neg (show ¬ -(K : Int) > 0 by omega), if_pos hc]
    exact (slice_neg_swap I l.length A B K hK1 _).2.1 (slice_absBwd_pos I (hbw hc) A B K hK1 hB)
  · subst hc
    have := (slice_abs_zero I l A B).1
    rwa [sliceSpec_zero_step] at this
  · obtain ⟨C, hC, rfl⟩ := exists_nat_of_pos hc
    rw [sliceVisitFwd, if_pos hc]
    exact slice_absFwd_pos I (hfw hc) A B C hC hA

/-- … and the backward walk those at the positions `sliceVisitBwd`, in the order it visits them -/
theorem slice_abs_visits_bwd (I : Iterable α) {l : List α} {c : Int} (hbw : c > 0 → AbsBwdAs I l) (hfw : c < 0 → AbsFwdAs I l)
    (A B : Nat) (hA : A ≤ l.length) (hB : B ≤ l.length) :
    AbsBwdAs (sliceI I l.length A B c) (atPositions l (sliceVisitBwd l.length A B c)).reverse := by
  rcases Int.lt_trichotomy c 0 with hc | hc | hc
  · obtain ⟨K, hK1, rfl⟩ := exists_nat_of_neg hc
    rw [sliceVisitBwd, if_neg (show ¬ -(K : Int) > 0 by omega), if_pos hc, Int.neg_neg]
    refine (slice_neg_swap I l.length A B K hK1 _).2.2 ?_
    rw [List.reverse_reverse]
    exact slice_absFwd_pos I (hfw hc) A B K hK1 hA
  · subst hc
    have := (slice_abs_zero I l A B).2
    rwa [sliceSpec_zero_step] at this
  · obtain ⟨C, hC, rfl⟩ := exists_nat_of_pos hc
    rw [sliceVisitBwd, if_pos hc]
    exact slice_absBwd_pos I (hbw hc) A B C hC hB

/-- so each walk is right when the positions visited are the positions the definition selects (`SliceRegionFwdAbs` /
    `SliceRegionBwdAbs`: the stride need not fit, only `stop` / `start` must not cut); over a Tuple only then (`slice_region_abs_exact`) -/
theorem slice_absFwd (I : Iterable α) {l : List α} {c : Int} (hfw : c > 0 → AbsFwdAs I l) (hbw : c < 0 → AbsBwdAs I l)
    (A B : Nat) (hA : A ≤ l.length) (hB : B ≤ l.length) (hr : SliceRegionFwdAbs l.length A B c) :
    AbsFwdAs (sliceI I l.length A B c) (sliceSpec l A B c) := by
  have := slice_abs_visits_fwd I hfw hbw A B hA hB
  rw [SliceRegionFwdAbs] at hr
  rwa [hr] at this

theorem slice_absBwd (I : Iterable α) {l : List α} {c : Int} (hbw : c > 0 → AbsBwdAs I l) (hfw : c < 0 → AbsFwdAs I l)
    (A B : Nat) (hA : A ≤ l.length) (hB : B ≤ l.length) (hr : SliceRegionBwdAbs l.length A B c) :
    AbsBwdAs (sliceI I l.length A B c) (sliceSpec l A B c) := by
  have := slice_abs_visits_bwd I hbw hfw A B hA hB
  rw [SliceRegionBwdAbs] at hr
  rwa [hr, atPositions_reverse, List.reverse_reverse] at this

end Cello.Iter
