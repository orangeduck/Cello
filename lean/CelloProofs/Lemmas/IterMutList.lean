/- The linked List, for C11: segments of linked nodes (`Seg`) and the doubly-linked invariant `Chain`; `head` and `tail` read as the `next` /
   `prev` fields of the list itself (`putNext`, `putPrev`, `Front`, `Back`), with which List_Unlink and List_Link write to the two neighbours
   without a case for an empty side; what they and List_At do to a chained list, and from these the removal and the insertion of one node -/
import Cello.IterMut
import CelloProofs.Lemmas.IterMutSpec

namespace Cello.Iter

namespace LL

variable {α : Type}

/-- address of the first node of a segment, `d` when the segment is empty -/
def firstAddr (xs : List (Nat × α)) (d : Option Nat) : Option Nat :=
  match xs with
  | [] => d
  | x :: _ => some x.1

/-- address of the last node of a segment, `d` when the segment is empty -/
def lastAddr : List (Nat × α) → Option Nat → Option Nat
  | [], d => d
  | [x], _ => some x.1
  | _ :: y :: r, d => lastAddr (y :: r) d

/-- the nodes `xs` (address, value) are live and linked consecutively: the `prev` word of the first is `p`, the `next`
    word of the last is `n`, and in between `next` of each is the following node and `prev` of each the preceding one -/
def Seg (mem : Nat → Option (LNode α)) : Option Nat → List (Nat × α) → Option Nat → Prop
  | _, [], _ => True
  | p, x :: rest, n => mem x.1 = some ⟨x.2, firstAddr rest n, p⟩ ∧ Seg mem (some x.1) rest n

def addrs (xs : List (Nat × α)) : List Nat := xs.map Prod.fst
def vals (xs : List (Nat × α)) : List α := xs.map Prod.snd

/-- **the doubly-linked invariant**: the nodes of `xs`, in this order, are exactly the chain of the list —
    `head` is the first and its `prev` word is NULL, `tail` is the last and its `next` word is NULL, `next` of every node
    is its successor and `prev` of every node its predecessor, the nodes are distinct live blocks, and `nitems` counts
    them.  `room`: there are at most `brk` nodes, so `brk + 1` is fuel enough for the loops of List_Clear and List_Rem. -/
structure Chain (l : LL α) (xs : List (Nat × α)) : Prop where
  seg : Seg l.mem none xs none
  head : l.head = firstAddr xs none
  tail : l.tail = lastAddr xs none
  nodup : (addrs xs).Nodup
  fresh : ∀ a ∈ addrs xs, a < l.brk
  room : xs.length ≤ l.brk
  count : l.nitems = xs.length

def Chained (l : LL α) (vs : List α) : Prop := ∃ xs, Chain l xs ∧ vals xs = vs

theorem Chain.chained {l : LL α} {xs : List (Nat × α)} (h : Chain l xs) : Chained l (vals xs) := ⟨xs, h, rfl⟩

theorem Chain.nil_iff {l : LL α} {xs : List (Nat × α)} (h : Chain l xs) : l.nitems = 0 ↔ xs = [] := by
  rw [h.count]; exact List.length_eq_zero_iff

theorem firstAddr_cons (x : Nat × α) (r : List (Nat × α)) (d : Option Nat) : firstAddr (x :: r) d = some x.1 := rfl

theorem firstAddr_append (xs ys : List (Nat × α)) (d : Option Nat) :
    firstAddr (xs ++ ys) d = firstAddr xs (firstAddr ys d) := by
  cases xs <;> rfl

theorem firstAddr_nonempty (xs : List (Nat × α)) (h : xs ≠ []) (d d' : Option Nat) : firstAddr xs d = firstAddr xs d' := by
  cases xs with
  | nil => exact absurd rfl h
  | cons x r => rfl

theorem lastAddr_nonempty (xs : List (Nat × α)) (h : xs ≠ []) (d d' : Option Nat) : lastAddr xs d = lastAddr xs d' := by
  induction xs with
  | nil => exact absurd rfl h
  | cons x r ih =>
    cases r with
    | nil => rfl
    | cons y r' => simpa [lastAddr] using ih (by simp)

theorem lastAddr_cons (x : Nat × α) (r : List (Nat × α)) (d : Option Nat) : lastAddr (x :: r) d = lastAddr r (some x.1) := by
  cases r with
  | nil => rfl
  | cons y r' => exact lastAddr_nonempty (y :: r') (List.cons_ne_nil y r') d (some x.1)

theorem lastAddr_append (xs ys : List (Nat × α)) (d : Option Nat) :
    lastAddr (xs ++ ys) d = lastAddr ys (lastAddr xs d) := by
  induction xs generalizing d with
  | nil => rfl
  | cons x r ih => rw [List.cons_append, lastAddr_cons, ih, lastAddr_cons]

theorem lastAddr_snoc (xs : List (Nat × α)) (w : Nat × α) (d : Option Nat) : lastAddr (xs ++ [w]) d = some w.1 := by
  rw [lastAddr_append]; rfl

theorem snoc_of_ne_nil (xs : List (Nat × α)) (h : xs ≠ []) : ∃ ini w, xs = ini ++ [w] :=
  ⟨xs.dropLast, xs.getLast h, (List.dropLast_concat_getLast h).symm⟩

theorem lastAddr_mem (xs : List (Nat × α)) (h : xs ≠ []) (d : Option Nat) :
    ∃ a, lastAddr xs d = some a ∧ a ∈ addrs xs := by
  obtain ⟨ini, w, rfl⟩ := snoc_of_ne_nil xs h
  exact ⟨w.1, lastAddr_snoc ini w d, by simp [addrs]⟩

theorem firstAddr_mem (xs : List (Nat × α)) (h : xs ≠ []) (d : Option Nat) :
    ∃ a, firstAddr xs d = some a ∧ a ∈ addrs xs := by
  cases xs with
  | nil => exact absurd rfl h
  | cons x r => exact ⟨x.1, rfl, by simp [addrs]⟩

theorem Seg_append (mem : Nat → Option (LNode α)) : ∀ (xs ys : List (Nat × α)) (p n : Option Nat),
    Seg mem p (xs ++ ys) n ↔ Seg mem p xs (firstAddr ys n) ∧ Seg mem (lastAddr xs p) ys n := by
  intro xs
  induction xs with
  | nil => intro ys p n; simp [Seg, lastAddr]
  | cons x r ih =>
    intro ys p n
    simp only [List.cons_append, Seg, ih ys (some x.1) n, firstAddr_append, lastAddr_cons x r p]
    constructor
    · rintro ⟨a, b, c⟩; exact ⟨⟨a, b⟩, c⟩
    · rintro ⟨⟨a, b⟩, c⟩; exact ⟨a, b, c⟩

theorem Seg_snoc {mem : Nat → Option (LNode α)} (ini : List (Nat × α)) (w : Nat × α) (p n : Option Nat)
    (h : Seg mem p (ini ++ [w]) n) : Seg mem p ini (some w.1) ∧ mem w.1 = some ⟨w.2, n, lastAddr ini p⟩ := by
  have := (Seg_append mem ini [w] p n).mp h
  exact ⟨this.1, this.2.1⟩

/-- frame: a segment only depends on the blocks of its own nodes -/
theorem Seg_congr {mem mem' : Nat → Option (LNode α)} : ∀ (xs : List (Nat × α)) (p n : Option Nat),
    (∀ a ∈ addrs xs, mem' a = mem a) → Seg mem p xs n → Seg mem' p xs n := by
  intro xs
  induction xs with
  | nil => intro _ _ _ _; trivial
  | cons x r ih =>
    intro p n hm h
    refine ⟨by rw [hm x.1 (by simp [addrs])]; exact h.1, ih _ _ (fun a ha => hm a ?_) h.2⟩
    simp only [addrs, List.map_cons, List.mem_cons] at ha ⊢
    exact Or.inr ha

/-- … in particular not on a block outside it -/
theorem Seg_store {mem : Nat → Option (LNode α)} {a : Nat} (nd : Option (LNode α)) {xs : List (Nat × α)} {p n : Option Nat}
    (ha : a ∉ addrs xs) (h : Seg mem p xs n) : Seg (fun c => if c = a then nd else mem c) p xs n :=
  Seg_congr xs p n (fun c hc => if_neg fun (e : c = a) => ha (e ▸ hc)) h

theorem Seg_live {mem : Nat → Option (LNode α)} : ∀ (xs : List (Nat × α)) (p n : Option Nat), Seg mem p xs n →
    ∀ x ∈ xs, ∃ nd, mem x.1 = some nd ∧ nd.val = x.2 := by
  intro xs
  induction xs with
  | nil => intro _ _ _ x hx; simp at hx
  | cons y r ih =>
    intro p n h x hx
    rcases List.mem_cons.mp hx with rfl | hx
    · exact ⟨_, h.1, rfl⟩
    · exact ih _ _ h.2 x hx

theorem addrs_append (xs ys : List (Nat × α)) : addrs (xs ++ ys) = addrs xs ++ addrs ys := by simp [addrs]
theorem addrs_cons (x : Nat × α) (ys : List (Nat × α)) : addrs (x :: ys) = x.1 :: addrs ys := rfl

theorem addrs_middle (xs ys : List (Nat × α)) (x : Nat × α) : (addrs (xs ++ x :: ys)).Perm (x.1 :: addrs (xs ++ ys)) := by
  simp only [addrs, List.map_append, List.map_cons]
  exact List.perm_middle

theorem vals_append (xs ys : List (Nat × α)) : vals (xs ++ ys) = vals xs ++ vals ys := by simp [vals]
theorem vals_cons (x : Nat × α) (ys : List (Nat × α)) : vals (x :: ys) = x.2 :: vals ys := rfl
theorem vals_length (xs : List (Nat × α)) : (vals xs).length = xs.length := by simp [vals]
theorem vals_take (xs : List (Nat × α)) (k : Nat) : vals (xs.take k) = (vals xs).take k := by simp [vals, List.map_take]
theorem vals_drop (xs : List (Nat × α)) (k : Nat) : vals (xs.drop k) = (vals xs).drop k := by simp [vals, List.map_drop]

/-- what `Chain l (xs ++ x :: ys)` says about the node `x` and its surroundings -/
theorem Chain.split {l : LL α} {xs ys : List (Nat × α)} {x : Nat × α} (h : Chain l (xs ++ x :: ys)) :
    Seg l.mem none xs (some x.1) ∧ l.mem x.1 = some ⟨x.2, firstAddr ys none, lastAddr xs none⟩ ∧
    Seg l.mem (some x.1) ys none ∧ l.head = firstAddr xs (some x.1) ∧ l.tail = lastAddr ys (some x.1) ∧
    (addrs xs).Nodup ∧ (addrs ys).Nodup ∧ x.1 ∉ addrs xs ∧ x.1 ∉ addrs ys ∧ (∀ a ∈ addrs xs, a ∉ addrs ys) := by
  have hs := (Seg_append l.mem xs (x :: ys) none none).mp h.seg
  have hnd := h.nodup
  rw [addrs_append, addrs_cons, List.nodup_append] at hnd
  obtain ⟨n1, n2, n3⟩ := hnd
  have n2' := List.nodup_cons.mp n2
  refine ⟨hs.1, hs.2.1, hs.2.2, ?_, ?_, n1, n2'.2, ?_, n2'.1, ?_⟩
  · rw [h.head, firstAddr_append]; rfl
  · rw [h.tail, lastAddr_append, lastAddr_cons]
  · intro hx; exact n3 x.1 hx x.1 (by simp) rfl
  · intro a ha hb; exact n3 a ha a (by simp [hb]) rfl

/-- `p->next = v`, where NULL for `p` stands for the list itself, whose `next` is `head`: with this reading what `List_Link` and
    `List_Unlink` write to the neighbours are two such writes each and need no case for an empty side (`linkPrev_eq`, `linkNext_eq`, `unlink_eq`) -/
def putNext (l : LL α) (p v : Option Nat) : Option (LL α) :=
  match p with
  | none => some { l with head := v }
  | some a => l.setNext a v

/-- `q->prev = v`, the `prev` of the list itself being `tail` -/
def putPrev (l : LL α) (q v : Option Nat) : Option (LL α) :=
  match q with
  | none => some { l with tail := v }
  | some a => l.setPrev a v

theorem linkPrev_eq (l : LL α) (item : Nat) (prev : Option Nat) : l.linkPrev item prev = l.putNext prev (some item) := by
  cases prev <;> rfl

theorem linkNext_eq (l : LL α) (item : Nat) (next : Option Nat) : l.linkNext item next = l.putPrev next (some item) := by
  cases next <;> rfl

/-- the four cases of the C text, looked at here and nowhere else: when `prev` is NULL exactly for the head and `next` is NULL exactly
    for the tail (true in a chain), each of them is the two writes `prev->next = next; next->prev = prev` -/
theorem unlink_eq {l : LL α} {a : Nat} {nd : LNode α} (hn : l.mem a = some nd)
    (hh : l.head = some a ↔ nd.prev = none) (ht : l.tail = some a ↔ nd.next = none) :
    l.unlink a = (l.putNext nd.prev nd.next).bind fun l1 => l1.putPrev nd.next nd.prev := by
  obtain ⟨v, n, p⟩ := nd
  unfold unlink
  rw [hn]
  dsimp only
  cases p with
  | none =>
    cases n with
    | none => rw [if_pos ⟨hh.2 rfl, ht.2 rfl⟩]; rfl
    | some n => rw [if_neg (fun h => nomatch ht.1 h.2), if_pos (hh.2 rfl)]; rfl
  | some p =>
    rw [if_neg (fun h => nomatch hh.1 h.1), if_neg (fun h => nomatch hh.1 h)]
    cases n with
    | none =>
      rw [if_pos (ht.2 rfl)]
      show ({ l with tail := some p } : LL α).setNext p none = (l.setNext p none).bind _
      unfold setNext
      show (match l.mem p with | none => none | some nd => _) = _
      cases l.mem p <;> rfl
    | some n =>
      rw [if_neg (fun h => nomatch ht.1 h)]
      show (match l.setNext p (some n) with | none => none | some l1 => l1.setPrev n (some p)) = (l.setNext p (some n)).bind _
      cases l.setNext p (some n) <;> rfl

/-- the chain from `head` through the nodes `pre`, leaving to `q` -/
structure Front (l : LL α) (pre : List (Nat × α)) (q : Option Nat) : Prop where
  seg : Seg l.mem none pre q
  head : l.head = firstAddr pre q

/-- the chain from `tail` back through the nodes `post`, leaving to `p` -/
structure Back (l : LL α) (p : Option Nat) (post : List (Nat × α)) : Prop where
  seg : Seg l.mem p post none
  tail : l.tail = lastAddr post p

/-- one write redirects the way out of a front and touches no block outside it; the result is given explicitly, so that `tail`, `brk`
    and `nitems` are unchanged by `rfl` -/
theorem Front.putNext {l : LL α} {pre : List (Nat × α)} {q : Option Nat} (hf : Front l pre q) (hnd : (addrs pre).Nodup)
    (q' : Option Nat) :
    ∃ m' hd', l.putNext (lastAddr pre none) q' = some { l with mem := m', head := hd' } ∧
      Front { l with mem := m', head := hd' } pre q' ∧ ∀ b, b ∉ addrs pre → m' b = l.mem b := by
  rcases List.eq_nil_or_concat pre with rfl | ⟨ini, w, rfl⟩
  · exact ⟨l.mem, q', rfl, ⟨trivial, rfl⟩, fun _ _ => rfl⟩
  · rw [List.concat_eq_append] at hf hnd ⊢
    obtain ⟨g1, g2⟩ := Seg_snoc ini w none q hf.seg
    have hw : w.1 ∉ addrs ini := by
      rw [addrs_append, List.nodup_append] at hnd
      exact fun h => hnd.2.2 _ h _ (by simp [addrs]) rfl
    refine ⟨fun c => if c = w.1 then some ⟨w.2, q', lastAddr ini none⟩ else l.mem c, l.head,
      by rw [lastAddr_snoc]; show l.setNext w.1 q' = _; unfold setNext; rw [g2]; rfl, ⟨?_, ?_⟩, fun b hb => if_neg fun e => hb ?_⟩
    · exact (Seg_append _ ini [w] none q').mpr ⟨Seg_store _ hw g1, by simp [firstAddr], trivial⟩
    · exact hf.head.trans (firstAddr_nonempty _ (by simp) _ _)
    · rw [e]; simp [addrs]

theorem Back.putPrev {l : LL α} {post : List (Nat × α)} {p : Option Nat} (hb : Back l p post) (hnd : (addrs post).Nodup)
    (p' : Option Nat) :
    ∃ m' tl', l.putPrev (firstAddr post none) p' = some { l with mem := m', tail := tl' } ∧
      Back { l with mem := m', tail := tl' } p' post ∧ ∀ b, b ∉ addrs post → m' b = l.mem b := by
  cases post with
  | nil => exact ⟨l.mem, p', rfl, ⟨trivial, rfl⟩, fun _ _ => rfl⟩
  | cons y r =>
    refine ⟨fun c => if c = y.1 then some ⟨y.2, firstAddr r none, p'⟩ else l.mem c, l.tail,
      by show l.setPrev y.1 p' = _; unfold setPrev; rw [hb.seg.1]; rfl, ⟨⟨by simp, Seg_store _ (List.nodup_cons.mp hnd).1 hb.seg.2⟩, ?_⟩,
      fun b hb' => if_neg fun e => hb' (by rw [e]; simp [addrs])⟩
    exact hb.tail.trans (lastAddr_nonempty _ (by simp) _ _)

/-- the way out of a front is its own exit exactly when the front is empty -/
theorem firstAddr_eq_exit {pre : List (Nat × α)} {a : Nat} (ha : a ∉ addrs pre) :
    firstAddr pre (some a) = some a ↔ lastAddr pre none = none := by
  by_cases e : pre = []
  · subst e; exact ⟨fun _ => rfl, fun _ => rfl⟩
  · obtain ⟨b, hb, hm⟩ := firstAddr_mem pre e (some a)
    obtain ⟨w, hw, _⟩ := lastAddr_mem pre e none
    rw [hb, hw]
    exact ⟨fun h => absurd ((Option.some.inj h) ▸ hm) ha, fun h => nomatch h⟩

theorem lastAddr_eq_entry {post : List (Nat × α)} {a : Nat} (ha : a ∉ addrs post) :
    lastAddr post (some a) = some a ↔ firstAddr post none = none := by
  by_cases e : post = []
  · subst e; exact ⟨fun _ => rfl, fun _ => rfl⟩
  · obtain ⟨b, hb, hm⟩ := lastAddr_mem post e (some a)
    obtain ⟨w, hw, _⟩ := firstAddr_mem post e none
    rw [hb, hw]
    exact ⟨fun h => absurd ((Option.some.inj h) ▸ hm) ha, fun h => nomatch h⟩

/-- `List_Unlink` of a node of the chain: the chain without it (the node itself stays allocated) -/
theorem unlink_chain (l : LL α) (xs ys : List (Nat × α)) (x : Nat × α) (h : Chain l (xs ++ x :: ys)) :
    ∃ l', l.unlink x.1 = some l' ∧ Seg l'.mem none (xs ++ ys) none ∧ l'.head = firstAddr (xs ++ ys) none ∧
      l'.tail = lastAddr (xs ++ ys) none ∧ l'.brk = l.brk ∧ l'.nitems = l.nitems := by
  obtain ⟨sx, hx, sy, hh, ht, ndx, ndy, nx, ny, dis⟩ := h.split
  obtain ⟨m1, hd1, e1, f1, o1⟩ := (Front.mk sx hh).putNext ndx (firstAddr ys none)
  obtain ⟨m2, tl2, e2, b2, o2⟩ := (Back.mk (l := { l with mem := m1, head := hd1 })
    (Seg_congr ys _ _ (fun c hc => o1 c fun hcx => dis c hcx hc) sy) ht).putPrev ndy (lastAddr xs none)
  refine ⟨_, ?_, (Seg_append _ xs ys none none).mpr ⟨Seg_congr xs _ _ (fun c hc => o2 c (dis c hc)) f1.seg, b2.seg⟩,
    f1.head.trans (firstAddr_append ..).symm, b2.tail.trans (lastAddr_append ..).symm, rfl, rfl⟩
  rw [unlink_eq hx (hh ▸ firstAddr_eq_exit nx) (ht ▸ lastAddr_eq_entry ny), e1]
  exact e2

/-- `List_Link` of a live block that is not in the chain, between the two halves `xs` / `ys` of the chain -/
theorem link_chain (l : LL α) (xs ys : List (Nat × α)) (a : Nat) (v : α) (nx0 pv0 : Option Nat)
    (sg : Seg l.mem none (xs ++ ys) none) (hh : l.head = firstAddr (xs ++ ys) none)
    (ht : l.tail = lastAddr (xs ++ ys) none) (hnd : (addrs (xs ++ ys)).Nodup) (ha : a ∉ addrs (xs ++ ys))
    (hma : l.mem a = some ⟨v, nx0, pv0⟩) :
    ∃ l', l.link a (lastAddr xs none) (firstAddr ys none) = some l' ∧ Seg l'.mem none (xs ++ (a, v) :: ys) none ∧
      l'.head = firstAddr (xs ++ (a, v) :: ys) none ∧ l'.tail = lastAddr (xs ++ (a, v) :: ys) none ∧
      l'.brk = l.brk ∧ l'.nitems = l.nitems := by
  obtain ⟨sx, sy⟩ := (Seg_append l.mem xs ys none none).mp sg
  rw [addrs_append, List.nodup_append] at hnd
  obtain ⟨ndx, ndy, dis⟩ := hnd
  rw [addrs_append, List.mem_append, not_or] at ha
  obtain ⟨hax, hay⟩ := ha
  obtain ⟨m1, hd1, e1, f1, o1⟩ := (Front.mk sx (hh.trans (firstAddr_append ..))).putNext ndx (some a)
  obtain ⟨m2, tl2, e2, b2, o2⟩ := (Back.mk (l := { l with mem := m1, head := hd1 })
    (Seg_congr ys _ _ (fun c hc => o1 c fun hcx => dis c hcx c hc rfl) sy) (ht.trans (lastAddr_append ..))).putPrev ndy (some a)
  have hm2 : m2 a = some ⟨v, nx0, pv0⟩ := (o2 a hay).trans ((o1 a hax).trans hma)
  -- the two stores to `item` (`*List_Next(item) = next; *List_Prev(item) = prev`) as `setNext` and `setPrev` nest them: the inner test is dead
  refine ⟨{ l with mem := fun c => if c = a then some ⟨v, firstAddr ys none, lastAddr xs none⟩
      else if c = a then some ⟨v, firstAddr ys none, pv0⟩ else m2 c, head := hd1, tail := tl2 }, ?_,
    (Seg_append _ xs ((a, v) :: ys) none none).mpr
      ⟨Seg_store _ hax (Seg_store _ hax (Seg_congr xs _ _ (fun c hc => o2 c fun hcy => dis c hc c hcy rfl) f1.seg)), by simp,
        Seg_store _ hay (Seg_store _ hay b2.seg)⟩,
    f1.head.trans (firstAddr_append xs ((a, v) :: ys) none).symm, ?_, rfl, rfl⟩
  · rw [link, linkPrev_eq, e1]
    dsimp only
    rw [linkNext_eq, e2]
    simp only [setNext, hm2, setPrev, store, if_true]
  · rw [lastAddr_append, lastAddr_cons]; exact b2.tail

theorem stepNext_seg (l : LL α) : ∀ (k : Nat) (xs : List (Nat × α)) (p n : Option Nat), Seg l.mem p xs n →
    k ≤ xs.length → l.stepNext k (firstAddr xs n) = some (firstAddr (xs.drop k) n) := by
  intro k
  induction k with
  | zero => intro xs p n _ _; simp [stepNext]
  | succ k ih =>
    intro xs p n h hk
    cases xs with
    | nil => simp at hk
    | cons x r =>
      simp only [firstAddr, stepNext, h.1, List.drop_succ_cons]
      exact ih r (some x.1) n h.2 (by simpa using hk)

theorem stepPrev_seg (l : LL α) : ∀ (k : Nat) (xs : List (Nat × α)) (p n : Option Nat), Seg l.mem p xs n →
    k ≤ xs.length → l.stepPrev k (lastAddr xs p) = some (lastAddr (xs.take (xs.length - k)) p) := by
  intro k
  induction k with
  | zero => intro xs p n _ _; simp [stepPrev]
  | succ k ih =>
    intro xs p n h hk
    have hne : xs ≠ [] := by intro e; subst e; simp at hk
    obtain ⟨ini, w, rfl⟩ := snoc_of_ne_nil xs hne
    obtain ⟨h1, h2⟩ := Seg_snoc ini w p n h
    simp only [List.length_append, List.length_singleton] at hk ⊢
    rw [lastAddr_snoc]
    simp only [stepPrev, h2]
    rw [ih ini p (some w.1) h1 (by omega)]
    have : ini.length + 1 - (k + 1) = ini.length - k := by omega
    rw [this, List.take_append_of_le_length (by omega)]

theorem nodeAt_eq (l : LL α) (i : Int) : l.nodeAt i =
    if normI l.nitems i < 0 ∨ normI l.nitems i ≥ (l.nitems : Int) then At.oob
    else match (if (normI l.nitems i).toNat ≤ l.nitems / 2 then l.stepNext (normI l.nitems i).toNat l.head
                else l.stepPrev (l.nitems - (normI l.nitems i).toNat - 1) l.tail) with
      | some (some a) => At.node a
      | _ => At.undef := rfl

theorem nodeAt_oob (l : LL α) (xs : List (Nat × α)) (h : Chain l xs) (i : Int) (hi : idxOf xs.length i = none) :
    l.nodeAt i = .oob := by
  rw [nodeAt_eq, h.count]
  unfold idxOf at hi
  split at hi
  · next hc => rw [if_pos hc]
  · cases hi

theorem nodeAt_node (l : LL α) (xs : List (Nat × α)) (h : Chain l xs) (i : Int) (k : Nat)
    (hi : idxOf xs.length i = some k) :
    ∃ hk : k < xs.length, l.nodeAt i = .node (xs[k]).1 ∧ Chain l (xs.take k ++ xs[k] :: xs.drop (k + 1)) := by
  obtain ⟨hj, hk⟩ := idxOf_eq_some hi
  refine ⟨hk, ?_, by rw [← List.drop_eq_getElem_cons hk, List.take_append_drop]; exact h⟩
  have hr : (if k ≤ xs.length / 2 then l.stepNext k l.head else l.stepPrev (xs.length - k - 1) l.tail) =
      some (some xs[k].1) := by
    split
    · rw [h.head, stepNext_seg l k xs none none h.seg (by omega), List.drop_eq_getElem_cons hk]
      rfl
    · rw [h.tail, stepPrev_seg l _ xs none none h.seg (by omega), show xs.length - (xs.length - k - 1) = k + 1 by omega,
        List.take_add_one, List.getElem?_eq_getElem hk, Option.toList_some, lastAddr_snoc]
  rw [nodeAt_eq, h.count, hj, if_neg (by omega), Int.toNat_natCast, hr]

theorem dropNode_chain (l : LL α) (pre post : List (Nat × α)) (x : Nat × α) (h : Chain l (pre ++ x :: post)) :
    ∃ l', l.dropNode x.1 = (l', .ok) ∧ Chain l' (pre ++ post) := by
  obtain ⟨l1, e, sg, hh, ht, hb, hc⟩ := unlink_chain l pre post x h
  have hp := addrs_middle pre post x
  obtain ⟨hxn, hnd⟩ := List.nodup_cons.mp (hp.nodup_iff.mp h.nodup)
  refine ⟨{ (l1.free x.1) with nitems := l1.nitems - 1 }, by simp only [dropNode, e], Seg_store none hxn sg, hh, ht, hnd, ?_, ?_, ?_⟩
  · intro a ha
    simp only [free, store, hb]
    exact h.fresh a (hp.mem_iff.mpr (List.mem_cons_of_mem _ ha))
  · have := h.room
    simp only [List.length_append, List.length_cons, free, store, hb] at this ⊢
    omega
  · have := h.count
    simp only [List.length_append, List.length_cons, hc] at this ⊢
    omega

theorem insert_chain (l : LL α) (xs ys : List (Nat × α)) (v : α) (h : Chain l (xs ++ ys)) (prev next : LL α → Option Nat)
    (hp : prev (l.alloc v).2 = lastAddr xs none) (hn : next (l.alloc v).2 = firstAddr ys none) :
    ∃ l', l.insert v prev next = (l', .ok) ∧ Chain l' (xs ++ (l.brk, v) :: ys) := by
  have hfr : l.brk ∉ addrs (xs ++ ys) := fun c => Nat.lt_irrefl _ (h.fresh _ c)
  obtain ⟨l2, e, sg, hh, ht, hb, hc⟩ := link_chain (l.alloc v).2 xs ys l.brk v none none (Seg_store _ hfr h.seg)
    (by simpa [alloc, store] using h.head) (by simpa [alloc, store] using h.tail) h.nodup hfr (by simp [alloc, store])
  have hm := addrs_middle xs ys (l.brk, v)
  refine ⟨{ l2 with nitems := l2.nitems + 1 }, ?_, sg, hh, ht, hm.nodup_iff.mpr (List.nodup_cons.mpr ⟨hfr, h.nodup⟩), ?_, ?_, ?_⟩
  · simp only [insert, hp, hn]
    rw [show l.alloc v = (l.brk, (l.alloc v).2) from rfl]
    simp only [e]
  · intro a ha
    simp only [hb, alloc, store]
    rcases List.mem_cons.mp (hm.mem_iff.mp ha) with rfl | ha
    · exact Nat.lt_succ_self _
    · exact Nat.lt_succ_of_lt (h.fresh a ha)
  · have := h.room
    simp only [List.length_append, List.length_cons, hb, alloc, store] at this ⊢
    omega
  · have := h.count
    simp only [List.length_append, List.length_cons, hc, alloc, store] at this ⊢
    omega

end LL
end Cello.Iter
