/-
  C09 (engine `cmp`), the order-theoretic core.  `LawfulCmpOn` / `StrictCmpOn` speak of a comparison through its sign only, so
  strictness is carried along any view of the operands that keeps the sign (`StrictCmpOn.transfer`); every comparison loop of
  the model iterates one step (`thenCmp`); every scalar comparison gets its strictness from the order of `Int` (`intSub_strict`).
-/
import Cello.Cmp

namespace Cello.Cmp

theorem sgn_cases (x : Int) : (x < 0 ∧ sgn x = -1) ∨ (x = 0 ∧ sgn x = 0) ∨ (0 < x ∧ sgn x = 1) := by
  unfold sgn; split
  · left; omega
  · split
    · right; right; omega
    · right; left; omega

theorem sgn_neg_iff (x : Int) : sgn x = -1 ↔ x < 0 := by rcases sgn_cases x with h | h | h <;> omega
theorem sgn_zero_iff (x : Int) : sgn x = 0 ↔ x = 0 := by rcases sgn_cases x with h | h | h <;> omega
theorem sgn_pos_iff (x : Int) : sgn x = 1 ↔ 0 < x := by rcases sgn_cases x with h | h | h <;> omega

theorem sgn_lt_zero (x : Int) : sgn x < 0 ↔ x < 0 := by rcases sgn_cases x with h | h | h <;> omega
theorem sgn_gt_zero (x : Int) : 0 < sgn x ↔ 0 < x := by rcases sgn_cases x with h | h | h <;> omega

theorem sgn_le_zero (x : Int) : sgn x ≤ 0 ↔ x ≤ 0 := by rcases sgn_cases x with h | h | h <;> omega

theorem sgn_sgn (x : Int) : sgn (sgn x) = sgn x := by
  rcases sgn_cases x with h | h | h <;> rw [h.2] <;> rfl

/-- antisymmetry in sign, unfolded into the three facts `omega` can use -/
theorem antisymm_facts {x y : Int} (h : sgn x = - sgn y) : (x < 0 ↔ 0 < y) ∧ (x = 0 ↔ y = 0) ∧ (0 < x ↔ y < 0) := by
  refine ⟨?_, ?_, ?_⟩
  · rw [← sgn_lt_zero x, ← sgn_gt_zero y, h]; omega
  · rw [← sgn_zero_iff x, ← sgn_zero_iff y, h]; omega
  · rw [← sgn_gt_zero x, ← sgn_lt_zero y, h]; omega

theorem antisymm_of_facts {x y : Int} (h1 : x < 0 ↔ 0 < y) (h2 : 0 < x ↔ y < 0) : sgn x = - sgn y := by
  rcases sgn_cases x with ⟨hx, e⟩ | ⟨hx, e⟩ | ⟨hx, e⟩
  · rw [e, (sgn_pos_iff y).2 (h1.1 hx)]
  · rw [e, (sgn_zero_iff y).2 (by omega)]; rfl
  · rw [e, (sgn_neg_iff y).2 (h2.1 hx)]; rfl

theorem sgn_congr {x y : Int} (h1 : x < 0 ↔ y < 0) (h2 : 0 < x ↔ 0 < y) : sgn x = sgn y := by
  rcases sgn_cases x with ⟨hx, e⟩ | ⟨hx, e⟩ | ⟨hx, e⟩
  · rw [e, (sgn_neg_iff y).2 (h1.1 hx)]
  · rw [e, (sgn_zero_iff y).2 (by omega)]
  · rw [e, (sgn_pos_iff y).2 (h2.1 hx)]

section lawful
variable {α : Type} {P : α → Prop} {c : α → α → Int}

theorem LawfulCmpOn.flip (h : LawfulCmpOn P c) {a b : α} (pa : P a) (pb : P b) :
    (c a b < 0 ↔ 0 < c b a) ∧ (c a b = 0 ↔ c b a = 0) ∧ (0 < c a b ↔ c b a < 0) :=
  antisymm_facts (h.antisymm a b pa pb)

theorem LawfulCmpOn.refl (h : LawfulCmpOn P c) {a : α} (pa : P a) : c a a = 0 := by
  have := h.flip pa pa; omega

theorem LawfulCmpOn.le_trans_tie (h : LawfulCmpOn P c) {a b d : α} (pa : P a) (pb : P b) (pd : P d)
    (h1 : c a b ≤ 0) (h2 : c b d ≤ 0) : c a d ≤ 0 ∧ (c a d = 0 → c a b = 0 ∧ c b d = 0) := by
  refine ⟨h.le_trans a b d pa pb pd h1 h2, fun h0 => ?_⟩
  have hda : c d a ≤ 0 := by have := (h.flip pa pd).2.1.mp h0; omega
  -- `d ≤ a ≤ b` and `b ≤ d ≤ a`: so `d ≤ b` and `b ≤ a`, the converses of the two hypotheses
  have hdb := h.le_trans d a b pd pa pb hda h1
  have hba := h.le_trans b d a pb pd pa h2 hda
  have fab := (h.flip pa pb).1; have fbd := (h.flip pb pd).1
  omega

theorem LawfulCmpOn.lt_of_lt_of_le (h : LawfulCmpOn P c) {a b d : α} (pa : P a) (pb : P b) (pd : P d)
    (h1 : c a b < 0) (h2 : c b d ≤ 0) : c a d < 0 := by
  have := h.le_trans_tie pa pb pd (by omega) h2; omega

theorem LawfulCmpOn.lt_of_le_of_lt (h : LawfulCmpOn P c) {a b d : α} (pa : P a) (pb : P b) (pd : P d)
    (h1 : c a b ≤ 0) (h2 : c b d < 0) : c a d < 0 := by
  have := h.le_trans_tie pa pb pd h1 (by omega); omega

theorem LawfulCmpOn.congr_left (h : LawfulCmpOn P c) {a b d : α} (pa : P a) (pb : P b) (pd : P d)
    (h1 : c a b = 0) : sgn (c a d) = sgn (c b d) := by
  -- `a ≤ b` moves a strict inequality with `d` from `b` to `a`, on either side; then the same with `b ≤ a`
  have move : ∀ {a b : α}, P a → P b → c a b = 0 → (c b d < 0 → c a d < 0) ∧ (0 < c b d → 0 < c a d) := by
    intro a b pa pb e
    refine ⟨h.lt_of_le_of_lt pa pb pd (by omega), fun hb => ?_⟩
    have := h.lt_of_lt_of_le pd pb pa (by have := (h.flip pb pd).2.2; omega) (by have := (h.flip pa pb).2.1; omega)
    have := (h.flip pa pd).2.2
    omega
  have m1 := move pa pb h1
  have m2 := move pb pa ((h.flip pa pb).2.1.mp h1)
  exact sgn_congr ⟨m2.1, m1.1⟩ ⟨m2.2, m1.2⟩

theorem LawfulCmpOn.zero_trans (h : LawfulCmpOn P c) {a b d : α} (pa : P a) (pb : P b) (pd : P d)
    (h1 : c a b = 0) (h2 : c b d = 0) : c a d = 0 := by
  rw [← sgn_zero_iff, h.congr_left pa pb pd h1, h2]; rfl

end lawful

/-- `c'` is strict as soon as it agrees IN SIGN, along some view `R` of its operands, with a `c` that is -/
theorem StrictCmpOn.transfer {α β : Type} {P : β → Prop} {E : β → β → Prop} {c : β → β → Int} (h : StrictCmpOn P E c)
    {Q : α → Prop} {E' : α → α → Prop} {c' : α → α → Int} (R : α → β → Prop)
    (hR : ∀ a, Q a → ∃ x, R a x ∧ P x)
    (hc : ∀ a b x y, Q a → Q b → R a x → R b y → sgn (c' a b) = sgn (c x y))
    (hE : ∀ a b x y, Q a → Q b → R a x → R b y → (E' a b ↔ E x y)) : StrictCmpOn Q E' c' where
  antisymm a b qa qb := by
    obtain ⟨x, rx, px⟩ := hR a qa; obtain ⟨y, ry, py⟩ := hR b qb
    rw [hc a b x y qa qb rx ry, hc b a y x qb qa ry rx]; exact h.antisymm x y px py
  le_trans a b d qa qb qd := by
    obtain ⟨x, rx, px⟩ := hR a qa; obtain ⟨y, ry, py⟩ := hR b qb; obtain ⟨z, rz, pz⟩ := hR d qd
    rw [← sgn_le_zero, ← sgn_le_zero (c' b d), ← sgn_le_zero (c' a d), hc a b x y qa qb rx ry, hc b d y z qb qd ry rz,
      hc a d x z qa qd rx rz, sgn_le_zero, sgn_le_zero, sgn_le_zero]
    exact h.le_trans x y z px py pz
  zero_iff a b qa qb := by
    obtain ⟨x, rx, px⟩ := hR a qa; obtain ⟨y, ry, py⟩ := hR b qb
    rw [← sgn_zero_iff, hc a b x y qa qb rx ry, sgn_zero_iff, hE a b x y qa qb rx ry]; exact h.zero_iff x y px py

theorem StrictCmpOn.comap {α β : Type} {P : β → Prop} {E : β → β → Prop} {c : β → β → Int}
    (h : StrictCmpOn P E c) {Q : α → Prop} {E' : α → α → Prop} {c' : α → α → Int} (g : α → β)
    (hP : ∀ a, Q a → P (g a)) (hc : ∀ a b, Q a → Q b → sgn (c' a b) = sgn (c (g a) (g b)))
    (hE : ∀ a b, Q a → Q b → (E' a b ↔ E (g a) (g b))) : StrictCmpOn Q E' c' :=
  h.transfer (fun a x => g a = x) (fun a qa => ⟨_, rfl, hP a qa⟩)
    (fun a b _ _ qa qb ra rb => by subst ra rb; exact hc a b qa qb)
    (fun a b _ _ qa qb ra rb => by subst ra rb; exact hE a b qa qb)

/-- one step of a comparison loop: the result `r` for the current pair decides by its sign, a tie hands over to `k`.
    `lexCmp`, `pairsCmp`, `pairCmp`, `seqCmp`, `entriesCmp` have this `if` chain inline and unfold to it by `rfl`. -/
def thenCmp (r k : Int) : Int := if r < 0 then -1 else if r > 0 then 1 else k

theorem thenCmp_neg (r k : Int) : thenCmp r k < 0 ↔ r < 0 ∨ (r = 0 ∧ k < 0) := by
  unfold thenCmp; split
  · omega
  · split <;> omega

theorem thenCmp_le (r k : Int) : thenCmp r k ≤ 0 ↔ r < 0 ∨ (r = 0 ∧ k ≤ 0) := by
  unfold thenCmp; split
  · omega
  · split <;> omega

theorem thenCmp_eq_zero (r k : Int) : thenCmp r k = 0 ↔ r = 0 ∧ k = 0 := by
  unfold thenCmp; split
  · omega
  · split <;> omega

theorem thenCmp_of_neg {r : Int} (k : Int) (h : r < 0) : thenCmp r k = -1 := if_pos h
theorem thenCmp_of_pos {r : Int} (k : Int) (h : 0 < r) : thenCmp r k = 1 := by
  unfold thenCmp; rw [if_neg (by omega), if_pos h]
theorem thenCmp_of_zero {r : Int} (k : Int) (h : r = 0) : thenCmp r k = k := by
  unfold thenCmp; rw [if_neg (by omega), if_neg (by omega)]

theorem thenCmp_of_ne {r : Int} (k : Int) (h : r ≠ 0) : thenCmp r k = sgn r := by
  rcases Int.lt_trichotomy r 0 with h' | h' | h'
  · rw [thenCmp_of_neg k h', (sgn_neg_iff r).2 h']
  · exact absurd h' h
  · rw [thenCmp_of_pos k h', (sgn_pos_iff r).2 h']

theorem thenCmp_zero_right (r : Int) : thenCmp r 0 = sgn r := rfl

theorem thenCmp_assoc (r s k : Int) : thenCmp (thenCmp r s) k = thenCmp r (thenCmp s k) := by
  rcases Int.lt_trichotomy r 0 with h | h | h
  · rw [thenCmp_of_neg s h, thenCmp_of_neg _ h]; rfl
  · rw [thenCmp_of_zero s h, thenCmp_of_zero _ h]
  · rw [thenCmp_of_pos s h, thenCmp_of_pos _ h]; rfl

theorem sgn_thenCmp (r : Int) {k : Int} (hk : sgn k = k) : sgn (thenCmp r k) = thenCmp r k := by
  rcases Int.lt_trichotomy r 0 with h | h | h
  · rw [thenCmp_of_neg k h]; rfl
  · rw [thenCmp_of_zero k h, hk]
  · rw [thenCmp_of_pos k h]; rfl

theorem thenCmp_antisymm {r r' k k' : Int} (hr : sgn r = - sgn r') (hk : sgn k = - sgn k') :
    sgn (thenCmp r k) = - sgn (thenCmp r' k') := by
  have fr := antisymm_facts hr
  rcases Int.lt_trichotomy r 0 with h | h | h
  · rw [thenCmp_of_neg k h, thenCmp_of_pos k' (fr.1.mp h)]; rfl
  · rw [thenCmp_of_zero k h, thenCmp_of_zero k' (fr.2.1.mp h)]; exact hk
  · rw [thenCmp_of_pos k h, thenCmp_of_neg k' (fr.2.2.mp h)]; rfl

/-- `x y z`: the first components' results on `(a, b)`, `(b, d)`, `(a, d)`; a tie in `z` must force ties in `x` and `y` -/
theorem thenCmp_le_trans {x y z kx ky kz : Int} (hr : x ≤ 0 → y ≤ 0 → z ≤ 0 ∧ (z = 0 → x = 0 ∧ y = 0))
    (hk : kx ≤ 0 → ky ≤ 0 → kz ≤ 0) (h1 : thenCmp x kx ≤ 0) (h2 : thenCmp y ky ≤ 0) : thenCmp z kz ≤ 0 := by
  rw [thenCmp_le] at h1 h2 ⊢
  obtain ⟨hz, hz0⟩ := hr (by omega) (by omega)
  rcases Int.lt_or_eq_of_le hz with hz | hz
  · exact Or.inl hz
  · obtain ⟨ex, ey⟩ := hz0 hz
    exact Or.inr ⟨hz, hk (by omega) (by omega)⟩

section lex
variable {α : Type} {P : α → Prop} {c : α → α → Int}

theorem lexCmp_nil_nil : lexCmp c ([] : List α) [] = 0 := rfl

theorem lexCmp_cons_cons (x y : α) (xs ys : List α) :
    lexCmp c (x :: xs) (y :: ys) = thenCmp (c x y) (lexCmp c xs ys) := rfl

theorem sgn_lexCmp : ∀ xs ys : List α, sgn (lexCmp c xs ys) = lexCmp c xs ys
  | [], [] | [], _ :: _ | _ :: _, [] => rfl
  | _ :: xs, _ :: ys => sgn_thenCmp _ (sgn_lexCmp xs ys)

theorem lexCmp_antisymm (h : LawfulCmpOn P c) :
    ∀ xs ys : List α, (∀ x ∈ xs, P x) → (∀ y ∈ ys, P y) → sgn (lexCmp c xs ys) = - sgn (lexCmp c ys xs)
  | [], [], _, _ | [], _ :: _, _, _ | _ :: _, [], _, _ => rfl
  | x :: xs, y :: ys, hx, hy => by
    rw [List.forall_mem_cons] at hx hy
    exact thenCmp_antisymm (h.antisymm x y hx.1 hy.1) (lexCmp_antisymm h xs ys hx.2 hy.2)

theorem lexCmp_le_trans (h : LawfulCmpOn P c) :
    ∀ xs ys zs : List α, (∀ x ∈ xs, P x) → (∀ y ∈ ys, P y) → (∀ z ∈ zs, P z) →
      lexCmp c xs ys ≤ 0 → lexCmp c ys zs ≤ 0 → lexCmp c xs zs ≤ 0
  | [], _, [], _, _, _, _, _ => Int.le_refl 0
  | [], _, _ :: _, _, _, _, _, _ => (by decide : (-1 : Int) ≤ 0)
  | _ :: _, [], _, _, _, _, h1, _ => absurd h1 (by decide : ¬ (1 : Int) ≤ 0)
  | _ :: _, _ :: _, [], _, _, _, _, h2 => absurd h2 (by decide : ¬ (1 : Int) ≤ 0)
  | x :: xs, y :: ys, z :: zs, hx, hy, hz, h1, h2 => by
    rw [List.forall_mem_cons] at hx hy hz
    exact thenCmp_le_trans (h.le_trans_tie hx.1 hy.1 hz.1) (lexCmp_le_trans h xs ys zs hx.2 hy.2 hz.2) h1 h2

theorem lexCmp_lawful (h : LawfulCmpOn P c) : LawfulCmpOn (fun xs : List α => ∀ x ∈ xs, P x) (lexCmp c) :=
  ⟨lexCmp_antisymm h, lexCmp_le_trans h⟩

theorem lexCmp_zero_iff {E : α → α → Prop} (hz : ∀ a b, P a → P b → (c a b = 0 ↔ E a b)) :
    ∀ xs ys : List α, (∀ x ∈ xs, P x) → (∀ y ∈ ys, P y) → (lexCmp c xs ys = 0 ↔ Pointwise E xs ys)
  | [], [], _, _ | [], _ :: _, _, _ | _ :: _, [], _, _ => by simp [lexCmp, Pointwise]
  | x :: xs, y :: ys, hx, hy => by
    rw [List.forall_mem_cons] at hx hy
    rw [lexCmp_cons_cons, thenCmp_eq_zero, hz x y hx.1 hy.1, lexCmp_zero_iff hz xs ys hx.2 hy.2]; rfl

theorem pointwise_eq_iff {xs ys : List α} : Pointwise Eq xs ys ↔ xs = ys := by
  induction xs generalizing ys with
  | nil => cases ys <;> simp [Pointwise]
  | cons x xs ih => cases ys <;> simp [Pointwise, ih]

theorem lexCmp_strict {E : α → α → Prop} (h : StrictCmpOn P E c) :
    StrictCmpOn (fun xs : List α => ∀ x ∈ xs, P x) (Pointwise E) (lexCmp c) :=
  { lexCmp_lawful h.toLawfulCmpOn with zero_iff := lexCmp_zero_iff h.zero_iff }

theorem lexCmp_strictCmp (h : StrictCmp c) : StrictCmp (lexCmp c) :=
  (lexCmp_strict h).comap id (fun _ _ _ _ => trivial) (fun _ _ _ _ => rfl) (fun _ _ _ _ => pointwise_eq_iff.symm)

end lex

section pairs
variable {κ ν : Type} {ck : κ → κ → Int} {cv : ν → ν → Int}

theorem pairCmp_eq (p q : κ × ν) : pairCmp ck cv p q = thenCmp (ck p.1 q.1) (thenCmp (cv p.2 q.2) 0) := rfl

theorem pairsCmp_eq_lexCmp : ∀ xs ys : List (κ × ν), pairsCmp ck cv xs ys = lexCmp (pairCmp ck cv) xs ys
  | [], [] | [], _ :: _ | _ :: _, [] => rfl
  | (k, v) :: xs, (k', v') :: ys => by
    rw [lexCmp_cons_cons, pairCmp_eq, thenCmp_assoc, thenCmp_assoc, ← pairsCmp_eq_lexCmp xs ys]; rfl

theorem pairCmp_lawful {Pk : κ → Prop} {Pv : ν → Prop} (hk : LawfulCmpOn Pk ck) (hv : LawfulCmpOn Pv cv) :
    LawfulCmpOn (fun p : κ × ν => Pk p.1 ∧ Pv p.2) (pairCmp ck cv) where
  antisymm _ _ pp pq :=
    thenCmp_antisymm (hk.antisymm _ _ pp.1 pq.1) (thenCmp_antisymm (hv.antisymm _ _ pp.2 pq.2) rfl)
  le_trans _ _ _ pp pq pr :=
    thenCmp_le_trans (hk.le_trans_tie pp.1 pq.1 pr.1)
      (thenCmp_le_trans (hv.le_trans_tie pp.2 pq.2 pr.2) (fun _ _ => Int.le_refl 0))

theorem pairCmp_strict {Pk : κ → Prop} {Pv : ν → Prop} {Ek : κ → κ → Prop} {Ev : ν → ν → Prop}
    (hk : StrictCmpOn Pk Ek ck) (hv : StrictCmpOn Pv Ev cv) :
    StrictCmpOn (fun p : κ × ν => Pk p.1 ∧ Pv p.2) (fun p q => Ek p.1 q.1 ∧ Ev p.2 q.2) (pairCmp ck cv) :=
  { pairCmp_lawful hk.toLawfulCmpOn hv.toLawfulCmpOn with
    zero_iff := fun p q pp pq => by
      rw [pairCmp_eq, thenCmp_eq_zero, thenCmp_eq_zero, hk.zero_iff _ _ pp.1 pq.1, hv.zero_iff _ _ pp.2 pq.2,
        and_iff_left rfl] }

end pairs

theorem intSub_strict : StrictCmp (fun x y : Int => x - y) where
  antisymm x y _ _ := antisymm_of_facts (by omega) (by omega)
  le_trans x y z _ _ _ h1 h2 := by omega
  zero_iff x y _ _ := by omega

theorem sgn_eq_sgn_sub {r x y : Int} (hlt : r < 0 ↔ x < y) (hgt : 0 < r ↔ y < x) : sgn r = sgn (x - y) :=
  sgn_congr (by omega) (by omega)

theorem byteCmp_lt_iff (x y : UInt8) : byteCmp x y < 0 ↔ x < y := by
  unfold byteCmp; rw [UInt8.lt_iff_toNat_lt]; omega

theorem byteCmp_strict : StrictCmp byteCmp :=
  intSub_strict.comap (fun x : UInt8 => (x.toNat : Int)) (fun _ _ => trivial) (fun _ _ _ _ => rfl)
    (fun a b _ _ => by rw [Int.ofNat_inj, UInt8.toNat_inj])

theorem bytesCmp_strict : StrictCmp bytesCmp := lexCmp_strictCmp byteCmp_strict

theorem bytesCmp_lt_iff : ∀ a b : List UInt8, bytesCmp a b < 0 ↔ a < b
  | [], [] | [], _ :: _ | _ :: _, [] => by simp [bytesCmp, lexCmp]
  | x :: xs, y :: ys => by
    have ih : lexCmp byteCmp xs ys < 0 ↔ xs < ys := bytesCmp_lt_iff xs ys
    rw [bytesCmp, lexCmp_cons_cons, thenCmp_neg, List.cons_lt_cons_iff, byteCmp_lt_iff, ih,
      byteCmp_strict.zero_iff x y trivial trivial]

theorem bytesCmp_gt_iff (a b : List UInt8) : 0 < bytesCmp a b ↔ b < a := by
  rw [(bytesCmp_strict.toLawfulCmpOn.flip (a := a) (b := b) trivial trivial).2.2, bytesCmp_lt_iff]

theorem sgn_bytesCmp (a b : List UInt8) : sgn (bytesCmp a b) = bytesCmp a b := sgn_lexCmp a b

set_option linter.unusedSimpArgs false in
theorem intCmp_sign (a b : BitVec 64) :
    (intCmp a b < 0 ↔ a.toInt < b.toInt) ∧ (intCmp a b = 0 ↔ a.toInt = b.toInt) ∧ (0 < intCmp a b ↔ b.toInt < a.toInt) := by
  -- every comparison becomes a fact about `toInt`, every `if` is split, closed `BitVec 32` terms are evaluated, `omega`
  -- finishes: written to survive harmless rewrites of `Int_Cmp` (if-chains, `<=`, `(a>b)-(a<b)`, …)
  simp only [intCmp, CelloGen.Cmp.intCmp, BitVec.slt_eq_decide, BitVec.sle_eq_decide, decide_eq_true_eq, Bool.and_eq_true,
    Bool.or_eq_true, Bool.not_eq_true', decide_eq_false_iff_not, bne_iff_ne, beq_iff_eq, ne_eq, ← BitVec.toInt_inj]
  refine ⟨?_, ?_, ?_⟩ <;> (repeat' split) <;>
    (try simp only [BitVec.reduceSub, BitVec.reduceAdd, BitVec.reduceNeg, BitVec.reduceToInt, true_iff, false_iff,
      iff_true, iff_false, Int.reduceNeg, Int.reduceLT, Int.reduceEq, Int.reduceNegSucc]) <;> omega

theorem intCmp_strict : StrictCmp intCmp :=
  intSub_strict.comap BitVec.toInt (fun _ _ => trivial)
    (fun a b _ _ => sgn_eq_sgn_sub (intCmp_sign a b).1 (intCmp_sign a b).2.2) (fun _ _ _ _ => BitVec.toInt_inj.symm)

end Cello.Cmp
