/-
  Lemmas for C15 (engine `text`): the format-string layer — the scanners of `print_to_with` / `scan_from_with` cut the format
  rendered from a list of items back into exactly those items (`segment_render`, `itemsOf_render`), so `printFmt` / `scanFmt` on it
  are `printItems` / `scanItems`, whatever the sink, the input and the position: this layer does not depend on the contract of the
  round trip.
-/
import Cello.Text

namespace Cello.Text

theorem spanUntil_run (p : Nat → Bool) (t r : List Nat) (ht : ∀ b ∈ t, p b = false) (hr : ∀ b r', r = b :: r' → p b = true) :
    spanUntil p (t ++ r) = (t, r) := by
  induction t with
  | nil =>
    cases r with
    | nil => rfl
    | cons b r' => simp [spanUntil, hr b r' rfl]
  | cons a t ih =>
    have ha := ht a List.mem_cons_self
    simp only [List.cons_append, spanUntil, ha, Bool.false_eq_true, if_false]
    rw [ih (fun b hb => ht b (List.mem_cons_of_mem _ hb))]

/-- the modifier characters and the conversion character of a specification item -/
def Item.parts : Item → Option (List Nat × Nat)
  | .shw _ => some ([], 36)
  | .ispec m c _ => some (m.text, c.byte)
  | .fspec l c _ => some ((if l then [108] else []), c.byte)
  | .lit _ => none
  | .pct => none

/-- the characters that may end a specification of the model / that may stand before the conversion character -/
def convChars : List Nat := [36] ++ IConv.all.map IConv.byte ++ FConv.all.map FConv.byte
def modChars : List Nat := [104, 108, 106, 122, 116, 113]

theorem parts_spec (it : Item) (mods : List Nat) (cb : Nat) (h : it.parts = some (mods, cb)) :
    it.fmt = 37 :: (mods ++ [cb]) ∧ it.seg = .spec it.fmt ∧ (∀ b ∈ mods, b ∈ modChars) ∧ cb ∈ convChars := by
  cases it with
  | shw v => cases h; exact ⟨rfl, rfl, nofun, by decide⟩
  | ispec m c n => cases h; exact ⟨rfl, rfl, by cases m <;> decide, by cases c <;> decide⟩
  | fspec l c b => cases h; exact ⟨rfl, rfl, by cases l <;> decide, by cases c <;> decide⟩
  | lit t => cases h
  | pct => cases h

theorem parts_none (it : Item) (h : it.parts = none) : (∃ t, it = .lit t) ∨ it = .pct := by
  cases it <;> simp [Item.parts] at h ⊢

theorem head_fmt_nonlit (it : Item) (h : ∀ t, it ≠ .lit t) : ∃ r, it.fmt = 37 :: r := by
  cases it with
  | lit t => exact absurd rfl (h t)
  | shw v => exact ⟨_, rfl⟩
  | ispec m c n => exact ⟨_, rfl⟩
  | fspec l c b => exact ⟨_, rfl⟩
  | pct => exact ⟨_, rfl⟩

structure ConvFacts (conv : List Nat) : Prop where
  ends : ∀ b ∈ convChars, conv.contains b = true
  mods : ∀ b ∈ modChars, conv.contains b = false
  pct : conv.contains 37 = false

theorem convFacts_of_ok (conv : List Nat) (h : convOK conv = true) : ConvFacts conv := by
  simp only [convOK, Bool.and_eq_true, List.all_eq_true, Bool.not_eq_true'] at h
  refine ⟨fun b hb => h.1 b hb, fun b hb => h.2 b (by simp only [modChars] at hb; simp only [List.mem_cons]; right; simpa using hb), ?_⟩
  exact h.2 37 (by simp)

theorem spanUntil_spec (conv : List Nat) (C : ConvFacts conv) (mods : List Nat) (cb : Nat) (hm : ∀ b ∈ mods, b ∈ modChars)
    (hc : cb ∈ convChars) (rest : List Nat) :
    spanUntil (fun b => conv.contains b) (mods ++ cb :: rest) = (mods, cb :: rest) :=
  spanUntil_run _ mods (cb :: rest) (fun b hb => C.mods b (hm b hb)) (fun b r' h => by cases h; exact C.ends _ hc)

theorem segmentF_spec (conv : List Nat) (fuel a : Nat) (t : List Nat) (ha : a ≠ 37) :
    segmentF conv (fuel + 1) (37 :: a :: t) =
      match (spanUntil (fun b => conv.contains b) (a :: t)).2 with
      | cv :: r'' => .spec (37 :: (spanUntil (fun b => conv.contains b) (a :: t)).1 ++ [cv]) :: segmentF conv fuel r''
      | [] => [.open_ (37 :: (spanUntil (fun b => conv.contains b) (a :: t)).1)] := by
  simp only [segmentF, ne_eq, not_true_eq_false, if_false]
  split
  · rename_i heq; simp only [List.cons.injEq] at heq; exact absurd heq.1 ha
  · rfl

theorem segmentF_render (conv : List Nat) (C : ConvFacts conv) (its : List Item) : ∀ fuel, fmtOK its = true →
    (its.flatMap Item.fmt).length < fuel → segmentF conv fuel (its.flatMap Item.fmt) = its.map Item.seg := by
  induction its with
  | nil => intro fuel _ _; cases fuel <;> simp [segmentF]
  | cons it its ih =>
    intro fuel hok hlen
    cases fuel with
    | zero => omega
    | succ fuel =>
      simp only [List.flatMap_cons, List.length_append] at hlen
      cases hparts : it.parts with
      | none =>
        rcases parts_none it hparts with ⟨t, rfl⟩ | rfl
        · simp only [fmtOK, Bool.and_eq_true, Bool.not_eq_true', List.isEmpty_eq_false_iff, List.all_eq_true, bne_iff_ne, ne_eq] at hok
          obtain ⟨⟨⟨hne, hno⟩, hadj⟩, hrest⟩ := hok
          obtain ⟨c, t', rfl⟩ := List.exists_cons_of_ne_nil hne
          have hc : c ≠ 37 := hno c List.mem_cons_self
          have hspan : spanUntil (· == 37) ((c :: t') ++ its.flatMap Item.fmt) = (c :: t', its.flatMap Item.fmt) := by
            apply spanUntil_run
            · intro b hb; simpa using hno b hb
            · intro b r' hbr
              cases its with
              | nil => simp at hbr
              | cons it2 its2 =>
                have hnl : ∀ t, it2 ≠ .lit t := by
                  intro t ht; subst ht; simp at hadj
                obtain ⟨r, hr⟩ := head_fmt_nonlit it2 hnl
                simp only [List.flatMap_cons, hr, List.cons_append, List.cons.injEq] at hbr
                simp [← hbr.1]
          simp only [List.flatMap_cons, Item.fmt, List.cons_append, segmentF, ne_eq, hc, not_false_eq_true, if_true, List.map_cons, Item.seg]
          simp only [List.cons_append] at hspan
          rw [hspan]
          simp only [Item.fmt, List.length_cons] at hlen
          rw [ih fuel hrest (by omega)]
        · simp only [fmtOK] at hok
          simp only [List.flatMap_cons, Item.fmt, List.cons_append, List.nil_append, segmentF, ne_eq, not_true_eq_false, if_false, List.map_cons, Item.seg]
          simp only [Item.fmt, List.length_cons, List.length_nil] at hlen
          rw [ih fuel hok (by omega)]
      | some mc =>
        obtain ⟨mods, cb⟩ := mc
        obtain ⟨hfmt, hseg, hm, hcb⟩ := parts_spec it mods cb hparts
        have hok' : fmtOK its = true := by
          cases it <;> first | (simp [Item.parts] at hparts; done) | (simpa [fmtOK] using hok)
        rw [hfmt] at hlen
        simp only [List.length_cons, List.length_append, List.length_nil] at hlen
        simp only [List.flatMap_cons, List.map_cons, hseg, hfmt, List.cons_append, List.append_assoc, List.nil_append]
        -- the byte after `%` is not `%`: a modifier or a conversion character
        have hspan := spanUntil_spec conv C mods cb hm hcb (its.flatMap Item.fmt)
        have hhead : ∃ a t, mods ++ cb :: its.flatMap Item.fmt = a :: t ∧ a ≠ 37 := by
          cases mods with
          | nil =>
            refine ⟨cb, _, rfl, ?_⟩
            intro h; have := C.ends cb hcb; rw [h, C.pct] at this; exact absurd this (by decide)
          | cons a t =>
            refine ⟨a, _, rfl, ?_⟩
            intro h
            have := hm a List.mem_cons_self
            rw [h] at this; simp [modChars] at this
        obtain ⟨a, t, hat, ha⟩ := hhead
        rw [hat] at hspan ⊢
        rw [segmentF_spec conv fuel a t ha, hspan]
        simp only
        rw [ih fuel hok' (by omega)]
        simp

theorem segment_render (conv : List Nat) (C : ConvFacts conv) (its : List Item) (hok : fmtOK its = true) :
    segment conv (its.flatMap Item.fmt) = its.map Item.seg :=
  segmentF_render conv C its _ hok (by omega)

theorem lookup_ispec (m : IMod) (c : IConv) : allISpecs.lookup (ispecFmt m c) = some (m, c) := by
  cases m <;> cases c <;> decide

theorem lookup_fspec (l : Bool) (c : FConv) : allFSpecs.lookup (fspecFmt l c) = some (l, c) := by
  cases l <;> cases c <;> decide

theorem ispecFmt_ne_dollar (m : IMod) (c : IConv) : ispecFmt m c ≠ [37, 36] := by
  cases m <;> cases c <;> decide

theorem fspecFmt_ne_dollar (l : Bool) (c : FConv) : fspecFmt l c ≠ [37, 36] := by
  cases l <;> cases c <;> decide

theorem itemsOf_render (its : List Item) : itemsOf (its.map Item.seg) (its.filterMap Item.val?) = some its := by
  induction its with
  | nil => rfl
  | cons it its ih =>
    cases it with
    | lit t =>
      have : (Item.lit t :: its).filterMap Item.val? = its.filterMap Item.val? := rfl
      simp [Item.seg, itemsOf, this, ih]
    | pct =>
      have : (Item.pct :: its).filterMap Item.val? = its.filterMap Item.val? := rfl
      simp [Item.seg, itemsOf, this, ih]
    | shw v => simp [Item.seg, Item.val?, itemsOf, ih, specItem, Item.fmt]
    | ispec m c n => simp [Item.seg, Item.val?, itemsOf, ih, specItem, Item.fmt, lookup_ispec, ispecFmt_ne_dollar]
    | fspec l c b => simp [Item.seg, Item.val?, itemsOf, ih, specItem, Item.fmt, lookup_fspec, fspecFmt_ne_dollar]

def sameKind : Val → Val → Bool
  | .str _, .str _ => true
  | .int _, .int _ => true
  | .flt _, .flt _ => true
  | _, _ => false

theorem specItem_shape (spec : List Nat) (v w : Val) (h : sameKind v w = true) :
    (specItem spec v).map Item.shape = (specItem spec w).map Item.shape := by
  cases v <;> cases w <;> simp [sameKind] at h <;> simp only [specItem] <;> split <;>
    simp [Item.shape, Option.map_map, Function.comp_def]

def sameKinds : List Val → List Val → Bool
  | [], [] => true
  | v :: vs, w :: ws => sameKind v w && sameKinds vs ws
  | _, _ => false

theorem itemsOf_shape (ss : List Seg) : ∀ (vs ws : List Val), sameKinds vs ws = true →
    (itemsOf ss vs).map (fun its => its.map Item.shape) = (itemsOf ss ws).map (fun its => its.map Item.shape) := by
  induction ss with
  | nil => intro vs ws _; rfl
  | cons s ss ih =>
    intro vs ws h
    cases s with
    | lit t =>
      have := ih vs ws h
      simp only [itemsOf, Option.map_map]
      cases h1 : itemsOf ss vs <;> cases h2 : itemsOf ss ws <;> simp_all
    | pct =>
      have := ih vs ws h
      simp only [itemsOf, Option.map_map]
      cases h1 : itemsOf ss vs <;> cases h2 : itemsOf ss ws <;> simp_all
    | open_ t => simp [itemsOf]
    | spec t =>
      cases vs with
      | nil => cases ws with
        | nil => simp [itemsOf]
        | cons w ws' => simp [sameKinds] at h
      | cons v vs' => cases ws with
        | nil => simp [sameKinds] at h
        | cons w ws' =>
          simp only [sameKinds, Bool.and_eq_true] at h
          have h1 := specItem_shape t v w h.1
          have h2 := ih vs' ws' h.2
          simp only [itemsOf]
          cases a1 : specItem t v <;> cases a2 : specItem t w <;> cases b1 : itemsOf ss vs' <;> cases b2 : itemsOf ss ws' <;>
            simp_all

theorem printFmt_render (c : Cfg) (C : ConvFacts c.printConv) (its : List Item) (hf : fmtOK its = true) (o : Sink) (pos : Nat) :
    printFmt c o pos (its.flatMap Item.fmt) (its.filterMap Item.val?) = some (printItems c o pos its) := by
  simp only [printFmt, segment_render _ C its hf, itemsOf_render, Option.map_some]

theorem scanFmt_render (c : Cfg) (C : ConvFacts c.scanConv) (its : List Item) (hf : fmtOK its = true)
    (targets : List Val) (ht : sameKinds (its.filterMap Item.val?) targets = true) (i : Input) (pos : Nat) :
    scanFmt c i pos (its.flatMap Item.fmt) targets = some (scanItems c i pos (its.map Item.shape)) := by
  -- the items the targets make of these segments differ from `its` in their values only
  have h := itemsOf_shape (its.map Item.seg) _ _ ht
  simp only [itemsOf_render, Option.map_some] at h
  simp only [scanFmt, segment_render _ C its hf]
  cases hi : itemsOf (its.map Item.seg) targets with
  | none => rw [hi] at h; cases h
  | some its' => rw [hi] at h; simp only [Option.map_some, Option.some.injEq] at h ⊢; rw [h]

end Cello.Text
