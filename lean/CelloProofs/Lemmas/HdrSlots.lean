/-
  Lemmas for C19, the slot level of Array (Cello/HdrSlots.lean): every size-changing operation, run as the event
  lists the translator reads from src/Array.c, keeps every element slot under the header `Array_Alloc` writes
  (`runOp_good`).  `ArraySrc` = what the proofs need from the generated tables (`C19_array_programs_current` in
  Props/C19.lean proves it for the source in /repo).
-/
import Cello.HdrSlots
open Cello.Hdr CelloGen.Hdr
namespace Cello.HdrSlots

/-- the event lists the proofs are written for, one per function (or loop part) of src/Array.c; `ArraySrc.progs` says the
    generated table `arrayProgs` is this one -/
def expectedProgs : List (String × List AEv) := [
  ("Array_Push", [.inc, .more, .alloc .last, .assign .last]),
  ("Array_Push_At", [.idx, .norm true, .chk .ins "IndexOutOfBoundsError", .inc, .more, .up, .alloc .i, .assign .i]),
  ("Array_Pop", [.chk .empty "IndexOutOfBoundsError", .destruct .last, .dec, .less]),
  ("Array_Pop_At", [.idx, .norm false, .chk .rem "IndexOutOfBoundsError", .destruct .i, .down, .dec, .less]),
  ("Array_Concat.pre", [.zeroCounter, .olen, .add, .more]),
  ("Array_Concat.body", [.alloc .tail, .assign .tail, .next]),
  ("Array_Concat.post", []),
  ("Array_Resize.pre", [.clearIfZero]),
  ("Array_Resize.body", [.destruct .last, .dec]),
  ("Array_Resize.post", [.setSlots, .realloc, .oom]),
  ("Array_New.fill", [.alloc .i, .assign .i]),
  ("Array_Assign.fill", [.alloc .i, .assign .i])]

structure ArraySrc : Prop where
  progs : arrayProgs = expectedProgs
  alloc : arrayAllocEvents = [.zeroSlot, .headAtSlot, .init]
  more : arrayReserveMore = (.gtSlots, .itemsPlusHalf)
  less : arrayReserveLess = (.slotsGtItemsPlusHalf, .items)

/-- the first `t` slots lie inside the storage and hold the header `g`; `Good`: this holds of the `nitems` element slots.
    Slots above may hold anything (never-used storage, stale headers, duplicates left by `memmove`). -/
def Pref (g : Header) (a : Arr) (t : Nat) : Prop := t ≤ a.nslots ∧ ∀ j, j < t → a.slot j = .hdr g
def Good (g : Header) (a : Arr) : Prop := Pref g a a.nitems

/-- the program the source has under `name`, read off `expectedProgs`: at a call `hl` is `rfl`, which evaluates the lookup
    and thereby fixes `p` -/
theorem prog_eq (h : ArraySrc) (name : String) {p : List AEv} (hl : expectedProgs.lookup name = some p) : prog name = p := by
  rw [prog, h.progs, hl]; rfl

section unconditional
variable (g : Header) (magic : Nat) (m : M) (es : List AEv)
theorem run_idx : runEvs g magic (.idx :: es) m = runEvs g magic es { m with i := m.key } := rfl
theorem run_zeroCounter : runEvs g magic (.zeroCounter :: es) m = runEvs g magic es { m with i := 0 } := rfl
theorem run_olen : runEvs g magic (.olen :: es) m = runEvs g magic es m := rfl
theorem run_norm (p : Bool) : runEvs g magic (.norm p :: es) m =
    runEvs g magic es { m with i := if m.i < 0 then ((m.a.nitems : Int) + (if p then 1 else 0)) + m.i else m.i } := rfl
theorem run_inc : runEvs g magic (.inc :: es) m = runEvs g magic es { m with a := { m.a with nitems := m.a.nitems + 1 } } := rfl
theorem run_add : runEvs g magic (.add :: es) m = runEvs g magic es { m with a := { m.a with nitems := m.a.nitems + m.olen } } := rfl
theorem run_next : runEvs g magic (.next :: es) m = runEvs g magic es { m with i := m.i + 1 } := rfl
theorem run_more : runEvs g magic (.more :: es) m = runEvs g magic es { m with a := m.a.reserve arrayReserveMore } := rfl
theorem run_less : runEvs g magic (.less :: es) m = runEvs g magic es { m with a := m.a.reserve arrayReserveLess } := rfl
theorem run_setSlots : runEvs g magic (.setSlots :: es) m = runEvs g magic es { m with want := some m.n } := rfl
theorem run_oom : runEvs g magic (.oom :: es) m = runEvs g magic es m := rfl
theorem run_nil : runEvs g magic [] m = .cont m := rfl
end unconditional

variable {g : Header} {magic : Nat}

theorem valid_hdr (hg : g.magic = magic) : (Slot.hdr g).valid magic = true := by
  simp [Slot.valid, hg]

theorem allocSlot_src (h : ArraySrc) (g : Header) (s : Slot) : allocSlot g arrayAllocEvents s = .hdr g := by
  rw [h.alloc]; simp [allocSlot]

theorem pref_realloc {a : Arr} {t : Nat} (hp : Pref g a t) {w : Nat} (htw : t ≤ w) : Pref g (a.realloc w) t := by
  refine ⟨htw, fun j hj => ?_⟩
  have : j < a.nslots ∧ j < w := ⟨Nat.lt_of_lt_of_le hj hp.1, Nat.lt_of_lt_of_le hj htw⟩
  simp only [Arr.realloc, this, and_self, if_true]; exact hp.2 j hj

theorem more_spec (h : ArraySrc) {a : Arr} {t : Nat} (hp : Pref g a t) :
    Pref g (a.reserve arrayReserveMore) t ∧ (a.reserve arrayReserveMore).nitems = a.nitems ∧
    a.nitems ≤ (a.reserve arrayReserveMore).nslots := by
  rw [h.more]
  unfold Arr.reserve
  by_cases hc : a.nitems > a.nslots
  · simp only [polCond, hc, decide_true, if_true, polSize]
    exact ⟨pref_realloc hp (by have := hp.1; omega), rfl, Nat.le_add_right _ _⟩
  · simp only [polCond, hc, decide_false, Bool.false_eq_true, if_false]
    exact ⟨hp, trivial, by omega⟩

theorem less_spec (h : ArraySrc) {a : Arr} {t : Nat} (hp : Pref g a t) (ht : t ≤ a.nitems) :
    Pref g (a.reserve arrayReserveLess) t ∧ (a.reserve arrayReserveLess).nitems = a.nitems := by
  rw [h.less]
  unfold Arr.reserve
  by_cases hc : a.nslots > a.nitems + a.nitems / 2
  · simp only [polCond, hc, decide_true, if_true, polSize]
    exact ⟨pref_realloc hp ht, rfl⟩
  · simp only [polCond, hc, decide_false, Bool.false_eq_true, if_false]
    exact ⟨hp, trivial⟩

theorem evalIdx_set (m : M) (a' : Arr) (hn : a'.nitems = m.a.nitems) (ix : AIdx) : evalIdx { m with a := a' } ix = evalIdx m ix := by
  cases ix <;> simp [evalIdx, hn]

/-- `Array_Alloc(a, k); assign(Array_Item(a, k), ..)` on a slot inside the storage -/
theorem alloc_assign (h : ArraySrc) (hg : g.magic = magic) {m : M} {ix : AIdx} {k : Nat}
    (hk : evalIdx m ix = (k : Int)) (hks : k < m.a.nslots) (rest : List AEv) :
    runEvs g magic (.alloc ix :: .assign ix :: rest) m = runEvs g magic rest { m with a := m.a.set k (.hdr g) } := by
  have h1 : stepEv g magic m (.alloc ix) = .cont { m with a := m.a.set k (.hdr g) } := by
    simp only [stepEv, hk, allocSlot_src h]
    have : ¬ ((k : Int) < 0 ∨ (k : Int) ≥ (m.a.nslots : Int)) := by omega
    rw [if_neg this]; simp
  have h2 : stepEv g magic { m with a := m.a.set k (.hdr g) } (.assign ix) = .cont { m with a := m.a.set k (.hdr g) } := by
    have he : evalIdx { m with a := m.a.set k (.hdr g) } ix = (k : Int) := by rw [evalIdx_set m (m.a.set k (.hdr g)) rfl]; exact hk
    simp only [stepEv, he]
    have : ¬ ((k : Int) < 0 ∨ (k : Int) ≥ ((m.a.set k (.hdr g)).nslots : Int)) := by simp [Arr.set]; omega
    rw [if_neg this]; simp [Arr.set, valid_hdr hg]
  simp only [runEvs, h1, h2]

theorem destruct_ok (hg : g.magic = magic) {m : M} {ix : AIdx} {k : Nat}
    (hk : evalIdx m ix = (k : Int)) (hks : k < m.a.nslots) (hv : m.a.slot k = .hdr g) (rest : List AEv) :
    runEvs g magic (.destruct ix :: rest) m = runEvs g magic rest m := by
  have h1 : stepEv g magic m (.destruct ix) = .cont m := by
    simp only [stepEv, hk]
    have : ¬ ((k : Int) < 0 ∨ (k : Int) ≥ (m.a.nslots : Int)) := by omega
    rw [if_neg this]; simp [hv, valid_hdr hg]
  simp only [runEvs, h1]

theorem pref_set {a : Arr} {t : Nat} (hp : Pref g a t) (hts : t < a.nslots) : Pref g (a.set t (.hdr g)) (t + 1) := by
  refine ⟨by simp [Arr.set]; omega, fun j hj => ?_⟩
  by_cases hjt : j = t
  · simp [Arr.set, hjt]
  · have : j < t := by omega
    simp [Arr.set, hjt, hp.2 j this]

/-- what every `_spec` below says of a call on `a` that returned `r`; `n'` is the number of items a normal end leaves -/
def OpOK (g : Header) (a : Arr) (r : Arr × Res) (n' : Nat) : Prop :=
  Good g r.1 ∧ ((r.2 = .ok ∧ r.1.nitems = n') ∨ (∃ e, r.2 = .raised e ∧ r.1 = a))

theorem opOK_done {a : Arr} {m : M} {n' : Nat} (hn : m.a.nitems = n') (hp : Pref g m.a n') : OpOK g a (finish (.cont m)) n' := by
  subst hn; exact ⟨hp, Or.inl ⟨rfl, rfl⟩⟩

theorem opOK_refused {a : Arr} (ha : Good g a) (e : String) (n' : Nat) : OpOK g a (finish (.stop a (.raised e))) n' :=
  ⟨ha, Or.inr ⟨e, rfl, rfl⟩⟩

theorem run_chk_pass {m : M} {c : AChk} (hc : chkFails c m = false) (exc : String) (es : List AEv) :
    runEvs g magic (.chk c exc :: es) m = runEvs g magic es m := by
  simp [runEvs, stepEv, hc]

theorem run_chk_fail {m : M} {c : AChk} (hc : chkFails c m = true) (exc : String) (es : List AEv) :
    runEvs g magic (.chk c exc :: es) m = .stop m.a (.raised exc) := by
  simp [runEvs, stepEv, hc]

theorem run_dec {m : M} (hn : m.a.nitems ≠ 0) (es : List AEv) :
    runEvs g magic (.dec :: es) m = runEvs g magic es { m with a := { m.a with nitems := m.a.nitems - 1 } } := by
  simp [runEvs, stepEv, hn]

/-- Rules on the goal for the events a proof does not compute.  The check stands in front of every change (`hm`), so a refusal
    hands back `a`.  Implicit arguments come first: `refine` then reads `m` off the goal before it elaborates `ha` / `hp`. -/
theorem opOK_chk {a : Arr} {m : M} {c : AChk} {exc : String} {es : List AEv} {n' : Nat} (ha : Good g a) (hm : m.a = a)
    (hk : chkFails c m = false → OpOK g a (finish (runEvs g magic es m)) n') :
    OpOK g a (finish (runEvs g magic (.chk c exc :: es) m)) n' := by
  cases hc : chkFails c m with
  | true => rw [run_chk_fail hc, hm]; exact opOK_refused ha _ _
  | false => rw [run_chk_pass hc]; exact hk hc

theorem opOK_more {a : Arr} {m : M} {t : Nat} {es : List AEv} {n' : Nat} (h : ArraySrc) (hp : Pref g m.a t)
    (hk : ∀ a2 : Arr, Pref g a2 t → a2.nitems = m.a.nitems → m.a.nitems ≤ a2.nslots →
      OpOK g a (finish (runEvs g magic es { m with a := a2 })) n') :
    OpOK g a (finish (runEvs g magic (.more :: es) m)) n' := by
  obtain ⟨h1, h2, h3⟩ := more_spec h hp
  exact hk _ h1 h2 h3

theorem opOK_less {a : Arr} {m : M} (h : ArraySrc) (hp : Good g m.a) :
    OpOK g a (finish (runEvs g magic [.less] m)) m.a.nitems := by
  obtain ⟨hl1, hl2⟩ := less_spec h hp (Nat.le_refl _)
  exact opOK_done hl2 hl1

theorem push_spec (h : ArraySrc) (hg : g.magic = magic) {a : Arr} (ha : Good g a) :
    OpOK g a (runOp g magic a .push) (a.nitems + 1) := by
  simp only [runOp, prog_eq h "Array_Push" rfl, M.start]
  rw [run_inc]
  refine opOK_more h ha fun a2 hm1 hm2 hm3 => ?_
  simp only at hm2 hm3 ⊢
  rw [alloc_assign h hg (k := a.nitems) (by simp [evalIdx, hm2]) (by simp only []; omega)]
  exact opOK_done hm2 (pref_set hm1 (by simp only []; omega))

/-- the side conditions of the two `memmove`s of `count = (nitems - 1) - i` slots at index `i`, for `i < nitems ≤ nslots` -/
theorem move_args {m : M} {i : Nat} (hi : m.i = (i : Int)) (hle : i + 1 ≤ m.a.nitems) (hs : m.a.nitems ≤ m.a.nslots) :
    ¬ (m.i < 0 ∨ ((m.a.nitems : Int) - 1) - m.i < 0 ∨ m.i + 1 + (((m.a.nitems : Int) - 1) - m.i) > (m.a.nslots : Int)) ∧
    (((m.a.nitems : Int) - 1) - m.i).toNat = m.a.nitems - 1 - i ∧ m.i.toNat = i := by
  -- `i + 1 ≤ nitems`: the count is the cast of a natural number, so `toNat` cuts nothing off
  have hcnt : ((m.a.nitems : Int) - 1) - m.i = ((m.a.nitems - 1 - i : Nat) : Int) := by omega
  exact ⟨by omega, by rw [hcnt, Int.toNat_natCast], by rw [hi, Int.toNat_natCast]⟩

theorem run_up {m : M} {i : Nat} (hi : m.i = (i : Int)) (hle : i + 1 ≤ m.a.nitems) (hs : m.a.nitems ≤ m.a.nslots)
    (es : List AEv) :
    runEvs g magic (.up :: es) m = runEvs g magic es
      { m with a := { m.a with slot := fun j => if i + 1 ≤ j ∧ j < i + 1 + (m.a.nitems - 1 - i) then m.a.slot (j - 1) else m.a.slot j } } := by
  obtain ⟨hc, hcnt, hin⟩ := move_args hi hle hs
  simp only [runEvs, stepEv, if_neg hc, hcnt, hin]

theorem run_down {m : M} {i : Nat} (hi : m.i = (i : Int)) (hle : i + 1 ≤ m.a.nitems) (hs : m.a.nitems ≤ m.a.nslots)
    (es : List AEv) :
    runEvs g magic (.down :: es) m = runEvs g magic es
      { m with a := { m.a with slot := fun j => if i ≤ j ∧ j < i + (m.a.nitems - 1 - i) then m.a.slot (j + 1) else m.a.slot j } } := by
  obtain ⟨hc, hcnt, hin⟩ := move_args hi hle hs
  simp only [runEvs, stepEv, if_neg hc, hcnt, hin]

/-- `destruct(Array_Item(a, nitems-1)); a->nitems--` on a storage whose elements all carry `g` -/
theorem run_drop_last (hg : g.magic = magic) {m : M} (hpos : 0 < m.a.nitems) (hgood : Good g m.a) (es : List AEv) :
    runEvs g magic (.destruct .last :: .dec :: es) m = runEvs g magic es { m with a := { m.a with nitems := m.a.nitems - 1 } } := by
  have hns := hgood.1
  rw [destruct_ok hg (ix := .last) (k := m.a.nitems - 1) (by simp only [evalIdx]; omega) (by omega) (hgood.2 _ (by omega)),
    run_dec (by omega)]

theorem good_drop_last {a : Arr} (ha : Good g a) : Good g { a with nitems := a.nitems - 1 } :=
  ⟨Nat.le_trans (Nat.sub_le _ _) ha.1, fun j hj => ha.2 j (Nat.lt_of_lt_of_le hj (Nat.sub_le _ _))⟩

/-- a slot inserted at `i`: the tail moved up by one, the slot at `i` written afresh -/
theorem pref_insert {a : Arr} {i : Nat} (hi : i + 1 ≤ a.nitems) (hs : a.nitems ≤ a.nslots) (hp : Pref g a (a.nitems - 1)) :
    Pref g (Arr.set { a with slot := fun j => if i + 1 ≤ j ∧ j < i + 1 + (a.nitems - 1 - i) then a.slot (j - 1) else a.slot j }
      i (.hdr g)) a.nitems := by
  refine ⟨hs, fun j hj => ?_⟩
  simp only [Arr.set]
  by_cases hji : j = i
  · rw [if_pos hji]
  · rw [if_neg hji]
    split
    · exact hp.2 (j - 1) (by omega)
    · exact hp.2 j (by omega)

/-- the slot at `i` removed: the tail moved down by one -/
theorem pref_remove {a : Arr} {i : Nat} (hp : Pref g a a.nitems) :
    Pref g { nitems := a.nitems - 1, nslots := a.nslots,
             slot := fun j => if i ≤ j ∧ j < i + (a.nitems - 1 - i) then a.slot (j + 1) else a.slot j } (a.nitems - 1) := by
  refine ⟨by have := hp.1; simp only []; omega, fun j hj => ?_⟩
  simp only []
  split
  · exact hp.2 _ (by omega)
  · exact hp.2 _ (by omega)

theorem push_at_spec (h : ArraySrc) (hg : g.magic = magic) {a : Arr} (ha : Good g a) (key : Int) :
    OpOK g a (runOp g magic a (.pushAt key)) (a.nitems + 1) := by
  simp only [runOp, prog_eq h "Array_Push_At" rfl, M.start]
  rw [run_idx, run_norm]
  simp only [if_true]
  refine opOK_chk ha rfl fun hc => ?_
  simp only [chkFails, decide_eq_false_iff_not, not_or, Int.not_lt] at hc
  obtain ⟨i, hi⟩ : ∃ i : Nat, (if key < 0 then ((a.nitems : Int) + 1) + key else key) = (i : Int) := ⟨_, (Int.toNat_of_nonneg hc.1).symm⟩
  rw [hi] at hc ⊢
  have hin : i ≤ a.nitems := by omega
  rw [run_inc]
  refine opOK_more h ha fun a2 hm1 hm2 hm3 => ?_
  simp only at hm2 hm3 ⊢
  rw [run_up (i := i) rfl (by simp only [hm2]; omega) (by simp only [hm2]; omega)]
  rw [alloc_assign h hg (k := i) (by simp [evalIdx]) (by simp only []; omega)]
  exact opOK_done hm2 (hm2 ▸ pref_insert (by simp only []; omega) (by simp only []; omega) (by rw [hm2]; exact hm1))

theorem pop_spec (h : ArraySrc) (hg : g.magic = magic) {a : Arr} (ha : Good g a) :
    OpOK g a (runOp g magic a .pop) (a.nitems - 1) := by
  simp only [runOp, prog_eq h "Array_Pop" rfl, M.start]
  refine opOK_chk ha rfl fun hc => ?_
  simp only [chkFails, beq_eq_false_iff_ne, ne_eq] at hc
  rw [run_drop_last hg (Nat.pos_of_ne_zero hc) ha]
  exact opOK_less h (good_drop_last ha)

theorem pop_at_spec (h : ArraySrc) (hg : g.magic = magic) {a : Arr} (ha : Good g a) (key : Int) :
    OpOK g a (runOp g magic a (.popAt key)) (a.nitems - 1) := by
  simp only [runOp, prog_eq h "Array_Pop_At" rfl, M.start]
  rw [run_idx, run_norm]
  simp only [Bool.false_eq_true, if_false, Int.add_zero]
  refine opOK_chk ha rfl fun hc => ?_
  simp only [chkFails, decide_eq_false_iff_not, not_or, Int.not_lt, ge_iff_le, Int.not_le] at hc
  obtain ⟨i, hi⟩ : ∃ i : Nat, (if key < 0 then (a.nitems : Int) + key else key) = (i : Int) := ⟨_, (Int.toNat_of_nonneg hc.1).symm⟩
  rw [hi] at hc ⊢
  have hin : i < a.nitems := by omega
  have hns := ha.1
  rw [destruct_ok hg (ix := .i) (k := i) (by simp [evalIdx]) (by simp only []; omega) (ha.2 _ hin),
    run_down (i := i) rfl (by simp only []; omega) (by simp only []; omega), run_dec (by simp only []; omega)]
  exact opOK_less h (pref_remove ha)

/-- `k` rounds of `Array_Alloc(a, base + i); assign(..); i++`: the prefix under `g` grows by `k` slots -/
theorem fill_loop (h : ArraySrc) (hg : g.magic = magic) (ix : AIdx) (base N olen : Nat)
    (hix : ∀ m : M, m.a.nitems = N → m.olen = olen → evalIdx m ix = (base : Int) + m.i) :
    ∀ (k : Nat) (m : M) (c : Nat), m.i = (c : Int) → m.olen = olen → m.a.nitems = N → base + c + k ≤ m.a.nslots →
      Pref g m.a (base + c) →
      ∃ m', repeatBody g magic [.alloc ix, .assign ix, .next] k m = .cont m' ∧ m'.a.nitems = N ∧ Pref g m'.a (base + c + k) := by
  intro k
  induction k with
  | zero => intro m c _ _ hN _ hp; exact ⟨m, rfl, hN, hp⟩
  | succ k ih =>
    intro m c hi ho hN hs hp
    have he : evalIdx m ix = ((base + c : Nat) : Int) := by rw [hix m hN ho, hi, Int.natCast_add]
    have hrun : runEvs g magic [.alloc ix, .assign ix, .next] m =
        .cont { m with a := m.a.set (base + c) (.hdr g), i := m.i + 1 } := by
      rw [alloc_assign h hg he (by omega), run_next, run_nil]
    obtain ⟨m', h1, h2, h4⟩ := ih { m with a := m.a.set (base + c) (.hdr g), i := m.i + 1 } (c + 1)
      (by simp only [hi, Int.natCast_succ]) ho (by simpa [Arr.set] using hN) (by simp only [Arr.set]; omega)
      (by simpa [Nat.add_assoc] using pref_set hp (by omega))
    refine ⟨m', ?_, h2, by simpa [Nat.add_assoc, Nat.add_comm 1 k] using h4⟩
    simp only [repeatBody, hrun]; exact h1

theorem concat_spec (h : ArraySrc) (hg : g.magic = magic) {a : Arr} (ha : Good g a) (olen : Nat) :
    OpOK g a (runOp g magic a (.concat olen)) (a.nitems + olen) := by
  simp only [runOp, prog_eq h "Array_Concat.pre" rfl, prog_eq h "Array_Concat.body" rfl, prog_eq h "Array_Concat.post" rfl,
    M.start]
  rw [run_zeroCounter, run_olen, run_add, run_more, run_nil]
  simp only
  obtain ⟨hm1, hm2, hm3⟩ := more_spec h (a := { a with nitems := a.nitems + olen }) ha
  generalize Arr.reserve arrayReserveMore { nitems := a.nitems + olen, nslots := a.nslots, slot := a.slot } = a2 at *
  simp only at hm2 hm3
  obtain ⟨m', h1, h2, h4⟩ := fill_loop h hg .tail a.nitems (a.nitems + olen) olen
    (fun m hN ho => by simp only [evalIdx, hN, ho]; omega) olen
    { a := a2, i := 0, key := 0, olen := olen, n := 0, want := none } 0 rfl rfl hm2 (by simp only []; omega) (by simpa using hm1)
  rw [h1]
  exact opOK_done h2 (by simpa using h4)

theorem allValid_good (hg : g.magic = magic) {a : Arr} (ha : Good g a) : a.allValid magic = true := by
  simp only [Arr.allValid, List.all_eq_true, List.mem_range]
  intro j hj
  rw [ha.2 j hj]; exact valid_hdr hg

theorem fill_spec (h : ArraySrc) (hg : g.magic = magic) {a : Arr} (ha : Good g a) (n : Nat) :
    OpOK g a (runOp g magic a (.fill n)) n := by
  simp only [runOp, prog_eq h "Array_Assign.fill" rfl, allValid_good hg ha, if_true, M.start, List.cons_append, List.nil_append]
  obtain ⟨m', h1, h2, h4⟩ := fill_loop h hg .i 0 n 0
    (fun m _ _ => by simp [evalIdx]) n
    { a := Arr.fresh n, i := 0, key := 0, olen := 0, n := 0, want := none } 0 rfl rfl rfl (by simp [Arr.fresh])
    ⟨Nat.zero_le _, fun _ hj => absurd hj (by omega)⟩
  rw [h1]
  exact opOK_done h2 (by simpa using h4)

/-- `while (n < a->nitems) { destruct(last); a->nitems--; }`: the elements above `n` go, the storage stays -/
theorem resize_loop (hg : g.magic = magic) (n : Nat) :
    ∀ (f : Nat) (m : M), m.n = n → Good g m.a → m.a.nitems ≤ n + f →
      ∃ m', whileBody g magic [.destruct .last, .dec] f m = .cont m' ∧ m'.n = n ∧ m'.want = m.want ∧ Good g m'.a ∧
        m'.a.nitems = min m.a.nitems n ∧ m'.a.nslots = m.a.nslots := by
  intro f
  induction f with
  | zero =>
    intro m hn hgood hle
    have : ¬ m.n < m.a.nitems := by omega
    exact ⟨m, by simp [whileBody, this], hn, rfl, hgood, by omega, rfl⟩
  | succ f ih =>
    intro m hn hgood hle
    by_cases hc : m.n < m.a.nitems
    · have hlt : n < m.a.nitems := hn ▸ hc
      obtain ⟨m', h1, h2, h3, h4, h5, h6⟩ := ih { m with a := { m.a with nitems := m.a.nitems - 1 } } hn
        (good_drop_last hgood) (by simp only []; omega)
      refine ⟨m', ?_, h2, h3, h4, ?_, h6⟩
      · simp only [whileBody, hc, if_true, run_drop_last hg (Nat.zero_lt_of_lt hc) hgood, run_nil]; exact h1
      · rw [h5, Nat.min_eq_right (Nat.le_sub_one_of_lt hlt), Nat.min_eq_right (Nat.le_of_lt hlt)]
    · exact ⟨m, by simp [whileBody, hc], hn, rfl, hgood, by omega, rfl⟩

theorem good_empty (g : Header) : Good g Arr.empty := ⟨Nat.le_refl _, fun _ hj => absurd hj (Nat.not_lt_zero _)⟩

theorem resize_spec (h : ArraySrc) (hg : g.magic = magic) {a : Arr} (ha : Good g a) (n : Nat) :
    OpOK g a (runOp g magic a (.resize n)) (if n = 0 then 0 else min a.nitems n) := by
  simp only [runOp, prog_eq h "Array_Resize.pre" rfl, prog_eq h "Array_Resize.body" rfl, prog_eq h "Array_Resize.post" rfl,
    M.start]
  by_cases hn : n = 0
  · subst hn
    simp only [runEvs, stepEv, allValid_good hg ha, if_true, finish]
    exact ⟨good_empty g, Or.inl ⟨rfl, rfl⟩⟩
  · simp only [runEvs, stepEv, hn, if_false]
    obtain ⟨m', h1, h2, h3, h4, h5, h6⟩ := resize_loop hg n a.nitems
      { a := a, i := 0, key := 0, olen := 0, n := n, want := none } rfl ha (by simp only []; omega)
    rw [h1]
    simp only [h2, finish]
    simp only [] at h5 h6
    exact ⟨pref_realloc h4 (h5 ▸ Nat.min_le_right _ _), Or.inl ⟨rfl, h5⟩⟩

theorem runOp_good (h : ArraySrc) (hg : g.magic = magic) {a : Arr} (ha : Good g a) (op : AOp) :
    Good g (runOp g magic a op).1 ∧
      ((runOp g magic a op).2 = .ok ∨ ∃ e, (runOp g magic a op).2 = .raised e ∧ (runOp g magic a op).1 = a) := by
  have hop : ∃ n', OpOK g a (runOp g magic a op) n' := by
    cases op with
    | push => exact ⟨_, push_spec h hg ha⟩
    | pushAt key => exact ⟨_, push_at_spec h hg ha key⟩
    | pop => exact ⟨_, pop_spec h hg ha⟩
    | popAt key => exact ⟨_, pop_at_spec h hg ha key⟩
    | concat olen => exact ⟨_, concat_spec h hg ha olen⟩
    | resize n => exact ⟨_, resize_spec h hg ha n⟩
    | fill n => exact ⟨_, fill_spec h hg ha n⟩
  obtain ⟨_, hgood, hres⟩ := hop
  exact ⟨hgood, hres.imp (·.1) id⟩

theorem runOps_good (h : ArraySrc) (hg : g.magic = magic) (ops : List AOp) :
    ∀ a, Good g a → Good g (runOps g magic a ops) := by
  induction ops with
  | nil => intro a ha; exact ha
  | cons op r ih => intro a ha; exact ih _ (runOp_good h hg ha op).1

theorem good_badCount (hg : g.magic = magic) {a : Arr} (ha : Good g a) : a.badCount magic = 0 := by
  simp only [Arr.badCount, List.length_eq_zero_iff, List.filter_eq_nil_iff, List.mem_range]
  intro j hj
  rw [ha.2 j hj]; simp [valid_hdr hg]

end Cello.HdrSlots
