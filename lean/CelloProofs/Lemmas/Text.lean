/-
  Lemmas for C15 (engine `text`): the digits printf writes in base 8, 10 and 16 (`natDigits`, `digitsB`: which characters, for
  base 10 how many: `natDigits_len_bounds`), read back by the number conversion of scanf (`scanNumber_digits`); what scanf's
  skipping of white space leaves (`skipSpace_*`).
-/
import Cello.Text

namespace Cello.Text

/-- the base printf writes a conversion in (the arms of `printIntSpec`) -/
def IConv.printBase : IConv → Nat
  | .o => 8
  | .x | .X => 16
  | _ => 10

/-- "the text that follows does not continue a number read in base `base`" -/
def noDigitOf (base : Nat) (rest : List Nat) : Prop := ∀ b r, rest = b :: r → digitVal base b = none

/-- what `scanNumber` makes of magnitude `v` and sign `neg` (its local `fin`) -/
def finNum (c : IConv) (neg : Bool) (v : Nat) : Nat :=
  if c.signed then (clampLong neg v % (2 : Int) ^ 64).toNat else clampULong neg v

theorem natDigits_zero : natDigits 0 = [48] := by rw [natDigits]; simp

/-- the two equations of `natDigits`: a well-founded recursion, which neither `rfl` nor `decide` unfolds, so inductions along it and
    the evaluation of a concrete number both step by these -/
theorem natDigits_lt10 (n : Nat) (h : n < 10) : natDigits n = [48 + n] := by rw [natDigits]; simp [h]
theorem natDigits_ge10 (n : Nat) (h : 10 ≤ n) : natDigits n = natDigits (n / 10) ++ [48 + n % 10] := by
  rw [natDigits]; simp [Nat.not_lt.2 h]

theorem digitsB_lt (base : Nat) (upper : Bool) (n : Nat) (h : n < base) : digitsB base upper n = [digitChar upper n] := by
  rw [digitsB]; simp [h]
theorem digitsB_ge (base : Nat) (upper : Bool) (n : Nat) (hb : 2 ≤ base) (h : base ≤ n) :
    digitsB base upper n = digitsB base upper (n / base) ++ [digitChar upper (n % base)] := by
  rw [digitsB]; have : ¬(n < base ∨ base < 2) := by omega
  simp [this]

theorem natDigits_eq (n : Nat) : natDigits n = digitsB 10 false n := by
  induction n using Nat.strongRecOn with
  | _ n ih =>
    by_cases h : n < 10
    · rw [natDigits_lt10 n h, digitsB_lt 10 false n h]; simp [digitChar, h]
    · rw [natDigits_ge10 n (by omega), digitsB_ge 10 false n (by omega) (by omega), ih (n / 10) (by omega)]
      have : n % 10 < 10 := Nat.mod_lt _ (by omega)
      simp [digitChar, this]

theorem digitVal_digitChar (base : Nat) (upper : Bool) (d : Nat) (hd : d < base) (hb : base ≤ 16) :
    digitVal base (digitChar upper d) = some d := by
  unfold digitVal digitChar
  by_cases h10 : d < 10
  · have h1 : 48 ≤ 48 + d ∧ 48 + d ≤ 57 := by omega
    simp only [h10, if_true, h1, and_self]
    simp [hd]
  · cases upper with
    | true =>
      have h1 : ¬(48 ≤ 55 + d ∧ 55 + d ≤ 57) := by omega
      have h2 : ¬(97 ≤ 55 + d ∧ 55 + d ≤ 102) := by omega
      have h3 : (65 ≤ 55 + d ∧ 55 + d ≤ 70) := by omega
      simp only [h10, if_false, if_true, h1, h2, h3, and_self]
      have : 55 + d - 55 = d := by omega
      simp [this, hd]
    | false =>
      have h1 : ¬(48 ≤ 87 + d ∧ 87 + d ≤ 57) := by omega
      have h2 : (97 ≤ 87 + d ∧ 87 + d ≤ 102) := by omega
      simp only [h10, if_false, Bool.false_eq_true, h1, h2, and_self, if_true]
      have : 87 + d - 87 = d := by omega
      simp [this, hd]

theorem mem_digitsB (base : Nat) (upper : Bool) (hb2 : 2 ≤ base) (n : Nat) :
    ∀ b ∈ digitsB base upper n, ∃ d, d < base ∧ b = digitChar upper d := by
  induction n using Nat.strongRecOn with
  | _ n ih =>
    by_cases h : n < base
    · rw [digitsB_lt base upper n h]
      intro b hb'; simp at hb'; subst hb'
      exact ⟨n, h, rfl⟩
    · rw [digitsB_ge base upper n hb2 (by omega)]
      intro b hb'
      simp only [List.mem_append, List.mem_singleton] at hb'
      rcases hb' with hb' | hb'
      · exact ih (n / base) (Nat.div_lt_self (by omega) (by omega)) b hb'
      · subst hb'
        exact ⟨n % base, Nat.mod_lt _ (by omega), rfl⟩

theorem digitChar_gt_zero (upper : Bool) (d : Nat) (h0 : 0 < d) : 48 < digitChar upper d := by
  unfold digitChar; split
  · omega
  · split <;> omega

theorem digitsB_head (base : Nat) (upper : Bool) (hb2 : 2 ≤ base) (n : Nat) (hn : 0 < n) :
    ∃ d r, digitsB base upper n = d :: r ∧ 48 < d := by
  induction n using Nat.strongRecOn with
  | _ n ih =>
    by_cases h : n < base
    · rw [digitsB_lt base upper n h]
      exact ⟨digitChar upper n, [], rfl, digitChar_gt_zero upper n hn⟩
    · rw [digitsB_ge base upper n hb2 (by omega)]
      have hpos : 0 < n / base := Nat.div_pos (by omega) (by omega)
      obtain ⟨d, r, h1, h2⟩ := ih (n / base) (Nat.div_lt_self (by omega) (by omega)) hpos
      exact ⟨d, r ++ [digitChar upper (n % base)], by rw [h1]; rfl, h2⟩

theorem digitsB_ne_nil (base : Nat) (upper : Bool) (n : Nat) : digitsB base upper n ≠ [] := by
  rw [digitsB]; split <;> simp

theorem isDigit_iff (b : Nat) : isDigit b = true ↔ 48 ≤ b ∧ b ≤ 57 := by
  simp only [isDigit, Bool.and_eq_true, decide_eq_true_eq]

theorem natDigits_isDigit (n : Nat) : ∀ b ∈ natDigits n, isDigit b = true := by
  intro b hb
  rw [natDigits_eq] at hb
  obtain ⟨d, hd, rfl⟩ := mem_digitsB 10 false (by omega) n b hb
  simp only [isDigit_iff, digitChar, hd, if_true]
  omega

theorem natDigits_ne_nil (n : Nat) : natDigits n ≠ [] := by
  rw [natDigits]; split <;> simp

theorem natDigits_len_bounds (n : Nat) (hn : 0 < n) :
    10 ^ ((natDigits n).length - 1) ≤ n ∧ n < 10 ^ (natDigits n).length := by
  induction n using Nat.strongRecOn with
  | _ n ih =>
    by_cases h : n < 10
    · rw [natDigits_lt10 n h]; simp; omega
    · rw [natDigits_ge10 n (by omega)]
      obtain ⟨h1, h2⟩ := ih (n / 10) (by omega) (by omega)
      have hl : 0 < (natDigits (n / 10)).length := List.length_pos_iff.2 (natDigits_ne_nil _)
      simp only [List.length_append, List.length_cons, List.length_nil, Nat.zero_add, Nat.add_sub_cancel]
      constructor
      · have : (natDigits (n / 10)).length = ((natDigits (n / 10)).length - 1) + 1 := by omega
        rw [this, Nat.pow_succ]
        calc 10 ^ ((natDigits (n / 10)).length - 1) * 10 ≤ n / 10 * 10 := Nat.mul_le_mul_right _ h1
          _ ≤ n := Nat.div_mul_le_self n 10
      · rw [Nat.pow_succ]; omega

theorem natDigits_length_eq (n k : Nat) (h1 : 10 ^ (k - 1) ≤ n) (h2 : n < 10 ^ k) : (natDigits n).length = k := by
  obtain ⟨b1, b2⟩ := natDigits_len_bounds n (Nat.lt_of_lt_of_le (Nat.pow_pos (by decide)) h1)
  have ha := (Nat.pow_lt_pow_iff_right (by decide)).1 (Nat.lt_of_le_of_lt b1 h2)
  have hb := (Nat.pow_lt_pow_iff_right (by decide)).1 (Nat.lt_of_le_of_lt h1 b2)
  omega

theorem natDigits_length_le (n k : Nat) (h : n < 10 ^ (k + 1)) : (natDigits n).length ≤ k + 1 := by
  by_cases hn : n = 0
  · rw [hn, natDigits_zero]; exact Nat.succ_le_succ (Nat.zero_le k)
  · have := (Nat.pow_lt_pow_iff_right (by decide)).1 (Nat.lt_of_le_of_lt (natDigits_len_bounds n (by omega)).1 h)
    omega

-- about `%g`; here because its users, TextFloat and TextBytes, have only this file in common
theorem mem_stripZeros (l : List Nat) : ∀ b ∈ stripZeros l, b ∈ l := by
  intro b hb
  simp only [stripZeros, List.mem_reverse] at hb
  exact List.mem_reverse.1 ((List.dropWhile_suffix _).subset hb)

theorem digitVal_nondigit (base b : Nat) (hb : base ≤ 10) (h : isDigit b = false) : digitVal base b = none := by
  rw [← Bool.not_eq_true, isDigit_iff] at h
  unfold digitVal
  by_cases h1 : 97 ≤ b ∧ b ≤ 102
  · simp only [h, if_false, h1]
    have : ¬ (b - 87 < base) := by omega
    simp [this]
  · by_cases h2 : 65 ≤ b ∧ b ≤ 70
    · simp only [h, if_false, h1, h2]
      have : ¬ (b - 55 < base) := by omega
      simp [this]
    · simp [h, h1, h2]

theorem digitVal_nonhex (base b : Nat) (h : isHexDigit b = false) : digitVal base b = none := by
  have h1 : ¬(48 ≤ b ∧ b ≤ 57) := by
    intro hh; simp [isHexDigit, (isDigit_iff b).2 hh] at h
  have h2 : ¬(97 ≤ b ∧ b ≤ 102) := by
    intro hh
    have hl : lower b = b := by unfold lower; split <;> omega
    simp [isHexDigit, hl, hh.1, hh.2] at h
  have h3 : ¬(65 ≤ b ∧ b ≤ 70) := by
    intro hh
    have hl : lower b = b + 32 := by unfold lower; split <;> omega
    have e1 : 97 ≤ b + 32 := by omega
    have e2 : b + 32 ≤ 102 := by omega
    simp [isHexDigit, hl, e1, e2] at h
  unfold digitVal
  simp [h1, h2, h3]

theorem digitVal_none_of_le (base base' b : Nat) (hb : base' ≤ base) (h : digitVal base b = none) : digitVal base' b = none := by
  unfold digitVal at *
  generalize (if 48 ≤ b ∧ b ≤ 57 then some (b - 48) else if 97 ≤ b ∧ b ≤ 102 then some (b - 87) else if 65 ≤ b ∧ b ≤ 70 then some (b - 55) else none) = v at *
  cases v with
  | none => rfl
  | some d =>
    simp only at h ⊢
    split at h
    · exact absurd h (by simp)
    · have : ¬ d < base' := by omega
      simp [this]

theorem headIs_false_iff (p : Nat → Bool) (l : List Nat) : headIs p l = false ↔ ∀ b r, l = b :: r → p b = false := by
  cases l with
  | nil => simp [headIs]
  | cons a t => simp [headIs]

theorem headIs_isDigit_iff (l : List Nat) : headIs isDigit l = false ↔ ∀ b r, l = b :: r → ¬(48 ≤ b ∧ b ≤ 57) := by
  rw [headIs_false_iff]; simp only [← Bool.not_eq_true, isDigit_iff]

theorem isSpace_of_ge (b : Nat) (h : 48 ≤ b) : isSpace b = false := by
  simp [isSpace]; omega

theorem skipSpace_nonspace (b : Nat) (r : List Nat) (h : isSpace b = false) : skipSpace (b :: r) = b :: r := by
  simp [skipSpace, h]

theorem skipSpace_of_head (l : List Nat) (h : headIs isSpace l = false) : skipSpace l = l := by
  cases l with
  | nil => rfl
  | cons b r => exact skipSpace_nonspace b r h

theorem skipSpace_cons_space (b : Nat) (r : List Nat) (h : isSpace b = true) : skipSpace (b :: r) = skipSpace r := by
  simp [skipSpace, h]

theorem headIs_skipSpace (l : List Nat) : headIs isSpace (skipSpace l) = false := by
  induction l with
  | nil => simp [skipSpace, headIs]
  | cons b r ih =>
    by_cases h : isSpace b = true
    · rw [skipSpace_cons_space b r h]; exact ih
    · have h' : isSpace b = false := by simpa using h
      rw [skipSpace_of_head (b :: r) (by simp [headIs, h'])]
      simp [headIs, h']

theorem skipSpace_idem (l : List Nat) : skipSpace (skipSpace l) = skipSpace l :=
  skipSpace_of_head _ (headIs_skipSpace l)

theorem autoBase_nonzero (d : Nat) (r : List Nat) (h : d ≠ 48) : autoBase (d :: r) = 10 := by
  unfold autoBase
  split <;> simp_all

theorem autoBase_zero (rest : List Nat) (h : headIs isXx rest = false) : autoBase (48 :: rest) = 8 := by
  cases rest with
  | nil => simp [autoBase]
  | cons x r =>
    simp only [headIs, isXx, Bool.or_eq_false_iff, beq_eq_false_iff_ne] at h
    simp [autoBase, h.1, h.2]

theorem hexPrefix_nonzero (d : Nat) (r : List Nat) (h : d ≠ 48) : hexPrefix (d :: r) = false := by
  unfold hexPrefix
  split <;> simp_all

theorem hexPrefix_zero (rest : List Nat) (h : headIs isXx rest = false) : hexPrefix (48 :: rest) = false := by
  cases rest with
  | nil => simp [hexPrefix]
  | cons x r =>
    simp only [headIs, isXx] at h
    simp [hexPrefix, h]

theorem noDigitOf.mono {base base' : Nat} {rest : List Nat} (h : noDigitOf base rest) (hb : base' ≤ base) : noDigitOf base' rest :=
  fun b r hbr => digitVal_none_of_le base base' b hb (h b r hbr)

theorem noDigitOf_of_dec (base : Nat) (hb : base ≤ 10) (rest : List Nat) (h : headIs isDigit rest = false) : noDigitOf base rest :=
  fun b r hbr => digitVal_nondigit base b hb ((headIs_false_iff _ _).1 h b r hbr)

theorem noDigitOf_of_hex (base : Nat) (rest : List Nat) (h : headIs isHexDigit rest = false) : noDigitOf base rest :=
  fun b r hbr => digitVal_nonhex base b ((headIs_false_iff _ _).1 h b r hbr)

theorem readDigits_stop (base : Nat) (rest : List Nat) (hr : noDigitOf base rest) (acc k : Nat) :
    readDigits base rest acc k = (acc, k, rest) := by
  cases rest with
  | nil => rfl
  | cons b r => simp only [readDigits, hr b r rfl]

/-- the digit loop over the digits printf wrote for `n`, whatever follows them.  printf appends the last digit and the loop takes
    the first, so what goes through the induction is the statement with the loop's state as a variable and no condition on `rest`. -/
theorem readDigits_digitsB_append (base : Nat) (upper : Bool) (hb2 : 2 ≤ base) (hb : base ≤ 16) (n : Nat) :
    ∀ (rest : List Nat) (acc k : Nat), readDigits base (digitsB base upper n ++ rest) acc k
      = readDigits base rest (acc * base ^ (digitsB base upper n).length + n) (k + (digitsB base upper n).length) := by
  induction n using Nat.strongRecOn with
  | _ n ih =>
    intro rest acc k
    by_cases h : n < base
    · rw [digitsB_lt base upper n h]
      simp [readDigits, digitVal_digitChar base upper n h hb]
    · rw [digitsB_ge base upper n hb2 (by omega), List.append_assoc, ih (n / base) (Nat.div_lt_self (by omega) (by omega))]
      simp only [List.singleton_append, readDigits, digitVal_digitChar base upper _ (Nat.mod_lt n (by omega)) hb,
        List.length_append, List.length_singleton, Nat.pow_succ]
      congr 1
      have := Nat.div_add_mod n base
      generalize (digitsB base upper (n / base)).length = L
      rw [Nat.add_mul, Nat.mul_assoc, Nat.add_assoc, Nat.mul_comm (n / base) base, this]

theorem readDigits_digitsB (base : Nat) (upper : Bool) (hb2 : 2 ≤ base) (hb : base ≤ 16) (m : Nat) (rest : List Nat)
    (hr : noDigitOf base rest) :
    readDigits base (digitsB base upper m ++ rest) 0 0 = (m, (digitsB base upper m).length, rest) := by
  rw [readDigits_digitsB_append base upper hb2 hb, readDigits_stop base rest hr]
  simp

/-- the number conversion past white space and sign: a text that starts with a character `d` that is neither, in which the digit
    loop — run in the base the conversion reads *this* text in — finds at least one digit -/
theorem scanNumber_run (c : IConv) (neg : Bool) (d : Nat) (r rest : List Nat) (v k : Nat)
    (hsp : isSpace d = false) (h45 : d ≠ 45) (h43 : d ≠ 43)
    (hpre : c.scanBase (d :: r) = 16 → hexPrefix (d :: r) = false)
    (hrun : readDigits (c.scanBase (d :: r)) (d :: r) 0 0 = (v, k + 1, rest)) :
    scanNumber c ((if neg then [45] else []) ++ d :: r) = .ok (finNum c neg v, rest) := by
  have hnp : ¬(c.scanBase (d :: r) = 16 ∧ hexPrefix (d :: r) = true) := fun h => by simp [hpre h.1] at h
  cases neg with
  | true =>
    simp only [if_true, List.cons_append, List.nil_append, scanNumber]
    rw [skipSpace_nonspace 45 _ (by decide)]
    simp only [true_or, if_true, hnp, if_false, hrun]
    simp [finNum]
  | false =>
    simp only [Bool.false_eq_true, if_false, List.nil_append, scanNumber]
    rw [skipSpace_nonspace d _ hsp]
    simp only [h45, h43, or_self, if_false, hnp, hrun]
    simp [finNum]

/-- **the digits printf writes for `m`** in the base of the conversion, optionally after a minus sign, then text that does not
    continue them (after a lone `0` under `%i %x %X`: no `x`/`X`, which would make it a prefix): the scanner reads exactly the
    digits.  The base it reads in is the base they were written in, except that `%i` reads a lone `0` as octal. -/
theorem scanNumber_digits (c : IConv) (upper neg : Bool) (m : Nat) (rest : List Nat) (hr : noDigitOf c.printBase rest)
    (hx : c = .i ∨ c = .x ∨ c = .X → m = 0 → headIs isXx rest = false) :
    scanNumber c ((if neg then [45] else []) ++ digitsB c.printBase upper m ++ rest) = .ok (finNum c neg m, rest) := by
  have hb : 2 ≤ c.printBase ∧ c.printBase ≤ 16 := by cases c <;> decide
  rw [List.append_assoc]
  by_cases hm : 0 < m
  · obtain ⟨d, r, hd, h48⟩ := digitsB_head c.printBase upper hb.1 m hm
    have hbase : c.scanBase (d :: (r ++ rest)) = c.printBase := by
      cases c <;> try rfl
      exact autoBase_nonzero d _ (by omega)
    have hrun := readDigits_digitsB c.printBase upper hb.1 hb.2 m rest hr
    rw [hd] at hrun ⊢
    exact scanNumber_run c neg d _ rest m r.length (isSpace_of_ge d (by omega)) (by omega) (by omega)
      (fun _ => hexPrefix_nonzero d _ (by omega)) (hbase ▸ hrun)
  · obtain rfl : m = 0 := by omega
    have hbase : c.scanBase (48 :: rest) = if c = .i then 8 else c.printBase := by
      cases c <;> try rfl
      exact autoBase_zero rest (hx (.inl rfl) rfl)
    have hb' : 2 ≤ c.scanBase (48 :: rest) ∧ c.scanBase (48 :: rest) ≤ 16 := by rw [hbase]; cases c <;> decide
    -- either base stops where the base the `0` was written in stops
    have hr' : noDigitOf (c.scanBase (48 :: rest)) rest := by
      rw [hbase]; split
      · subst c; exact hr.mono (by decide)
      · exact hr
    have hrun := readDigits_digitsB _ false hb'.1 hb'.2 0 rest hr'
    rw [digitsB_lt _ _ 0 (by omega)] at hrun ⊢
    refine scanNumber_run c neg 48 rest rest 0 0 (by decide) (by decide) (by decide) (fun h16 => hexPrefix_zero rest (hx ?_ rfl)) hrun
    rw [hbase] at h16
    cases c <;> simp_all [IConv.printBase]

end Cello.Text
