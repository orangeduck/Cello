/-
  Lemmas about the release loop of `GC_Sweep` (`Cello.Heap.release`: destructors, `Box_Del` → `del` → `GC_Rem_Ptr`), about
  one whole collection (`collectAll`) and about histories whose state includes the mark bits (`GState.run`).
-/
import Cello.Heap
import CelloProofs.Lemmas.Mark

namespace Cello.Heap

section release

theorem mem_strike {x y : Addr} : ∀ {p : List (Option Addr)}, some y ∈ strike x p → some y ∈ p
  | [], h => by simp [strike] at h
  | o :: p, h => by
    unfold strike at h
    split at h
    · rcases List.mem_cons.mp h with h1 | h1
      · cases h1
      · exact List.mem_cons_of_mem _ h1
    · rcases List.mem_cons.mp h with h1 | h1
      · rw [h1]; exact List.mem_cons_self
      · exact List.mem_cons_of_mem _ (mem_strike h1)

/-- what it takes for `I n` to hold of every state the release loop passes through while `n` nested destructors are still
    allowed, and `A` of every address it finalises.  Every nested `dealloc(destruct(·))` is preceded by a strike or an erasure
    (`n + 1` to `n`) and returns to where it was called (`back`); an invariant that does not speak of the nesting is constant in `n`. -/
structure ReleaseInv (h0 : Heap) (I : Nat → RState → Prop) (A : Addr → Prop) : Prop where
  /-- an item leaves the free list to be finalised -/
  strike : ∀ n st x, I (n + 1) st → st.pending.contains (some x) = true → I n { st with pending := strike x st.pending } ∧ A x
  /-- a registered entry that a finalised object owns leaves the registry to be finalised -/
  erase : ∀ n st b v, I (n + 1) st → A b → v ∈ h0.ownsAt b → (st.heap.lookup v).isSome = true →
    I n { st with heap := st.heap.remove v } ∧ A v
  back : ∀ n st, I n st → I (n + 1) st
  record : ∀ n st a, I n st → A a → I n { st with finalised := a :: st.finalised }
  exhaust : ∀ st, I 0 st → I 0 { st with exhausted := true }

section inv
variable {h0 : Heap} {I : Nat → RState → Prop} {A : Addr → Prop} (R : ReleaseInv h0 I A)
include R

theorem remPtr_inv {n : Nat} (fin : RState → Addr → RState) (hfin : ∀ st a, A a → I n st → I n (fin st a)) {b : Addr} (hb : A b)
    (st : RState) (v : Word) (hv : v ∈ h0.ownsAt b) (hi : I (n + 1) st) : I (n + 1) (remPtr fin st v) := by
  unfold remPtr
  split
  · exact hi
  unfold remPtrBody
  split
  · rename_i hc
    obtain ⟨h1, h2⟩ := R.strike n st v hi hc
    exact R.back _ _ (hfin _ v h2 h1)
  · split
    · rename_i _ hc
      obtain ⟨h1, h2⟩ := R.erase n st b v hi hb hv hc
      exact R.back _ _ (hfin _ v h2 h1)
    · exact hi

theorem foldl_remPtr_inv {n : Nat} (fin : RState → Addr → RState) (hfin : ∀ st a, A a → I n st → I n (fin st a)) {b : Addr} (hb : A b) :
    ∀ (vs : List Word) (st : RState), (∀ v ∈ vs, v ∈ h0.ownsAt b) → I (n + 1) st → I (n + 1) (vs.foldl (remPtr fin) st)
  | [], _, _, hi => hi
  | v :: vs, st, hv, hi =>
    foldl_remPtr_inv fin hfin hb vs _ (fun x hx => hv x (List.mem_cons_of_mem _ hx))
      (remPtr_inv R fin hfin hb st v (hv v List.mem_cons_self) hi)

theorem finaliseAt_inv : ∀ (fuel : Nat) (st : RState) (a : Addr), A a → I fuel st → I fuel (finaliseAt h0 fuel st a)
  | 0, st, _, _, hi => R.exhaust st hi
  | fuel + 1, st, a, ha, hi => by
    unfold finaliseAt
    exact foldl_remPtr_inv R _ (finaliseAt_inv fuel) ha _ _ (fun _ h => h) (R.record _ st a hi ha)

theorem releaseLoop_inv (fuel : Nat) : ∀ (rest : List Addr) (st : RState), I (fuel + 1) st → I (fuel + 1) (releaseLoop h0 fuel rest st)
  | [], _, hi => hi
  | a :: rest, st, hi => by
    unfold releaseLoop
    split
    · rename_i hc
      obtain ⟨h1, h2⟩ := R.strike fuel st a hi hc
      exact releaseLoop_inv fuel rest _ (R.back _ _ (finaliseAt_inv R fuel _ a h2 h1))
    · exact releaseLoop_inv fuel rest st hi

end inv

/-- the invariant of a release loop in which no freed object owns a surviving one: the registry is not touched and only
    items of the pending list `P` are finalised -/
structure RInv (h1 : Heap) (P : List Addr) (st : RState) : Prop where
  heap : st.heap = h1
  pend : ∀ x, some x ∈ st.pending → x ∈ P
  fin : ∀ x ∈ st.finalised, x ∈ P

variable (h0 h1 : Heap) (P : List Addr)

/-- **when no freed object owns a surviving one, the release loop finalises items of the pending list only and leaves the
    registry as the sweep left it** -/
theorem release_within_pending (hown : ∀ b ∈ P, ∀ v ∈ h0.ownsAt b, (h1.lookup v).isSome = false) :
    (release h0 h1 P).heap = h1 ∧ ∀ x ∈ (release h0 h1 P).finalised, x ∈ P := by
  have R : ReleaseInv h0 (fun _ => RInv h1 P) (· ∈ P) :=
    { strike := fun _ st x hi hc => ⟨⟨hi.heap, fun y hy => hi.pend y (mem_strike hy), hi.fin⟩, hi.pend x (by simpa using hc)⟩
      -- what a freed object owns is not registered: `GC_Rem_Ptr` never reaches the registry
      erase := fun _ st b v hi hb hv hc => by rw [hi.heap, hown b hb v hv] at hc; cases hc
      back := fun _ _ hi => hi
      record := fun _ st a hi ha => ⟨hi.heap, hi.pend, fun x hx => by
        rcases List.mem_cons.mp hx with h | h
        · rw [h]; exact ha
        · exact hi.fin x h⟩
      exhaust := fun st hi => ⟨hi.heap, hi.pend, hi.fin⟩ }
  have := releaseLoop_inv R (P.length + h1.regs.length + 1) P
    { heap := h1, pending := P.map some, finalised := [], exhausted := false }
    ⟨rfl, fun x hx => by simpa using hx, fun x hx => by cases hx⟩
  exact ⟨this.heap, this.fin⟩

/-- the items of a free list that are not struck out (`strike` leaves `none` in their place) -/
def somes (p : List (Option Addr)) : Nat := (p.filter Option.isSome).length

/-- what the collector still lists: items on the free list + entries of the registry -/
def RState.listed (st : RState) : Nat := somes st.pending + st.heap.regs.length

theorem somes_strike {x : Addr} : ∀ {p : List (Option Addr)}, p.contains (some x) = true → somes (strike x p) + 1 = somes p
  | [], h => by simp at h
  | o :: p, h => by
    unfold strike
    by_cases ho : o = some x
    · simp only [ho, if_true]
      simp [somes]
    · simp only [ho, if_false]
      have hc : p.contains (some x) = true := by
        rw [List.contains_cons] at h
        rcases Bool.or_eq_true _ _ |>.mp h with h1 | h1
        · exact absurd (by simpa using h1 : some x = o).symm ho
        · exact h1
      have ih := somes_strike hc
      cases o with
      | none => simpa [somes, List.filter_cons] using ih
      | some y =>
        simp only [somes, List.filter_cons, Option.isSome_some, if_true, List.length_cons] at ih ⊢
        omega

theorem remove_regs_lt {h : Heap} {v : Addr} (hv : (h.lookup v).isSome = true) : (h.remove v).regs.length < h.regs.length := by
  cases hl : h.lookup v with
  | none => simp [hl] at hv
  | some e => exact List.length_filter_lt_length_iff_exists.mpr ⟨v, h.complete v e hl, by simp⟩

theorem somes_map_some (P : List Addr) : somes (P.map some) = P.length := by
  induction P with
  | nil => rfl
  | cons x xs ih => simp only [somes, List.map_cons, List.filter_cons, Option.isSome_some, if_true, List.length_cons] at ih ⊢; omega

/-- the budget is never used up: while `n` nested destructors are allowed, fewer than `n` items and entries are listed -/
theorem bounded_inv : ReleaseInv h0 (fun n st => st.exhausted = false ∧ st.listed < n) (fun _ => True) where
  strike n st x hi hc := ⟨⟨hi.1, by have := somes_strike hc; have := hi.2; simp only [RState.listed] at *; omega⟩, trivial⟩
  erase n st _ v hi _ _ hc := ⟨⟨hi.1, by have := remove_regs_lt hc; have := hi.2; simp only [RState.listed] at *; omega⟩, trivial⟩
  back _ _ hi := ⟨hi.1, Nat.lt_succ_of_lt hi.2⟩
  record _ _ _ hi _ := hi
  exhaust _ hi := absurd hi.2 (Nat.not_lt_zero _)

theorem release_bounded : (release h0 h1 P).exhausted = false :=
  (releaseLoop_inv (bounded_inv h0) _ P _ ⟨rfl, by simp only [RState.listed, somes_map_some]; omega⟩).1

end release

section mono
variable (h0 : Heap)

theorem fin_mono_inv (x : Addr) : ReleaseInv h0 (fun _ st => x ∈ st.finalised) (fun _ => True) where
  strike _ _ _ hi _ := ⟨hi, trivial⟩
  erase _ _ _ _ hi _ _ _ := ⟨hi, trivial⟩
  back _ _ hi := hi
  record _ _ _ hi _ := List.mem_cons_of_mem _ hi
  exhaust _ hi := hi

theorem releaseLoop_fin_mono (fuel : Nat) : ∀ (rest : List Addr) (st : RState) (x : Addr), x ∈ st.finalised →
    x ∈ (releaseLoop h0 fuel rest st).finalised :=
  fun rest st x hx => releaseLoop_inv (fin_mono_inv h0 x) fuel rest st hx

theorem finaliseAt_self (fuel : Nat) (st : RState) (a : Addr) : a ∈ (finaliseAt h0 (fuel + 1) st a).finalised := by
  unfold finaliseAt
  exact foldl_remPtr_inv (n := fuel) (fin_mono_inv h0 a) _ (finaliseAt_inv (fin_mono_inv h0 a) fuel) (b := a) trivial _ _ (fun _ h => h)
    List.mem_cons_self

end mono

theorem remPtr_null (fin : RState → Addr → RState) (st : RState) : remPtr fin st 0 = st := by
  simp [remPtr]

/-- for a pointer that is not NULL the early-out for NULL (fix d3e4e44) changes nothing -/
theorem remPtr_nonnull (fin : RState → Addr → RState) (st : RState) (v : Word) (hv : v ≠ 0) :
    remPtr fin st v = remPtrBody fin st v ∧ remPtrPre fin st v = remPtrBody fin st v := by
  simp [remPtr, remPtrPre, hv]

/-- `del(v)` of an entry (not NULL) that is registered and not on the free list finalises it -/
theorem remPtr_registered (h0 : Heap) (fuel : Nat) (st : RState) (v : Addr) (hv : v ≠ 0) (hp : st.pending.contains (some v) = false)
    (hr : (st.heap.lookup v).isSome = true) : v ∈ (remPtr (finaliseAt h0 (fuel + 1)) st v).finalised := by
  unfold remPtr remPtrBody
  simp only [hv, hp, hr, if_true, Bool.false_eq_true, if_false]
  exact finaliseAt_self h0 fuel _ v

section coll
variable {σ : Type} (S : MarkSet σ) (c : Cfg) (h : Heap)

theorem boxExclusive_iff (thread : Obj) (stack : List Word) (m0 : σ) : boxExclusive S c h thread stack m0 = true ↔
    ∀ b ∈ (collectFrom S c h thread stack m0).2, ∀ v ∈ h.ownsAt b,
      ((collectFrom S c h thread stack m0).1.lookup v).isSome = false := by
  simp only [boxExclusive, ownsSurvivor, collectFrom, mem_pending, Bool.not_eq_true', List.any_eq_false, Bool.and_eq_true,
    List.any_eq_true, not_and, not_exists, Bool.not_eq_true, and_imp]

theorem collectAll_within_pending (thread : Obj) (stack : List Word) (m0 : σ) (hbox : boxExclusive S c h thread stack m0 = true) :
    (collectAll S c h thread stack m0).heap = (collectFrom S c h thread stack m0).1 ∧
    ∀ x ∈ (collectAll S c h thread stack m0).finalised, x ∈ (collectAll S c h thread stack m0).pending :=
  release_within_pending h _ _ ((boxExclusive_iff S c h thread stack m0).mp hbox)

theorem boxExclusive_of_contract (wf : h.WF) (thread : Obj) (stack : List Word)
    (hc : ∀ b v, v ∈ h.ownsAt b → Reachable c h (rootWords c h thread stack) v → Reachable c h (rootWords c h thread stack) b) :
    boxExclusive S c h thread stack S.empty = true := by
  refine (boxExclusive_iff S c h thread stack S.empty).mpr fun b hb v hv => ?_
  rw [collectFrom, gcMarkFrom_empty] at hb ⊢
  cases hs : ((sweep S h (gcMark S c h thread stack)).1.lookup v).isSome with
  | false => rfl
  | true =>
    -- v stays registered: it is root-registered or marked, hence reachable; then so is b, which is marked and not swept
    have hvr : Reachable c h (rootWords c h thread stack) v := by
      rw [sweep_lookup] at hs
      cases hl : h.lookup v with
      | none => simp [hl] at hs
      | some e =>
        cases hroot : e.root with
        | true => exact .root (List.mem_append_right _ (List.mem_append_left _ (mem_rootAddrs hl hroot))) (by rw [hl]; rfl)
        | false =>
          cases hm : S.mem v (gcMark S c h thread stack) with
          | true => exact (gcMark_iff_reachable S c h wf thread stack v).mp hm
          | false => simp [(sweeps_iff S h _ v).mpr ⟨e, hl, hroot, hm⟩] at hs
    have hbm : S.mem b (gcMark S c h thread stack) = true :=
      (gcMark_iff_reachable S c h wf thread stack b).mpr (hc b v hv hvr)
    have hsw := ((mem_pending S h _ b).mp hb).2
    rw [not_swept_of_marked S h hbm] at hsw; cases hsw

theorem boxExclusive_of_no_owner (thread : Obj) (stack : List Word) (m0 : σ)
    (hn : ∀ b ∈ h.regs, h.ownsAt b = []) : boxExclusive S c h thread stack m0 = true :=
  (boxExclusive_iff S c h thread stack m0).mpr fun b hb v hv => by
    rw [hn b ((mem_pending S h _ b).mp hb).1] at hv; cases hv

theorem collectAll_keeps_marked (thread : Obj) (stack : List Word) (m0 : σ) (a : Addr)
    (hmk : S.mem a (gcMarkFrom S c h thread stack m0) = true)
    (hbox : boxExclusive S c h thread stack m0 = true) :
    (collectAll S c h thread stack m0).heap.lookup a = h.lookup a ∧
      a ∉ (collectAll S c h thread stack m0).pending ∧ a ∉ (collectAll S c h thread stack m0).finalised := by
  obtain ⟨hkeep, hnp⟩ : (collectFrom S c h thread stack m0).1.lookup a = h.lookup a ∧ a ∉ (collectFrom S c h thread stack m0).2 :=
    sweep_keeps_unswept S h (not_swept_of_marked S h hmk)
  obtain ⟨r1, r2⟩ := collectAll_within_pending S c h thread stack m0 hbox
  exact ⟨by rw [r1, hkeep], hnp, fun hf => hnp (r2 a hf)⟩

/-- **one whole collection that starts from clear bits keeps what is reachable**: off the pending list, whatever the freed objects own;
    registered with unchanged contents and not finalised when no freed object owns a surviving one -/
theorem collectAll_keeps_reachable (wf : h.WF) (thread : Obj) (stack : List Word) (m0 : σ) (hcl : ∀ x, S.mem x m0 = false) (a : Addr)
    (hr : Reachable c h (rootWords c h thread stack) a) :
    a ∉ (collectAll S c h thread stack m0).pending ∧
    (boxExclusive S c h thread stack m0 = true →
      (collectAll S c h thread stack m0).heap.lookup a = h.lookup a ∧ a ∉ (collectAll S c h thread stack m0).finalised) := by
  have hm : S.mem a (gcMarkFrom S c h thread stack m0) = true := by
    rw [gcMarkFrom_iff S c h wf, show (fun x => S.mem x m0) = fun _ => false from funext hcl]
    exact .inr ((reachableUnmarked_none _ _).mpr hr)
  exact ⟨(sweep_keeps_unswept S h (not_swept_of_marked S h hm)).2,
    fun hbox => let ⟨e1, _, e3⟩ := collectAll_keeps_marked S c h thread stack m0 a hm hbox; ⟨e1, e3⟩⟩

theorem collectAll_bounded (thread : Obj) (stack : List Word) (m0 : σ) :
    (collectAll S c h thread stack m0).exhausted = false :=
  release_bounded h _ _

theorem collectAll_pending (thread : Obj) (stack : List Word) (m0 : σ) :
    (collectAll S c h thread stack m0).pending = (collectFrom S c h thread stack m0).2 := rfl

theorem collectFrom_pending_iff (wf : h.WF) (thread : Obj) (stack : List Word) (m0 : σ) (a : Addr) :
    a ∈ (collectFrom S c h thread stack m0).2 ↔
      ∃ e, h.lookup a = some e ∧ e.root = false ∧ S.mem a m0 = false ∧
        ¬ ReachableUnmarked c h (fun x => S.mem x m0) (rootWords c h thread stack) a := by
  simp only [collectFrom, mem_pending, sweeps_iff]
  constructor
  · rintro ⟨_, e, hl, hr, hm⟩
    have hn : ¬ (S.mem a (gcMarkFrom S c h thread stack m0) = true) := by rw [hm]; simp
    rw [gcMarkFrom_iff S c h wf] at hn
    refine ⟨e, hl, hr, ?_, fun hx => hn (.inr hx)⟩
    cases h0 : S.mem a m0 with
    | false => rfl
    | true => exact absurd (.inl h0) hn
  · rintro ⟨e, hl, hr, h0, hnr⟩
    refine ⟨h.complete a e hl, e, hl, hr, ?_⟩
    cases hm : S.mem a (gcMarkFrom S c h thread stack m0) with
    | false => rfl
    | true =>
      rcases (gcMarkFrom_iff S c h wf thread stack m0 a).mp hm with h1 | h1
      · rw [h0] at h1; cases h1
      · exact absurd h1 hnr

/-- a whole collection keeps the registry well-formed: the sweep does (`sweep_wf`), and in the release loop entries only
    leave the registry -/
theorem collectAll_wf (wf : h.WF) (thread : Obj) (stack : List Word) (m0 : σ) :
    (collectAll S c h thread stack m0).heap.WF :=
  releaseLoop_inv (I := fun _ st => st.heap.WF) (A := fun _ => True)
    { strike := fun _ _ _ hi _ => ⟨hi, trivial⟩, erase := fun _ _ _ v hi _ _ _ => ⟨remove_wf hi v, trivial⟩,
      back := fun _ _ hi => hi, record := fun _ _ _ hi _ => hi, exhaust := fun _ hi => hi }
    _ _ _ (sweep_wf S h wf _)

end coll

section hist
variable {σ : Type} (S : MarkSet σ) (c : Cfg)

/-- the hypothesis under which the bits are clear whenever the three phases of a mark phase begin: `GC_Mark` clears them first
    (`GC_Unmark`, fix d8f0c4f: the source as it is), or no exception has left (or will leave) a mark phase -/
def CleanStart (cf : Bool) (s : GState) (ops : List GOp) : Prop :=
  cf = true ∨ (s.stale = [] ∧ ∀ op ∈ ops, op.completes = true)

theorem gstep_wf (cf : Bool) (s : GState) (op : GOp) (wf : s.heap.WF) (hok : op.ok) : (s.step S c cf op).1.heap.WF := by
  cases op with
  | base op =>
    cases op with
    | collect => exact collectAll_wf S c s.heap wf _ _ _
    | setThread _ | setStack _ => exact wf
    | alloc _ _ | write _ _ | del _ | assign _ _ | copyTo _ _ | clear _ => exact step_wf S c s.hstate _ wf hok
  | raise _ | rehash => exact wf

theorem CleanStart.step {cf : Bool} {s : GState} {op : GOp} {ops : List GOp} (h : CleanStart cf s (op :: ops)) :
    CleanStart cf (s.step S c cf op).1 ops := by
  rcases h with h | ⟨h1, h2⟩
  · exact .inl h
  · refine .inr ⟨?_, fun o ho => h2 o (List.mem_cons_of_mem _ ho)⟩
    have hop := h2 op List.mem_cons_self
    cases op with
    | base op => cases op <;> simp [GState.step, h1]
    | raise k => cases hop
    | rehash => rfl

theorem gstep_event (cf : Bool) (s : GState) (op : GOp) (ev : GEvent) (he : (s.step S c cf op).2 = some ev) :
    op = .base .collect ∧ ev.before = s ∧ ev.started = (if cf then [] else s.stale) ∧
      ev.pending = (collectAll S c s.heap s.thread s.stack (seed S ev.started)).pending ∧
      ev.finalised = (collectAll S c s.heap s.thread s.stack (seed S ev.started)).finalised ∧
      ev.after = (collectAll S c s.heap s.thread s.stack (seed S ev.started)).heap := by
  cases op with
  | base op =>
    cases op <;> simp only [GState.step] at he <;> cases he
    exact ⟨rfl, rfl, rfl, rfl, rfl, rfl⟩
  | raise k => simp only [GState.step] at he; cases he
  | rehash => simp only [GState.step] at he; cases he

theorem grun_events (cf : Bool) : ∀ (ops : List GOp) (s : GState), s.heap.WF → (∀ op ∈ ops, op.ok) → CleanStart cf s ops →
    (GState.run S c cf ops s).1.heap.WF ∧
    ∀ ev ∈ (GState.run S c cf ops s).2, ev.before.heap.WF ∧ ev.started = [] ∧
      ev.pending = (collectAll S c ev.before.heap ev.before.thread ev.before.stack S.empty).pending ∧
      ev.finalised = (collectAll S c ev.before.heap ev.before.thread ev.before.stack S.empty).finalised ∧
      ev.after = (collectAll S c ev.before.heap ev.before.thread ev.before.stack S.empty).heap := by
  intro ops
  induction ops with
  | nil => intro s wf _ _; exact ⟨wf, fun ev hev => by simp [GState.run] at hev⟩
  | cons op ops ih =>
    intro s wf hok hcl
    have wf1 := gstep_wf S c cf s op wf (hok op List.mem_cons_self)
    have hst : cf = true ∨ s.stale = [] := Or.imp id (·.1) hcl
    obtain ⟨h1, h2⟩ := ih (s.step S c cf op).1 wf1 (fun o ho => hok o (List.mem_cons_of_mem _ ho)) (hcl.step S c)
    simp only [GState.run]
    refine ⟨h1, ?_⟩
    intro ev hev
    cases hs : (s.step S c cf op).2 with
    | none => rw [hs] at hev; exact h2 ev hev
    | some e0 =>
      rw [hs] at hev
      rcases List.mem_cons.mp hev with heq | hmem
      · subst heq
        obtain ⟨_, hb, hstart, hp, hf, ha⟩ := gstep_event S c cf s op ev hs
        have hs0 : ev.started = [] := by
          rw [hstart]
          rcases hst with h3 | h3 <;> simp [h3]
        rw [hs0] at hp hf ha
        rw [hb]
        exact ⟨wf, hs0, hp, hf, ha⟩
      · exact h2 ev hmem

end hist

end Cello.Heap
