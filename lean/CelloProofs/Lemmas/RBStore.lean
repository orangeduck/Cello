/-
  Lemmas/RBStore.lean — histories over several trees: every step of the model (`step`) on a store of valid trees is
  defined (no NULL dereference), gives the observation of the specification (`Spec.step`) on the abstracted store, and
  leaves a store of valid trees.  One case per operation, each from its theorem in RBValid.
-/
import CelloProofs.Lemmas.RBValid

namespace Cello.RB
open Std
variable {α β : Type} {cmp : α → α → Ordering}

def absStore (st : Store (Tree α β)) : Store (List (α × β)) := st.map (fun e => (e.1, e.2.abs))

def sizeStore (st : Store (Tree α β)) : Store (Nat × Nat) := st.map (fun e => (e.1, e.2.sizes))

/-- the sizes of the types of every tree as the history fixes them: given at `new`, taken over by `assign` / `copy`.
    Where `step` writes a tree back (`st.put`, which moves the entry to the front of the list) the sizes are put back too,
    changed or not: `Refines` asks that this store EQUALS `sizeStore` of the model's. -/
def tyStep (env : Store (Nat × Nat)) : Op α β → Store (Nat × Nat)
  | .new t ks vs _ => env.put t (ks, vs)
  | .set t _ _ => match env.get? t with | none => env | some z => env.put t z
  | .rem t _ => match env.get? t with | none => env | some z => env.put t z
  | .resize t _ => match env.get? t with | none => env | some z => env.put t z
  | .assign t s => match env.get? t, env.get? s with | some _, some z => env.put t z | _, _ => env
  | .copy t s => match env.get? s with | none => env | some z => env.put t z
  | .del t => match env.get? t with | none => env | some _ => env.erase t
  | _ => env

def Op.typed [Packed α] [Packed β] (env : Store (Nat × Nat)) : Op α β → Prop
  | .new _ ks vs init => ∀ e ∈ init, Fits (ks, vs) e
  | .set t k v => ∀ z, env.get? t = some z → Fits z (k, v)
  | _ => True

/-- a well-typed history (what `cast(key, m->ktype)` / `cast(val, m->vtype)` enforce in `Tree_Set`) -/
def WellTyped [Packed α] [Packed β] : Store (Nat × Nat) → List (Op α β) → Prop
  | _, [] => True
  | env, op :: ops => op.typed env ∧ WellTyped (tyStep env op) ops

section maps
variable {γ δ : Type} (f : γ → δ)

theorem get?_map (st : Store γ) (t : Nat) :
    Store.get? (st.map (fun e => (e.1, f e.2))) t = (st.get? t).map f := by
  simp [Store.get?, List.find?_map, Function.comp_def]

theorem erase_map (st : Store γ) (t : Nat) :
    Store.erase (st.map (fun e => (e.1, f e.2))) t = (st.erase t).map (fun e => (e.1, f e.2)) := by
  simp [Store.erase, List.filter_map, Function.comp_def]

theorem put_map (st : Store γ) (t : Nat) (x : γ) :
    Store.put (st.map (fun e => (e.1, f e.2))) t (f x) = (st.put t x).map (fun e => (e.1, f e.2)) := by
  simp only [Store.put, erase_map]; rfl

end maps

theorem get?_abs (st : Store (Tree α β)) (t : Nat) : (absStore st).get? t = (st.get? t).map Tree.abs :=
  get?_map Tree.abs st t

theorem get?_size (st : Store (Tree α β)) (t : Nat) : (sizeStore st).get? t = (st.get? t).map Tree.sizes :=
  get?_map Tree.sizes st t

section
variable [Packed α] [Packed β]

def AllValid (cmp : α → α → Ordering) (st : Store (Tree α β)) : Prop := ∀ e ∈ st, Valid cmp e.2

theorem AllValid.nil : AllValid cmp ([] : Store (Tree α β)) := fun _ h => by cases h

theorem AllValid.get {st : Store (Tree α β)} (h : AllValid cmp st) {t : Nat} {m : Tree α β}
    (hg : st.get? t = some m) : Valid cmp m := by
  simp only [Store.get?, Option.map_eq_some_iff] at hg
  obtain ⟨e, he, rfl⟩ := hg
  exact h e (List.mem_of_find?_eq_some he)

theorem AllValid.erase {st : Store (Tree α β)} (h : AllValid cmp st) (t : Nat) : AllValid cmp (st.erase t) :=
  fun e he => h e (List.mem_filter.mp he).1

theorem AllValid.put {st : Store (Tree α β)} (h : AllValid cmp st) (t : Nat) {m : Tree α β} (hm : Valid cmp m) :
    AllValid cmp (st.put t m) := by
  intro e he
  rcases List.mem_cons.mp he with rfl | he
  · exact hm
  · exact h.erase t e he

/-- what one operation has to achieve, for the model's result `r`, the specification's `s` and the sizes `ty` that the typing
    of histories predicts -/
abbrev Refines {ω : Type} (cmp : α → α → Ordering) (r : Option (Store (Tree α β) × ω)) (s : Store (List (α × β)) × ω)
    (ty : Store (Nat × Nat)) : Prop :=
  ∃ st' o, r = some (st', o) ∧ s = (absStore st', o) ∧ AllValid cmp st' ∧ ty = sizeStore st'

/-! Every operation leaves the store as it is, puts one valid tree back, or erases one: the three ways a step of the model
    agrees with the specification and with the typing. -/

theorem refines_same {ω : Type} {st : Store (Tree α β)} (hv : AllValid cmp st) (o : ω) :
    Refines cmp (some (st, o)) (absStore st, o) (sizeStore st) :=
  ⟨st, o, rfl, rfl, hv, rfl⟩

theorem refines_put {st : Store (Tree α β)} (hv : AllValid cmp st) (t : Nat) {m' : Tree α β} (hm' : Valid cmp m')
    (o : Obs α β) :
    Refines cmp (some (st.put t m', o)) ((absStore st).put t m'.abs, o) ((sizeStore st).put t m'.sizes) :=
  ⟨_, o, rfl, congrArg (·, o) (put_map Tree.abs st t m'), hv.put t hm', put_map Tree.sizes st t m'⟩

theorem refines_erase {st : Store (Tree α β)} (hv : AllValid cmp st) (t : Nat) (o : Obs α β) :
    Refines cmp (some (st.erase t, o)) ((absStore st).erase t, o) ((sizeStore st).erase t) :=
  ⟨_, o, rfl, congrArg (·, o) (erase_map Tree.abs st t), hv.erase t, erase_map Tree.sizes st t⟩

variable [LawfulPacked α] [LawfulPacked β]

theorem step_refines [TransCmp cmp] (hsrc : SourceOk) (st : Store (Tree α β)) (op : Op α β) (hv : AllValid cmp st)
    (hty : op.typed (sizeStore st)) :
    Refines cmp (step cmp st op) (Spec.step cmp (absStore st) op) (tyStep (sizeStore st) op) := by
  cases op <;> dsimp only [step, Spec.step, tyStep]
  case new t ks vs init =>
    obtain ⟨m, e, v, a, z⟩ := new_valid (cmp := cmp) hsrc ks vs init hty
    simp only [e, ← a, ← z, Option.map_some]
    exact refines_put hv t v .done
  case set t k v =>
    rw [get?_abs, get?_size]
    cases hg : st.get? t with
    | none => exact refines_same hv _
    | some m =>
      obtain ⟨m', e, v', a, z⟩ := set_valid hsrc m k v (hv.get hg) (hty m.sizes (by rw [get?_size, hg]; rfl))
      simp only [e, ← a, ← z, Option.map_some]
      exact refines_put hv t v' .done
  case rem t k =>
    rw [get?_abs, get?_size]
    cases hg : st.get? t with
    | none => exact refines_same hv _
    | some m =>
      obtain ⟨m', o, e, v', z, a⟩ := rem_valid hsrc m k (hv.get hg)
      simp only [e, ← z, Option.map_some]
      rcases a with ⟨a1, rfl, rfl⟩ | ⟨a1, rfl, a3⟩
      · simp only [a1]; exact refines_put hv t v' _
      · obtain ⟨w, hw⟩ := Option.isSome_iff_exists.mp a1
        simp only [hw, ← a3]; exact refines_put hv t v' _
  case get t k =>
    rw [get?_abs]
    cases hg : st.get? t with
    | none => exact refines_same hv _
    | some m =>
      simp only [Option.map_some, get_eq hsrc m k (hv.get hg).ordered]
      cases Spec.get cmp k m.abs <;> exact refines_same hv _
  case mem t k =>
    rw [get?_abs]
    cases hg : st.get? t with
    | none => exact refines_same hv _
    | some m => simp only [Option.map_some, mem_eq hsrc m k (hv.get hg).ordered]; exact refines_same hv _
  case len t =>
    rw [get?_abs]
    cases hg : st.get? t with
    | none => exact refines_same hv _
    | some m => simp only [Option.map_some, (hv.get hg).len_eq]; exact refines_same hv _
  case resize t n =>
    rw [get?_abs, get?_size]
    cases hg : st.get? t with
    | none => exact refines_same hv _
    | some m =>
      by_cases hn : n = 0
      · simp only [Tree.resize, if_pos hn, Option.map_some]; exact refines_put hv t (clear_valid m).1 .done
      · simp only [Tree.resize, if_neg hn, Option.map_some]; exact refines_put hv t (hv.get hg) _
  case assign t s =>
    rw [get?_abs, get?_abs, get?_size, get?_size]
    cases hg : st.get? t with
    | none => exact refines_same hv _
    | some m =>
      cases hs : st.get? s with
      | none => exact refines_same hv _
      | some src =>
        by_cases hts : t = s
        · -- `self is obj`: nothing happens; the map assigned to itself is itself
          subst hts
          cases hg.symm.trans hs
          simp only [if_true, hsrc.selfGuard, Tree.assignSelf, Option.map_some]
          exact refines_put hv t (hv.get hg) .done
        · obtain ⟨m', e, v', a, z⟩ := assign_valid (cmp := cmp) hsrc m src (hv.get hs)
          simp only [if_neg hts, e, ← a, ← z, Option.map_some]
          exact refines_put hv t v' .done
  case copy t s =>
    rw [get?_abs, get?_size]
    cases hs : st.get? s with
    | none => exact refines_same hv _
    | some src =>
      obtain ⟨m', e, v', a, z⟩ := copy_valid (cmp := cmp) hsrc src (hv.get hs)
      simp only [e, ← a, ← z, Option.map_some]
      exact refines_put hv t v' .done
  case iter t =>
    rw [get?_abs]
    cases hg : st.get? t with
    | none => exact refines_same hv _
    | some m => simp only [Option.map_some, iterFwd_eq m (hv.get hg).count]; exact refines_same hv _
  case riter t =>
    rw [get?_abs]
    cases hg : st.get? t with
    | none => exact refines_same hv _
    | some m => simp only [Option.map_some, iterBwd_eq m (hv.get hg).count]; exact refines_same hv _
  case del t =>
    rw [get?_abs, get?_size]
    cases hg : st.get? t with
    | none => exact refines_same hv _
    | some m => exact refines_erase hv t .done

theorem run_refines [TransCmp cmp] (hsrc : SourceOk) (ops : List (Op α β)) (st : Store (Tree α β)) (hv : AllValid cmp st)
    (hty : WellTyped (sizeStore st) ops) :
    ∃ st' os, run cmp st ops = some (st', os) ∧ Spec.run cmp (absStore st) ops = (absStore st', os) ∧
      AllValid cmp st' := by
  induction ops generalizing st with
  | nil => exact ⟨st, [], rfl, rfl, hv⟩
  | cons op ops ih =>
    obtain ⟨st1, o, e1, s1, v1, z1⟩ := step_refines hsrc st op hv hty.1
    obtain ⟨st2, os, e2, s2, v2⟩ := ih st1 v1 (by rw [← z1]; exact hty.2)
    exact ⟨st2, o :: os, by simp [run, e1, e2], by simp [Spec.run, s1, s2], v2⟩

end

end Cello.RB
