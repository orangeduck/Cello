import CelloProofs.Lemmas.FailSpec
/-
  C12, Array / List / Tuple / Table: what the list edits keep (the typing invariant is `typedItems`), the loops of `concat`, the
  element search against its specification, and the Table (`Table_Ideal_Size`, `assocSet`, `get`, `mem`, `get` on an address inside
  the slot array).
-/
namespace Cello.Fail

theorem forall_mem_removeAt {α : Type} {P : α → Prop} {xs : List α} (h : ∀ x ∈ xs, P x) (i : Nat) : ∀ x ∈ removeAt xs i, P x :=
  fun x hx => (List.mem_append.mp hx).elim (fun h' => h x (List.mem_of_mem_take h')) (fun h' => h x (List.mem_of_mem_drop h'))

theorem forall_mem_insertAt {α : Type} {P : α → Prop} {xs : List α} (h : ∀ x ∈ xs, P x) {a : α} (ha : P a) (i : Nat) :
    ∀ x ∈ insertAt xs i a, P x := by
  intro x hx
  rcases List.mem_append.mp hx with h' | h'
  · exact h x (List.mem_of_mem_take h')
  · rcases List.mem_cons.mp h' with rfl | h'
    · exact ha
    · exact h x (List.mem_of_mem_drop h')

theorem forall_mem_set {α : Type} {P : α → Prop} {xs : List α} (h : ∀ x ∈ xs, P x) {a : α} (ha : P a) (i : Nat) :
    ∀ x ∈ xs.set i a, P x :=
  fun x hx => (List.mem_or_eq_of_mem_set hx).elim (h x) (· ▸ ha)

theorem forall_mem_append_singleton {α : Type} {P : α → Prop} {xs : List α} (h : ∀ x ∈ xs, P x) {a : α} (ha : P a) : ∀ x ∈ xs ++ [a], P x :=
  fun x hx => (List.mem_append.mp hx).elim (h x) (fun h' => List.eq_of_mem_singleton h' ▸ ha)

theorem forall_mem_dropLast {α : Type} {P : α → Prop} {xs : List α} (h : ∀ x ∈ xs, P x) : ∀ x ∈ xs.dropLast, P x :=
  fun x hx => h x (List.dropLast_subset xs hx)

/-- typing invariant of Array / List contents -/
def typedItems (ty : Ty) (items : List Val) : Prop := ty.isElemTy ∧ ∀ x ∈ items, x.elemOf ty

theorem typedItems_kept {ty ty' : Ty} {xs xs' : List Val} (hty : ty' = ty) (h : (∀ x ∈ xs, x.elemOf ty) → ∀ x ∈ xs', x.elemOf ty) :
    typedItems ty xs → typedItems ty' xs' :=
  fun ⟨h1, h2⟩ => hty ▸ ⟨h1, h h2⟩

theorem zeroVal_elemOf (ty : Ty) (h1 : ty.isElemTy) (h2 : ty ≠ .str) : (zeroVal ty).elemOf ty := by
  cases ty <;> simp_all [zeroVal, Val.elemOf, Val.ty?, Ty.isElemTy]

theorem Arr.concatLoop_ok (ty : Ty) : ∀ (vs : List Val), (vs.any (fun v => !(assignTo ty v).isOk)) = false →
    ∃ r, Arr.concatLoop ty vs = (r, none) ∧ ∀ x ∈ r, x.elemOf ty := by
  intro vs
  induction vs with
  | nil => intro _; exact ⟨[], rfl, by simp⟩
  | cons v vs ih =>
    intro hk
    simp only [List.any_cons, Bool.or_eq_false_iff, Bool.not_eq_false'] at hk
    obtain ⟨r, hc, hr⟩ := ih hk.2
    cases ha : assignTo ty v with
    | ok w =>
      exact ⟨w :: r, by simp only [Arr.concatLoop, ha, hc], fun x hx => (List.mem_cons.mp hx).elim (· ▸ assignTo_elemOf _ _ _ ha) (hr x)⟩
    | raised x => simp [ha, R.isOk] at hk
    | ub => simp [ha, R.isOk] at hk

theorem Arr.concatLoop_exc (ty : Ty) (hty : ty.isElemTy) : ∀ (vs : List Val), (∀ v ∈ vs, v ≠ Val.nullstr) →
    (match (Arr.concatLoop ty vs).2 with
     | none => vs.findSome? (elemExc ty) = none
     | some (.raised e) => vs.findSome? (elemExc ty) = some e
     | some _ => False) := by
  intro vs
  induction vs with
  | nil => intro _; simp [Arr.concatLoop]
  | cons v vs ih =>
    intro h
    rcases assignTo_cases ty hty v (h v List.mem_cons_self) with ⟨w, ha, he⟩ | ⟨e, ha, he⟩ <;>
      simp only [Arr.concatLoop, ha, List.findSome?_cons, he]
    exact ih (fun w hw => h w (List.mem_cons_of_mem _ hw))

theorem Lst.concatLoop_exc (ty : Ty) (hty : ty.isElemTy) : ∀ (vs : List Val) (l : Lst), l.ty = ty →
    (∀ v ∈ vs, v ≠ Val.nullstr) → (l.concatLoop vs).2.exc? = vs.findSome? (elemExc ty) ∧ (l.concatLoop vs).2 ≠ .ub := by
  intro vs
  induction vs with
  | nil => intro l _ _; simp [Lst.concatLoop, R.exc?]
  | cons v vs ih =>
    intro l hl hn
    rcases assignTo_cases ty hty v (hn v List.mem_cons_self) with ⟨w, ha, he⟩ | ⟨e, ha, he⟩ <;>
      simp only [Lst.concatLoop, Lst.push, hl, ha, List.findSome?_cons, he]
    · exact ih _ rfl (fun w hw => hn w (List.mem_cons_of_mem _ hw))
    · exact ⟨rfl, nofun⟩

/-- `List_Concat` pushes item by item and may stop midway: typed contents stay typed also then -/
theorem Lst.concatLoop_out : ∀ (vs : List Val) (l : Lst),
    (l.concatLoop vs).1.ty = l.ty ∧
    ((vs.any fun v => !(assignTo l.ty v).isOk) = false → (l.concatLoop vs).2 = .ok .unit) ∧
    ((∀ x ∈ l.items, x.elemOf l.ty) → ∀ x ∈ (l.concatLoop vs).1.items, x.elemOf l.ty) := by
  intro vs
  induction vs with
  | nil => intro l; exact ⟨rfl, fun _ => rfl, id⟩
  | cons v vs ih =>
    intro l
    simp only [Lst.concatLoop, Lst.push, List.any_cons, Bool.or_eq_false_iff, Bool.not_eq_false']
    cases hw : assignTo l.ty v with
    | ok w =>
      obtain ⟨h1, h2, h3⟩ := ih { l with items := l.items ++ [w] }
      exact ⟨h1, fun hk => h2 hk.2, fun hel => h3 (forall_mem_append_singleton hel (assignTo_elemOf _ _ _ hw))⟩
    | raised e => exact ⟨rfl, fun hk => by simp [R.isOk] at hk, id⟩
    | ub => exact ⟨rfl, fun hk => by simp [R.isOk] at hk, id⟩

theorem eqv_elem (ty : Ty) (x v : Val) (hx : x.elemOf ty) (hv : v ≠ .nullstr) :
    (match elemExc ty v with
     | some e => eqv x v = .raised e
     | none => eqv x v = .ok (decide (x = v))) := by
  obtain ⟨hx1, hx2⟩ := hx
  -- the element is of the container's type: three pairs of `ty` and `x` remain, each against the five kinds of argument
  cases ty <;> cases x <;> simp only [Val.ty?, Option.some.injEq, reduceCtorEq] at hx1 hx2 <;>
    cases v <;> simp_all [eqv, elemExc, Val.ty?]

/-- the search for an argument with which every comparison answers, in either order of the operands of `eq`
    (`Array_Rem` / `List_Rem`: `eq(item, obj)`; `Tuple_Rem`: `eq(obj, item)`): found iff it is a member -/
theorem findEq_ok (b : Bool) (v : Val) : ∀ (items : List Val) (i : Nat),
    (∀ x ∈ items, (if b then eqv x v else eqv v x) = .ok (decide (x = v))) →
    ∃ r, findEq b v items i = .ok r ∧ (r.isSome ↔ v ∈ items) := by
  intro items
  induction items with
  | nil => intro i _; exact ⟨none, rfl, by simp⟩
  | cons x xs ih =>
    intro i h
    have hx := h x List.mem_cons_self
    obtain ⟨r, hr1, hr2⟩ := ih (i + 1) fun y hy => h y (List.mem_cons_of_mem _ hy)
    by_cases hxv : x = v
    · exact ⟨some i, by rw [findEq, hx]; simp [hxv], by simp [hxv]⟩
    · exact ⟨r, by rw [findEq, hx]; simp [hxv, hr1], by rw [hr2]; simp [List.mem_cons, Ne.symm hxv]⟩

theorem findEq_cases (ty : Ty) (v : Val) (hv : v ≠ .nullstr) (items : List Val) (hel : ∀ x ∈ items, x.elemOf ty) :
    (∃ e, findEq true v items 0 = .raised e ∧ searchExc ty items v = some e) ∨
    (∃ r, findEq true v items 0 = .ok r ∧ searchExc ty items v = none ∧ (r.isSome ↔ v ∈ items)) := by
  have he := fun x hx => eqv_elem ty x v (hel x hx) hv
  unfold searchExc
  cases h : elemExc ty v with
  | some e =>
    -- a wrong-typed argument fails the first comparison, if there is one
    cases items with
    | nil => exact .inr ⟨none, rfl, rfl, by simp⟩
    | cons x xs =>
      have := he x List.mem_cons_self
      rw [h] at this
      exact .inl ⟨e, by simp [findEq, this], by simp⟩
  | none =>
    simp only [h] at he
    obtain ⟨r, hr, hm⟩ := findEq_ok true v items 0 he
    exact .inr ⟨r, hr, by simp, hm⟩

/-- `eq(item, t->items[i])` for an argument of the items' type -/
theorem eqv_arg (ty : Ty) (x v : Val) (hx : x.elemOf ty) (hv : v.elemOf ty) :
    eqv v x = .ok (decide (x = v)) := by
  -- `eqv_elem` with the roles exchanged: nothing is documented against an argument of the items' type
  have h := eqv_elem ty v x hv hx.2
  have hn : elemExc ty x = none := by
    obtain ⟨h1, _⟩ := hx; cases x <;> simp_all [elemExc, Val.ty?]
  rw [hn] at h; simpa [eq_comm] using h

/-- the search of `Tuple_Rem` in items of one type, for an argument of that type -/
theorem findEq_arg (ty : Ty) (v : Val) (hv : v.elemOf ty) (items : List Val) (i : Nat)
    (hel : ∀ x ∈ items, x.elemOf ty) : ∃ r, findEq false v items i = .ok r ∧ (r.isSome ↔ v ∈ items) :=
  findEq_ok false v items i fun x hx => eqv_arg ty x v (hel x hx) hv

theorem idealSize_pos (n : Nat) : 0 < idealSize n := by
  unfold idealSize
  dsimp only
  have hs : 1 ≤ (n + 1) * 10 / 9 := by omega
  split
  · rename_i p hp
    have := List.find?_some hp
    simp at this; omega
  · have : 1 ≤ ((n + 1) * 10 / 9 + 8800019 - 1) / 8800019 := by omega
    omega

theorem mem_assocSet (items : List (Val × Val)) (k v : Val) (p : Val × Val) (h : p ∈ assocSet items k v) :
    p ∈ items ∨ p = (k, v) := by
  unfold assocSet at h
  split at h
  · rcases List.mem_map.mp h with ⟨q, hq, hqp⟩
    split at hqp
    · exact Or.inr hqp.symm
    · subst hqp; exact Or.inl hq
  · rcases List.mem_append.mp h with h | h
    · exact Or.inl h
    · simp at h; exact Or.inr h

theorem Tab.get_fst (t : Tab) (k : Val) : (t.get k).1 = t := by
  unfold Tab.get; (repeat' split) <;> rfl

theorem Tab.mem_fst (t : Tab) (k : Val) : (t.mem k).1 = t := by
  unfold Tab.mem; split <;> rfl

/-- `get` of a key that is there: a well-formed table that holds it has slots, and the key is of the key type -/
theorem Tab.get_present (t : Tab) (hw : t.wf) (k v : Val) (hl : t.items.lookup k = some v) : t.get k = (t, .ok (.val v)) := by
  obtain ⟨l₁, l₂, h1, _⟩ := List.lookup_eq_some_iff.mp hl
  have hmem : (k, v) ∈ t.items := by rw [h1]; simp
  have h0 : t.nslots ≠ 0 := fun h => by rw [hw.1 h] at hmem; cases hmem
  simp only [Tab.get, castTo_of_ty _ _ (hw.2 _ hmem), h0, if_false, hl]

/-- `Table_Get` on an address inside the slot array of a well-formed table is `Table_Get` on the object found there: the short cut for
    the key object of an occupied slot returns what the lookup of that key returns -/
theorem Tab.getSlot_eq_get (t : Tab) (hw : t.wf) (a : SlotArg) (x : Val) (hx : t.slotObj a = some x) : t.getSlot a = t.get x := by
  cases a with
  | key k =>
    cases hl : t.items.lookup k with
    | none => simp [Tab.slotObj, hl] at hx
    | some v =>
      obtain rfl : k = x := by simpa [Tab.slotObj, hl] using hx
      simp only [Tab.getSlot, hl, Tab.get_present t hw k v hl]
  | val k => simp only [Tab.slotObj] at hx; simp only [Tab.getSlot, hx]

end Cello.Fail
