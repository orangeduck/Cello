/-
  The abstract side of removals issued by destructors (`K p` = what the destructor of `p` deletes).  No table occurs; of a
  model state only the `running` flag and the two counters that decide when an allocation collects are read (`LedgerK`).
  `absExecO` is the nested GC_Rem / finalisation recursion on (ledger, pending slots), the pending slots being the list the
  sweep built, in its order, with struck-off slots set to `none`; `absFinLoop` is the release loop of GC_Sweep; `SweepL` and
  `LedgerK` are the ledger transitions of the registry operations built from them.  `absExec`, on (ledger, addresses
  waiting), is the image of `absExecO` when the struck-off slots are forgotten (`absExec_forget`); the history theorems do
  not use it, `C17_rem_nested` and `C17_nested_simulation` are stated with it.
-/
import CelloProofs.Lemmas.RegistryHistory
namespace Cello.Registry

/-- one deletion issued by a destructor: run `f` from the state reached so far and append its trace; a failure stays -/
def stepTr {α : Type} (f : α → Nat → Option (α × List Nat)) : Option (α × List Nat) → Nat → Option (α × List Nat) :=
  fun acc y =>
    match acc with
    | none => none
    | some (a, t) =>
      match f a y with
      | none => none
      | some (a', t') => some (a', t ++ t')

theorem foldl_stepTr_none {α : Type} (f : α → Nat → Option (α × List Nat)) (l : List Nat) : l.foldl (stepTr f) none = none := by
  induction l with
  | nil => rfl
  | cons z l ih => exact ih

/-- two outcomes agree: both fail, or both succeed with the same trace and states related by `P` -/
def RelTr {α β : Type} (P : α → β → Prop) : Option (α × List Nat) → Option (β × List Nat) → Prop
  | none, none => True
  | some (a, t), some (b, t') => t = t' ∧ P a b
  | _, _ => False

theorem foldl_stepTr_rel {α β : Type} {P : α → β → Prop} {f : α → Nat → Option (α × List Nat)}
    {g : β → Nat → Option (β × List Nat)} (l : List Nat) (hstep : ∀ y ∈ l, ∀ a b, P a b → RelTr P (f a y) (g b y)) :
    ∀ x x', RelTr P x x' → RelTr P (l.foldl (stepTr f) x) (l.foldl (stepTr g) x') := by
  induction l with
  | nil => intro x x' h; exact h
  | cons z l ih =>
    intro x x' h
    simp only [List.foldl_cons]
    apply ih (fun y hy => hstep y (List.mem_cons_of_mem _ hy))
    match x, x', h with
    | none, none, _ => trivial
    | some (a, t), some (b, t'), ⟨e, hp⟩ =>
      subst e
      have := hstep z List.mem_cons_self a b hp
      simp only [stepTr]
      match hx : f a z, hy : g b z, this with
      | none, none, _ => trivial
      | some (a', t1), some (b', t2), ⟨e', hp'⟩ => subst e'; exact ⟨rfl, hp'⟩

theorem foldl_stepTr_cons_some {α : Type} {f : α → Nat → Option (α × List Nat)} {z : Nat} {l : List Nat} {a a2 : α} {t t2 : List Nat}
    (h : (z :: l).foldl (stepTr f) (some (a, t)) = some (a2, t2)) :
    ∃ am tm, f a z = some (am, tm) ∧ l.foldl (stepTr f) (some (am, t ++ tm)) = some (a2, t2) := by
  rw [List.foldl_cons] at h
  cases hz : f a z with
  | none => rw [show stepTr f (some (a, t)) z = none by simp [stepTr, hz], foldl_stepTr_none] at h; cases h
  | some res => exact ⟨res.1, res.2, rfl, by rw [show stepTr f (some (a, t)) z = some (res.1, t ++ res.2) by simp [stepTr, hz]] at h; exact h⟩

theorem foldl_stepTr_inv {α : Type} {f : α → Nat → Option (α × List Nat)} (Q : α → Prop) (l : List Nat)
    (hstep : ∀ a y a' t, Q a → f a y = some (a', t) → Q a') :
    ∀ a t a' t', Q a → l.foldl (stepTr f) (some (a, t)) = some (a', t') → Q a' := by
  induction l with
  | nil => intro a t a' t' h e; cases e; exact h
  | cons z l ih =>
    intro a t a' t' h e
    obtain ⟨am, tm, hz, e'⟩ := foldl_stepTr_cons_some e
    exact ih _ _ a' t' (hstep a z am tm h hz) e'

/-- ledger and pending slots (`none` = struck off) -/
abbrev AbsO := Ledger × List (Option Nat)

/-- GC_Rem / finalisation on (ledger, pending slots); the fold's step function is `stepTr` of the recursive call, written
    inline (`absExecO_fin_succ`) -/
def absExecO (K : Nat → List Nat) (running : Bool) : (fuel : Nat) → AbsO → Cmd → Option (AbsO × List Nat)
  | 0, _, _ => none
  | fuel+1, a, .fin p =>
    match (K p).foldl (fun (acc : Option (AbsO × List Nat)) y =>
        match acc with
        | none => none
        | some (a', t) =>
          match absExecO K running fuel a' (.rem y) with
          | none => none
          | some (a'', t') => some (a'', t ++ t')) (some (a, [])) with
    | none => none
    | some (a', t) => some (a', t ++ [p])
  | fuel+1, a, .rem x =>
    if !running then some (a, [])
    else
      match a.2.findIdx? (fun y => y == some x) with
      | some i => absExecO K running fuel (a.1, a.2.set i none) (.fin x)
      | none =>
        if x ∈ a.1.map Prod.fst then absExecO K running fuel (a.1.filter (fun y => y.1 != x), a.2) (.fin x)
        else some (a, [])

theorem absExecO_fin_succ (K : Nat → List Nat) (running : Bool) (fuel : Nat) (a : AbsO) (p : Nat) :
    absExecO K running (fuel+1) a (.fin p) =
      match (K p).foldl (stepTr (fun a' y => absExecO K running fuel a' (.rem y))) (some (a, [])) with
      | none => none
      | some (a', t) => some (a', t ++ [p]) := by
  rw [absExecO]
  -- `rfl` does not identify the step function of the fold in `absExecO` with `stepTr …`: compare them argument by argument
  congr 2
  funext acc y
  rcases acc with _ | ⟨a', t⟩
  · rfl
  · unfold stepTr; simp only []; cases absExecO K running fuel a' (.rem y) <;> rfl

theorem absExecO_rem_succ (K : Nat → List Nat) (fuel : Nat) (a : AbsO) (x : Nat) :
    absExecO K true (fuel+1) a (.rem x) =
      match a.2.findIdx? (fun y => y == some x) with
      | some i => absExecO K true fuel (a.1, a.2.set i none) (.fin x)
      | none =>
        if x ∈ a.1.map Prod.fst then absExecO K true fuel (a.1.filter (fun y => y.1 != x), a.2) (.fin x)
        else some (a, []) := by
  rw [absExecO]; rfl

/-- ledger of live managed objects and the addresses waiting on the pending list -/
abbrev Abs := Ledger × List Nat

def Abs.size (a : Abs) : Nat := a.1.length + a.2.length

/-- `absExecO` with the struck-off slots forgotten: an address leaves the list of those waiting where `absExecO` sets its
    slot to `none` -/
def absExec (K : Nat → List Nat) (running : Bool) : (fuel : Nat) → Abs → Cmd → Option (Abs × List Nat)
  | 0, _, _ => none
  | fuel+1, a, .fin p =>
    match (K p).foldl (fun (acc : Option (Abs × List Nat)) y =>
        match acc with
        | none => none
        | some (a', t) =>
          match absExec K running fuel a' (.rem y) with
          | none => none
          | some (a'', t') => some (a'', t ++ t')) (some (a, [])) with
    | none => none
    | some (a', t) => some (a', t ++ [p])
  | fuel+1, a, .rem x =>
    if !running then some (a, [])
    else if x ∈ a.2 then absExec K running fuel (a.1, a.2.erase x) (.fin x)
    else if x ∈ a.1.map Prod.fst then absExec K running fuel (a.1.filter (fun y => y.1 != x), a.2) (.fin x)
    else some (a, [])

theorem absExec_fin_succ (K : Nat → List Nat) (running : Bool) (f : Nat) (a : Abs) (p : Nat) :
    absExec K running (f+1) a (.fin p) =
      match (K p).foldl (stepTr (fun a' y => absExec K running f a' (.rem y))) (some (a, [])) with
      | none => none
      | some (a', t) => some (a', t ++ [p]) := by
  rw [absExec]
  congr 2
  funext acc y
  rcases acc with _ | ⟨a', t⟩
  · rfl
  · unfold stepTr; simp only []; cases absExec K running f a' (.rem y) <;> rfl

theorem findIdx?_none_iff (l : List (Option Nat)) (x : Nat) :
    l.findIdx? (fun y => y == some x) = none ↔ x ∉ l.filterMap id := by
  rw [List.findIdx?_eq_none_iff, List.mem_filterMap]
  constructor
  · rintro h ⟨a, ha, hax⟩
    have := h a ha
    simp only [id] at hax
    rw [hax] at this
    simp at this
  · intro h y hy
    cases hyx : (y == some x) with
    | false => rfl
    | true => exact absurd ⟨y, hy, by simpa using hyx⟩ h

theorem findIdx?_some_filterMap (l : List (Option Nat)) (x : Nat) :
    ∀ i, l.findIdx? (fun y => y == some x) = some i →
      x ∈ l.filterMap id ∧ (l.set i none).filterMap id = (l.filterMap id).erase x := by
  induction l with
  | nil => intro i h; simp at h
  | cons a l ih =>
    intro i h
    rw [List.findIdx?_cons] at h
    split at h
    · rename_i heq
      cases h
      have : a = some x := by simpa using heq
      subst this
      simp
    · rename_i hne
      cases hl : l.findIdx? (fun y => y == some x) with
      | none => rw [hl] at h; simp at h
      | some j =>
        rw [hl] at h; simp at h; subst h
        obtain ⟨h1, h2⟩ := ih j hl
        cases a with
        | none => simp [List.set_cons_succ, h1, h2]
        | some v =>
          have hvx : v ≠ x := by intro hv; apply hne; simp [hv]
          simp only [List.set_cons_succ, List.filterMap_cons, id, h2]
          refine ⟨List.mem_cons_of_mem _ h1, ?_⟩
          rw [List.erase_cons]
          simp [hvx]

/-- the addresses still waiting in the pending slots -/
def AbsO.forget (a : AbsO) : Abs := (a.1, a.2.filterMap id)

theorem absExec_forget (K : Nat → List Nat) (running : Bool) :
    ∀ (fuel : Nat) (a : AbsO) (cmd : Cmd),
      RelTr (fun (a' : Abs) (b' : AbsO) => a' = b'.forget) (absExec K running fuel a.forget cmd) (absExecO K running fuel a cmd) := by
  intro fuel
  induction fuel with
  | zero => intro a cmd; exact trivial
  | succ fuel ih =>
    intro a cmd
    cases cmd with
    | fin p =>
      rw [absExec_fin_succ, absExecO_fin_succ]
      have := foldl_stepTr_rel (K p) (P := fun (a' : Abs) (b' : AbsO) => a' = b'.forget)
        (f := fun a' y => absExec K running fuel a' (.rem y)) (g := fun b' y => absExecO K running fuel b' (.rem y))
        (fun y _ a' b' h => by subst h; exact ih b' (.rem y)) (some (a.forget, [])) (some (a, [])) ⟨rfl, rfl⟩
      match hx : (K p).foldl _ (some (a.forget, [])), hy : (K p).foldl _ (some (a, [])), this with
      | none, none, _ => trivial
      | some (a', t), some (b', t'), ⟨e1, e2⟩ => subst e1; exact ⟨rfl, e2⟩
    | rem x =>
      simp only [absExec, absExecO]
      cases running with
      | false => exact ⟨rfl, rfl⟩
      | true =>
        simp only [Bool.not_true, Bool.false_eq_true, if_false]
        show RelTr _ (if x ∈ a.2.filterMap id then _ else if x ∈ a.1.map Prod.fst then _ else _) _
        cases hidx : a.2.findIdx? (fun y => y == some x) with
        | some i =>
          -- the first slot that holds `x` is struck off: `x` leaves the set once
          obtain ⟨m1, m2⟩ := findIdx?_some_filterMap a.2 x i hidx
          rw [if_pos m1]
          have := ih (a.1, a.2.set i none) (.fin x)
          unfold AbsO.forget at this
          rw [m2] at this
          exact this
        | none =>
          rw [if_neg ((findIdx?_none_iff a.2 x).1 hidx)]
          by_cases hL : x ∈ a.1.map Prod.fst
          · simp only [if_pos hL]; exact ih (a.1.filter (fun y => y.1 != x), a.2) (.fin x)
          · simp only [if_neg hL]; exact ⟨rfl, rfl⟩

/-- the fuel the model gives a nested removal, in abstract terms -/
def absFuel (a : AbsO) : Nat := 2 * (a.1.length + a.2.length) + 4

/-- the last loop of GC_Sweep on (ledger, pending slots) -/
def absFinLoop (K : Nat → List Nat) (running : Bool) : (todo i : Nat) → AbsO → List Nat → Option (AbsO × List Nat)
  | 0, _, a, t => some (a, t)
  | todo+1, i, a, t =>
    match a.2[i]? with
    | some (some p) =>
      match absExecO K running (absFuel (a.1, a.2.set i none) + 1) (a.1, a.2.set i none) (.fin p) with
      | none => none
      | some (a2, t') => absFinLoop K running todo (i+1) a2 (t ++ t')
    | _ => absFinLoop K running todo (i+1) a t

theorem absFinLoop_succ (K : Nat → List Nat) (running : Bool) (todo i : Nat) (a : AbsO) (t : List Nat) :
    absFinLoop K running (todo+1) i a t =
      match a.2[i]? with
      | some (some p) =>
        match absExecO K running (absFuel (a.1, a.2.set i none) + 1) (a.1, a.2.set i none) (.fin p) with
        | none => none
        | some (a2, t') => absFinLoop K running todo (i+1) a2 (t ++ t')
      | _ => absFinLoop K running todo (i+1) a t := by
  rw [absFinLoop]

theorem absFinLoop_ledger (K : Nat → List Nat) (running : Bool)
    (hfin : ∀ (fuel : Nat) (b : AbsO) (p : Nat) (b' : AbsO) (t : List Nat), absExecO K running fuel b (.fin p) = some (b', t) → b'.1 = b.1) :
    ∀ (todo i : Nat) (a : AbsO) (t : List Nat) (a' : AbsO) (t' : List Nat),
      absFinLoop K running todo i a t = some (a', t') → a'.1 = a.1 := by
  intro todo
  induction todo with
  | zero =>
    intro i a t a' t' h
    simp only [absFinLoop, Option.some.injEq, Prod.mk.injEq] at h
    rw [← h.1]
  | succ todo ih =>
    intro i a t a' t' h
    rw [absFinLoop] at h
    split at h
    · split at h
      · cases h
      · rename_i hcall
        exact (ih _ _ _ _ _ h).trans (hfin _ (a.1, a.2.set i none) _ _ _ hcall)
    · exact ih _ _ _ _ _ h

/-- a collection on the ledger: the unmarked non-root objects are reclaimed and finalised in some order (each once); their
    destructors' deletions act on what is kept and on what is still waiting -/
def SweepL (K : Nat → List Nat) (running : Bool) (L : Ledger) (marks : List Nat) (L' : Ledger) : Prop :=
  ∃ (order : List Nat) (a' : AbsO) (t : List Nat), order.Nodup ∧
    (∀ p, p ∈ order ↔ ∃ b, (p, b) ∈ L ∧ (p, b) ∉ collectL L marks) ∧
    absFinLoop K running order.length 0 (collectL L marks, order.map some) [] = some (a', t) ∧ L' = a'.1

/-- the ledger transitions that explain the operations -/
inductive LedgerK (K : Nat → List Nat) (r : Reg) (L : Ledger) : Op → Ledger → Prop where
  | new_plain (p root marks) : r.running = true → ¬ (r.nitems + 1 > r.mitems) → LedgerK K r L (.new p root marks) ((p, root) :: L)
  | new_collect (p root marks L') : r.running = true → r.nitems + 1 > r.mitems → SweepL K true ((p, root) :: L) marks L' →
      LedgerK K r L (.new p root marks) L'
  | new_stopped (p root marks) : r.running = false → LedgerK K r L (.new p root marks) L
  | newRaw (p) : LedgerK K r L (.newRaw p) L
  | del_run (p a' t) : r.running = true → absExecO K true (absFuel (L, [])) (L, []) (.rem p) = some (a', t) →
      LedgerK K r L (.del p) a'.1
  | del_stopped (p) : r.running = false → LedgerK K r L (.del p) L
  | delRaw (p a' t) : absExecO K r.running (absFuel (L, []) + 1) (L, []) (.fin p) = some (a', t) → LedgerK K r L (.delRaw p) a'.1
  | sweep (marks L') : SweepL K r.running L marks L' → LedgerK K r L (.sweep marks) L'
  | stop : LedgerK K r L .stop L
  | start : LedgerK K r L .start L

theorem absExecO_noK_fin (running : Bool) (fuel : Nat) (a : AbsO) (p : Nat) :
    absExecO noK running (fuel+1) a (.fin p) = some (a, [p]) := by
  simp [absExecO, noK]

theorem absFinLoop_noK (running : Bool) (todo i : Nat) (a : AbsO) (t : List Nat) (a' : AbsO) (t' : List Nat)
    (h : absFinLoop noK running todo i a t = some (a', t')) : a'.1 = a.1 := by
  refine absFinLoop_ledger noK running (fun fuel b p b' t h => ?_) todo i a t a' t' h
  cases fuel with
  | zero => cases h
  | succ fuel => rw [absExecO_noK_fin] at h; cases h; rfl

theorem ledgerK_noK {r : Reg} {L : Ledger} {op : Op} {L' : Ledger} (h : LedgerK noK r L op L') : L' = ledgerStep r L op := by
  have sweepL : ∀ running L marks L', SweepL noK running L marks L' → L' = collectL L marks := by
    rintro running L marks L' ⟨order, a', t, _, _, hrun, rfl⟩
    exact absFinLoop_noK running _ _ _ _ _ _ hrun
  cases h with
  | new_plain p root marks hr hth => simp only [ledgerStep, hr, if_true, if_neg hth]
  | new_collect p root marks L' hr hth hs => simp only [ledgerStep, hr, if_true, if_pos hth]; exact sweepL _ _ _ _ hs
  | new_stopped p root marks hr => simp only [ledgerStep, hr, Bool.false_eq_true, if_false]
  | newRaw p => rfl
  | del_run p a' t hr ha =>
    simp only [ledgerStep, hr, if_true]
    have hfuel : absFuel (L, []) = (2 * L.length + 2) + 1 + 1 := by simp only [absFuel, List.length_nil]; omega
    rw [hfuel, absExecO] at ha
    simp only [Bool.not_true, Bool.false_eq_true, if_false, List.findIdx?_nil] at ha
    by_cases hL : p ∈ L.map Prod.fst
    · rw [if_pos hL, absExecO_noK_fin] at ha; cases ha; rfl
    · rw [if_neg hL] at ha; cases ha; exact (filter_ne_self L p hL).symm
  | del_stopped p hr => simp only [ledgerStep, hr, Bool.false_eq_true, if_false]
  | delRaw p a' t ha => rw [absExecO_noK_fin] at ha; cases ha; rfl
  | sweep marks L' hs => exact sweepL _ _ _ _ hs
  | stop => rfl
  | start => rfl

theorem absExecO_stopped (K : Nat → List Nat) :
    ∀ (fuel : Nat) (a : AbsO) (cmd : Cmd) (a' : AbsO) (t : List Nat), absExecO K false fuel a cmd = some (a', t) → a' = a := by
  intro fuel
  induction fuel with
  | zero => intro a cmd a' t h; cases h
  | succ fuel ih =>
    intro a cmd a' t h
    cases cmd with
    | rem x =>
      simp only [absExecO, Bool.not_false, if_true, Option.some.injEq, Prod.mk.injEq] at h
      exact h.1.symm
    | fin p =>
      rw [absExecO_fin_succ] at h
      cases hf : (K p).foldl (stepTr (fun a' y => absExecO K false fuel a' (.rem y))) (some (a, [])) with
      | none => rw [hf] at h; cases h
      | some res =>
        rw [hf] at h
        simp only [Option.some.injEq, Prod.mk.injEq] at h
        rw [← h.1]
        exact foldl_stepTr_inv (· = a) (K p) (fun a1 y a2 t2 h1 h2 => (ih a1 (.rem y) a2 t2 h2).trans h1) a [] res.1 res.2 rfl hf

theorem absFinLoop_stopped (K : Nat → List Nat) (todo i : Nat) (a : AbsO) (t : List Nat) (a' : AbsO) (t' : List Nat)
    (h : absFinLoop K false todo i a t = some (a', t')) : a'.1 = a.1 :=
  absFinLoop_ledger K false (fun _ _ _ _ _ h => by rw [absExecO_stopped K _ _ _ _ _ h]) todo i a t a' t' h

end Cello.Registry
