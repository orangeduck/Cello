/-
  The allocating-Assign layer of Cello/HeapMid.lean (`DMach`, `AView`).  The `Mach` component of a `DMach` run is the `Mach` run
  (`DMach.exec_m`); the safety notion `DeepSafe`; and the one theorem about operations whose `assign` stands behind the publication of its
  slot, i.e. behind the statements that bring the slot into the range the Mark instance walks (`nitems++`, `Array_Alloc`):
  `deepSafe_assign_last`, with its case of a block that is exactly full (`deepSafe_set`).
-/
import Cello.HeapMid
import CelloProofs.Lemmas.MarkMid

namespace Cello.Heap.Mid
open CelloGen.GcMid

variable {α : Type}

theorem DMach.step_m (D : Deep α) (env : Env α) (st : DMach α) (e : Ev) : (st.step D env e).m = st.m.step env e := rfl

theorem DMach.run_m (D : Deep α) (env : Env α) : ∀ (evs : List Ev) (st : DMach α), (st.run D env evs).m = st.m.run env evs
  | [], _ => rfl
  | e :: es, st => by
    show (DMach.run D env es (st.step D env e)).m = Mach.run env es (st.m.step env e)
    rw [DMach.run_m D env es]; rfl

theorem DMach.eachLoop_m (D : Deep α) (env : Env α) (body : List Ev) :
    ∀ (js : List Nat) (st : DMach α), (DMach.eachLoop D env body js st).m = Mach.eachLoop env body js st.m
  | [], _ => rfl
  | j :: js, st => by
    show (DMach.eachLoop D env body js (st.run D { env with j := j } body)).m = Mach.eachLoop env body js (st.m.run { env with j := j } body)
    rw [DMach.eachLoop_m D env body js, DMach.run_m]

theorem DMach.whileLoop_m (D : Deep α) (env : Env α) (body : List Ev) :
    ∀ (fuel : Nat) (st : DMach α), (DMach.whileLoop D env body fuel st).m = Mach.whileLoop env body fuel st.m
  | 0, _ => rfl
  | fuel + 1, st => by
    unfold DMach.whileLoop Mach.whileLoop
    split
    · rw [DMach.whileLoop_m D env body fuel, DMach.run_m]
    · rfl

theorem DMach.instr_m (D : Deep α) (env : Env α) (st : DMach α) (ins : Instr) : (st.instr D env ins).m = st.m.instr env ins := by
  cases ins with
  | seq evs => exact DMach.run_m D env evs st
  | each body => exact DMach.eachLoop_m D env body _ st
  | whileLen body => exact DMach.whileLoop_m D env body _ st
  | fill body => exact DMach.eachLoop_m D env body _ st

theorem DMach.exec_m (D : Deep α) (env : Env α) : ∀ (prog : List Instr) (st : DMach α), (st.exec D env prog).m = st.m.exec env prog
  | [], _ => rfl
  | i :: is, st => by
    show (DMach.exec D env is (st.instr D env i)).m = Mach.exec env is (st.m.instr env i)
    rw [DMach.exec_m D env is, DMach.instr_m]

theorem DMach.exec_seq (D : Deep α) (env : Env α) (evs : List Ev) (st : DMach α) : st.exec D env [.seq evs] = st.run D env evs := rfl

theorem DMach.step_aviews_of_not_assign (D : Deep α) (env : Env α) (st : DMach α) (e : Ev)
    (h1 : ∀ s, e ≠ .assign s) (h2 : e ≠ .assignPend) : (st.step D env e).aviews = st.aviews := by
  cases e <;> simp_all [DMach.step]

theorem DMach.run_aviews_of_not_assign (D : Deep α) (env : Env α) : ∀ (evs : List Ev) (st : DMach α),
    (∀ e ∈ evs, (∀ s, e ≠ .assign s) ∧ e ≠ .assignPend) → (st.run D env evs).aviews = st.aviews
  | [], _, _ => rfl
  | e :: es, st, h => by
    show (DMach.run D env es (st.step D env e)).aviews = _
    rw [DMach.run_aviews_of_not_assign D env es _ (fun x hx => h x (List.mem_cons_of_mem _ hx)),
      DMach.step_aviews_of_not_assign D env st e (h e List.mem_cons_self).1 (h e List.mem_cons_self).2]

/-- **deep-safe allocation points**: at every allocation point of every element assignment of the operation, the container's Mark instance
    reads only constructed elements, presents the element under assignment as soon as one of its new fields is stored (`k > 0`), and presents
    every element the container holds when the operation completes — except the copies of operand elements that are not completely assigned yet
    (`env.src.drop v.j`: round `j` is the one in progress; their objects do not exist yet, or are covered by the clause about `part`) and zeroed
    elements -/
def DeepSafe (env : Env α) (r : DMach α) : Prop :=
  ∀ v ∈ r.aviews,
    (∀ c ∈ v.cells, c ≠ none) ∧ (v.k = 0 ∨ some v.part ∈ v.cells) ∧
    ∀ x ∈ r.m.final env, some x ∈ v.cells ∨ x ∈ env.src.drop v.j ∨ x = env.zero

/-- **from the allocation points to elements**: a deep-safe allocation point presents every element of `keep` — elements the container holds
    when the operation completes, other than zeroed ones and the operand's copies that are not complete yet — and, once a field of it is
    stored, the element under assignment -/
theorem DeepSafe.kept {env : Env α} {r : DMach α} (hs : DeepSafe env r) {v : AView α} (hv : v ∈ r.aviews) {keep : List α}
    (hkeep : ∀ x ∈ keep, x ∈ r.m.final env ∧ x ∉ env.src.drop v.j ∧ x ≠ env.zero) :
    ∀ e ∈ keep ++ (if v.k = 0 then [] else [v.part]), e ∈ v.elems := by
  obtain ⟨_, hpart, hfin⟩ := hs v hv
  intro e he
  rcases List.mem_append.mp he with h1 | h1
  · obtain ⟨hf, hnd, hnz⟩ := hkeep e h1
    exact mem_filterMap_id.mpr ((hfin e hf).resolve_right fun h => h.elim hnd hnz)
  · split at h1
    · cases h1
    · rename_i hk
      exact List.mem_singleton.mp h1 ▸ mem_filterMap_id.mpr (hpart.resolve_left hk)

theorem mem_avs {D : Deep α} {env : Env α} {old : α} {f : α → List (Cell α)} {v : AView α} (h : v ∈ DMach.avs D env old f) :
    v.j = env.j ∧ v.cells = f v.part := by
  simp only [DMach.avs, List.mem_map] at h
  obtain ⟨qk, _, rfl⟩ := h
  exact ⟨rfl, rfl⟩

/-- the allocation points of ONE in-place assignment whose target the Mark instance presents (`f q`: what it presents while the target is `q`) -/
theorem deepSafe_of_avs {D : Deep α} {env : Env α} {r : DMach α} {old : α} {f : α → List (Cell α)}
    (hav : r.aviews = DMach.avs D env old f)
    (hall : ∀ q, ∀ c ∈ f q, c ≠ none) (hself : ∀ q, some q ∈ f q)
    (hfin : ∀ q, ∀ x ∈ r.m.final env, x = env.val ∨ some x ∈ f q) : DeepSafe env r := by
  intro v hv
  rw [hav] at hv
  obtain ⟨hj, hc⟩ := mem_avs hv
  rw [hc]
  refine ⟨hall _, Or.inr (hself _), fun x hx => ?_⟩
  rcases hfin v.part x hx with h | h
  · right
    rw [h, hj]
    exact val_mem_drop_or_zero env
  · exact Or.inl h

/-- **an operation that ends with its one `assign`, in a slot the Mark instance walks, is deep-safe**: every allocation point sees the
    elements in front of the slot (`A`), the element under assignment, and the walked elements behind it (`B`) — which is what the container
    holds when the operation completes.  `hc`, `hp`, `hpres`, `hall`: the `Mach` state in front of the `assign`; `hno`: no statement in
    front of it is an `assign`; `hevs`: the extracted list `evs'` is the one written out (`rfl` at the call). -/
theorem deepSafe_assign_last (D : Deep α) (env : Env α) (evs : List Ev) (s : Sel) (m0 : Mach α) {A R B : List (Cell α)} {old : α}
    {evs' : List Ev} (hevs : evs' = evs ++ [.assign s]) (hno : ∀ e ∈ evs, (∀ s, e ≠ .assign s) ∧ e ≠ .assignPend)
    (hc : (m0.run env evs).cells = A ++ some old :: R) (hp : (m0.run env evs).pos env s = A.length)
    (hpres : ∀ q : α, presented env.shape (A ++ some q :: R) (m0.run env evs).n = A ++ some q :: B) (hall : ∀ c ∈ A ++ B, c ≠ none) :
    DeepSafe env (DMach.exec D env [.seq evs'] { m := m0 }) := by
  subst hevs
  rw [DMach.exec_seq]
  have hrun : DMach.run D env (evs ++ [.assign s]) { m := m0 } = (DMach.run D env evs { m := m0 }).step D env (.assign s) := List.foldl_append
  have hm := DMach.run_m D env evs { m := m0 }
  refine deepSafe_of_avs (D := D) (old := old) (f := fun q => A ++ some q :: B) ?_ (all_some_insert hall) (fun q => by simp) ?_
  · rw [hrun]
    simp only [DMach.step, hm, hc, hp, List.getElem?_append_right (Nat.le_refl _), Nat.sub_self, List.getElem?_cons_zero,
      DMach.run_aviews_of_not_assign D env evs _ hno, List.nil_append, List.set_append_right _ _ (Nat.le_refl _), List.set_cons_zero, hpres]
  · intro q x hx
    rw [hrun, DMach.step_m, hm, Mach.step_assign hc hp, Mach.final] at hx
    simp only [Mach.view, Mach.presented, hpres, mem_filterMap_id, List.mem_append, List.mem_cons, Option.some.injEq] at hx ⊢
    rcases hx with h | h | h
    · exact Or.inr (Or.inl h)
    · exact Or.inl h
    · exact Or.inr (Or.inr (Or.inr h))

/-- **an operation that assigns in place in a container whose block is exactly full** (`Array_Set`, `List_Set`, `Tree_Set` on a key that
    exists; `evs`: what stands in front of the `assign` and leaves block and length field alone) **is deep-safe**: whichever Mark instance
    the container has, it walks the whole block (`presented_full`), the element under assignment included -/
theorem deepSafe_set (D : Deep α) (env : Env α) (elems : List α) (hi : env.i < elems.length) (evs : List Ev) {evs' : List Ev}
    (hevs : evs' = evs ++ [.assign .idx]) (hno : ∀ e ∈ evs, (∀ s, e ≠ .assign s) ∧ e ≠ .assignPend)
    (hc : ((Mach.init elems).run env evs).cells = (Mach.init elems).cells) (hn : ((Mach.init elems).run env evs).n = elems.length) :
    DeepSafe env (DMach.exec D env [.seq evs'] (DMach.initCap elems [])) := by
  have hA : ((elems.map some).take env.i).length = env.i := by simp; omega
  refine deepSafe_assign_last D env evs .idx _ (B := (elems.map some).drop (env.i + 1)) hevs hno (hc.trans (init_split elems hi)) hA.symm
    (fun q => ?_) (all_some_take_drop elems _ _)
  have := presented_full env.shape ((elems.map some).take env.i ++ some q :: (elems.map some).drop (env.i + 1))
  rwa [show ((elems.map some).take env.i ++ some q :: (elems.map some).drop (env.i + 1)).length = elems.length by simp; omega, ← hn] at this

end Cello.Heap.Mid
