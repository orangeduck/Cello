/-
  The store-level Tuple (`TupS`) simulates the list-level `Tup` operation by operation and never leaves the
  block.  Same method as SeqStoreArr, over the block lemmas of SeqBlock; `enc` is what the block of a Tuple holds (the Terminal
  cell moves with the items, every `realloc` gives the block its exact size).  The operations that reallocate are taken on heap
  Tuples (`Abs`); `get`, `set`, `sort`, iteration and `mem` do not look at the allocation and are taken on any Tuple block
  (`Cells`), as are `Terminal` stored as an element and the refusals of a Tuple that is not on the heap.
-/
import Cello.SeqStore
import CelloProofs.Lemmas.SeqTup
import CelloProofs.Lemmas.SortSorted
import CelloProofs.Lemmas.SeqBlock

namespace Cello.Seq
variable {α : Type}

namespace TupS

/-- `Block.Holds s.cells l`, written out -/
def Pre (s : TupS α) (l : List (TCell α)) : Prop := ∀ k, k < l.length → s.cells[k]? = some (l[k]?)

theorem Pre.holds {s : TupS α} {l : List (TCell α)} (h : s.Pre l) : Block.Holds s.cells l := h

theorem Pre.rd {s : TupS α} {l : List (TCell α)} (h : s.Pre l) (k : Nat) (hk : k < l.length) : s.rd k = l[k]? := h.holds.getD hk

theorem wr_eq (s : TupS α) {k : Nat} (x : TCell α) (hk : k < s.cells.size) :
    s.wr k x = some { s with cells := s.cells.setIfInBounds k (some x) } := if_pos hk

theorem wr_inv {s s' : TupS α} {k : Nat} {x : TCell α} (h : s.wr k x = some s') :
    k < s.cells.size ∧ s' = { s with cells := s.cells.setIfInBounds k (some x) } := by
  unfold wr at h
  split at h
  · cases h; exact ⟨‹_›, rfl⟩
  · cases h

theorem memmove_eq (s : TupS α) {d sr c : Nat} (h1 : sr + c ≤ s.cells.size) (h2 : d + c ≤ s.cells.size) :
    s.memmove d sr c = some { s with cells := Block.move s.cells d sr c } := if_pos ⟨h1, h2⟩

theorem memmove_inv {s s' : TupS α} {d sr c : Nat} (h : s.memmove d sr c = some s') :
    sr + c ≤ s.cells.size ∧ d + c ≤ s.cells.size ∧ s' = { s with cells := Block.move s.cells d sr c } := by
  unfold memmove at h
  split at h
  · cases h; exact ⟨(‹_ ∧ _›).1, (‹_ ∧ _›).2, rfl⟩
  · cases h

theorem wrFrom_eq : ∀ (ys : List (TCell α)) (s : TupS α) (k : Nat), k + ys.length ≤ s.cells.size →
    s.wrFrom k ys = some { s with cells := Block.fill s.cells k ys }
  | [], _, _, _ => by rw [Block.fill_nil]; rfl
  | y :: ys, s, k, h => by
    rw [List.length_cons] at h
    rw [wrFrom, wr_eq s y (by omega), Block.fill_cons]
    exact wrFrom_eq ys _ (k + 1) (by rw [Array.size_setIfInBounds]; omega)

theorem realloc_onHeap (s : TupS α) (n : Nat) : (s.realloc n).onHeap = s.onHeap := rfl

theorem Pre.realloc {s : TupS α} {l : List (TCell α)} (h : s.Pre l) (n : Nat) (hn : l.length ≤ n) : (s.realloc n).Pre l :=
  h.holds.resize hn

theorem Pre.insert {s s1 s2 : TupS α} {l : List (TCell α)} {x : TCell α} {k : Nat} (h : s.Pre l) (hk : k ≤ l.length)
    (hm : s.memmove (k + 1) k (l.length - k) = some s1) (hw : s1.wr k x = some s2) :
    s2.Pre (l.take k ++ x :: l.drop k) := by
  obtain ⟨_, h2, rfl⟩ := memmove_inv hm
  obtain ⟨_, rfl⟩ := wr_inv hw
  exact h.holds.insert x hk (by omega)

/-- the cells of a Tuple holding `items` -/
def enc (items : List α) : List (TCell α) := items.map .item ++ [.term]

theorem enc_length (items : List α) : (enc items).length = items.length + 1 := by simp [enc]

theorem enc_get_lt (items : List α) (i : Nat) (h : i < items.length) : (enc items)[i]? = some (.item items[i]) := by
  unfold enc
  rw [List.getElem?_append_left (by simpa using h), List.getElem?_map, List.getElem?_eq_getElem h]; rfl

theorem enc_get_len (items : List α) : (enc items)[items.length]? = some .term := by
  unfold enc
  rw [List.getElem?_append_right (by simp)]; simp

theorem enc_insert (items : List α) (k : Nat) (x : α) (hk : k ≤ items.length) :
    (enc items).take k ++ .item x :: (enc items).drop k = enc (items.take k ++ x :: items.drop k) := by
  unfold enc
  rw [List.take_append_of_le_length (by simpa using hk), List.drop_append_of_le_length (by simpa using hk)]
  simp [List.map_take, List.map_drop]

theorem enc_erase (items : List α) (k : Nat) (hk : k < items.length) :
    (enc items).take k ++ (enc items).drop (k + 1) = enc (items.take k ++ items.drop (k + 1)) := by
  unfold enc
  rw [List.take_append_of_le_length (by simp; omega), List.drop_append_of_le_length (by simp; omega)]
  simp [List.map_take, List.map_drop]

theorem enc_set (items : List α) (k : Nat) (x : α) (hk : k < items.length) :
    (enc items).set k (.item x) = enc (items.set k x) := by
  unfold enc
  rw [List.set_append_left _ _ (by simpa using hk), List.map_set]

theorem enc_take_holds {c : Block (TCell α)} {l : List α} (h : Block.Holds c (enc l)) (n : Nat) :
    Block.Holds c ((l.take n).map .item) :=
  h.mono fun k hk => by
    rw [List.length_map, List.length_take] at hk
    have hkl : k < l.length := Nat.lt_of_lt_of_le hk (Nat.min_le_right _ _)
    refine ⟨by rw [enc_length]; omega, ?_⟩
    rw [enc_get_lt _ _ hkl, List.getElem?_map, List.getElem?_take, if_pos (Nat.lt_of_lt_of_le hk (Nat.min_le_left _ _)),
      List.getElem?_eq_getElem hkl]; rfl

/-- abstraction relation: a heap Tuple whose block is exactly the items followed by the Terminal cell -/
structure Abs (s : TupS α) (t : Tup α) : Prop where
  heap : s.onHeap = true
  size : s.cells.size = t.items.length + 1
  cell : s.Pre (enc t.items)

/-- the block of a Tuple holding `t.items`, on the heap or not: exact size, items then Terminal -/
structure Cells (s : TupS α) (t : Tup α) : Prop where
  size : s.cells.size = t.items.length + 1
  cell : s.Pre (enc t.items)

theorem Abs.cells {s : TupS α} {t : Tup α} (h : s.Abs t) : s.Cells t := ⟨h.size, h.cell⟩

theorem Cells.rd_lt {s : TupS α} {t : Tup α} (h : s.Cells t) (i : Nat) (hi : i < t.items.length) :
    s.rd i = some (.item t.items[i]) := by
  rw [h.cell.rd i (by rw [enc_length]; omega), enc_get_lt _ _ hi]

theorem Cells.rd_len {s : TupS α} {t : Tup α} (h : s.Cells t) : s.rd t.items.length = some .term := by
  rw [h.cell.rd _ (by rw [enc_length]; omega), enc_get_len]

/-- every scan of a Tuple block (`Tuple_Len`, `Tuple_Rem`, `Tuple_Iter_Next`, `Tuple_Iter_Prev`) is the same walk over the item cells: to
    the first one that satisfies `p` (`hit` at its position) or else to the Terminal cell (`stop` at its position), whatever the
    block holds behind it; `hscan` is the step of the model function, which holds by `rfl` for all four -/
theorem Pre.scan {s : TupS α} {l : List α} (h : s.Pre (enc l)) {γ : Type} (p : α → Bool) (hit stop : Nat → γ) (bad : γ)
    (scan : Nat → Nat → γ)
    (hscan : ∀ fuel i, scan (fuel + 1) i = match s.rd i with
      | some .term => stop i
      | some (.item y) => if p y then hit i else scan fuel (i + 1)
      | none => bad) :
    ∀ (fuel i : Nat), i ≤ l.length → l.length - i < fuel →
      scan fuel i = match (l.drop i).findIdx? p with
        | some r => hit (i + r)
        | none => stop l.length := by
  intro fuel
  induction fuel with
  | zero => intro i _ hf; exact absurd hf (Nat.not_lt_zero _)
  | succ fuel ih =>
    intro i hi hf
    by_cases hlt : i < l.length
    · rw [hscan, h.rd i (by rw [enc_length]; omega), enc_get_lt _ _ hlt, List.drop_eq_getElem_cons hlt, List.findIdx?_cons]
      by_cases hx : p l[i] = true
      · simp only [hx, if_true]; rfl
      · simp only [hx, Bool.false_eq_true, if_false]
        rw [ih (i + 1) hlt (by omega)]
        cases (List.drop (i + 1) l).findIdx? p with
        | none => rfl
        | some r => simp only [Option.map_some]; congr 1; omega
    · have : i = l.length := Nat.le_antisymm hi (Nat.not_lt.1 hlt)
      subst this
      rw [hscan, h.rd _ (by rw [enc_length]; omega), enc_get_len, List.drop_length]; rfl

theorem Pre.len {s : TupS α} {l : List α} (h : s.Pre (enc l)) (hs : l.length < s.cells.size) : s.len = some l.length := by
  unfold TupS.len
  rw [h.scan (fun _ => false) some some none s.scanLen (fun _ _ => rfl) _ 0 (Nat.zero_le _) (by omega),
    List.findIdx?_eq_none_iff.2 fun _ _ => rfl]

theorem Cells.len_sim {s : TupS α} {t : Tup α} (h : s.Cells t) : s.len = some t.len :=
  h.cell.len (by rw [h.size]; exact Nat.lt_succ_self _)

theorem Abs.rd_lt {s : TupS α} {t : Tup α} (h : s.Abs t) (i : Nat) (hi : i < t.items.length) :
    s.rd i = some (.item t.items[i]) := h.cells.rd_lt i hi

theorem Abs.rd_len {s : TupS α} {t : Tup α} (h : s.Abs t) : s.rd t.items.length = some .term := h.cells.rd_len

theorem len_sim {s : TupS α} {t : Tup α} (h : s.Abs t) : s.len = some t.len := h.cells.len_sim

/-- `realloc` to `m` cells, then the items `ys` and the Terminal cell written behind the first `n` items: the block of the
    Tuple `take n items ++ ys`.  (pop, concat — and push as `concat [x]` —, resize and assign are instances.) -/
theorem Cells.realloc_fill {s : TupS α} {t : Tup α} (h : s.Cells t) {n : Nat} (hn : n ≤ t.items.length) (ys : List α) {m : Nat}
    (hm : n + ys.length + 1 = m) :
    Block.Holds (Block.fill (s.realloc m).cells n (ys.map .item ++ [.term])) (enc (t.items.take n ++ ys)) ∧
    n + (ys.map TCell.item ++ [TCell.term]).length ≤ (s.realloc m).cells.size ∧ (s.realloc m).cells.size = m := by
  show Block.Holds (Block.fill (Block.resize s.cells m) n _) _ ∧ _ ≤ (Block.resize s.cells m).size ∧ (Block.resize s.cells m).size = m
  have hlen : ((t.items.take n).map TCell.item).length = n := by rw [List.length_map, List.length_take, Nat.min_eq_left hn]
  have hfit : n + (ys.map TCell.item ++ [TCell.term]).length ≤ (Block.resize s.cells m).size := by
    rw [Block.size_resize, List.length_append, List.length_map, ← hm]; exact Nat.le_refl _
  have hp : Block.Holds (Block.resize s.cells m) ((t.items.take n).map TCell.item) :=
    (enc_take_holds h.cell.holds n).resize (by rw [hlen, ← hm]; omega)
  have := hp.fill (ys.map .item ++ [.term]) (by rw [hlen]; exact hfit)
  rw [hlen] at this
  refine ⟨?_, hfit, Block.size_resize _ _⟩
  unfold enc; rw [List.map_append, List.append_assoc]; exact this

theorem pop_sim {s : TupS α} {t : Tup α} (h : s.Abs t) :
    s.pop.1.Abs t.pop.1 ∧ s.pop.2 = t.pop.2 := by
  have hn : t.len = t.items.length := rfl
  unfold TupS.pop Tup.pop
  rw [len_sim h]
  simp only [h.heap, Bool.not_true, Bool.false_eq_true, if_false]
  by_cases h0 : t.len = 0
  · rw [if_pos h0, if_pos h0]; exact ⟨h, rfl⟩
  · rw [if_neg h0, if_neg h0]
    rw [hn] at h0
    obtain ⟨hh, hfit, hsz⟩ := h.cells.realloc_fill (Nat.sub_le t.items.length 1) [] (m := t.len)
      (Nat.sub_add_cancel (Nat.pos_of_ne_zero h0))
    rw [List.append_nil, ← List.dropLast_eq_take, List.map_nil, List.nil_append, Block.fill_cons, Block.fill_nil] at hh
    rw [wr_eq (s.realloc _) _ (show t.len - 1 < _ from hfit)]
    exact ⟨⟨h.heap, (Array.size_setIfInBounds ..).trans (hsz.trans (by rw [List.length_dropLast]; exact (Nat.sub_add_cancel (Nat.pos_of_ne_zero h0)).symm)), hh⟩, rfl⟩

theorem pushAt_sim {s : TupS α} {t : Tup α} (h : s.Abs t) (x : α) (i : Int) :
    (s.pushAt x i).1.Abs (t.pushAt x i).1 ∧ (s.pushAt x i).2 = (t.pushAt x i).2 := by
  unfold TupS.pushAt TupS.pushAtCell Tup.pushAt
  rw [len_sim h]
  simp only [h.heap, Bool.not_true, Bool.false_eq_true, if_false]
  by_cases hc : normIdx t.len i < 0 ∨ normIdx t.len i ≥ (t.len : Int)
  · rw [if_pos hc, if_pos hc]; exact ⟨h, rfl⟩
  · rw [if_neg hc, if_neg hc]
    have hkl : (normIdx t.len i).toNat < t.items.length := toNat_normIdx_lt hc
    generalize (normIdx t.len i).toNat = k at *
    clear hc
    -- the block after `realloc(n+2)` holds the `n+1` cells of the encoding and has room for one more
    have hel : (enc t.items).length = t.items.length + 1 := enc_length _
    have hkle : k ≤ (enc t.items).length := by rw [hel]; exact Nat.le_succ_of_le (Nat.le_of_lt hkl)
    have hp : Block.Holds (s.realloc (t.len + 2)).cells (enc t.items) := h.cell.holds.resize (by rw [hel]; exact Nat.le_succ _)
    have hsz : (s.realloc (t.len + 2)).cells.size = t.items.length + 2 := Block.size_resize _ _
    have hheap : (s.realloc (t.len + 2)).onHeap = true := h.heap
    generalize s.realloc (t.len + 2) = s1 at *
    have hcnt : t.len - k + 1 = (enc t.items).length - k := by rw [hel, Nat.succ_sub (Nat.le_of_lt hkl)]; rfl
    rw [hcnt, memmove_eq s1 (by rw [Nat.add_sub_of_le hkle, hel, hsz]; exact Nat.le_succ _)
      (by rw [Nat.add_right_comm, Nat.add_sub_of_le hkle, hel, hsz]; exact Nat.le_refl _)]
    dsimp only
    rw [wr_eq _ _ (by rw [Block.size_move, hsz]; exact Nat.lt_of_lt_of_le hkl (Nat.le_add_right _ 2))]
    have := hp.insert (.item x) (k := k) hkle (by rw [hel, hsz]; exact Nat.lt_succ_self _)
    rw [enc_insert _ _ _ (Nat.le_of_lt hkl)] at this
    refine ⟨⟨?_, ?_, this⟩, rfl⟩
    · exact hheap
    · show (Array.setIfInBounds _ _ _).size = (t.items.take k ++ x :: t.items.drop k).length + 1
      rw [Array.size_setIfInBounds, Block.size_move, hsz, take_cons_drop_eq_insertIdx _ _ _ (Nat.le_of_lt hkl),
        List.length_insertIdx_of_le_length (Nat.le_of_lt hkl)]

theorem popAt_sim {s : TupS α} {t : Tup α} (h : s.Abs t) (i : Int) :
    (s.popAt i).1.Abs (t.popAt i).1 ∧ (s.popAt i).2 = (t.popAt i).2 := by
  unfold TupS.popAt Tup.popAt
  rw [len_sim h]
  simp only [h.heap, Bool.not_true, Bool.false_eq_true, if_false]
  by_cases hc : normIdx t.len i < 0 ∨ normIdx t.len i ≥ (t.len : Int)
  · rw [if_pos hc, if_pos hc]; exact ⟨h, rfl⟩
  · rw [if_neg hc, if_neg hc]
    have hkl : (normIdx t.len i).toNat < t.items.length := toNat_normIdx_lt hc
    generalize (normIdx t.len i).toNat = k at *
    clear hc
    have hcnt : t.len - k = (enc t.items).length - 1 - k := by rw [enc_length]; rfl
    have hel : (enc t.items).length = t.items.length + 1 := enc_length _
    have hkle : k ≤ t.items.length := Nat.le_of_lt hkl
    rw [hcnt, memmove_eq s (by rw [hel, Nat.add_sub_cancel, Nat.add_right_comm, Nat.add_sub_of_le hkle, h.size]; exact Nat.le_refl _)
      (by rw [hel, Nat.add_sub_cancel, Nat.add_sub_of_le hkle, h.size]; exact Nat.le_succ _)]
    have := h.cell.holds.erase (k := k) (by rw [hel]; exact Nat.lt_succ_of_lt hkl)
    rw [enc_erase _ _ hkl] at this
    have hlen : (t.items.take k ++ t.items.drop (k + 1)).length + 1 = t.items.length := by
      rw [← List.eraseIdx_eq_take_drop_succ, List.length_eraseIdx_of_lt hkl]; exact Nat.sub_add_cancel (Nat.zero_lt_of_lt hkl)
    exact ⟨⟨h.heap, (Block.size_resize _ _).trans hlen.symm, this.resize (by rw [enc_length, hlen]; exact Nat.le_refl _)⟩, rfl⟩

theorem get_cells {s : TupS α} {t : Tup α} (h : s.Cells t) (i : Int) : s.get i = t.get i := by
  unfold TupS.get TupS.getCell Tup.get
  rw [h.len_sim]
  simp only
  by_cases hc : normIdx t.len i < 0 ∨ normIdx t.len i ≥ (t.len : Int)
  · simp only [if_pos hc]
  · have hkl : (normIdx t.len i).toNat < t.items.length := toNat_normIdx_lt hc
    simp only [if_neg hc]
    rw [h.rd_lt _ hkl, List.getElem?_eq_getElem hkl]

/-- `Tuple_Set` writes one cell: the block stays a Tuple block, and stays where it is allocated -/
theorem set_cells {s : TupS α} {t : Tup α} (h : s.Cells t) (i : Int) (x : α) :
    (s.set i x).1.Cells (t.set i x).1 ∧ (s.set i x).1.onHeap = s.onHeap ∧ (s.set i x).2 = (t.set i x).2 := by
  unfold TupS.set TupS.setCell Tup.set
  rw [h.len_sim]
  simp only
  by_cases hc : normIdx t.len i < 0 ∨ normIdx t.len i ≥ (t.len : Int)
  · rw [if_pos hc, if_pos hc]; exact ⟨h, rfl, rfl⟩
  · rw [if_neg hc, if_neg hc]
    have hkl : (normIdx t.len i).toNat < t.items.length := toNat_normIdx_lt hc
    generalize (normIdx t.len i).toNat = k at *
    have hks : k < s.cells.size := by rw [h.size]; exact Nat.lt_succ_of_lt hkl
    have := h.cell.holds.set (.item x) hks
    rw [enc_set _ _ _ hkl] at this
    rw [wr_eq s _ hks]
    exact ⟨⟨(Array.size_setIfInBounds ..).trans (h.size.trans (by rw [List.length_set])), this⟩, rfl, rfl⟩

theorem readItems_cells {s : TupS α} {t : Tup α} (h : s.Cells t) : ∀ (n i : Nat), i + n ≤ t.items.length →
    s.readItems i n = some ((t.items.drop i).take n) := by
  intro n
  induction n with
  | zero => intro i _; simp [TupS.readItems]
  | succ n ih =>
    intro i hi
    have hil : i < t.items.length := by omega
    simp only [TupS.readItems, h.rd_lt i hil, ih (i + 1) (by omega), Option.map_some]
    rw [List.drop_eq_getElem_cons hil, List.take_succ_cons]

theorem items?_cells {s : TupS α} {t : Tup α} (h : s.Cells t) : s.items? = some t.items := by
  unfold TupS.items?
  rw [h.len_sim]
  simp only [Option.bind_some, Tup.len]
  rw [readItems_cells h _ 0 (by omega)]; simp

/-- `Tuple_Sort_By` rewrites the item cells and leaves the Terminal cell -/
theorem sortBy_cells {s : TupS α} {t : Tup α} (h : s.Cells t) (f : α → α → Bool) :
    (s.sortBy f).1.Cells (t.sortBy f).1 ∧ (s.sortBy f).1.onHeap = s.onHeap ∧ (s.sortBy f).2 = (t.sortBy f).2 := by
  have hlen : ((Sort.sortList f t.items).map TCell.item).length = (t.items.map TCell.item).length := by
    rw [List.length_map, List.length_map, Sort.sortList_length]
  unfold TupS.sortBy Tup.sortBy
  rw [items?_cells h]
  simp only
  rw [wrFrom_eq _ s 0 (by rw [Nat.zero_add, hlen, List.length_map, h.size]; exact Nat.le_succ _)]
  exact ⟨⟨(Block.size_fill ..).trans (h.size.trans (by rw [Sort.sortList_length])), h.cell.holds.fill_front _ hlen⟩, rfl, rfl⟩

theorem get_sim {s : TupS α} {t : Tup α} (h : s.Abs t) (i : Int) : s.get i = t.get i := get_cells h.cells i

theorem items?_eq {s : TupS α} {t : Tup α} (h : s.Abs t) : s.items? = some t.items := items?_cells h.cells

theorem set_sim {s : TupS α} {t : Tup α} (h : s.Abs t) (i : Int) (x : α) :
    (s.set i x).1.Abs (t.set i x).1 ∧ (s.set i x).2 = (t.set i x).2 :=
  have ⟨c, e, r⟩ := set_cells h.cells i x
  ⟨⟨e.trans h.heap, c.size, c.cell⟩, r⟩

theorem sortBy_sim {s : TupS α} {t : Tup α} (h : s.Abs t) (f : α → α → Bool) :
    (s.sortBy f).1.Abs (t.sortBy f).1 ∧ (s.sortBy f).2 = (t.sortBy f).2 :=
  have ⟨c, e, r⟩ := sortBy_cells h.cells f
  ⟨⟨e.trans h.heap, c.size, c.cell⟩, r⟩

theorem Cells.scanEq [BEq α] {s : TupS α} {t : Tup α} (h : s.Cells t) (x : α) :
    s.scanEq x (s.cells.size + 1) 0 = .ok (t.items.findIdx? (fun y => x == y)) := by
  rw [h.cell.scan (x == ·) (fun i => .ok (some i)) (fun _ => .ok none) .ub (s.scanEq x) (fun _ _ => rfl) _ 0 (Nat.zero_le _)
    (by rw [h.size]; omega), List.drop_zero]
  cases t.items.findIdx? (fun y => x == y) with
  | none => rfl
  | some r => simp only [Nat.zero_add]

theorem rem_sim [BEq α] {s : TupS α} {t : Tup α} (h : s.Abs t) (x : α) :
    (s.rem x).1.Abs (t.rem x).1 ∧ (s.rem x).2 = (t.rem x).2 := by
  unfold TupS.rem Tup.rem
  rw [h.cells.scanEq x]
  cases hf : t.items.findIdx? (fun y => x == y) with
  | none => exact ⟨h, rfl⟩
  | some i => exact popAt_sim h _

theorem concat_sim {s : TupS α} {t : Tup α} (h : s.Abs t) (ys : List α) :
    (s.concat ys).1.Abs (t.concat ys).1 ∧ (s.concat ys).2 = (t.concat ys).2 := by
  obtain ⟨hh, hfit, hsz⟩ := h.cells.realloc_fill (Nat.le_refl _) ys (m := t.items.length + 1 + ys.length) (by omega)
  rw [List.take_length] at hh
  unfold TupS.concat Tup.concat
  rw [len_sim h]
  simp only [h.heap, Bool.not_true, Bool.false_eq_true, if_false, Tup.len]
  rw [wrFrom_eq _ (s.realloc _) _ hfit]
  exact ⟨⟨h.heap, (Block.size_fill ..).trans (hsz.trans (by rw [List.length_append]; omega)), hh⟩, rfl⟩

/-- `Tuple_Push` is `Tuple_Concat` of one item: the same `realloc`, the same two cells written -/
theorem push_eq (s : TupS α) (x : α) : s.push x = s.concat [x] := rfl

theorem push_sim {s : TupS α} {t : Tup α} (h : s.Abs t) (x : α) :
    (s.push x).1.Abs (t.push x).1 ∧ (s.push x).2 = (t.push x).2 := by
  rw [push_eq]; exact concat_sim h [x]

theorem resize_sim {s : TupS α} {t : Tup α} (h : s.Abs t) (n : Nat) :
    (s.resize n).1.Abs (t.resize n).1 ∧ (s.resize n).2 = (t.resize n).2 := by
  unfold TupS.resize Tup.resize
  rw [len_sim h]
  simp only [h.heap, Bool.not_true, Bool.false_eq_true, if_false]
  by_cases hc : n < t.len
  · rw [if_pos hc, if_pos hc]
    obtain ⟨hh, hfit, hsz⟩ := h.cells.realloc_fill (Nat.le_of_lt hc) [] (m := n + 1) rfl
    rw [List.append_nil, List.map_nil, List.nil_append, Block.fill_cons, Block.fill_nil] at hh
    rw [wr_eq (s.realloc _) _ (show n < _ from hfit)]
    exact ⟨⟨h.heap, (Array.size_setIfInBounds ..).trans (hsz.trans (by rw [List.length_take, Nat.min_eq_left (show n ≤ t.items.length from Nat.le_of_lt hc)])), hh⟩, rfl⟩
  · rw [if_neg hc, if_neg hc]; exact ⟨h, rfl⟩

theorem pushAll_sim : ∀ (ys : List α) {s : TupS α} {t : Tup α}, s.Abs t →
    (s.pushAll ys).1.Abs ⟨t.items ++ ys⟩ ∧ (s.pushAll ys).2 = .ok () := by
  intro ys
  induction ys with
  | nil =>
    intro s t h
    refine ⟨?_, rfl⟩
    show s.Abs _
    simpa using h
  | cons y ys ih =>
    intro s t h
    obtain ⟨h1, h2⟩ := push_sim h y
    rw [TupS.pushAll, show s.push y = ((s.push y).1, .ok ()) from Prod.ext rfl h2]
    have := ih h1
    simpa [Tup.push] using this

theorem assign_sim {s : TupS α} {t : Tup α} (h : s.Abs t) (ys : List α) (b : Bool) :
    (s.assign ys b).1.Abs (t.assign ys b).1 ∧ (s.assign ys b).2 = (t.assign ys b).2 := by
  unfold TupS.assign Tup.assign
  cases b with
  | false => simp only [Bool.false_eq_true, if_false]; exact pushAll_sim ys h
  | true =>
    obtain ⟨hh, hfit, hsz⟩ := h.cells.realloc_fill (Nat.zero_le _) ys (m := ys.length + 1) (by omega)
    simp only [if_true, h.heap, Bool.not_true, Bool.false_eq_true, if_false]
    rw [wrFrom_eq _ (s.realloc _) _ hfit]
    exact ⟨⟨h.heap, (Block.size_fill ..).trans hsz, hh⟩, rfl⟩

theorem step_sim [BEq α] {s : TupS α} {t : Tup α} (h : s.Abs t) (op : Op α) :
    (s.step op).1.Abs (t.step op).1 ∧ (s.step op).2 = (t.step op).2 := by
  cases op with
  | push x => exact push_sim h x
  | append x => exact push_sim h x
  | pop => exact pop_sim h
  | pushAt x i => exact pushAt_sim h x i
  | popAt i => exact popAt_sim h i
  | set i x => exact set_sim h i x
  | rem x => exact rem_sim h x
  | concat ys => exact concat_sim h ys
  | resize n => exact resize_sim h n
  | sort f => exact sortBy_sim h f
  | assign ys b => exact assign_sim h ys b

/-- from ANY heap block that is a Tuple's items followed by Terminal: the scan for Terminal does not leave the block -/
theorem step_ne_ub [BEq α] {s : TupS α} {t : Tup α} (h : s.Abs t) (op : Op α) : (s.step op).2 ≠ .ub := by
  rw [(step_sim h op).2]; exact Tup.step_ne_ub t op

theorem new_abs (xs : List α) : (TupS.new xs).Abs ⟨xs⟩ := by
  refine ⟨rfl, by simp [TupS.new], ?_⟩
  intro k hk
  simp only [TupS.new, List.getElem?_toArray]
  unfold enc
  rw [show (List.map (fun x => some (TCell.item x)) xs ++ [some TCell.term]) = (xs.map TCell.item ++ [TCell.term]).map some by simp]
  rw [List.getElem?_map]
  unfold enc at hk
  rw [List.getElem?_eq_getElem hk]; rfl

/-- a cell as the iterator protocol sees it: `Terminal` ends the iteration -/
def toCell : Option α → TCell α
  | none => .term
  | some x => .item x

theorem Cells.rd_toCell {s : TupS α} {t : Tup α} (h : s.Cells t) (i : Nat) (hi : i ≤ t.items.length) :
    s.rd i = some (toCell t.items[i]?) := by
  by_cases hlt : i < t.items.length
  · rw [h.rd_lt i hlt, List.getElem?_eq_getElem hlt]; rfl
  · have : i = t.items.length := Nat.le_antisymm hi (Nat.not_lt.1 hlt)
    subst this
    rw [h.rd_len, List.getElem?_eq_none (by omega)]; rfl

/-- the scan of `Tuple_Iter_Next` (`g = · + 1`) and `Tuple_Iter_Prev` (`g = · - 1`): walk to the first cell holding `c`, return cell
    `g` of its position; `Terminal` when the walk reaches `Terminal` -/
theorem Cells.scanIter {s : TupS α} {t : Tup α} (h : s.Cells t) (ident : α → Nat) (c : α) (g : Nat → Nat)
    (hg : ∀ j, j < t.items.length → g j ≤ t.items.length) (scan : Nat → Nat → Option (TCell α))
    (hscan : ∀ fuel i, scan (fuel + 1) i = match s.rd i with
      | some .term => some .term
      | some (.item y) => if ident y == ident c then s.rd (g i) else scan fuel (i + 1)
      | none => none) :
    scan (s.cells.size + 1) 0 = some (toCell (match t.items.findIdx? (fun y => ident y == ident c) with
      | some r => t.items[g r]?
      | none => none)) := by
  rw [h.cell.scan (fun y => ident y == ident c) (fun i => s.rd (g i)) (fun _ => some .term) none scan hscan _ 0 (Nat.zero_le _)
    (by rw [h.size]; omega), List.drop_zero]
  cases hf : t.items.findIdx? (fun y => ident y == ident c) with
  | none => rfl
  | some r => simp only [Nat.zero_add]; exact h.rd_toCell _ (hg r (List.findIdx?_eq_some_iff_getElem.1 hf).1)

theorem iterNext_cells {s : TupS α} {t : Tup α} (h : s.Cells t) (ident : α → Nat) (c : α) :
    s.iterNext ident c = some (toCell (t.iterNext ident c)) := by
  unfold TupS.iterNext Tup.iterNext
  rw [h.scanIter ident c (· + 1) (fun _ hj => hj) (s.scanNext ident c) (fun _ _ => rfl)]
  cases t.items.findIdx? (fun y => ident y == ident c) <;> rfl

theorem iterPrev_cells {s : TupS α} {t : Tup α} (h : s.Cells t) (ident : α → Nat) (c : α) :
    s.iterPrev ident c = some (toCell (t.iterPrev ident c)) := by
  unfold TupS.iterPrev Tup.iterPrev
  have hscan := h.scanIter ident c (· - 1) (fun j _ => by omega) (s.scanPrev ident c) (fun _ _ => rfl)
  cases hl : t.items with
  | nil =>
    have h0 : s.rd 0 = some .term := by have := h.rd_len; rw [hl] at this; exact this
    rw [h0]; simp only [List.head?_nil]
    rw [hscan, hl]; rfl
  | cons y ys =>
    have h0 : s.rd 0 = some (.item y) := by
      have := h.rd_lt 0 (by rw [hl]; simp); simp only [hl, List.getElem_cons_zero] at this; exact this
    rw [h0]; simp only [List.head?_cons]
    by_cases hy : (ident y == ident c) = true
    · simp only [hy, if_true]; rfl
    · simp only [hy, Bool.false_eq_true, if_false]
      rw [hscan, hl]
      cases (y :: ys).findIdx? (fun y => ident y == ident c) <;> rfl

theorem collectCells_eq (next : α → Option (TCell α)) (next' : α → Option α)
    (hn : ∀ x, next x = some (toCell (next' x))) : ∀ (fuel : Nat) (c : Option α),
    TupS.collectCells next fuel (some (toCell c)) = collect next' some fuel c := by
  intro fuel
  induction fuel with
  | zero => intro c; cases c <;> rfl
  | succ fuel ih =>
    intro c
    cases c with
    | none => rfl
    | some x =>
      show (TupS.collectCells next fuel (next x)).map (x :: ·) = (collect next' some fuel (next' x)).map (x :: ·)
      rw [hn x, ih]

theorem Cells.iterInit {s : TupS α} {t : Tup α} (h : s.Cells t) : s.iterInit = some (toCell t.iterInit) := by
  unfold TupS.iterInit Tup.iterInit
  rw [h.rd_toCell 0 (Nat.zero_le _), List.head?_eq_getElem?]

theorem Cells.iterLast {s : TupS α} {t : Tup α} (h : s.Cells t) : s.iterLast = some (toCell t.iterLast) := by
  unfold TupS.iterLast Tup.iterLast
  rw [h.len_sim]
  show (if t.items.length = 0 then some TCell.term else s.rd (t.items.length - 1)) = _
  by_cases h0 : t.items.length = 0
  · rw [if_pos h0, List.eq_nil_of_length_eq_zero h0]; rfl
  · rw [if_neg h0, h.rd_toCell _ (by omega), List.getLast?_eq_getElem?]

/-- iteration through the cells gives exactly what the list-level model gives (for every fuel, whether or not the
    stored pointers are distinct: the divergence of known finding F13 is reproduced cell by cell); `mem_cells` says the same of `mem` -/
theorem iter_cells {s : TupS α} {t : Tup α} (h : s.Cells t) (ident : α → Nat) (fuel : Nat) :
    s.iterFwd ident fuel = t.iterFwd ident fuel ∧ s.iterBwd ident fuel = t.iterBwd ident fuel := by
  unfold TupS.iterFwd TupS.iterBwd Tup.iterFwd Tup.iterBwd
  rw [h.iterInit, h.iterLast]
  exact ⟨collectCells_eq _ _ (iterNext_cells h ident) fuel _, collectCells_eq _ _ (iterPrev_cells h ident) fuel _⟩

theorem memLoop_eq [BEq α] {s : TupS α} {t : Tup α} (h : s.Cells t) (ident : α → Nat) (x : α) : ∀ (fuel : Nat) (c : Option α),
    s.memLoop ident x fuel (some (toCell c)) = t.memLoop ident x fuel c := by
  intro fuel
  induction fuel with
  | zero => intro c; cases c <;> rfl
  | succ fuel ih =>
    intro c
    cases c with
    | none => rfl
    | some y =>
      show (if y == x then some true else s.memLoop ident x fuel (s.iterNext ident y)) =
        (if y == x then some true else t.memLoop ident x fuel (t.iterNext ident y))
      rw [iterNext_cells h ident y, ih]

theorem mem_cells [BEq α] {s : TupS α} {t : Tup α} (h : s.Cells t) (ident : α → Nat) (x : α) (fuel : Nat) :
    s.mem ident x fuel = t.mem ident x fuel := by
  unfold TupS.mem Tup.mem
  rw [h.iterInit]; exact memLoop_eq h ident x fuel _

/-- `set(t, i, Terminal)` with `i` in range succeeds — and afterwards the block holds the items in front of the cell written (`k`, the
    normalised `i`) followed by Terminal: `Tuple_Len` stops there, the Tuple has lost the items from position `k` on (the block
    keeps its size) -/
theorem setCell_term_truncates {s : TupS α} {t : Tup α} (h : s.Cells t) (i : Int) (k : Nat)
    (hk : Spec.idx t.items.length i = some k) :
    ∃ s', s.setCell i .term = (s', .ok ()) ∧ s'.Pre (enc (t.items.take k)) ∧ s'.len = some k ∧ s'.cells.size = s.cells.size := by
  obtain ⟨h1, h2, h3⟩ := idx_some _ _ _ hk
  have hks : k < s.cells.size := by rw [h.size]; exact Nat.lt_succ_of_lt h3
  have hlen : (t.items.take k).length = k := by rw [List.length_take]; exact Nat.min_eq_left (Nat.le_of_lt h3)
  have hp : Block.Holds (s.cells.setIfInBounds k (some .term)) (enc (t.items.take k)) := by
    have := (enc_take_holds h.cell.holds k).snoc .term (by rw [List.length_map, hlen]; exact hks)
    rwa [List.length_map, hlen] at this
  have hl := Pre.len (s := { s with cells := s.cells.setIfInBounds k (some .term) }) hp
    (by rw [hlen]; exact (Array.size_setIfInBounds ..).symm ▸ hks)
  rw [hlen] at hl
  refine ⟨{ s with cells := s.cells.setIfInBounds k (some .term) }, ?_, hp, hl, Array.size_setIfInBounds ..⟩
  unfold TupS.setCell
  rw [h.len_sim]
  show (if normIdx t.items.length i < 0 ∨ normIdx t.items.length i ≥ (t.items.length : Int) then (s, Res.raised Exc.indexOutOfBounds)
    else match s.wr (normIdx t.items.length i).toNat .term with
      | some s1 => (s1, Res.ok ())
      | none => (s, Res.ub)) = _
  rw [if_neg h1, h2, wr_eq s _ hks]

/-- a Tuple that is not on the heap (`tuple(…)`, a static Tuple) refuses every operation that would reallocate its block:
    the operation raises (its own bounds error first where the C code checks that first, else `ValueError`) and the
    block is left as it was.  (`get`, `set`, `sort`, `len`, iteration and `mem` do not look at the allocation.) -/
theorem stack_refuses [BEq α] {s : TupS α} {t : Tup α} (h : s.Cells t) (hs : s.onHeap = false) (op : Op α)
    (hop : match op with
      | .set _ _ => False | .sort _ => False | .assign ys false => ys ≠ [] | _ => True) :
    (s.step op).1 = s ∧ ∃ e, (s.step op).2 = .raised e := by
  have hlen := h.len_sim
  -- each of these operations tests `onHeap` before it writes to or reallocates the block, behind its own bounds test where it has one
  cases op with
  | push x => simp [TupS.step, TupS.push, TupS.pushCell, hlen, hs]
  | append x => simp [TupS.step, TupS.push, TupS.pushCell, hlen, hs]
  | pop =>
    simp only [TupS.step, TupS.pop, hlen, hs]
    by_cases h0 : t.len = 0 <;> simp [h0]
  | pushAt x i =>
    simp only [TupS.step, TupS.pushAt, TupS.pushAtCell, hlen, hs]
    by_cases hc : normIdx t.len i < 0 ∨ normIdx t.len i ≥ (t.len : Int) <;> simp [hc]
  | popAt i =>
    simp only [TupS.step, TupS.popAt, hlen, hs]
    by_cases hc : normIdx t.len i < 0 ∨ normIdx t.len i ≥ (t.len : Int) <;> simp [hc]
  | set i x => exact absurd hop id
  | rem x =>
    simp only [TupS.step, TupS.rem]
    rw [h.scanEq x]
    cases hf : t.items.findIdx? (fun y => x == y) with
    | none => simp
    | some r =>
      simp only [TupS.popAt, hlen, hs]
      by_cases hc : normIdx t.len (r : Int) < 0 ∨ normIdx t.len (r : Int) ≥ (t.len : Int) <;> simp [hc]
  | concat ys => simp [TupS.step, TupS.concat, hlen, hs]
  | resize n => simp [TupS.step, TupS.resize, hs]
  | sort f => exact absurd hop id
  | assign ys b =>
    cases b with
    | true => simp [TupS.step, TupS.assign, hs]
    | false =>
      cases ys with
      | nil => exact absurd rfl hop
      | cons y ys => simp [TupS.step, TupS.assign, TupS.pushAll, TupS.push, TupS.pushCell, hlen, hs]

end TupS
end Cello.Seq
