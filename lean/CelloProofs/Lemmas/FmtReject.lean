/-
  C14 helper lemmas: a `format_to` call that libc rejects (negative result).  With the guard `if (size < 0) { return size; }` where
  the source has it (`primNow_guarded`) such a call leaves both sinks as they were and `print_to_with` raises FormatError, after the
  segments before it were written (`refRun_reject`).  When `refRun` completes: under `AllOk` (only a missing argument can fail:
  `refRun_outcome`) and on a `Typed` format in terms of the calls libc rejects (`NoReject`, `refRun_outcome_typed`).
-/
import CelloProofs.Lemmas.FmtCalls

namespace Cello.Fmt

/-- the guard is in the code that is in /repo now (fails to check when `if (size < 0) { return size; }` is removed from
    `String_Format_To` or moved behind the `realloc`) -/
theorem primNow_guarded (libc : Libc) : (primNow libc).Guarded := by
  intro v pos
  rfl

variable (cfg : Cfg) (prim : Prim) (shw : Obj → Out → Out × Outcome) (args : List Obj)

theorem refRun_reject (hg : prim.Guarded) (ht : Dispatches cfg)
    (showCalls : Obj → List Call) (hs : ∀ a ∈ args, ∀ o, shw a o = (emitAll prim o (showCalls a), .ok))
    (pre : List Seg) (b : Str) (c : Char) (post : List Seg) (cs : List Call)
    (hcs : expectCalls showCalls args pre 0 = some cs) (hacc : AllAcc prim cs)
    (a : Obj) (ha : args[nspecs pre]? = some a) (v : PVal) (hv : specVal c a = some v)
    (hrej : prim.rej ('%' :: (b ++ [c])) v = true) (o : Out) :
    refRun cfg prim shw args (pre ++ .spec b c :: post) 0 o =
      ({ emitAll prim o cs with calls := o.calls ++ cs ++ [⟨'%' :: (b ++ [c]), v⟩] }, .raised .FormatError) := by
  rw [refRun_append, andThen, refRun_expectCalls prim shw cfg ht showCalls args hs pre 0 cs o hcs hacc]
  simp only [Nat.zero_add, refRun, ha]
  rw [dispatch_specVal prim shw cfg ht hv, call_rej _ hg _ hrej, emitAll_calls]

/-- libc accepts every literal run and `%%`, and every specification that has an argument converts it without raising
    (in particular libc accepts it), whatever the destination -/
def AllOk (args : List Obj) : List Seg → Nat → Prop
  | [], _ => True
  | .lit s :: r, k => prim.rej s .none = false ∧ AllOk args r k
  | .pct :: r, k => prim.rej ['%', '%'] .none = false ∧ AllOk args r k
  | .spec b c :: r, k =>
    (∀ a, args[k]? = some a → ∀ o, (dispatch prim shw cfg.disp c ('%' :: (b ++ [c])) a o).2 = .ok) ∧ AllOk args r (k + 1)

theorem refRun_outcome (args : List Obj) : ∀ (segs : List Seg) (k : Nat) (o : Out), AllOk cfg prim shw args segs k →
    k ≤ args.length →
    ((refRun cfg prim shw args segs k o).2 = .ok ∧ k + nspecs segs ≤ args.length) ∨
    ((refRun cfg prim shw args segs k o).2 = .raised .FormatError ∧ args.length < k + nspecs segs) := by
  intro segs
  induction segs with
  | nil => intro k o _ hk; left; simpa [refRun, nspecs] using hk
  | cons s r ih =>
    intro k o hok hkl
    cases s with
    | lit s => simpa [refRun, nspecs, call_acc prim o hok.1] using ih k _ hok.2 hkl
    | pct => simpa [refRun, nspecs, call_acc prim o hok.1] using ih k _ hok.2 hkl
    | spec b c =>
      simp only [refRun, nspecs]
      cases hk : args[k]? with
      | none =>
        have : args.length ≤ k := by simpa using hk
        exact .inr ⟨rfl, by omega⟩
      | some a =>
        have hlt : k < args.length := (List.getElem?_eq_some_iff.1 hk).1
        rcases hdd : dispatch prim shw cfg.disp c ('%' :: (b ++ [c])) a o with ⟨o', oc⟩
        obtain rfl : oc = .ok := by simpa only [hdd] using hok.1 a hk o
        have := ih (k + 1) o' hok.2 hlt
        rw [Nat.add_right_comm k 1, Nat.add_assoc k] at this
        simpa only [hdd] using this

theorem allOk_of_typed (ht : (∀ c ∈ intConvs, firing cfgNow c = [.cint]) ∧ (∀ c ∈ fltConvs, firing cfgNow c = [.cfloat]) ∧
      firing cfgNow 'c' = [.cint] ∧ firing cfgNow 's' = [.cstr] ∧ firing cfgNow 'p' = [.obj] ∧ firing cfgNow '$' = [.show])
    (hs : ∀ a o, (shw a o).2 = .ok) (hacc : ∀ frag v, prim.rej frag v = false) (args : List Obj) :
    ∀ (segs : List Seg) (k : Nat), Typed args segs k → AllOk cfgNow prim shw args segs k := by
  intro segs
  induction segs with
  | nil => intro k _; trivial
  | cons s r ih =>
    intro k h
    cases s with
    | lit s => exact ⟨hacc _ _, ih k h⟩
    | pct => exact ⟨hacc _ _, ih k h⟩
    | spec b c =>
      refine ⟨fun a ha o => ?_, ih (k + 1) h.2⟩
      rcases h.1 a ha with hc | hv
      · subst hc
        rw [dispatch_single prim shw cfgNow ht.2.2.2.2.2]
        exact hs a o
      · obtain ⟨v, hv⟩ := Option.isSome_iff_exists.1 hv
        rw [dispatch_specVal prim shw cfgNow ht hv, call_acc prim o (hacc _ _)]

/-- libc accepts every call the format makes itself: each literal run, each `%%`, and each specification with the C value
    of its argument (if it has one of its class; the calls made inside `show` for `%$` are not the format's) -/
def NoReject (prim : Prim) (args : List Obj) : List Seg → Nat → Prop
  | [], _ => True
  | .lit s :: r, k => prim.rej s .none = false ∧ NoReject prim args r k
  | .pct :: r, k => prim.rej ['%', '%'] .none = false ∧ NoReject prim args r k
  | .spec b c :: r, k =>
    (∀ a v, args[k]? = some a → specVal c a = some v → prim.rej ('%' :: (b ++ [c])) v = false) ∧ NoReject prim args r (k + 1)

/-- one step whose success is the condition `A`, then the rest of the run with its condition `R`: completes exactly when there
    are enough arguments and both hold, otherwise FormatError -/
theorem outcome_step {act rest : Out → Out × Outcome} {len n : Nat} {A R : Prop} (o : Out)
    (hact : (A ∧ ∃ o', act o = (o', .ok)) ∨ (¬ A ∧ ∃ o', act o = (o', .raised .FormatError)))
    (hrest : ∀ o', ((rest o').2 = .ok ∧ n ≤ len ∧ R) ∨ ((rest o').2 = .raised .FormatError ∧ (len < n ∨ ¬ R))) :
    ((andThen act rest o).2 = .ok ∧ n ≤ len ∧ A ∧ R) ∨
    ((andThen act rest o).2 = .raised .FormatError ∧ (len < n ∨ ¬ (A ∧ R))) := by
  rcases hact with ⟨hA, o', e⟩ | ⟨hA, o', e⟩ <;> simp only [andThen, e]
  · rcases hrest o' with h | h
    · exact .inl ⟨h.1, h.2.1, hA, h.2.2⟩
    · exact .inr ⟨h.1, h.2.imp id fun h2 hn => h2 hn.2⟩
  · exact .inr ⟨trivial, .inr fun hn => hA hn.1⟩

theorem call_outcome (hg : prim.Guarded) (o : Out) (frag : Str) (v : PVal) :
    (prim.rej frag v = false ∧ ∃ o', o.call prim frag v = (o', .ok)) ∨
    (¬ prim.rej frag v = false ∧ ∃ o', o.call prim frag v = (o', .raised .FormatError)) := by
  cases hr : prim.rej frag v with
  | false => exact .inl ⟨rfl, _, call_acc prim o hr⟩
  | true => exact .inr ⟨nofun, _, call_rej prim hg o hr⟩

theorem refRun_outcome_typed (hg : prim.Guarded) (ht : Dispatches cfg)
    (hs : ∀ a ∈ args, ∀ o, (shw a o).2 = .ok) :
    ∀ (segs : List Seg) (k : Nat) (o : Out), Typed args segs k → k ≤ args.length →
    ((refRun cfg prim shw args segs k o).2 = .ok ∧ k + nspecs segs ≤ args.length ∧ NoReject prim args segs k) ∨
    ((refRun cfg prim shw args segs k o).2 = .raised .FormatError ∧
      (args.length < k + nspecs segs ∨ ¬ NoReject prim args segs k)) := by
  intro segs
  induction segs with
  | nil => intro k o _ hk; left; exact ⟨rfl, by simpa [nspecs] using hk, trivial⟩
  | cons s r ih =>
    intro k o hty hkl
    cases s with
    | lit s => rw [refRun_lit]; exact outcome_step o (call_outcome prim hg o s .none) fun o' => ih k o' hty hkl
    | pct => rw [refRun_pct]; exact outcome_step o (call_outcome prim hg o _ .none) fun o' => ih k o' hty hkl
    | spec b c =>
      rw [refRun_spec]
      cases hk : args[k]? with
      | none =>
        have : args.length ≤ k := by simpa using hk
        exact .inr ⟨rfl, .inl (Nat.lt_succ_of_le (Nat.le_trans this (Nat.le_add_right ..)))⟩
      | some a =>
        have hlt : k < args.length := (List.getElem?_eq_some_iff.1 hk).1
        have rest := fun o' => ih (k + 1) o' hty.2 hlt
        rw [Nat.add_right_comm k 1, Nat.add_assoc k] at rest
        dsimp only
        -- the format's own call for this specification: none for `%$`, else the one with the argument's C value
        refine outcome_step (A := ∀ a' v, args[k]? = some a' → specVal c a' = some v → prim.rej ('%' :: (b ++ [c])) v = false) o ?_ rest
        rcases hty.1 a hk with rfl | hv
        · rw [dispatch_single prim shw cfg ht.2.2.2.2.2]
          exact .inl ⟨fun a' v _ hv => (by rw [specVal_show] at hv; cases hv), (shw a o).1, Prod.ext rfl (hs a (List.mem_of_getElem? hk) o)⟩
        · obtain ⟨v, hv⟩ := Option.isSome_iff_exists.1 hv
          have e : (∀ a' v', args[k]? = some a' → specVal c a' = some v' → prim.rej ('%' :: (b ++ [c])) v' = false) ↔
              prim.rej ('%' :: (b ++ [c])) v = false :=
            ⟨fun h => h a v hk hv, fun h a' v' ha' hv' => by rw [hk] at ha'; cases ha'; rw [hv] at hv'; cases hv'; exact h⟩
          rw [e, funext (dispatch_specVal prim shw cfg ht hv _)]
          exact call_outcome prim hg o _ v

/-- from the disjunction that `refRun_outcome` / `refRun_outcome_typed` give to the two equivalences of `C14_too_few` -/
theorem outcome_iff {oc : Outcome} {P Q : Prop} (hPQ : P → Q → False)
    (h : (oc = .ok ∧ P) ∨ (oc = .raised .FormatError ∧ Q)) : (oc = .ok ↔ P) ∧ (oc = .raised .FormatError ↔ Q) := by
  rcases h with ⟨rfl, hp⟩ | ⟨rfl, hq⟩
  · exact ⟨⟨fun _ => hp, fun _ => rfl⟩, nofun, fun hq => (hPQ hp hq).elim⟩
  · exact ⟨⟨nofun, fun hp => (hPQ hp hq).elim⟩, fun _ => hq, fun _ => rfl⟩

end Cello.Fmt
