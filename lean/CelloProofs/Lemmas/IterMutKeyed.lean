/- Table and Tree after a history of set / rem / resize, for C11.
   Table: the representation invariant `Rep` of the C02 engine (CelloProofs/Lemmas/Table*.lean) is kept
   by every mutation; in it `nitems` = number of occupied slots, so the slot scan is lawful.
   Tree: iteration is lawful over EVERY shape whose `nitems` field equals its number of nodes; the field of `MTree` does. -/
import Cello.IterMut
import CelloProofs.Lemmas.IterContainers
import CelloProofs.Lemmas.IterMutSpec
import CelloProofs.Lemmas.IterTree
import CelloProofs.Lemmas.TableOps
import CelloProofs.Lemmas.TableErase
import CelloProofs.Lemmas.TableIter
import CelloProofs.Lemmas.TableIdeal

namespace Cello.Iter

/-- the slot scan with a separate `nitems` field is the scan of `tableI` when the field counts the occupied slots -/
theorem tableNI_lawfulAs {α : Type} (slots : List (Option α)) (n : Nat) (h : (occupied slots).length = n) :
    LawfulAs (tableNI slots n) (occupied slots) := by
  subst h
  exact table_lawfulAs slots

open Cello.Table in
/-- the parameters read from src/Table.c (`tabCfg`) satisfy what the refinement needs (strict displacement test, growth
    of an empty table, `Table_Ideal_Size n > n`): stops type-checking when the source changes any of them -/
theorem tabCfg_good : GoodCfg tabCfg := by
  -- field by field and not by an anonymous constructor: the proof does not depend on how many source-derived flags `GoodCfg`
  -- has (each holds by `rfl` for the current source)
  constructor <;> first
    | rfl
    | exact fun n => idealSize_gt _ _ _ (by decide) (by decide) (by decide) n

/-- abstract effect of one mutation on the finite map (association list with unique keys) -/
def keyedSpec (m : Cello.Table.Spec Int Int) : KOp → Cello.Table.Spec Int Int × MOut
  | .set k => (Cello.Table.Spec.set m k (10 * k), .ok)
  | .rem k => match Cello.Table.Spec.get m k with
    | none => (m, .key)
    | some _ => (Cello.Table.Spec.rem m k, .ok)
  | .resize n => if n = 0 then ([], .ok) else if n < m.length then (m, .format) else (m, .ok)

open Cello.Table in
theorem tabStep_rep (t : MTab) (m : Spec Int Int) (r : Rep intHash t m) (op : KOp) :
    ∃ t', tabStep t op = some (t', (keyedSpec m op).2) ∧ Rep intHash t' (keyedSpec m op).1 := by
  cases op with
  | set k =>
    obtain ⟨t', e, r'⟩ := set_rep tabCfg tabCfg_good intHash t m r k (10 * k)
    exact ⟨t', by simp only [tabStep, e, keyedSpec], r'⟩
  | rem k =>
    obtain ⟨t', e, r'⟩ := rem_rep tabCfg tabCfg_good intHash t m r k
    simp only [tabStep, keyedSpec, e]
    cases hg : Spec.get m k <;> simp only [hg] at r' ⊢ <;> exact ⟨t', rfl, r'⟩
  | resize n =>
    obtain ⟨t', e, r'⟩ := resize_rep tabCfg tabCfg_good intHash t m r n
    simp only [tabStep, keyedSpec, e]
    by_cases h0 : n = 0
    · simp only [h0, if_true] at r' ⊢; exact ⟨t', rfl, r'⟩
    · simp only [h0, if_false] at r' ⊢
      by_cases hlt : n < m.length <;> simp only [hlt, if_true, if_false] <;> exact ⟨t', rfl, r'⟩

/-- the abstract run of a history of Table mutations -/
def keyedRun : Cello.Table.Spec Int Int → List KOp → Cello.Table.Spec Int Int × List MOut
  | m, [] => (m, [])
  | m, op :: ops =>
    let (m1, o) := keyedSpec m op
    let (m2, os) := keyedRun m1 ops
    (m2, o :: os)

open Cello.Table in
theorem tabRun_rep (ops : List KOp) (t : MTab) (m : Spec Int Int) (r : Rep intHash t m) :
    ∃ t', tabRun t ops = (t', (keyedRun m ops).2) ∧ Rep intHash t' (keyedRun m ops).1 :=
  history_meets (Rep intHash) keyedSpec tabRun keyedRun (fun _ => rfl) (fun _ => rfl) (fun _ _ _ => rfl)
    (fun t m op r => let ⟨t', e, r'⟩ := tabStep_rep t m r op; ⟨t', r', fun ops => by simp only [tabRun, e]⟩) ops t m r

theorem keyedSpec_ne_undef (m : Cello.Table.Spec Int Int) (op : KOp) : (keyedSpec m op).2 ≠ .undef := by
  cases op <;> simp only [keyedSpec] <;> (repeat' split) <;> simp

theorem keyedRun_no_undef : ∀ (ops : List KOp) (m : Cello.Table.Spec Int Int), (keyedRun m ops).2.contains .undef = false :=
  history_no_undef keyedSpec keyedRun (fun _ => rfl) (fun _ _ _ => rfl) keyedSpec_ne_undef

open Cello.Table in
theorem tabI_lawful (t : MTab) (m : Spec Int Int) (r : Rep intHash t m) :
    LawfulAs (tabI t) (occupied (tabSlots t)) ∧ (occupied (tabSlots t)).length = m.length ∧
    (occupied (tabSlots t)).Perm (m.map Prod.fst) := by
  have h1 : occupied (tabSlots t) = (entriesList t.slots).map Prod.fst := by
    simp only [occupied, tabSlots, entriesList, List.filterMap_map, List.map_filterMap]
    congr 1
    funext o
    cases o <;> rfl
  have hlen : (occupied (tabSlots t)).length = t.nitems := by rw [h1, List.length_map, r.length_entriesList]
  refine ⟨tableNI_lawfulAs _ _ hlen, by rw [hlen, r.len], ?_⟩
  rw [h1]
  have := foreach_perm intHash t m r.toRep0
  rw [foreach_eq intHash t r.toWF] at this
  exact this.map _

/-- with a field that equals the number of nodes, the test `nitems is 0` of Init / Last is the test for the empty shape -/
theorem treeNI_size {α : Type} (t : T α) : treeNI t t.size = treeI t := by
  cases t with
  | nil => rfl
  | node l k r =>
    have hn : (T.node l k r).size ≠ 0 := by simp only [T.size]; omega
    simp only [treeNI, treeI, if_neg hn]

theorem treeNI_lawfulAs {α : Type} (t : T α) (n : Nat) (h : n = t.size) : LawfulAs (treeNI t n) t.inorder := by
  rw [h, treeNI_size]
  exact tree_lawfulAs t

theorem T.size_removeFirst : ∀ (t : T Int), t.size = match t.removeFirst with | none => 0 | some p => p.2.size + 1
  | .nil => rfl
  | .node l k r => by
    have := T.size_removeFirst l
    simp only [T.removeFirst, T.size]
    cases hl : l.removeFirst <;> simp only [hl, T.size] at this ⊢ <;> omega

theorem T.size_insert (x : Int) : ∀ (t : T Int), (t.insert x).size = t.size + (if t.mem x then 0 else 1) := by
  intro t
  induction t with
  | nil => simp [T.insert, T.mem, T.size]
  | node l k r ihl ihr =>
    simp only [T.insert, T.mem]
    by_cases h1 : k < x
    · simp only [h1, if_true, T.size, ihl]; omega
    · by_cases h2 : x < k
      · simp only [h1, if_false, h2, if_true, T.size, ihr]; omega
      · simp [h1, h2, T.size]

theorem T.size_remove (x : Int) : ∀ (t : T Int), (t.remove x).size + (if t.mem x then 1 else 0) = t.size := by
  intro t
  induction t with
  | nil => simp [T.remove, T.mem, T.size]
  | node l k r ihl ihr =>
    simp only [T.remove, T.mem]
    by_cases h1 : k < x
    · simp only [h1, if_true, T.size]; omega
    · by_cases h2 : x < k
      · simp only [h1, if_false, h2, if_true, T.size]; omega
      · simp only [h1, h2, if_false]
        have := T.size_removeFirst r
        cases hr : r.removeFirst <;> simp only [hr, T.size, ↓reduceIte] at this ⊢ <;> omega

theorem treeStep_count (m : MTree) (h : m.nitems = m.root.size) (op : KOp) : (treeStep m op).1.nitems = (treeStep m op).1.root.size := by
  cases op with
  | set k =>
    simp only [treeStep, T.size_insert]
    split <;> omega
  | rem k =>
    simp only [treeStep]
    split
    · next hm =>
      have := T.size_remove k m.root
      simp only [hm, if_true] at this
      simp only; omega
    · exact h
  | resize n =>
    simp only [treeStep]
    split
    · rfl
    · exact h

theorem treeRun_count : ∀ (ops : List KOp) (m : MTree), m.nitems = m.root.size →
    (treeRun m ops).1.nitems = (treeRun m ops).1.root.size := by
  intro ops
  induction ops with
  | nil => intro m h; exact h
  | cons op ops ih =>
    intro m h
    simp only [treeRun]
    exact ih _ (treeStep_count m h op)

end Cello.Iter
