/-
  Lemmas for C10: `hash_data` run as a program over addressable memory (`hashDataMem`) computes `hashData` of the bytes at the
  given address.
-/
import Cello.Hash

namespace Cello.Hash
open CelloGen.Hash

theorem loadBytes_eq_map (mem : Mem) : ∀ (n p : Nat), loadBytes mem p n = (List.range n).map fun i => mem (p + i)
  | 0, _ => rfl
  | n + 1, p => by
    rw [loadBytes, loadBytes_eq_map mem n (p + 1), List.range_succ_eq_map, List.map_cons, List.map_map]
    simp only [Nat.add_zero, Function.comp_def, Nat.add_assoc, Nat.add_comm 1]

theorem length_loadBytes (mem : Mem) (n p : Nat) : (loadBytes mem p n).length = n := by simp [loadBytes_eq_map]

theorem loadBytes_add (mem : Mem) (a b p : Nat) : loadBytes mem p (a + b) = loadBytes mem p a ++ loadBytes mem (p + a) b := by
  simp [loadBytes_eq_map, List.range_add, Nat.add_assoc]

theorem loadBytes_take (mem : Mem) (a b p : Nat) : (loadBytes mem p (a + b)).take a = loadBytes mem p a := by
  rw [loadBytes_add]; exact List.take_left' (length_loadBytes mem a p)

theorem loadBytes_drop (mem : Mem) (a b p : Nat) : (loadBytes mem p (a + b)).drop a = loadBytes mem (p + a) b := by
  rw [loadBytes_add]; exact List.drop_left' (length_loadBytes mem a p)

theorem getD_loadBytes (mem : Mem) (n p i : Nat) (h : i < n) : (loadBytes mem p n).getD i 0 = mem (p + i) := by
  simp [loadBytes_eq_map, List.getD_eq_getElem?_getD, h]

theorem loadBytes_congr (mem mem' : Mem) (n p p' : Nat) (h : ∀ i, i < n → mem (p + i) = mem' (p' + i)) :
    loadBytes mem p n = loadBytes mem' p' n := by
  rw [loadBytes_eq_map, loadBytes_eq_map]
  exact List.map_congr_left fun i hi => h i (List.mem_range.mp hi)

theorem loadBytes_of_getD (mem : Mem) (fill : UInt8) (bs : Bytes) (p : Nat) (h : ∀ i, i < bs.length → mem (p + i) = bs.getD i fill) :
    loadBytes mem p bs.length = bs := by
  rw [loadBytes_eq_map]
  apply List.ext_getElem (by simp)
  intro i h1 h2
  simp only [List.getElem_map, List.getElem_range, h i h2, List.getD_eq_getElem?_getD, List.getElem?_eq_getElem h2, Option.getD_some]

theorem loadBytes_memOf (fill : UInt8) (p : Nat) (bs : Bytes) : loadBytes (memOf fill p bs) p bs.length = bs := by
  apply loadBytes_of_getD _ fill
  intro i hi
  simp [memOf, hi]

/-- with an 8-byte load and an 8-byte step the cursor loop is the counted loop over the byte string (`r`: the bytes behind the
    last block, which the loop does not look at) -/
theorem memBlockLoop_eq (f : UInt64 → UInt64 → UInt64) (mem : Mem) (r : Nat) :
    ∀ (k fuel d : Nat) (h : UInt64), k < fuel →
      memBlockLoop f mem 8 8 (d + 8 * k) fuel d h = some (d + 8 * k, blockLoop f k h (loadBytes mem d (8 * k + r))) := by
  intro k
  induction k with
  | zero =>
    intro fuel d h hf
    cases fuel with
    | zero => omega
    | succ fuel => simp [memBlockLoop, blockLoop]
  | succ k ih =>
    intro fuel d h hf
    cases fuel with
    | zero => omega
    | succ fuel =>
      have hne : ¬ (d = d + 8 * (k + 1)) := by omega
      have he : d + 8 * (k + 1) = (d + 8) + 8 * k := by omega
      have hl : 8 * (k + 1) + r = 8 + (8 * k + r) := by omega
      simp only [memBlockLoop, hne, if_false]
      rw [he, ih fuel (d + 8) _ (by omega), hl]
      simp only [blockLoop, loadBytes_take, loadBytes_drop]

theorem widenByte_unsigned (b : UInt8) : widenByte false b = b.toUInt64 := by simp [widenByte]

theorem tail_foldl_mem_eq (m : UInt64) (mem : Mem) (d n : Nat) (stmts : List TailStmt) (h : UInt64)
    (hall : ∀ idx shift, .xorByte idx shift ∈ stmts → idx < n) :
    stmts.foldl (runTailStmtMem m false mem d) h = stmts.foldl (runTailStmt m (loadBytes mem d n)) h := by
  refine List.foldl_rel (r := Eq) rfl fun s hs h _ e => ?_
  subst e
  cases s with
  | xorByte idx shift =>
    show h ^^^ (widenByte false (mem (d + idx)) <<< _) = h ^^^ (((loadBytes mem d n).getD idx 0).toUInt64 <<< _)
    rw [widenByte_unsigned, getD_loadBytes mem n d idx (hall idx shift hs)]
  | mulM => rfl
  | brk => rfl

theorem tailInBounds_at {cases : List (Nat × List TailStmt)} (h : tailInBounds cases = true) {n : Nat} (hn : n < 8)
    {idx shift : Nat} (hs : .xorByte idx shift ∈ tailStmtsAt cases n) : idx < n := by
  simpa using List.all_eq_true.mp (List.all_eq_true.mp h n (List.mem_range.mpr hn)) _ hs

theorem srcTail_inBounds : tailInBounds CelloGen.Hash.tail = true := by decide

theorem runTail_eq_foldl (m : UInt64) (cases : List (Nat × List TailStmt)) (n : Nat) (d : Bytes) (h : UInt64) :
    runTail m cases n d h = (tailStmtsAt cases n).foldl (runTailStmt m d) h := rfl

/-- the frame the theorem is about: unsigned bytes, blocks of 8 with an 8-byte step, `size & ~7`, `switch (size & 7)` -/
def murmurFrame : HdFrame := ⟨false, 7, 8, 8, 7⟩

theorem and_seven_eq_mod_eight (n : Nat) : n &&& 7 = n % 8 := Nat.and_two_pow_sub_one_eq_mod n 3

theorem hashDataMemWith_murmurFrame (mem : Mem) (p n : Nat) :
    hashDataMemWith murmurFrame CelloGen.Hash.m CelloGen.Hash.r CelloGen.Hash.seed CelloGen.Hash.blockSteps CelloGen.Hash.tail
      CelloGen.Hash.finalSteps mem p n = some (hashData (loadBytes mem p n)) := by
  have hk : n = 8 * (n / 8) + n % 8 := by omega
  have hr : n % 8 < 8 := by omega
  generalize n / 8 = k at hk
  generalize n % 8 = r at hk hr
  subst hk
  have h1 : (8 * k + r) % 8 = r := by omega
  have h2 : (8 * k + r) / 8 = k := by omega
  have h3 : 8 * k + r - r = 8 * k := by omega
  unfold hashDataMemWith hashData hashDataWith
  simp only [murmurFrame, and_seven_eq_mod_eight, h1, h2, h3, length_loadBytes]
  rw [memBlockLoop_eq _ mem r k (8 * k + r + 1) p _ (by omega)]
  simp only [runTail_eq_foldl, loadBytes_drop]
  rw [tail_foldl_mem_eq _ mem (p + 8 * k) r _ _ fun _ _ => tailInBounds_at srcTail_inBounds hr]

theorem srcFrame_eq : srcFrame = murmurFrame := by decide

theorem hashDataMem_eq (mem : Mem) (p n : Nat) : hashDataMem mem p n = some (hashData (loadBytes mem p n)) := by
  unfold hashDataMem; rw [srcFrame_eq]; exact hashDataMemWith_murmurFrame mem p n

end Cello.Hash
