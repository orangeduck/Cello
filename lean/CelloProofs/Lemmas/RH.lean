/-
  CelloProofs/Lemmas/RH.lean — the robin-hood core.  The invariant is local (`Inv0`); what the probing loops rely on is the
  global fact it implies (`chain0`, `probe_path`).  Lookup is proved once for every loop that probes as `findLoop` does: a
  stored key is reached (`ProbeWalk.reaches`: the invariant), an absent key stops the probe (`ProbeLoop.stops`: an empty slot).
-/
import Cello.RH
namespace RH

/-! `dist n a b` is `a - b` modulo `n`, so distances add up modulo `n` (`dist_tri`), and `next` adds one (`dist_next_self`).
Every other fact about slots on the circle follows from these two by linear arithmetic. -/

theorem next_eq_mod {n i : Nat} (h : i < n) : next n i = (i + 1) % n := by
  unfold next; split
  · rename_i h1; rw [h1, Nat.mod_self]
  · rw [Nat.mod_eq_of_lt (by omega)]

theorem dist_eq_mod {n i home : Nat} (hi : i < n) (hh : home < n) : dist n i home = (i + n - home) % n := by
  unfold dist; split
  · rename_i h
    rw [Nat.sub_add_comm h, Nat.add_mod_right, Nat.mod_eq_of_lt (Nat.lt_of_le_of_lt (Nat.sub_le _ _) hi)]
  · rw [Nat.mod_eq_of_lt (by omega)]

theorem prev_next {n q : Nat} : prev n (next n q) = q := by
  unfold next; split
  · rw [prev, if_pos rfl]; omega
  · rw [prev, if_neg (Nat.succ_ne_zero q)]; rfl

theorem next_prev {n q : Nat} (hq : q < n) : next n (prev n q) = q := by
  unfold prev; split
  · rename_i h; rw [next, if_pos (Nat.sub_add_cancel (Nat.zero_lt_of_lt hq))]; exact h.symm
  · rename_i h; rw [next, Nat.sub_add_cancel (Nat.pos_of_ne_zero h), if_neg (Nat.ne_of_lt hq)]

theorem prev_inj {n a b : Nat} (ha : a < n) (hb : b < n) (h : prev n a = prev n b) : a = b := by
  rw [← next_prev ha, h, next_prev hb]

theorem eq_next_of_prev_eq {n q j : Nat} (hq : q < n) (h : prev n q = j) : q = next n j := by
  rw [← h, next_prev hq]

theorem dist_self {n i : Nat} : dist n i i = 0 := by unfold dist; rw [if_pos (Nat.le_refl i), Nat.sub_self]

theorem dist_lt {n i h : Nat} (hi : i < n) (hh : h < n) : dist n i h < n := by
  unfold dist; split
  · exact Nat.lt_of_le_of_lt (Nat.sub_le _ _) hi
  · omega

theorem eq_of_dist_eq_zero {n i h : Nat} (hh : h < n) (h0 : dist n i h = 0) : h = i := by
  unfold dist at h0; split at h0
  · rename_i hle; exact Nat.le_antisymm hle (Nat.le_of_sub_eq_zero h0)
  · omega

theorem dist_tri {n a b c : Nat} (ha : a < n) (hb : b < n) (hc : c < n) :
    dist n a b + dist n b c = dist n a c ∨ dist n a b + dist n b c = dist n a c + n := by
  have hs : (dist n a b + dist n b c) % n = dist n a c := by
    rw [dist_eq_mod ha hb, dist_eq_mod hb hc, dist_eq_mod ha hc, ← Nat.add_mod,
      show a + n - b + (b + n - c) = a + n - c + n by omega, Nat.add_mod_right]
  have h1 := dist_lt ha hb
  have h2 := dist_lt hb hc
  by_cases h : dist n a b + dist n b c < n
  · left; rw [← hs, Nat.mod_eq_of_lt h]
  · right; rw [← hs, Nat.mod_eq_sub_mod (Nat.le_of_not_lt h), Nat.mod_eq_of_lt (by omega)]; omega

theorem dist_next_self {n i : Nat} (hn : 1 < n) : dist n (next n i) i = 1 := by
  unfold next; split
  · rw [dist, if_neg (by omega)]; omega
  · rw [dist, if_pos (Nat.le_succ i), Nat.add_sub_cancel_left]

theorem dist_next_fwd {n z i : Nat} (hi : i < n) (hz : z < n) (hne : i ≠ z) :
    dist n z (next n i) + 1 = dist n z i := by
  have h1 := dist_tri hz (next_lt hi) hi
  have h2 := dist_lt hz (next_lt hi)
  have h3 : dist n z i ≠ 0 := fun h => hne (eq_of_dist_eq_zero hi h)
  rw [dist_next_self (by omega)] at h1
  omega

theorem dist_pos_of_ne {n z i : Nat} (hi : i < n) (hz : z < n) (hne : i ≠ z) : 0 < dist n z i := by
  have := dist_next_fwd hi hz hne; omega

theorem dist_next {n p q t : Nat} (hp : p < n) (hq : q < n) (h : dist n p q = t + 1) : dist n p (next n q) = t := by
  have hne : q ≠ p := by rintro rfl; rw [dist_self] at h; cases h
  have := dist_next_fwd hq hp hne; omega

theorem dist_next_slot {n i h : Nat} (hi : i < n) (hh : h < n) :
    dist n (next n i) h = dist n i h + 1 ∨ (dist n (next n i) h = 0 ∧ dist n i h + 1 = n) := by
  have h1 := dist_tri (next_lt hi) hi hh
  have h2 := dist_lt hi hh
  have h3 := dist_lt (next_lt hi) hh
  by_cases hn : 1 < n
  · rw [dist_next_self hn] at h1; omega
  · have : next n i = i := by have := next_lt hi; omega
    rw [this]; omega

theorem dist_compl {n z i : Nat} (hi : i < n) (hz : z < n) (hne : i ≠ z) : dist n z i + dist n i z = n := by
  have h1 := dist_tri hz hi hz
  have h2 := dist_pos_of_ne hi hz hne
  rw [dist_self] at h1; omega

/-- `h`, `i`, `z` in this cyclic order: the way from `h` to `z` passes `i` -/
theorem dist_add {n z i h : Nat} (hi : i < n) (hz : z < n) (hh : h < n) (hlt : dist n i h < dist n i z) :
    dist n z h = dist n z i + dist n i h := by
  have hne : i ≠ z := by rintro rfl; rw [dist_self] at hlt; cases hlt
  have h1 := dist_tri hz hi hh
  have h2 := dist_compl hi hz hne
  omega

variable {κ ε : Type} [DecidableEq κ] {n : Nat}

/-- The robin-hood invariant in local form: the stored home is `hash key % n`; keys are pairwise distinct; an occupied slot
    at distance `> 0` from its home has an occupied predecessor whose distance from its own home is at most one less; some
    slot is empty.  Local, because an insertion or a deletion changes it only at the two ends of the block it shifts; the
    global fact the probing loops rely on (every slot between an entry and its home is occupied, by an entry far enough
    from its own home) is derived from it: `chain0`. -/
structure Inv (hash : κ → Nat) (s : Slots κ ε n) : Prop where
  home_ok : ∀ i (hi : i < n) e, s[i] = some e → e.home = hash e.key % n
  distinct : ∀ i j (hi : i < n) (hj : j < n) e e', s[i] = some e → s[j] = some e' → e.key = e'.key → i = j
  loc : ∀ i (hi : i < n) e, s[i] = some e → 0 < dist n i e.home →
          ∃ e', s[prev n i]'(prev_lt hi) = some e' ∧ dist n i e.home ≤ dist n (prev n i) e'.home + 1
  has_empty : ∃ i, ∃ hi : i < n, s[i] = none

def Present (s : Slots κ ε n) (k : κ) : Prop := ∃ i, ∃ hi : i < n, ∃ e, s[i] = some e ∧ e.key = k

/-- the part of the invariant that does not mention emptiness: what the insertion and deletion loops preserve (they take the
    empty slot they need as a separate witness `z`) -/
structure Inv0 (hash : κ → Nat) (s : Slots κ ε n) : Prop where
  home_ok : ∀ i (hi : i < n) e, s[i] = some e → e.home = hash e.key % n
  distinct : ∀ i j (hi : i < n) (hj : j < n) e e', s[i] = some e → s[j] = some e' → e.key = e'.key → i = j
  loc : ∀ i (hi : i < n) e, s[i] = some e → 0 < dist n i e.home →
          ∃ e', s[prev n i]'(prev_lt hi) = some e' ∧ dist n i e.home ≤ dist n (prev n i) e'.home + 1

section
omit [DecidableEq κ]

theorem Inv.toInv0 {hash : κ → Nat} {s : Slots κ ε n} (h : Inv hash s) : Inv0 hash s := ⟨h.home_ok, h.distinct, h.loc⟩
theorem Inv0.toInv {hash : κ → Nat} {s : Slots κ ε n} (h : Inv0 hash s) (z : Nat) (hz : z < n) (hze : s[z] = none) :
    Inv hash s := ⟨h.home_ok, h.distinct, h.loc, ⟨z, hz, hze⟩⟩

theorem ne_of_occ_empty (s : Slots κ ε n) {i z : Nat} (hi : i < n) (hz : z < n) {r : Entry κ ε}
    (hr : s[i] = some r) (hze : s[z] = none) : i ≠ z := by
  intro h; rw [getElem_congr_idx h, hze] at hr; cases hr

theorem home_lt {hash : κ → Nat} {s : Slots κ ε n} (hk : ∀ i (hi : i < n) e, s[i] = some e → e.home = hash e.key % n)
    {i : Nat} (hi : i < n) {e : Entry κ ε} (he : s[i] = some e) : e.home < n := by
  rw [hk i hi e he]; exact Nat.mod_lt _ (by omega)

/-- `t` slots back from the entry `e` at `p`, no further than `e`'s home, sits an entry that is at most `t` nearer to its
    own home than `e` is: `loc`, `t` times. -/
theorem chain0 (hash : κ → Nat) (s : Slots κ ε n) (inv : Inv0 hash s)
    (p : Nat) (hp : p < n) (e : Entry κ ε) (hpe : s[p] = some e) :
    ∀ (t q : Nat) (hq : q < n), dist n p q = t → t ≤ dist n p e.home →
      ∃ e', s[q] = some e' ∧ dist n p e.home ≤ dist n q e'.home + t := by
  intro t
  induction t with
  | zero =>
    intro q hq hd _
    obtain rfl := eq_of_dist_eq_zero hq hd
    exact ⟨e, hpe, Nat.le_refl _⟩
  | succ t ih =>
    intro q hq hd hle
    have hq' := next_lt hq
    obtain ⟨e'', he'', hD⟩ := ih (next n q) hq' (dist_next hp hq hd) (by omega)
    obtain ⟨e', he', hl⟩ := inv.loc (next n q) hq' e'' he'' (by omega)
    rw [getElem_congr_idx prev_next] at he'
    rw [prev_next] at hl
    exact ⟨e', he', by omega⟩

/-- The probe path.  A probe that is at slot `i` with offset `j` and would reach slot `p` (holding `e`) exactly when its
    offset equals `e`'s distance from home sees at `i` an entry at least `j` from its own home, and with another key
    unless `i = p`: so no probing loop stops, displaces or matches before `p`. -/
theorem probe_path {hash : κ → Nat} {s : Slots κ ε n} (inv : Inv0 hash s) {p : Nat} (hp : p < n) {e : Entry κ ε}
    (hpe : s[p] = some e) {i j : Nat} (hi : i < n) (hj : j + dist n p i = dist n p e.home) :
    ∃ e', s[i] = some e' ∧ ¬ j > dist n i e'.home ∧ (i ≠ p → ¬ e'.key = e.key) := by
  obtain ⟨e', he', hD⟩ := chain0 hash s inv p hp e hpe (dist n p i) i hi rfl (by omega)
  exact ⟨e', he', by omega, fun hip hk => hip (inv.distinct i p hi hp e' e he' hpe hk)⟩

/-- A loop that walks the probe path of the array `s`: at an entry that is not nearer to its home than the probe is to the
    key's it answers `onHit` if that is the entry it is looking for (`hit`) and steps on otherwise.  What it does at an
    empty slot or at a nearer entry is left open: on the way to a stored entry neither occurs (`probe_path`). -/
structure ProbeWalk (s : Slots κ ε n) (hit : Entry κ ε → Prop) {β : Type} (onHit : (i : Nat) → i < n → Entry κ ε → β)
    (L : Nat → (i j : Nat) → i < n → Option β) : Prop where
  found : ∀ fuel i j hi e, s[i] = some e → ¬ j > dist n i e.home → hit e → L (fuel+1) i j hi = some (onHit i hi e)
  miss : ∀ fuel i j hi e, s[i] = some e → ¬ j > dist n i e.home → ¬ hit e →
    L (fuel+1) i j hi = L fuel (next n i) (j+1) (next_lt hi)

/-- A probing loop also answers `stop` at an empty slot and at a nearer entry.  GC_Mem_Ptr / Table_Mem (`lookupLoop`),
    Table_Get / Table_Rem / GC_Rem_Ptr (`findLoop`) and GC_Mark_Item (`markLoop`, Cello/Registry.lean) differ in `hit`,
    `onHit` and `stop` only; of Table_Set_Move's loop only the walk half holds, under the strict rule (Lemmas/TableSetMove.lean). -/
structure ProbeLoop (s : Slots κ ε n) (hit : Entry κ ε → Prop) {β : Type} (onHit : (i : Nat) → i < n → Entry κ ε → β) (stop : β)
    (L : Nat → (i j : Nat) → i < n → Option β) : Prop extends ProbeWalk s hit onHit L where
  empty : ∀ fuel i j hi, s[i] = none → L (fuel+1) i j hi = some stop
  near : ∀ fuel i j hi e, s[i] = some e → j > dist n i e.home → L (fuel+1) i j hi = some stop

variable {s : Slots κ ε n} {hit : Entry κ ε → Prop} {β : Type} {onHit : (i : Nat) → i < n → Entry κ ε → β} {stop : β}
  {L : Nat → (i j : Nat) → i < n → Option β}

/-- walking forward from slot `i` (offset `j` from the home of `e`'s key) towards the slot `p` that holds the entry `e`
    looked for, `m` slots ahead: with more than `m` units of fuel the loop answers at `p` -/
theorem ProbeWalk.reaches (hL : ProbeWalk s hit onHit L) {hash : κ → Nat} (inv : Inv0 hash s)
    {p : Nat} (hp : p < n) {e : Entry κ ε} (hpe : s[p] = some e) (he : hit e) (honly : ∀ e', hit e' → e'.key = e.key) :
    ∀ (m : Nat) (i j : Nat) (hi : i < n) (fuel : Nat),
      dist n p i = m → j + m = dist n p e.home → m < fuel → L fuel i j hi = some (onHit p hp e) := by
  intro m
  induction m with
  | zero =>
    intro i j hi fuel hm hj hf
    obtain rfl := eq_of_dist_eq_zero hi hm
    obtain ⟨fuel, rfl⟩ := Nat.exists_eq_succ_of_ne_zero (Nat.ne_of_gt hf)
    exact hL.found fuel i j hi e hpe (by omega) he
  | succ m ih =>
    intro i j hi fuel hm hj hf
    obtain ⟨fuel, rfl⟩ := Nat.exists_eq_succ_of_ne_zero (Nat.ne_of_gt (Nat.lt_trans (Nat.succ_pos m) hf))
    obtain ⟨e', he', hle, hkey⟩ := probe_path inv hp hpe hi (j := j) (by omega)
    have hip : i ≠ p := by rintro rfl; rw [dist_self] at hm; cases hm
    rw [hL.miss fuel i j hi e' he' hle fun h => hkey hip (honly e' h)]
    exact ih (next n i) (j+1) (next_lt hi) fuel (dist_next hp hi hm) (by omega) (by omega)

theorem ProbeWalk.reaches_from_home (hL : ProbeWalk s hit onHit L) {hash : κ → Nat} (inv : Inv0 hash s) (hn : 0 < n)
    {p : Nat} (hp : p < n) {e : Entry κ ε} (hpe : s[p] = some e) (he : hit e) (honly : ∀ e', hit e' → e'.key = e.key) :
    L n (hash e.key % n) 0 (Nat.mod_lt _ hn) = some (onHit p hp e) :=
  hL.reaches inv hp hpe he honly _ _ 0 _ n rfl (by rw [inv.home_ok p hp e hpe, Nat.zero_add]) (dist_lt hp (Nat.mod_lt _ hn))

/-- nothing looked for is stored: the loop stops, at the latest at the empty slot `z` -/
theorem ProbeLoop.stops (hL : ProbeLoop s hit onHit stop L) (hno : ∀ q (hq : q < n) e, s[q] = some e → ¬ hit e)
    {z : Nat} (hz : z < n) (hze : s[z] = none) :
    ∀ (fuel i j : Nat) (hi : i < n), dist n z i < fuel → L fuel i j hi = some stop := by
  intro fuel
  induction fuel with
  | zero => intro i j hi h; omega
  | succ fuel ih =>
    intro i j hi hf
    cases he : s[i] with
    | none => exact hL.empty fuel i j hi he
    | some e =>
      by_cases hj : j > dist n i e.home
      · exact hL.near fuel i j hi e he hj
      · rw [hL.miss fuel i j hi e he hj (hno i hi e he)]
        have := dist_next_fwd hi hz (ne_of_occ_empty s hi hz he hze)
        exact ih (next n i) (j+1) (next_lt hi) (by omega)

theorem ProbeLoop.stops_n (hL : ProbeLoop s hit onHit stop L) (hno : ∀ q (hq : q < n) e, s[q] = some e → ¬ hit e)
    {z : Nat} (hz : z < n) (hze : s[z] = none) {i : Nat} (j : Nat) (hi : i < n) : L n i j hi = some stop :=
  hL.stops hno hz hze n i j hi (dist_lt hz hi)

end

theorem probeLoop_findLoop (s : Slots κ ε n) (k : κ) :
    ProbeLoop s (·.key = k) (fun i hi _ => some ⟨i, hi⟩) none (findLoop s k) := by
  refine ⟨⟨?_, ?_⟩, ?_, ?_⟩
  · intro fuel i j hi e h hj hk; simp only [findLoop, h, if_neg hj, if_pos hk]
  · intro fuel i j hi e h hj hk; simp only [findLoop, h, if_neg hj, if_neg hk]
  · intro fuel i j hi h; simp only [findLoop, h]
  · intro fuel i j hi e h hj; simp only [findLoop, h, if_pos hj]

theorem probeLoop_lookupLoop (s : Slots κ ε n) (k : κ) :
    ProbeLoop s (·.key = k) (fun _ _ _ => true) false (lookupLoop s k) := by
  refine ⟨⟨?_, ?_⟩, ?_, ?_⟩
  · intro fuel i j hi e h hj hk; simp only [lookupLoop, h, if_neg hj, if_pos hk]
  · intro fuel i j hi e h hj hk; simp only [lookupLoop, h, if_neg hj, if_neg hk]
  · intro fuel i j hi h; simp only [lookupLoop, h]
  · intro fuel i j hi e h hj; simp only [lookupLoop, h, if_pos hj]

theorem find_present (hash : κ → Nat) (s : Slots κ ε n) (inv : Inv0 hash s) (hn : 0 < n) (k : κ)
    (p : Nat) (hp : p < n) (e : Entry κ ε) (hpe : s[p] = some e) (hk : e.key = k) :
    findLoop s k n (hash k % n) 0 (Nat.mod_lt _ hn) = some (some ⟨p, hp⟩) := by
  subst hk; exact (probeLoop_findLoop s e.key).reaches_from_home inv hn hp hpe rfl fun _ h => h

theorem find_absent (hash : κ → Nat) (s : Slots κ ε n) (hn : 0 < n) (k : κ) (habs : ¬ Present s k)
    (z : Nat) (hz : z < n) (hze : s[z] = none) :
    findLoop s k n (hash k % n) 0 (Nat.mod_lt _ hn) = some none :=
  (probeLoop_findLoop s k).stops_n (fun q hq e he hk => habs ⟨q, hq, e, he, hk⟩) hz hze 0 _

theorem find_correct (hash : κ → Nat) (s : Slots κ ε n) (inv : Inv hash s) (hn : 0 < n) (k : κ) :
    (∃ p, ∃ hp : p < n, ∃ e, s[p] = some e ∧ e.key = k ∧
      findLoop s k n (hash k % n) 0 (Nat.mod_lt _ hn) = some (some ⟨p, hp⟩)) ∨
    (¬ Present s k ∧ findLoop s k n (hash k % n) 0 (Nat.mod_lt _ hn) = some none) := by
  by_cases h : Present s k
  · obtain ⟨p, hp, e, hpe, hk⟩ := h
    exact Or.inl ⟨p, hp, e, hpe, hk, find_present hash s inv.toInv0 hn k p hp e hpe hk⟩
  · obtain ⟨z, hz, hze⟩ := inv.has_empty
    exact Or.inr ⟨h, find_absent hash s hn k h z hz hze⟩

/-- **Lookup is membership.**  Under the local invariant the probing loop of GC_Mem_Ptr, started at the key's home slot
    with fuel `n`, always answers, and answers `true` exactly for the keys that are stored. -/
theorem lookup_correct (hash : κ → Nat) (s : Slots κ ε n) (inv : Inv hash s) (hn : 0 < n) (k : κ) :
    (lookup hash s k hn = some true ↔ Present s k) ∧ (lookup hash s k hn = some false ↔ ¬ Present s k) := by
  by_cases h : Present s k
  · have ht : lookup hash s k hn = some true := by
      obtain ⟨p, hp, e, hpe, rfl⟩ := h
      exact (probeLoop_lookupLoop s e.key).reaches_from_home inv.toInv0 hn hp hpe rfl fun _ h => h
    simp [ht, h]
  · have hf : lookup hash s k hn = some false := by
      obtain ⟨z, hz, hze⟩ := inv.has_empty
      exact (probeLoop_lookupLoop s k).stops_n (fun q hq e he hk => h ⟨q, hq, e, he, hk⟩) hz hze 0 _
    simp [hf, h]

end RH
