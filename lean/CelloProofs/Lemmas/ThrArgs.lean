/-
  C13 (threads), arguments: under `ArgsSafe` no argument a live thread holds (`G.args`) is finalised (`ArgInv`, kept by
  every event `argSafeEv` admits: `step_argInv`), so a running thread never reads a dangling argument (`run_argInv`).
-/
import CelloProofs.Lemmas.Thr

namespace Cello.Thr

def ArgInv (g : G) : Prop := ∀ o ∈ liveArgs g, (g.thr o.owner).fin.contains o = false

theorem mem_liveArgs (g : G) (o : Obj) :
    o ∈ liveArgs g ↔ ∃ a ∈ g.args, isLive (g.thr a.1).phase = true ∧ o ∈ a.2 := by
  simp only [liveArgs, List.mem_flatMap]
  constructor
  · rintro ⟨a, ha, ho⟩
    split at ho
    · rename_i hl; exact ⟨a, ha, hl, ho⟩
    · cases ho
  · rintro ⟨a, ha, hl, ho⟩
    exact ⟨a, ha, by simp [hl, ho]⟩

theorem argInv_init : ArgInv G.init := by
  intro o ho
  simp [liveArgs, G.init] at ho

theorem notPlain_of_rootReg (ts : TS) (o : Obj) (g : GC) (hg : ts.gc = some g) (h : rootReg ts o = true) :
    (o, false) ∉ g.reg := by
  simpa [rootReg, hg] using h

theorem liveArgs_mono {g g' : G} {o : Obj} (ho : o ∈ liveArgs g') (ha : ∀ a ∈ g'.args, a ∈ g.args)
    (hl : ∀ a ∈ g'.args, isLive (g'.thr a.1).phase = true → isLive (g.thr a.1).phase = true) : o ∈ liveArgs g := by
  rw [mem_liveArgs] at ho ⊢
  obtain ⟨a, ham, hlv, hoa⟩ := ho
  exact ⟨a, ha a ham, hl a ham hlv, hoa⟩

theorem argInv_congr {g g' : G} (hI : ArgInv g) (ha : g'.args = g.args)
    (ht : ∀ t, (g'.thr t).phase = (g.thr t).phase ∧ (g'.thr t).fin = (g.thr t).fin) : ArgInv g' := by
  intro o ho
  rw [(ht _).2]
  exact hI o (liveArgs_mono ho (fun a h => ha ▸ h) (fun a _ h => (ht a.1).1 ▸ h))

theorem killedBy_spares_args {g : G} {t : Tid} {fm : List Obj} {op : LOp} {o : Obj} (hs : argSafeEv g (.loc t op) = true)
    (ho : o ∈ liveArgs g) (hot : o.owner = t) : ¬ killedBy t fm (g.thr t) op o := by
  intro h
  cases op with
  | end_ =>
    obtain ⟨gc, hg, hreg⟩ := h
    simp only [argSafeEv, argsNotDestroyedEv, List.all_eq_true] at hs
    have := hs o ho
    simp only [hot, ne_eq, not_true_eq_false, decide_false, Bool.false_or] at this
    exact notPlain_of_rootReg _ _ gc hg this hreg
  | del o' =>
    obtain ⟨rfl, _⟩ := h
    simp only [argSafeEv, argsNotDestroyedEv, Bool.or_eq_true, Bool.not_eq_true', List.contains_eq_mem,
      decide_eq_false_iff_not, decide_eq_true_eq] at hs
    exact hs.elim (fun hs => hs ho) (fun hs => hs hot)
  | collect st =>
    obtain ⟨gc, hg, hreg, hnm⟩ := h
    simp only [argSafeEv, List.all_eq_true] at hs
    have := hs o ho
    simp only [hot, ne_eq, not_true_eq_false, decide_false, Bool.false_or, Bool.or_eq_true] at this
    simp only [List.mem_append, not_or] at hnm
    rcases this with (h1 | h2) | h3
    · exact hnm.1.2 (List.mem_map.mpr ⟨o.k, by simpa using h1, by rw [← hot]⟩)
    · obtain ⟨e, he, heq⟩ := List.any_eq_true.mp h2
      exact hnm.1.1 (List.mem_map.mpr ⟨e, he, by simpa using heq⟩)
    · exact notPlain_of_rootReg _ _ gc hg h3 hreg
  | _ => exact h

theorem step_argInv (cfg : Cfg) (g : G) (e : Ev) (hI : ArgInv g) (hs : argSafeEv g e = true) : ArgInv (step cfg g e).1 := by
  cases hw : e.writes.contains .thr || e.writes.contains .args with
  | false =>
    rw [Bool.or_eq_false_iff] at hw
    exact argInv_congr hI ((step_frame cfg g e).args hw.2) (fun _ => by rw [(step_frame cfg g e).thr hw.1]; exact ⟨rfl, rfl⟩)
  | true =>
    cases e with
    | loc t op =>
      rw [step_loc]
      split
      · exact hI
      · intro o ho
        have hsub := liveArgs_mono (g := g) ho (fun _ h => h)
          (fun a _ => forall_upd (P := fun j (ts : TS) => isLive ts.phase = true → isLive (g.thr j).phase = true)
            (fun _ h => h) (lstep_live cfg t _ _ op _) a.1)
        have hold := hI o hsub
        by_cases hot : o.owner = t
        · simp only [hot, upd_same]
          rw [hot] at hold
          cases hc : ((lstep cfg t g.cache (foreignMarks cfg g t op) op (g.thr t)).1.fin.contains o) with
          | false => rfl
          | true =>
            rcases lstep_fin cfg t _ _ op _ o (by simpa using hc) with h | h
            · rw [List.contains_iff_mem.mpr h] at hold; cases hold
            · exact absurd h (killedBy_spares_args hs hsub hot)
        · simp only [upd_other _ _ _ _ hot]
          exact hold
    | spawn t v =>
      cases step_spawn cfg g t v with
      | born _ _ hthr hargs =>
        intro o ho
        rw [mem_liveArgs] at ho
        obtain ⟨a, ha, hl, hoa⟩ := ho
        rw [hargs, List.mem_filter] at ha
        have hav : a.1 ≠ v := by simpa using ha.2
        rw [hthr, upd_other _ _ _ _ hav] at hl
        have := hI o ((mem_liveArgs g o).mpr ⟨a, ha.1, hl, hoa⟩)
        rw [hthr]
        by_cases hov : o.owner = v
        · simp only [hov, upd_same]; rw [hov] at this; exact this
        · simp only [upd_other _ _ _ _ hov]; exact this
      | idle o hr => rw [hr]; exact hI
    | join t w =>
      refine argInv_congr hI ((step_frame cfg g _).args rfl) ?_
      cases step_join cfg g t w with
      | raise _ _ _ _ hr =>
        rw [hr]
        exact forall_upd (P := fun j (ts : TS) => ts.phase = (g.thr j).phase ∧ ts.fin = (g.thr j).fin) (fun _ => ⟨rfl, rfl⟩) ⟨rfl, rfl⟩
      | joined _ hr => rw [hr]; exact fun _ => ⟨rfl, rfl⟩
      | idle o hr => rw [hr]; exact fun _ => ⟨rfl, rfl⟩
    | arg t u os =>
      intro o ho
      have hthr := (step_frame cfg g (.arg t u os)).thr rfl
      rw [hthr]
      simp only [argSafeEv, argsNotDestroyedEv, List.all_eq_true, Bool.not_eq_true'] at hs
      rw [mem_liveArgs, hthr] at ho
      obtain ⟨a, ha, hl, hoa⟩ := ho
      rcases step_arg cfg g t u os with h | h
      · rw [h] at ha
        exact hI o ((mem_liveArgs g o).mpr ⟨a, ha, hl, hoa⟩)
      · rw [h] at ha
        rcases List.mem_cons.mp ha with rfl | ha
        · exact hs o hoa
        · exact hI o ((mem_liveArgs g o).mpr ⟨a, (List.mem_filter.mp ha).1, hl, hoa⟩)
    | _ => exact Bool.noConfusion hw

theorem liveArgs_of_lookup {g : G} {t : Tid} {os : List Obj} {i : Nat} {o : Obj} (hr : running g t = true)
    (hl : g.args.lookup t = some os) (hi : os[i]? = some o) : o ∈ liveArgs g := by
  have hmem : (t, os) ∈ g.args := by
    obtain ⟨l1, l2, hl12, _⟩ := List.lookup_eq_some_iff.mp hl
    rw [hl12]; simp
  have hrun : (g.thr t).phase = .running := by simpa [running] using hr
  exact (mem_liveArgs g o).mpr ⟨(t, os), hmem, by simp [isLive, hrun], List.mem_of_getElem? hi⟩

theorem step_rdarg_not_dangling (cfg : Cfg) (g : G) (t : Tid) (i : Nat) (hI : ArgInv g) :
    ∀ o, (step cfg g (.rdarg t i)).2 ≠ .dangling o := by
  intro o h
  dsimp only [step] at h
  split at h
  · cases h
  · rename_i hrun
    split at h
    · cases h
    · rename_i o' hl
      split at h
      · rename_i hfin
        obtain ⟨os, hos, hi⟩ : ∃ os, g.args.lookup t = some os ∧ os[i]? = some o' := by
          cases hlk : g.args.lookup t with
          | none => rw [hlk] at hl; cases hl
          | some os => rw [hlk] at hl; exact ⟨os, rfl, by simpa using hl⟩
        rw [hI o' (liveArgs_of_lookup (by simpa using hrun) hos hi)] at hfin
        cases hfin
      · cases h

theorem step_rdarg_val (cfg : Cfg) (g : G) (t : Tid) (i : Nat) (os : List Obj) (o : Obj) (hr : running g t = true)
    (hl : g.args.lookup t = some os) (hi : os[i]? = some o) (hf : (g.thr o.owner).fin.contains o = false) :
    step cfg g (.rdarg t i) = (g, .val o) := by
  have hf' : o ∉ (g.thr o.owner).fin := by simpa using hf
  simp [step, hr, hl, hi, hf']

theorem run_argInv (cfg : Cfg) (s : List Ev) : ∀ g : G, ArgInv g → ArgsSafe cfg s g = true →
    ArgInv (run cfg s g).1 ∧ ∀ eo ∈ (run cfg s g).2, ∀ t i, eo.1 = .rdarg t i → ∀ o, eo.2 ≠ .dangling o := by
  induction s with
  | nil => intro g hI _; exact ⟨hI, fun eo h => nomatch h⟩
  | cons e s ih =>
    intro g hI hs
    simp only [ArgsSafe, Bool.and_eq_true] at hs
    obtain ⟨ih1, ih2⟩ := ih _ (step_argInv cfg g e hI hs.1) hs.2
    rw [run_cons]
    refine ⟨ih1, fun eo hmem t i he => ?_⟩
    rcases List.mem_cons.mp hmem with rfl | hmem
    · subst he
      exact step_rdarg_not_dangling cfg g t i hI
    · exact ih2 eo hmem t i he

end Cello.Thr
