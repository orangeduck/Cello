/-
  CelloProofs/Lemmas/RHIns.lean — the probing-and-displacing insertion loop (either tie rule) preserves the local
  invariant, terminates before the empty slot ahead and adds exactly the carried entry: proved once (`InsLoop.spec`) for
  every loop that steps like `RH.insertLoop` on keys other than the carried one.  (No model function runs `RH.insertLoop`
  itself: GC_Set_Ptr's loop is `setPtrLoop`, Table_Set_Move's `setLoop`.)
-/
import CelloProofs.Lemmas.RHMem
namespace RH
variable {κ ε : Type} [DecidableEq κ] {n : Nat}

/-- an empty slot `z` is not inside the run of the entry at `i` (the slots from its home to `i`: all occupied, `chain0`) -/
theorem run_avoids_empty (hash : κ → Nat) (s : Slots κ ε n) (inv : Inv0 hash s)
    (i : Nat) (hi : i < n) (r : Entry κ ε) (hr : s[i] = some r) (z : Nat) (hz : z < n) (hze : s[z] = none) :
    dist n i r.home < dist n i z := by
  by_cases h : dist n i z ≤ dist n i r.home
  · obtain ⟨e', he', _⟩ := chain0 hash s inv i hi r hr (dist n i z) z hz rfl h
    rw [hze] at he'; cases he'
  · omega

section
omit [DecidableEq κ]

/-- Overwriting slot `i` by an entry `c` keeps the invariant when `c` is supported there by its predecessor (`pred`), no
    other slot holds its key, and `c` is at least as far from home as what it overwrites, so that it supports the successor
    slot as well as the old content did. -/
theorem Inv0.set {hash : κ → Nat} {s : Slots κ ε n} (inv : Inv0 hash s) {i : Nat} (hi : i < n) (c : Entry κ ε)
    (chome : c.home = hash c.key % n)
    (fresh : ∀ q (hq : q < n) e, q ≠ i → s[q] = some e → e.key ≠ c.key)
    (far : ∀ r, s[i] = some r → dist n i r.home ≤ dist n i c.home)
    (pred : 0 < dist n i c.home →
      ∃ e', s[prev n i]'(prev_lt hi) = some e' ∧ dist n i c.home ≤ dist n (prev n i) e'.home + 1) :
    Inv0 hash (s.set i (some c) hi) := by
  refine ⟨?_, ?_, ?_⟩
  · intro q hq e he
    rcases getElem_set_some he with ⟨_, ⟨⟩⟩ | ⟨_, he⟩
    · exact chome
    · exact inv.home_ok q hq e he
  · intro a b ha hb e e' hea heb hk
    rcases getElem_set_some hea with ⟨ha', ⟨⟩⟩ | ⟨ha', hea⟩ <;> rcases getElem_set_some heb with ⟨hb', ⟨⟩⟩ | ⟨hb', heb⟩
    · rw [ha', hb']
    · exact absurd hk.symm (fresh b hb e' hb' heb)
    · exact absurd hk (fresh a ha e ha' hea)
    · exact inv.distinct a b ha hb e e' hea heb hk
  · -- the supporter of slot `q` is the old one unless it sat in slot `i`: then it is `c`, which is no nearer to home
    intro q hq e he hpos
    have supp : ∀ e', s[prev n q]'(prev_lt hq) = some e' → dist n q e.home ≤ dist n (prev n q) e'.home + 1 →
        ∃ e', (s.set i (some c) hi)[prev n q]'(prev_lt hq) = some e' ∧ dist n q e.home ≤ dist n (prev n q) e'.home + 1 := by
      intro e' he' hle
      rw [Vector.getElem_set]
      split
      · rename_i hiq
        rw [getElem_congr_idx hiq.symm] at he'
        exact ⟨c, rfl, by have := far e' he'; rw [← hiq] at hle ⊢; omega⟩
      · exact ⟨e', he', hle⟩
    rcases getElem_set_some he with ⟨rfl, ⟨⟩⟩ | ⟨_, he⟩
    · obtain ⟨e', he', hle⟩ := pred hpos
      exact supp e' he' hle
    · obtain ⟨e', he', hle⟩ := inv.loc q hq e he hpos
      exact supp e' he' hle

theorem Inv0.set_same {hash : κ → Nat} {s : Slots κ ε n} (inv : Inv0 hash s) {p : Nat} (hp : p < n) {e : Entry κ ε}
    (hpe : s[p] = some e) (c : Entry κ ε) (hk : c.key = e.key) (hh : c.home = e.home) : Inv0 hash (s.set p (some c) hp) := by
  refine inv.set hp c (by rw [hh, hk]; exact inv.home_ok p hp e hpe) ?_ ?_ ?_
  · intro q hq x hqp hx hxk
    exact hqp (inv.distinct q p hq hp x e hx hpe (hxk.trans hk))
  · intro r hr; rw [hpe] at hr; cases hr; rw [hh]; exact Nat.le_refl _
  · rw [hh]; exact inv.loc p hp e hpe

/-- State of the insertion loop: table `s` satisfies Inv0, no entry of the table has the key of the carried entry `c`, which
    sits at virtual distance `j` from its home at slot `i`, its predecessor slot supports it, and an empty slot `z` lies
    ahead. -/
structure Pending (hash : κ → Nat) (s : Slots κ ε n) (c : Entry κ ε) (i j z : Nat) : Prop where
  inv : Inv0 hash s
  chome : c.home = hash c.key % n
  fresh : ∀ q (hq : q < n) e, s[q] = some e → e.key ≠ c.key
  hz : z < n
  zempty : s[z]'hz = none
  jdist : j = dist n i c.home
  ahead : j + dist n z i = dist n z c.home      -- i is between c.home and z (no wrap past z)
  pred : 0 < j → ∃ e', ∃ hp : prev n i < n, s[prev n i]'hp = some e' ∧ j ≤ dist n (prev n i) e'.home + 1

theorem Pending.start {hash : κ → Nat} {s : Slots κ ε n} (inv : Inv0 hash s) (c : Entry κ ε) (hc : c.home = hash c.key % n)
    (hfresh : ∀ q (hq : q < n) e, s[q] = some e → e.key ≠ c.key) {z : Nat} (hz : z < n) (hze : s[z] = none) :
    Pending hash s c c.home 0 z :=
  ⟨inv, hc, hfresh, hz, hze, dist_self.symm, Nat.zero_add _, nofun⟩

theorem Pending.pred' {hash : κ → Nat} {s : Slots κ ε n} {c : Entry κ ε} {i j z : Nat} (P : Pending hash s c i j z)
    (hi : i < n) (hpos : 0 < dist n i c.home) :
    ∃ e', s[prev n i]'(prev_lt hi) = some e' ∧ dist n i c.home ≤ dist n (prev n i) e'.home + 1 := by
  obtain ⟨e', _, he', hle⟩ := P.pred (by rw [P.jdist]; exact hpos)
  exact ⟨e', he', by rw [← P.jdist]; exact hle⟩

theorem place_empty (hash : κ → Nat) (s : Slots κ ε n) (c : Entry κ ε) (i j z : Nat) (hi : i < n)
    (P : Pending hash s c i j z) (hnone : s[i] = none) : Inv0 hash (s.set i (some c) hi) :=
  P.inv.set hi c P.chome (fun q hq e _ => P.fresh q hq e) (fun r hr => by rw [hnone] at hr; cases hr) (P.pred' hi)

/-- the probe passes an entry that is at least as far from its home: same table, next slot, one step further -/
theorem pass_step (hash : κ → Nat) (s : Slots κ ε n) (c : Entry κ ε) (i j z : Nat) (hi : i < n)
    (P : Pending hash s c i j z) (r : Entry κ ε) (hr : s[i] = some r) (hle : j ≤ dist n i r.home) :
    Pending hash s c (next n i) (j+1) z ∧ dist n z (next n i) < dist n z i := by
  have hz := P.hz
  have hch : c.home < n := by rw [P.chome]; exact Nat.mod_lt _ (by omega)
  have hp : prev n (next n i) < n := by rw [prev_next]; exact hi
  -- one slot on: one step further from `c`'s home (no wrap: `z` is still ahead), one step nearer to `z`
  have arith : j + 1 = dist n (next n i) c.home ∧ j + 1 + dist n z (next n i) = dist n z c.home ∧
      dist n z (next n i) < dist n z i := by
    have ha := P.ahead
    have hjd := P.jdist
    have h1 := dist_next_fwd hi hz (ne_of_occ_empty s hi hz hr P.zempty)
    have h3 := dist_lt hz hch
    have h4 := dist_next_slot hi hch
    omega
  refine ⟨⟨P.inv, P.chome, P.fresh, hz, P.zempty, arith.1, arith.2.1, fun _ => ⟨r, hp, ?_, ?_⟩⟩, arith.2.2⟩
  · rw [getElem_congr_idx prev_next]; exact hr
  · rw [prev_next]; exact Nat.succ_le_succ hle

end

-- `run_avoids_empty` is stated with `[DecidableEq κ]`; `swap_step` calls it, so it and `InsLoop.spec` take the instance too

/-- the probe displaces an entry that is no farther from its home: the carried entry takes the slot, the resident is carried on -/
theorem swap_step (hash : κ → Nat) (s : Slots κ ε n) (c : Entry κ ε) (i j z : Nat) (hi : i < n)
    (P : Pending hash s c i j z) (r : Entry κ ε) (hr : s[i] = some r) (hle : dist n i r.home ≤ j) :
    Pending hash (s.set i (some c) hi) r (next n i) (dist n i r.home + 1) z ∧ dist n z (next n i) < dist n z i := by
  have hz := P.hz
  have inv := P.inv
  have hne : i ≠ z := ne_of_occ_empty s hi hz hr P.zempty
  have hrh : r.home < n := home_lt inv.home_ok hi hr
  have hp : prev n (next n i) < n := by rw [prev_next]; exact hi
  have hjd := P.jdist
  -- the run of `r` does not reach back to `z` (`run_avoids_empty`), so `r.home`, `i`, `next i`, `z` lie in this cyclic order
  have arith : dist n i r.home + 1 = dist n (next n i) r.home ∧
      dist n i r.home + 1 + dist n z (next n i) = dist n z r.home ∧ dist n z (next n i) < dist n z i := by
    have h1 := dist_next_fwd hi hz hne
    have hrun := run_avoids_empty hash s inv i hi r hr z hz P.zempty
    have h2 := dist_lt hi hz
    have h4 := dist_next_slot hi hrh
    have hx := dist_add hi hz hrh hrun
    omega
  refine ⟨⟨?_, inv.home_ok i hi r hr, ?_, hz, ?_, arith.1, arith.2.1, fun _ => ⟨c, hp, ?_, ?_⟩⟩, arith.2.2⟩
  · exact inv.set hi c P.chome (fun q hq e _ => P.fresh q hq e)
      (fun r' hr' => by rw [hr] at hr'; cases hr'; rw [← hjd]; exact hle) (P.pred' hi)
  · -- the resident's key is in no other slot, and is not the carried key
    intro q hq e he
    rcases getElem_set_some he with ⟨_, ⟨⟩⟩ | ⟨hqi, he⟩
    · exact (P.fresh i hi r hr).symm
    · exact fun hk => hqi (inv.distinct q i hq hi e r he hr hk)
  · rw [Vector.getElem_set_ne hi hz hne]; exact P.zempty
  · rw [getElem_congr_idx prev_next, Vector.getElem_set_self]
  · rw [prev_next, ← hjd]; exact Nat.succ_le_succ hle

/-- under either tie rule the carried entry displaces a resident at distance `d` from its home only if `d ≤ j`, and passes
    it only if `j ≤ d` -/
theorem le_of_tie {ge : Bool} {j d : Nat} (h : if ge then j ≥ d else j > d) : d ≤ j := by
  cases ge
  · exact Nat.le_of_lt h
  · exact h

theorem le_of_not_tie {ge : Bool} {j d : Nat} (h : ¬ if ge then j ≥ d else j > d) : j ≤ d := by
  cases ge
  · exact Nat.le_of_not_lt h
  · exact Nat.le_of_lt (Nat.lt_of_not_le h)

/-- What makes a loop an insertion loop: at an empty slot it stores the carried entry and answers; at a resident with
    another key it displaces or passes it by the tie rule `ge`, as `insertLoop` does.  What it does at a resident with the
    carried key is left open — from a `Pending` state that case does not arise — and that is all in which GC_Set_Ptr's loop
    (early return), Table_Set_Move's loop (replace in place) and `insertLoop` differ.  `out` is what the loop makes of the
    final array. -/
structure InsLoop (ge : Bool) {β : Type} (out : Slots κ ε n → β)
    (L : Nat → Slots κ ε n → Entry κ ε → (i j : Nat) → i < n → Option β) : Prop where
  empty : ∀ fuel s c i j hi, s[i] = none → L (fuel+1) s c i j hi = some (out (s.set i (some c) hi))
  swap : ∀ fuel s c i j hi r, s[i] = some r → r.key ≠ c.key → (if ge then j ≥ dist n i r.home else j > dist n i r.home) →
    L (fuel+1) s c i j hi = L fuel (s.set i (some c) hi) r (next n i) (dist n i r.home + 1) (next_lt hi)
  pass : ∀ fuel s c i j hi r, s[i] = some r → r.key ≠ c.key → ¬ (if ge then j ≥ dist n i r.home else j > dist n i r.home) →
    L (fuel+1) s c i j hi = L fuel s c (next n i) (j+1) (next_lt hi)

/-- **Insertion.**  From a `Pending` state, with more fuel than the distance to the empty slot `z` ahead, an insertion loop
    (either tie rule) answers, keeps the invariant, and stores the old entries plus the carried one, in one more slot. -/
theorem InsLoop.spec {ge : Bool} {β : Type} {out : Slots κ ε n → β}
    {L : Nat → Slots κ ε n → Entry κ ε → (i j : Nat) → i < n → Option β} (hL : InsLoop ge out L) (hash : κ → Nat) :
    ∀ (fuel : Nat) (s : Slots κ ε n) (c : Entry κ ε) (i j z : Nat) (hi : i < n),
      Pending hash s c i j z → dist n z i < fuel →
      ∃ s', L fuel s c i j hi = some (out s') ∧ Inv0 hash s' ∧ (∀ e, Mem s' e ↔ Mem s e ∨ e = c) ∧ occ s' = occ s + 1 := by
  intro fuel
  induction fuel with
  | zero => intro s c i j z hi _ h; omega
  | succ fuel ih =>
    intro s c i j z hi P hf
    cases hr : s[i] with
    | none =>
      refine ⟨_, hL.empty fuel s c i j hi hr, place_empty hash s c i j z hi P hr, fun e => ?_, occ_set_none_some s i hi c hr⟩
      rw [← mem_set_or s i hi c e, hr]
      exact (or_iff_left nofun).symm
    | some r =>
      have hne : r.key ≠ c.key := P.fresh i hi r hr
      by_cases hcond : (if ge then j ≥ dist n i r.home else j > dist n i r.home)
      · obtain ⟨P', hm⟩ := swap_step hash s c i j z hi P r hr (le_of_tie hcond)
        obtain ⟨s', hs', hinv, hmem, hcnt⟩ := ih _ _ _ _ z (next_lt hi) P' (by omega)
        refine ⟨s', (hL.swap fuel s c i j hi r hr hne hcond).trans hs', hinv, fun e => ?_,
          hcnt.trans (congrArg (· + 1) (occ_set_some_some s i hi c r hr))⟩
        rw [hmem e, ← mem_set_or s i hi c e, hr, Option.some.injEq, eq_comm]
      · obtain ⟨P', hm⟩ := pass_step hash s c i j z hi P r hr (le_of_not_tie hcond)
        obtain ⟨s', hs', h⟩ := ih _ _ _ _ z (next_lt hi) P' (by omega)
        exact ⟨s', (hL.pass fuel s c i j hi r hr hne hcond).trans hs', h⟩

omit [DecidableEq κ] in
theorem insLoop_insertLoop (ge : Bool) : InsLoop ge (fun s => s) (insertLoop (κ := κ) (ε := ε) (n := n) ge) := by
  refine ⟨?_, ?_, ?_⟩
  · intro fuel s c i j hi h; simp only [insertLoop, h]
  · intro fuel s c i j hi r h _ hc; simp only [insertLoop, h, if_pos hc]
  · intro fuel s c i j hi r h _ hc; simp only [insertLoop, h, if_neg hc]

end RH
