/- `get` and a walk, for C11: what `get` does to a walk in progress (`getSt`) and the expressions whose object leaves it alone
   (`Expr.getPure`, `denote_getPure`), a Zip that holds ONE object several times (`zipSameI`), and `get` at every index (`GetFullAs`)
   under Map and Zip -/
import Cello.IterExpr
import CelloProofs.Lemmas.IterViews

namespace Cello.Iter

variable {σ α β : Type}

theorem runFuelG_of_noop (step : σ → σ × Res α) (gst : σ → Int → σ) (body : Nat → Option Int)
    (h : ∀ i k, body i = some k → ∀ s, gst s k = s) :
    ∀ (n i : Nat) (r : σ × Res α), runFuelG step gst body n i r = runFuel step n r
  | 0, _, _ => rfl
  | n + 1, i, (s, .item a) => by
    simp only [runFuelG, runFuel, runFuelG_of_noop step gst body h n (i + 1)]
    cases hb : body i with
    | none => rfl
    | some k => simp only [h i k hb]
  | _ + 1, _, (_, .term) => rfl
  | _ + 1, _, (_, .undef) => rfl
  | _ + 1, _, (_, .hang) => rfl

theorem forwardWith_of_pure (I : Iterable α) (hp : GetPure I) (body : Nat → Option Int) (fuel : Nat) :
    I.forwardWith body fuel = I.forward fuel :=
  runFuelG_of_noop I.next I.getSt body (fun _ k _ s => hp s k) fuel 0 _

theorem forwardWith_of_none (I : Iterable α) (body : Nat → Option Int) (hb : ∀ i, body i = none) (fuel : Nat) :
    I.forwardWith body fuel = I.forward fuel :=
  runFuelG_of_noop I.next I.getSt body (fun i k h => by rw [hb i] at h; cases h) fuel 0 _

theorem array_getPure (l : List α) : GetPure (arrayI l) := fun _ _ => rfl
theorem list_getPure (l : List α) : GetPure (listI l) := fun _ _ => rfl
theorem tuple_getPure (ids : List Nat) : GetPure (tupleI ids) := fun _ _ => rfl
theorem table_getPure (slots : List (Option α)) : GetPure (tableI slots) := fun _ _ => rfl
theorem tree_getPure (t : T α) : GetPure (treeI t) := fun _ _ => rfl
theorem filter_getPure (I : Iterable α) (p : α → Bool) (fuel : Nat) : GetPure (filterI I p fuel) := fun _ _ => rfl
theorem emb_getPure (I : Iterable α) (f : α → β) (h : GetPure I) : GetPure (embI I f) := fun s k => h s k
theorem slice_getPure (I : Iterable α) (n : Nat) (a b c : Int) (h : GetPure I) : GetPure (sliceI I n a b c) := by
  intro s k
  show (match rangeGet a b c k with | some i => I.getSt s i | none => s) = s
  cases rangeGet a b c k with
  | none => rfl
  | some i => exact h s i

/-- the expressions whose object leaves a walk alone when `get` is called on it: the containers, and Slice / Filter over
    them (Filter has no Get instance at all).  NOT Range, Map, Zip, enumerate. -/
def Expr.getPure : Expr → Bool
  | .range _ => false
  | .zip _ => false
  | .enum _ => false
  | .map _ _ _ => false
  | .slice e _ => e.getPure
  | _ => true

theorem denote_getPure : ∀ (e : Expr) (I : Iterable Val), e.getPure = true → denote e = .ok I → GetPure I
  | .array vs, I, _, h => by simp only [denote, Except.ok.injEq] at h; subst h; exact array_getPure _
  | .list vs, I, _, h => by simp only [denote, Except.ok.injEq] at h; subst h; exact list_getPure _
  | .tuple ids, I, _, h => by simp only [denote, Except.ok.injEq] at h; subst h; exact emb_getPure _ _ (tuple_getPure _)
  | .table slots, I, _, h => by simp only [denote, Except.ok.injEq] at h; subst h; exact table_getPure _
  | .tree t, I, _, h => by simp only [denote, Except.ok.injEq] at h; subst h; exact emb_getPure _ _ (tree_getPure _)
  | .rtree ks, I, _, h => by simp only [denote, Except.ok.injEq] at h; subst h; exact emb_getPure _ _ (tree_getPure _)
  | .range _, _, hp, _ | .zip _, _, hp, _ | .enum _, _, hp, _ | .map _ _ _, _, hp, _ => by simp [Expr.getPure] at hp
  | .slice e args, I, hp, h => by
    simp only [denote] at h
    cases hd : denote e with
    | error m => simp [hd] at h
    | ok I0 =>
      have ih := denote_getPure e I0 (by simpa [Expr.getPure] using hp) hd
      simp only [hd] at h
      cases hl : I0.len with
      | none => simp [hl] at h
      | some n =>
        simp only [hl] at h
        cases hs : sliceStack n args with
        | none => simp [hs] at h
        | some abc =>
          obtain ⟨a, b, c⟩ := abc
          simp only [hs, Except.ok.injEq] at h; subst h
          exact slice_getPure I0 n a b c ih
  | .filter e m r, I, _, h => by
    simp only [denote] at h
    cases hd : denote e with
    | error m => simp [hd] at h
    | ok I0 => simp only [hd, Except.ok.injEq] at h; subst h; exact filter_getPure _ _ _
  | .mlist init ops, I, _, h | .marray init ops, I, _, h | .mtable init ops, I, _, h => by
    simp only [denote] at h
    split at h
    · simp only [Except.ok.injEq] at h; subst h; exact fun _ _ => rfl
    · cases h
  | .mtree init ops, I, _, h => by simp only [denote, Except.ok.injEq] at h; subst h; exact fun _ _ => rfl

theorem zipSame_of_cursor_held (I : Iterable α) (h : I.inObject = false) (k : Nat) :
    zipSameI I k = zipI (List.replicate k I) := by
  simp [zipSameI, h]

theorem zipSame_fwdAs (I : Iterable α) (h : I.inObject = false) (k : Nat) {l : List α} (hf : FwdAs I l) :
    FwdAs (zipSameI I k) (zipLists (List.replicate k l)) :=
  zipSame_of_cursor_held I h k ▸ zip_fwdAs _ _ (.replicate hf k)

theorem map_getFull (I : Iterable α) (f : α → β) {l : List α} (h : GetFullAs I l) : GetFullAs (mapI I f) (l.map f) := by
  intro g hg k
  cases hIg : I.get with
  | none => simp [mapI, hIg] at hg
  | some g0 =>
    simp only [mapI, hIg, Option.some.injEq] at hg
    subst hg
    show Option.map f (g0 k) = _
    rw [h g0 hIg k, getIdx_map]

theorem emb_getFull (I : Iterable α) (f : α → β) {l : List α} (h : GetFullAs I l) : GetFullAs (embI I f) (l.map f) :=
  map_getFull I f h

theorem zip_getFull (Is : List (Iterable α)) (ls : List (List α)) (n : Nat) (hne : Is ≠ []) (hlen : ∀ l ∈ ls, l.length = n)
    (h : All₂ (fun I l => GetFullAs I l) Is ls) : GetFullAs (zipI Is) (zipLists ls) := by
  intro G hG k
  have hls : ls ≠ [] := h.ne_nil hne
  -- all inputs, and the zipped sequence, have length `n`, so `k` denotes one position in all of them — beyond the end when it is out
  -- of range (with unequal lengths each input would normalise a negative `k` against its own length: F12)
  have key : ∀ {β : Type} (l : List β), l.length = n → getIdx l k = l[(normIdx n k).getD n]? := by
    intro β l hl
    rw [getIdx_eq_norm, hl]
    cases normIdx n k with
    | none => simp [← hl]
    | some i => rfl
  rw [key _ (zipLists_length n ls hls hlen), getElem?_zipLists ls hls]
  exact zip_get_column k _ Is ls (h.imp_mem fun I l hl hI g hg => (hI g hg k).trans (key l (hlen l hl))) G hG

end Cello.Iter
