/-
  C20, for every stdio: the calls of each operation continue a log that the automaton `track` accepts from what the File held to what it
  holds (`step_track`), hence so do the histories of one object.  For several objects this is the relation `Tracks` between system
  states, kept by every step that does not copy / assign an open File (`stepR_track`, `Tracks.step`).
-/
import CelloProofs.Lemmas.File

namespace Cello.File

@[simp] theorem track_nil (c : Option Handle) : track c [] = some c := rfl

theorem track_append (c : Option Handle) (a b : List Call) :
    track c (a ++ b) = (track c a).bind (fun c' => track c' b) := by
  fun_induction track c a with
  | case1 c => rfl
  | case2 c x xs c1 hx ih => simpa [track, hx] using ih
  | case3 c x xs hx => simp [track, hx]

theorem track_append_of {c c' c'' : Option Handle} {a b : List Call}
    (ha : track c a = some c') (hb : track c' b = some c'') : track c (a ++ b) = some c'' := by
  rw [track_append, ha]; simpa using hb

theorem track_cons {c z : Option Handle} {x : Call} {xs : List Call} (h : track c (x :: xs) = some z) :
    ∃ c1, trackCall c x = some c1 ∧ track c1 xs = some z := by
  simp only [track] at h
  split at h
  · exact ⟨_, ‹_›, h⟩
  · cases h

theorem track_on_self (h : Handle) (fn : Fn) (hfn : fn ≠ .fclose) : track (some h) [.on fn h] = some (some h) := by
  simp [track, trackCall, hfn]

theorem track_fclose (h : Handle) : track (some h) [.on .fclose h] = some none := by
  simp [track, trackCall]

theorem track_fopen (k : Nat) (m : Mode) (r : Option Handle) : track none [.fopen k m r] = some r := by
  simp [track, trackCall]

theorem trackCall_cases {c c' : Option Handle} {x : Call} (ht : trackCall c x = some c') :
    (∃ k m, c = none ∧ x = .fopen k m c') ∨
      ∃ h fn, c = some h ∧ x = .on fn h ∧ c' = if fn = .fclose then none else some h := by
  cases c <;> cases x <;> simp only [trackCall, reduceCtorEq] at ht
  case none.fopen k m r => cases ht; exact Or.inl ⟨k, m, rfl, rfl⟩
  case some.on h fn h' =>
    split at ht
    · subst_vars; split at ht <;> cases ht <;> exact Or.inr ⟨_, _, rfl, rfl, by simp [*]⟩
    · cases ht

theorem length_filter_cons {α : Type} (p : α → Bool) (a : α) (l : List α) :
    ((a :: l).filter p).length = (if p a then 1 else 0) + (l.filter p).length := by
  rw [List.filter_cons]; split <;> simp [Nat.add_comm]

theorem isClose_on (fn : Fn) (h : Handle) : isClose (.on fn h) = decide (fn = .fclose) := by cases fn <;> rfl

/-- one accepted call: a successful fopen takes a handle, an fclose gives it back, nothing else changes what is held -/
theorem trackCall_count {c c' : Option Handle} {x : Call} (h : trackCall c x = some c') :
    (if isOpenOk x then 1 else 0) + (if c.isSome then 1 else 0) = (if isClose x then 1 else 0) + (if c'.isSome then 1 else 0) := by
  rcases trackCall_cases h with ⟨k, m, rfl, rfl⟩ | ⟨h0, fn, rfl, rfl, rfl⟩
  · cases c' <;> rfl
  · rw [isClose_on]; by_cases hfn : fn = .fclose <;> simp [hfn, isOpenOk]

theorem track_count (c c' : Option Handle) (log : List Call) (h : track c log = some c') :
    (log.filter isOpenOk).length + (if c.isSome then 1 else 0) = (log.filter isClose).length + (if c'.isSome then 1 else 0) := by
  fun_induction track c log with
  | case1 c => cases h; simp
  | case2 c x xs c1 hx ih =>
    have := trackCall_count hx
    have := ih h
    rw [length_filter_cons, length_filter_cons]
    omega
  | case3 c x xs hx => cases h

variable {σ : Type} (io : Stdio σ)

theorem fileClose_track (l : σ) (f : Option Handle) :
    track f (fileClose io Cfg.fixed l f).calls = some (fileClose io Cfg.fixed l f).f ∧
      (fileClose io Cfg.fixed l f).f = none := by
  cases f with
  | none => exact ⟨rfl, rfl⟩
  | some h => rw [fileClose_some_fixed]; exact ⟨track_fclose h, rfl⟩

theorem fileOpen_track (l : σ) (f : Option Handle) (k : Nat) (m : Mode) :
    track f (fileOpen io Cfg.fixed l f k m).calls = some (fileOpen io Cfg.fixed l f k m).f := by
  cases f with
  | none => rw [fileOpen_none]; exact track_fopen k m _
  | some h =>
    rw [fileOpen_some_fixed]
    split
    · exact track_append_of (track_fclose h) (track_fopen k m _)
    · exact track_fclose h

theorem fileDel_track (l : σ) (f : Option Handle) :
    track f (fileDel io Cfg.fixed l f).calls = some (fileDel io Cfg.fixed l f).f ∧ (fileDel io Cfg.fixed l f).f = none := by
  cases f with
  | none => exact ⟨rfl, rfl⟩
  | some h => exact fileClose_track io l (some h)

theorem filePrintFrom_track (l : σ) (h : Handle) (pos : Int) (calls : List Call) (frags : List (List Byte))
    (hc : track (some h) calls = some (some h)) :
    track (some h) (filePrintFrom io l h pos calls frags).calls = some (some h) ∧
      (filePrintFrom io l h pos calls frags).f = some h := by
  induction frags generalizing l pos calls with
  | nil => exact ⟨hc, rfl⟩
  | cons t ts ih =>
    have hstep : track (some h) (calls ++ [.on .vfprintf h]) = some (some h) :=
      track_append_of hc (track_on_self h .vfprintf (by decide))
    simp only [filePrintFrom]
    split
    · exact ⟨hstep, rfl⟩
    · exact ih _ _ _ hstep

/-- A File that is not open makes no call (except `open`); an open one makes its calls on the handle it holds and only
    File_Close / File_Open / File_Del let go of it. -/
theorem step_track (l : σ) (f : Option Handle) (op : Op) :
    track f (step io Cfg.fixed l f op).calls = some (step io Cfg.fixed l f op).f := by
  cases f with
  | none =>
    cases op with
    | «open» k m => exact fileOpen_track io l none k m
    | print frags => cases frags <;> rfl
    | _ => rfl
  | some h =>
    cases op with
    | «open» k m => exact fileOpen_track io l (some h) k m
    | close => exact (fileClose_track io l (some h)).1
    | stop => exact (fileClose_track io l (some h)).1
    | withExit => exact (fileClose_track io l (some h)).1
    | destruct => exact (fileDel_track io l (some h)).1
    | withEnter => rfl
    | seek off wh => exact track_on_self h .fseek (by decide)
    | tell => exact track_on_self h .ftell (by decide)
    | flush => exact track_on_self h .fflush (by decide)
    | eof => exact track_on_self h .feof (by decide)
    | write d => exact track_on_self h .fwrite (by decide)
    | read n =>
      show track (some h) (fileRead io l (some h) n).calls = some (fileRead io l (some h) n).f
      rw [fileRead_some]
      split
      · exact track_append_of (track_on_self h .fread (by decide)) (track_on_self h .feof (by decide))
      · exact track_on_self h .fread (by decide)
    | scanInt =>
      show track (some h) (fileScanInt io l (some h)).calls = some (fileScanInt io l (some h)).f
      rw [fileScanInt_some]
      split
      · exact track_on_self h .vfscanf (by decide)
      · exact track_append_of (track_on_self h .vfscanf (by decide)) (track_on_self h .vfscanf (by decide))
    | print frags =>
      cases frags with
      | nil => rfl
      | cons t ts =>
        obtain ⟨h1, h2⟩ := filePrintFrom_track io l h 0 [] (t :: ts) rfl
        exact h1.trans (congrArg some h2.symm)

/-- closed ⇒ refused needs of File_Close only its closed-handle test: every other wrapper that needs an open File is `refused l` by
    computation, whatever the configuration -/
theorem step_refused (cfg : Cfg) (hg : cfg.closeGuard = true) (l : σ) (op : Op) (h : op.needsOpen = true) :
    step io cfg l none op = ⟨l, none, .raised .IOError, []⟩ := by
  have hc : fileClose io cfg l none = refused l := by simp [fileClose, hg]
  cases op with
  | «open» k m => cases h
  | withEnter => cases h
  | destruct => cases h
  | print frags => cases frags with
    | nil => cases h
    | cons t ts => rfl
  | close => simp only [step, hc]; rfl
  | stop => simp only [step, hc]; rfl
  | withExit => simp only [step, hc]; rfl
  | _ => rfl

/-- which operations leave the File closed whatever happens -/
def Op.closes : Op → Bool
  | .close | .stop | .withExit | .destruct => true
  | _ => false

theorem step_closes (l : σ) (f : Option Handle) (op : Op) (h : op.closes = true) :
    (step io Cfg.fixed l f op).f = none := by
  cases op with
  | close => exact (fileClose_track io l f).2
  | stop => exact (fileClose_track io l f).2
  | withExit => exact (fileClose_track io l f).2
  | destruct => exact (fileDel_track io l f).2
  | _ => cases h

theorem runOps_log (cfg : Cfg) (s : Hist σ) (ops : List Op) :
    ∃ suf, (runOps io cfg s ops).log = s.log ++ suf := by
  induction ops generalizing s with
  | nil => exact ⟨[], by simp [runOps]⟩
  | cons op ops ih =>
    obtain ⟨suf, hs⟩ := ih ⟨(step io cfg s.lib s.f op).lib, (step io cfg s.lib s.f op).f, s.log ++ (step io cfg s.lib s.f op).calls⟩
    exact ⟨(step io cfg s.lib s.f op).calls ++ suf, by simp [runOps, hs, List.append_assoc]⟩

theorem runOps_track (s : Hist σ) (ops : List Op) :
    ∃ suf, (runOps io Cfg.fixed s ops).log = s.log ++ suf ∧ track s.f suf = some (runOps io Cfg.fixed s ops).f := by
  induction ops generalizing s with
  | nil => exact ⟨[], by simp [runOps]⟩
  | cons op ops ih =>
    obtain ⟨suf, hs, ht⟩ := ih ⟨(step io Cfg.fixed s.lib s.f op).lib, (step io Cfg.fixed s.lib s.f op).f,
      s.log ++ (step io Cfg.fixed s.lib s.f op).calls⟩
    refine ⟨(step io Cfg.fixed s.lib s.f op).calls ++ suf, by simp [runOps, hs, List.append_assoc], ?_⟩
    simp only [runOps]
    exact track_append_of (step_track io s.lib s.f op) ht

theorem runOps_count (s : Hist σ) (ops : List Op) :
    ∃ suf, (runOps io Cfg.fixed s ops).log = s.log ++ suf ∧ track s.f suf = some (runOps io Cfg.fixed s ops).f ∧
      (suf.filter isOpenOk).length + (if s.f.isSome then 1 else 0) =
        (suf.filter isClose).length + (if (runOps io Cfg.fixed s ops).f.isSome then 1 else 0) := by
  obtain ⟨suf, hl, ht⟩ := runOps_track io s ops
  exact ⟨suf, hl, ht, track_count _ _ _ ht⟩

theorem runOps_append (cfg : Cfg) (s : Hist σ) (a b : List Op) :
    runOps io cfg s (a ++ b) = runOps io cfg (runOps io cfg s a) b := by
  induction a generalizing s with
  | nil => rfl
  | cons op a ih => simp [runOps, ih]

theorem proj_append (o : Nat) (a b : List (Nat × Call)) : proj o (a ++ b) = proj o a ++ proj o b := by
  simp [proj, List.filter_append]

theorem proj_cons_self (o : Nat) (c : Call) (rest : List (Nat × Call)) : proj o ((o, c) :: rest) = c :: proj o rest := by
  simp [proj]

theorem proj_cons_ne {o o' : Nat} (h : o ≠ o') (c : Call) (rest : List (Nat × Call)) : proj o ((o', c) :: rest) = proj o rest := by
  simp [proj, h.symm]

theorem proj_tag_self (o : Nat) (cs : List Call) : proj o (cs.map (fun c => (o, c))) = cs := by
  simp [proj, List.filter_map, Function.comp_def]

theorem proj_tag_ne (o o' : Nat) (h : o ≠ o') (cs : List Call) : proj o (cs.map (fun c => (o', c))) = [] := by
  simp [proj, List.filter_map, Function.comp_def, h.symm]

theorem Multi.step_op (cfg : Cfg) (s : Multi σ) {o : Nat} {f : Option Handle} (ho : lookup o s.objs = some f) (op : Op) :
    s.step io cfg o (.op op) = s.apply o (File.step io cfg s.lib f op) true := by
  simp only [Multi.step, Multi.stepR, ho]

theorem held_apply_self (s : Multi σ) (o : Nat) (r : R σ Val) (keep : Bool) :
    (s.apply o r keep).held o = if keep then r.f else none := by
  cases keep <;> simp [Multi.apply, Multi.held]

theorem held_apply_ne (s : Multi σ) (o o' : Nat) (h : o ≠ o') (r : R σ Val) (keep : Bool) :
    (s.apply o' r keep).held o = s.held o := by
  cases keep <;> simp [Multi.apply, Multi.held, lookup_insert_ne _ _ _ _ h, lookup_erase_ne _ _ _ h]

theorem held_of_lookup_none (s : Multi σ) (o : Nat) (h : lookup o s.objs = none) : s.held o = none := by
  simp [Multi.held, h]

theorem held_of_all_none (s : Multi σ) (h : ∀ p ∈ s.objs, p.2 = none) (o : Nat) : s.held o = none := by
  simp only [Multi.held]
  generalize s.objs = l at h
  induction l with
  | nil => rfl
  | cons p rest ih =>
    obtain ⟨k, v⟩ := p
    simp only [lookup]
    by_cases hk : k = o
    · simp only [hk, if_true]; exact h (k, v) (by simp)
    · simp only [hk, if_false]; exact ih (fun q hq => h q (by simp [hq]))

/-- a constructor (`File_New` / `Process_New`) either calls nothing and holds nothing, or is File_Open on zeroed memory: its calls
    are well bracketed from "nothing held", and when it throws — no object comes into being — it holds nothing (a failed
    fopen / popen left NULL).  The condition is "`r.out` is ok", written as `Multi.stepR` writes it (a `match` on the mapped outcome). -/
theorem ctor_track (l : σ) (r : R σ Unit)
    (hr : (r.calls = [] ∧ r.f = none) ∨ ∃ k m, r = fileOpen io Cfg.fixed l none k m) :
    track none r.calls = some (if (match r.out.map (fun _ => Val.unit) with | .ok _ => true | _ => false) then r.f else none) := by
  rcases hr with ⟨hc, hf⟩ | ⟨k, m, rfl⟩
  · rw [hc, hf, ite_self]; rfl
  · rw [fileOpen_track, fileOpen_none]
    cases (io.fopen l k m).2 <;> rfl

theorem stepR_track (s : Multi σ) (o : Nat) (m : MOp) (r : R σ Val) (keep : Bool)
    (h : s.stepR io Cfg.fixed o m = some (r, keep)) (hc : s.copiesOpen o m = false) :
    track (s.held o) r.calls = some (if keep then r.f else none) := by
  unfold Multi.held
  cases hl : lookup o s.objs with
  | none =>
    -- a free name: the constructors and `copy`
    cases m <;> simp only [Multi.stepR, hl, reduceCtorEq, Option.some.injEq, Prod.mk.injEq] at h
    case new args =>
      obtain ⟨rfl, rfl⟩ := h
      exact ctor_track io s.lib _ (by cases args; exact Or.inl ⟨rfl, rfl⟩; exact Or.inr ⟨_, _, rfl⟩)
    case pnew args =>
      obtain ⟨rfl, rfl⟩ := h
      exact ctor_track io s.lib _ (by cases args; exact Or.inl ⟨rfl, rfl⟩; exact Or.inr ⟨_, _, rfl⟩)
    case new1 k => obtain ⟨rfl, rfl⟩ := h; rfl
    case copy src =>
      -- clean: the source holds nothing, so the copy holds nothing
      split at h <;> cases h
      rename_i f _ hs
      simp only [Multi.copiesOpen, Multi.held, hs] at hc
      cases f with
      | some x => cases hc
      | none => rfl
  | some g =>
    cases m <;> simp only [Multi.stepR, hl, reduceCtorEq, Option.some.injEq, Prod.mk.injEq] at h
    case del => obtain ⟨rfl, rfl⟩ := h; rw [step_track, step_closes io s.lib g .destruct rfl]; rfl
    case op op => obtain ⟨rfl, rfl⟩ := h; exact step_track io s.lib g op
    case assign src =>
      split at h <;> cases h
      rename_i f _ hs
      simp only [Multi.copiesOpen, Multi.held, hs, hl, Bool.or_eq_false_iff] at hc
      cases f with
      | some x => cases hc.1
      | none =>
        cases g with
        | some y => cases hc.2
        | none => rfl

/-- `Tracks s s'`: the log was continued, and every object's own part of the continuation is well bracketed from what the object
    held to what it holds.  It asks nothing of stdio; the statement over handles follows from it for a stdio that hands out
    no handle still open (`Tracks.global`, Lemmas/FileGlobal.lean). -/
def Tracks (s s' : Multi σ) : Prop :=
  ∃ suf, s'.log = s.log ++ suf ∧ ∀ o, track (s.held o) (proj o suf) = some (s'.held o)

theorem Tracks.refl (s : Multi σ) : Tracks s s := ⟨[], by simp, fun _ => rfl⟩

theorem Tracks.trans {a b c : Multi σ} (h1 : Tracks a b) (h2 : Tracks b c) : Tracks a c := by
  obtain ⟨s1, l1, t1⟩ := h1
  obtain ⟨s2, l2, t2⟩ := h2
  exact ⟨s1 ++ s2, by rw [l2, l1, List.append_assoc], fun o => by rw [proj_append]; exact track_append_of (t1 o) (t2 o)⟩

theorem Tracks.step (s : Multi σ) (o' : Nat) (m : MOp) (hc : s.copiesOpen o' m = false) :
    Tracks s (s.step io Cfg.fixed o' m) := by
  simp only [Multi.step]
  cases hs : s.stepR io Cfg.fixed o' m with
  | none => exact Tracks.refl s
  | some p =>
    obtain ⟨r, keep⟩ := p
    refine ⟨r.calls.map (fun c => (o', c)), by simp [Multi.apply], fun o => ?_⟩
    by_cases ho : o = o'
    · subst ho
      rw [proj_tag_self, held_apply_self]
      exact stepR_track io s _ m r keep hs hc
    · rw [proj_tag_ne o o' ho, held_apply_ne s o o' ho]; rfl

theorem Multi.run_tracks (s : Multi σ) (steps : List (Nat × MOp)) (hc : s.cleanRun io Cfg.fixed steps = true) :
    Tracks s (s.run io Cfg.fixed steps) := by
  induction steps generalizing s with
  | nil => exact Tracks.refl s
  | cons st rest ih =>
    obtain ⟨o, m⟩ := st
    simp only [Multi.cleanRun, Bool.and_eq_true, Bool.not_eq_true'] at hc
    exact (Tracks.step io s o m hc.1).trans (ih _ hc.2)

end Cello.File
