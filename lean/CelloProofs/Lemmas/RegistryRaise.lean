/-
  The nested GC_Rem / finalisation recursion in its most general form: destructors that delete (`K`) and may leave by an
  exception (`R`), `execR` / `finaliseLoopR` / `gcSweepR` / `gcSetR` of Cello/Registry.lean.  With `R = noR` they are `exec` /
  `finaliseLoop` / `gcSweep` / `gcSet`, the functions the driver runs.  Termination is argued here and nowhere else
  (`execR_safe`): from a well-formed state (`WFP`: pending list arbitrary, also one that an earlier exception left behind),
  for either form of GC_Rem_Ptr's NULL test (`NullOk`), the recursion answers within the model's fuel and leaves a well-formed
  state for a sub-ledger; that `exec` / `finaliseLoop` answer is the case `R = noR`.
-/
import Cello.Registry
import CelloProofs.Lemmas.RegistryKills
namespace Cello.Registry

/-- a result without exception -/
def liftR (x : Option (Reg × List Nat)) : Option (Reg × List Nat × Bool) := x.map (fun y => (y.1, y.2, false))

/-- `stepTr` for destructors that may raise: an exception that is unwinding skips the rest of the destructor's deletions -/
def stepTrR {α : Type} (f : α → Nat → Option (α × List Nat × Bool)) :
    Option (α × List Nat × Bool) → Nat → Option (α × List Nat × Bool) :=
  fun acc y =>
    match acc with
    | none => none
    | some (a, t, ex) =>
      if ex then some (a, t, true)
      else
        match f a y with
        | none => none
        | some (a', t', ex') => some (a', t ++ t', ex')

theorem execR_fin_succ (c : Cfg) (K : Nat → List Nat) (R : Nat → Bool) (f : Nat) (r : Reg) (p : Nat) :
    execR c K R (f+1) r (.fin p) =
      match (K p).foldl (stepTrR (fun r' y => execR c K R f r' (.rem y))) (some (r, [], false)) with
      | none => none
      | some (r', t, ex) =>
        if ex then some (r', t, true)
        else if R p then some (r', t, true)
        else some (r', t ++ [p], false) := by
  rw [execR]
  congr 2
  funext acc y
  rcases acc with _ | ⟨r', t, ex⟩
  · rfl
  · unfold stepTrR; simp only []; cases ex <;> cases execR c K R f r' (.rem y) <;> rfl

theorem execR_rem_succ (c : Cfg) (K : Nat → List Nat) (R : Nat → Bool) (f : Nat) (r : Reg) (x : Nat) :
    execR c K R (f+1) r (.rem x) =
      if !r.running then some (r, [], false)
      else
        match remPtr c r x with
        | none => none
        | some (r1, fi) =>
          match (match fi with
                 | none => some (r1, [], false)
                 | some p => execR c K R f r1 (.fin p)) with
          | none => none
          | some (r2, t, ex) =>
            if ex then some (r2, t, true)
            else
              match resizeLess c r2 with
              | none => none
              | some r3 => some ({ r3 with mitems := c.mitemsOf r3.nitems }, t, false) := by
  rw [execR]; rfl

theorem execR_noRaise (c : Cfg) (K : Nat → List Nat) :
    ∀ (fuel : Nat) (r : Reg) (cmd : Cmd), execR c K noR fuel r cmd = liftR (exec c K fuel r cmd) := by
  intro fuel
  induction fuel with
  | zero => intro r cmd; rfl
  | succ fuel ih =>
    intro r cmd
    cases cmd with
    | fin p =>
      rw [execR_fin_succ, exec_fin_succ]
      have hfold : ∀ (l : List Nat) (x : Option (Reg × List Nat)),
          l.foldl (stepTrR (fun r' y => execR c K noR fuel r' (.rem y))) (liftR x) =
          liftR (l.foldl (stepTr (fun r' y => exec c K fuel r' (.rem y))) x) := by
        intro l
        induction l with
        | nil => intro x; rfl
        | cons z l ihl =>
          intro x
          simp only [List.foldl_cons]
          rw [← ihl]
          congr 1
          cases x with
          | none => rfl
          | some v =>
            obtain ⟨r', t⟩ := v
            simp only [liftR, stepTr, stepTrR, Option.map_some, Bool.false_eq_true, if_false]
            rw [ih r' (.rem z)]
            cases exec c K fuel r' (.rem z) with
            | none => rfl
            | some w => rfl
      have h0 : (some (r, [], false) : Option (Reg × List Nat × Bool)) = liftR (some (r, [])) := rfl
      rw [h0, hfold]
      cases (K p).foldl _ (some (r, [])) with
      | none => rfl
      | some v => obtain ⟨r', t⟩ := v; simp [liftR, noR]
    | rem x =>
      rw [execR_rem_succ, exec_rem_succ]
      cases hrun : r.running with
      | false => simp [liftR]
      | true =>
        simp only [Bool.not_true, Bool.false_eq_true, if_false]
        cases remPtr c r x with
        | none => rfl
        | some v =>
          obtain ⟨r1, fi⟩ := v
          simp only []
          cases fi with
          | none =>
            simp only [Bool.false_eq_true, if_false]
            cases resizeLess c r1 with
            | none => rfl
            | some r3 => rfl
          | some p =>
            simp only []
            rw [ih r1 (.fin p)]
            cases exec c K fuel r1 (.fin p) with
            | none => rfl
            | some w =>
              obtain ⟨r2, t⟩ := w
              simp only [liftR, Option.map_some, Bool.false_eq_true, if_false]
              cases resizeLess c r2 with
              | none => rfl
              | some r3 => rfl

theorem gcRemR_noRaise (c : Cfg) (K : Nat → List Nat) (r : Reg) (x : Nat) : gcRemR c K noR r x = liftR (gcRem c K r x) :=
  execR_noRaise c K _ r _

theorem finaliseLoopR_noRaise (c : Cfg) (K : Nat → List Nat) :
    ∀ (todo i : Nat) (r : Reg) (t : List Nat), finaliseLoopR c K noR todo i r t = liftR (finaliseLoop c K todo i r t) := by
  intro todo
  induction todo with
  | zero => intro i r t; rfl
  | succ todo ih =>
    intro i r t
    unfold finaliseLoopR finaliseLoop
    cases hgi : r.pending[i]? with
    | none => simp only []; exact ih (i+1) r t
    | some o =>
      cases o with
      | none => simp only []; exact ih (i+1) r t
      | some p =>
        simp only []
        rw [execR_noRaise]
        cases exec c K (nestFuel { r with pending := r.pending.setIfInBounds i none } + 1)
            { r with pending := r.pending.setIfInBounds i none } (.fin p) with
        | none => rfl
        | some w =>
          obtain ⟨r2, t'⟩ := w
          simp only [liftR, Option.map_some, Bool.false_eq_true, if_false]
          exact ih (i+1) r2 (t ++ t')

theorem gcSweepR_eq (c : Cfg) (K : Nat → List Nat) (R : Nat → Bool) (r : Reg) :
    gcSweepR c K R r =
      match sweepPhase c r with
      | none => none
      | some r2 =>
        match finaliseLoopR c K R r2.pending.size 0 r2 [] with
        | none => none
        | some (r3, t, ex) => if ex then some (r3, t, true) else some ({ r3 with pending := #[] }, t, false) := by
  unfold gcSweepR sweepPhase
  cases sweepLoop (2 * r.n + 1) r.slots 0 #[] r.nitems with
  | none => rfl
  | some v =>
    obtain ⟨s, pend, ni⟩ := v
    simp only []
    cases resizeLess c { r with slots := clearMarks s, nitems := ni, pending := pend } <;> rfl

theorem gcSweepR_noRaise (c : Cfg) (K : Nat → List Nat) (r : Reg) : gcSweepR c K noR r = liftR (gcSweep c K r) := by
  rw [gcSweepR_eq, gcSweep_eq]
  cases sweepPhase c r with
  | none => rfl
  | some r2 =>
    simp only []
    rw [finaliseLoopR_noRaise]
    cases finaliseLoop c K r2.pending.size 0 r2 [] <;> rfl

theorem gcSetR_noRaise (c : Cfg) (K : Nat → List Nat) (r : Reg) (p : Nat) (root : Bool) (marks : List Nat) :
    gcSetR c K noR r p root marks = liftR (gcSet c K r p root marks) := by
  unfold gcSetR gcSet
  by_cases hrun : (!r.running) = true
  · rw [if_pos hrun, if_pos hrun]; rfl
  · rw [if_neg hrun, if_neg hrun]
    generalize resizeMore c { r with nitems := r.nitems + 1, maxptr := if p > r.maxptr then p else r.maxptr, minptr := if p < r.minptr then p else r.minptr } = o
    cases o with
    | none => rfl
    | some r1 =>
      simp only []
      cases setPtr c r1.slots p root with
      | none => rfl
      | some s =>
        simp only []
        split
        · cases gcMark c { r1 with slots := s } marks with
          | none => rfl
          | some r3 => simp only []; exact gcSweepR_noRaise c K r3
        · rfl

/-- how far a state may be from the one a nested removal started in: well formed for a sub-ledger, no object added to the
    pending list, `running` and the length of the pending list unchanged -/
structure SafeFrom (c : Cfg) (r : Reg) (L : Ledger) (r' : Reg) (L' : Ledger) : Prop where
  wfp : WFP c r' L'
  sub : ∀ y, y ∈ L' → y ∈ L
  psub : ∀ y, y ∈ pendList r' → y ∈ pendList r
  size : L'.length + (pendList r').length ≤ L.length + (pendList r).length
  running : r'.running = r.running
  psize : r'.pending.size = r.pending.size

theorem SafeFrom.refl {c : Cfg} {r : Reg} {L : Ledger} (h : WFP c r L) : SafeFrom c r L r L :=
  ⟨h, fun _ h => h, fun _ h => h, Nat.le_refl _, rfl, rfl⟩

theorem SafeFrom.trans {c : Cfg} {r r1 r2 : Reg} {L L1 L2 : Ledger} (h1 : SafeFrom c r L r1 L1) (h2 : SafeFrom c r1 L1 r2 L2) :
    SafeFrom c r L r2 L2 :=
  ⟨h2.wfp, fun y hy => h1.sub y (h2.sub y hy), fun y hy => h1.psub y (h2.psub y hy), Nat.le_trans h2.size h1.size,
   h2.running.trans h1.running, h2.psize.trans h1.psize⟩

/-- the call answers, whether or not a destructor raised, with a state that some ledger makes `SafeFrom` the state `r` and
    ledger `L` it started in -/
def SafeRes (c : Cfg) (r : Reg) (L : Ledger) (res : Option (Reg × List Nat × Bool)) : Prop :=
  ∃ r' L' t ex, res = some (r', t, ex) ∧ SafeFrom c r L r' L'

theorem SafeRes.from {c : Cfg} {r r1 : Reg} {L L1 : Ledger} {res : Option (Reg × List Nat × Bool)} (h1 : SafeFrom c r L r1 L1)
    (h : SafeRes c r1 L1 res) : SafeRes c r L res := by
  obtain ⟨r', L', t, ex, he, hs⟩ := h
  exact ⟨r', L', t, ex, he, h1.trans hs⟩

/-- **Nested removals with raising destructors are safe.**  The fuel: a removal that finds its object takes two levels (`.rem`,
    then `.fin`) and takes the object off the ledger or off the addresses waiting; hence `2·(|L| + |waiting|) + 2` for a
    finalisation, `+ 1` for a removal. -/
theorem execR_safe (c : Cfg) (g : GoodCfg c) (K : Nat → List Nat) (hK : NullOk c K) (R : Nat → Bool) :
    ∀ (fuel : Nat) (r : Reg) (L : Ledger) (cmd : Cmd), WFP c r L → CmdOk c r cmd →
      (match cmd with | .fin _ => 2 * (L.length + (pendList r).length) + 2 | .rem _ => 2 * (L.length + (pendList r).length) + 1) ≤ fuel →
      SafeRes c r L (execR c K R fuel r cmd) := by
  intro fuel
  induction fuel with
  | zero => intro r L cmd _ _ hf; cases cmd <;> simp at hf
  | succ fuel ih =>
    intro r L cmd hwf hok hf
    cases cmd with
    | fin p =>
      simp only at hf
      rw [execR_fin_succ]
      have hfold : ∀ (l : List Nat), (∀ z ∈ l, z ∈ K p) → ∀ (x : Option (Reg × List Nat × Bool)), SafeRes c r L x →
          SafeRes c r L (l.foldl (stepTrR (fun r' y => execR c K R fuel r' (.rem y))) x) := by
        intro l
        induction l with
        | nil => intro _ x h; exact h
        | cons z l ihl =>
          intro hl x h
          simp only [List.foldl_cons]
          apply ihl (fun y hy => hl y (List.mem_cons_of_mem _ hy))
          obtain ⟨r', L', t, ex, hx, hs⟩ := h
          subst hx
          cases ex with
          | true => exact ⟨r', L', t, true, rfl, hs⟩
          | false =>
            simp only [stepTrR, Bool.false_eq_true, if_false]
            obtain ⟨r'', L'', t', ex', he, hs'⟩ := ih r' L' (.rem z) hs.wfp (hK.cmdOk (hl z List.mem_cons_self) r')
              (by have := hs.size; simp only; omega)
            rw [he]
            exact ⟨r'', L'', t ++ t', ex', rfl, hs.trans hs'⟩
      obtain ⟨r', L', t, ex, hx, hs⟩ := hfold (K p) (fun _ h => h) _ ⟨r, L, [], false, rfl, SafeFrom.refl hwf⟩
      rw [hx]
      simp only []
      cases ex with
      | true => exact ⟨r', L', t, true, rfl, hs⟩
      | false =>
        simp only [Bool.false_eq_true, if_false]
        cases R p with
        | true => exact ⟨r', L', t, true, rfl, hs⟩
        | false => exact ⟨r', L', t ++ [p], false, rfl, hs⟩
    | rem x =>
      simp only at hf
      rw [execR_rem_succ]
      cases hrun : r.running with
      | false => exact ⟨r, L, [], false, rfl, SafeFrom.refl hwf⟩
      | true =>
        simp only [Bool.not_true, Bool.false_eq_true, if_false]
        obtain ⟨r1, fi, hrem, hrun1, _, hcases⟩ := remPtr_abs c r L hwf x hok
        rw [hrem]; simp only []
        have tail : ∀ (x' : Option (Reg × List Nat × Bool)), SafeRes c r L x' →
            SafeRes c r L
              (match x' with
               | none => none
               | some (r2, t, ex) =>
                 if ex then some (r2, t, true)
                 else
                   match resizeLess c r2 with
                   | none => none
                   | some r3 => some ({ r3 with mitems := c.mitemsOf r3.nitems }, t, false)) := by
          rintro x' ⟨r2, L2, t, ex, hx, hs⟩
          subst hx
          cases ex with
          | true => exact ⟨r2, L2, t, true, rfl, hs⟩
          | false =>
            simp only [Bool.false_eq_true, if_false]
            obtain ⟨r3, hr3, w3, p3, run3⟩ := rem_tail c g r2 L2 hs.wfp
            have hpl3 : pendList { r3 with mitems := c.mitemsOf r3.nitems } = pendList r2 := pendList_congr p3
            rw [hr3]
            exact ⟨_, L2, t, false, rfl, hs.trans ⟨w3, fun _ h => h, fun y hy => hpl3 ▸ hy, by rw [hpl3]; exact Nat.le_refl _, run3,
              by show r3.pending.size = _; rw [p3]⟩⟩
        rcases hcases with ⟨hx, hfi, hpl, hw1, hsz1⟩ | ⟨hxp, hxL, hfi, hpend, hw1, _⟩ | ⟨hxp, hxL, hfi, hr1⟩
        · subst hfi
          have hlen : ((pendList r).erase x).length = (pendList r).length - 1 := List.length_erase_of_mem hx
          have hpos : 0 < (pendList r).length := List.length_pos_of_mem hx
          have s1 : SafeFrom c r L r1 L :=
            ⟨hw1, fun _ h => h, fun y hy => List.mem_of_mem_erase (hpl ▸ hy), by rw [hpl, hlen]; omega, hrun1, hsz1⟩
          exact tail _ (SafeRes.from s1 (ih r1 L (.fin x) hw1 trivial (by simp only; rw [hpl, hlen]; omega)))
        · subst hfi
          have hpl : pendList r1 = pendList r := pendList_congr hpend
          have hlt := length_filter_ne_lt L x hxL
          have s1 : SafeFrom c r L r1 (L.filter (fun y => y.1 != x)) :=
            ⟨hw1, fun y hy => (List.mem_filter.1 hy).1, fun y hy => hpl ▸ hy, by rw [hpl]; omega, hrun1, by rw [hpend]⟩
          exact tail _ (SafeRes.from s1 (ih r1 _ (.fin x) hw1 trivial (by simp only; rw [hpl]; omega)))
        · subst hfi; subst hr1
          exact tail _ ⟨r1, L, [], false, rfl, SafeFrom.refl hwf⟩

theorem gcRemR_safe (c : Cfg) (g : GoodCfg c) (K : Nat → List Nat) (hK : NullOk c K) (R : Nat → Bool) (r : Reg) (L : Ledger)
    (h : WFP c r L) (x : Nat) (hx : CmdOk c r (.rem x)) : SafeRes c r L (gcRemR c K R r x) :=
  execR_safe c g K hK R (nestFuel r) r L (.rem x) h hx (nestFuel_ge c r L h)

theorem finaliseLoopR_safe (c : Cfg) (g : GoodCfg c) (K : Nat → List Nat) (hK : NullOk c K) (R : Nat → Bool) :
    ∀ (todo i : Nat) (r : Reg) (L : Ledger) (t : List Nat), WFP c r L → SafeRes c r L (finaliseLoopR c K R todo i r t) := by
  intro todo
  induction todo with
  | zero => intro i r L t h; exact ⟨r, L, t, false, rfl, SafeFrom.refl h⟩
  | succ todo ih =>
    intro i r L t h
    unfold finaliseLoopR
    cases hgi : r.pending[i]? with
    | none => simp only []; exact ih (i+1) r L t h
    | some o =>
      cases o with
      | none => simp only []; exact ih (i+1) r L t h
      | some p =>
        simp only []
        -- the slot is cleared before the destructor runs
        have hw1 := wfp_set_pending c r L h i
        have s1 : SafeFrom c r L { r with pending := r.pending.setIfInBounds i none } L :=
          ⟨hw1, fun _ h => h, fun _ hy => (pendList_set_none_sublist r i).subset hy,
            Nat.add_le_add_left (pendList_set_none_sublist r i).length_le _, rfl, by simp⟩
        obtain ⟨r2, L2, t2, ex, he, hs2⟩ := SafeRes.from s1
          (execR_safe c g K hK R (nestFuel { r with pending := r.pending.setIfInBounds i none } + 1) _ L (.fin p) hw1 trivial
            (by have := nestFuel_ge c _ L hw1; simp only; omega))
        rw [he]
        simp only []
        cases ex with
        | true => exact ⟨r2, L2, t ++ t2, true, rfl, hs2⟩
        | false =>
          simp only [Bool.false_eq_true, if_false]
          exact SafeRes.from hs2 (ih (i+1) r2 L2 (t ++ t2) hs2.wfp)

theorem gcSweepR_safe (c : Cfg) (g : GoodCfg c) (K : Nat → List Nat) (hK : NullOk c K) (R : Nat → Bool) (r : Reg) (L : Ledger)
    (mk : Nat → Bool → Bool) (h : Marked c r L mk) :
    ∃ (order : List Nat) (r' : Reg) (L' : Ledger) (t : List Nat) (ex : Bool),
      gcSweepR c K R r = some (r', t, ex) ∧ WFP c r' L' ∧ (∀ y, y ∈ L' → y ∈ collectBy L mk) ∧
      (∀ y, y ∈ pendList r' → y ∈ order ∧ y ∉ L'.map Prod.fst) ∧ order.Nodup ∧
      (∀ p, p ∈ order ↔ ∃ b, (p, b) ∈ L ∧ (p, b) ∉ collectBy L mk) ∧
      r'.running = r.running ∧ (ex = false → r'.pending = #[]) ∧ (ex = true → r'.pending.size = order.length) := by
  obtain ⟨order, r2, h2, hw2, hpend, hrun2, hnd2, hmem2⟩ := sweepPhase_wfp c g r L mk h
  obtain ⟨r3, L3, t, ex, he, hw3, hsub3, hpsub3, _, hrun3, hps3⟩ :=
    finaliseLoopR_safe c g K hK R r2.pending.size 0 r2 (collectBy L mk) [] hw2
  have hpl : ∀ y, y ∈ pendList r2 → y ∈ order := fun y hy => pendList_of_map_some hpend ▸ hy
  -- a reclaimed object is not among the survivors, whose addresses are pairwise distinct: nor in a sub-ledger of them
  have hgone : ∀ y, y ∈ order → y ∉ L3.map Prod.fst := fun y hy =>
    let ⟨b, hb, hnb⟩ := (hmem2 y).1 hy
    not_mem_keys_of_not_mem h.nodup (fun x hx => collectBy_sub L mk x (hsub3 x hx)) hb (fun hin => hnb (hsub3 _ hin))
  have hsz : r3.pending.size = order.length := by
    rw [hps3, hpend]; simp
  rw [gcSweepR_eq, h2]; simp only []
  rw [he]; simp only []
  cases ex with
  | true =>
    simp only [if_true]
    exact ⟨order, r3, L3, t, true, rfl, hw3, hsub3, fun y hy => ⟨hpl y (hpsub3 y hy), hgone y (hpl y (hpsub3 y hy))⟩, hnd2, hmem2,
      hrun3.trans hrun2, (fun h => by cases h), (fun _ => hsz)⟩
  | false =>
    simp only [Bool.false_eq_true, if_false]
    refine ⟨order, _, L3, t, false, rfl, hw3.clear.toWFP, hsub3, ?_, hnd2, hmem2, hrun3.trans hrun2,
      (fun _ => rfl), (fun h => by cases h)⟩
    intro y hy
    rw [pendList_nil rfl] at hy
    cases hy

theorem exec_total (c : Cfg) (g : GoodCfg c) (K : Nat → List Nat) (hK : NullOk c K) (fuel : Nat) (r : Reg) (L : Ledger) (cmd : Cmd)
    (hwf : WFP c r L)
    (hf : (match cmd with | .fin _ => 2 * (L.length + (pendList r).length) + 2 | .rem _ => 2 * (L.length + (pendList r).length) + 1) ≤ fuel)
    (hok : CmdOk c r cmd) :
    ∃ r' t L', exec c K fuel r cmd = some (r', t) ∧ SafeFrom c r L r' L' := by
  obtain ⟨r', L', t, ex, he, hs⟩ := execR_safe c g K hK noR fuel r L cmd hwf hok hf
  rw [execR_noRaise] at he
  cases hx : exec c K fuel r cmd with
  | none => rw [hx] at he; cases he
  | some v => rw [hx] at he; cases he; exact ⟨_, _, L', rfl, hs⟩

theorem finaliseLoop_total (c : Cfg) (g : GoodCfg c) (K : Nat → List Nat) (hK : NullOk c K) (todo i : Nat) (r : Reg) (L : Ledger)
    (t : List Nat) (h : WFP c r L) : ∃ r' t', finaliseLoop c K todo i r t = some (r', t') := by
  obtain ⟨r', _, t', _, he, _⟩ := finaliseLoopR_safe c g K hK noR todo i r L t h
  rw [finaliseLoopR_noRaise] at he
  cases hx : finaliseLoop c K todo i r t with
  | none => rw [hx] at he; cases he
  | some v => exact ⟨v.1, v.2, rfl⟩

end Cello.Registry
