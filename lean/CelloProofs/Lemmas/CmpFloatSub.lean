/-
  C09, Float, the operations: `signRound` and `truncRound` are `Rounding`s; a rounding keeps the sign of what it rounds, hence
  `SubSign` for IEEE subtraction under any `Rounding` (`subSign_rounded`); `Float_Cmp` under `SubSign` is the order of the keys,
  hence strict on the non-NaN doubles (`floatCmp_strict`).
-/
import CelloProofs.Lemmas.Cmp
import CelloProofs.Lemmas.CmpFloat

namespace Cello.Cmp
open CelloGen.Cmp (FloatOps)

theorem fval_signRound (x : Int) : fval (signRound x) = sgn x := by
  unfold signRound
  rcases sgn_cases x with ⟨h, e⟩ | ⟨h, e⟩ | ⟨h, e⟩ <;> rw [e]
  · rw [if_neg (by omega), if_pos h]; decide
  · rw [if_neg (by omega), if_neg (by omega)]; decide
  · rw [if_pos h]; decide

theorem rounding_sign : Rounding signRound where
  mono x y h := by
    rw [fval_signRound, fval_signRound]
    rcases sgn_cases x with hx | hx | hx <;> rcases sgn_cases y with hy | hy | hy <;> omega
  notNaN x := by
    unfold signRound
    split
    · decide
    · split <;> decide
  zero := by decide
  one := by decide
  negOne := by decide

theorem truncBits_small {n : Nat} (h : n < 2 ^ 53) : truncBits n = n := by
  rw [truncBits]; simp [h]

theorem truncBits_big {n : Nat} (h : ¬ n < 2 ^ 53) : truncBits n = truncBits (n / 2) + 2 ^ 52 := by
  rw [truncBits]; simp [h]

theorem truncBits_mono : ∀ m n : Nat, n ≤ m → truncBits n ≤ truncBits m := by
  intro m
  induction m using Nat.strongRecOn with
  | _ m ih =>
    intro n hnm
    by_cases hm : m < 2 ^ 53
    · rw [truncBits_small hm, truncBits_small (by omega : n < 2 ^ 53)]; exact hnm
    · rw [truncBits_big hm]
      by_cases hn : n < 2 ^ 53
      · rw [truncBits_small hn]
        have h52 := ih (m / 2) (by omega) (2 ^ 52) (by omega)
        rw [truncBits_small (by decide : (2 ^ 52 : Nat) < 2 ^ 53)] at h52
        omega
      · rw [truncBits_big hn]
        have := ih (m / 2) (by omega) (n / 2) (by omega)
        omega

/-- the magnitude part of `truncRound` -/
def truncMag (n : Nat) : Nat := Nat.min (truncBits n) 0x7fefffffffffffff

theorem truncMag_mono {n m : Nat} (h : n ≤ m) : truncMag n ≤ truncMag m := by
  have := truncBits_mono m n h
  unfold truncMag
  simp only [Nat.min_def]
  split <;> split <;> omega

-- = 0x7fefffffffffffff
theorem truncMag_le (n : Nat) : truncMag n ≤ 9218868437227405311 := by
  unfold truncMag
  simp only [Nat.min_def]
  split <;> omega

theorem truncRound_toNat (x : Int) :
    (truncRound x).toNat = if x < 0 then 2 ^ 63 + truncMag x.natAbs else truncMag x.natAbs := by
  have hl := truncMag_le x.natAbs
  unfold truncRound
  show (UInt64.ofNat (if x < 0 then 0x8000000000000000 + truncMag x.natAbs else truncMag x.natAbs)).toNat = _
  rw [UInt64.toNat_ofNat']
  split <;> omega

theorem fkey_truncRound (x : Int) :
    fkey (truncRound x) = if x < 0 then -((truncMag x.natAbs : Nat) : Int) else ((truncMag x.natAbs : Nat) : Int) := by
  have hl : truncMag x.natAbs < 2 ^ 63 := by have := truncMag_le x.natAbs; omega
  have e := truncRound_toNat x
  rw [fkey_eq_low63]
  by_cases hx : x < 0
  · rw [if_pos hx] at e ⊢; obtain ⟨s, l⟩ := (sign_low63_of_toNat hl).2 e; rw [if_pos s, l]
  · rw [if_neg hx] at e ⊢; obtain ⟨s, l⟩ := (sign_low63_of_toNat hl).1 e; rw [if_neg s, l]

/-- at the three arguments where `Rounding` fixes the value (0, 1, -1) `truncRound` is the pattern `b` with that `toNat` -/
theorem truncRound_small {x : Int} {b : UInt64} (h : -1 ≤ x ∧ x ≤ 1)
    (e : b.toNat = if x < 0 then 2 ^ 63 + x.natAbs else x.natAbs) : truncRound x = b := by
  apply UInt64.toNat_inj.mp
  rw [truncRound_toNat, e, truncMag, truncBits_small (by omega)]
  have : x.natAbs ≤ 1 := by omega
  simp only [Nat.min_def]; split <;> split <;> omega

theorem rounding_trunc : Rounding truncRound where
  mono x y h := by
    have key : fkey (truncRound x) ≤ fkey (truncRound y) := by
      rw [fkey_truncRound, fkey_truncRound]
      by_cases hx : x < 0
      · by_cases hy : y < 0
        · simp only [hx, hy, if_true]
          have := truncMag_mono (show y.natAbs ≤ x.natAbs by omega)
          omega
        · simp only [hx, hy, if_true, if_false]; omega
      · have hy : ¬ y < 0 := by omega
        simp only [hx, hy, if_false]
        have := truncMag_mono (show x.natAbs ≤ y.natAbs by omega)
        omega
    have := fval_lt_iff_fkey_lt (truncRound y) (truncRound x)
    omega
  notNaN x := by
    have hl := truncMag_le x.natAbs
    rw [fIsNaN_iff_fkey, fkey_truncRound]
    split <;> omega
  zero := by rw [truncRound_small (b := 0) (by omega) (by decide)]; decide
  one := by rw [truncRound_small (b := 1) (by omega) (by decide)]; decide
  negOne := by rw [truncRound_small (b := 0x8000000000000001) (by omega) (by decide)]; decide

/-- the sign of a rounded value is the sign of what was rounded: a non-zero exact difference of two doubles is at least one
    unit (2^-1074) in magnitude, and the unit is representable -/
theorem Rounding.keeps_sign {rnd : Int → UInt64} (h : Rounding rnd) (x : Int) :
    (0 < fval (rnd x) ↔ 0 < x) ∧ (fval (rnd x) < 0 ↔ x < 0) := by
  rcases Int.lt_trichotomy x 0 with hx | hx | hx
  · have := h.mono x (-1) (by omega)
    have := h.negOne
    omega
  · subst hx
    have := h.zero
    omega
  · have := h.mono 1 x (by omega)
    have := h.one
    omega

theorem roundedOps_lt (rnd : Int → UInt64) (x y : UInt64) :
    (roundedOps rnd).lt x y = true ↔ fIsNaN x = false ∧ fIsNaN y = false ∧ fval x < fval y := by
  simp [roundedOps, and_assoc]

/-- a key `x` at an end `±I` of the range against any other key `y` in it: the sign of `x` decides -/
theorem end_decides {I x y : Int} (hx : x = I ∨ x = -I) (hy : -I ≤ y ∧ y ≤ I) (hne : x ≠ y) :
    (0 < x ↔ y < x) ∧ (x < 0 ↔ x < y) := by omega

/-- NaN only for one infinity minus itself (equal keys); otherwise an infinite operand decides by its own sign
    (`end_decides`), and two finite ones by the sign of their rounded exact difference (`Rounding.keeps_sign`). -/
theorem roundedOps_sub_sign {rnd : Int → UInt64} (h : Rounding rnd) (a b : UInt64) (na : fIsNaN a = false) (nb : fIsNaN b = false) :
    (fIsNaN ((roundedOps rnd).sub a b) = true ∧ fkey a = fkey b) ∨
    (fIsNaN ((roundedOps rnd).sub a b) = false ∧ (0 < fval ((roundedOps rnd).sub a b) ↔ fkey b < fkey a) ∧
      (fval ((roundedOps rnd).sub a b) < 0 ↔ fkey a < fkey b)) := by
  have na' := (fIsNaN_iff_fkey a).1 na
  have nb' := (fIsNaN_iff_fkey b).1 nb
  have ia := fIsInf_iff_fkey a
  have ib := fIsInf_iff_fkey b
  have same : fIsInf a = true → fIsInf b = true → (fNeg a = fNeg b ↔ fkey a = fkey b) := fun ha hb => by
    have ka := ia.1 ha; have kb := ib.1 hb
    rw [Bool.eq_iff_iff, fNeg_iff_fkey (b := a) (by omega), fNeg_iff_fkey (b := b) (by omega)]; omega
  simp only [roundedOps, na, nb, Bool.false_or, Bool.false_eq_true, if_false]
  by_cases ha : fIsInf a = true
  · rw [if_pos ha]
    by_cases hb : (fIsInf b && (fNeg a == fNeg b)) = true
    · rw [if_pos hb]
      rw [Bool.and_eq_true, beq_iff_eq] at hb
      exact Or.inl ⟨by decide, (same ha hb.1).1 hb.2⟩
    · rw [if_neg hb, fval_pos_iff, fval_neg_iff]
      have hne : fkey a ≠ fkey b := fun e => hb (by
        have hb' := ib.2 (e ▸ ia.1 ha)
        rw [Bool.and_eq_true, beq_iff_eq]; exact ⟨hb', (same ha hb').2 e⟩)
      exact Or.inr ⟨na, end_decides (ia.1 ha) nb' hne⟩
  · rw [if_neg ha]
    by_cases hb : fIsInf b = true
    · have d := end_decides (ib.1 hb) na' fun e => ha (ia.2 (e ▸ ib.1 hb))
      rw [if_pos hb, fval_pos_iff, fval_neg_iff, fkey_neg_flip]
      exact Or.inr ⟨(fIsNaN_iff_fkey _).2 (by rw [fkey_neg_flip]; omega), by omega, by omega⟩
    · have s := h.keeps_sign (fval a - fval b)
      have o1 := fval_lt_iff_fkey_lt a b
      have o2 := fval_lt_iff_fkey_lt b a
      rw [if_neg hb]
      exact Or.inr ⟨h.notNaN _, by omega, by omega⟩

theorem subSign_rounded {rnd : Int → UInt64} (h : Rounding rnd) : SubSign (roundedOps rnd) := by
  have hz : fIsNaN (0 : UInt64) = false := by decide
  have key : ∀ a b, fIsNaN a = false → fIsNaN b = false →
      ((roundedOps rnd).lt 0 ((roundedOps rnd).sub a b) = true ↔ fkey b < fkey a) ∧
      ((roundedOps rnd).lt ((roundedOps rnd).sub a b) 0 = true ↔ fkey a < fkey b) := by
    intro a b na nb
    rw [roundedOps_lt, roundedOps_lt, fval_zero]
    rcases roundedOps_sub_sign h a b na nb with ⟨hn, he⟩ | ⟨hn, hp, hq⟩
    · -- a NaN difference is neither above nor below zero, and the keys are equal
      simp only [hn, Bool.true_eq_false, false_and, and_false, false_iff]; omega
    · simp only [hn, hz, true_and]; exact ⟨hp, hq⟩
  exact ⟨fun a b na nb => (key a b na nb).1, fun a b na nb => (key a b na nb).2⟩

theorem fkey_one_pos : 0 < fkey 0x3ff0000000000000 := by decide
theorem fkey_neg_one_neg : fkey 0xbff0000000000000 < 0 := by decide

theorem subSign_ref : SubSign refFloatOps := by
  have z := fkey_zero; have p := fkey_one_pos; have n := fkey_neg_one_neg
  -- `sub` answers 1.0, -1.0 or 0 by the order of the keys; both fields ask for the sign of that answer
  constructor <;> intro a b _ _ <;> simp only [refFloatOps, decide_eq_true_eq] <;> split
  all_goals first | omega | (split <;> omega)

theorem neg_one_toInt32 : (-(1 : BitVec 32)).toInt = -1 := by decide
theorem one_toInt32 : ((1 : BitVec 32)).toInt = 1 := by decide
theorem zero_toInt32 : ((0 : BitVec 32)).toInt = 0 := by decide

theorem floatCmp_of_subSign (ops : FloatOps UInt64) (hs : SubSign ops) (a b : UInt64) (na : fIsNaN a = false) (nb : fIsNaN b = false) :
    (floatCmp ops a b < 0 ↔ fkey a < fkey b) ∧ (floatCmp ops a b = 0 ↔ fkey a = fkey b) ∧
    (0 < floatCmp ops a b ↔ fkey b < fkey a) := by
  have hp := hs.pos a b na nb
  have hn := hs.neg a b na nb
  simp only [floatCmp, CelloGen.Cmp.floatCmp]
  by_cases h1 : ops.lt ops.zero (ops.sub a b) = true
  · have := hp.1 h1
    rw [if_pos h1, one_toInt32]; omega
  · have := mt hp.2 h1
    rw [if_neg h1]
    by_cases h2 : ops.lt (ops.sub a b) ops.zero = true
    · have := hn.1 h2
      rw [if_pos h2, neg_one_toInt32]; omega
    · have := mt hn.2 h2
      rw [if_neg h2, zero_toInt32]; omega

theorem floatCmp_strict {ops : FloatOps UInt64} (hs : SubSign ops) :
    StrictCmpOn (fun a => fIsNaN a = false) (fun a b => fkey a = fkey b) (floatCmp ops) :=
  have key := floatCmp_of_subSign ops hs
  intSub_strict.comap fkey (fun _ _ => trivial)
    (fun a b na nb => sgn_eq_sgn_sub (key a b na nb).1 (key a b na nb).2.2) (fun _ _ _ _ => Iff.rfl)

end Cello.Cmp
