/-
  Lemmas for C16: the observers are the list functions on the text; by-value histories by induction over `step_ok`, the text
  threaded through `Holds` (`run_ok`).
-/
import CelloProofs.Lemmas.StrOps
namespace Cello.Str

theorem len_eq (s : Str) : len s = s.abs.length := rfl

theorem cstr_eq (s : Str) : cstr s = s.abs := rfl

theorem cmp_eq {s : Str} (h : s.WF) {x : List Byte} (hx : NulFree x) : cmp s x = lexCmp s.abs x :=
  h.holds.strcmpZ hx

theorem eq_iff {s : Str} (h : s.WF) {x : List Byte} (hx : NulFree x) : eq s x = true ↔ s.abs = x := by
  simp only [eq, cmp_eq h hx, beq_iff_eq]; exact (lexCmp_spec _ _).2.1

theorem mem_iff (s : Str) (x : List Byte) : mem s x = true ↔ x <:+: s.abs :=
  findSub_isSome_iff x _

/-- `hash_data(val, strlen(val))` gets the bytes in front of the first NUL, whether or not there is one: `take` reads back
    what `takeWhile` counted -/
theorem hash_eq {α : Type} (H : List Byte → α) (s : Str) : hash H s = H s.abs := by
  rw [hash, readAt, strlen, cstrAt, List.drop_zero, ← List.prefix_iff_eq_take.mp (List.takeWhile_prefix _)]; rfl

theorem observers_eq {s : Str} (h : s.WF) {a : List Byte} (ha : s.abs = a) :
    (∀ x, NulFree x → cmp s x = lexCmp a x ∧ (eq s x = true ↔ a = x) ∧ (mem s x = true ↔ x <:+: a)) ∧
    (∀ {α : Type} (H : List Byte → α), hash H s = H a) :=
  ha ▸ ⟨fun _ hx => ⟨cmp_eq h hx, eq_iff h hx, mem_iff s _⟩, fun H => hash_eq H s⟩

theorem terminated_of_wf {s : Str} (h : s.WF) : s.buf[len s]? = some 0 ∧ len s < s.cap :=
  ⟨h.holds.terminator, h.holds.lt_length⟩

/-- the executable invariant the driver evaluates is the invariant of the theorems -/
theorem wfb_iff (s : Str) : s.wfb = true ↔ s.WF := by
  simp only [Str.wfb, Bool.and_eq_true, decide_eq_true_eq, beq_iff_eq]
  exact ⟨fun h => List.mem_of_getElem? h.2, fun h => ⟨(terminated_of_wf h).2, (terminated_of_wf h).1⟩⟩

theorem run_cons (P : Params) (J : Nat → Byte) (s : Str) (op : Op) (ops : List Op) :
    run P J s (op :: ops) = ((run P J (step P J s op).st ops).1, step P J s op :: (run P J (step P J s op).st ops).2) := rfl

theorem run_length (P : Params) (J : Nat → Byte) : ∀ (ops : List Op) (s : Str), (run P J s ops).2.length = ops.length
  | [], _ => rfl
  | op :: ops, s => congrArg (· + 1) (run_length P J ops (step P J s op).st)

theorem run_ok {P : Params} (hP : P.Lawful) (J : Nat → Byte) : ∀ (ops : List Op) (s : Str) (a : List Byte), Holds s.buf a →
    (∀ op ∈ ops, op.NulFree) →
    Holds (run P J s ops).1.buf (Spec.run a ops) ∧ ∀ r ∈ (run P J s ops).2, r.safe = true ∧ r.st.WF
  | [], _, _, h, _ => ⟨h, fun _ hr => absurd hr List.not_mem_nil⟩
  | op :: ops, s, a, h, hops => by
    obtain ⟨hop, hops⟩ := List.forall_mem_cons.mp hops
    obtain rfl := h.abs
    have h1 := step_ok hP J s op h.wf hop
    have ih := run_ok hP J ops (step P J s op).st _ h1.holds hops
    exact ⟨ih.1, List.forall_mem_cons.mpr ⟨⟨h1.safe, h1.wf⟩, ih.2⟩⟩

theorem run_not_ub (P : Params) (J : Nat → Byte) : ∀ (ops : List Op) (s : Str), ∀ r ∈ (run P J s ops).2, r.out.isUB = false
  | [], _ => by simp [run]
  | op :: ops, s => List.forall_mem_cons.mpr ⟨step_not_ub P J s op, run_not_ub P J ops _⟩

end Cello.Str
