/-
  The machine `runWith dec` of Cello/Exn.lean refines the reference `evalM m` wherever the filter walk `dec` decides by
  the match relation `m` at the filters the REFERENCE run arrives at (`DecidesAlong`): one induction for any `dec` and `m`
  (`runWith_refines_along`), whose instances are the walks of CelloProofs/Lemmas/ExnWalk.lean. `Agrees` is its conclusion;
  the eliminators hand back the equation of the run, which selects the step equation of CelloProofs/Lemmas/ExnSteps.lean.
  At the end: `run`, `eval` are `runW idWorld`, `evalW idWorld`, where no program clashes.
-/
import Cello.Exn
import CelloProofs.Lemmas.ExnSteps
import CelloProofs.Lemmas.ExnWalk

namespace Cello.Exn

/-- What the machine must do from state `s`, given the reference outcome `ref` of the same program. An exception leaves
    through the innermost enclosing buffer, `jump (s.depth - 1)`, or at depth 0 ends the program, with the object
    recorded; `active` is left open there: `exception_try_fail` of the block that receives the jump sets it. -/
def Agrees (s : St) (r : St × List Ev × Sig) (ref : List Ev × Option Nat) : Prop :=
  match ref with
  | (t0, none) => r.2.1 = t0 ∧ r.2.2 = .normal ∧ r.1.depth = s.depth ∧ r.1.active = false
  | (t0, some e) => r.2.1 = t0 ∧ r.1.obj = e ∧ r.1.depth = s.depth ∧
      r.2.2 = (if s.depth ≥ 1 then .jump (s.depth - 1) else .fatal)

section
variable {s s1 : St} {r : St × List Ev × Sig} {ref : List Ev × Option Nat} {e : Nat}

theorem Agrees.of_none (h : Agrees s r ref) (hn : ref.2 = none) :
    ∃ s', r = (s', ref.1, .normal) ∧ s'.depth = s.depth ∧ s'.active = false := by
  obtain ⟨s', t', g⟩ := r
  obtain ⟨t, o⟩ := ref
  obtain rfl : o = none := hn
  obtain ⟨rfl, rfl, hd, ha⟩ := h
  exact ⟨s', rfl, hd, ha⟩

theorem Agrees.of_some (h : Agrees s r ref) (hn : ref.2 = some e) :
    ∃ s', r = (s', ref.1, if s.depth ≥ 1 then .jump (s.depth - 1) else .fatal) ∧ s'.obj = e ∧ s'.depth = s.depth := by
  obtain ⟨s', t', g⟩ := r
  obtain ⟨t, o⟩ := ref
  obtain rfl : o = some e := hn
  obtain ⟨rfl, ho, hd, rfl⟩ := h
  exact ⟨s', rfl, ho, hd⟩

theorem Agrees.trace (h : Agrees s r ref) : r.2.1 = ref.1 := by
  obtain ⟨t, _ | e⟩ := ref <;> exact h.1

theorem Agrees.depth (h : Agrees s r ref) : r.1.depth = s.depth := by
  obtain ⟨t, _ | e⟩ := ref <;> exact h.2.2.1

theorem Agrees.sig (h : Agrees s r ref) :
    r.2.2 = if ref.2 = none then .normal else if s.depth ≥ 1 then .jump (s.depth - 1) else .fatal := by
  obtain ⟨t, _ | e⟩ := ref
  · exact h.2.1
  · exact h.2.2.2

theorem Agrees.prepend (h : Agrees s1 r ref) (hd : s1.depth = s.depth) (t : List Ev) :
    Agrees s (r.1, t ++ r.2.1, r.2.2) (t ++ ref.1, ref.2) := by
  obtain ⟨t', _ | e⟩ := ref
  · exact ⟨congrArg _ h.1, h.2.1, hd ▸ h.2.2.1, h.2.2.2⟩
  · exact ⟨congrArg _ h.1, h.2.1, hd ▸ h.2.2.1, hd ▸ h.2.2.2⟩

end

section
variable {dec : List Nat → Nat → Walk} {c : Bool} {m : Nat} {b : Prog} (f : List Nat) (h : Prog) {x : Nat} {s : St}
  {ref : List Ev × Option Nat} (hd : s.depth ≠ m)
  (hb : Agrees { s with depth := s.depth + 1, active := false }
    (runWith dec c m b x { s with depth := s.depth + 1, active := false }) ref)
include hd hb

/-- a body that completes leaves nothing pending, so `exception_catch` returns NULL before it looks at the filter: nothing
    is assumed of `f`, `h`, `c` or `s.active` (`exception_try` clears it) — what `C07_handled_not_refired` states -/
theorem runWith_try_of_body_completes (hn : ref.2 = none) :
    ∃ o, runWith dec c m (.tryCatch b f h) x s = (⟨s.depth, false, o⟩, ref.1, .normal) := by
  obtain ⟨s2, hr, hd2, ha2⟩ := hb.of_none hn
  exact ⟨s2.obj, by rw [runWith_try_normal hd hr, catchPhase_inactive s2 hd2 ha2, ← ha2]⟩

/-- … and a body that raises `e` jumps to exactly this block's buffer: `exception_try_fail`, then the catch phase one
    level in with `e` pending (its outcomes: `catchPhase_match` … `catchPhase_raises`) -/
theorem runWith_try_of_body_raises {e : Nat} (he : ref.2 = some e) :
    runWith dec c m (.tryCatch b f h) x s = catchPhase dec c (runWith dec c m h) f ⟨s.depth + 1, true, e⟩ ref.1 := by
  -- from depth `s.depth + 1` the escape that `Agrees` names is `.jump s.depth`, the jump to this block's buffer
  obtain ⟨s2, hr, rfl, (hd2 : _ = s.depth + 1)⟩ := hb.of_some he
  rw [runWith_try_landed hd hr, ← hd2]

end

/-- the filter walk `dec` decides by `m` at every filter the reference run of `p` (bound variable `x`) arrives at -/
def DecidesAlong (dec : List Nat → Nat → Walk) (m : List Nat → Nat → Bool) : Prog → Nat → Prop
  | .seq p q, x => DecidesAlong dec m p x ∧ ((evalM m p x).2 = none → DecidesAlong dec m q x)
  | .call p, x => DecidesAlong dec m p x
  | .tryCatch b f h, x =>
    DecidesAlong dec m b x ∧
      ∀ e, (evalM m b x).2 = some e →
        (dec f e = if m f e then .matched else .exhausted) ∧ (m f e = true → DecidesAlong dec m h e)
  | _, _ => True

/-- The induction hypothesis for the first part of a construct, read at that part's reference outcome, says how the
    machine's run of it ended, which selects the equation of `runWith`. -/
theorem runWith_refines_along (dec : List Nat → Nat → Walk) (m : List Nat → Nat → Bool) (maxDepth : Nat) (p : Prog)
    (x : Nat) :
    ∀ (s : St), s.active = false → s.depth + nest p ≤ maxDepth →
      x ≠ 0 → inDomain p = true → DecidesAlong dec m p x →
      Agrees s (runWith dec true maxDepth p x s) (evalM m p x) := by
  induction p generalizing x with
  | stmt t => intro s h _ _ _ _; exact ⟨rfl, rfl, rfl, h⟩
  | throw | rethrow => intro s h _ _ _ _; rw [runWith, throwObj_eq]; exact ⟨rfl, rfl, rfl, rfl⟩
  | throwBad e => intro s _ _ _ hd _; cases hd
  | call p ih => exact ih x
  | seq p q ihp ihq =>
    intro s h hn hx hd hf
    have hp := ihp x s h (fits_seq hn).1 hx (inDomain_seq hd).1 hf.1
    rw [evalM]
    rcases hev : evalM m p x with ⟨t1, _ | e⟩ <;> rw [hev] at hp
    · obtain ⟨s1, hr, hd1, ha1⟩ := hp.of_none rfl
      rw [runWith_seq_normal hr]
      exact (ihq x s1 ha1 (hd1 ▸ (fits_seq hn).2) hx (inDomain_seq hd).2 (hf.2 (by rw [hev]))).prepend hd1 t1
    · obtain ⟨s1, hr, ho, hd1⟩ := hp.of_some rfl
      rw [runWith_seq_stop hr (escape_ne_normal _)]
      exact ⟨rfl, ho, hd1, rfl⟩
  | tryCatch b f h ihb ihh =>
    intro s _ hn hx hd hf
    obtain ⟨hdb, -, hdh⟩ := inDomain_try hd
    obtain ⟨hlt, hnb, hnh⟩ := fits_try hn
    have hb := ihb x { s with depth := s.depth + 1, active := false } rfl hnb hx hdb hf.1
    rw [evalM]
    rcases hev : evalM m b x with ⟨t, _ | e⟩ <;> rw [hev] at hb
    · obtain ⟨o, hr⟩ := runWith_try_of_body_completes f h hlt hb rfl
      rw [hr]
      exact ⟨rfl, rfl, rfl, rfl⟩
    · obtain ⟨hdec, hhd⟩ := hf.2 e (by rw [hev])
      have he0 : e ≠ 0 := evalM_exc_ne_zero m b x e hx hdb (by rw [hev])
      rw [runWith_try_of_body_raises f h hlt hb rfl]
      by_cases hm : m f e = true
      · rw [catchPhase_match he0 (hdec.trans (if_pos hm))]
        simp only [hm, if_true]
        exact (ihh e ⟨s.depth, false, e⟩ rfl hnh he0 hdh (hhd hm)).prepend rfl (t ++ [Ev.handler e])
      · rw [catchPhase_nomatch (hdec.trans (if_neg hm))]
        simp only [hm]
        exact ⟨rfl, rfl, rfl, rfl⟩

theorem nodupFilters_decidesAlong (p : Prog) :
    ∀ x, x ≠ 0 → inDomain p = true → nodupFilters p = true → DecidesAlong catchDecisionOld fmatch p x := by
  induction p with
  | seq p q ihp ihq =>
    intro x hx hd hf
    simp only [nodupFilters, Bool.and_eq_true] at hf
    exact ⟨ihp x hx (inDomain_seq hd).1 hf.1, fun _ => ihq x hx (inDomain_seq hd).2 hf.2⟩
  | call p ih => exact ih
  | tryCatch b f h ihb ihh =>
    intro x hx hd hf
    obtain ⟨hdb, -, hdh⟩ := inDomain_try hd
    simp only [nodupFilters, Bool.and_eq_true, decide_eq_true_eq] at hf
    refine ⟨ihb x hx hdb hf.1.1, fun e he => ?_⟩
    have he0 := evalM_exc_ne_zero fmatch b x e hx hdb he
    exact ⟨catchDecisionOld_nodup f e he0 hf.1.2, fun _ => ihh e he0 hdh hf.2⟩
  | _ => intros; trivial

theorem noClash_decidesAlong (w : World) (p : Prog) :
    ∀ x, x ≠ 0 → inDomain p = true → noClash w p x = true →
      DecidesAlong (catchDecisionW w) (fmatchW w) p x := by
  induction p with
  | seq p q ihp ihq =>
    intro x hx hd hn
    simp only [noClash, Bool.and_eq_true, evalW] at hn
    exact ⟨ihp x hx (inDomain_seq hd).1 hn.1, fun hnone => ihq x hx (inDomain_seq hd).2 (by simpa only [hnone] using hn.2)⟩
  | call p ih => exact ih
  | tryCatch b f h ihb ihh =>
    intro x hx hd hn
    obtain ⟨hdb, h0, hdh⟩ := inDomain_try hd
    simp only [noClash, Bool.and_eq_true, evalW] at hn
    refine ⟨ihb x hx hdb hn.1, fun e he => ?_⟩
    have he0 := evalM_exc_ne_zero (fmatchW w) b x e hx hdb he
    have h2 := hn.2
    simp only [he, Bool.and_eq_true, Bool.not_eq_true', Bool.or_eq_true] at h2
    refine ⟨(catchDecisionW_spec w f e he0 h0).1 h2.1, fun hm => ihh e he0 hdh ?_⟩
    exact h2.2.resolve_left (by simp [hm])
  | _ => intros; trivial

theorem run_eq_runW_idWorld : run = runW idWorld := by
  funext c m
  simp [run, runW, catchDecision_eq_catchDecisionW]

theorem evalW_idWorld (p : Prog) (x : Nat) : evalW idWorld p x = eval p x := by
  rw [evalW, fmatchW_idWorld, evalM_fmatch]

theorem noClash_idWorld (p : Prog) : ∀ x, noClash idWorld p x = true := by
  induction p with
  | stmt t => intro x; rfl
  | throw e => intro x; rfl
  | throwBad e => intro x; rfl
  | rethrow => intro x; rfl
  | call p ih => intro x; simpa [noClash] using ih x
  | seq p q ihp ihq =>
    intro x
    simp only [noClash, ihp x, Bool.true_and]
    split <;> simp [ihq x]
  | tryCatch b f h ihb ihh =>
    intro x
    simp only [noClash, ihb x, Bool.true_and]
    split
    · rfl
    · simp [clash_idWorld, ihh]

end Cello.Exn
