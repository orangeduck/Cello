/-
  C20, the text side.  What scan_from_with's integer branch delivers for what printf wrote, for ANY description of the branch (the arms
  of CelloGen.FileScan) whose arms (i) are selected for the specifications of the width they store (`armsSelect`) and (ii) turn the
  stored object into C's conversion of the value (`ArmConverts`, decided by the interval evaluator `armOK`).  Then a call of scan_from
  on a File over the reference stdio (`At`): what `scanCall` says of the bytes after the position.  libc's two conversions are the
  models of Cello/Text.lean, the facts about them come from Lemmas/TextInt.lean.
-/
import Cello.FileText
import CelloProofs.Lemmas.TextInt
import CelloProofs.Lemmas.FileRef

namespace Cello.FileText

open Cello.Text (IMod IConv sext zext convInt inInt64 pattOf printIntSpec ispecSafe ispecFmt)
open CelloGen.FileScan (CTy WExpr Arm)

/-- what becomes of the value `t` of the object scanf stored into: the arm's expression assigned to `tmp`, then `$I(tmp)`
    (`finishInt` of the model with the stored value as an argument, so that `ArmConverts` can range over the values of `conv`) -/
def finishFrom (S : Src) (arm : Arm) (sgn : Bool) (t : Int) : Int :=
  sext 64 (conv S.tmpTy (if arm.direct then t else evalW arm.obj sgn t arm.fin))

theorem finishInt_eq (S : Src) (arm : Arm) (w : Nat) (sgn : Bool) (p : Nat) :
    finishInt S arm w sgn p = finishFrom S arm sgn (stored arm.obj w p) := rfl

/-- **an arm converts**: whatever `w = arm.obj.bits`-bit pattern `q` libc stored into the object, the `Int` that results is that
    pattern read as a signed number for `d` / `i` (`sgn`), as an unsigned number otherwise — except that a 64-bit pattern is
    always delivered as the `int64_t` with those bits (an `Int` has no unsigned reading).  This is what "the value read is C's
    conversion to the type the specification names" asks of the arm. -/
def ArmConverts (S : Src) (arm : Arm) : Prop :=
  ∀ (sgn : Bool) (q : Nat), q < 2 ^ arm.obj.bits →
    finishFrom S arm sgn (conv arm.obj (q : Int)) = if sgn || arm.obj.bits == 64 then sext arm.obj.bits (q : Int) else (q : Int)

/-! ### a verified interval evaluator for the arms' expressions

  Over a range `lo ≤ q < hi` of stored patterns on which the value so far is `q + off`, a conversion to `ty` adds one constant
  (a multiple of `2^bits`) exactly when both ends of the range land in the type's range with the same constant; `castPiece`
  computes it with the executable `conv`, and the soundness lemma holds for every `q` of the range.  `armOK` runs the whole
  path object → expression → `tmp` → `$I` on the two halves of the pattern space and compares with what C's conversion of the
  value to the specification's type requires; it is a `Bool`, decided on the arms read from the source. -/

def inRange (ty : CTy) (r : Int) : Bool :=
  if ty.signed then decide (-(2 : Int) ^ (ty.bits - 1) ≤ r) && decide (r < (2 : Int) ^ (ty.bits - 1))
  else decide (0 ≤ r) && decide (r < (2 : Int) ^ ty.bits)

/-- `conv ty v` is THE value of the type congruent to `v` modulo `2^bits` -/
theorem conv_eq_of (ty : CTy) (hb : 1 ≤ ty.bits) (v r : Int) (hr : inRange ty r = true)
    (hm : (r - v) % (2 : Int) ^ ty.bits = 0) : conv ty v = r := by
  have hz : zext ty.bits r = zext ty.bits v := Int.emod_eq_emod_iff_emod_sub_eq_zero.mpr hm
  unfold inRange at hr
  unfold conv
  cases hsg : ty.signed
  · simp only [hsg, Bool.false_eq_true, if_false, Bool.and_eq_true, decide_eq_true_eq] at hr ⊢
    rw [← hz]; exact Int.emod_eq_of_lt hr.1 hr.2
  · simp only [hsg, if_true, Bool.and_eq_true, decide_eq_true_eq] at hr ⊢
    rw [← Text.sext_congr _ _ _ hz]; exact Text.sext_of_range _ hb r hr.1 hr.2

/-- the constant a conversion to `ty` adds on the piece `lo ≤ q < hi` where the value is `q + off` (`none`: not one constant) -/
def castPiece (ty : CTy) (lo hi off : Int) : Option Int :=
  let d := conv ty (lo + off) - (lo + off)
  if decide (1 ≤ ty.bits) && decide (d % (2 : Int) ^ ty.bits = 0) && inRange ty (lo + off + d) && inRange ty (hi - 1 + off + d)
  then some (off + d) else none

theorem inRange_between (ty : CTy) (a b x : Int) (ha : inRange ty a = true) (hb : inRange ty b = true) (h1 : a ≤ x) (h2 : x ≤ b) :
    inRange ty x = true := by
  unfold inRange at *
  generalize ty.signed = sg at *
  cases sg <;> simp only [Bool.false_eq_true, if_false, if_true, Bool.and_eq_true, decide_eq_true_eq] at * <;> omega

theorem castPiece_sound {ty : CTy} {lo hi off off' : Int} (h : castPiece ty lo hi off = some off') (q : Int)
    (hq : lo ≤ q ∧ q < hi) : conv ty (q + off) = q + off' := by
  simp only [castPiece, Option.ite_none_right_eq_some, Option.some.injEq, Bool.and_eq_true, decide_eq_true_eq] at h
  obtain ⟨⟨⟨⟨hb, hd⟩, hlo⟩, hhi⟩, rfl⟩ := h
  generalize conv ty (lo + off) - (lo + off) = d at *
  have hr := inRange_between ty _ _ (q + off + d) hlo hhi (by omega) (by omega)
  rw [conv_eq_of ty hb (q + off) (q + off + d) hr (by rwa [show q + off + d - (q + off) = d by omega])]
  omega

/-- the constant the expression adds on a piece where the temporary holds `q + off0` -/
def absEval (obj : CTy) (sgn : Bool) (lo hi off0 : Int) : WExpr → Option Int
  | .t => some off0
  | .cast ty e => (absEval obj sgn lo hi off0 e).bind (castPiece ty lo hi)
  | .cond a b => (if sgn then absEval obj sgn lo hi off0 a else absEval obj sgn lo hi off0 b).bind
      (castPiece (tyOf obj (.cond a b)) lo hi)

theorem absEval_sound (obj : CTy) (sgn : Bool) (lo hi off0 : Int) (e : WExpr) (off' : Int)
    (h : absEval obj sgn lo hi off0 e = some off') (q : Int) (hq : lo ≤ q ∧ q < hi) :
    evalW obj sgn (q + off0) e = q + off' := by
  induction e generalizing off' with
  | t => simp only [absEval, Option.some.injEq] at h; subst h; rfl
  | cast ty e ih =>
    obtain ⟨c, he, h⟩ := Option.bind_eq_some_iff.mp h
    simp only [evalW, ih c he]
    exact castPiece_sound h q hq
  | cond a b iha ihb =>
    obtain ⟨c, he, h⟩ := Option.bind_eq_some_iff.mp h
    have hv : (if sgn then evalW obj sgn (q + off0) a else evalW obj sgn (q + off0) b) = q + c := by
      cases sgn
      · exact ihb c he
      · exact iha c he
    simp only [evalW, hv]
    exact castPiece_sound h q hq

/-- the whole path on one piece: pattern → object → expression (or the object itself) → `tmp` → `$I`, ending with the constant `expect` -/
def pieceOK (S : Src) (arm : Arm) (sgn : Bool) (lo hi expect : Int) : Bool :=
  match castPiece arm.obj lo hi 0 with
  | none => false
  | some c0 =>
    match (if arm.direct then some c0 else absEval arm.obj sgn lo hi c0 arm.fin) with
    | none => false
    | some c1 =>
      match castPiece S.tmpTy lo hi c1 with
      | none => false
      | some c2 =>
        match castPiece ⟨true, 64⟩ lo hi c2 with
        | none => false
        | some c3 => c3 == expect

theorem pieceOK_sound (S : Src) (arm : Arm) (sgn : Bool) (lo hi expect : Int) (h : pieceOK S arm sgn lo hi expect = true)
    (q : Int) (hq : lo ≤ q ∧ q < hi) : finishFrom S arm sgn (conv arm.obj q) = q + expect := by
  -- each of the four stages adds one constant on the piece: `castPiece_sound`, for the expression `absEval_sound`
  unfold pieceOK at h
  cases h0 : castPiece arm.obj lo hi 0 with
  | none => simp [h0] at h
  | some c0 =>
    simp only [h0] at h
    have e0 : conv arm.obj q = q + c0 := by simpa using castPiece_sound h0 q hq
    cases h1 : (if arm.direct then some c0 else absEval arm.obj sgn lo hi c0 arm.fin) with
    | none => simp [h1] at h
    | some c1 =>
      simp only [h1] at h
      have e1 : (if arm.direct then conv arm.obj q else evalW arm.obj sgn (conv arm.obj q) arm.fin) = q + c1 := by
        cases hd : arm.direct
        · simp only [hd, Bool.false_eq_true, if_false] at h1 ⊢
          rw [e0]; exact absEval_sound _ _ _ _ _ _ _ h1 q hq
        · simp only [hd, if_true, Option.some.injEq] at h1 ⊢
          rw [e0, h1]
      cases h2 : castPiece S.tmpTy lo hi c1 with
      | none => simp [h2] at h
      | some c2 =>
        simp only [h2] at h
        cases h3 : castPiece ⟨true, 64⟩ lo hi c2 with
        | none => simp [h3] at h
        | some c3 =>
          simp only [h3, beq_iff_eq] at h
          subst h
          unfold finishFrom
          rw [e1, castPiece_sound h2 q hq]
          have := castPiece_sound h3 q hq
          simpa [conv] using this

/-- the arm delivers C's conversion, on both halves of the pattern space and for both values of `sgn` -/
def armOK (S : Src) (arm : Arm) : Bool :=
  let w := arm.obj.bits
  decide (1 ≤ w) && [true, false].all fun sgn =>
    pieceOK S arm sgn 0 ((2 : Int) ^ (w - 1)) 0 &&
    pieceOK S arm sgn ((2 : Int) ^ (w - 1)) ((2 : Int) ^ w) (if sgn || w == 64 then -((2 : Int) ^ w) else 0)

theorem armOK_sound (S : Src) (arm : Arm) (h : armOK S arm = true) : ArmConverts S arm := by
  intro sgn q hq
  simp only [armOK, Bool.and_eq_true, decide_eq_true_eq, List.all_cons, List.all_nil, Bool.and_true] at h
  obtain ⟨hw, ⟨ht1, ht2⟩, hf1, hf2⟩ := h
  have hqi : ((q : Nat) : Int) < (2 : Int) ^ arm.obj.bits := by exact_mod_cast hq
  have hq0 : (0 : Int) ≤ (q : Int) := Int.natCast_nonneg q
  have hz : zext arm.obj.bits (q : Int) = q := Int.emod_eq_of_lt hq0 hqi
  by_cases hl : (q : Int) < (2 : Int) ^ (arm.obj.bits - 1)
  · -- lower half: both readings of the pattern are `q`
    have hs : sext arm.obj.bits (q : Int) = q := by unfold sext; rw [hz, if_pos hl]
    have := pieceOK_sound S arm sgn 0 _ 0 (by cases sgn; exact hf1; exact ht1) (q : Int) ⟨hq0, hl⟩
    rw [this, hs, Int.add_zero, ite_self]
  · -- upper half: the signed reading is `q - 2^w`
    have hs : sext arm.obj.bits (q : Int) = q - (2 : Int) ^ arm.obj.bits := by unfold sext; rw [hz, if_neg hl]
    have hl' : (2 : Int) ^ (arm.obj.bits - 1) ≤ (q : Int) := by omega
    cases sgn with
    | true =>
      rw [pieceOK_sound S arm true _ _ _ ht2 (q : Int) ⟨hl', hqi⟩, hs]
      simp only [Bool.true_or, if_true, Int.sub_eq_add_neg]
    | false =>
      rw [pieceOK_sound S arm false _ _ _ hf2 (q : Int) ⟨hl', hqi⟩, hs]
      cases arm.obj.bits == 64
      · simp only [Bool.or_self, Bool.false_eq_true, if_false, Int.add_zero]
      · simp only [Bool.or_true, if_true, Int.sub_eq_add_neg]

/-- the chain of tests sends every one of the 54 specifications to an arm whose object has exactly the width libc stores -/
def armsSelect (S : Src) : Bool :=
  IMod.all.all fun m => IConv.all.all fun cv =>
    (match selectArm S.arms (ispecFmt m cv ++ [37, 110]) with
     | some arm => arm.obj.bits == m.width
     | none => false) && (S.signed.contains cv.byte == cv.signed)

theorem selectArm_mem {arms : List Arm} {buf : List Nat} {arm : Arm} (h : selectArm arms buf = some arm) : arm ∈ arms :=
  List.mem_of_find?_eq_some h

theorem armsSelect_spec (S : Src) (h : armsSelect S = true) (m : IMod) (cv : IConv) :
    (∃ arm, selectArm S.arms (ispecFmt m cv ++ [37, 110]) = some arm ∧ arm.obj.bits = m.width) ∧
      S.signed.contains cv.byte = cv.signed := by
  simp only [armsSelect, List.all_eq_true, Bool.and_eq_true, beq_iff_eq] at h
  have := h m (Text.IMod.mem_all m) cv (Text.IConv.mem_all cv)
  refine ⟨?_, this.2⟩
  have h1 := this.1
  split at h1
  · rename_i arm harm; exact ⟨arm, harm, by simpa using h1⟩
  · exact absurd h1 (by simp)

/-- the low `w` bits of the pattern scanf converts for what printf wrote, read as the specification says, are C's conversion of
    the value to the type the specification names; only the 64-bit unsigned reading needs the value to be an `int64_t` -/
theorem pattOf_low_convInt (m : IMod) (cv : IConv) (n : Int) (hn : m.width = 64 → inInt64 n = true) :
    let w := m.width
    let q := pattOf w cv.signed n % 2 ^ w
    (q < 2 ^ w) ∧ (if cv.signed || w == 64 then sext w (q : Int) else (q : Int)) = convInt m cv n := by
  have hw : m.width ≤ 64 := by have := Text.width_cases m; omega
  refine ⟨Nat.mod_lt _ (Nat.pow_pos (by omega)), ?_⟩
  rw [Text.pattOf_low m.width hw, Text.sext_congr _ _ n (Text.zext_zext _ n), convInt]
  cases cv.signed
  · by_cases h64 : m.width = 64
    · have h := (Text.inInt64_iff n).1 (hn h64)
      simp only [h64, beq_self_eq_true, Bool.or_true, if_true, Bool.false_eq_true, if_false]
      exact Text.sext_of_range 64 (by decide) n h.1 h.2
    · simp [h64]
  · simp only [Bool.true_or, if_true]

/-- **the integer branch reads back C's conversion of the value written**, for every specification, every value (an `int64_t`
    where the specification is a 64-bit one) and every following text that does not continue the number — for any description
    of the branch that selects arms of the right width which convert -/
theorem scanIntSpec_print (S : Src) (hsel : armsSelect S = true) (hconv : ∀ arm ∈ S.arms, ArmConverts S arm)
    (m : IMod) (cv : IConv) (n : Int) (hn : m.width = 64 → inInt64 n = true) (rest : List Nat) (hs : ispecSafe m cv n rest = true) :
    scanIntSpec S m cv (printIntSpec m cv n ++ rest) = .ok (convInt m cv n, rest) := by
  obtain ⟨⟨arm, harm, hb⟩, hsg⟩ := armsSelect_spec S hsel m cv
  obtain ⟨hq, hv⟩ := pattOf_low_convInt m cv n hn
  have hc := hconv arm (selectArm_mem harm) cv.signed (pattOf m.width cv.signed n % 2 ^ m.width) (by rw [hb]; exact hq)
  simp only [scanIntSpec, harm, hb, Nat.lt_irrefl, if_false, Text.scanNumber_print m cv n rest hs, hsg, finishInt_eq, stored]
  rw [hb] at hc
  rw [hc, hv]

theorem charByte_lt (n : Int) : charByte n < 256 := by
  unfold charByte; omega

/-- a call whose reader succeeds raises nothing, stores the reader's value and returns the reader's count plus the LENGTH of the
    literal run, whatever of the run matched (`pos += (int)(fmt - start)`) -/
theorem scanCall_ok (S : Src) (sp : Spec) (sep inp : List Nat) (dflt : TVal) {n calls : Nat} {hit : Bool} {v : TVal}
    (hrd : readSpec S sp inp dflt = ⟨true, n, hit, v, calls, true⟩) :
    ∃ r, scanCall S sp sep inp dflt = some r ∧ r.failed = false ∧ r.val = v ∧ r.ret = n + sep.length ∧ n ≤ r.consumed := by
  unfold scanCall
  simp only [hrd, Bool.not_true, Bool.false_eq_true, if_false]
  by_cases hsep : sep.isEmpty = true
  · simp only [hsep, if_true]
    exact ⟨_, rfl, rfl, rfl, by simp [List.isEmpty_iff.mp hsep], Nat.le_refl _⟩
  · simp only [hsep]
    exact ⟨_, rfl, rfl, rfl, rfl, Nat.le_add_right _ _⟩

open Cello.File (Ref Handle At Regular Mode)

/-- `scan_from(f, 0, "%<spec><sep>", x)` on an open readable File whose stream stands at `p` in a file with bytes `c`: the outcome is
    what `scanCall` says about the bytes after `p`, and the stream has moved by what was consumed -/
theorem fileScanText_at {l : Ref} {h : Handle} {k : Nat} {m : Mode} {p : Nat} {e : Bool} {c : List Cello.File.Byte}
    (a : At l h k m p e c) (hk : Regular k) (hr : m.canRead = true) (S : Src) (sp : Spec) (sep : List Nat) (r : ScanR)
    (hsc : scanCall S sp sep (toNats (c.drop p)) (dfltOf sp) = some r) :
    ∃ res, fileScanText S l (some h) sp sep = some res ∧ res.f = some h ∧
      res.out = (if r.failed then .raised .FormatError else .ok (r.val, r.ret)) ∧
      res.calls = List.replicate r.calls (.on .vfscanf h) ∧
      At res.lib h k m (p + r.consumed) (e || r.hitEnd) c := by
  have hc : l.content k = c := a.content
  obtain ⟨last, hs, hf⟩ := a
  have hkf : (k = Cello.File.fileFull) = False := by simp [hk.2]
  have hfs : fileScanText S l (some h) sp sep = some ⟨l.setStream h ⟨k, m, p + r.consumed, e || r.hitEnd, .rd⟩, some h,
      (if r.failed then .raised .FormatError else .ok (r.val, r.ret)), List.replicate r.calls (.on .vfscanf h)⟩ := by
    simp only [fileScanText, hs, hr, hc, hkf, hsc, Bool.not_true, Bool.false_or, decide_false, Bool.false_eq_true, if_false]
  exact ⟨_, hfs, rfl, rfl, rfl, by simp [At, Ref.setStream, hf]⟩

/-- … and where the specification's reader succeeds on the bytes after `p`, for every specification: nothing is raised, the reader's
    value is stored, every call is a `vfscanf` on the handle the File holds, the stream stands at or beyond the end of what was read -/
theorem fileScanText_ok {l : Ref} {h : Handle} {k : Nat} {m : Mode} {p : Nat} {e : Bool} {c : List Cello.File.Byte}
    (a : At l h k m p e c) (hk : Regular k) (hr : m.canRead = true) (S : Src) (sp : Spec) (sep : List Nat)
    {n calls : Nat} {hit : Bool} {v : TVal}
    (hrd : readSpec S sp (toNats (c.drop p)) (dfltOf sp) = ⟨true, n, hit, v, calls, true⟩) :
    ∃ res, fileScanText S l (some h) sp sep = some res ∧ res.f = some h ∧ res.out = .ok (v, n + sep.length) ∧
      (∀ cl ∈ res.calls, cl = .on .vfscanf h) ∧ ∃ p' e', At res.lib h k m p' e' c ∧ p + n ≤ p' := by
  obtain ⟨r, hr1, hr2, hr3, hr4, hr5⟩ := scanCall_ok S sp sep _ _ hrd
  obtain ⟨res, h1, h2, h3, h4, h5⟩ := fileScanText_at a hk hr S sp sep r hr1
  refine ⟨res, h1, h2, ?_, ?_, _, _, h5, by omega⟩
  · rw [h3, hr2, hr3, hr4]; rfl
  · intro cl hcl; rw [h4] at hcl; exact (List.mem_replicate.mp hcl).2

end Cello.FileText
