/-
  Lemmas for C10, containers and objects. For any element type: the hash folds are invariant under permutation, and a parallel
  comparison that ends in 0 forces equal element hashes. For the values of the model: hash and comparison in terms of the element /
  entry sequence, and `SameContents` (two values show `cmp` and `hash` the same sequence: then they are eq and hash alike).
-/
import Cello.Hash
import CelloProofs.Lemmas.HashVal
import Mathlib.Data.List.Perm.Basic

namespace Cello.Hash
open CelloGen.Hash (Comb)

theorem combine_right_comm (c : Comb) (z x y : UInt64) :
    combine c (combine c z x) y = combine c (combine c z y) x := by
  cases c
  · simp only [combine]; rw [UInt64.xor_assoc, UInt64.xor_comm x y, ← UInt64.xor_assoc]
  · simp only [combine]; rw [UInt64.add_assoc, UInt64.add_comm x y, ← UInt64.add_assoc]

theorem seqHash_eq_foldl_map (c : Comb) (h : α → UInt64) (xs : List α) :
    seqHash c h xs = (xs.map h).foldl (combine c) 0 := by
  simp [seqHash, List.foldl_map]

theorem mapHash_eq_foldl_map (c : Comb) (hk : α → UInt64) (hv : β → UInt64) (es : List (α × β)) :
    mapHash c hk hv es = (es.map fun e => (hk e.1, hv e.2)).foldl (fun h p => combine c (combine c h p.1) p.2) 0 := by
  simp [mapHash, List.foldl_map]

theorem seqHash_perm (c : Comb) (h : α → UInt64) {xs ys : List α} (p : xs.Perm ys) :
    seqHash c h xs = seqHash c h ys := by
  unfold seqHash
  exact p.foldl_eq' (fun x _ y _ z => combine_right_comm c z (h x) (h y)) 0

theorem mapHash_perm (c : Comb) (hk : α → UInt64) (hv : β → UInt64) {xs ys : List (α × β)} (p : xs.Perm ys) :
    mapHash c hk hv xs = mapHash c hk hv ys := by
  unfold mapHash
  refine p.foldl_eq' (fun x _ y _ z => ?_) 0
  rw [combine_right_comm c (combine c z (hk x.1)) (hv x.2) (hk y.1),
      combine_right_comm c z (hk x.1) (hk y.1),
      combine_right_comm c (combine c (combine c z (hk y.1)) (hk x.1)) (hv x.2) (hv y.2),
      combine_right_comm c (combine c z (hk y.1)) (hk x.1) (hv y.2)]

/-- one step of a parallel comparison: it goes on to `rest` only past a pair that compared 0 -/
theorem cmpStep_zero {c : Int} {rest : Option Int}
    (h : (if c < 0 then some (-1) else if c > 0 then some 1 else rest) = some 0) : c = 0 ∧ rest = some 0 := by
  split at h
  · cases h
  · split at h
    · cases h
    · exact ⟨by omega, h⟩

/-- a parallel comparison that ends in 0 has walked two sequences of the same length whose elements compared 0 pairwise -/
theorem seqCmp_zero_map_eq {cmp : α → β → Option Int} {ha : α → UInt64} {hb : β → UInt64} :
    ∀ (xs : List α) (ys : List β), (∀ a ∈ xs, ∀ b ∈ ys, cmp a b = some 0 → ha a = hb b) →
      seqCmp cmp xs ys = some 0 → xs.map ha = ys.map hb
  | [], [], _, _ => rfl
  | [], _ :: _, _, h | _ :: _, [], _, h => by simp [seqCmp] at h
  | x :: xs, y :: ys, hc, h => by
    simp only [seqCmp] at h
    cases hxy : cmp x y with
    | none => simp [hxy] at h
    | some c =>
      obtain ⟨rfl, h⟩ := cmpStep_zero (hxy ▸ h)
      have h2 := seqCmp_zero_map_eq xs ys (fun a ha' b hb' => hc a (by simp [ha']) b (by simp [hb'])) h
      simp [hc x (by simp) y (by simp) hxy, h2]

theorem seqCmp_self {cmp : α → α → Option Int} (hr : ∀ a, cmp a a = some 0) (xs : List α) :
    seqCmp cmp xs xs = some 0 := by
  induction xs with
  | nil => rfl
  | cons x xs ih => simp [seqCmp, hr, ih]

theorem mapCmp_zero_map_eq {ck : α → α → Option Int} {cv : β → β → Option Int} {hk : α → UInt64} {hv : β → UInt64} :
    ∀ (xs ys : List (α × β)),
      (∀ e ∈ xs, ∀ f ∈ ys, ck e.1 f.1 = some 0 → hk e.1 = hk f.1) →
      (∀ e ∈ xs, ∀ f ∈ ys, cv e.2 f.2 = some 0 → hv e.2 = hv f.2) →
      mapCmp ck cv xs ys = some 0 →
      (xs.map fun e => (hk e.1, hv e.2)) = (ys.map fun e => (hk e.1, hv e.2))
  | [], [], _, _, _ => rfl
  | [], _ :: _, _, _, h | _ :: _, [], _, _, h => by simp [mapCmp] at h
  | x :: xs, y :: ys, hck, hcv, h => by
    simp only [mapCmp] at h
    cases hxy : ck x.1 y.1 with
    | none => simp [hxy] at h
    | some c =>
      obtain ⟨rfl, h⟩ := cmpStep_zero (hxy ▸ h)
      cases hv2 : cv x.2 y.2 with
      | none => simp [hv2] at h
      | some d =>
        obtain ⟨rfl, h⟩ := cmpStep_zero (hv2 ▸ h)
        have h3 := mapCmp_zero_map_eq xs ys (fun a ha' b hb' => hck a (by simp [ha']) b (by simp [hb']))
          (fun a ha' b hb' => hcv a (by simp [ha']) b (by simp [hb'])) h
        simp [hck x (by simp) y (by simp) hxy, hcv x (by simp) y (by simp) hv2, h3]

theorem mapCmp_self {ck : α → α → Option Int} {cv : β → β → Option Int}
    (hk : ∀ a, ck a a = some 0) (hv : ∀ a, cv a a = some 0) (xs : List (α × β)) :
    mapCmp ck cv xs xs = some 0 := by
  induction xs with
  | nil => rfl
  | cons x xs ih => simp [mapCmp, hk, hv, ih]

theorem seqHashSrc_xor (hash : α → UInt64) (xs : List α) :
    seqHashSrc ⟨0, 0, .xor (.t .acc) (.t .elem)⟩ hash xs = seqHash .xor hash xs := by
  simp [seqHashSrc, seqHash, evalH, combine]

theorem mapHashSrc_xor (hk : α → UInt64) (hv : β → UInt64) (es : List (α × β)) :
    mapHashSrc ⟨0, 0, .xor (.xor (.t .acc) (.t .key)) (.t .val)⟩ hk hv es = mapHash .xor hk hv es := by
  simp [mapHashSrc, mapHash, evalH, combine]

/-- no NaN anywhere in the value (Tuple items looked up in the store) -/
def Val.nanFree (st : Store) : Val → Prop
  | .sc s => s.isNaN = false
  | .seq _ _ items => ∀ s ∈ items, s.isNaN = false
  | .tuple ids => ∀ s ∈ (ids.mapM st.scalar).getD [], s.isNaN = false
  | .table _ _ t => ∀ e ∈ t.entries, e.1.isNaN = false ∧ e.2.isNaN = false
  | .tree _ _ t => ∀ e ∈ t.toList, e.1.isNaN = false ∧ e.2.isNaN = false

theorem seqItems_nanFree {st : Store} {v : Val} {xs : List Scalar} (hv : v.nanFree st) (hx : seqItems st v = some xs) :
    ∀ s ∈ xs, s.isNaN = false := by
  cases v <;> simp only [seqItems, Option.some.injEq, reduceCtorEq] at hx
  · subst hx; exact hv
  · simp only [Val.nanFree, hx, Option.getD_some] at hv; exact hv

theorem mapEntries_nanFree {st : Store} {v : Val} {es : List (Scalar × Scalar)} (hv : v.nanFree st)
    (hx : mapEntries v = some es) : ∀ e ∈ es, e.1.isNaN = false ∧ e.2.isNaN = false := by
  cases v <;> simp only [mapEntries, Option.some.injEq, reduceCtorEq] at hx
  · subst hx; exact hv
  · subst hx; exact hv

/-- the container hashes of the source all combine with xor (`valHash_seq`, `valHash_map` below see it by `rfl`) -/
theorem seqCombs_xor : ∀ c ∈ [CelloGen.Hash.arrayComb, CelloGen.Hash.listComb, CelloGen.Hash.tupleComb], c = .xor := by decide
theorem mapCombs_xor : ∀ c ∈ [CelloGen.Hash.tableComb, CelloGen.Hash.treeComb], c = .xor := by decide

theorem valHash_seq {addr : Nat → Bytes} {st : Store} {v : Val} {xs : List Scalar} (h : seqItems st v = some xs) :
    valHash addr st v = seqHash .xor (scalarHash addr) xs := by
  cases v with
  | seq k _ _ => cases h; cases k <;> rfl
  | tuple ids => simp only [seqItems] at h; simp only [valHash, h]; rfl
  | _ => cases h

theorem valHash_map {addr : Nat → Bytes} {st : Store} {v : Val} {es : List (Scalar × Scalar)} (h : mapEntries v = some es) :
    valHash addr st v = mapHash .xor (scalarHash addr) (scalarHash addr) es := by
  cases v <;> simp only [mapEntries, reduceCtorEq, Option.some.injEq] at h <;> subst h <;> rfl

theorem valCmp_seq {addr : Nat → Bytes} {st : Store} {a b : Val} {xs ys : List Scalar}
    (ha : seqItems st a = some xs) (hb : seqItems st b = some ys) :
    valCmp addr st a b = seqCmp (scalarCmp addr) xs ys := by
  cases a <;> cases b <;> simp_all [valCmp, seqItems]

theorem valCmp_map {addr : Nat → Bytes} {st : Store} {a b : Val} {xs ys : List (Scalar × Scalar)}
    (ha : mapEntries a = some xs) (hb : mapEntries b = some ys) :
    valCmp addr st a b = mapCmp (scalarCmp addr) (scalarCmp addr) xs ys := by
  cases a <;> cases b <;> simp_all [valCmp, mapEntries, seqItems]

theorem valCmp_operands {addr : Nat → Bytes} {st : Store} {a b : Val} {c : Int} (h : valCmp addr st a b = some c) :
    (∃ x y, a = .sc x ∧ b = .sc y) ∨ (∃ xs ys, seqItems st a = some xs ∧ seqItems st b = some ys) ∨
    (∃ xs es, seqItems st a = some xs ∧ mapEntries b = some es) ∨ (∃ xs ys, mapEntries a = some xs ∧ mapEntries b = some ys) := by
  unfold valCmp at h
  split at h
  · exact .inl ⟨_, _, rfl, rfl⟩
  · split at h
    · exact .inr (.inl ⟨_, _, ‹_›, ‹_›⟩)
    · split at h
      · exact .inr (.inr (.inl ⟨_, _, ‹_›, ‹_›⟩))
      · cases h
    · split at h
      · exact .inr (.inr (.inr ⟨_, _, ‹_›, ‹_›⟩))
      · cases h

/-- `cmp` and `hash` see the same thing in both values: the same scalar, element sequence or entry sequence. Such values are eq
    (every scalar compares 0 with itself) and hash alike (the hash is a function of the sequence): this is how the value `assign`
    stores compares equal to its source. -/
inductive SameContents (st : Store) : Val → Val → Prop
  | sc (s : Scalar) : SameContents st (.sc s) (.sc s)
  | seq {a b : Val} {xs : List Scalar} : seqItems st a = some xs → seqItems st b = some xs → SameContents st a b
  | map {a b : Val} {es : List (Scalar × Scalar)} : mapEntries a = some es → mapEntries b = some es → SameContents st a b

theorem SameContents.refl {st : Store} {v : Val} (hwf : ∀ ids, v = .tuple ids → ∃ xs, ids.mapM st.scalar = some xs) :
    SameContents st v v := by
  cases v with
  | sc s => exact .sc s
  | seq k ety items => exact .seq rfl rfl
  | tuple ids => obtain ⟨xs, hm⟩ := hwf ids rfl; exact .seq hm hm
  | table kt vt t => exact .map rfl rfl
  | tree kt vt t => exact .map rfl rfl

theorem SameContents.eq_hash {st : Store} {a b : Val} (h : SameContents st a b) (addr : Nat → Bytes) :
    valCmp addr st a b = some 0 ∧ valHash addr st a = valHash addr st b := by
  cases h with
  | sc s => exact ⟨by simp [valCmp, scalarCmp_self], rfl⟩
  | seq ha hb => exact ⟨by rw [valCmp_seq ha hb]; exact seqCmp_self (scalarCmp_self addr) _, by rw [valHash_seq ha, valHash_seq hb]⟩
  | map ha hb =>
    exact ⟨by rw [valCmp_map ha hb]; exact mapCmp_self (scalarCmp_self addr) (scalarCmp_self addr) _, by rw [valHash_map ha, valHash_map hb]⟩

theorem assign_scalar_stores (addr : Nat → Bytes) (st : Store) (cls : Cls) (a b : Scalar) (v : Val)
    (hty : a.ty = b.ty) (h : assignVal addr st cls (.sc a) (.sc b) = .ok v) : v = .sc b := by
  cases SameTy.of_ty hty <;> simp only [assignVal] at h
  · cases h; rfl
  · cases h; rfl
  · split at h
    · cases h
    · cases h; rfl
  · cases h
  · cases h; rfl
  · cases h; rfl

theorem Store.get_lt {st : Store} {a : Nat} {o : Obj} (h : st.get a = some o) : a < st.size := by
  unfold Store.get at h
  by_cases hlt : a < st.size
  · exact hlt
  · simp [Array.getD, hlt] at h

theorem Store.get_set_same (st : Store) (a : Nat) (o : Obj) (h : a < st.size) :
    Store.get (st.setIfInBounds a (some o)) a = some o := by
  simp [Store.get, Array.getD, h]

theorem Store.get_set_other (st : Store) (a c : Nat) (o : Obj) (h : c ≠ a) :
    Store.get (st.setIfInBounds a (some o)) c = Store.get st c := by
  simp [Store.get, Array.getD_eq_getD_getElem?, Ne.symm h]

theorem mapM_scalar_congr {st st' : Store} (ids : List Nat) (h : ∀ c ∈ ids, st'.get c = st.get c) :
    ids.mapM st'.scalar = ids.mapM st.scalar := by
  have hs : ∀ c ∈ ids, st'.scalar c = st.scalar c := fun c hc => by simp only [Store.scalar, h c hc]
  clear h
  induction ids with
  | nil => rfl
  | cons i is ih =>
    simp only [List.mapM_cons, hs i (by simp)]
    rw [ih (fun c hc => hs c (by simp [hc]))]

theorem valHash_congr (addr : Nat → Bytes) {st st' : Store} (v : Val)
    (h : ∀ ids, v = .tuple ids → ∀ c ∈ ids, st'.get c = st.get c) : valHash addr st' v = valHash addr st v := by
  cases v with
  | tuple ids => simp only [valHash, mapM_scalar_congr ids (h ids rfl)]
  | sc _ => simp [valHash]
  | seq k _ _ => cases k <;> simp [valHash]
  | table _ _ _ => simp [valHash]
  | tree _ _ _ => simp [valHash]

end Cello.Hash
