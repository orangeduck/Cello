/-
  List surgery as the abstract list operations; the abstract index rules against `normIdx` / `pushIdx` and the bounds tests; the
  iterator protocol driven along a sequence (the iterator a position, or an element found again by identity).  Core Lean only.
-/
import Cello.Seq

namespace Cello.Seq
variable {α : Type}

theorem take_cons_drop_eq_insertIdx (l : List α) (k : Nat) (x : α) (h : k ≤ l.length) :
    l.take k ++ x :: l.drop k = l.insertIdx k x := by
  induction l generalizing k with
  | nil => cases k <;> simp_all
  | cons y ys ih =>
    cases k with
    | zero => simp
    | succ k => simp at h; simp [ih k h]

/-- for a predicate, because `Tuple_Rem` tests `eq(x, item)`; `Array_Rem` and `List_Rem` test `eq(item, x)`, the instance `findIdx?_erase` -/
theorem findIdx?_eraseP (p : α → Bool) (l : List α) (i : Nat) (h : l.findIdx? p = some i) :
    i < l.length ∧ l.eraseIdx i = l.eraseP p :=
  ⟨(List.findIdx?_eq_some_iff_getElem.1 h).1, by rw [List.eraseP_eq_eraseIdx, h]⟩

theorem findIdx?_erase [BEq α] (l : List α) (x : α) (i : Nat) (h : l.findIdx? (· == x) = some i) :
    i < l.length ∧ l.eraseIdx i = l.erase x :=
  List.erase_eq_eraseP' x l ▸ findIdx?_eraseP _ l i h

theorem findIdx?_none_any (p : α → Bool) (l : List α) : l.findIdx? p = none ↔ l.any p = false := by
  simp [List.findIdx?_eq_none_iff]

theorem findIdx?_some_any (p : α → Bool) (l : List α) (i : Nat) (h : l.findIdx? p = some i) : l.any p = true := by
  rw [← List.findIdx?_isSome, h]; rfl

theorem eraseP_first (p : α → Bool) (pre post : List α) (y : α) (hpre : ∀ z ∈ pre, p z = false) (hy : p y = true) :
    (pre ++ y :: post).any p = true ∧ (pre ++ y :: post).eraseP p = pre ++ post :=
  ⟨by simp [hy], by rw [List.eraseP_append_right _ (fun z hz => by simp [hpre z hz]), List.eraseP_cons_of_pos hy]⟩

theorem walk_eq (l : List α) (k : Nat) : walk l k = l[k]? := by
  induction l generalizing k with
  | nil => simp [walk]
  | cons y ys ih => cases k <;> simp [walk, ih]

theorem Op.iterAssign_true {op : Op α} (h : op.iterAssign = true) : ∃ ys, op = .assign ys false := by
  cases op with
  | assign ys b => cases b with
    | false => exact ⟨ys, rfl⟩
    | true => cases h
  | _ => cases h

/-- `Spec.idx` in the shape every indexed C function but `Array_Push_At` has: normalise, refuse, else the position -/
theorem idx_eq (n : Nat) (i : Int) :
    Spec.idx n i = if normIdx n i < 0 ∨ normIdx n i ≥ (n : Int) then none else some (normIdx n i).toNat := by
  symm; unfold Spec.idx normIdx
  by_cases hi : i < 0
  · rw [if_pos hi, if_neg (fun h : 0 ≤ i ∧ _ => by omega)]
    by_cases hr : -(n : Int) ≤ i
    · rw [if_neg (by omega), if_pos ⟨hi, hr⟩]
    · rw [if_pos (by omega), if_neg (fun h : _ ∧ _ => hr h.2)]
  · rw [if_neg hi]
    by_cases hr : i < (n : Int)
    · rw [if_neg (by omega), if_pos ⟨by omega, hr⟩]
    · rw [if_pos (by omega), if_neg (fun h : _ ∧ _ => hr h.2), if_neg (fun h : _ ∧ _ => hi h.1)]

/-- `Spec.arrInsIdx` in the shape of `Array_Push_At` -/
theorem arrInsIdx_eq (n : Nat) (i : Int) :
    Spec.arrInsIdx n i = if pushIdx n i < 0 ∨ pushIdx n i > (n : Int) then none else some (pushIdx n i).toNat := by
  symm; unfold Spec.arrInsIdx pushIdx
  by_cases hi : i < 0
  · rw [if_pos hi, if_neg (fun h : 0 ≤ i ∧ _ => by omega)]
    by_cases hr : -((n : Int) + 1) ≤ i
    · rw [if_neg (by omega), if_pos ⟨hi, hr⟩]
    · rw [if_pos (by omega), if_neg (fun h : _ ∧ _ => hr h.2)]
  · rw [if_neg hi]
    by_cases hr : i ≤ (n : Int)
    · rw [if_neg (by omega), if_pos ⟨by omega, hr⟩]
    · rw [if_pos (by omega), if_neg (fun h : _ ∧ _ => hr h.2), if_neg (fun h : _ ∧ _ => hi h.1)]

/- The same two shapes as functions: what the rules extracted from the source evaluate to (`Lemmas/SeqSrc.lean`: `applyRule_std`,
   `applyRule_arrayPushAt`; C05 reads them the same way in `Lemmas/OwnSeqMoves.lean`, which is why they stand in this file). -/
namespace Src

def stdPick (n : Nat) (i : Int) : Option Nat := if normIdx n i < 0 ∨ normIdx n i ≥ (n : Int) then none else some (normIdx n i).toNat
def insPick (n : Nat) (i : Int) : Option Nat := if pushIdx n i < 0 ∨ pushIdx n i > (n : Int) then none else some (pushIdx n i).toNat

theorem stdPick_spec (n : Nat) (i : Int) : stdPick n i = Spec.idx n i := (idx_eq n i).symm

theorem insPick_spec (n : Nat) (i : Int) : insPick n i = Spec.arrInsIdx n i := (arrInsIdx_eq n i).symm

end Src

theorem idx_elim {β : Type} (n : Nat) (i : Int) (e : β) (f : Nat → β) :
    (Spec.idx n i).elim e f = if normIdx n i < 0 ∨ normIdx n i ≥ (n : Int) then e else f (normIdx n i).toNat := by
  rw [idx_eq]; split <;> rfl

theorem arrInsIdx_elim {β : Type} (n : Nat) (i : Int) (e : β) (f : Nat → β) :
    (Spec.arrInsIdx n i).elim e f = if pushIdx n i < 0 ∨ pushIdx n i > (n : Int) then e else f (pushIdx n i).toNat := by
  rw [arrInsIdx_eq]; split <;> rfl

theorem idx_natCast {n k : Nat} (h : k < n) : Spec.idx n (k : Int) = some k := by
  unfold Spec.idx; rw [if_pos ⟨Int.natCast_nonneg k, Int.ofNat_lt.2 h⟩, Int.toNat_natCast]

theorem toNat_normIdx_lt {n : Nat} {i : Int} (h : ¬ (normIdx n i < 0 ∨ normIdx n i ≥ (n : Int))) : (normIdx n i).toNat < n := by
  omega

theorem toNat_pushIdx_le {n : Nat} {i : Int} (h : ¬ (pushIdx n i < 0 ∨ pushIdx n i > (n : Int))) : (pushIdx n i).toNat ≤ n := by
  omega

theorem toNat_normIdx_beq {n : Nat} {i k : Int} (hi : ¬ (normIdx n i < 0 ∨ normIdx n i ≥ (n : Int)))
    (hk : ¬ (normIdx n k < 0 ∨ normIdx n k ≥ (n : Int))) :
    ((normIdx n i).toNat == (normIdx n k).toNat) = sameIdx n i k := by
  unfold sameIdx
  rw [Bool.eq_iff_iff, beq_iff_eq, beq_iff_eq]; omega

theorem idx_some (n : Nat) (i : Int) (k : Nat) (h : Spec.idx n i = some k) :
    ¬ (normIdx n i < 0 ∨ normIdx n i ≥ (n : Int)) ∧ (normIdx n i).toNat = k ∧ k < n := by
  rw [idx_eq] at h
  split at h
  · cases h
  · cases h; exact ⟨‹_›, rfl, toNat_normIdx_lt ‹_›⟩

theorem idx_lt {n : Nat} {i : Int} {k : Nat} (h : Spec.idx n i = some k) : k < n := (idx_some n i k h).2.2

theorem idx_none (n : Nat) (i : Int) (h : Spec.idx n i = none) :
    normIdx n i < 0 ∨ normIdx n i ≥ (n : Int) := by
  rw [idx_eq] at h
  split at h
  · assumption
  · cases h

theorem arrInsIdx_some (n : Nat) (i : Int) (k : Nat) (h : Spec.arrInsIdx n i = some k) :
    ¬ (pushIdx n i < 0 ∨ pushIdx n i > (n : Int)) ∧ (pushIdx n i).toNat = k ∧ k ≤ n := by
  rw [arrInsIdx_eq] at h
  split at h
  · cases h
  · cases h; exact ⟨‹_›, rfl, toNat_pushIdx_le ‹_›⟩

theorem arrInsIdx_none (n : Nat) (i : Int) (h : Spec.arrInsIdx n i = none) :
    pushIdx n i < 0 ∨ pushIdx n i > (n : Int) := by
  rw [arrInsIdx_eq] at h
  split at h
  · assumption
  · cases h

/-- the shape of `Array_Get` / `Tuple_Get` on the left: a read in range finds its element (the `.ub` branch is dead), a read
    out of range raises -/
theorem get_spec (l : List α) (i : Int) :
    (if normIdx l.length i < 0 ∨ normIdx l.length i ≥ (l.length : Int) then Res.raised .indexOutOfBounds
      else match l[(normIdx l.length i).toNat]? with
        | some x => .ok x
        | none => .ub) =
    match Spec.get l i with
      | some x => .ok x
      | none => .raised .indexOutOfBounds := by
  unfold Spec.get
  cases hk : Spec.idx l.length i with
  | none => rw [if_pos (idx_none _ _ hk)]; rfl
  | some k =>
    obtain ⟨hc, rfl, hlt⟩ := idx_some _ _ _ hk
    rw [if_neg hc]; simp only [Option.bind_some, List.getElem?_eq_getElem hlt]

theorem collect_none {σ : Type} (next : σ → Option σ) (read : σ → Option α) (fuel : Nat) :
    collect next read fuel none = some [] := by cases fuel <;> rfl

/-- forward: `At k o` says that `o` is the iterator for position `k` (`Terminal` behind the last one); an iterator at `k` reads `l[k]`
    and steps to the iterator for `k + 1` -/
theorem collect_fwd {σ : Type} (l : List α) (next : σ → Option σ) (read : σ → Option α) (At : Nat → Option σ → Prop)
    (hend : ∀ o, At l.length o → o = none)
    (hstep : ∀ k (hk : k < l.length) o, At k o → ∃ c, o = some c ∧ read c = some l[k] ∧ At (k + 1) (next c)) :
    ∀ (fuel k : Nat) (o : Option σ), k ≤ l.length → At k o → l.length - k < fuel →
      collect next read fuel o = some (l.drop k) := by
  intro fuel
  induction fuel with
  | zero => intro k o _ _ hf; omega
  | succ fuel ih =>
    intro k o hk hat hf
    rcases Nat.lt_or_eq_of_le hk with hk | rfl
    · obtain ⟨c, rfl, hr, hn⟩ := hstep k hk o hat
      rw [collect, hr, ih (k + 1) _ hk hn (by omega), List.drop_eq_getElem_cons hk]; rfl
    · rw [hend o hat, collect_none, List.drop_length]

/-- backward: `At k o` says that `o` is the iterator for position `k - 1` (`Terminal` for `k = 0`) -/
theorem collect_bwd {σ : Type} (l : List α) (prev : σ → Option σ) (read : σ → Option α) (At : Nat → Option σ → Prop)
    (hend : ∀ o, At 0 o → o = none)
    (hstep : ∀ k (hk : k < l.length) o, At (k + 1) o → ∃ c, o = some c ∧ read c = some l[k] ∧ At k (prev c)) :
    ∀ (fuel k : Nat) (o : Option σ), k ≤ l.length → At k o → k < fuel →
      collect prev read fuel o = some (l.take k).reverse := by
  intro fuel
  induction fuel with
  | zero => intro k o _ _ hf; omega
  | succ fuel ih =>
    intro k o hk hat hf
    cases k with
    | zero => rw [hend o hat, collect_none]; rfl
    | succ k =>
      obtain ⟨c, rfl, hr, hn⟩ := hstep k hk o hat
      rw [collect, hr, ih k _ (Nat.le_of_lt hk) hn (by omega), List.take_succ_eq_append_getElem hk, List.reverse_append]; rfl

/-- an iterator that IS the position (Array and List at the list level, the record addresses of an Array block): stepping up to the
    last position it yields the sequence … -/
theorem collect_upto (l : List α) (next : Nat → Option Nat) (read : Nat → Option α)
    (hnext : ∀ k, k + 1 < l.length → next k = some (k + 1)) (hlast : ∀ k, k + 1 = l.length → next k = none)
    (hread : ∀ k (hk : k < l.length), read k = some l[k]) :
    collect next read (l.length + 1) (if l.length = 0 then none else some 0) = some l := by
  refine collect_fwd l next read (fun k o => o = if k < l.length then some k else none)
    (fun o h => h.trans (if_neg (Nat.lt_irrefl _)))
    (fun k hk o h => ⟨k, h.trans (if_pos hk), hread k hk, ?_⟩) _ 0 _ (Nat.zero_le _) ?_ (Nat.lt_succ_self _)
  · by_cases h : k + 1 < l.length
    · rw [hnext k h, if_pos h]
    · rw [hlast k (by omega), if_neg h]
  · by_cases h : l.length = 0
    · rw [if_pos h, if_neg (by omega)]
    · rw [if_neg h, if_pos (by omega)]

/-- … and stepping down from the last position its reverse -/
theorem collect_downto (l : List α) (prev : Nat → Option Nat) (read : Nat → Option α)
    (hprev : ∀ k, prev (k + 1) = some k) (hfirst : prev 0 = none)
    (hread : ∀ k (hk : k < l.length), read k = some l[k]) :
    collect prev read (l.length + 1) (if l.length = 0 then none else some (l.length - 1)) = some l.reverse := by
  have := collect_bwd l prev read (fun k o => o = if k = 0 then none else some (k - 1))
    (fun o h => h.trans (if_pos rfl))
    (fun k hk o h => ⟨k, h.trans (if_neg (Nat.succ_ne_zero k)), hread k hk, by
      cases k with
      | zero => exact hfirst
      | succ k => exact hprev k⟩)
    (l.length + 1) l.length _ (Nat.le_refl _) rfl (Nat.lt_succ_self _)
  rwa [List.take_length] at this

end Cello.Seq
