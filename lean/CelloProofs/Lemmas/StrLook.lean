/-
  Lemmas for C16: `Cello.Str.look` (String_Look) is a history of `clear` / `concat`; reading back what String_Show wrote.
-/
import Cello.StrLook
import CelloProofs.Lemmas.StrRun
namespace Cello.Str

theorem lookLoop_eq_run (P : Params) (L : LookParams) (J : Nat → Byte) (rest : List Byte) (s : Str) (pos : Nat) (lg : List Acc) :
    (lookLoop P L J rest s pos lg).st = (run P J s ((lookTexts L rest pos).1.map Op.concat)).1 ∧
    (lookLoop P L J rest s pos lg).out = (lookTexts L rest pos).2 ∧
    (lookLoop P L J rest s pos lg).log = lg ++ ((run P J s ((lookTexts L rest pos).1.map Op.concat)).2.map Res.log).flatten := by
  fun_induction lookLoop P L J rest s pos lg with
  | case1 => simp [lookTexts, run]
  | case2 | case3 | case4 => unfold lookTexts; simp [run, *]      -- closing quote; input ends behind the backslash; unknown escape
  | case5 c s pos lg hq he e rest' t hlk r ih =>                  -- an escape
    unfold lookTexts
    simp only [hq, he, hlk, Bool.false_eq_true, if_false, if_true, List.map_cons, run_cons]
    exact ⟨ih.1, ih.2.1, by rw [ih.2.2]; simp [r, step]⟩
  | case6 c rest s pos lg hq he r ih =>                           -- a plain character
    unfold lookTexts
    simp only [hq, he, Bool.false_eq_true, if_false, List.map_cons, run_cons]
    exact ⟨ih.1, ih.2.1, by rw [ih.2.2]; simp [r, step]⟩

/-- the tests in front of the loop.  Without an opening quote at `pos`, `String_Look` ends as its loop does on an exhausted
    input (FormatError, nothing appended); so in every case it is the loop on some final piece `rest` of the input, entered
    from the state its `String_Clear` left -/
theorem look_head (L : LookParams) (inp : List Byte) (pos : Nat) :
    ∃ rest, rest <:+ inp ∧
      (∀ P J s, let r0 : Res := if L.clearsFirst then clear P J s else ⟨s, .ok 0, []⟩
        look P L J s inp pos = lookLoop P L J rest r0.st (pos + 1) r0.log) ∧
      lookOps L inp pos = ((if L.clearsFirst then [.clear] else []) ++ (lookTexts L rest (pos + 1)).1.map Op.concat,
        (lookTexts L rest (pos + 1)).2) := by
  unfold look lookOps
  cases hd : inp.drop pos with
  | nil => exact ⟨[], List.nil_suffix, fun _ _ _ => rfl, by simp [lookTexts]⟩
  | cons c rest =>
    by_cases hq : (c != L.quoteOpen) = true
    · exact ⟨[], List.nil_suffix, fun _ _ _ => by simp [hq, lookLoop], by simp [hq, lookTexts]⟩
    · exact ⟨rest, (List.suffix_cons c rest).trans (hd ▸ List.drop_suffix pos inp), fun _ _ _ => by simp [hq], by simp [hq]⟩

theorem look_eq_run (P : Params) (L : LookParams) (J : Nat → Byte) (s : Str) (inp : List Byte) (pos : Nat) :
    (look P L J s inp pos).st = (run P J s (lookOps L inp pos).1).1 ∧
    (look P L J s inp pos).out = (lookOps L inp pos).2 ∧
    (look P L J s inp pos).log = ((run P J s (lookOps L inp pos).1).2.map Res.log).flatten := by
  obtain ⟨rest, _, hlook, hops⟩ := look_head L inp pos
  rw [hlook, hops]
  cases L.clearsFirst
  · simpa using lookLoop_eq_run P L J rest s (pos + 1) []
  · obtain ⟨h1, h2, h3⟩ := lookLoop_eq_run P L J rest (clear P J s).st (pos + 1) (clear P J s).log
    simp only [if_true, List.cons_append, List.nil_append, run_cons]
    exact ⟨h1, h2, by rw [h3]; simp [step]⟩

theorem unesc_nulFree {e : Byte} {t : List Byte} (h : unescTable.lookup e = some t) : NulFree t := by
  have key : ∀ p ∈ unescTable, NulFree p.2 := by decide
  obtain ⟨l₁, l₂, hl, _⟩ := List.lookup_eq_some_iff.mp h
  exact key (e, t) (hl ▸ by simp)

/-- every operand of the `String_Concat` calls is a C string: a character of the (NUL-free) input or a text of the escape table -/
theorem lookTexts_nulFree {L : LookParams} (hL : L.Lawful) (rest : List Byte) (hr : NulFree rest) (pos : Nat) :
    ∀ t ∈ (lookTexts L rest pos).1, NulFree t := by
  fun_induction lookTexts L rest pos with
  | case1 | case2 | case3 | case4 => simp
  | case5 c pos _ _ e rest' t hlk ih =>
    exact List.forall_mem_cons.mpr ⟨unesc_nulFree (hL.esc ▸ hlk), ih (nulFree_cons.mp (nulFree_cons.mp hr).2).2⟩
  | case6 c rest pos _ _ ih =>
    obtain ⟨hc, hr⟩ := nulFree_cons.mp hr
    exact List.forall_mem_cons.mpr ⟨nulFree_cons.mpr ⟨hc, nulFree_nil⟩, ih hr⟩

theorem lookOps_nulFree {L : LookParams} (hL : L.Lawful) (inp : List Byte) (hin : NulFree inp) (pos : Nat) :
    ∀ op ∈ (lookOps L inp pos).1, op.NulFree := by
  obtain ⟨rest, hsuf, _, e⟩ := look_head L inp pos
  rw [e, hL.clears]
  exact List.forall_mem_append.mpr ⟨List.forall_mem_singleton.mpr trivial,
    List.forall_mem_map.mpr (lookTexts_nulFree hL rest (fun h0 => hin (hsuf.subset h0)) _)⟩

theorem lookTexts_outcome (L : LookParams) (rest : List Byte) (pos : Nat) :
    (lookTexts L rest pos).2 = .raised .FormatError ∨ ∃ p, (lookTexts L rest pos).2 = .ok p := by
  fun_induction lookTexts L rest pos with
  | case1 | case3 | case4 => exact Or.inl rfl
  | case2 => exact Or.inr ⟨_, rfl⟩
  | case5 | case6 => assumption

theorem lookOps_outcome (L : LookParams) (inp : List Byte) (pos : Nat) :
    (lookOps L inp pos).2 = .raised .FormatError ∨ ∃ p, (lookOps L inp pos).2 = .ok p := by
  obtain ⟨rest, _, _, e⟩ := look_head L inp pos
  rw [e]; exact lookTexts_outcome L rest _

theorem look_ok {P : Params} (hP : P.Lawful) (L : LookParams) (J : Nat → Byte) (s : Str) (hs : s.WF) (inp : List Byte) (pos : Nat)
    (hops : ∀ op ∈ (lookOps L inp pos).1, op.NulFree) :
    (look P L J s inp pos).st.WF ∧ (look P L J s inp pos).st.abs = Spec.run s.abs (lookOps L inp pos).1 ∧
    (look P L J s inp pos).safe = true ∧ (look P L J s inp pos).out = (lookOps L inp pos).2 := by
  obtain ⟨h1, h2, h3⟩ := look_eq_run P L J s inp pos
  obtain ⟨h, hall⟩ := run_ok hP J (lookOps L inp pos).1 s _ hs.holds hops
  refine ⟨by rw [h1]; exact h.wf, by rw [h1]; exact h.abs, ?_, h2⟩
  unfold Res.safe; rw [h3]
  simpa [List.all_flatten, Res.safe] using fun r hr => (hall r hr).1

theorem unescTable_lookup_escOf {b e : Byte} (h : escOf b = some e) : unescTable.lookup e = some [b] := by
  have key : ∀ p ∈ escTable, unescTable.lookup p.2 = some [p.1] := by decide
  obtain ⟨p, hf, rfl⟩ := Option.map_eq_some_iff.mp h
  obtain rfl : p.1 = b := by simpa using List.find?_some hf
  exact key p (List.mem_of_find?_eq_some hf)

theorem ne_quote_backslash_of_escOf_none {b : Byte} (h : escOf b = none) : b ≠ 34 ∧ b ≠ 92 :=
  ⟨fun e => absurd (e ▸ h) (by decide), fun e => absurd (e ▸ h) (by decide)⟩

/-- the reader undoes the writer, one character: on what `String_Show` writes for `b` it appends `b` -/
theorem lookTexts_escBytes {L : LookParams} (hL : L.Lawful) (b : Byte) (rest : List Byte) (pos : Nat) :
    lookTexts L (escBytes b ++ rest) pos =
      ([b] :: (lookTexts L rest (pos + (escBytes b).length)).1, (lookTexts L rest (pos + (escBytes b).length)).2) := by
  unfold escBytes
  cases hb : escOf b with
  | some e =>
    simp only [List.cons_append, List.nil_append]; rw [lookTexts]
    simp [hL.qc, hL.lead, hL.esc, unescTable_lookup_escOf hb]
  | none =>
    obtain ⟨h34, h92⟩ := ne_quote_backslash_of_escOf_none hb
    simp only [List.cons_append, List.nil_append]; rw [lookTexts.eq_def]
    simp [hL.qc, hL.lead, h34, h92]

theorem lookTexts_shown {L : LookParams} (hL : L.Lawful) (x suf : List Byte) (pos : Nat) :
    lookTexts L (x.flatMap escBytes ++ 34 :: suf) pos = (x.map (fun b => [b]), .ok (pos + (x.flatMap escBytes).length + 1)) := by
  induction x generalizing pos with
  | nil => rw [List.flatMap_nil, List.nil_append, lookTexts.eq_def]; simp [hL.qc]
  | cons b x ih => rw [List.flatMap_cons, List.append_assoc, lookTexts_escBytes hL, ih]; simp [Nat.add_assoc]

theorem textOf_showChars (t : List Byte) (rest : List Item) : textOf (t.map showChar ++ rest) = t.flatMap escBytes ++ textOf rest := by
  induction t with
  | nil => rfl
  | cons b t ih => cases hb : escOf b <;> simp [showChar, escBytes, hb, textOf, Item.text, ih]

theorem textOf_showVal_str (x : List Byte) : textOf (showVal (.str x)) = shownText x := by
  simp [showVal, textOf, Item.text, shownText, textOf_showChars]

theorem lookOps_shown {L : LookParams} (hL : L.Lawful) (x pre suf : List Byte) :
    lookOps L (pre ++ shownText x ++ suf) pre.length =
      (Op.clear :: (x.map fun b => [b]).map Op.concat, .ok (pre.length + (shownText x).length)) := by
  have hd : (pre ++ shownText x ++ suf).drop pre.length = 34 :: (x.flatMap escBytes ++ 34 :: suf) := by
    simp [shownText, List.append_assoc]
  unfold lookOps
  rw [hd]
  simp only [hL.clears, hL.qo, if_true, bne_self_eq_false, Bool.false_eq_true, if_false, lookTexts_shown hL]
  simp [shownText]
  omega

theorem spec_run_concats : ∀ (ts : List (List Byte)) (a : List Byte), Spec.run a (ts.map Op.concat) = a ++ ts.flatten
  | [], a => by simp [Spec.run]
  | t :: ts, a => by simp [Spec.run, Spec.step, spec_run_concats ts, List.append_assoc]

theorem look_shown {P : Params} (hP : P.Lawful) {L : LookParams} (hL : L.Lawful) (J : Nat → Byte) (s : Str) (hs : s.WF)
    (x : List Byte) (hx : NulFree x) (pre suf : List Byte) :
    (look P L J s (pre ++ shownText x ++ suf) pre.length).st.WF ∧
    (look P L J s (pre ++ shownText x ++ suf) pre.length).st.abs = x ∧
    (look P L J s (pre ++ shownText x ++ suf) pre.length).safe = true ∧
    (look P L J s (pre ++ shownText x ++ suf) pre.length).out = .ok (pre.length + (shownText x).length) := by
  have h := look_ok hP L J s hs (pre ++ shownText x ++ suf) pre.length
  rw [lookOps_shown hL] at h
  obtain ⟨hwf, habs, hsafe, hout⟩ := h <| List.forall_mem_cons.mpr ⟨trivial, List.forall_mem_map.mpr <|
    List.forall_mem_map.mpr fun b hb => nulFree_cons.mpr ⟨hx.ne_zero hb, nulFree_nil⟩⟩
  refine ⟨hwf, ?_, hsafe, hout⟩
  rw [habs, Spec.run, spec_run_concats]; exact List.flatMap_singleton' x

end Cello.Str
