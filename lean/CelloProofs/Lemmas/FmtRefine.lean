/-
  C14 helper lemmas: the machine meets the grammar.  What `turn` (Fmt.lean) answers at each kind of segment, then
  `loop (pre ++ render segs) … = refRun segs …` with the marks inside the buffers, by induction on the segments
  (`printToWith_refines`); hence the machine lies in every `SeqClosed` class the reference run lies in (`printToWith_in`);
  both again for a format given as text that parses (`…_parsed`).
-/
import CelloProofs.Lemmas.Fmt
import CelloProofs.Lemmas.FmtSeq
import CelloProofs.Lemmas.FmtParse

namespace Cello.Fmt

variable (cfg : Cfg) (prim : Prim) (shw : Obj → Out → Out × Outcome) (args : List Obj)

def Marks.Within (n : Nat) (m : Marks) : Prop := m.rdMax ≤ n ∧ m.wrMax ≤ n

theorem Marks.Within.read {n : Nat} {m : Marks} (h : m.Within n) {i : Nat} (hi : i ≤ n) : (m.read i).Within n :=
  ⟨Nat.max_le.2 ⟨h.1, hi⟩, h.2⟩

theorem Marks.Within.write {n : Nat} {m : Marks} (h : m.Within n) {i : Nat} (hi : i ≤ n) : (m.write i).Within n :=
  ⟨h.1, Nat.max_le.2 ⟨h.2, hi⟩⟩

theorem turn_end (conv fmt : Str) {mk : Marks} (W : mk.Within fmt.length) :
    ∃ mk', turn conv fmt fmt.length mk = .stop .ok mk' ∧ mk'.Within fmt.length := by
  have h0 : rd fmt fmt.length = some NUL := by
    have := rd_append fmt [] 0; simpa [rd_nil_zero] using this
  exact ⟨_, by simp only [turn, h0, if_true], W.read (Nat.le_refl _)⟩

theorem turn_lit (conv fmt pre s t : Str) (hf : fmt = pre ++ (s ++ t)) (hs0 : s ≠ [])
    (hs : ∀ c ∈ s, c ≠ NUL ∧ c ≠ '%') (ht : ordinary (headOrNul t) = false) {mk : Marks} (W : mk.Within fmt.length) :
    ∃ mk', turn conv fmt pre.length mk = .call s (pre ++ s).length mk' ∧ mk'.Within fmt.length := by
  have hlen : fmt.length = pre.length + (s.length + t.length) := by simp [hf]
  obtain ⟨b1, b2, b3⟩ : pre.length ≤ fmt.length ∧ pre.length + s.length ≤ fmt.length ∧ s.length ≤ fmt.length := by omega
  refine ⟨_, ?_, ((W.read b1).read b2).write b3⟩
  obtain ⟨c, s', hcs⟩ := List.exists_cons_of_ne_nil hs0
  have hc := hs c (by simp [hcs])
  have h0 : rd fmt pre.length = some c := by rw [hf, rd_append_zero, hcs]; exact rd_cons_zero ..
  have h1 : scanLit fmt (fmt.length + 2) pre.length = some (pre.length + s.length) := by
    have hfu : s.length < fmt.length + 2 := Nat.lt_of_le_of_lt b3 (Nat.lt_add_of_pos_right (by decide))
    rw [hf] at hfu ⊢
    exact scanLit_run s pre t _ hs ht hfu
  have h2 : slice fmt pre.length s.length = some s := by rw [hf]; exact slice_mid pre s t
  have h3 : cstrOf s = s := cstrOf_of_noNul _ (fun x hx => (hs x hx).1)
  have hne : pre.length ≠ pre.length + s.length := Nat.ne_of_lt (Nat.lt_add_of_pos_right (List.length_pos_iff.2 hs0))
  have hsub : pre.length + s.length - pre.length = s.length := Nat.add_sub_cancel_left ..
  have hfit : ¬ s.length > fmt.length := Nat.not_lt.2 b3
  -- each fact above decides one test of `turn`, in the order `turn` makes them (so too in `turn_pct`, `turn_spec`)
  simp only [turn, h0, h1, hc.1, if_false, hne, ne_eq, not_false_eq_true, if_true, hsub, h2, h3, hfit, List.length_append]

theorem turn_pct (conv fmt pre t : Str) (hf : fmt = pre ++ ('%' :: '%' :: t)) {mk : Marks} (W : mk.Within fmt.length) :
    ∃ mk', turn conv fmt pre.length mk = .call ['%', '%'] (pre ++ ['%', '%']).length mk' ∧ mk'.Within fmt.length := by
  have hlen : fmt.length = pre.length + (t.length + 2) := by simp [hf]
  obtain ⟨b1, b2⟩ : pre.length ≤ fmt.length ∧ pre.length + 1 ≤ fmt.length := by omega
  refine ⟨_, ?_, ((W.read b1).read b1).read b2⟩
  have h0 : rd fmt pre.length = some '%' := by rw [hf, rd_append_zero, rd_cons_zero]
  have h0' : rd fmt (pre.length + 1) = some '%' := by rw [hf, rd_append, rd_cons_succ, rd_cons_zero]
  have h1 := scanLit_stop (fmt.length + 1) h0 rfl
  have hp : ('%' : Char) ≠ NUL := by decide
  simp only [turn, h0, h1, h0', hp, if_false, ne_eq, not_true_eq_false, if_true, and_self, List.length_append]
  rfl

theorem turn_spec {conv : Str} (hpct : '%' ∉ conv) (fmt pre b : Str) (c : Char) (t : Str)
    (hf : fmt = pre ++ ('%' :: (b ++ c :: t)))
    (hb : ∀ x ∈ b, x ∉ conv ∧ x ≠ NUL) (hb0 : b.head? ≠ some '%') (hc : c ∈ conv) (hc0 : c ≠ NUL)
    {mk : Marks} (W : mk.Within fmt.length) :
    ∃ mk', turn conv fmt pre.length mk = .spec c ('%' :: (b ++ [c])) (pre ++ '%' :: (b ++ [c])).length mk' ∧
      mk'.Within fmt.length := by
  have hpos : (pre ++ '%' :: (b ++ [c])).length = pre.length + (b.length + 2) := by simp
  have hlen : fmt.length = pre.length + (b.length + t.length + 2) := by simp [hf]; omega
  obtain ⟨b1, b2, b3, b4⟩ : pre.length ≤ fmt.length ∧ pre.length + 1 ≤ fmt.length ∧
      pre.length + (b.length + 1) ≤ fmt.length ∧ b.length + 2 ≤ fmt.length := by omega
  refine ⟨_, ?_, ((((W.read b1).read b1).read b2).read b3).write b4⟩
  have hp : ('%' : Char) ≠ NUL := by decide
  have hcp : c ≠ '%' := fun h => hpct (h ▸ hc)
  have h0 : rd fmt pre.length = some '%' := by rw [hf, rd_append_zero, rd_cons_zero]
  have h1 := scanLit_stop (fmt.length + 1) h0 rfl
  obtain ⟨c1, h2, h2'⟩ : ∃ c1, rd fmt (pre.length + 1) = some c1 ∧ c1 ≠ '%' := by
    rw [hf, rd_append, rd_cons_succ, rd_zero]
    refine ⟨_, rfl, ?_⟩
    cases b with
    | nil => exact hcp
    | cons x b => exact fun h => hb0 (congrArg some h)
  have h3 : scanConv conv fmt (fmt.length + 2) pre.length = some (pre.length + (b.length + 1)) := by
    have := scanConv_run conv ('%' :: b) pre c t (fmt.length + 2)
      (by
        intro x hx
        rcases List.mem_cons.1 hx with rfl | hx
        · exact strchrHit_eq_false.2 ⟨hp, hpct⟩
        · exact strchrHit_eq_false.2 ⟨(hb x hx).2, (hb x hx).1⟩)
      (strchrHit_eq_true.2 (.inr hc)) (Nat.lt_of_lt_of_le (Nat.lt_succ_self _) (Nat.le_trans b4 (Nat.le_add_right _ _)))
    simpa [← hf] using this
  have h4 : slice fmt pre.length (b.length + 2) = some ('%' :: (b ++ [c])) := by
    have := slice_mid pre ('%' :: (b ++ [c])) t
    simpa [← hf] using this
  have h5 : rd fmt (pre.length + (b.length + 1)) = some c := by
    have := rd_append (pre ++ ('%' :: b)) (c :: t) 0
    simpa [rd_cons_zero, ← hf] using this
  have h6 : cstrOf ('%' :: (b ++ [c])) = '%' :: (b ++ [c]) := by
    apply cstrOf_of_noNul
    intro x hx
    rcases List.mem_cons.1 hx with rfl | hx
    · exact hp
    · rcases List.mem_append.1 hx with hx | hx
      · exact (hb x hx).2
      · exact List.mem_singleton.1 hx ▸ hc0
  have hne : pre.length ≠ pre.length + (b.length + 1) := Nat.ne_of_lt (Nat.lt_add_of_pos_right (Nat.succ_pos _))
  have hsub : pre.length + (b.length + 1) - pre.length + 1 = b.length + 2 := by rw [Nat.add_sub_cancel_left]
  have hfit : ¬ b.length + 2 > fmt.length := Nat.not_lt.2 b4
  simp only [turn, h0, h1, hp, if_false, ne_eq, not_true_eq_false, if_true, h2, h2', and_false, h3, hne, not_false_eq_true, hsub,
    h4, h5, h6, hfit, hpos]
  rfl

theorem loop_refines (hpct : '%' ∉ cfg.conv) : ∀ (segs : List Seg), wfSegs cfg.conv segs = true →
    ∀ (fmt pre : Str) (fuel k : Nat) (o : Out) (mk : Marks),
      fmt = pre ++ render segs → segs.length < fuel → mk.Within fmt.length →
      ∃ mk', loop cfg prim shw fmt args fuel pre.length k o mk
          = ⟨(refRun cfg prim shw args segs k o).1, (refRun cfg prim shw args segs k o).2, mk'⟩
        ∧ mk'.Within fmt.length := by
  intro segs
  induction segs with
  | nil =>
    intro _ fmt pre fuel k o mk hf hfu W
    obtain ⟨f, rfl⟩ := Nat.exists_eq_add_one_of_ne_zero (Nat.ne_of_gt (Nat.zero_lt_of_lt hfu))
    have hl : pre.length = fmt.length := by simp [hf, render_nil]
    obtain ⟨mk', ht, W'⟩ := turn_end cfg.conv fmt W
    rw [hl, loop_succ, ht]
    exact ⟨mk', rfl, W'⟩
  | cons seg rest ih =>
    intro hwf fmt pre fuel k o mk hf hfu W
    obtain ⟨f, rfl⟩ := Nat.exists_eq_add_one_of_ne_zero (Nat.ne_of_gt (Nat.zero_lt_of_lt hfu))
    obtain ⟨hseg, hrest, hstop⟩ := wfSegs_cons hwf
    have hfu' : rest.length < f := Nat.lt_of_succ_lt_succ hfu
    rw [render_cons] at hf
    -- the segment is one action `act` in the machine (one turn) and in the reference run; both go on with the rest if it completes
    have tail : ∀ (act : Out → Out × Outcome) (k' : Nat) (mk1 : Marks), mk1.Within fmt.length →
        refRun cfg prim shw args (seg :: rest) k = andThen act (refRun cfg prim shw args rest k') →
        ∃ mk', thenLoop (act o) (loop cfg prim shw fmt args f (pre ++ seg.text).length k' · mk1) mk1
            = ⟨(refRun cfg prim shw args (seg :: rest) k o).1, (refRun cfg prim shw args (seg :: rest) k o).2, mk'⟩
          ∧ mk'.Within fmt.length := by
      intro act k' mk1 hm hrun
      rw [hrun]; unfold andThen thenLoop
      rcases act o with ⟨o', oc⟩
      cases oc with
      | ok => exact ih hrest fmt (pre ++ seg.text) f k' o' mk1 (by rw [hf, List.append_assoc]) hfu' hm
      | raised e => exact ⟨_, rfl, hm⟩
      | oob => exact ⟨_, rfl, hm⟩
    rw [loop_succ]
    cases seg with
    | lit s =>
      obtain ⟨hs0, hs⟩ := lit_wf_iff.1 hseg
      obtain ⟨mk1, ht, W1⟩ := turn_lit cfg.conv fmt pre s (render rest) hf hs0 hs (hstop rfl) W
      rw [ht]
      exact tail _ k mk1 W1 (refRun_lit ..)
    | pct =>
      obtain ⟨mk1, ht, W1⟩ := turn_pct cfg.conv fmt pre (render rest) hf W
      rw [ht]
      exact tail _ k mk1 W1 (refRun_pct ..)
    | spec b c =>
      obtain ⟨hc, hc0, hb, hb0⟩ := spec_wf_iff.1 hseg
      obtain ⟨mk1, ht, W1⟩ := turn_spec hpct fmt pre b c (render rest) (by simpa [Seg.text] using hf) hb hb0 hc hc0 W
      have hrun := refRun_spec cfg prim shw args b c rest k
      rw [ht]
      cases hk : args[k]? with
      | none => rw [hk] at hrun; rw [hrun]; exact ⟨_, rfl, W1⟩
      | some a => rw [hk] at hrun; exact tail _ (k + 1) mk1 W1 hrun

theorem printToWith_refines (hpct : '%' ∉ cfg.conv) (segs : List Seg) (hwf : wfSegs cfg.conv segs = true) (o : Out) :
    let r := printToWith cfg prim shw (render segs) args o
    r.pair = refRun cfg prim shw args segs 0 o ∧ r.marks.rdMax ≤ (render segs).length ∧ r.marks.wrMax ≤ (render segs).length := by
  have hlen := length_le_render segs hwf
  obtain ⟨mk', h, W⟩ := loop_refines cfg prim shw args hpct segs hwf (render segs) []
    ((render segs).length + 1) 0 o ⟨0, 0⟩ (by simp) (by omega) ⟨Nat.zero_le _, Nat.zero_le _⟩
  simp only [List.length_nil] at h
  simp only [printToWith, h]
  exact ⟨rfl, W⟩

theorem printToWith_in {prim : Prim} {P : (Out → Out × Outcome) → Prop} (C : SeqClosed prim P) (hpct : '%' ∉ cfg.conv)
    (segs : List Seg) (hwf : wfSegs cfg.conv segs = true) (h : UseOk cfg (KindOk shw P) args segs 0) :
    P fun o => (printToWith cfg prim shw (render segs) args o).pair := by
  rw [funext fun o => (printToWith_refines cfg prim shw args hpct segs hwf o).1]
  exact refRun_in cfg C args segs 0 h

theorem printToWith_parsed (hpct : '%' ∉ cfg.conv) {f : Str} {segs : List Seg} (hp : parseFmt cfg.conv f = some segs) (args : List Obj) :
    (fun o => (printToWith cfg prim shw f args o).pair) = refRun cfg prim shw args segs 0 := by
  obtain ⟨rfl, hwf⟩ := (parseFmt_iff hpct).1 hp
  exact funext fun o => (printToWith_refines cfg prim shw args hpct segs hwf o).1

theorem printToWith_in_parsed {prim : Prim} {shw : Obj → Out → Out × Outcome} {P : (Out → Out × Outcome) → Prop} (C : SeqClosed prim P)
    (hpct : '%' ∉ cfg.conv) {f : Str} (hp : (parseFmt cfg.conv f).isSome = true)
    (args : List Obj) (hs : ∀ a ∈ args, ArgOk shw P a) : P fun o => (printToWith cfg prim shw f args o).pair := by
  obtain ⟨segs, hp⟩ := Option.isSome_iff_exists.1 hp
  obtain ⟨rfl, hwf⟩ := (parseFmt_iff hpct).1 hp
  exact printToWith_in cfg shw args C hpct segs hwf (useOk_of_args cfg hs segs 0)

end Cello.Fmt
