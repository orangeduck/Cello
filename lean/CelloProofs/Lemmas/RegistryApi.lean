/-
  Histories of PUBLIC calls (alloc / alloc_raw / alloc_root / new_with / … / copy / del / del_raw / del_root, on a type with
  or without its own Alloc instance) reduced to the operation histories of RegistryHistory.lean through the routing tables
  read from src/Alloc.c; what GC_Show lists against the ledger.
-/
import Cello.RegistryApi
import CelloProofs.Lemmas.RegistryHistory
namespace Cello.Registry
open RH

/-- what a program calls -/
inductive Call where
  /-- an allocating entry point `fn` of src/Alloc.c on a type with (`own`) / without an Alloc instance, yielding address `p`;
      `marks`: what the mark phase reaches should the allocation trigger a collection -/
  | alloc (fn : String) (own : Bool) (p : Nat) (marks : List Nat)
  /-- `del` / `del_raw` / `del_root` -/
  | del (fn : String) (p : Nat)
  | collect (marks : List Nat)
  | stop
  | start

/-- the registry operation a call amounts to, by the tables `rt` (`none`: the tables say something the model does not read) -/
def Call.toOp (rt : Routes) : Call → Option Op
  | .alloc fn own p marks =>
    match allocTells rt fn own with
    | some (some root) => some (.new p root marks)
    | some none => some (.newRaw p)
    | none => none
  | .del fn p =>
    match delTells rt fn with
    | some true => some (.del p)
    | some false => some (.delRaw p)
    | none => none
  | .collect marks => some (.sweep marks)
  | .stop => some .stop
  | .start => some .start

/-- states reached by histories of public calls -/
inductive ReachA (c : Cfg) (rt : Routes) : Reg → Ledger → Prop where
  | init : ReachA c rt Reg.init []
  | step {r : Reg} {L : Ledger} {call : Call} {op : Op} {r' : Reg} :
      ReachA c rt r L → call.toOp rt = some op → okOp L op → step c r op = some r' → ReachA c rt r' (ledgerStep r L op)

theorem reachA_reach (c : Cfg) (rt : Routes) (r : Reg) (L : Ledger) (h : ReachA c rt r L) : Reach c r L := by
  induction h with
  | init => exact Reach.init
  | step _ _ hok hs ih => exact Reach.step ih hok hs

theorem mem_showRows (r : Reg) (i : Nat) (x : Option (Nat × Bool × Bool)) :
    (i, x) ∈ showRows r ↔ ∃ hi : i < r.n, x = (r.slots[i]).map (fun e => (e.key, e.val.root, e.val.marked)) := by
  unfold showRows
  simp only [List.mem_map, List.mem_range, Prod.mk.injEq]
  constructor
  · rintro ⟨j, hj, rfl, hx⟩
    refine ⟨hj, ?_⟩
    rw [dif_pos hj] at hx
    exact hx.symm
  · rintro ⟨hi, hx⟩
    exact ⟨i, hi, rfl, by rw [dif_pos hi]; exact hx.symm⟩

theorem showRows_length (r : Reg) : (showRows r).length = r.n := by
  unfold showRows; simp

/-- the occupied rows are the ledger's items, each with a blank mark column -/
theorem showRows_ledger {c : Cfg} {r : Reg} {L : Ledger} (h : Core c r L noMark) (p : Nat) (b m : Bool) :
    (∃ i, (i, some (p, b, m)) ∈ showRows r) ↔ ((p, b) ∈ L ∧ m = false) := by
  constructor
  · rintro ⟨i, hi⟩
    obtain ⟨hlt, hx⟩ := (mem_showRows r i _).1 hi
    cases hs : r.slots[i] with
    | none => rw [hs] at hx; simp at hx
    | some e =>
      rw [hs] at hx
      simp only [Option.map_some, Option.some.injEq, Prod.mk.injEq] at hx
      obtain ⟨h1, h2, h3⟩ := hx
      have := (h.ents e).1 ⟨i, hlt, hs⟩
      subst h1; subst h2; subst h3
      exact ⟨this.1, this.2.1⟩
  · rintro ⟨hL, rfl⟩
    obtain ⟨q, hq, hs⟩ := (h.ents ⟨p, hashOf c p % r.n, ⟨b, false⟩⟩).2 ⟨hL, rfl, rfl⟩
    exact ⟨q, (mem_showRows r q _).2 ⟨hq, by rw [hs]; rfl⟩⟩

theorem showRows_once (hash : Nat → Nat) (r : Reg) (inv : Inv0 hash r.slots) (i j p : Nat) (b m b' m' : Bool)
    (hi : (i, some (p, b, m)) ∈ showRows r) (hj : (j, some (p, b', m')) ∈ showRows r) : i = j := by
  obtain ⟨hlt, hx⟩ := (mem_showRows r i _).1 hi
  obtain ⟨hlt', hx'⟩ := (mem_showRows r j _).1 hj
  cases hs : r.slots[i] with
  | none => rw [hs] at hx; simp at hx
  | some e =>
    cases hs' : r.slots[j] with
    | none => rw [hs'] at hx'; simp at hx'
    | some e' =>
      rw [hs] at hx; rw [hs'] at hx'
      simp only [Option.map_some, Option.some.injEq, Prod.mk.injEq] at hx hx'
      exact inv.distinct i j hlt hlt' e e' hs hs' (by rw [← hx.1, ← hx'.1])

end Cello.Registry
