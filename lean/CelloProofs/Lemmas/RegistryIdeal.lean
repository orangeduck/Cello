/-
  GC_Ideal_Size returns a size strictly above its argument whenever the load factor is at most 1 and the prime table does
  not end in 0.
-/
import Cello.Registry
namespace Cello.Registry

theorem multLoop_spec (last size : Nat) (hl : 0 < last) :
    ∀ (fuel i : Nat), size < i + fuel → i ≤ size → ∃ v, multLoop last size fuel i = some v ∧ size ≤ v := by
  intro fuel
  induction fuel with
  | zero => intro i h1 h2; omega
  | succ fuel ih =>
    intro i h1 h2
    unfold multLoop
    by_cases h : last * i ≥ size
    · rw [if_pos h]; exact ⟨_, rfl, h⟩
    · rw [if_neg h]
      have : i ≤ last * i := Nat.le_mul_of_pos_left i hl
      exact ih (i+1) (by omega) (by omega)

theorem scaled_gt (c : Cfg) (n : Nat) (hb : 1 ≤ c.sizeBump) (hnum : 0 < c.loadNum) (hle : c.loadNum ≤ c.loadDen) :
    n < (n + c.sizeBump) * c.loadDen / c.loadNum := by
  have h1 : (n + 1) * c.loadNum ≤ (n + c.sizeBump) * c.loadDen := Nat.mul_le_mul (by omega) hle
  have : n + 1 ≤ (n + c.sizeBump) * c.loadDen / c.loadNum := (Nat.le_div_iff_mul_le hnum).2 h1
  omega

theorem idealSize_gt_of (c : Cfg) (n : Nat) (hb : 1 ≤ c.sizeBump) (hnum : 0 < c.loadNum) (hle : c.loadNum ≤ c.loadDen)
    (hlast : 0 < c.primes.getLastD 0) : ∃ v, idealSize c n = some v ∧ n < v := by
  have hs := scaled_gt c n hb hnum hle
  unfold idealSize
  simp only []
  split
  · rename_i p hp
    have := List.find?_some hp
    simp only [ge_iff_le, decide_eq_true_eq] at this
    exact ⟨p, rfl, by omega⟩
  · obtain ⟨v, hv, hge⟩ := multLoop_spec (c.primes.getLastD 0) ((n + c.sizeBump) * c.loadDen / c.loadNum) hlast
      ((n + c.sizeBump) * c.loadDen / c.loadNum + 1) 0 (by omega) (by omega)
    exact ⟨v, hv, by omega⟩

end Cello.Registry
