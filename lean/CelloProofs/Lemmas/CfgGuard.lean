/-
  C18, the guards over the allocation class (`CELLO_ALLOC_CHECK`): if none fires on a class the function is defined on (decided over
  the generated guards in Props/C18.lean), none fires along the functions an in-place edit runs, on the object the edit reaches.
-/
import CelloProofs.Lemmas.Cfg

namespace Cello.Config
open CelloGen.Cfg

theorem allocGuardFires_eq_none_iff {fn : String} {c : AllocClass} :
    allocGuardFires fn c = none ↔
      ∀ g ∈ guards, g.func = fn → g.guardMacro = "CELLO_ALLOC_CHECK" → evalG false c g.cond = false := by
  simp only [allocGuardFires, allocGuardsOf, Option.map_eq_none_iff, List.find?_eq_none, List.mem_filter, Bool.and_eq_true,
    beq_iff_eq, Bool.not_eq_true, and_imp]

theorem sitesFire_none_of {o : Obj} (hq : ∀ fn c, c ∈ inContractClasses fn → allocGuardFires fn c = none) :
    ∀ (l : List (String × Where)), (∀ p ∈ l, siteClass o p.2 ∈ inContractClasses p.1) → sitesFire o l = none
  | [], _ => rfl
  | (fn, w) :: rest, h => by
    have h1 := hq fn (siteClass o w) (h (fn, w) (List.mem_cons_self ..))
    simp only [sitesFire, h1]
    exact sitesFire_none_of hq rest (fun p hp => h p (List.mem_cons_of_mem _ hp))

theorem edit_fns_ne_dealloc (e : Edit) (ty : String) : ∀ f ∈ e.fns ty, f ≠ "dealloc" := by
  -- every function an edit runs is `ty ++ "_…"`, and "dealloc" has no underscore
  have key : ∀ sfx : String, '_' ∈ sfx.toList → ty ++ sfx ≠ "dealloc" := fun sfx h he => by
    have : '_' ∈ (ty ++ sfx).toList := by rw [String.toList_append]; exact List.mem_append_right _ h
    simp [he] at this
  intro f hf
  cases e with
  | look t =>
    rcases List.mem_cons.mp hf with rfl | hf
    · exact key _ (by simp)
    · split at hf
      · cases hf
      · exact List.mem_singleton.mp hf ▸ key _ (by simp)
  | _ => exact List.mem_singleton.mp hf ▸ key _ (by simp)

theorem stamp_seq_mem (k : SeqKind) : stampOf (seqFn k) 0 ∈ reallocClasses := by
  cases k <;> simp [seqFn, reallocClasses]

theorem stamp_map_key_mem (k : MapKind) : stampOf (mapFn k) 0 ∈ reallocClasses := by
  cases k <;> simp [mapFn, reallocClasses]

theorem stamp_map_val_mem (k : MapKind) : stampOf (mapFn k) 1 ∈ reallocClasses := by
  cases k <;> simp [mapFn, reallocClasses]

/-- wherever an edit reaches — the handle's own object or an element embedded in a container — the class found there is
    one on which the reallocating functions are defined -/
theorem siteClass_edit_mem {cfg : Cfg} (o : Obj) (ho : o.hdr = headerInit cfg o.hdr.type heapClass) (sel : Sel) (b : Body) :
    siteClass o (selWhere sel b) ∈ reallocClasses := by
  unfold selWhere
  split
  · exact stamp_seq_mem _
  · exact stamp_seq_mem _
  · exact stamp_map_key_mem _
  · exact stamp_map_val_mem _
  · rw [siteClass_self_of_hdr ho]
    exact List.mem_cons_self ..

theorem edit_sites_quiet (hq : ∀ fn c, c ∈ inContractClasses fn → allocGuardFires fn c = none)
    (cfg : Cfg) (o : Obj) (ho : o.hdr = headerInit cfg o.hdr.type heapClass) (sel : Sel) (e : Edit) (b : Body) (ty : String) :
    sitesFire o ((e.fns ty).map (fun f => (f, selWhere sel b))) = none := by
  apply sitesFire_none_of hq
  intro p hp
  obtain ⟨f, hf, rfl⟩ := List.mem_map.mp hp
  have hne := edit_fns_ne_dealloc e ty f hf
  simp only [inContractClasses, hne, if_false]
  exact siteClass_edit_mem o ho sel b

end Cello.Config
