/-
  Type objects named by ids at addresses the allocator chooses, fresh or recycled (Cello/DispatchId.lean): the
  invariant `AOK`, and the simulation of `AHeap.step` by the address-free spec `specIds` (`AHeap.step_spec`, on the
  record-level steps and `HeapOK.update` of DispHeap.lean).
-/
import CelloProofs.Lemmas.DispHeap
import Cello.DispatchId

namespace Cello.Dispatch

/-- no `cls` word of any record holds the address of a run-time type object: only library classes were ever looked up -/
def LibOnly (h : Heap) : Prop := ∀ p ∈ h.w.types, ∀ c ∈ memosOf p.2, c.id = 0

theorem nameWriteSafe_of_libOnly {h : Heap} (hl : LibOnly h) (addr : Nat) (name : String) :
    h.nameWriteSafe addr name = true := by
  simp only [Heap.nameWriteSafe, List.all_eq_true, Bool.or_eq_true, decide_eq_true_eq]
  intro p hp c hc
  left
  rw [hl p hp c hc]; omega

/-- `LibOnly` speaks of every pair in the list of records, a `WStep` only of the pair `World.get` finds: it is kept by ONE
    store over a live record, not by world-level steps in general -/
theorem LibOnly.put {h : Heap} (hl : LibOnly h) {a : Nat} {t : TypeRec} (hget : h.w.get a = some t) {t' : TypeRec}
    (hm : ∀ c ∈ memosOf t', c ∈ memosOf t ∨ c.id = 0) : LibOnly { h with w := h.w.put a t' } := by
  intro p hp c hc
  rcases mem_put hp with h1 | rfl
  · exact hl p h1 c hc
  · exact (hm c hc).elim (hl _ (mem_of_get hget) c) id

/-- the lookup a use performs -/
def Way.asLook : Way → Look
  | .look l => l
  | .call false k => .meth k
  | .call true _ => .inst
  | .typeCall k => .meth k

theorem useW_fst (w : World) (a : Nat) (way : Way) (cls : Cls) : (useW w a way cls).1 = (lookW w a way.asLook cls).1 := by
  cases way with
  | look l => rfl
  | call soft k => cases soft <;> rfl
  | typeCall k => rfl

theorem specCall_hard (sent : Bool) (D : String → Option Inst) (cls : Cls) (k : Nat) :
    callOfMeth k (methodOf sent cls k (.ok (D cls.name))) = specCall false sent D cls k := by
  unfold specCall
  cases D cls.name with
  | none => rfl
  | some inst =>
    simp only [methodOf]
    cases memberAt inst k with
    | ok b => cases b <;> rfl
    | raised e => rfl
    | ub => rfl

theorem specCall_soft (sent : Bool) (D : String → Option Inst) (cls : Cls) (k : Nat) :
    callOfInst k (.ok (D cls.name)) = specCall true sent D cls k := by
  unfold specCall callOfInst
  cases hD : D cls.name with
  | none => rfl
  | some inst =>
    simp only
    cases memberAt inst k with
    | ok b => cases b <;> rfl
    | raised e => rfl
    | ub => rfl

theorem useW_spec {n : Nat} {w : World} (hs : SlotsOK w.slots n) {a : Nat} {t : TypeRec} (hget : w.get a = some t)
    {D : String → Option Inst} (hinv : Inv D w.slots n t) (way : Way) (cls : Cls) :
    (useW w a way cls).2 = specUse t.sentinel D way cls := by
  have key : ∀ l, (lookW w a l cls).2 = specObs t.sentinel D (l.op cls) := by
    intro l
    rw [lookW_eq hget, (applyOp_spec hs hinv (l.op cls)).1]
  cases way with
  | look l => simp only [useW, specUse, key l]
  | call soft k =>
    cases soft with
    | false =>
      have hk := key (.meth k)
      simp only [lookW, Look.op, specObs_methodAt, Obs.meth.injEq] at hk
      simp only [useW, specUse, callMethodW, methodAtW, typeOfW]
      rw [hk, specCall_hard]
    | true =>
      have hk := key .inst
      simp only [lookW, Look.op, specObs, Obs.inst.injEq] at hk
      simp only [useW, specUse, callSoftW, instanceW, typeOfW]
      rw [hk, specCall_soft]
  | typeCall k =>
    have hk := key (.meth k)
    simp only [lookW, Look.op, specObs_methodAt, Obs.meth.injEq] at hk
    simp only [useW, specUse, callTypeMethodW]
    rw [hk, specCall_hard]

/-- the heap invariant; only library classes were ever looked up; every id names a live type object, no two ids the
    same one (`AHeap.okb` is the executable form) -/
structure AOK (n : Nat) (x : AHeap) : Prop where
  hok : HeapOK n x.h
  lib : LibOnly x.h
  live : ∀ id a, x.addrOf id = some a → ∃ t, x.h.w.get a = some t
  inj : ∀ id id' a, x.addrOf id = some a → x.addrOf id' = some a → id = id'

theorem decls_of_get {x : AHeap} {id a : Nat} {t : TypeRec} (ha : x.addrOf id = some a) (hget : x.h.w.get a = some t) :
    x.decls id = some (t.sentinel, declared t.entries) := by
  simp [AHeap.decls, ha, Heap.abs, hget]

theorem decls_none {x : AHeap} {id : Nat} (ha : x.addrOf id = none) : x.decls id = none := by
  simp [AHeap.decls, ha]

theorem addrOf_cons (x : AHeap) (id addr i : Nat) (g : List (Nat × Nat)) (h : Heap) :
    ({ h := h, loc := (id, addr) :: x.loc, gen := g } : AHeap).addrOf i = if i = id then some addr else x.addrOf i := by
  unfold AHeap.addrOf
  by_cases hi : i = id
  · subst hi; simp
  · have hi' : ¬ id = i := fun e => hi e.symm
    simp [hi, hi']

theorem addrOf_filter (x : AHeap) (id i : Nat) (h : Heap) :
    ({ x with h := h, loc := x.loc.filter (fun p => p.1 ≠ id) } : AHeap).addrOf i = if i = id then none else x.addrOf i := by
  unfold AHeap.addrOf
  simp only
  rw [find_filter_ne]
  split <;> rfl

theorem construct_fresh {L : Layout} {h : Heap} (hl : LibOnly h) {addr : Nat} (hget : h.w.get addr = none) (name : String)
    {es : List (String × Inst)} (hbig : ¬ es.length > L.maxInstances) :
    h.construct L addr name es =
      ({ w := h.w.put addr (mkType L.cacheNum true es false), names := (addr, name) :: h.names.filter (fun p => p.1 ≠ addr) }, .ok ()) := by
  simp only [Heap.construct, hbig, if_false, hget, retarget_safe (nameWriteSafe_of_libOnly hl addr name)]

theorem construct_big {L : Layout} (h : Heap) (addr : Nat) (name : String) {es : List (String × Inst)}
    (hbig : es.length > L.maxInstances) : h.construct L addr name es = (h, .raised .OutOfMemoryError) := by
  simp only [Heap.construct, hbig, if_true]

theorem AOK.put {n : Nat} {x : AHeap} (hok : AOK n x) {cls : Cls} (hc : cls.id = 0) {a : Nat} {t t' : TypeRec}
    (hget : x.h.w.get a = some t) (hr : RecStep x.h.w.slots n cls t t') :
    AHeap.decls { x with h := { x.h with w := x.h.w.put a t' } } = x.decls ∧
      AOK n { x with h := { x.h with w := x.h.w.put a t' } } := by
  have hst := WStep.put hget hr
  refine ⟨?_, hok.hok.wstep hst (Or.inl hc),
    hok.lib.put hget (fun c h => (hr.2.2 c h).imp_right (fun (e : c = cls) => e ▸ hc)), ?_, hok.inj⟩
  · show (fun i => (x.addrOf i).bind fun a => (Heap.abs { x.h with w := _ }).decl a) = _
    rw [abs_wstep hok.hok hst]
    rfl
  · intro i b hb
    obtain ⟨t1, ht1⟩ := hok.live i b hb
    obtain ⟨t2, ht2, _⟩ := (hst.2.2 b).2 t1 ht1
    exact ⟨t2, ht2⟩

/-- **one operation of a history over ids**: it answers what the address-free spec says, the spec state after it describes
    the heap after it, the invariant survives -/
theorem AHeap.step_spec {L : Layout} {x : AHeap} (hs : SlotsOK x.h.w.slots L.cacheNum) (hok : AOK L.cacheNum x) (op : AOp)
    (hal : ∀ id addr name es, op = .create id addr name es → x.h.w.get addr = none) :
    (x.step L op).2 = op.erase.obs L.maxInstances x.decls ∧
    (x.step L op).1.decls = op.erase.next L.maxInstances x.decls ∧
    AOK L.cacheNum (x.step L op).1 ∧ (x.step L op).1.h.w.slots = x.h.w.slots := by
  cases op with
  | use id way c =>
    simp only [AHeap.step, AOp.erase, EOp.obs, EOp.next]
    cases ha : x.addrOf id with
    | none => simp only [decls_none ha]; exact ⟨trivial, trivial, hok, trivial⟩
    | some a =>
      obtain ⟨t, hget⟩ := hok.live id a ha
      simp only [hget, decls_of_get ha hget, useW_fst, lookW_eq hget]
      have sp := hok.put (cls := ⟨0, c⟩) rfl hget (look_recStep hs t way.asLook ⟨0, c⟩)
      exact ⟨useW_spec hs hget (hok.hok.inv a t hget) way ⟨0, c⟩, sp.1, sp.2, put_slots _ _ _⟩
  | reset id =>
    simp only [AHeap.step, AOp.erase, EOp.obs, EOp.next]
    cases ha : x.addrOf id with
    | none => simp only [decls_none ha]; exact ⟨rfl, trivial, hok, trivial⟩
    | some a =>
      obtain ⟨t, hget⟩ := hok.live id a ha
      simp only [hget, decls_of_get ha hget]
      have sp := hok.put (cls := castClsLib) rfl hget (reset_recStep _ _ _ t)  -- dummy class, as in `Heap.step_spec`
      exact ⟨rfl, sp.1, sp.2, put_slots _ _ _⟩
  | create id addr name es =>
    simp only [AHeap.step, AOp.erase, EOp.obs, EOp.next]
    cases ha : x.addrOf id with
    | some a =>
      obtain ⟨t, hget⟩ := hok.live id a ha
      simp only [Option.isSome_some, Bool.true_or, if_true, decls_of_get ha hget]
      exact ⟨trivial, trivial, hok, trivial⟩
    | none =>
      have hga : x.h.w.get addr = none := hal id addr name es rfl
      simp only [hga, Option.isSome_none, Bool.or_false, decls_none ha, Bool.false_eq_true, if_false, Bool.false_or]
      by_cases hbig : es.length > L.maxInstances
      · simp only [construct_big x.h addr name hbig, hbig, if_true, decide_true]
        exact ⟨trivial, trivial, hok, trivial⟩
      · rw [construct_fresh hok.lib hga name hbig]
        simp only [hbig, if_false, decide_false, Bool.false_eq_true]
        -- no `cls` word holds a run-time address, so the new name meets no memoised pointer
        have up := hok.hok.update
          (h' := ⟨x.h.w.put addr _, (addr, name) :: x.h.names.filter (fun p => p.1 ≠ addr)⟩)
          (r := some (mkType L.cacheNum true es false)) (nm := some name)
          (put_slots _ _ _) (get_put x.h.w addr · _) (nameAt_cons_filter x.h.names addr name)
          (fun t e => by cases e; exact ⟨mkType_inv _ _ _ _ _, memosOf_mkType _ _ _ _⟩)
          (fun b t hb c hc hid => absurd (hok.lib _ (mem_of_get hb) c hc) (by omega))
        -- no id names the address: nothing lives there
        have hne : ∀ i b, x.addrOf i = some b → b ≠ addr := by
          intro i b hb e
          obtain ⟨t', ht'⟩ := hok.live i b hb
          rw [e, hga] at ht'; cases ht'
        refine ⟨trivial, ?_, ⟨up.1, ?_, ?_, ?_⟩, put_slots _ _ _⟩
        · funext i
          simp only [AHeap.decls, addrOf_cons, up.2]
          split
          · simp only [Option.bind_some, if_true, Option.map_some, declared_mkType]; rfl
          · cases hb : x.addrOf i with
            | none => rfl
            | some b => simp only [Option.bind_some, if_neg (hne i b hb)]
        · intro p hp c hc
          rcases mem_put hp with h1 | h1
          · exact hok.lib p h1 c hc
          · subst h1; rw [memosOf_mkType] at hc; cases hc
        · intro i b hb
          rw [addrOf_cons] at hb
          rw [get_put]
          split at hb
          · cases hb; exact ⟨_, if_pos rfl⟩
          · rw [if_neg (hne i b hb)]; exact hok.live i b hb
        · intro i i' b hb hb'
          rw [addrOf_cons] at hb hb'
          split at hb <;> split at hb'
          · next hi hi' => rw [hi, hi']
          · cases hb; exact absurd rfl (hne i' _ hb')
          · cases hb'; exact absurd rfl (hne i _ hb)
          · exact hok.inj i i' b hb hb'
  | delete id =>
    simp only [AHeap.step, AOp.erase, EOp.obs, EOp.next]
    cases ha : x.addrOf id with
    | none => simp only [decls_none ha]; exact ⟨rfl, by funext i; by_cases hi : i = id <;> simp [hi, decls_none ha], hok, trivial⟩
    | some a =>
      obtain ⟨t, hget⟩ := hok.live id a ha
      simp only [decls_of_get ha hget]
      have up := hok.hok.update (h' := x.h.delete a) (r := none) (nm := none) rfl (get_delete x.h a)
        (nameAt_delete x.h a) (fun t e => by cases e) (fun _ _ _ _ _ _ => Or.inr rfl)
      -- no other id names the address
      have hne : ∀ i b, i ≠ id → x.addrOf i = some b → b ≠ a := fun i b hi hb e => hi (hok.inj i id a (e ▸ hb) ha)
      refine ⟨rfl, ?_, ⟨up.1, ?_, ?_, ?_⟩, rfl⟩
      · funext i
        simp only [AHeap.decls, addrOf_filter, up.2]
        split
        · rfl
        · next hi =>
          cases hb : x.addrOf i with
          | none => rfl
          | some b => simp only [Option.bind_some, if_neg (hne i b hi hb)]
      · intro p hp c hc
        exact hok.lib p (List.mem_filter.mp hp).1 c hc
      · intro i b hb
        rw [addrOf_filter] at hb
        split at hb
        · cases hb
        · next hi => rw [get_delete, if_neg (hne i b hi hb)]; exact hok.live i b hb
      · intro i i' b hb hb'
        rw [addrOf_filter] at hb hb'
        split at hb
        · cases hb
        · split at hb'
          · cases hb'
          · exact hok.inj i i' b hb hb'

theorem AHeap.allocOK_cons (L : Layout) (x : AHeap) (op : AOp) (ops : List AOp) :
    AHeap.allocOK L x (op :: ops) =
      ((match op with | .create _ addr _ _ => (x.h.w.get addr).isNone | _ => true) && AHeap.allocOK L (x.step L op).1 ops) := rfl

theorem AHeap.run_spec {L : Layout} : ∀ (ops : List AOp) (x : AHeap), SlotsOK x.h.w.slots L.cacheNum → AOK L.cacheNum x →
    AHeap.allocOK L x ops = true →
      (AHeap.run L x ops).2 = specIds L.maxInstances x.decls (ops.map AOp.erase) ∧ AOK L.cacheNum (AHeap.run L x ops).1
  | [], _, _, hok, _ => ⟨rfl, hok⟩
  | op :: ops, x, hs, hok, hal => by
    rw [AHeap.allocOK_cons, Bool.and_eq_true] at hal
    have hal1 : ∀ id addr name es, op = .create id addr name es → x.h.w.get addr = none := by
      intro id addr name es e
      have := hal.1
      rw [e] at this
      simpa using this
    obtain ⟨hobs, hnext, hok', hsl⟩ := AHeap.step_spec hs hok op hal1
    have hs' : SlotsOK (x.step L op).1.h.w.slots L.cacheNum := by rw [hsl]; exact hs
    have ih := AHeap.run_spec ops (x.step L op).1 hs' hok' hal.2
    simp only [AHeap.run, List.map_cons, specIds]
    rw [hobs, ih.1, hnext]
    exact ⟨rfl, ih.2⟩

theorem aok_of_okb {n : Nat} {x : AHeap} (hb : x.okb n = true) : AOK n x := by
  simp only [AHeap.okb, Bool.and_eq_true, List.all_eq_true, beq_iff_eq] at hb
  obtain ⟨⟨⟨⟨h1, h2⟩, h3⟩, _⟩, h5⟩ := hb   -- ids once in `loc`: not needed, `addrOf` is a `find?`
  have hmem : ∀ id a, x.addrOf id = some a → (id, a) ∈ x.loc := fun _ _ ha => mem_of_find_key ha
  refine ⟨heapOK_of_okb h1, fun p hp c hc => h2 p hp c hc, ?_, ?_⟩
  · intro id a ha
    have := h3 _ (hmem id a ha)
    simp only at this
    cases hg : x.h.w.get a with
    | none => rw [hg] at this; cases this
    | some t => exact ⟨t, rfl⟩
  · intro id id' a ha ha'
    have m1 := hmem id a ha
    have m2 := hmem id' a ha'
    have hlen := h5 a (List.mem_map.mpr ⟨(id, a), m1, rfl⟩)
    -- both pairs survive the filter on the address; the filtered list has one element
    have f1 : (id, a) ∈ x.loc.filter (fun p => p.2 = a) := List.mem_filter.mpr ⟨m1, by simp⟩
    have f2 : (id', a) ∈ x.loc.filter (fun p => p.2 = a) := List.mem_filter.mpr ⟨m2, by simp⟩
    cases hl : x.loc.filter (fun p => p.2 = a) with
    | nil => rw [hl] at f1; cases f1
    | cons q rest =>
      rw [hl] at hlen f1 f2
      cases rest with
      | nil =>
        simp only [List.mem_singleton] at f1 f2
        have := f1.trans f2.symm
        exact (Prod.mk.inj this).1
      | cons q' rest' => simp at hlen

end Cello.Dispatch
