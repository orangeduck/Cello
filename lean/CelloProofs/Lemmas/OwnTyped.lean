/-
  CelloProofs/Lemmas/OwnTyped.lean — C05: calls with a wrong-typed element / key / value (`Op.typed`, `stepTyped` of
  Cello/Own.lean) at the level of one container: what a type-refused call constructs and finalises, and that it
  conserves identities.
-/
import CelloProofs.Lemmas.OwnMap

namespace Cello.Own

theorem refused_spec (xs : List Tok) (e : Exc) (next : Nat) :
    let r := refused xs e
    Conserves xs r.val r.issued r.retired ∧ FreshFrom next r.issued :=
  ⟨.refl _, fresh_nil _⟩

theorem refusedKV_spec (kvs : List KV) (e : Exc) (next : Nat) :
    let r := refused kvs e
    Conserves (kvToks kvs) (kvToks r.val) r.issued r.retired ∧ FreshFrom next r.issued :=
  ⟨.refl _, fresh_nil _⟩

theorem refused_inert {α : Type} (x : α) (e : Exc) : (refused x e).val = x ∧ (refused x e).issued = [] ∧
    (refused x e).retired = [] ∧ (refused x e).updated = [] ∧ (refused x e).out = .raised e := ⟨rfl, rfl, rfl, rfl, rfl⟩

theorem goodPrefix_of_allGood {args : List Arg} (h : allGood args = true) : (goodPrefix args).2 = none := by
  simpa [allGood] using h

theorem goodPrefix_of_wrong {args : List Arg} (h : allGood args = false) : ∃ n, (goodPrefix args).2 = some n :=
  Option.isSome_iff_exists.mp (by simpa [allGood] using h)

theorem listPushAtWrong_refused (xs : List Tok) (i : Int) :
    ∃ e, listPushAtWrong xs i = refused xs e := by
  simp only [listPushAtWrong]
  by_cases hi : i = 0
  · simp only [hi, if_true]; exact ⟨_, rfl⟩
  · simp only [hi, if_false]
    generalize (if i < 0 then (xs.length : Int) + i else i) = j
    by_cases hb : j < 0 ∨ j ≥ (xs.length : Int)
    · simp only [hb, if_true]; exact ⟨_, rfl⟩
    · simp only [hb, if_false]; exact ⟨_, rfl⟩

theorem seqSetWrong_refused (xs : List Tok) (i : Int) : ∃ e, seqSetWrong xs i = refused xs e := by
  simp only [seqSetWrong]
  generalize (if i < 0 then (xs.length : Int) + i else i) = j
  by_cases hb : j < 0 ∨ j ≥ (xs.length : Int)
  · simp only [hb, if_true]; exact ⟨_, rfl⟩
  · simp only [hb, if_false]; exact ⟨_, rfl⟩

/-- Array_Push_At with a wrong-typed element: when it is the bounds check that refuses (it runs before `nitems++`), the
    call has changed nothing; `typedAtomic` tests for this outcome -/
theorem arrayPushAtWrong_oob {xs : List Tok} {i : Int}
    (h : ((arrayPushAtWrong xs i).out == Outcome.raised .indexOutOfBounds) = true) :
    arrayPushAtWrong xs i = refused xs .indexOutOfBounds := by
  simp only [arrayPushAtWrong] at h ⊢
  generalize (if i < 0 then (xs.length : Int) + 1 + i else i) = j at h ⊢
  by_cases hb : j < 0 ∨ j > (xs.length : Int)
  · simp only [hb, if_true]
  · simp [hb] at h

theorem mapSetArgs_refused {mk : MapKind} {next : Nat} {kvs : List KV} {k v : Arg}
    (h : ¬ ∃ a b, k = .pay a ∧ v = .pay b) : mapSetArgs mk next kvs k v = refused kvs .valueError := by
  cases k <;> cases v <;> first | rfl | (exfalso; exact h ⟨_, _, rfl, rfl⟩)

theorem listConcatArgs_spec (next : Nat) (xs : List Tok) (args : List Arg) :
    let r := listConcatArgs next xs args
    Conserves xs r.val r.issued r.retired ∧ FreshFrom next r.issued := by
  simp only [listConcatArgs]
  split <;> exact ⟨.issue (.refl _), fresh_mkFresh _ _⟩

theorem arrayConcatArgs_good_spec (next : Nat) (xs : List Tok) (args : List Arg) (h : allGood args = true) :
    let r := arrayConcatArgs next xs args
    Conserves xs r.val r.issued r.retired ∧ FreshFrom next r.issued ∧ r.out = .ok := by
  simp only [arrayConcatArgs, goodPrefix_of_allGood h]
  exact ⟨.issue (.refl _), fresh_mkFresh _ _, trivial⟩

theorem listConcatArgs_first_wrong (next : Nat) (xs : List Tok) (args : List Arg)
    (h : (goodPrefix args).1.isEmpty = true) (hr : (listConcatArgs next xs args).out ≠ .ok) :
    listConcatArgs next xs args = refused xs .valueError := by
  have h1 : (goodPrefix args).1 = [] := by simpa using h
  simp only [listConcatArgs, h1, mkFresh] at hr ⊢
  split
  · rename_i h2; simp [h2] at hr
  · simp [refused]

theorem listConcatArgs_good_ok (next : Nat) (xs : List Tok) (args : List Arg) (h : allGood args = true) :
    (listConcatArgs next xs args).out = .ok := by
  simp [listConcatArgs, goodPrefix_of_allGood h]

/-- `Conserves [] []`: what is finalised when the half-built container is reclaimed is what was constructed -/
theorem listNewRefused_spec (next : Nat) (args : List Arg) :
    let r := listNewRefused next args
    Conserves [] [] r.issued r.retired ∧ FreshFrom next r.issued ∧ r.retired = r.issued ∧ r.updated = [] := by
  exact ⟨.of_perm (.refl _), fresh_mkFresh _ _, rfl, rfl⟩

theorem mapNewRefused_spec (mk : MapKind) (next : Nat) (args : List (Arg × Arg)) (hn : 0 < next) :
    let r := mapNewRefused mk next args
    Conserves [] [] r.issued r.retired ∧ FreshFrom next r.issued := by
  simp only [mapNewRefused]
  obtain ⟨hc, hf⟩ := mapSetMany_spec mk (goodPairs args).1 next [] hn (by simp)
  exact ⟨by simpa using hc.trans (conserves_clear _), hf⟩

end Cello.Own
