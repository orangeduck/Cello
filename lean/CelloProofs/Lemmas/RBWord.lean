/-
  Lemmas/RBWord.lean — what the zipper model needs of the parent-and-colour word (Cello/RBTreeWord.lean): the four accessors
  implement a pair (parent address, colour) in one word, for even addresses.
-/
import Cello.RBTreeWord

namespace Cello.RB

structure PWordLaws (getP : Nat → Nat) (getC : Nat → Bool) (setP : Nat → Nat → Nat) (setC : Nat → Bool → Nat) : Prop where
  getParent : ∀ a c, a % 2 = 0 → getP (encodeW a c) = a
  getColor : ∀ a c, a % 2 = 0 → getC (encodeW a c) = decide (c = .R)
  /-- `Tree_Set_Parent` replaces the parent and KEEPS the colour -/
  setParent : ∀ a c p, a % 2 = 0 → p % 2 = 0 → setP (encodeW a c) p = encodeW p c
  /-- `Tree_Set_Color` replaces the colour and KEEPS the parent -/
  setColor : ∀ a c c', a % 2 = 0 → setC (encodeW a c) (decide (c' = .R)) = encodeW a c'

theorem encodeW_low {a : Nat} (h : a % 2 = 0) (c : Color) : encodeW a c % 2 = if c = .R then 1 else 0 := by
  cases c
  · show (a + 1) % 2 = 1; rw [Nat.add_mod, h]
  · exact h

theorem encodeW_high {a : Nat} (h : a % 2 = 0) (c : Color) : encodeW a c - encodeW a c % 2 = a := by
  rw [encodeW_low h c]; cases c
  · exact Nat.add_sub_cancel (n := a) (m := 1)
  · rfl

theorem linkTable_faithful {α β : Type} (h : PWordLaws getParentW getColorW setParentW setColorW) (t : T α β) :
    linkTable t = (nodesPre t 0 0).1 := by
  have even : ∀ (t : T α β) (p n : Nat), p % 2 = 0 → ∀ e ∈ (nodesPre t p n).1, e.2.2.1 % 2 = 0 := by
    intro t
    induction t with
    | nil => intro p n _ e he; simp [nodesPre] at he
    | node c l k v r ihl ihr =>
      intro p n hp e he
      simp only [nodesPre, List.mem_cons, List.mem_append] at he
      rcases he with rfl | he | he
      · exact hp
      · exact ihl _ _ (Nat.mod_eq_zero_of_dvd ⟨8 * (n + 1), Nat.mul_assoc 2 8 _⟩) e he
      · exact ihr _ _ (Nat.mod_eq_zero_of_dvd ⟨8 * (n + 1), Nat.mul_assoc 2 8 _⟩) e he
  have alloc : allocW = encodeW 0 .R := by
    have h0 : (0 : Nat) = encodeW 0 .B := rfl
    unfold allocW
    rw [show setParentW 0 0 = encodeW 0 .B from by
      have := h.setParent 0 .B 0 rfl rfl; rwa [← h0] at this]
    exact h.setColor 0 .B .R rfl
  unfold linkTable
  conv => rhs; rw [← List.map_id (nodesPre t 0 0).1]
  apply List.map_congr_left
  intro e he
  obtain ⟨k, me, p, c⟩ := e
  have hp : p % 2 = 0 := even t 0 0 rfl _ he
  simp only [id]
  rw [alloc, h.setParent 0 .R p rfl hp, h.setColor p .R c hp, h.getParent p c hp]
  simp only [colorOfW, h.getColor p c hp]
  cases c <;> simp

end Cello.RB
