/-
  Lemmas for C10: what `swap` and `sort` do, given a `memswap` that exchanges equally long byte strings (that the one of the
  source does is `C10_memswap_exchanges`, Props/C10.lean; nothing here looks into the program).
-/
import Cello.Hash
import CelloProofs.Lemmas.HashVal

namespace Cello.Hash

variable {α : Type}

theorem tagBytes_length (side : Bool) (n : Nat) : (tagBytes side n).length = n := by simp [tagBytes]

/-- the bytes of the two tagged objects differ at every position -/
theorem tagBytes_drop_eq_iff (n d : Nat) : (tagBytes false n).drop d = (tagBytes true n).drop d ↔ n ≤ d := by
  simp only [tagBytes, ← List.map_drop, List.map_inj_left, Prod.mk.injEq, Bool.false_eq_true, false_and]
  rw [← List.eq_nil_iff_forall_not_mem, List.drop_eq_nil_iff, List.length_range]

/-- the two values are of one type (`sameStruct`: what `swap` tests before it calls `memswap`; anything else raises TypeError) —
    two scalars of one scalar type, two Arrays, two Lists, two Tuples, two Tables, two Trees — other than Type objects (static
    tables of instances, not swapped in this engine); two plain structs hold equally many bytes -/
def SwapCompatible (x y : Val) : Prop :=
  sameStruct x y = true ∧
  match x, y with
  | .sc (.raw _ bx), .sc (.raw _ by') => bx.length = by'.length
  | .sc (.typ _), _ => False
  | _, _ => True

/-- when `memswap` exchanges equally long byte strings (of any type: a struct that is not plain bytes is followed by position,
    `tagBytes`), `swap` exchanges values -/
theorem swapVals_exchanges
    (hsrc : ∀ {β : Type} (x y : List β), x.length = y.length → memswapSrc x y = some (y, x))
    (x y : Val) (hc : SwapCompatible x y) : swapVals x y = some (y, x) := by
  have htag : ∀ n, memswapSrc (tagBytes false n) (tagBytes true n) = some (tagBytes true n, tagBytes false n) :=
    fun n => hsrc _ _ (by rw [tagBytes_length, tagBytes_length])
  unfold swapVals
  split
  · rename_i k bx k' by'
    obtain ⟨hs, hl⟩ := hc
    have hk : k = k' := by simpa [sameStruct, Scalar.ty] using hs
    subst hk
    rw [hsrc bx by' hl]; rfl
  · dsimp only; rw [htag]; simp

theorem swapChecked_exchanges
    (hsrc : ∀ {β : Type} (x y : List β), x.length = y.length → memswapSrc x y = some (y, x))
    (x y : Val) (hc : SwapCompatible x y) : swapChecked x y = .ok (y, x) := by
  unfold swapChecked
  rw [hc.1, swapVals_exchanges hsrc x y hc]; rfl

theorem sameStruct_hasBuffer (x y : Val) (h : sameStruct x y = true) : x.hasBuffer = y.hasBuffer := by
  cases x <;> cases y <;> simp only [sameStruct, Bool.false_eq_true] at h <;> try rfl
  cases SameTy.of_ty (beq_iff_eq.mp h) <;> rfl

theorem swapChecked_typeError (x y : Val) (h : sameStruct x y = false) : swapChecked x y = .error .typeError := by
  unfold swapChecked; simp [h]

def ExchOn (swp : α → α → Option (α × α)) (a : Array α) : Prop := ∀ x y, x ∈ a → y ∈ a → swp x y = some (y, x)

-- `a0`: the Array a run starts from. Every Array of the run is a permutation of it, so bounds and `ExchOn` are asked of `a0` alone.
variable {swp : α → α → Option (α × α)} {f : α → α → Bool} {a0 : Array α}

theorem swapAt_ok {arr : Array α} {i j : Nat} (hsw : ExchOn swp a0) (p : arr.Perm a0) (hi : i < a0.size) (hj : j < a0.size) :
    ∃ arr', swapAt swp arr i j = some arr' ∧ arr'.Perm a0 := by
  rw [← p.size_eq] at hi hj
  unfold swapAt
  by_cases hij : i = j
  · exact ⟨arr, by simp [hij], p⟩
  · simp only [hij, if_false, Array.getElem?_eq_getElem hi, Array.getElem?_eq_getElem hj,
      hsw arr[i] arr[j] (p.mem_iff.mp (Array.getElem_mem hi)) (p.mem_iff.mp (Array.getElem_mem hj)), Option.map_some]
    refine ⟨_, rfl, ?_⟩
    have : (arr.setIfInBounds i arr[j]).setIfInBounds j arr[i] = arr.swap i j hi hj := by
      simp [Array.swap_def, Array.setIfInBounds, hi, hj]
    rw [this]
    exact (Array.swap_perm hi hj).trans p

theorem partLoopW_ok {r : Nat} (hsw : ExchOn swp a0) (hr : r < a0.size) :
    ∀ (n i : Nat) (a : Array α) (s : Nat), a.Perm a0 → s ≤ i → i + n = r →
      ∃ a' s', partLoopW swp f r n i a s = some (a', s') ∧ a'.Perm a0 ∧ s ≤ s' ∧ s' ≤ s + n := by
  intro n
  induction n with
  | zero => intro i a s p _ _; exact ⟨a, s, rfl, p, Nat.le_refl _, Nat.le_refl _⟩
  | succ n ih =>
    intro i a s p hsi hin
    have hr' : r < a.size := p.size_eq ▸ hr
    have hi : i < a.size := by omega
    simp only [partLoopW, Array.getElem?_eq_getElem hi, Array.getElem?_eq_getElem hr']
    by_cases hf : f a[i] a[r] = true
    · simp only [hf, if_true]
      obtain ⟨a1, e1, p1⟩ := swapAt_ok (i := i) (j := s) hsw p (by omega) (by omega)
      rw [e1]
      simp only [Option.bind_some]
      obtain ⟨a', s', e', p', h1, h2⟩ := ih (i + 1) a1 (s + 1) p1 (by omega) (by omega)
      exact ⟨a', s', e', p', by omega, by omega⟩
    · simp only [hf, Bool.false_eq_true, if_false]
      obtain ⟨a', s', e', p', h1, h2⟩ := ih (i + 1) a s p (by omega) (by omega)
      exact ⟨a', s', e', p', h1, by omega⟩

theorem partitionW_ok {a : Array α} {l r : Nat} (hsw : ExchOn swp a0) (p : a.Perm a0) (hlr : l ≤ r) (hr : r < a0.size) :
    ∃ a' s, partitionW swp f a l r = some (a', s) ∧ a'.Perm a0 ∧ l ≤ s ∧ s ≤ r := by
  unfold partitionW
  obtain ⟨a1, e1, p1⟩ := swapAt_ok (i := l + (r - l) / 2) (j := r) hsw p (by omega) hr
  rw [e1]
  simp only [Option.bind_some]
  obtain ⟨a2, s, e2, p2, h1, h2⟩ := partLoopW_ok (f := f) hsw hr (r - l) l a1 l p1 (Nat.le_refl _) (by omega)
  rw [e2]
  simp only [Option.bind_some]
  obtain ⟨a3, e3, p3⟩ := swapAt_ok (i := s) (j := r) hsw p2 (by omega) hr
  rw [e3]
  exact ⟨a3, s, rfl, p3, h1, by omega⟩

theorem sortPartW_ok (hsw : ExchOn swp a0) :
    ∀ (fuel : Nat) (a : Array α) (l r : Nat), a.Perm a0 → (l < r → r < a0.size) → r - l < fuel →
      ∃ a', sortPartW swp f fuel a l r = some a' ∧ a'.Perm a0 := by
  intro fuel
  induction fuel with
  | zero => intro a l r _ _ hf; omega
  | succ fuel ih =>
    intro a l r p hr hf
    simp only [sortPartW]
    by_cases hlr : l < r
    · simp only [hlr, if_true]
      obtain ⟨a1, s, e1, p1, h1, h2⟩ := partitionW_ok (f := f) hsw p (Nat.le_of_lt hlr) (hr hlr)
      rw [e1]
      simp only [Option.bind_some]
      obtain ⟨a2, e2, p2⟩ := ih a1 l (s - 1) p1 (fun _ => by have := hr hlr; omega) (by omega)
      rw [e2]
      simp only [Option.bind_some]
      exact ih a2 (s + 1) r p2 (fun _ => hr hlr) (by omega)
    · simp only [hlr, if_false]
      exact ⟨a, rfl, p⟩

/-- `sort` with an element swap that exchanges ends — no access outside the Array — in a permutation of the items -/
theorem sortW_perm {swp : α → α → Option (α × α)} (f : α → α → Bool) (items : List α)
    (hsw : ∀ x y, x ∈ items → y ∈ items → swp x y = some (y, x)) :
    ∃ out, sortW swp f items = some out ∧ out.Perm items := by
  unfold sortW
  obtain ⟨a', e, p⟩ := sortPartW_ok (f := f) (a0 := items.toArray) (fun x y hx hy => hsw x y (by simpa using hx) (by simpa using hy))
    (items.length + 1) _ 0 (items.length - 1) (Array.Perm.refl _) (fun h => by simp only [List.size_toArray]; omega) (by omega)
  rw [e]
  exact ⟨a'.toList, rfl, by simpa [Array.perm_iff_toList_perm] using p⟩

end Cello.Hash
