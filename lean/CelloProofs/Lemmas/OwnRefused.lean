/-
  CelloProofs/Lemmas/OwnRefused.lean — C05: calls with a wrong-typed argument (`Op.typed`): an executed one always raises,
  and outside `typedAtomic` it does leave something behind.
-/
import CelloProofs.Lemmas.OwnStep

namespace Cello.Own
open List

def TCall.hasWrong : TCall → Bool
  | .push _ => true | .pushAt _ _ => true | .set _ _ => true | .rem _ => true | .mrem _ => true
  | .concat args => !allGood args
  | .mset (.pay _) (.pay _) => false
  | .mset _ _ => true
  | .newSeq _ args => !allGood args
  | .newMap _ args => !(goodPairs args).2

def TCall.isCtor : TCall → Bool
  | .newSeq _ _ => true
  | .newMap _ _ => true
  | _ => false

theorem Op.isTypedCtor_typed (c : Nat) (t : TCall) : (Op.typed c t).isTypedCtor = t.isCtor := by cases t <;> rfl

theorem typed_wrong_refused {w : World} {c : Nat} {t : TCall} (hw : t.hasWrong = true)
    (hb : (step w (.typed c t)).2.bad = false) : (step w (.typed c t)).2.out ≠ .ok := by
  -- in every branch `bad` computes to `true` (`nofun`) or the outcome to a `raised` (`fun _ => nofun`)
  revert hb
  dsimp only [step]
  fun_cases stepTyped w c t
  -- push
  next => exact fun _ => nofun
  next => exact fun _ => nofun
  next => exact nofun
  -- pushAt
  next i _ xs hl =>
    rw [commitSeq_out]
    simp only [arrayPushAtWrong]
    generalize (if i < 0 then (xs.length : Int) + 1 + i else i) = j
    split <;> exact fun _ => nofun
  next i _ xs hl =>
    obtain ⟨e, he⟩ := listPushAtWrong_refused xs i
    rw [he]; exact fun _ => nofun
  next => exact nofun
  -- set, rem
  next i _ k xs hl =>
    obtain ⟨e, he⟩ := seqSetWrong_refused xs i
    rw [he]; exact fun _ => nofun
  next => exact nofun
  next => exact fun _ => nofun
  next => exact nofun
  -- concat
  next args xs hl =>
    obtain ⟨n, hn⟩ := goodPrefix_of_wrong (by simpa [TCall.hasWrong] using hw)
    rw [commitSeq_out]; simp only [arrayConcatArgs, hn]; exact fun _ => nofun
  next args xs hl =>
    obtain ⟨n, hn⟩ := goodPrefix_of_wrong (by simpa [TCall.hasWrong] using hw)
    rw [commitSeq_out]; simp only [listConcatArgs, hn]; exact fun _ => nofun
  next => exact nofun
  -- mset, mrem
  next k v mk kvs hl =>
    have hg : ¬ ∃ a b, k = .pay a ∧ v = .pay b := by
      rintro ⟨a, b, rfl, rfl⟩; simp [TCall.hasWrong] at hw
    rw [mapSetArgs_refused hg]; exact fun _ => nofun
  next => exact nofun
  next => exact fun _ => nofun
  next => exact nofun
  -- newSeq, newMap
  next => exact nofun
  next k args _ hg _ => simp [TCall.hasWrong, hg] at hw
  next => exact fun _ => nofun
  next => exact fun _ => nofun
  next => exact nofun
  next k args _ hg => simp [TCall.hasWrong, hg] at hw
  next => exact fun _ => nofun

def TypedNoEffect (w : World) (t : TCall) (res : World × Obs) : Prop :=
  (∀ e, lookup res.1.objs e = lookup w.objs e) ∧
  ((res.2.issued = [] ∧ res.2.retired = []) ∨ (t.isCtor = true ∧ ids res.2.retired ~ ids res.2.issued))

theorem seq_changed {w : World} {c : Nat} {k : SeqKind} {ek : ElemKind} {xs : List Tok} {r : Res (List Tok)} {tl : List Nat}
    {wb : Bool} (hl : lookup w.objs c = some (.seq k ek xs)) (hlen : r.val.length ≠ xs.length) :
    ¬ ∀ e, lookup (commitSeq w c k ek r tl wb).1.objs e = lookup w.objs e := by
  intro h
  have := h c
  rw [commitSeq_lookup_self, hl] at this
  simp only [Option.some.injEq, Cont.seq.injEq, true_and] at this
  exact hlen (by rw [this])

/-- outside `typedAtomic`, an executed call with a wrong-typed argument changes its receiver, or constructs elements it
    does not finalise again although it is refused, or runs destructors on records it never constructed -/
theorem typed_not_atomic_effect {w : World} {c : Nat} {t : TCall} (hw : t.hasWrong = true)
    (hb : (step w (.typed c t)).2.bad = false) (hat : typedAtomic w c t = false) :
    ¬ TypedNoEffect w t (step w (.typed c t)) := by
  revert hb
  dsimp only [step]
  fun_cases stepTyped w c t
  -- push
  next xs hl => exact fun _ h => seq_changed hl (by simp [arrayPushWrong]) h.1
  next xs hl => simp [typedAtomic, hl] at hat
  next => exact nofun
  -- pushAt
  next i _ xs hl =>
    refine fun _ h => seq_changed hl ?_ h.1
    simp only [typedAtomic, hl] at hat
    simp only [arrayPushAtWrong] at hat ⊢
    generalize (if i < 0 then (xs.length : Int) + 1 + i else i) = j at hat ⊢
    by_cases hbd : j < 0 ∨ j > (xs.length : Int)
    · simp [hbd, refused] at hat
    · simp only [hbd, if_false]
      have : j.toNat ≤ xs.length := by omega
      simp [List.length_insertIdx, this]
  next xs hl => simp [typedAtomic, hl] at hat
  next => exact nofun
  -- set, rem
  next => simp [typedAtomic] at hat
  next => exact nofun
  next => simp [typedAtomic] at hat
  next => exact nofun
  -- concat
  next args xs hl =>
    obtain ⟨n, hn⟩ := goodPrefix_of_wrong (by simpa [TCall.hasWrong] using hw)
    exact fun _ h => seq_changed hl (by simp [arrayConcatArgs, hn]) h.1
  next args xs hl =>
    obtain ⟨n, hn⟩ := goodPrefix_of_wrong (by simpa [TCall.hasWrong] using hw)
    have hne : (goodPrefix args).1 ≠ [] := by
      simp only [typedAtomic, hl, Bool.or_eq_false_iff] at hat
      intro he; simp [he] at hat
    refine fun _ h => seq_changed hl ?_ h.1
    simp only [listConcatArgs, hn, List.length_append, length_mkFresh]
    have : 0 < (goodPrefix args).1.length := List.length_pos_iff.mpr hne
    omega
  next => exact nofun
  -- mset, mrem
  next => simp [typedAtomic] at hat
  next => exact nofun
  next => simp [typedAtomic] at hat
  next => exact nofun
  -- newSeq
  next => exact nofun
  next k args _ hg _ => simp [TCall.hasWrong, hg] at hw
  next => simp [typedAtomic] at hat
  next args _ _ =>
    rintro - ⟨_, h | ⟨_, h⟩⟩
    · have := h.2
      simp [commit, arrayNewRefused] at this
    · have := h.length_eq
      simp [commit, arrayNewRefused, ids] at this
  -- newMap
  next => exact nofun
  next => simp [typedAtomic] at hat
  next => simp [typedAtomic] at hat

end Cello.Own
