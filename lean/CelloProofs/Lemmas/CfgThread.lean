import Cello.ConfigThread
/-!
  C18, objects that cross the end of a collector (model: Cello/ConfigThread.lean).  Under `SweepWired` no phase sequence of the
  collector (threshold collections with any reach set, the teardown of `GC_Del`) releases a block registered as a root, and blocks
  never registered (`new_raw`) are not the collector's to release (`workerRun_inv`); which blocks these are does not depend on the
  configuration (`workerRun_safe`).
-/
namespace Cello.Config.Thr
open CelloGen.Cfg

-- the one place `SweepWired` is consumed, and its first half only: the sweep spares a root whether or not the marker reached it
theorem sweepFrees_eq (hw : SweepWired) (e : E) : sweepFrees e = (!e.root && !e.marked) := by
  obtain ⟨r, mk⟩ := e
  have h := hw.1 r (by cases r <;> simp) mk (by cases mk <;> simp)
  simpa using h

/-- every entry of `r'` is an entry of `r` with the same block and the same root argument (mark bits may differ) -/
def Sub (r' r : Reg) : Prop := ∀ p ∈ r', ∃ q ∈ r, q.1 = p.1 ∧ q.2.root = p.2.root

theorem Sub.refl (r : Reg) : Sub r r := fun p hp => ⟨p, hp, rfl, rfl⟩

theorem Sub.trans {a b c : Reg} (h1 : Sub a b) (h2 : Sub b c) : Sub a c := by
  intro p hp
  obtain ⟨q, hq, e1, e2⟩ := h1 p hp
  obtain ⟨q', hq', e1', e2'⟩ := h2 q hq
  exact ⟨q', hq', e1'.trans e1, e2'.trans e2⟩

theorem unmarkE_root (e : E) : (unmarkE e).root = e.root := by
  unfold unmarkE; split <;> rfl

theorem unmark_sub (r : Reg) : Sub (unmark r) r := by
  intro p hp
  obtain ⟨q, hq, rfl⟩ := List.mem_map.mp hp
  exact ⟨q, hq, rfl, (unmarkE_root q.2).symm⟩

theorem mark_sub (reached : Nat → Bool) (r : Reg) : Sub (mark reached r) r := by
  have h1 : Sub (if gcMarkPrologue.contains "GC_Unmark" then unmark r else r) r := by
    split
    · exact unmark_sub r
    · exact Sub.refl r
  refine Sub.trans ?_ h1
  intro p hp
  unfold mark at hp
  obtain ⟨q, hq, rfl⟩ := List.mem_map.mp hp
  refine ⟨q, hq, ?_, ?_⟩ <;> (split <;> rfl)

theorem sweep_sub (r : Reg) : Sub (sweep r).1 r := by
  intro p hp
  obtain ⟨q, hq, rfl⟩ := List.mem_map.mp hp
  exact ⟨q, (List.mem_filter.mp hq).1, rfl, rfl⟩

theorem sweep_freed (hw : SweepWired) (r : Reg) : ∀ i ∈ (sweep r).2, ∃ q ∈ r, q.1 = i ∧ q.2.root = false := by
  intro i hi
  obtain ⟨q, hq, rfl⟩ := List.mem_map.mp hi
  obtain ⟨hm, hf⟩ := List.mem_filter.mp hq
  refine ⟨q, hm, rfl, ?_⟩
  rw [sweepFrees_eq hw] at hf
  cases hr : q.2.root
  · rfl
  · rw [hr] at hf; simp at hf

/-- what any sequence of collector phases preserves, relative to the registry `r0` it started from -/
structure PInv (r0 : Reg) (acc : Reg × List Nat) : Prop where
  sub : Sub acc.1 r0
  fr : ∀ i ∈ acc.2, ∃ q ∈ r0, q.1 = i ∧ q.2.root = false

theorem runPhase_inv (hw : SweepWired) (reached : Nat → Bool) {r0 : Reg} {acc : Reg × List Nat} (h : PInv r0 acc) (call : String) :
    PInv r0 (runPhase reached acc call) := by
  unfold runPhase
  split
  · exact ⟨Sub.trans (unmark_sub _) h.sub, h.fr⟩
  · split
    · exact ⟨Sub.trans (mark_sub _ _) h.sub, h.fr⟩
    · split
      · refine ⟨Sub.trans (sweep_sub _) h.sub, ?_⟩
        intro i hi
        rcases List.mem_append.mp hi with hi | hi
        · exact h.fr i hi
        · obtain ⟨q, hq, e1, e2⟩ := sweep_freed hw _ i hi
          obtain ⟨q', hq', e1', e2'⟩ := h.sub q hq
          exact ⟨q', hq', e1'.trans e1, e2'.trans e2⟩
      · exact h

theorem runPhases_inv (hw : SweepWired) (reached : Nat → Bool) (r0 : Reg) :
    ∀ (calls : List String) (acc : Reg × List Nat), PInv r0 acc → PInv r0 (calls.foldl (runPhase reached) acc)
  | [], _, h => h
  | c :: cs, _, h => runPhases_inv hw reached r0 cs _ (runPhase_inv hw reached h c)

/-- **no phase sequence releases a root**: whatever phases run, with whatever reach set, the registry afterwards is a part of
    the registry before (same blocks, same root arguments) and every released block had been registered without the root argument -/
theorem phases_inv (hw : SweepWired) (reached : Nat → Bool) (calls : List String) (r : Reg) : PInv r (phases reached calls r) :=
  runPhases_inv hw reached r calls (r, []) ⟨Sub.refl r, by intro i hi; cases hi⟩

/-- the invariant of a worker's state.  `freedUnsafe` is what the joiner needs; `safeRoot` (a registered block on the ghost list
    `safe` carries the root argument) is what lets it pass a sweep; the three bounds keep a new block off all lists. -/
structure WInv (s : WSt) : Prop where
  regLt : ∀ p ∈ s.reg, p.1 < s.next
  freedLt : ∀ i ∈ s.freed, i < s.next
  safeLt : ∀ i ∈ s.safe, i < s.next
  safeRoot : ∀ p ∈ s.reg, p.1 ∈ s.safe → p.2.root = true
  freedUnsafe : ∀ i ∈ s.freed, i ∉ s.safe

theorem WInv.init : WInv {} :=
  ⟨(by intro p hp; cases hp), (by intro i hi; cases hi), (by intro i hi; cases hi), (by intro p hp; cases hp), (by intro i hi; cases hi)⟩

/-- `reg'`: the registry afterwards — what the phases leave (a threshold collection), or `[]` (the end of the thread) -/
theorem WInv.afterPhases (hw : SweepWired) {s : WSt} (h : WInv s) (reached : Nat → Bool) (calls : List String) (reg' : Reg)
    (hreg : Sub reg' (phases reached calls s.reg).1) :
    WInv { s with reg := reg', freed := s.freed ++ (phases reached calls s.reg).2 } := by
  have hp := phases_inv hw reached calls s.reg
  have hsub : Sub reg' s.reg := Sub.trans hreg hp.sub
  refine ⟨?_, ?_, h.safeLt, ?_, ?_⟩
  · intro p hpm
    obtain ⟨q, hq, e1, _⟩ := hsub p hpm
    exact e1 ▸ h.regLt q hq
  · intro i hi
    rcases List.mem_append.mp hi with hi | hi
    · exact h.freedLt i hi
    · obtain ⟨q, hq, e1, _⟩ := hp.fr i hi
      exact e1 ▸ h.regLt q hq
  · intro p hpm hs
    obtain ⟨q, hq, e1, e2⟩ := hsub p hpm
    exact e2 ▸ h.safeRoot q hq (e1 ▸ hs)
  · intro i hi
    rcases List.mem_append.mp hi with hi | hi
    · exact h.freedUnsafe i hi
    · obtain ⟨q, hq, e1, e2⟩ := hp.fr i hi
      intro hs
      have := h.safeRoot q hq (by rw [e1]; exact hs)
      rw [this] at e2; cases e2

/-- an allocation keeps the invariant: the new block gets the next number; it may be registered, it may be listed as unmanaged, and
    if both, it is registered as a root -/
theorem WInv.alloc {s : WSt} (h : WInv s) (reg : Reg) (safe : List Nat)
    (hreg : ∀ p ∈ reg, p ∈ s.reg ∨ p.1 = s.next ∧ (s.next ∈ safe → p.2.root = true))
    (hsafe : ∀ i ∈ safe, i ∈ s.safe ∨ i = s.next) :
    WInv { s with next := s.next + 1, reg := reg, safe := safe } := by
  have old : ∀ i, i < s.next → i ∈ safe → i ∈ s.safe := fun i hi hs => (hsafe i hs).resolve_right (Nat.ne_of_lt hi)
  refine ⟨?_, fun i hi => Nat.lt_succ_of_lt (h.freedLt i hi), ?_, ?_, fun i hi hs => h.freedUnsafe i hi (old i (h.freedLt i hi) hs)⟩
  · intro p hp
    rcases hreg p hp with hp | ⟨e, _⟩
    · exact Nat.lt_succ_of_lt (h.regLt p hp)
    · exact e ▸ Nat.lt_succ_self _
  · intro i hi
    rcases hsafe i hi with hi | rfl
    · exact Nat.lt_succ_of_lt (h.safeLt i hi)
    · exact Nat.lt_succ_self _
  · intro p hp hs
    rcases hreg p hp with hp | ⟨e, hr⟩
    · exact h.safeRoot p hp (old p.1 (h.regLt p hp) hs)
    · exact hr (e ▸ hs)

theorem WInv.step (hw : SweepWired) (cfg : Cfg) {s : WSt} (h : WInv s) (ev : WEv) : WInv (wstep cfg s ev) := by
  have hfresh : s.next ∉ s.safe := fun hm => Nat.lt_irrefl _ (h.safeLt _ hm)
  cases ev with
  | collect reached =>
    simp only [wstep]
    split
    · exact WInv.afterPhases hw h _ gcSetCalls _ (Sub.refl _)
    · exact h
  | alloc m =>
    have new : ∀ (e : E) (safe : List Nat), (s.next ∈ safe → e.root = true) →
        ∀ p ∈ (s.next, e) :: s.reg, p ∈ s.reg ∨ p.1 = s.next ∧ (s.next ∈ safe → p.2.root = true) :=
      fun e safe he p hp => (List.mem_cons.mp hp).elim (fun e' => .inr (e' ▸ ⟨rfl, he⟩)) .inl
    have cons : ∀ i ∈ s.next :: s.safe, i ∈ s.safe ∨ i = s.next := fun i hi => (List.mem_cons.mp hi).elim .inr .inl
    cases m <;> simp only [wstep] <;> (try split)
    · exact h.alloc _ _ (new _ _ (fun hs => absurd hs hfresh)) (fun _ => .inl)
    · exact h.alloc _ _ (fun _ => .inl) (fun _ => .inl)
    · exact h.alloc _ _ (fun _ => .inl) cons
    · exact h.alloc _ _ (new _ _ (fun _ => rfl)) cons
    · exact h.alloc _ _ (fun _ => .inl) cons

theorem WInv.run (hw : SweepWired) (cfg : Cfg) : ∀ (evs : List WEv) (s : WSt), WInv s → WInv (evs.foldl (wstep cfg) s)
  | [], _, h => h
  | ev :: evs, _, h => WInv.run hw cfg evs _ (WInv.step hw cfg h ev)

theorem WInv.threadEnd (hw : SweepWired) (cfg : Cfg) {s : WSt} (h : WInv s) : WInv (threadEnd cfg s) := by
  unfold Thr.threadEnd
  split
  · exact WInv.afterPhases hw h _ gcDelCalls [] (by intro p hp; cases hp)
  · exact h

theorem workerRun_inv (hw : SweepWired) (cfg : Cfg) (evs : List WEv) : WInv (workerRun cfg evs) :=
  WInv.threadEnd hw cfg (WInv.run hw cfg evs {} WInv.init)

-- which blocks exist and which of them are roots / raw does not depend on the configuration: the counter and the list of
-- unmanaged blocks after a step are functions of the event and of their values before it (`wstep_next`, `wstep_safe`)
theorem wstep_next (c : Cfg) (s : WSt) (ev : WEv) :
    (wstep c s ev).next = match ev with | .alloc _ => s.next + 1 | .collect _ => s.next := by
  cases ev with
  | collect reached => simp only [wstep]; split <;> rfl
  | alloc m => cases m <;> simp only [wstep] <;> first | rfl | (split <;> rfl)

theorem wstep_safe (c : Cfg) (s : WSt) (ev : WEv) :
    (wstep c s ev).safe = match ev with | .alloc .standard | .collect _ => s.safe | .alloc _ => s.next :: s.safe := by
  cases ev with
  | collect reached => simp only [wstep]; split <;> rfl
  | alloc m => cases m <;> simp only [wstep] <;> first | rfl | (split <;> rfl)

theorem wstep_cfg_free (c1 c2 : Cfg) (s1 s2 : WSt) (ev : WEv) (hn : s1.next = s2.next) (hs : s1.safe = s2.safe) :
    (wstep c1 s1 ev).next = (wstep c2 s2 ev).next ∧ (wstep c1 s1 ev).safe = (wstep c2 s2 ev).safe := by
  rw [wstep_next, wstep_next, wstep_safe, wstep_safe, hn, hs]
  exact ⟨rfl, rfl⟩

theorem run_cfg_free (c1 c2 : Cfg) : ∀ (evs : List WEv) (s1 s2 : WSt), s1.next = s2.next → s1.safe = s2.safe →
    (evs.foldl (wstep c1) s1).safe = (evs.foldl (wstep c2) s2).safe
  | [], _, _, _, hs => hs
  | ev :: evs, s1, s2, hn, hs =>
    run_cfg_free c1 c2 evs _ _ (wstep_cfg_free c1 c2 s1 s2 ev hn hs).1 (wstep_cfg_free c1 c2 s1 s2 ev hn hs).2

theorem threadEnd_safe (cfg : Cfg) (s : WSt) : (threadEnd cfg s).safe = s.safe := by
  unfold threadEnd; split <;> rfl

theorem workerRun_safe (c1 c2 : Cfg) (evs : List WEv) : (workerRun c1 evs).safe = (workerRun c2 evs).safe := by
  unfold workerRun
  rw [threadEnd_safe, threadEnd_safe]
  exact run_cfg_free c1 c2 evs {} {} rfl rfl

end Cello.Config.Thr
