/-
  CelloProofs/Lemmas/TableBasic.lean — vocabulary of the Table proofs: the binding relation `Has` (the core's `Present s k` is
  `∃ v, Has s k v`: `present_iff_has`); `Mem` and `count`, which are `RH.Mem` and `RH.occ` (`mem_iff`, `count_eq`: by `rfl`), so
  that the facts of Lemmas/RHMem.lean apply to them as they are.
-/
import Cello.Table
import CelloProofs.Lemmas.RHMem
namespace Cello.Table
open RH
variable {κ ν : Type} [DecidableEq κ] {n : Nat}

def Mem (s : Slots κ ν n) (e : Entry κ ν) : Prop := ∃ i, ∃ hi : i < n, s[i] = some e

/-- the slot array binds `k` to `v` -/
def Has (s : Slots κ ν n) (k : κ) (v : ν) : Prop := ∃ e, Mem s e ∧ e.key = k ∧ e.val = v

def count (s : Slots κ ν n) : Nat := s.countP Option.isSome

section
omit [DecidableEq κ]

theorem mem_iff (s : Slots κ ν n) (e : Entry κ ν) : Mem s e ↔ RH.Mem s e := Iff.rfl

theorem count_eq (s : Slots κ ν n) : count s = RH.occ s := rfl

theorem present_iff_has (s : Slots κ ν n) (k : κ) : Present s k ↔ ∃ v, Has s k v := by
  constructor
  · rintro ⟨i, hi, e, he, hk⟩; exact ⟨e.val, e, ⟨i, hi, he⟩, hk, rfl⟩
  · rintro ⟨_, e, ⟨i, hi, he⟩, hk, _⟩; exact ⟨i, hi, e, he, hk⟩

/-- the bindings of the entries other than `x` are the bindings of the keys other than `x.key`: keys are distinct -/
theorem has_mem_ne_iff {hash : κ → Nat} {s : Slots κ ν n} (inv : Inv0 hash s) {x : Entry κ ν} (hx : Mem s x) (k' : κ) (v' : ν) :
    (∃ e, (Mem s e ∧ e ≠ x) ∧ e.key = k' ∧ e.val = v') ↔ k' ≠ x.key ∧ Has s k' v' := by
  constructor
  · rintro ⟨e, h, hk, hv⟩
    obtain ⟨he, hne⟩ := (inv.mem_ne_iff hx e).mp h
    exact ⟨hk ▸ hne, e, he, hk, hv⟩
  · rintro ⟨hne, e, he, hk, hv⟩
    exact ⟨e, (inv.mem_ne_iff hx e).mpr ⟨he, hk ▸ hne⟩, hk, hv⟩

/-- overwriting the slot that holds `e`: the entries are `c` and the old ones other than `e` (the form in which
    `eraseAt_spec` states what stays, so that `has_mem_ne_iff` serves both) -/
theorem mem_set_replace {hash : κ → Nat} {s : Slots κ ν n} (inv : Inv0 hash s) {p : Nat} (hp : p < n) {e : Entry κ ν}
    (hpe : s[p] = some e) (c y : Entry κ ν) : Mem (s.set p (some c) hp) y ↔ y = c ∨ (Mem s y ∧ y ≠ e) := by
  refine (inv.mem_set hp hpe (some c) y).trans (or_congr_left ?_)
  rw [Option.some.injEq, eq_comm]

end

theorem count_set_some_none (s : Slots κ ν n) (i : Nat) (hi : i < n) (r : Entry κ ν) (h : s[i] = some r) :
    count (s.set i none hi) + 1 = count s :=
  occ_set_some_none s i hi r h

end Cello.Table
