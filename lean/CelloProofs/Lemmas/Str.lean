/-
  Lemmas for C16 (String behaves as a C-string value): libc over a buffer.  `Holds b a` — the block `b` holds the C string
  `a` — speaks of a prefix of the block only, so what `realloc` and a store do to a prefix (`prefix_*`) is all that is needed
  of them.
-/
import Cello.Str
namespace Cello.Str

theorem junk_length (J : Nat → Byte) (s n : Nat) : (junk J s n).length = n := by simp [junk]

theorem realloc_length (J : Nat → Byte) (buf : List Byte) (n : Nat) : (realloc J buf n).length = n := by
  rw [realloc, List.length_take, List.length_append, junk_length]; omega

theorem realloc_shrink (J : Nat → Byte) (buf : List Byte) (n : Nat) (h : n ≤ buf.length) : realloc J buf n = buf.take n := by
  simp [realloc, junk, Nat.sub_eq_zero_of_le h]

theorem writeAt_length (buf : List Byte) (off : Nat) (bs : List Byte) : (writeAt buf off bs).length = buf.length := by
  unfold writeAt
  by_cases h : off + bs.length ≤ buf.length
  · rw [if_pos h, List.length_append, List.length_append, List.length_take, List.length_drop]; omega
  · rw [if_neg h]

theorem prefix_realloc {pre b : List Byte} (h : pre <+: b) (J : Nat → Byte) {n : Nat} (hn : pre.length ≤ n) :
    pre <+: realloc J b n :=
  List.prefix_take_iff.mpr ⟨h.trans (List.prefix_append _ _), hn⟩

theorem prefix_writeAt {pre b : List Byte} (h : pre <+: b) {off : Nat} (ho : pre.length ≤ off) (y : List Byte) :
    pre <+: writeAt b off y := by
  unfold writeAt
  split
  · rw [List.append_assoc]; exact (List.prefix_take_iff.mpr ⟨h, ho⟩).trans (List.prefix_append _ _)
  · exact h

theorem prefix_store {pre b : List Byte} (h : pre <+: b) (y : List Byte) (hy : pre.length + y.length ≤ b.length) :
    pre ++ y <+: writeAt b pre.length y := by
  rw [writeAt, if_pos hy, ← List.prefix_iff_eq_take.mp h]
  exact List.prefix_append _ _

theorem nulFree_nil : NulFree ([] : List Byte) := List.not_mem_nil

theorem nulFree_cons {b : Byte} {l : List Byte} : NulFree (b :: l) ↔ b ≠ 0 ∧ NulFree l := by
  simp [NulFree, eq_comm]

theorem nulFree_iff_contains (t : List Byte) : (!t.contains 0) = true ↔ NulFree t := by simp [NulFree]

theorem NulFree.ne_zero {l : List Byte} (hl : NulFree l) {b : Byte} (hb : b ∈ l) : b ≠ 0 := fun e => hl (e ▸ hb)

theorem NulFree.drop {c : List Byte} (hc : NulFree c) (p : Nat) : NulFree (c.drop p) :=
  fun h => hc (List.mem_of_mem_drop h)

theorem NulFree.take {c : List Byte} (hc : NulFree c) (p : Nat) : NulFree (c.take p) :=
  fun h => hc (List.mem_of_mem_take h)

theorem nulFree_append {a b : List Byte} (ha : NulFree a) (hb : NulFree b) : NulFree (a ++ b) := by
  simp only [NulFree, List.mem_append, not_or]; exact ⟨ha, hb⟩

theorem nulFree_replicate (n : Nat) {b : Byte} (hb : b ≠ 0) : NulFree (List.replicate n b) :=
  fun h => hb (List.eq_of_mem_replicate h).symm

theorem bne_zero_of_mem {c : List Byte} (hc : NulFree c) : ∀ a ∈ c, (a != 0) = true :=
  fun _ ha => bne_iff_ne.mpr (hc.ne_zero ha)

theorem takeWhile_nul (c r : List Byte) (hc : NulFree c) : (c ++ 0 :: r).takeWhile (· != 0) = c := by
  rw [List.takeWhile_append_of_pos (bne_zero_of_mem hc)]; simp

theorem abs_nulFree (s : Str) : NulFree s.abs := fun h => by simpa using List.all_eq_true.1 List.all_takeWhile _ h

theorem strlen_nulFree {l : List Byte} (hl : NulFree l) (p : Nat) : strlen l p = l.length - p := by
  have := List.takeWhile_append_of_pos (l₂ := []) (bne_zero_of_mem (hl.drop p))
  rw [List.append_nil, List.takeWhile_nil, List.append_nil] at this
  rw [strlen, cstrAt, this, List.length_drop]

theorem inBlock_nulFree {l : List Byte} (hl : NulFree l) (off : Nat) : inBlock l off = false := by
  simp only [inBlock, strlen_nulFree hl, decide_eq_false_iff_not]
  omega

/-- The block `b` holds the C string `a`: the bytes of `a` (no NUL among them), the terminator, then whatever lies behind.
    `Holds s.buf a` is the relation between an object and the abstract string under which the code simulates `Spec.step`;
    it says `s.WF ∧ s.abs = a` (`Str.WF.holds`, `Holds.wf`, `Holds.abs`). -/
structure Holds (b a : List Byte) : Prop where
  nf : NulFree a
  pre : a ++ [0] <+: b

namespace Holds
variable {b a : List Byte}

theorem text (h : Holds b a) : a <+: b := (List.prefix_append a [0]).trans h.pre

theorem lt_length (h : Holds b a) : a.length < b.length := by
  have := h.pre.length_le; simp at this; omega

theorem cstrAt (h : Holds b a) {p : Nat} (hp : p ≤ a.length) : Str.cstrAt b p = a.drop p := by
  obtain ⟨r, rfl⟩ := h.pre
  rw [Str.cstrAt, List.append_assoc, List.drop_append_of_le_length hp]
  exact takeWhile_nul _ _ (h.nf.drop p)

theorem strlen (h : Holds b a) {p : Nat} (hp : p ≤ a.length) : Str.strlen b p = a.length - p := by
  rw [Str.strlen, h.cstrAt hp, List.length_drop]

theorem strlen0 (h : Holds b a) : Str.strlen b 0 = a.length := h.strlen (Nat.zero_le _)

theorem inBlock (h : Holds b a) {p : Nat} (hp : p ≤ a.length) : Str.inBlock b p = true := by
  have := h.lt_length
  simp only [Str.inBlock, h.strlen hp, decide_eq_true_eq]; omega

theorem terminator (h : Holds b a) : b[a.length]? = some 0 := by
  obtain ⟨r, rfl⟩ := h.pre; simp

/-- `memcpy` of the C string at `p`, without or with its terminator -/
theorem readAt (h : Holds b a) {p k : Nat} (hk : p + k = a.length) :
    Str.readAt b p k = a.drop p ∧ Str.readAt b p (k + 1) = a.drop p ++ [0] := by
  obtain ⟨r, rfl⟩ := h.pre
  simp only [Str.readAt, List.append_assoc, List.drop_append_of_le_length (Nat.le.intro hk)]
  exact ⟨List.take_left' (by simp; omega), by rw [← List.append_assoc, List.take_left' (by simp; omega)]⟩

theorem realloc (h : Holds b a) (J : Nat → Byte) {n : Nat} (hn : a.length < n) : Holds (Str.realloc J b n) a :=
  ⟨h.nf, prefix_realloc h.pre J (by simp; omega)⟩

theorem writeAt (h : Holds b a) {off : Nat} (ho : a.length < off) (y : List Byte) : Holds (Str.writeAt b off y) a :=
  ⟨h.nf, prefix_writeAt h.pre (by simp; omega) y⟩

/-- a `realloc` in place to `n` bytes keeps a view into the text a C string inside the block exactly when it keeps the terminator -/
theorem inBlock_realloc (h : Holds b a) (J : Nat → Byte) (n : Nat) {off : Nat} (hoff : off ≤ a.length) :
    Str.inBlock (Str.realloc J b n) off = decide (a.length < n) := by
  by_cases hn : a.length < n
  · rw [(h.realloc J hn).inBlock hoff, decide_eq_true hn]
  · -- a block cut inside the text holds no terminator
    have := h.lt_length
    have e : b.take n = a.take n := by
      obtain ⟨r, rfl⟩ := h.text; exact List.take_append_of_le_length (by omega)
    rw [realloc_shrink J _ _ (by omega), e, inBlock_nulFree (h.nf.take n), decide_eq_false hn]

/-- a C string `y` and its terminator stored directly behind a NUL-free prefix `pre` of the block: `strcpy`, `strcat`,
    `vsprintf`, a `memmove` that takes the terminator along, `val[n] = '\0'` -/
theorem store {pre : List Byte} (h : pre <+: b) (hp : NulFree pre) {y : List Byte} (hy : NulFree y) {off : Nat}
    (ho : off = pre.length) (hl : off + y.length + 1 ≤ b.length) : Holds (Str.writeAt b off (y ++ [0])) (pre ++ y) :=
  ⟨nulFree_append hp hy, by
    subst ho; rw [List.append_assoc]; exact prefix_store h (y ++ [0]) (by simpa [Nat.add_assoc] using hl)⟩

/-- zeros stored over the terminator and the bytes behind it: `memset(&val[len], 0, k)` -/
theorem zeros (h : Holds b a) (k : Nat) : Holds (Str.writeAt b a.length (List.replicate k 0)) a := by
  by_cases hk : a.length + (List.replicate k (0 : Byte)).length ≤ b.length
  · cases k with
    | zero => simpa [Str.writeAt] using h
    | succ k =>
      refine ⟨h.nf, List.IsPrefix.trans ?_ (prefix_store h.text _ hk)⟩
      rw [List.replicate_succ]; exact (List.prefix_append_right_inj a).mpr (List.prefix_append [0] _)
  · rw [Str.writeAt, if_neg hk]; exact h

theorem wf {s : Str} (h : Holds s.buf a) : s.WF := h.pre.subset (by simp)

theorem abs {s : Str} (h : Holds s.buf a) : s.abs = a := h.cstrAt (Nat.zero_le _)

end Holds

theorem Str.WF.holds {s : Str} (h : s.WF) : Holds s.buf s.abs := by
  obtain ⟨c, r, e, hc⟩ := List.eq_append_cons_of_mem h
  have : s.abs = c := by rw [Str.abs, cstrAt, e]; exact takeWhile_nul c r hc
  exact this ▸ ⟨hc, r, by simp [e]⟩

theorem findSub_some {x l : List Byte} {p : Nat} (h : findSub x l = some p) : ∃ a b, l = a ++ x ++ b ∧ a.length = p := by
  fun_induction findSub x l generalizing p with
  | case1 hx => cases h; exact ⟨[], [], by simp [hx], rfl⟩
  | case2 => cases h
  | case3 a t hp =>
    cases h
    obtain ⟨b, hb⟩ := List.isPrefixOf_iff_prefix.mp hp
    exact ⟨[], b, by simp [hb], rfl⟩
  | case4 a t _ ih =>
    obtain ⟨q, hq, rfl⟩ := Option.map_eq_some_iff.mp h
    obtain ⟨a', b, e, hl⟩ := ih hq
    exact ⟨a :: a', b, by simp [e], by simp [hl]⟩

theorem findSub_min {x l : List Byte} {p : Nat} (h : findSub x l = some p) (a b : List Byte) (e : l = a ++ x ++ b) :
    p ≤ a.length := by
  fun_induction findSub x l generalizing p a with
  | case1 => cases h; omega
  | case2 => cases h
  | case3 => cases h; omega
  | case4 c t hnp ih =>
    obtain ⟨q, hq, rfl⟩ := Option.map_eq_some_iff.mp h
    cases a with
    | nil => exact absurd (List.isPrefixOf_iff_prefix.mpr ⟨b, by simpa using e.symm⟩) hnp
    | cons a0 a' =>
      have := ih hq a' (List.cons.inj e).2
      simp; omega

theorem findSub_none {x l : List Byte} (h : findSub x l = none) : ¬ x <:+: l := by
  fun_induction findSub x l with
  | case1 => cases h
  | case2 hx => exact fun hi => hx (List.eq_nil_of_infix_nil hi)
  | case3 => cases h
  | case4 c t hnp ih =>
    intro hi
    rcases List.infix_cons_iff.mp hi with hp | hi'
    · exact hnp (List.isPrefixOf_iff_prefix.mpr hp)
    · exact ih (Option.map_eq_none_iff.mp h) hi'

theorem findSub_isSome_iff (x l : List Byte) : (findSub x l).isSome ↔ x <:+: l := by
  cases hq : findSub x l with
  | none => simpa using findSub_none hq
  | some p =>
    obtain ⟨a, b, e, _⟩ := findSub_some hq
    simpa using ⟨a, b, e.symm⟩

theorem removeFirst_eq (x l : List Byte) :
    removeFirst x l = (findSub x l).map (fun p => l.take p ++ l.drop (p + x.length)) := by
  fun_induction removeFirst x l with
  | case1 hx => simp [findSub, hx]
  | case2 hx => simp [findSub, hx]
  | case3 a t hp => simp [findSub, hp]
  | case4 a t hp ih =>
    rw [ih, findSub, if_neg hp]
    cases findSub x t <;> simp [Nat.add_right_comm]

theorem removeFirst_isNone_iff (x l : List Byte) : (removeFirst x l).isNone = true ↔ ¬ x <:+: l := by
  rw [removeFirst_eq, ← findSub_isSome_iff]
  cases findSub x l <;> simp

theorem removeFirst_some_iff (x l l' : List Byte) :
    removeFirst x l = some l' ↔
      ∃ a b, l = a ++ x ++ b ∧ l' = a ++ b ∧ ∀ a' b', l = a' ++ x ++ b' → a.length ≤ a'.length := by
  rw [removeFirst_eq]
  constructor
  · intro h
    obtain ⟨p, hf, rfl⟩ := Option.map_eq_some_iff.mp h
    obtain ⟨a, b, rfl, rfl⟩ := findSub_some hf
    exact ⟨a, b, rfl, by simp, findSub_min hf⟩
  · rintro ⟨a, b, rfl, rfl, hmin⟩
    rcases hf : findSub x (a ++ x ++ b) with _ | p
    · exact absurd ⟨a, b, rfl⟩ (findSub_none hf)
    · obtain ⟨a2, b2, e2, rfl⟩ := findSub_some hf
      have hp : a2.length = a.length := Nat.le_antisymm (findSub_min hf a b rfl) (hmin a2 b2 e2)
      simp [hp]

theorem strcmpZ_eq_lexCmp (c x r : List Byte) (hc : NulFree c) (hx : NulFree x) :
    strcmpZ (c ++ 0 :: r) (x ++ [0]) = lexCmp c x := by
  fun_induction lexCmp c x with
  | case1 => simp [strcmpZ]
  | case2 b bs => simp [strcmpZ, UInt8.pos_iff_ne_zero.mpr (nulFree_cons.mp hx).1]
  | case3 a as =>
    have := UInt8.pos_iff_ne_zero.mpr (nulFree_cons.mp hc).1
    simp [strcmpZ, this, UInt8.lt_asymm this]
  | case4 a as b bs h => simp [strcmpZ, h]
  | case5 a as b bs h1 h2 => simp [strcmpZ, h1, h2]
  | case6 a as b bs h1 h2 ih =>
    obtain ⟨ha, hc⟩ := nulFree_cons.mp hc
    simp [strcmpZ, h1, h2, ha, ih hc (nulFree_cons.mp hx).2]

theorem Holds.strcmpZ {b c x : List Byte} (h : Holds b c) (hx : NulFree x) : strcmpZ b (x ++ [0]) = lexCmp c x := by
  obtain ⟨r, rfl⟩ := h.pre; rw [List.append_assoc]; exact strcmpZ_eq_lexCmp c x r h.nf hx

theorem lexCmp_spec (a b : List Byte) : (lexCmp a b = -1 ↔ a < b) ∧ (lexCmp a b = 0 ↔ a = b) ∧ (lexCmp a b = 1 ↔ b < a) := by
  fun_induction lexCmp a b with
  | case1 => simp
  | case2 => simp
  | case3 => simp
  | case4 a as b bs h =>
    have h2 : ¬ b < a := UInt8.lt_asymm h
    have h3 : a ≠ b := fun e => h2 (e ▸ h)
    simp [List.cons_lt_cons_iff, h, h2, h3, h3.symm]
  | case5 a as b bs h1 h2 =>
    have h3 : a ≠ b := fun e => h1 (e ▸ h2)
    simp [List.cons_lt_cons_iff, h1, h2, h3, h3.symm]
  | case6 a as b bs h1 h2 ih =>
    obtain rfl : a = b := UInt8.le_antisymm (UInt8.not_lt.mp h2) (UInt8.not_lt.mp h1)
    simp [ih]

theorem storeBytes_eq_writeAt (bs buf : List Byte) (off : Nat) (h : off + bs.length ≤ buf.length) :
    storeBytes buf off bs = writeAt buf off bs := by
  induction bs generalizing buf off with
  | nil => simp [storeBytes, writeAt]
  | cons b bs ih =>
    simp only [List.length_cons] at h
    have hlt : off < buf.length := by omega
    -- the first byte goes by `set`, the rest by the hypothesis; `take` / `drop` commute with the `set`
    rw [storeBytes, ih _ _ (by simp; omega)]
    simp only [writeAt, List.length_set, List.length_cons, if_pos h, if_pos (show off + 1 + bs.length ≤ buf.length by omega),
      List.take_set, List.drop_set, if_pos (show off < off + 1 + bs.length by omega), List.take_add_one]
    rw [List.set_eq_of_length_le (by simp; omega), List.getElem?_set_self hlt]
    simp [Nat.add_assoc, Nat.add_comm 1]

theorem strlenLoop_eq (fuel : Nat) (buf : List Byte) (off : Nat) (h : buf.length - off ≤ fuel) :
    strlenLoop buf off fuel = strlen buf off := by
  fun_induction strlenLoop buf off fuel with
  | case1 off => simp [strlen, cstrAt, List.drop_of_length_le (show buf.length ≤ off by omega)]
  | case2 off fuel b hb h0 =>
    obtain ⟨hlt, rfl⟩ := List.getElem?_eq_some_iff.mp hb
    rw [strlen, cstrAt, List.drop_eq_getElem_cons hlt, List.takeWhile_cons]; simp [show buf[off] = 0 by simpa using h0]
  | case3 off fuel b hb h0 ih =>
    obtain ⟨hlt, rfl⟩ := List.getElem?_eq_some_iff.mp hb
    rw [ih (by omega), strlen, strlen, cstrAt, cstrAt, List.drop_eq_getElem_cons hlt, List.takeWhile_cons]
    simp [show buf[off] ≠ 0 by simpa using h0]; omega
  | case4 off fuel hb =>
    simp [strlen, cstrAt, List.drop_of_length_le (List.getElem?_eq_none_iff.mp hb)]

end Cello.Str
