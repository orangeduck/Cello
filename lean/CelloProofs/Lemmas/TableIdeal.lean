/-
  CelloProofs/Lemmas/TableIdeal.lean — `Table_Ideal_Size` leaves room: `n < idealSize n` for any prime table whose last
  entry is positive and any load factor `0 < num/den ≤ 1`.
-/
import Cello.Table
namespace Cello.Table

theorem idealSize_ge_round (primes : List Nat) (num den : Nat) (hlast : primes.getLast?.getD 0 ≠ 0) (size : Nat) :
    (size + 1) * den / num ≤ idealSize primes num den size := by
  unfold idealSize
  simp only []
  split
  · rename_i p hp
    have := List.find?_some hp
    simpa using this
  · rw [if_neg hlast]
    generalize (size + 1) * den / num = s
    generalize primes.getLast?.getD 0 = last at hlast
    have h1 := Nat.div_add_mod (s + last - 1) last
    have h2 := Nat.mod_lt (s + last - 1) (Nat.pos_of_ne_zero hlast)
    rw [Nat.mul_comm] at h1
    omega

theorem idealSize_gt (primes : List Nat) (num den : Nat) (hnum : 0 < num) (hle : num ≤ den)
    (hlast : primes.getLast?.getD 0 ≠ 0) (size : Nat) : size < idealSize primes num den size := by
  have h := idealSize_ge_round primes num den hlast size
  have : size + 1 ≤ (size + 1) * den / num := by
    rw [Nat.le_div_iff_mul_le hnum]
    exact Nat.mul_le_mul_left _ hle
  omega

end Cello.Table
