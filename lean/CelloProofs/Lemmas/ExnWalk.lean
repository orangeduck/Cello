/-
  What the filter walk of `exception_catch` (Cello/Exn.lean) decides. The walk by index of the current code, for objects
  of any type (`walkIdxW w`): `clash` recurses as the walk does — where it is `false` the walk decides by "some entry
  lists the object", where it is `true` the first incomparable entry raises (`walkIdxW_spec`). `walkIdx` is the instance
  `idWorld`, where nothing clashes: membership. The OLD foreach walk (`walkFrom` over `tupleNext`): membership on a
  duplicate-free filter; from the first repeated item on `Tuple_Iter_Next` cycles, for every fuel.
-/
import Cello.Exn

namespace Cello.Exn

theorem cmpObj_comparable (w : World) (a e : Nat) (h : comparable (w a).cls (w e).cls = true) :
    cmpObj w a e = if specEq w a e then .eq else .ne := by
  unfold cmpObj specEq Obj.value
  generalize w a = A at *; generalize w e = E at *
  obtain ⟨ca, va⟩ := A; obtain ⟨ce, ve⟩ := E
  cases ca <;> cases ce <;> first | exact Bool.noConfusion h | simp

theorem cmpObj_not_comparable (w : World) (a e : Nat) (h : comparable (w a).cls (w e).cls = false) :
    cmpObj w a e = .raises valueErr ∨ cmpObj w a e = .raises classErr := by
  unfold cmpObj
  generalize w a = A at *; generalize w e = E at *
  obtain ⟨ca, va⟩ := A; obtain ⟨ce, ve⟩ := E
  cases ca <;> cases ce <;> first | exact Bool.noConfusion h | exact .inl rfl | exact .inr rfl

theorem walkIdxW_spec (w : World) (obj : Nat) (hobj : obj ≠ 0) (f : List Nat) (h0 : 0 ∉ f) :
    (clash w obj f = false → walkIdxW w obj f = if f.any (fun a => specEq w a obj) then .matched else .exhausted) ∧
    (clash w obj f = true → walkIdxW w obj f = .cmpRaises valueErr ∨ walkIdxW w obj f = .cmpRaises classErr) := by
  induction f with
  | nil => exact ⟨fun _ => rfl, nofun⟩
  | cons a rest ih =>
    have ha0 : a ≠ 0 := (List.ne_of_not_mem_cons h0).symm
    simp only [clash, walkIdxW, hobj, ha0, if_false, List.any_cons]
    cases hcomp : comparable (w a).cls (w obj).cls with
    | false =>
      refine ⟨nofun, fun _ => ?_⟩
      rcases cmpObj_not_comparable w a obj hcomp with h | h <;> simp [h]
    | true =>
      simp only [Bool.not_true, Bool.false_eq_true, if_false, cmpObj_comparable w a obj hcomp]
      by_cases hs : specEq w a obj = true
      · simp [hs]
      · simp only [Bool.eq_false_iff.mpr hs, Bool.false_eq_true, if_false, Bool.false_or]
        exact ih (List.not_mem_of_not_mem_cons h0)

theorem catchDecisionW_spec (w : World) (f : List Nat) (obj : Nat) (hobj : obj ≠ 0) (h0 : 0 ∉ f) :
    (clash w obj f = false → catchDecisionW w f obj = if fmatchW w f obj then .matched else .exhausted) ∧
    (clash w obj f = true →
      catchDecisionW w f obj = .cmpRaises valueErr ∨ catchDecisionW w f obj = .cmpRaises classErr) := by
  cases f with
  | nil => exact ⟨fun _ => rfl, nofun⟩
  | cons a rest => exact walkIdxW_spec w obj hobj (a :: rest) h0

theorem walkIdxW_ne_hang (w : World) (obj : Nat) (f : List Nat) : walkIdxW w obj f ≠ .hang := by
  induction f with
  | nil => exact Walk.noConfusion
  | cons a rest ih =>
    rw [walkIdxW]
    by_cases ho : obj = 0
    · rw [if_pos ho]; exact Walk.noConfusion
    · by_cases ha : a = 0
      · rw [if_neg ho, if_pos ha]; exact Walk.noConfusion
      · rw [if_neg ho, if_neg ha]
        cases cmpObj w a obj with
        | eq => exact Walk.noConfusion
        | ne => exact ih
        | raises exc => exact Walk.noConfusion

theorem catchDecisionW_ne_hang (w : World) (f : List Nat) (obj : Nat) : catchDecisionW w f obj ≠ .hang := by
  unfold catchDecisionW
  split
  · simp
  · exact walkIdxW_ne_hang w obj f

theorem cmpObj_idWorld (a obj : Nat) : cmpObj idWorld a obj = if a = obj then .eq else .ne := by
  rfl

theorem walkIdx_eq_walkIdxW (obj : Nat) (f : List Nat) : walkIdx obj f = walkIdxW idWorld obj f := by
  induction f with
  | nil => simp [walkIdx, walkIdxW]
  | cons a rest ih =>
    simp only [walkIdx, walkIdxW, cmpObj_idWorld]
    by_cases ho : obj = 0
    · simp [ho]
    · by_cases ha : a = 0
      · simp [ho, ha]
      · by_cases hao : a = obj <;> simp [ho, ha, hao, ih]

theorem catchDecision_eq_catchDecisionW : catchDecision = catchDecisionW idWorld := by
  funext f obj
  simp [catchDecision, catchDecisionW, walkIdx_eq_walkIdxW]

theorem any_specEq_idWorld (e : Nat) (f : List Nat) : f.any (fun a => specEq idWorld a e) = f.contains e := by
  induction f with
  | nil => rfl
  | cons a rest ih =>
    simp only [List.any_cons, List.contains_cons, ih]
    congr 1
    simp only [specEq, idWorld, Obj.value]
    by_cases h : a = e
    · simp [h]
    · have : ¬ e = a := fun h' => h h'.symm
      simp [h, this]

theorem fmatchW_idWorld : fmatchW idWorld = fmatch := by
  funext f e
  simp [fmatchW, fmatch, any_specEq_idWorld]

theorem clash_idWorld (e : Nat) (f : List Nat) : clash idWorld e f = false := by
  induction f with
  | nil => rfl
  | cons a rest ih =>
    simp only [clash, idWorld, comparable, Bool.not_true, Bool.false_eq_true, if_false]
    split <;> simp [ih]

theorem walkIdx_membership (obj : Nat) (hobj : obj ≠ 0) (f : List Nat) (h0 : 0 ∉ f) :
    walkIdx obj f = if f.contains obj then .matched else .exhausted := by
  rw [walkIdx_eq_walkIdxW, (walkIdxW_spec idWorld obj hobj f h0).1 (clash_idWorld obj f), any_specEq_idWorld]

theorem catchDecision_membership (f : List Nat) (obj : Nat) (hobj : obj ≠ 0) (h0 : 0 ∉ f) :
    catchDecision f obj = if fmatch f obj then .matched else .exhausted := by
  rw [catchDecision_eq_catchDecisionW, (catchDecisionW_spec idWorld f obj hobj h0).1 (clash_idWorld obj f), fmatchW_idWorld]

theorem walkIdx_ne_hang (obj : Nat) (f : List Nat) : walkIdx obj f ≠ .hang :=
  walkIdx_eq_walkIdxW obj f ▸ walkIdxW_ne_hang idWorld obj f

theorem catchDecision_ne_hang (f : List Nat) (obj : Nat) : catchDecision f obj ≠ .hang :=
  catchDecision_eq_catchDecisionW ▸ catchDecisionW_ne_hang idWorld f obj

theorem tupleNext_first_occurrence (pre : List Nat) (a : Nat) (rest : List Nat) (h : a ∉ pre) :
    tupleNext (pre ++ a :: rest) a = rest.head? := by
  induction pre with
  | nil => simp [tupleNext]
  | cons x xs ih =>
    have hx : x ≠ a := fun e => h (by simp [e])
    have hxs : a ∉ xs := fun e => h (by simp [e])
    simp [tupleNext, hx, ih hxs]

/-- the walk from position `rest` of a duplicate-free tuple `pre ++ rest`, nothing matched so far -/
theorem walkFrom_nodup_aux (obj : Nat) (hobj : obj ≠ 0) :
    ∀ (rest pre : List Nat) (n : Nat), (pre ++ rest).Nodup → rest.length + 1 ≤ n →
      walkFrom (pre ++ rest) obj n rest.head? = if rest.contains obj then .matched else .exhausted := by
  intro rest
  induction rest with
  | nil =>
    intro pre n _ hn
    match n, hn with
    | n+1, _ => simp [walkFrom]
  | cons a rest ih =>
    intro pre n hnd hn
    match n, hn with
    | n+1, hn =>
      simp only [List.head?_cons, walkFrom, hobj, if_false]
      by_cases ha : a = obj
      · simp [ha]
      · have hnotin : a ∉ pre := fun hmem => (List.nodup_append.mp hnd).2.2 a hmem a (List.mem_cons_self ..) rfl
        have e : pre ++ [a] ++ rest = pre ++ a :: rest := List.append_assoc ..
        rw [tupleNext_first_occurrence pre a rest hnotin, ← e, ih (pre ++ [a]) n (e ▸ hnd) (Nat.le_of_succ_le_succ hn)]
        have hne : ¬ obj = a := fun e => ha e.symm
        simp [hne, ha]

theorem catchDecisionOld_nodup (f : List Nat) (obj : Nat) (hobj : obj ≠ 0) (hnd : f.Nodup) :
    catchDecisionOld f obj = if fmatch f obj then .matched else .exhausted := by
  unfold catchDecisionOld fmatch
  by_cases he : f.isEmpty
  · simp [he]
  · have := walkFrom_nodup_aux obj hobj f [] (f.length + 1) (by simpa using hnd) (Nat.le_refl _)
    simp only [List.nil_append] at this
    simp [he, this]

/-- inside a duplicate-free prefix `P` of the tuple, followed by an object `b` of `P`, every step of `Tuple_Iter_Next`
    stays inside `P` -/
theorem tupleNext_cycle (P : List Nat) (b : Nat) (rest : List Nat) (hP : P.Nodup) (hb : b ∈ P) :
    ∀ c ∈ P, ∃ c' ∈ P, tupleNext (P ++ b :: rest) c = some c' := by
  intro c hc
  obtain ⟨p1, p2, rfl⟩ := List.append_of_mem hc
  have hnotin : c ∉ p1 := by
    intro hmem
    have := (List.nodup_append.mp hP).2.2 c hmem c (by simp)
    exact this rfl
  have : tupleNext (p1 ++ c :: p2 ++ b :: rest) c = (p2 ++ b :: rest).head? := by
    have := tupleNext_first_occurrence p1 c (p2 ++ b :: rest) hnotin
    simpa using this
  rw [this]
  cases p2 with
  | nil => exact ⟨b, hb, by simp⟩
  | cons y ys => exact ⟨y, by simp, by simp⟩

theorem walkFrom_cycle (f P : List Nat) (obj : Nat) (hobj : obj ≠ 0) (hnot : obj ∉ P)
    (hstep : ∀ c ∈ P, ∃ c' ∈ P, tupleNext f c = some c') :
    ∀ (n : Nat) (c : Nat), c ∈ P → walkFrom f obj n (some c) = .hang := by
  intro n
  induction n with
  | zero => intro c _; simp [walkFrom]
  | succ n ih =>
    intro c hc
    obtain ⟨c', hc', hn⟩ := hstep c hc
    have hne : c ≠ obj := fun e => hnot (e ▸ hc)
    simp [walkFrom, hobj, hne, hn, ih c' hc']

theorem exists_first_repeat : ∀ (rest pre : List Nat), pre.Nodup → ¬ (pre ++ rest).Nodup →
    ∃ P b r, pre ++ rest = P ++ b :: r ∧ P.Nodup ∧ b ∈ P := by
  intro rest
  induction rest with
  | nil => intro pre h1 h2; exact absurd ((List.append_nil pre).symm ▸ h1) h2
  | cons b rest ih =>
    intro pre hP hdup
    by_cases hb : b ∈ pre
    · exact ⟨pre, b, rest, rfl, hP, hb⟩
    · have hP' : (pre ++ [b]).Nodup :=
        List.nodup_append.mpr ⟨hP, by simp, fun u hu v hv e => hb (List.mem_singleton.mp hv ▸ e ▸ hu)⟩
      have e : pre ++ [b] ++ rest = pre ++ b :: rest := List.append_assoc ..
      exact e ▸ ih (pre ++ [b]) hP' (e ▸ hdup)

/-- **A filter that lists an object twice**: for a (non-NULL) exception that is in the filter nowhere, the foreach walk of the
    OLD `exception_catch` never ends — for every amount of fuel (this was finding KF-C07-filter-dup, consequence of F13;
    repaired by a0ef2da). From the first repeated item on, `Tuple_Iter_Next` cycles inside the prefix before it. -/
theorem walkFrom_dup_hangs (f : List Nat) (obj : Nat) (hobj : obj ≠ 0) (hdup : ¬ f.Nodup) (hnot : obj ∉ f) :
    ∀ n, walkFrom f obj n f.head? = .hang := by
  obtain ⟨P, b, r, rfl, hP, hb⟩ := exists_first_repeat f [] List.nodup_nil hdup
  obtain ⟨c, P', rfl⟩ := List.exists_cons_of_ne_nil (List.ne_nil_of_mem hb)
  intro n
  exact walkFrom_cycle _ (c :: P') obj hobj (fun h => hnot (List.mem_append_left _ h)) (tupleNext_cycle _ b r hP hb) n c
    (List.mem_cons_self ..)

theorem catchDecisionOld_dup_hangs (f : List Nat) (obj : Nat) (hobj : obj ≠ 0) (hdup : ¬ f.Nodup) (hnot : obj ∉ f) :
    catchDecisionOld f obj = .hang := by
  unfold catchDecisionOld
  have hne : f.isEmpty = false := by
    cases f with
    | nil => exact absurd List.nodup_nil hdup
    | cons _ _ => rfl
  simp [hne, walkFrom_dup_hangs f obj hobj hdup hnot]

end Cello.Exn
