import CelloProofs.Lemmas.FailSpec
/-
  C12, String: `String_Rem` against `isInfix`, and `print_to` into a String segment by segment: `Str.segment` is what the loop of
  `print_to_with` does with one literal or directive before it writes (the text and the arguments left, or the refusal); the loop
  (`Str.printLoop_cons`), the territory of F29 (`Str.kf_print`) and the specification (`printExc`, `Str.segment_exc`) are stated on it.
-/
namespace Cello.Fail

theorem removeFirst_isSome (pat : List Char) : ∀ s : List Char, (removeFirst pat s).isSome = isInfix pat s := by
  intro s
  induction s with
  | nil => simp only [removeFirst, isInfix]; split <;> simp_all
  | cons c cs ih =>
    simp only [removeFirst, isInfix]
    cases hp : pat.isPrefixOf (c :: cs) <;> simp [ih]

def segText : FmtItem → Val → R (List Char)
  | .d, a => match cInt a with | .ok b => .ok (intText b.toInt) | .raised e => .raised e | .ub => .ub
  | .s, a => cStr a
  | _, a => showText a

def Str.segment (args : List Val) : FmtItem → R (List Char × List Val)
  | .lit t => .ok (t, args)
  | it =>
    match args with
    | [] => .raised .FormatError
    | a :: as => match segText it a with | .ok t => .ok (t, as) | .raised e => .raised e | .ub => .ub

theorem Str.printLoop_cons (s : Str) (pos : Nat) (args : List Val) (it : FmtItem) (rest : List FmtItem) :
    Str.printLoop s pos args (it :: rest) =
      match Str.segment args it with
      | .ok (t, args') =>
        (match s.write pos t with
         | (s', .ok n) => Str.printLoop s' (pos + n) args' rest
         | (s', .raised e) => (s', .raised e)
         | (s', .ub) => (s', .ub))
      | .raised e => (s, .raised e)
      | .ub => (s, .ub) := by
  cases it with
  | lit t => rfl
  | _ =>
    cases args with
    | nil => rfl
    | cons a as =>
      simp only [Str.printLoop, Str.segment, segText]
      first
        | (cases cInt a <;> rfl)
        | (cases cStr a <;> rfl)
        | (cases showText a <;> rfl)

theorem Str.kf_print (s : Str) (pos : Nat) (it : FmtItem) (rest : List FmtItem) (args : List Val) :
    s.kf (.print pos (it :: rest) args) = (!s.alloc.nonHeap && decide (pos ≤ s.s.length) && (Str.segment args it).isOk) := by
  cases it with
  | lit t => simp [Str.kf, Str.segment, R.isOk]
  | _ =>
    cases args with
    | nil => simp [Str.kf, Str.segment, R.isOk]
    | cons a as =>
      simp only [Str.kf, Str.segment, segText]
      first
        | (cases cInt a <;> rfl)
        | (cases cStr a <;> rfl)
        | (cases showText a <;> rfl)

theorem Str.write_refused (s : Str) (pos : Nat) (t : List Char) (hw : (!s.alloc.nonHeap && decide (pos ≤ s.s.length)) = false) :
    s.write pos t = (s, .raised .ValueError) ∨ s.write pos t = (s, .ub) := by
  unfold Str.write
  cases hh : s.alloc.nonHeap with
  | true => exact .inl rfl
  | false =>
    have : pos > s.s.length := by simpa [hh] using hw
    exact .inr (by simp [this])

theorem Str.write_ok (s : Str) (pos : Nat) (t : List Char) (hh : s.alloc.nonHeap = false) (hp : pos ≤ s.s.length) :
    s.write pos t = ({ s with s := s.s.take pos ++ t }, .ok t.length) ∧
    pos + t.length ≤ ({ s with s := s.s.take pos ++ t } : Str).s.length := by
  unfold Str.write
  have : ¬ pos > s.s.length := by omega
  simp [hh, this, List.length_take, Nat.min_eq_left hp]

/-- an argument that must be an Int -/
def intArgExc (v : Val) : Option Exc :=
  match v with
  | .int _ => none
  | .null => some .ValueError
  | _ => some .ClassError

/-- arguments `print_to` can show without printing an address -/
def Val.printable : Val → Prop
  | .int _ => True
  | .str _ => True
  | .null => True
  | _ => False

/-- what `print_to` into a String must raise: the first problem met in format order — a segment written into a String that
    is not on the heap (ValueError), a directive without an argument (FormatError), an argument of the wrong type -/
def printExc (heap : Bool) : List FmtItem → List Val → Option Exc
  | [], _ => none
  | .lit _ :: rest, args => if heap then printExc heap rest args else some .ValueError
  | .d :: _, [] => some .FormatError
  | .s :: _, [] => some .FormatError
  | .q :: _, [] => some .FormatError
  | .d :: rest, a :: args => (intArgExc a).or (if heap then printExc heap rest args else some .ValueError)
  | .s :: rest, a :: args => (strArgExc a).or (if heap then printExc heap rest args else some .ValueError)
  | .q :: rest, _ :: args => if heap then printExc heap rest args else some .ValueError

theorem Str.segment_exc (heap : Bool) (it : FmtItem) (rest : List FmtItem) (args : List Val) (ha : ∀ a ∈ args, a.printable) :
    match Str.segment args it with
    | .ok (_, args') =>
      printExc heap (it :: rest) args = (if heap then printExc heap rest args' else some .ValueError) ∧ ∀ a ∈ args', a.printable
    | .raised e => printExc heap (it :: rest) args = some e
    | .ub => False := by
  cases it with
  | lit t => exact ⟨rfl, ha⟩
  | _ =>
    cases args with
    | nil => rfl
    | cons a as =>
      have hp := ha a List.mem_cons_self
      have tail : ∀ x ∈ as, x.printable := fun x hx => ha x (List.mem_cons_of_mem _ hx)
      cases a <;> first | exact hp.elim | exact ⟨rfl, tail⟩ | rfl

end Cello.Fail
