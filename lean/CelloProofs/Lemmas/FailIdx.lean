import Cello.FailIdx
/-
  C12: what `IdxProg.run` and `siteMsg` give on any index prologue / index throw site of the common form (`IdxProg.hasForm`,
  `indexSite`).  That a generated prologue has the form is decided by evaluation where it is used (Props/C12.lean); that the throw
  sites of the nine functions that refuse an index have it, by one evaluation here (`SeqK.indexSites`).
-/
namespace CelloGen.Fail
open Cello.Fail

/-- the common form of the index prologues: `i` is `c_int(key)` (a local initialised first, or the parameter of `List_At`), one
    statement `i = i < 0 ? m + i : i`, the guard `i < 0 or c` -/
def IdxProg.hasForm (p : IdxProg) (m c : IE) : Bool :=
  p.assigns == (if p.param then [] else [.key]) ++ [.cond (.lt .i (.lit 0)) (.add m .i) .i] && p.guard == .or (.lt .i (.lit 0)) c

theorem IE.eval_normalise (m : IE) (k n i : BitVec 64) :
    ((IE.cond (.lt .i (.lit 0)) (.add m .i) .i).eval k n i).1 = if i.slt 0 then (m.eval k n i).1 + i else i := by
  simp only [IE.eval, cvLt, cvBool, Bool.and_self, if_true]
  cases i.slt 0 <;> rfl

theorem IE.eval_guard (c : IE) (k n i : BitVec 64) :
    (!(((IE.or (.lt .i (.lit 0)) c).eval k n i).1 != 0)) = (!i.slt 0 && !(c.eval k n i).1 != 0) := by
  simp only [IE.eval, cvLt, cvBool, Bool.and_self, if_true]
  cases i.slt 0 <;> cases (c.eval k n i).1 != 0 <;> rfl

theorem IdxProg.index_of_hasForm {p : IdxProg} {m c : IE} (h : p.hasForm m c = true) (n : Nat) (k : BitVec 64) :
    p.index n k = if k.slt 0 then (m.eval k (BitVec.ofNat 64 n) k).1 + k else k := by
  simp only [IdxProg.hasForm, Bool.and_eq_true, beq_iff_eq] at h
  unfold IdxProg.index
  rw [h.1]
  cases p.param <;> exact IE.eval_normalise m k _ k

theorem IdxProg.run_of_hasForm {p : IdxProg} {m c : IE} (h : p.hasForm m c = true) (n : Nat) (k : BitVec 64) :
    p.run n k =
      (let i := if k.slt 0 then (m.eval k (BitVec.ofNat 64 n) k).1 + k else k
       if !i.slt 0 && !(c.eval k (BitVec.ofNat 64 n) i).1 != 0 then .ok i.toNat else .raised .IndexOutOfBoundsError) := by
  have flip (g : Bool) (x y : R Nat) : (if g = true then x else y) = if (!g) = true then y else x := by cases g <;> rfl
  unfold IdxProg.run
  rw [IdxProg.index_of_hasForm h]
  simp only [IdxProg.hasForm, Bool.and_eq_true, beq_iff_eq] at h
  rw [h.2, flip, IE.eval_guard]

theorem IdxProg.run_eq_resolveB {p : IdxProg} (h : p.hasForm .n (.ge .i (.castS .n)) = true) (n : Nat) (k : BitVec 64) :
    p.run n k = resolveB n k := by
  have hc (i : BitVec 64) : (!i.slt 0 && !((IE.ge .i (.castS .n)).eval k (BitVec.ofNat 64 n) i).1 != 0) = inBounds n i := by
    simp only [IE.eval, cvLt, cvBool, Bool.and_self, if_true, inBounds]
    cases i.slt 0 <;> cases i.slt (BitVec.ofNat 64 n) <;> rfl
  rw [IdxProg.run_of_hasForm h]; dsimp only; rw [hc]; rfl

theorem IdxProg.run_eq_pushAt {p : IdxProg} (h : p.hasForm (.add .n (.lit 1)) (.gt .i (.castS .n)) = true) (n : Nat) (k : BitVec 64) :
    p.run n k = (if inBoundsIncl n (normIdxPush n k) then .ok (normIdxPush n k).toNat else .raised .IndexOutOfBoundsError) := by
  have hc (i : BitVec 64) : (!i.slt 0 && !((IE.gt .i (.castS .n)).eval k (BitVec.ofNat 64 n) i).1 != 0) = inBoundsIncl n i := by
    simp only [IE.eval, cvLt, cvBool, Bool.and_self, if_true, inBoundsIncl]
    cases i.slt 0 <;> cases (BitVec.ofNat 64 n).slt i <;> rfl
  rw [IdxProg.run_of_hasForm h]; dsimp only; rw [hc]; rfl

end CelloGen.Fail

namespace Cello.Fail
open CelloGen.Fail

def indexFormat (ty : String) : String := "Index '%i' out of bounds for " ++ ty ++ " of size %i."

def SeqK.tyName : SeqK → String
  | .arr => "Array" | .lst => "List" | .tup => "Tuple"

/-- the first argument of the index throw sites of a kind: Array and Tuple pass the key object, `List_At` its own parameter -/
def SeqK.shownArg : SeqK → String
  | .lst => "$(Int,i)" | _ => "key"

/-- the value that argument has at the throw: the key as passed; `List_At` has normalised its parameter by then -/
def SeqK.shown (sk : SeqK) (n : Nat) (k : BitVec 64) : BitVec 64 :=
  match sk with
  | .lst => normIdx n k
  | _ => k

theorem pieces_indexFormat (sk : SeqK) : pieces (indexFormat sk.tyName).toList [] =
    [.text "Index '", .int32, .text ("' out of bounds for " ++ sk.tyName ++ " of size "), .int32, .text "."] := by
  -- `String.toList_ofList` takes the characters of a literal without evaluating `toList`, which would decode its bytes (far dearer)
  unfold indexFormat
  rw [String.toList_append, String.toList_append, String.toList_ofList]
  cases sk <;> (rw [SeqK.tyName, String.toList_ofList, String.toList_ofList]; decide +kernel)

/-- the IndexOutOfBoundsError throw site of `f` has the index format for `ty`, with argument `a` and the item count (in one of
    its spellings: an argument whose value does not depend on the key or the index) -/
def indexSite (f ty a : String) : Bool :=
  match throwSites.find? (fun s => s.1 == f && s.2.1 == "IndexOutOfBoundsError") with
  | some (_, _, fmt, [a', c]) => fmt == indexFormat ty && a' == a && argValue 0 1 2 c == some 2
  | _ => false

theorem argValue_count {c : String} (h : argValue 0 1 2 c = some 2) (key i : Int) (n : Nat) :
    argValue key i n c = some (n : Int) := by
  unfold argValue at h ⊢
  split at h
  · cases h
  · split at h
    · cases h
    · split at h
      · rename_i h1 h2 h3; rw [if_neg h1, if_neg h2, if_pos h3]
      · cases h

theorem siteMsg_of_indexSite {f a : String} (sk : SeqK) (h : indexSite f sk.tyName a = true)
    {key i shown : Int} {n : Nat} (ha : argValue key i n a = some shown) :
    siteMsg throwSites f "IndexOutOfBoundsError" key i n =
      some ("Index '" ++ (i32Text shown ++ ("' out of bounds for " ++ sk.tyName ++ " of size " ++ (i32Text n ++ ".")))) := by
  unfold indexSite at h
  unfold siteMsg
  split at h
  · rename_i fmt a' c hs
    simp only [Bool.and_eq_true, beq_iff_eq] at h
    obtain ⟨⟨rfl, rfl⟩, hc⟩ := h
    simp only [hs, List.mapM_cons, List.mapM_nil, ha, argValue_count hc, pieces_indexFormat sk, renderPieces, Option.map_some, String.append_empty,
      bind, Option.bind, pure]
  · cases h

theorem siteMsg_of_plainSite {f e msg : String} (h : throwSites.find? (fun s => s.1 == f && s.2.1 == e) = some (f, e, msg, []))
    (hp : pieces msg.toList [] = [.text msg]) (key i : Int) (n : Nat) : siteMsg throwSites f e key i n = some msg := by
  simp only [siteMsg, h, List.mapM_nil, hp, renderPieces, Option.map_some, String.append_empty, pure]

theorem SeqK.refusalMsg_index {sk : SeqK} {op : Op} {f : String} {key : Int} (n : Nat)
    (hf : sk.indexFn op = some f) (ha : op.indexArg = some (.int key)) :
    sk.refusalMsg n op = siteMsg throwSites f "IndexOutOfBoundsError" (BitVec.ofInt 64 key).toInt
      (SeqK.indexAtThrow f n (BitVec.ofInt 64 key)) n := by
  cases op <;> cases ha <;> simp only [SeqK.refusalMsg, hf, Op.indexArg]

/-- the throw sites of the nine functions that refuse an index, read in one run over `throwSites`: each formats the index message of
    its kind, showing `SeqK.shownArg` (the operations stand for their constructors: `SeqK.indexFn` does not look at the arguments) -/
theorem SeqK.indexSites : ∀ sk ∈ [SeqK.arr, .lst, .tup], ∀ op ∈ [Op.get .null, .set .null .null, .popAt .null, .pushAt .null .null],
    ∀ f ∈ sk.indexFn op, indexSite f sk.tyName sk.shownArg = true := by decide +kernel

theorem SeqK.indexSite_of_indexFn {sk : SeqK} {op : Op} {f : String} (hf : sk.indexFn op = some f) :
    indexSite f sk.tyName sk.shownArg = true := by
  have h := SeqK.indexSites sk (by cases sk <;> decide)
  cases op with
  | get k => exact h (.get .null) (by decide) f (by cases sk <;> exact hf)
  | set k v => exact h (.set .null .null) (by decide) f (by cases sk <;> exact hf)
  | popAt k => exact h (.popAt .null) (by decide) f (by cases sk <;> exact hf)
  | pushAt v k => exact h (.pushAt .null .null) (by decide) f (by cases sk <;> exact hf)
  | _ => cases sk <;> cases hf

end Cello.Fail
