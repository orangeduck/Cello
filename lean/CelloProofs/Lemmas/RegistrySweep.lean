/-
  The in-place compaction loop of GC_Sweep (`sweepLoop` in Cello/Registry.lean): `while (i < nslots)` skipping empty, marked
  and root slots and erasing every other entry by backward shift *without advancing*, so that the entry shifted into slot
  `i` (possibly from slot 0 through the wrap-around) is examined next.  Loop invariant: the table satisfies the robin-hood
  invariant and every occupied slot below `i` holds an entry that is kept.
-/
import Cello.Registry
import CelloProofs.Lemmas.RHErase
namespace Cello.Registry
open RH

/-- the entries GC_Sweep keeps -/
def Keep (e : Ent) : Prop := e.val.marked = true ∨ e.val.root = true

theorem push_append_keys (pend : Array (Option Nat)) (e : Ent) (l : List Ent) :
    pend.push (some e.key) ++ (l.map (fun x => some x.key)).toArray = pend ++ ((e :: l).map (fun x => some x.key)).toArray := by
  apply Array.ext'
  simp

/-- Every iteration advances `i` or erases an entry, hence the fuel `(n - i) + occ s + 1`.  The empty slot `z` witnesses that
    a shift never runs all the way round. -/
theorem sweepLoop_spec {n : Nat} (hash : Nat → Nat) :
    ∀ (fuel : Nat) (s : Slots Nat Payload n) (i : Nat) (pend : Array (Option Nat)) (ni : Nat) (z : Nat) (hz : z < n),
      Inv0 hash s → s[z] = none →
      (∀ q (hq : q < n), q < i → ∀ e, s[q] = some e → Keep e) →
      (n - i) + occ s < fuel →
      ∃ (s' : Slots Nat Payload n) (removed : List Ent),
        sweepLoop fuel s i pend ni = some (s', pend ++ (removed.map (fun x => some x.key)).toArray, ni - removed.length) ∧
        Inv0 hash s' ∧ s'[z] = none ∧
        (∀ e, Mem s' e ↔ Mem s e ∧ Keep e) ∧ (∀ e, e ∈ removed ↔ Mem s e ∧ ¬ Keep e) ∧
        removed.Nodup ∧ occ s' + removed.length = occ s := by
  intro fuel
  induction fuel with
  | zero => intro s i pend ni z hz _ _ _ h; omega
  | succ fuel ih =>
    intro s i pend ni z hz inv hze hex hf
    unfold sweepLoop
    split
    · rename_i hi
      have advance : (∀ e, s[i] = some e → Keep e) → ∀ q (hq : q < n), q < i + 1 → ∀ e, s[q] = some e → Keep e := by
        intro hk q hq hqi e he
        by_cases h : q = i
        · subst h; exact hk e he
        · exact hex q hq (by omega) e he
      have hfuel : n - (i + 1) + occ s < fuel := by omega
      split
      · rename_i hnone
        exact ih s (i+1) pend ni z hz inv hze (advance (by intro e he; rw [hnone] at he; cases he)) hfuel
      · rename_i e he
        by_cases hm : e.val.marked = true
        · rw [if_pos hm]
          exact ih s (i+1) pend ni z hz inv hze (advance (by intro e' he'; rw [he] at he'; cases he'; exact Or.inl hm)) hfuel
        · rw [if_neg hm]
          by_cases hr : e.val.root = true
          · have hc : ¬ ((!e.val.root && !e.val.marked) = true) := by simp [hr]
            rw [if_neg hc]
            exact ih s (i+1) pend ni z hz inv hze (advance (by intro e' he'; rw [he] at he'; cases he'; exact Or.inr hr)) hfuel
          · have hc : (!e.val.root && !e.val.marked) = true := by
              rw [Bool.not_eq_true] at hm hr; rw [hm, hr]; rfl
            rw [if_pos hc]
            obtain ⟨s1, hs1, inv1, hz1, hmem1, hocc1, hpos1⟩ := eraseAt_spec hash s inv i hi e he z hz hze
            rw [hs1]
            simp only []
            have hex1 : ∀ q (hq : q < n), q < i → ∀ e', s1[q] = some e' → Keep e' := by
              intro q hq hqi e' he'
              rcases hpos1 q hq e' he' with ⟨_, h⟩ | ⟨hne, h⟩
              · exact hex q hq hqi e' h
              · -- a slot below `i` took its successor's entry: no wrap-around there (`q + 1 ≤ i < n`), and the successor is
                -- not `i` itself, whose entry is the one erased
                have hnq : next n q = q + 1 := by unfold next; split <;> omega
                have hlt : q + 1 < i := by
                  rcases Nat.lt_or_ge (q + 1) i with h' | h'
                  · exact h'
                  · exact absurd (by omega : next n q = i) hne
                exact hex (next n q) (next_lt hq) (by omega) e' h
            obtain ⟨s', removed, hs', inv', hz', hmem', hrem', hnd', hocc'⟩ :=
              ih s1 i (pend.push (some e.key)) (ni - 1) z hz inv1 hz1 hex1 (by omega)
            have hnk : ¬ Keep e := fun h => h.elim hm hr
            refine ⟨s', e :: removed, ?_, inv', hz', fun e0 => ?_, fun e0 => ?_, ?_, ?_⟩
            · rw [hs', push_append_keys]
              simp only [List.length_cons, Nat.sub_sub]
              rw [Nat.add_comm 1]
            · -- a kept entry is not the erased one
              rw [hmem' e0, hmem1 e0]
              exact ⟨fun ⟨⟨a, _⟩, k⟩ => ⟨a, k⟩, fun ⟨a, k⟩ => ⟨⟨a, fun h => hnk (h ▸ k)⟩, k⟩⟩
            · rw [List.mem_cons, hrem' e0, hmem1 e0]
              constructor
              · rintro (rfl | ⟨⟨a, _⟩, k⟩)
                · exact ⟨⟨i, hi, he⟩, hnk⟩
                · exact ⟨a, k⟩
              · rintro ⟨a, k⟩
                by_cases h0 : e0 = e
                · exact Or.inl h0
                · exact Or.inr ⟨⟨a, h0⟩, k⟩
            · exact List.nodup_cons.2 ⟨fun h => (((hmem1 e).1 ((hrem' e).1 h).1).2 rfl), hnd'⟩
            · simp only [List.length_cons]; omega
    · rename_i hi
      refine ⟨s, [], by simp, inv, hze, fun e => ⟨fun h => ⟨h, ?_⟩, fun h => h.1⟩, fun e => ⟨fun h => (nomatch h), ?_⟩, List.nodup_nil, by simp⟩
      · obtain ⟨q, hq, he⟩ := h
        exact hex q hq (by omega) e he
      · rintro ⟨⟨q, hq, he⟩, hk⟩
        exact absurd (hex q hq (by omega) e he) hk

/-- the compaction loop from slot 0 with the fuel GC_Sweep's model gives it -/
theorem sweepLoop_total {n : Nat} (hash : Nat → Nat) (s : Slots Nat Payload n) (ni : Nat) (inv : Inv0 hash s)
    (hroom : occ s < n ∨ n = 0) :
    ∃ (s' : Slots Nat Payload n) (removed : List Ent),
      sweepLoop (2 * n + 1) s 0 #[] ni = some (s', (removed.map (fun x => some x.key)).toArray, ni - removed.length) ∧
      Inv0 hash s' ∧ (∀ e, Mem s' e ↔ Mem s e ∧ Keep e) ∧ (∀ e, e ∈ removed ↔ Mem s e ∧ ¬ Keep e) ∧
      removed.Nodup ∧ occ s' + removed.length = occ s := by
  rcases Nat.eq_zero_or_pos n with h0 | hpos
  · subst h0
    have hno : ∀ e, ¬ Mem s e := fun e ⟨q, hq, _⟩ => Nat.not_lt_zero q hq
    refine ⟨s, [], ?_, inv, fun e => ?_, fun e => ?_, List.nodup_nil, by simp⟩
    · rw [sweepLoop, dif_neg (Nat.lt_irrefl 0)]; rfl
    · simp [hno e]
    · simp [hno e]
  · have hlt : occ s < n := by rcases hroom with h | h <;> omega
    obtain ⟨z, hz, hze⟩ := exists_empty_of_occ_lt s hlt
    obtain ⟨s', removed, h1, h2, _, h4⟩ :=
      sweepLoop_spec hash (2 * n + 1) s 0 #[] ni z hz inv hze (by intro q hq h; omega) (by omega)
    refine ⟨s', removed, ?_, h2, h4⟩
    rw [h1, Array.empty_append]

end Cello.Registry
