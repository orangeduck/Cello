/-
  The probe of GC_Mark_Item (`markLoop`) is a probing loop (`RH.ProbeLoop`); under the invariant its result is a map over
  the payloads, the form in which RegistryOps.lean treats every rewrite of mark bits (`Marked.map_payload`).
-/
import Cello.Registry
import CelloProofs.Lemmas.RH
namespace Cello.Registry
open RH

def setMark (e : Ent) : Ent := { e with val := { e.val with marked := true } }

theorem probeLoop_markLoop {n : Nat} (s : Slots Nat Payload n) (p : Nat) :
    ProbeLoop s (fun e => e.key = p ∧ e.val.marked = false) (fun i hi e => s.set i (some (setMark e)) hi) s (markLoop s p) := by
  refine ⟨⟨?_, ?_⟩, ?_, ?_⟩
  · intro fuel i j hi e h hj hk; simp only [markLoop, h, if_neg hj, if_pos hk]; rfl
  · intro fuel i j hi e h hj hk; simp only [markLoop, h, if_neg hj, if_neg hk]
  · intro fuel i j hi h; simp only [markLoop, h]
  · intro fuel i j hi e h hj; simp only [markLoop, h, if_pos hj]

/-- keys being distinct, setting the mark bit of the one unmarked entry of `p` is the same as mapping over all slots -/
theorem markLoop_spec {n : Nat} (hash : Nat → Nat) (s : Slots Nat Payload n) (inv : Inv hash s) (hn : 0 < n) (p : Nat) :
    markLoop s p n (hash p % n) 0 (Nat.mod_lt _ hn) = some (s.map (fun o => o.map (fun e => if e.key = p then setMark e else e))) := by
  have hhome : hash p % n < n := Nat.mod_lt _ hn
  by_cases hex : ∃ q, ∃ hq : q < n, ∃ e, s[q] = some e ∧ e.key = p ∧ e.val.marked = false
  · obtain ⟨q, hq, e, he, rfl, hm⟩ := hex
    rw [(probeLoop_markLoop s e.key).reaches_from_home inv.toInv0 hn hq he ⟨rfl, hm⟩ fun _ h => h.1]
    congr 1
    apply Vector.ext
    intro k hk
    rw [Vector.getElem_map, Vector.getElem_set]
    split
    · rename_i hqk; subst hqk; rw [he]; simp only [Option.map_some, if_true]
    · rename_i hqk
      cases hsk : s[k] with
      | none => rfl
      | some e' =>
        have : ¬ e'.key = e.key := fun h' => hqk (inv.distinct q k hq hk e e' he hsk h'.symm)
        simp only [Option.map_some, if_neg this]
  · obtain ⟨z, hz, hze⟩ := inv.has_empty
    rw [(probeLoop_markLoop s p).stops_n (fun q hq e he h => hex ⟨q, hq, e, he, h⟩) hz hze 0 hhome]
    congr 1
    apply Vector.ext
    intro k hk
    rw [Vector.getElem_map]
    cases hsk : s[k] with
    | none => rfl
    | some e' =>
      by_cases hkp : e'.key = p
      · have hmk : e'.val.marked = true := by
          cases hm : e'.val.marked with
          | true => rfl
          | false => exact absurd ⟨k, hk, e', hsk, hkp, hm⟩ hex
        have heq : setMark e' = e' := by
          cases e' with | mk k' h' v => cases v with | mk r m => simp [setMark] at hmk ⊢; exact hmk
        simp only [Option.map_some, if_pos hkp, heq]
      · simp only [Option.map_some, if_neg hkp]

end Cello.Registry
