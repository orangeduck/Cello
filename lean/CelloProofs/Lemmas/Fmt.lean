/-
  Helper lemmas for C14 (engine fmt): memory reads of the format array, the two scan loops, the copy into fmt_buf; one turn
  of the scanner loop as a decision taken from the format alone (`turn`), followed by its action on the destination (`loop_succ`).
-/
import Cello.Fmt

namespace Cello.Fmt

theorem rd_append (pre suf : Str) (k : Nat) : rd (pre ++ suf) (pre.length + k) = rd suf k := by
  unfold rd mem
  rw [List.append_assoc, List.getElem?_append_right (by omega)]
  simp

theorem rd_append_zero (pre suf : Str) : rd (pre ++ suf) pre.length = rd suf 0 := by
  simpa using rd_append pre suf 0

theorem rd_cons_zero (c : Char) (r : Str) : rd (c :: r) 0 = some c := by
  simp [rd, mem]

theorem rd_nil_zero : rd [] 0 = some NUL := by
  simp [rd, mem]

theorem rd_cons_succ (c : Char) (r : Str) (k : Nat) : rd (c :: r) (k + 1) = rd r k := by
  simp [rd, mem]

theorem strchrHit_eq_true {set : Str} {c : Char} : strchrHit set c = true ↔ c = NUL ∨ c ∈ set := by simp [strchrHit]

theorem strchrHit_eq_false {set : Str} {c : Char} : strchrHit set c = false ↔ c ≠ NUL ∧ c ∉ set := by simp [strchrHit]

theorem ordinary_iff {c : Char} : ordinary c = true ↔ c ≠ NUL ∧ c ≠ '%' := by simp [ordinary]

/-- the character a scan stops at: the first of the rest, or the terminator -/
def headOrNul (t : Str) : Char := t.headD NUL

theorem rd_zero (t : Str) : rd t 0 = some (headOrNul t) := by
  cases t <;> simp [rd, mem, headOrNul]

theorem scanLit_stop {fmt : Str} {i : Nat} {c : Char} (fuel : Nat) (h : rd fmt i = some c) (hc : ordinary c = false) :
    scanLit fmt (fuel + 1) i = some i := by
  rw [scanLit, h]
  exact if_neg fun hn => Bool.false_ne_true (hc.symm.trans (ordinary_iff.2 hn))

theorem scanLit_run (s : Str) : ∀ (pre t : Str) (fuel : Nat),
    (∀ c ∈ s, c ≠ NUL ∧ c ≠ '%') → ordinary (headOrNul t) = false → s.length < fuel →
    scanLit (pre ++ (s ++ t)) fuel pre.length = some (pre.length + s.length) := by
  induction s with
  | nil =>
    intro pre t fuel _ ht hf
    obtain ⟨f, rfl⟩ := Nat.exists_eq_add_one_of_ne_zero (Nat.ne_of_gt hf)
    exact scanLit_stop f (by rw [List.nil_append, rd_append_zero, rd_zero]) ht
  | cons c s ih =>
    intro pre t fuel hs ht hf
    obtain ⟨f, rfl⟩ := Nat.exists_eq_add_one_of_ne_zero (Nat.ne_of_gt (Nat.zero_lt_of_lt hf))
    have h0 : rd (pre ++ (c :: s ++ t)) pre.length = some c := by rw [rd_append_zero]; exact rd_cons_zero ..
    rw [scanLit, h0]
    simp only []
    rw [if_pos (hs c List.mem_cons_self)]
    have := ih (pre ++ [c]) t f (fun x hx => hs x (List.mem_cons_of_mem _ hx)) ht (Nat.lt_of_succ_lt_succ hf)
    rw [List.append_assoc, List.length_append] at this
    exact this.trans (congrArg some (show pre.length + 1 + s.length = pre.length + (s.length + 1) by omega))

theorem scanConv_run (conv : Str) (b : Str) : ∀ (pre : Str) (c : Char) (t : Str) (fuel : Nat),
    (∀ x ∈ b, strchrHit conv x = false) → strchrHit conv c = true → b.length < fuel →
    scanConv conv (pre ++ (b ++ c :: t)) fuel pre.length = some (pre.length + b.length) := by
  induction b with
  | nil =>
    intro pre c t fuel _ hc hf
    obtain ⟨f, rfl⟩ := Nat.exists_eq_add_one_of_ne_zero (Nat.ne_of_gt hf)
    rw [scanConv, List.nil_append, rd_append_zero, rd_cons_zero]
    exact if_pos hc
  | cons x b ih =>
    intro pre c t fuel hb hc hf
    obtain ⟨f, rfl⟩ := Nat.exists_eq_add_one_of_ne_zero (Nat.ne_of_gt (Nat.zero_lt_of_lt hf))
    have h0 : rd (pre ++ (x :: b ++ c :: t)) pre.length = some x := by rw [rd_append_zero]; exact rd_cons_zero ..
    rw [scanConv, h0]
    simp only []
    rw [if_neg (by rw [hb x List.mem_cons_self]; exact Bool.false_ne_true)]
    have := ih (pre ++ [x]) c t f (fun y hy => hb y (List.mem_cons_of_mem _ hy)) hc (Nat.lt_of_succ_lt_succ hf)
    rw [List.append_assoc, List.length_append] at this
    exact this.trans (congrArg some (show pre.length + 1 + b.length = pre.length + (b.length + 1) by omega))

theorem scanConv_some {conv fmt : Str} {j : Nat} : ∀ {fuel i : Nat}, scanConv conv fmt fuel i = some j → ∃ c, rd fmt j = some c
  | 0, _ => nofun
  | fuel + 1, i => by
    rw [scanConv]
    cases hr : rd fmt i with
    | none => nofun
    | some c =>
      dsimp only
      split
      · exact fun h => ⟨c, Option.some.inj h ▸ hr⟩
      · exact scanConv_some

theorem slice_mid (pre s t : Str) : slice (pre ++ (s ++ t)) pre.length s.length = some s := by
  unfold slice mem
  rw [if_pos (by simp; omega)]
  simp [List.append_assoc]

theorem cstrOf_of_noNul (s : Str) (h : ∀ c ∈ s, c ≠ NUL) : cstrOf s = s := by
  unfold cstrOf
  induction s with
  | nil => rfl
  | cons c s ih =>
    have hc := h c (by simp)
    simp only [List.takeWhile_cons, hc, ne_eq, not_false_eq_true, decide_true, if_true]
    rw [ih (fun x hx => h x (by simp [hx]))]

/-- what one turn of the `while (true)` loop of `print_to_with` decides from the format alone, before it looks at the
    arguments or the destination: leave the loop, make one `format_to` call, or dispatch one specification on the next argument -/
inductive Turn where
  | stop (oc : Outcome) (mk : Marks)
  | call (frag : Str) (i : Nat) (mk : Marks)
  | spec (c : Char) (buf : Str) (i : Nat) (mk : Marks)

/-- the body of `loop` without the arguments and the destination -/
def turn (conv fmt : Str) (i : Nat) (mk : Marks) : Turn :=
  let L := fmt.length
  match rd fmt i with
  | none => .stop .oob (mk.read i)
  | some c0 =>
  let mk := mk.read i
  if c0 = NUL then .stop .ok mk else
  match scanLit fmt (L + 2) i with
  | none => .stop .oob (mk.read (L + 1))
  | some j =>
  let mk := mk.read j
  if i ≠ j then
    match slice fmt i (j - i) with
    | none => .stop .oob (mk.read (L + 1))
    | some buf =>
    let mk := mk.write (j - i)
    if j - i > L then .stop .oob mk else .call (cstrOf buf) j mk
  else
  match (if c0 = '%' then rd fmt (i + 1) else some NUL) with
  | none => .stop .oob (mk.read (i + 1))
  | some c1 =>
  let mk := if c0 = '%' then mk.read (i + 1) else mk
  if c0 = '%' ∧ c1 = '%' then .call ['%', '%'] (i + 2) mk else
  match scanConv conv fmt (L + 2) i with
  | none => .stop .oob (mk.read (L + 1))
  | some j =>
  let mk := mk.read j
  if i ≠ j then
    match slice fmt i (j - i + 1) with
    | none => .stop .oob (mk.read (L + 1))
    | some buf =>
    let mk := mk.write (j - i + 1)
    if j - i + 1 > L then .stop .oob mk else
    -- `loop` makes this read after it has fetched the argument; where `scanConv` has stopped it cannot fail (`scanConv_some`)
    match rd fmt j with
    | none => .stop .oob mk
    | some c => .spec c (cstrOf buf) (j + 1) mk
  else .stop (.raised .FormatError) mk

/-- `andThen` for the loop: go on with `rest` if the action completed, else stop with its outcome and the marks `mk` -/
def thenLoop (r : Out × Outcome) (rest : Out → Result) (mk : Marks) : Result :=
  match r with
  | (o', .ok) => rest o'
  | (o', bad) => ⟨o', bad, mk⟩

theorem thenLoop_pair (act : Out → Out × Outcome) (rest : Out → Result) (mk : Marks) :
    (fun o => (thenLoop (act o) rest mk).pair) = andThen act fun o' => (rest o').pair := by
  funext o
  unfold thenLoop andThen
  rcases act o with ⟨o', oc⟩
  cases oc <;> rfl

section
variable (cfg : Cfg) (prim : Prim) (shw : Obj → Out → Out × Outcome) (fmt : Str) (args : List Obj)

/-- one iteration of `loop`: what `turn` decides, then the action on the destination and the rest of the loop; only a
    specification looks at the arguments -/
theorem loop_succ (f i k : Nat) (o : Out) (mk : Marks) :
    loop cfg prim shw fmt args (f + 1) i k o mk =
      match turn cfg.conv fmt i mk with
      | .stop oc mk' => ⟨o, oc, mk'⟩
      | .call frag j mk' => thenLoop (o.call prim frag .none) (loop cfg prim shw fmt args f j k · mk') mk'
      | .spec c buf j mk' =>
        match args[k]? with
        | none => ⟨o, .raised .FormatError, mk'⟩
        | some a => thenLoop (dispatch prim shw cfg.disp c buf a o) (loop cfg prim shw fmt args f j (k + 1) · mk') mk' := by
  -- both sides make the same tests in the same order (but for the last read, see `turn`): each is decided once, for the machine
  -- and for its turn together
  rw [loop]; unfold turn
  cases rd fmt i with
  | none => rfl
  | some c0 =>
  dsimp only
  by_cases hn : c0 = NUL
  · rw [if_pos hn, if_pos hn]
  rw [if_neg hn, if_neg hn]
  cases scanLit fmt (fmt.length + 2) i with
  | none => rfl
  | some j =>
  dsimp only
  by_cases hij : i ≠ j
  · rw [if_pos hij, if_pos hij]
    cases slice fmt i (j - i) with
    | none => rfl
    | some buf =>
    dsimp only
    by_cases hgt : j - i > fmt.length
    · rw [if_pos hgt, if_pos hgt]
    · rw [if_neg hgt, if_neg hgt]; rfl
  rw [if_neg hij, if_neg hij]
  cases (if c0 = '%' then rd fmt (i + 1) else some NUL) with
  | none => rfl
  | some c1 =>
  dsimp only
  by_cases hpp : c0 = '%' ∧ c1 = '%'
  · rw [if_pos hpp, if_pos hpp]; rfl
  rw [if_neg hpp, if_neg hpp]
  cases hj : scanConv cfg.conv fmt (fmt.length + 2) i with
  | none => rfl
  | some j =>
  obtain ⟨c, hc⟩ := scanConv_some hj
  dsimp only
  by_cases hij' : i ≠ j
  · rw [if_pos hij', if_pos hij']
    cases slice fmt i (j - i + 1) with
    | none => rfl
    | some buf =>
    dsimp only
    by_cases hgt : j - i + 1 > fmt.length
    · rw [if_pos hgt, if_pos hgt]
    rw [if_neg hgt, if_neg hgt, hc]
    cases args[k]? <;> rfl
  · rw [if_neg hij', if_neg hij']

end

end Cello.Fmt
