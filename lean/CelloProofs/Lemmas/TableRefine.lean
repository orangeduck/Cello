/-
  CelloProofs/Lemmas/TableRefine.lean — histories over several tables: every step of the model refines the step of the
  association-list specification and keeps every table in the representation invariant.
-/
import CelloProofs.Lemmas.TableOps
import CelloProofs.Lemmas.TableIter
import CelloProofs.Lemmas.TableErase
namespace Cello.Table
variable {κ ν : Type}

/-- observations agree; iteration order is not part of the specification: the items must be a permutation -/
def ObsRel (a b : Obs κ ν) : Prop :=
  match a, b with
  | .items x, .items y => x.Perm y
  | _, _ => a = b

theorem ObsRel.refl (o : Obs κ ν) : ObsRel o o := by
  cases o <;> first | rfl | exact List.Perm.refl _

/-- every table variable represents the corresponding specification map -/
def StRel (hash : κ → Nat) (ts : List (Tab κ ν)) (ms : List (Spec κ ν)) : Prop :=
  ts.length = ms.length ∧ ∀ i (h1 : i < ts.length) (h2 : i < ms.length), Rep hash ts[i] ms[i]

theorem StRel.lookup {hash : κ → Nat} {ts : List (Tab κ ν)} {ms : List (Spec κ ν)} (R : StRel hash ts ms) (i : Nat) :
    (ts[i]? = none ∧ ms[i]? = none) ∨ ∃ tb m, ts[i]? = some tb ∧ ms[i]? = some m ∧ Rep hash tb m := by
  by_cases h : i < ts.length
  · exact Or.inr ⟨ts[i], ms[i]'(R.1 ▸ h), List.getElem?_eq_getElem h, List.getElem?_eq_getElem _, R.2 i h _⟩
  · exact Or.inl ⟨List.getElem?_eq_none (Nat.le_of_not_lt h), List.getElem?_eq_none (R.1 ▸ Nat.le_of_not_lt h)⟩

theorem StRel.set {hash : κ → Nat} {ts : List (Tab κ ν)} {ms : List (Spec κ ν)} (R : StRel hash ts ms) (i : Nat)
    {tb : Tab κ ν} {m : Spec κ ν} (r : Rep hash tb m) : StRel hash (ts.set i tb) (ms.set i m) := by
  refine ⟨by simp [R.1], ?_⟩
  intro j h1 h2
  rw [List.getElem_set, List.getElem_set]
  split
  · exact r
  · exact R.2 j (by simpa using h1) (by simpa using h2)

theorem strel_replicate (cfg : Cfg) (g : GoodCfg cfg) (hash : κ → Nat) (N : Nat) :
    StRel hash (List.replicate N (new cfg : Tab κ ν)) (List.replicate N []) := by
  refine ⟨by simp, ?_⟩
  intro i h1 h2
  simp only [List.getElem_replicate]
  exact new_rep cfg g hash

/-- an operation on table variable `t`: a variable that does not exist is a refused operation on both sides; one that exists
    holds a table that represents its map, and it is enough that the operation refines there.  The `match` in the statement
    is the one in the bodies of `step` / `stepA` / `stepX` and of their specifications (same discriminant type, same patterns:
    one matcher serves them all; `O`, `O'` only enter the result type), so the lemma applies to those bodies as they unfold
    and finds `F`, `G` there. -/
theorem StRel.at {hash : κ → Nat} {ts : List (Tab κ ν)} {ms : List (Spec κ ν)} (R : StRel hash ts ms) (t : Nat)
    {O O' : Type} {Ob : O → O' → Prop} {bad : O} {bad' : O'} (hbad : Ob bad bad')
    {F : Tab κ ν → Except Fail (List (Tab κ ν) × O)} {G : Spec κ ν → List (Spec κ ν) × O'}
    (H : ∀ tb m, ts[t]? = some tb → ms[t]? = some m → Rep hash tb m →
      ∃ ts' o, F tb = .ok (ts', o) ∧ StRel hash ts' (G m).1 ∧ Ob o (G m).2) :
    ∃ ts' o, (match ts[t]? with | none => Except.ok (ts, bad) | some tb => F tb) = .ok (ts', o) ∧
      StRel hash ts' (match ms[t]? with | none => (ms, bad') | some m => G m).1 ∧
      Ob o (match ms[t]? with | none => (ms, bad') | some m => G m).2 := by
  rcases R.lookup t with ⟨h, hm⟩ | ⟨tb, m, h, hm, r⟩ <;> simp only [h, hm]
  · exact ⟨_, _, rfl, R, hbad⟩
  · exact H tb m h hm r

/-- A history machine refines its specification if every step does.  The machine enters through the two equations of its
    `run` that concern success (the `cons` one as an implication: a failing step never arises), the specification through
    the two of its `specRun`; for `run`, `runA`, `runX` the states are the table and map lists, `R` is `StRel hash`. -/
theorem history_refines {σ τ Op O O' : Type} {R : σ → τ → Prop} {Ob : O → O' → Prop}
    {stepM : σ → Op → Except Fail (σ × O)} {stepS : τ → Op → τ × O'}
    {runM : σ → List Op → Except Fail (σ × List O)} {runS : τ → List Op → τ × List O'}
    (hM0 : ∀ ts, runM ts [] = .ok (ts, []))
    (hM : ∀ {ts op ops ts1 o ts2 os}, stepM ts op = .ok (ts1, o) → runM ts1 ops = .ok (ts2, os) →
      runM ts (op :: ops) = .ok (ts2, o :: os))
    (hS0 : ∀ ms, runS ms [] = (ms, []))
    (hS : ∀ ms op ops, runS ms (op :: ops) = ((runS (stepS ms op).1 ops).1, (stepS ms op).2 :: (runS (stepS ms op).1 ops).2))
    (hstep : ∀ ts ms, R ts ms → ∀ op, ∃ ts' o, stepM ts op = .ok (ts', o) ∧ R ts' (stepS ms op).1 ∧ Ob o (stepS ms op).2) :
    ∀ ops ts ms, R ts ms → ∃ ts' os, runM ts ops = .ok (ts', os) ∧ List.Forall₂ Ob os (runS ms ops).2 ∧ R ts' (runS ms ops).1 := by
  intro ops
  induction ops with
  | nil => intro ts ms r; rw [hS0]; exact ⟨ts, [], hM0 ts, .nil, r⟩
  | cons op ops ih =>
    intro ts ms r
    obtain ⟨ts1, o, e1, r1, ho⟩ := hstep ts ms r op
    obtain ⟨ts2, os, e2, hos, r2⟩ := ih ts1 _ r1
    rw [hS]; exact ⟨ts2, o :: os, hM e1 e2, .cons ho hos, r2⟩

variable [DecidableEq κ]

theorem step_refines (cfg : Cfg) (g : GoodCfg cfg) (hash : κ → Nat) (ts : List (Tab κ ν)) (ms : List (Spec κ ν))
    (R : StRel hash ts ms) (op : Op κ ν) :
    ∃ ts' o, step cfg hash ts op = .ok (ts', o) ∧ StRel hash ts' (specStep ms op).1 ∧ ObsRel o (specStep ms op).2 := by
  cases op <;> dsimp only [step, specStep]
  case new t =>
    simp only [R.1]
    split
    · exact ⟨_, _, rfl, R.set t (new_rep cfg g hash), rfl⟩
    · exact ⟨_, _, rfl, R, rfl⟩
  case set t k v =>
    refine R.at t (ObsRel.refl _) fun tb m _ _ r => ?_
    obtain ⟨t', e1, r1⟩ := set_rep cfg g hash tb m r k v
    simp only [e1]
    exact ⟨_, _, rfl, R.set t r1, rfl⟩
  case rem t k =>
    refine R.at t (ObsRel.refl _) fun tb m _ hm r => ?_
    obtain ⟨t', e1, r1⟩ := rem_rep cfg g hash tb m r k
    simp only [e1]
    cases hg : Spec.get m k with
    | none =>
      simp only [hg] at r1 ⊢
      refine ⟨_, _, rfl, ?_, rfl⟩
      have := R.set t r1
      rwa [set_self_of_getElem? hm] at this
    | some v =>
      simp only [hg] at r1 ⊢
      exact ⟨_, _, rfl, R.set t r1, rfl⟩
  case get t k =>
    refine R.at t (ObsRel.refl _) fun tb m _ _ r => ?_
    simp only [get_rep hash tb m r k]
    cases hg : Spec.get m k <;> exact ⟨_, _, rfl, R, rfl⟩
  case mem t k =>
    refine R.at t (ObsRel.refl _) fun tb m _ _ r => ?_
    simp only [mem_rep hash tb m r k]
    exact ⟨_, _, rfl, R, rfl⟩
  case len t =>
    refine R.at t (ObsRel.refl _) fun tb m _ _ r => ?_
    simp only [len_rep hash tb m r]
    exact ⟨_, _, rfl, R, rfl⟩
  case iter t => exact R.at t (ObsRel.refl _) fun tb m _ _ r => ⟨_, _, rfl, R, foreach_perm hash tb m r.toRep0⟩
  case riter t => exact R.at t (ObsRel.refl _) fun tb m _ _ r => ⟨_, _, rfl, R, foreachRev_perm hash tb m r.toRep0⟩
  case resize t sz =>
    refine R.at t (ObsRel.refl _) fun tb m _ hm r => ?_
    obtain ⟨t', e1, r1⟩ := resize_rep cfg g hash tb m r sz
    simp only [e1]
    by_cases h0 : sz = 0
    · simp only [h0, if_true] at r1 ⊢
      exact ⟨_, _, rfl, R.set t r1, rfl⟩
    · simp only [h0, if_false] at r1 ⊢
      have hset := R.set t r1
      rw [set_self_of_getElem? hm] at hset
      split <;> exact ⟨_, _, rfl, hset, rfl⟩
  case assign d s =>
    rcases R.lookup d with ⟨hd, hmd⟩ | ⟨db, md, hd, hmd, _⟩ <;> simp only [hd, hmd]
    · exact ⟨_, _, rfl, R, rfl⟩
    · rcases R.lookup s with ⟨hs, hm⟩ | ⟨sb, m, hs, hm, r⟩ <;> simp only [hs, hm]
      · exact ⟨_, _, rfl, R, rfl⟩
      · by_cases hds : d = s
        · -- `assign(t, t)`: the guard returns at once, the table and the map stay as they are
          subst hds
          rw [hd] at hs; cases hs
          rw [hmd] at hm; cases hm
          simp only [if_true, assignSelf, g.guards]
          refine ⟨_, _, rfl, ?_, rfl⟩
          rw [set_self_of_getElem? hd, set_self_of_getElem? hmd]; exact R
        · obtain ⟨t', e1, r1⟩ := assignFrom_rep cfg g hash sb m r
          simp only [hds, if_false, e1]
          exact ⟨_, _, rfl, R.set d r1, rfl⟩
  case copy d s =>
    rcases R.lookup d with ⟨hd, hmd⟩ | ⟨db, md, hd, hmd, _⟩ <;> simp only [hd, hmd]
    · exact ⟨_, _, rfl, R, rfl⟩
    · rcases R.lookup s with ⟨hs, hm⟩ | ⟨sb, m, hs, hm, r⟩ <;> simp only [hs, hm]
      · exact ⟨_, _, rfl, R, rfl⟩
      · obtain ⟨t', e1, r1⟩ := assignFrom_rep cfg g hash sb m r
        simp only [e1]
        exact ⟨_, _, rfl, R.set d r1, rfl⟩
  case newWith t kvs odd =>
    simp only [R.1]
    split
    · cases odd with
      | true => exact ⟨_, _, rfl, R, rfl⟩
      | false =>
        obtain ⟨t', e1, r1⟩ := fill_rep cfg g hash kvs
        simp only [e1, Bool.false_eq_true, if_false]
        exact ⟨_, _, rfl, R.set t r1, rfl⟩
    · exact ⟨_, _, rfl, R, rfl⟩
  case assignMap d kvs =>
    simp only [R.1]
    split
    · obtain ⟨t', e1, r1⟩ := fill_rep cfg g hash kvs
      simp only [e1]
      exact ⟨_, _, rfl, R.set d r1, rfl⟩
    · exact ⟨_, _, rfl, R, rfl⟩

theorem run_refines (cfg : Cfg) (g : GoodCfg cfg) (hash : κ → Nat) :
    ∀ (ops : List (Op κ ν)) (ts : List (Tab κ ν)) (ms : List (Spec κ ν)), StRel hash ts ms →
      ∃ ts' os, run cfg hash ts ops = .ok (ts', os) ∧ List.Forall₂ ObsRel os (specRun ms ops).2 ∧
        StRel hash ts' (specRun ms ops).1 :=
  history_refines (fun _ => rfl) (fun e1 e2 => by simp only [run, e1, e2]) (fun _ => rfl) (fun _ _ _ => rfl)
    fun ts ms R => step_refines cfg g hash ts ms R

end Cello.Table
