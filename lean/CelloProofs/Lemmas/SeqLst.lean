/-
  One step of the List model against the abstract step; `List_At`; observations; `concat(l, l)` on a non-empty List
  never terminates.
-/
import CelloProofs.Lemmas.SeqBasic

namespace Cello.Seq
variable {α : Type}

namespace Lst

/-- the counter field agrees with the chain -/
def Inv (l : Lst α) : Prop := l.nitems = l.items.length

/-- `List_At` reaches the node of the abstract index whichever end it starts from -/
theorem nodeAt_some (l : Lst α) (h : l.Inv) (i : Int) (k : Nat) (hk : Spec.idx l.items.length i = some k) :
    ∃ x, l.items[k]? = some x ∧ l.nodeAt i = .ok (k, x) := by
  obtain ⟨h1, h2, h3⟩ := idx_some _ _ _ hk
  refine ⟨l.items[k], List.getElem?_eq_getElem h3, ?_⟩
  unfold nodeAt
  simp only [show l.nitems = l.items.length from h]
  rw [if_neg h1, h2]
  clear h1 h2 hk
  by_cases hhalf : k ≤ l.items.length / 2
  · rw [if_pos hhalf, walk_eq, List.getElem?_eq_getElem h3]
  · rw [if_neg hhalf, walk_eq, List.getElem?_reverse (by omega),
      show l.items.length - 1 - (l.items.length - k - 1) = k by omega, List.getElem?_eq_getElem h3]

theorem nodeAt_none (l : Lst α) (h : l.Inv) (i : Int) (hk : Spec.idx l.items.length i = none) :
    l.nodeAt i = .raised .indexOutOfBounds := by
  unfold Inv at h
  have hc : normIdx l.nitems i < 0 ∨ normIdx l.nitems i ≥ (l.nitems : Int) := by rw [h]; exact idx_none _ _ hk
  unfold nodeAt
  simp only
  rw [if_pos hc]

theorem foldl_push (ys : List α) : ∀ (l : Lst α),
    ys.foldl (fun l y => (l.push y).1) l = ⟨l.items ++ ys, l.nitems + ys.length⟩ := by
  induction ys with
  | nil => intro l; simp
  | cons y ys ih =>
    intro l
    rw [List.foldl_cons, ih]
    simp only [push, List.append_assoc, List.singleton_append, List.length_cons]
    congr 1; omega

theorem resize_spec [Inhabited α] (l : Lst α) (hinv : l.Inv) (n : Nat) :
    (l.resize n).2 = .ok () ∧ (l.resize n).1.items = l.items.take n ++ List.replicate (n - l.items.length) default ∧
      (l.resize n).1.Inv := by
  have hi : l.nitems = l.items.length := hinv
  unfold resize
  by_cases hn : n = 0
  · subst hn; exact ⟨rfl, by rw [if_pos rfl, Nat.zero_sub]; rfl, rfl⟩
  · rw [if_neg hn]
    have hkept : l.items.length - (l.items.length - n) = min n l.items.length :=
      (Nat.sub_sub_eq_min ..).trans (Nat.min_comm ..)
    simp only [hi, hkept]
    refine ⟨trivial, ?_, ?_⟩
    · rw [← List.take_eq_take_min, ← Nat.sub_eq_sub_min]
    · rw [Inv, List.length_append, List.length_take, List.length_replicate, Nat.min_assoc, Nat.min_self]

/-- one step against the abstract step: an operation the abstract step admits completes with the abstract contents and keeps
    the counter right; one it refuses (an index out of range, `pop` on the empty List, `rem` of an absent element, `sort`, which
    a List does not implement) raises and leaves the List as it was — outside `assign` from an iterator-only source (which has
    cleared the List by then) and growth by raw records (KF-C04-list-resize-raw) -/
theorem step_spec [BEq α] [ZeroIsValue α] (l : Lst α) (hinv : l.Inv) (op : Op α) :
    match Spec.lstStep l.items op with
    | some l' => (l.step op).2 = .ok () ∧ (l.step op).1.items = l' ∧ (l.step op).1.Inv
    | none => op.iterAssign = false → l.rawGrow op = false → (l.step op).1 = l ∧ ∃ e, (l.step op).2 = .raised e := by
  have hi : l.nitems = l.items.length := hinv
  have hsnoc : ∀ x : α, (⟨l.items ++ [x], l.nitems + 1⟩ : Lst α).Inv := fun x => by
    rw [Inv, List.length_append]; exact congrArg (· + 1) hi
  have hins : ∀ (x : α) k, k ≤ l.items.length →
      l.items.take k ++ x :: l.items.drop k = l.items.insertIdx k x ∧
        (⟨l.items.take k ++ x :: l.items.drop k, l.nitems + 1⟩ : Lst α).Inv := fun x k hk => by
    rw [take_cons_drop_eq_insertIdx _ _ _ hk]
    exact ⟨rfl, by rw [Inv, hi, List.length_insertIdx_of_le_length hk]⟩
  have hdel : ∀ k, k < l.items.length →
      l.items.take k ++ l.items.drop (k + 1) = l.items.eraseIdx k ∧
        (⟨l.items.take k ++ l.items.drop (k + 1), l.nitems - 1⟩ : Lst α).Inv := fun k hk => by
    rw [← List.eraseIdx_eq_take_drop_succ]
    exact ⟨rfl, by rw [Inv, hi, List.length_eraseIdx_of_lt hk]⟩
  cases op with
  | push x => exact ⟨rfl, rfl, hsnoc x⟩
  | append x => exact ⟨rfl, rfl, hsnoc x⟩
  | sort f => exact fun _ _ => ⟨rfl, _, rfl⟩
  | concat ys => exact ⟨rfl, by simp only [step, concat, foldl_push], by simp only [step, concat, foldl_push, Inv, hi, List.length_append]⟩
  | pop =>
    simp only [Spec.lstStep, step, pop, hi, List.isEmpty_iff, ← List.length_eq_zero_iff]
    by_cases h0 : l.items.length = 0
    · rw [if_pos h0, if_pos h0]; exact fun _ _ => ⟨rfl, _, rfl⟩
    · rw [if_neg h0, if_neg h0]; exact ⟨rfl, rfl, List.length_dropLast.symm⟩
  | pushAt x i =>
    simp only [Spec.lstStep, step, pushAt]
    by_cases h0 : i = 0
    · rw [if_pos h0, if_pos h0]; exact ⟨rfl, rfl, (hins x 0 (Nat.zero_le _)).2⟩
    · rw [if_neg h0, if_neg h0]
      cases hk : Spec.idx l.items.length i with
      | none => rw [nodeAt_none l hinv i hk]; exact fun _ _ => ⟨rfl, _, rfl⟩
      | some k =>
        obtain ⟨_, _, hn⟩ := nodeAt_some l hinv i k hk
        rw [hn]; exact ⟨rfl, hins x k (Nat.le_of_lt (idx_lt hk))⟩
  | popAt i =>
    simp only [Spec.lstStep, step, popAt]
    cases hk : Spec.idx l.items.length i with
    | none => rw [nodeAt_none l hinv i hk]; exact fun _ _ => ⟨rfl, _, rfl⟩
    | some k =>
      obtain ⟨_, _, hn⟩ := nodeAt_some l hinv i k hk
      rw [hn]; exact ⟨rfl, hdel k (idx_lt hk)⟩
  | set i x =>
    simp only [Spec.lstStep, step, set]
    cases hk : Spec.idx l.items.length i with
    | none => rw [nodeAt_none l hinv i hk]; exact fun _ _ => ⟨rfl, _, rfl⟩
    | some k =>
      obtain ⟨_, _, hn⟩ := nodeAt_some l hinv i k hk
      rw [hn]; exact ⟨rfl, rfl, by rw [Inv, hi]; exact List.length_set.symm⟩
  | rem x =>
    simp only [Spec.lstStep, step, rem]
    cases hf : l.items.findIdx? (· == x) with
    | none => rw [show Spec.mem l.items x = false from (findIdx?_none_any _ _).1 hf]; exact fun _ _ => ⟨rfl, _, rfl⟩
    | some k =>
      obtain ⟨hk, he⟩ := findIdx?_erase _ _ _ hf
      rw [show Spec.mem l.items x = true from findIdx?_some_any _ _ _ hf, ← he]
      exact ⟨rfl, hdel k hk⟩
  | assign ys b =>
    cases b with
    | false => exact fun h => nomatch h
    | true =>
      refine ⟨rfl, ?_, ?_⟩ <;> simp only [step, assign, if_true, concat, clear, foldl_push, List.nil_append]
      exact Nat.zero_add _
  | resize n =>
    have hrg : l.rawGrow (.resize n) = !(ZeroIsValue.zeroOk α || decide (n ≤ l.items.length)) := by
      rw [rawGrow, hi, Bool.not_or, ← decide_not]; simp only [Nat.not_le, gt_iff_lt]
    simp only [Spec.lstStep, step, hrg]
    cases ZeroIsValue.zeroOk α || decide (n ≤ l.items.length) with
    | true => exact resize_spec l hinv n
    | false => exact fun _ h => nomatch h

theorem step_refines [BEq α] [ZeroIsValue α] (l : Lst α) (hinv : l.Inv) (op : Op α) (l' : List α)
    (h : Spec.lstStep l.items op = some l') :
    (l.step op).2 = .ok () ∧ (l.step op).1.items = l' ∧ (l.step op).1.Inv := by
  have := step_spec l hinv op; rwa [h] at this

theorem step_out_of_range [BEq α] [ZeroIsValue α] (l : Lst α) (hinv : l.Inv) (op : Op α) (hop : op.iterAssign = false)
    (hrg : l.rawGrow op = false) (h : Spec.lstStep l.items op = none) : (l.step op).1 = l ∧ ∃ e, (l.step op).2 = .raised e := by
  have := step_spec l hinv op; rw [h] at this; exact this hop hrg

theorem step_rawGrow [BEq α] [ZeroIsValue α] (l : Lst α) (op : Op α) (hrg : l.rawGrow op = true) :
    (l.step op).2 = .ub ∧ ∃ n, op = .resize n ∧ (l.step op).1 = (l.resize n).1 := by
  cases op with
  | resize n => exact ⟨by simp [step, hrg], n, rfl, by simp [step, hrg]⟩
  | _ => simp [rawGrow] at hrg

theorem step_ne_ub [BEq α] [ZeroIsValue α] (l : Lst α) (hinv : l.Inv) (op : Op α) (hrg : l.rawGrow op = false) :
    (l.step op).2 ≠ .ub := by
  cases hs : Spec.lstStep l.items op with
  | some l' => rw [(step_refines l hinv op l' hs).1]; intro h; cases h
  | none =>
    cases hop : op.iterAssign with
    | false => obtain ⟨_, e, he⟩ := step_out_of_range l hinv op hop hrg hs; rw [he]; intro h; cases h
    | true => obtain ⟨ys, rfl⟩ := Op.iterAssign_true hop; exact nofun

theorem step_ub_iff [BEq α] [ZeroIsValue α] (l : Lst α) (hinv : l.Inv) (op : Op α) :
    (l.step op).2 = .ub ↔ l.rawGrow op = true := by
  constructor
  · intro h
    cases hrg : l.rawGrow op with
    | true => rfl
    | false => exact absurd h (step_ne_ub l hinv op hrg)
  · intro h; exact (step_rawGrow l op h).1

theorem rawGrow_false [ZeroIsValue α] (hz : ZeroIsValue.zeroOk α = true) (l : Lst α) (op : Op α) : l.rawGrow op = false := by
  cases op <;> simp [Lst.rawGrow, hz]

theorem get_eq (l : Lst α) (hinv : l.Inv) (i : Int) :
    l.get i = match Spec.get l.items i with
      | some x => .ok x
      | none => .raised .indexOutOfBounds := by
  unfold get Spec.get
  cases hk : Spec.idx l.items.length i with
  | none => simp [nodeAt_none l hinv i hk]
  | some k =>
    obtain ⟨x, hx, hn⟩ := nodeAt_some l hinv i k hk
    simp [hn, hx]

theorem iterFwd_eq (l : Lst α) (hinv : l.Inv) : l.iterFwd = some l.items := by
  unfold iterFwd iterInit; rw [show l.nitems = _ from hinv]
  exact collect_upto l.items l.iterNext _ (fun _ hk => if_pos hk) (fun _ hk => if_neg (Nat.lt_irrefl _ ∘ (hk ▸ ·)))
    fun _ hk => List.getElem?_eq_getElem hk

theorem iterBwd_eq (l : Lst α) (hinv : l.Inv) : l.iterBwd = some l.items.reverse := by
  unfold iterBwd iterLast; rw [show l.nitems = _ from hinv]
  exact collect_downto l.items l.iterPrev _ (fun _ => rfl) rfl fun _ hk => List.getElem?_eq_getElem hk

/-- the iterator of `List_Concat(l, l)` never reaches the end of the list it is extending -/
theorem concatSelfLoop_diverges : ∀ (fuel : Nat) (l : Lst α) (k : Nat), k < l.items.length →
    Lst.concatSelfLoop fuel l (some k) = none := by
  intro fuel
  induction fuel with
  | zero => intro l k _; rfl
  | succ fuel ih =>
    intro l k hk
    simp only [Lst.concatSelfLoop, List.getElem?_eq_getElem hk]
    have hnext : ((l.push l.items[k]).1).iterNext k = some (k + 1) := by
      simp only [Lst.iterNext, Lst.push, List.length_append, List.length_singleton]
      rw [if_pos (by omega)]
    rw [hnext]
    exact ih _ (k + 1) (by simp only [Lst.push, List.length_append, List.length_singleton]; omega)

theorem concatSelf_diverges (l : Lst α) (hinv : l.Inv) (hne : l.items ≠ []) (fuel : Nat) :
    l.concatSelf fuel = none := by
  have hi : l.nitems = l.items.length := hinv
  have hpos : 0 < l.items.length := List.length_pos_iff.2 hne
  unfold Lst.concatSelf Lst.iterInit
  rw [if_neg (by omega)]
  exact concatSelfLoop_diverges fuel l 0 hpos

end Lst
end Cello.Seq
