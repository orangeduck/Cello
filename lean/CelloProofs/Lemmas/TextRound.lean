/-
  Lemmas for C15 (engine `text`): the *value* part of the Float round trip, in exact rational arithmetic.

  What printf writes is a rounded quotient `q` of the value `x` by a unit `u`: `10⁻⁶` for `%f` (`fScaled_rhe`), `10^(x0-6)` for `%e`,
  `x0` the decimal exponent (`sciDigits_rhe`).  `reread` is the one argument for both: the number read back from `q · u` is at least
  as near to it as `x`, so it rounds to `q` again and is within one unit of `x`.  For `%e` the decimal must first be shown not to
  exceed the destination's largest number (`sci_le_fmtMax`).
-/
import CelloProofs.Lemmas.TextNearest
import CelloProofs.Lemmas.TextFloat

namespace Cello.Text

theorem scaleRound_rhe (n d : ℕ) (hd : 0 < d) (s : ℤ) : Rhe (scaleRound n d s) ((n : ℚ) / d * (10 : ℚ) ^ s) := by
  have hdq : (d : ℚ) ≠ 0 := by positivity
  unfold scaleRound
  by_cases h : s ≥ 0
  · simp only [h, if_true]
    have := rhe_is (n * 10 ^ s.toNat) d hd
    have e : ((n * 10 ^ s.toNat : ℕ) : ℚ) / d = (n : ℚ) / d * (10 : ℚ) ^ s := by
      rw [zpow_of_nonneg 10 s h]; push_cast; field_simp
    rwa [e] at this
  · simp only [h, if_false]
    have hden : 0 < d * 10 ^ (-s).toNat := by positivity
    have := rhe_is n (d * 10 ^ (-s).toNat) hden
    have e : (n : ℚ) / ((d * 10 ^ (-s).toNat : ℕ) : ℚ) = (n : ℚ) / d * (10 : ℚ) ^ s := by
      rw [zpow_of_neg 10 s (by omega)]; push_cast; field_simp
    rwa [e] at this

theorem fFrac_val (m : ℕ) (e : ℤ) :
    0 < (fFrac m e).2 ∧ (0 < m → 0 < (fFrac m e).1) ∧ ((fFrac m e).1 : ℚ) / (fFrac m e).2 = val m e := by
  unfold fFrac val
  by_cases h : e ≥ 0
  · simp only [h, if_true]
    refine ⟨by norm_num, fun hm => by positivity, ?_⟩
    rw [zpow_of_nonneg 2 e h]; push_cast; ring
  · simp only [h, if_false]
    refine ⟨by positivity, fun hm => hm, ?_⟩
    rw [zpow_of_neg 2 e (by omega)]; push_cast; ring

theorem fScaled_eq_scaleRound (m : ℕ) (e : ℤ) : fScaled m e = scaleRound (fFrac m e).1 (fFrac m e).2 6 := by
  unfold fScaled fFrac scaleRound
  by_cases h : e ≥ 0 <;> simp [h, roundHalfEven, Nat.mod_one]

theorem fScaled_rhe (m : ℕ) (e : ℤ) : Rhe (fScaled m e) (val m e * 10 ^ 6) := by
  obtain ⟨hd, -, hv⟩ := fFrac_val m e
  have := scaleRound_rhe (fFrac m e).1 (fFrac m e).2 hd 6
  rwa [hv, ← fScaled_eq_scaleRound] at this

/-- **A decimal written for a number of the destination, read back.**  `x`: a number of the destination; `u`: the unit of the last
    digit written; `q`: `x / u` rounded; the text denotes `q · u = mant · 10^k`, inside the guard of `decToBitsW` and not above the
    destination's largest number.  The number read back is at least as near to the decimal as `x`, which is a candidate: so at the
    unit `u` it rounds to `q` again, and it is within one unit of `x`.  (`%f`: `u = 10⁻⁶`; `%e`: `u = 10^(x0-6)`, `x0` the decimal exponent.) -/
theorem reread (narrow : Bool) (x : ℚ) (hfit : ∃ (c : ℕ) (E : ℤ), c < 2 ^ (binFmt narrow).1 ∧ (binFmt narrow).2.1 ≤ E ∧ x = val c E)
    (u : ℚ) (hu : 0 < u) (q : ℕ) (hq : Rhe q (x / u)) (sg : Bool) (mant : ℕ) (k : ℤ) (hmk : (mant : ℚ) * (10 : ℚ) ^ k = q * u)
    (hlo : -400 ≤ k + ((natDigits mant).length : ℤ)) (hhi : k + ((natDigits mant).length : ℤ) ≤ 400)
    (ht : (q : ℚ) * u ≤ fmtMax narrow) :
    ∃ (my : ℕ) (ey : ℤ), fDecode (decToBitsW narrow sg mant k) = (sg, my, ey) ∧ fFinite (decToBitsW narrow sg mant k) = true ∧
      Rhe q (val my ey / u) ∧ |val my ey - x| ≤ u := by
  obtain ⟨c, E, hc, hE, rfl⟩ := hfit
  by_cases h0 : mant = 0
  · -- every digit is 0: read back as ±0
    subst h0
    rw [decToBitsW_zero]
    refine ⟨0, -1074, (fDecode_signBit sg).1, (fDecode_signBit sg).2, hq.of_nearer hu ?_⟩
    rw [← hmk, val_zero]; simp
  · obtain ⟨my, ey, hdec, hfin', hnear⟩ := decToBitsW_near narrow sg mant k (by omega) hlo hhi (hmk ▸ ht)
    exact ⟨my, ey, hdec, hfin', hq.of_nearer hu (hmk ▸ hnear c E hc hE)⟩

theorem reparseSpec_f (narrow : Bool) (bits : ℕ) :
    reparseSpec narrow .f bits = decToBitsW narrow (fDecode bits).1 (fScaled (fDecode bits).2.1 (fDecode bits).2.2) (-6) :=
  reparseSpec_of_scan narrow .f bits _ fltSafe rfl (printF_scan narrow bits)

theorem fScaled_le_nat (m : ℕ) (e : ℤ) (N : ℕ) (h : val m e ≤ N) : fScaled m e ≤ N * 10 ^ 6 :=
  (fScaled_rhe m e).le_nat _ (by push_cast; exact mul_le_mul_of_nonneg_right h (by norm_num))

theorem fScaled_le (m : ℕ) (e : ℤ) (N : ℕ) (h : val m e ≤ N) : (fScaled m e : ℚ) * (10 : ℚ) ^ (-6 : ℤ) ≤ N := by
  have : (fScaled m e : ℚ) ≤ (N : ℚ) * 10 ^ 6 := by exact_mod_cast fScaled_le_nat m e N h
  rw [zpow_neg, ← div_eq_mul_inv, div_le_iff₀ (by positivity)]
  exact_mod_cast this

/-- the scaled value of a finite double has at most 400 digits -/
theorem fScaled_lt (m : ℕ) (e : ℤ) (hm : m < 2 ^ 53) (he : e ≤ 971) : fScaled m e < 10 ^ 400 := by
  have h : val m e ≤ fmtMax false := by rw [← val_fmtMax]; exact val_le_max m e 53 971 hm he
  exact Nat.lt_of_le_of_lt (fScaled_le_nat m e _ h) (by decide +kernel)

/-- **`%f` / `%lf` read back**: for a finite double (for a `float` destination: one that is a `float` value) the number read back
    is finite, has the same sign, rounds to the same six decimals and is within one unit of the sixth decimal -/
theorem reparseF_near (narrow : Bool) (bits : ℕ) (hfin : fFinite bits = true) (h32 : narrow = true → isFloat32 bits = true) :
    ∃ (my : ℕ) (ey : ℤ), fDecode (reparseSpec narrow .f bits) = ((fDecode bits).1, my, ey) ∧
      fFinite (reparseSpec narrow .f bits) = true ∧ fScaled my ey = fScaled (fDecode bits).2.1 (fDecode bits).2.2 ∧
      |val my ey - val (fDecode bits).2.1 (fDecode bits).2.2| ≤ 1 / 10 ^ 6 := by
  obtain ⟨hmx, -, hex2⟩ := fDecode_finite bits hfin
  obtain ⟨hfit, hx⟩ := float_fits narrow bits hfin h32
  have hqlt := natDigits_length_le _ 399 (fScaled_lt _ _ hmx hex2)
  have hl0 := List.length_pos_of_ne_nil (natDigits_ne_nil (fScaled (fDecode bits).2.1 (fDecode bits).2.2))
  have h6 : ∀ x : ℚ, x / (10 : ℚ) ^ (-6 : ℤ) = x * 10 ^ 6 := fun x => by rw [zpow_neg, div_inv_eq_mul]; rfl
  obtain ⟨my, ey, hdec, hfin', hr, hw⟩ := reread narrow _ hfit ((10 : ℚ) ^ (-6 : ℤ)) (by positivity) _ (by rw [h6]; exact fScaled_rhe _ _)
    (fDecode bits).1 _ (-6) rfl (by omega) (by omega) (fScaled_le _ _ _ hx)
  rw [h6] at hr
  rw [reparseSpec_f]
  exact ⟨my, ey, hdec, hfin', (fScaled_rhe my ey).unique hr, by rw [show (1 : ℚ) / 10 ^ 6 = (10 : ℚ) ^ (-6 : ℤ) by norm_num]; exact hw⟩

theorem reparseF_within (narrow : Bool) (bits : ℕ) (hfin : fFinite bits = true) (h32 : narrow = true → isFloat32 bits = true) :
    (fDecode (reparseSpec narrow .f bits)).1 = (fDecode bits).1 ∧ fFinite (reparseSpec narrow .f bits) = true ∧
    |val (fDecode (reparseSpec narrow .f bits)).2.1 (fDecode (reparseSpec narrow .f bits)).2.2
        - val (fDecode bits).2.1 (fDecode bits).2.2| ≤ 1 / 10 ^ 6 := by
  obtain ⟨my, ey, hdec, hfin', -, hw⟩ := reparseF_near narrow bits hfin h32
  rw [hdec]
  exact ⟨rfl, hfin', hw⟩

/-- **C15, Float value clause**: the number that `%lf` — or `%f` into a `float`, for `float` values: the part of the property that
    KF-C15-float-spec-narrow leaves standing — reads back from the text `%f` wrote prints as the same text: it is equal to the
    double written within the printed precision -/
theorem printF_reparse (narrow : Bool) (bits : ℕ) (hfin : fFinite bits = true) (h32 : narrow = true → isFloat32 bits = true) :
    printF (reparseSpec narrow .f bits) = printF bits := by
  obtain ⟨my, ey, hdec, -, this, -⟩ := reparseF_near narrow bits hfin h32
  simp only [printF, hdec, this]

/-- for the decimal `q · 10^-6` of a finite double the range shortcuts of `decToBitsW` do not fire -/
theorem decToBitsW_six (narrow neg : Bool) (q : ℕ) (hq0 : 0 < q) (hq : q < 10 ^ 400) :
    decToBitsW narrow neg q (-6) = (if narrow then ratToBits32 else ratToBits) neg q (10 ^ 6) := by
  have hl := natDigits_length_le q 399 hq
  have hl0 : 0 < (natDigits q).length := List.length_pos_of_ne_nil (natDigits_ne_nil q)
  unfold decToBitsW
  have c0 : ¬ q = 0 := by omega
  have c1 : ¬ ((-6 : ℤ) + ((natDigits q).length : ℤ) > 400) := by omega
  have c2 : ¬ ((-6 : ℤ) + ((natDigits q).length : ℤ) < -400) := by omega
  have c3 : ¬ ((-6 : ℤ) ≥ 0) := by omega
  simp only [c0, c1, c2, c3, if_false]
  rfl

/-- what a floating conversion of scanf reads from the text `%f` wrote, without going through the text: the form in which the
    witnesses of Props/C15.lean evaluate `reparseSpec` on a concrete double -/
theorem reparseSpec_f_eq (narrow : Bool) (bits : ℕ) (hfin : fFinite bits = true) :
    reparseSpec narrow .f bits =
      (if fScaled (fDecode bits).2.1 (fDecode bits).2.2 = 0 then signBit (fDecode bits).1
       else (if narrow then ratToBits32 else ratToBits) (fDecode bits).1 (fScaled (fDecode bits).2.1 (fDecode bits).2.2) (10 ^ 6)) := by
  obtain ⟨hmx, _, hex2⟩ := fDecode_finite bits hfin
  have hqlt := fScaled_lt _ _ hmx hex2
  rw [reparseSpec_f]
  split
  · rename_i h0; rw [h0, decToBitsW_zero]
  · rename_i h0; exact decToBitsW_six narrow _ _ (by omega) hqlt

theorem ten_zpow_pos (e : ℤ) : (0 : ℚ) < (10 : ℚ) ^ e := by positivity

theorem geTenPow_iff (n d : ℕ) (hd : 0 < d) (k : ℤ) : geTenPow n d k = true ↔ (10 : ℚ) ^ k ≤ (n : ℚ) / d := by
  have hdq : (0 : ℚ) < d := by positivity
  unfold geTenPow
  by_cases h : k ≥ 0
  · simp only [h, if_true, decide_eq_true_eq, ge_iff_le]
    rw [zpow_of_nonneg 10 k h, le_div_iff₀ hdq, mul_comm]
    exact_mod_cast Iff.rfl
  · simp only [h, if_false, decide_eq_true_eq, ge_iff_le]
    have hp : (0 : ℚ) < (10 : ℚ) ^ (-k).toNat := by positivity
    rw [zpow_of_neg 10 k (by omega), div_le_div_iff₀ hp hdq, one_mul]
    exact_mod_cast Iff.rfl

theorem natDigits_len_bounds_q (n : ℕ) (hn : 0 < n) :
    (10 : ℚ) ^ (((natDigits n).length : ℤ) - 1) ≤ n ∧ (n : ℚ) < (10 : ℚ) ^ ((natDigits n).length : ℤ) := by
  obtain ⟨h1, h2⟩ := natDigits_len_bounds n hn
  have hl : 0 < (natDigits n).length := List.length_pos_of_ne_nil (natDigits_ne_nil _)
  constructor
  · have : (((natDigits n).length : ℤ) - 1) = (((natDigits n).length - 1 : ℕ) : ℤ) := by omega
    rw [this, zpow_natCast]; exact_mod_cast h1
  · rw [zpow_natCast]; exact_mod_cast h2

/-- `floorLog10` is the decimal exponent -/
theorem floorLog10_spec (n d : ℕ) (hn : 0 < n) (hd : 0 < d) :
    (10 : ℚ) ^ (floorLog10 n d) ≤ (n : ℚ) / d ∧ (n : ℚ) / d < (10 : ℚ) ^ (floorLog10 n d + 1) := by
  obtain ⟨n1, n2⟩ := natDigits_len_bounds_q n hn
  obtain ⟨d1, d2⟩ := natDigits_len_bounds_q d hd
  obtain ⟨lo, hi⟩ := quot_zpow_bounds 10 n d (by norm_num) _ _ n1 (by rwa [sub_add_cancel]) d1 (by rwa [sub_add_cancel])
  unfold floorLog10
  simp only
  rw [show ((natDigits n).length : ℤ) - 1 - (((natDigits d).length : ℤ) - 1) = ((natDigits n).length : ℤ) - (natDigits d).length by ring] at lo hi
  by_cases hg : geTenPow n d (((natDigits n).length : ℤ) - (natDigits d).length) = true
  · simp only [hg, if_true]
    exact ⟨(geTenPow_iff n d hd _).1 hg, hi⟩
  · simp only [hg, Bool.false_eq_true, if_false]
    exact ⟨lo.le, by rw [sub_add_cancel, ← not_le]; exact fun hh => hg ((geTenPow_iff n d hd _).2 hh)⟩

/-- `P+1` significant digits: `D · 10^(X-P)` is `d0 · 10^(x0-P)` for the decimal exponent `x0` of `n/d` and the scaled quotient
    rounded, `d0`, which lies in `[10^P, 10^(P+1)]` (`10^(P+1)`: the carry, written as `10^P` at the next exponent) -/
theorem sciDigits_rhe (P n d : ℕ) (hn : 0 < n) (hd : 0 < d) :
    ∃ d0 : ℕ, Rhe d0 ((n : ℚ) / d * (10 : ℚ) ^ ((P : ℤ) - floorLog10 n d)) ∧ d0 ≤ 10 ^ (P + 1) ∧
      10 ^ P ≤ (sciDigits P n d).1 ∧ (sciDigits P n d).1 < 10 ^ (P + 1) ∧
      ((sciDigits P n d).2 = floorLog10 n d ∨ (sciDigits P n d).2 = floorLog10 n d + 1) ∧
      ((sciDigits P n d).1 : ℚ) * (10 : ℚ) ^ ((sciDigits P n d).2 - P) = (d0 : ℚ) * (10 : ℚ) ^ (floorLog10 n d - P) := by
  obtain ⟨f1, f2⟩ := floorLog10_spec n d hn hd
  have h10 : (10 : ℚ) ≠ 0 := by norm_num
  have hs := scaleRound_rhe n d hd ((P : ℤ) - floorLog10 n d)
  simp only [sciDigits]
  generalize floorLog10 n d = x0 at *
  have hsc := ten_zpow_pos ((P : ℤ) - x0)
  have pw : ∀ (j : ℕ) (a : ℤ), a + ((P : ℤ) - x0) = j → (10 : ℚ) ^ a * (10 : ℚ) ^ ((P : ℤ) - x0) = ((10 ^ j : ℕ) : ℚ) := by
    intro j a h; rw [← zpow_add₀ h10, h, zpow_natCast]; push_cast; rfl
  have r1 : ((10 ^ P : ℕ) : ℚ) ≤ (n : ℚ) / d * (10 : ℚ) ^ ((P : ℤ) - x0) := by
    rw [← pw P x0 (by ring)]; exact mul_le_mul_of_nonneg_right f1 hsc.le
  have r2 : (n : ℚ) / d * (10 : ℚ) ^ ((P : ℤ) - x0) ≤ ((10 ^ (P + 1) : ℕ) : ℚ) := by
    rw [← pw (P + 1) (x0 + 1) (by push_cast; ring)]; exact (mul_lt_mul_of_pos_right f2 hsc).le
  generalize scaleRound n d ((P : ℤ) - x0) = d0 at *
  have d0lo : 10 ^ P ≤ d0 := hs.nat_le _ r1
  have d0hi : d0 ≤ 10 ^ (P + 1) := hs.le_nat _ r2
  refine ⟨d0, hs, d0hi, ?_⟩
  by_cases hc : d0 ≥ 10 ^ (P + 1)
  · have hd0 : d0 = 10 ^ (P + 1) := by omega
    simp only [hc, if_true]
    refine ⟨le_refl _, Nat.pow_lt_pow_right (by norm_num) (by omega), by simp, ?_⟩
    rw [hd0, show x0 + 1 - (P : ℤ) = (x0 - P) + 1 by ring, zpow_add₀ h10, zpow_one]; push_cast; ring
  · simp only [hc, if_false]
    exact ⟨d0lo, by omega, by simp, trivial⟩

/-- The decimal `d0 · 10^(x0-6)` that `%e` writes for `x ≤ Mx` (`d0` is `x / 10^(x0-6)` rounded, `10^x0 ≤ x`) does not exceed `Mx`,
    when `Mx` rounded to the seven digits of its own decade, `c · 10^p`, does not: below that decade `d0 ≤ 10^7` is enough, in it
    rounding is monotone.  (Without this the decimal can overflow: at `10^308` its unit is coarser than half an ulp.) -/
theorem sci_le_max (Mx p c : ℕ) (hc : roundHalfEven Mx (10 ^ p) = c) (k1 : c * 10 ^ p ≤ Mx) (h6 : 10 ^ (p + 6) ≤ Mx)
    (h7 : Mx < 10 ^ (p + 7))
    (x : ℚ) (x0 : ℤ) (d0 : ℕ) (hx : x ≤ Mx) (f1 : (10 : ℚ) ^ x0 ≤ x) (hd : Rhe d0 (x * (10 : ℚ) ^ (6 - x0))) (d7 : d0 ≤ 10 ^ 7) :
    x0 ≤ p + 6 ∧ (d0 : ℚ) * (10 : ℚ) ^ (x0 - 6) ≤ Mx := by
  have hx0 : x0 ≤ p + 6 := by
    have hMlt : (Mx : ℚ) < (10 : ℚ) ^ (((p + 7 : ℕ) : ℤ)) := by rw [zpow_natCast]; exact_mod_cast h7
    have := (zpow_lt_zpow_iff_right₀ (by norm_num)).1 (lt_of_le_of_lt (le_trans f1 hx) hMlt)
    omega
  refine ⟨hx0, ?_⟩
  rcases Int.lt_or_eq_of_le hx0 with hlt | heq
  · calc (d0 : ℚ) * (10 : ℚ) ^ (x0 - 6) ≤ (10 : ℚ) ^ (7 : ℤ) * (10 : ℚ) ^ (x0 - 6) :=
          mul_le_mul_of_nonneg_right (by exact_mod_cast d7) (ten_zpow_pos _).le
      _ = (10 : ℚ) ^ (x0 + 1) := by rw [← zpow_add₀ (by norm_num)]; congr 1; ring
      _ ≤ (10 : ℚ) ^ ((p + 6 : ℕ) : ℤ) := zpow_le_zpow_right₀ (by norm_num) (by push_cast; omega)
      _ ≤ Mx := by rw [zpow_natCast]; exact_mod_cast h6
  · have e1 : x0 - 6 = (p : ℤ) := by omega
    have e2 : 6 - x0 = -(p : ℤ) := by omega
    have hc' : Rhe c ((Mx : ℚ) * (10 : ℚ) ^ (-(p : ℤ))) := by
      have := rhe_is Mx (10 ^ p) (by positivity)
      rw [hc] at this
      rw [zpow_neg, zpow_natCast, ← div_eq_mul_inv]; exact_mod_cast this
    rw [e2] at hd
    have := hd.mono hc' (mul_le_mul_of_nonneg_right hx (ten_zpow_pos _).le)
    rw [e1, zpow_natCast]
    exact_mod_cast le_trans (Nat.mul_le_mul_right _ this) k1

/-- DBL_MAX rounded to seven digits is 1.797693 · 10^308, FLT_MAX 3.402823 · 10^38: both are rounded down -/
theorem sci_le_fmtMax (narrow : Bool) (x : ℚ) (x0 : ℤ) (d0 : ℕ) (hx : x ≤ fmtMax narrow) (f1 : (10 : ℚ) ^ x0 ≤ x)
    (hd : Rhe d0 (x * (10 : ℚ) ^ (6 - x0))) (d7 : d0 ≤ 10 ^ 7) :
    x0 ≤ 308 ∧ (d0 : ℚ) * (10 : ℚ) ^ (x0 - 6) ≤ fmtMax narrow := by
  cases narrow
  · exact sci_le_max _ 302 1797693 (by decide +kernel) (by decide +kernel) (by decide +kernel) (by decide +kernel) x x0 d0 hx f1 hd d7
  · have := sci_le_max _ 32 3402823 (by decide +kernel) (by decide +kernel) (by decide +kernel) (by decide +kernel) x x0 d0 hx f1 hd d7
    exact ⟨by omega, this.2⟩

/-- what is read back from the text `%e` / `%E` wrote: the seven-digit decimal `D · 10^(X-6)`, converted to the destination -/
theorem reparseSpec_e (narrow upper : Bool) (bits : ℕ) :
    reparseSpec narrow (if upper then .E else .e) bits =
      decToBitsW narrow (fDecode bits).1
        (if (fDecode bits).2.1 = 0 then ((0, 0) : ℕ × ℤ) else
          sciDigits 6 (fFrac (fDecode bits).2.1 (fDecode bits).2.2).1 (fFrac (fDecode bits).2.1 (fDecode bits).2.2).2).1
        ((if (fDecode bits).2.1 = 0 then ((0, 0) : ℕ × ℤ) else
          sciDigits 6 (fFrac (fDecode bits).2.1 (fDecode bits).2.2).1 (fFrac (fDecode bits).2.1 (fDecode bits).2.2).2).2 - 6) := by
  cases upper <;> exact reparseSpec_of_scan narrow _ bits _ fltSafe rfl (printE_scan narrow _ bits)

/-- **`%e` / `%E` read back**: for a finite non-zero double (for a `float` destination: one that is a `float` value) the number
    read back is finite, has the same sign and is within `10^(x0-6)` of it for an `x0` with `10^x0 ≤ |x|` (the proof takes the decimal
    exponent: one unit of the seventh digit written) -/
theorem reparseE_near (narrow upper : Bool) (bits : ℕ) (hfin : fFinite bits = true) (h32 : narrow = true → isFloat32 bits = true)
    (hnz : (fDecode bits).2.1 ≠ 0) :
    ∃ (my : ℕ) (ey : ℤ) (x0 : ℤ),
      fDecode (reparseSpec narrow (if upper then .E else .e) bits) = ((fDecode bits).1, my, ey) ∧
      fFinite (reparseSpec narrow (if upper then .E else .e) bits) = true ∧
      (10 : ℚ) ^ x0 ≤ val (fDecode bits).2.1 (fDecode bits).2.2 ∧
      |val my ey - val (fDecode bits).2.1 (fDecode bits).2.2| ≤ (10 : ℚ) ^ (x0 - 6) := by
  obtain ⟨-, hex1, -⟩ := fDecode_finite bits hfin
  obtain ⟨hfit, hx⟩ := float_fits narrow bits hfin h32
  have hre := reparseSpec_e narrow upper bits
  simp only [hnz, if_false] at hre
  rw [hre]
  generalize (fDecode bits).1 = sg
  generalize (fDecode bits).2.1 = mx at *
  generalize (fDecode bits).2.2 = ex at *
  obtain ⟨hd, hn, hfv⟩ := fFrac_val mx ex
  have hn := hn (by omega)
  obtain ⟨d0, hr, d7, D1, D2, hX, hD⟩ := sciDigits_rhe 6 _ _ hn hd
  simp only [Nat.cast_ofNat] at hr hD
  obtain ⟨f1, f2⟩ := floorLog10_spec _ _ hn hd
  rw [hfv] at hr f1 f2
  generalize floorLog10 (fFrac mx ex).1 (fFrac mx ex).2 = x0 at *
  generalize (sciDigits 6 (fFrac mx ex).1 (fFrac mx ex).2).1 = D at *
  generalize (sciDigits 6 (fFrac mx ex).1 (fFrac mx ex).2).2 = X at *
  -- the decimal exponent of a finite double is at least -324, and the decimal does not exceed the destination's largest number
  have hx0lo : -324 ≤ x0 := by
    have hxge : (2 : ℚ) ^ (-1074 : ℤ) ≤ val mx ex :=
      le_trans (zpow_le_zpow_right₀ (by norm_num) (by simpa using hex1)) (val_ge mx ex 0 (by norm_num; omega))
    have h1 : (10 : ℚ) ^ (-324 : ℤ) ≤ (2 : ℚ) ^ (-1074 : ℤ) := by
      rw [show (-324 : ℤ) = -((324 : ℕ) : ℤ) by norm_num, show (-1074 : ℤ) = -((1074 : ℕ) : ℤ) by norm_num, zpow_neg, zpow_neg,
        zpow_natCast, zpow_natCast]
      have h : 2 ^ 1074 ≤ 10 ^ 324 := by decide +kernel
      have h' : ((2 ^ 1074 : ℕ) : ℚ) ≤ ((10 ^ 324 : ℕ) : ℚ) := by exact_mod_cast h
      push_cast at h'
      exact inv_anti₀ (by positivity) h'
    have := (zpow_lt_zpow_iff_right₀ (by norm_num)).1 (lt_of_le_of_lt (le_trans h1 hxge) f2)
    omega
  obtain ⟨hx0hi, htM⟩ := sci_le_fmtMax narrow _ x0 d0 hx f1 hr d7
  have hlen := natDigits_length_eq D 7 D1 D2
  obtain ⟨my, ey, hdec, hfin', -, hw⟩ := reread narrow _ hfit ((10 : ℚ) ^ (x0 - 6)) (ten_zpow_pos _) d0
    (by rwa [div_eq_mul_inv, ← zpow_neg, neg_sub]) sg D (X - 6) hD (by rw [hlen]; omega) (by rw [hlen]; omega) htM
  exact ⟨my, ey, x0, hdec, hfin', f1, hw⟩

/-- **`%e` / `%E` read back, numerically**: same sign, finite, and within one millionth of the value written (one unit of the
    seventh significant digit at most) -/
theorem reparseE_within (narrow upper : Bool) (bits : ℕ) (hfin : fFinite bits = true) (h32 : narrow = true → isFloat32 bits = true) :
    (fDecode (reparseSpec narrow (if upper then .E else .e) bits)).1 = (fDecode bits).1 ∧
    fFinite (reparseSpec narrow (if upper then .E else .e) bits) = true ∧
    |val (fDecode (reparseSpec narrow (if upper then .E else .e) bits)).2.1 (fDecode (reparseSpec narrow (if upper then .E else .e) bits)).2.2
        - val (fDecode bits).2.1 (fDecode bits).2.2| ≤ val (fDecode bits).2.1 (fDecode bits).2.2 / 10 ^ 6 := by
  by_cases hnz : (fDecode bits).2.1 = 0
  · -- ±0 is written `±0.000000e+00` and read back as ±0
    have hre : reparseSpec narrow (if upper then .E else .e) bits = signBit (fDecode bits).1 := by
      rw [reparseSpec_e]; simp [hnz, decToBitsW_zero]
    rw [hre, (fDecode_signBit _).1, hnz]
    exact ⟨rfl, (fDecode_signBit _).2, by simp [val_zero]⟩
  · obtain ⟨my, ey, x0, hdec, hfin', hlo, hw⟩ := reparseE_near narrow upper bits hfin h32 hnz
    rw [hdec]
    refine ⟨rfl, hfin', ?_⟩
    calc _ ≤ (10 : ℚ) ^ (x0 - 6) := hw
      _ = (10 : ℚ) ^ x0 / 10 ^ 6 := by rw [zpow_sub₀ (by norm_num : (10 : ℚ) ≠ 0)]; norm_num
      _ ≤ _ := div_le_div_of_nonneg_right hlo (by norm_num)

end Cello.Text
