/-
  C18, value objects: the simulation between the default build and any other, for ALL outcomes.  A build differs from the default
  one only in that a raise coming from a compiled-out check becomes undefined behaviour (`ORel.off`); values, unconditional error
  paths and the objects the program can see afterwards are the same.
-/
import CelloProofs.Lemmas.Cfg

namespace Cello.Config

/-- `ORel c R x y`: how `y`, an outcome of build `c`, may relate to `x`, the outcome of the default build -/
inductive ORel (c : Cfg) {α : Type} (R : α → α → Prop) : Outcome α → Outcome α → Prop where
  | ok {a b : α} : R a b → ORel c R (.ok a) (.ok b)
  | raised {e : Exc} : ORel c R (.raised e) (.raised e)
  | ub : ORel c R .ub .ub
  | off {e : Exc} : c.checks = false → ORel c R (.raised e) .ub     -- the check that raises is compiled out

theorem orel_refuse (c : Cfg) {α : Type} (R : α → α → Prop) (e : Exc) :
    ORel c R (refuse Cfg.default e) (refuse c e) := by
  unfold refuse
  simp only [Cfg.default, if_true]
  cases h : c.checks
  · simp only [Bool.false_eq_true, if_false]; exact .off h
  · simp only [if_true]; exact .raised

theorem ORel.mono {c : Cfg} {α : Type} {R S : α → α → Prop} {x y : Outcome α} (h : ORel c R x y)
    (hrs : ∀ a b, R a b → S a b) : ORel c S x y := by
  cases h with
  | ok h => exact .ok (hrs _ _ h)
  | raised => exact .raised
  | ub => exact .ub
  | off h => exact .off h

theorem ORel.of_ok {c : Cfg} {α : Type} {R : α → α → Prop} {a : α} {y : Outcome α} (h : ORel c R (.ok a) y) :
    ∃ b, y = .ok b ∧ R a b := by
  cases h with
  | ok h => exact ⟨_, rfl, h⟩

/-- what a phase of a step (a dispatch, the lookups on the arguments or on embedded elements), a step, or a program establishes
    about the default build and build `c`: results related by `Q`, and states that agree -/
def Rel (c : Cfg) {β : Type} (Q : β → β → Prop) (r₁ r₂ : St × β) : Prop := Q r₁.2 r₂.2 ∧ Agree c r₁.1 r₂.1

/-- a step, or a longer phase, that begins with a phase: where the phase fails the whole ends there, with that failure; where it
    succeeds the rest runs from states that agree.  (`k₁`, `k₂`: the rest as a function of the phase's result — the `match` of
    the model.  Applied after `generalize`-ing the two results of the phase and `revert`-ing them: the goal then reads
    `∀ r₁ r₂, Rel … r₁ r₂ → Rel … (k₁ r₁) (k₂ r₂)` and unification finds `k₁`, `k₂`.) -/
theorem Rel.bind {c : Cfg} {α β : Type} {R : α → α → Prop} {S : β → β → Prop} {k₁ k₂ : St × Outcome α → St × Outcome β}
    (hok : ∀ sA sB a b, R a b → Agree c sA sB → Rel c (ORel c S) (k₁ (sA, .ok a)) (k₂ (sB, .ok b)))
    (hr₁ : ∀ s e, k₁ (s, .raised e) = (s, .raised e) := by intros; rfl) (hu₁ : ∀ s, k₁ (s, .ub) = (s, .ub) := by intros; rfl)
    (hr₂ : ∀ s e, k₂ (s, .raised e) = (s, .raised e) := by intros; rfl) (hu₂ : ∀ s, k₂ (s, .ub) = (s, .ub) := by intros; rfl)
    (r₁ r₂ : St × Outcome α) (h : Rel c (ORel c R) r₁ r₂) : Rel c (ORel c S) (k₁ r₁) (k₂ r₂) := by
  obtain ⟨sA, x⟩ := r₁; obtain ⟨sB, y⟩ := r₂
  obtain ⟨hrel, ha⟩ := h
  cases hrel with
  | ok hab => exact hok _ _ _ _ hab ha
  | raised => rw [hr₁, hr₂]; exact ⟨.raised, ha⟩
  | ub => rw [hu₁, hu₂]; exact ⟨.ub, ha⟩
  | off hc => rw [hr₁, hu₂]; exact ⟨.off hc, ha⟩

theorem dispatchGen_full (req : Bool) (c : Cfg) {s₁ s₂ : St} (h : Nat) (cls : String) (ha : Agree c s₁ s₂) :
    Rel c (ORel c (ObjR c)) (dispatchGen req Cfg.default s₁ h cls) (dispatchGen req c s₂ h cls) := by
  unfold dispatchGen
  rw [show s₂.live.lookup h = s₁.live.lookup h by rw [ha.live]]
  rcases hl : s₁.live.lookup h with _ | i
  · exact ⟨orel_refuse c _ _, ha⟩
  · simp only
    rcases ha.find (lookup_mem _ _ _ hl) with ⟨hf₁, hf₂⟩ | ⟨o₁, o₂, hf₁, hf₂, hobj⟩
    · rw [hf₁, hf₂]
      exact ⟨orel_refuse c _ _, ha⟩
    · obtain ⟨t₁, t₂, ha'⟩ := ha.typeInstance o₁.hdr.type cls
      simp only [hf₁, hf₂, hobj.typeOf.1, hobj.typeOf.2, t₁, t₂]
      rcases scan o₁.hdr.type cls with _ | inst
      · cases req
        · simp only [Bool.false_eq_true, if_false]
          exact ⟨.ok hobj, ha'⟩
        · simp only [if_true]
          exact ⟨orel_refuse c _ _, ha'⟩
      · exact ⟨.ok hobj, ha'⟩

theorem dispatchAll_full (c : Cfg) : ∀ (uses : List (Nat × String)) {s₁ s₂ : St}, Agree c s₁ s₂ →
    Rel c (ORel c (fun _ _ => True)) (dispatchAll Cfg.default s₁ uses) (dispatchAll c s₂ uses)
  | [], _, _, ha => ⟨.ok trivial, ha⟩
  | (hd, cls) :: rest, s₁, s₂, ha => by
    have H := dispatchGen_full true c hd cls ha
    simp only [dispatchAll, dispatch]
    generalize dispatchGen true Cfg.default s₁ hd cls = r₁ at H ⊢
    generalize dispatchGen true c s₂ hd cls = r₂ at H ⊢
    revert r₁ r₂
    exact Rel.bind fun _ _ _ _ _ ha' => dispatchAll_full c rest ha'

/-- the lookups on embedded elements come out the same in both builds: the cache is a memo -/
theorem innerAll_full (c : Cfg) : ∀ (l : List (String × String)) {s₁ s₂ : St}, Agree c s₁ s₂ →
    Rel c Eq (innerAll Cfg.default s₁ l) (innerAll c s₂ l)
  | [], _, _, ha => ⟨rfl, ha⟩
  | (ty, cls) :: rest, s₁, s₂, ha => by
    obtain ⟨t₁, t₂, ha'⟩ := ha.typeInstance ty cls
    simp only [innerAll, t₁, t₂]
    rcases scan ty cls with _ | inst
    · exact ⟨rfl, ha'⟩
    · exact innerAll_full c rest ha'

theorem runCall_full (c : Cfg) (cl : Call) {s₁ s₂ : St} (ha : Agree c s₁ s₂) :
    Rel c (ORel c Eq) (runCall Cfg.default cl s₁) (runCall c cl s₂) := by
  have H := dispatchGen_full true c cl.self cl.cls ha
  unfold runCall
  simp only [dispatch]
  generalize dispatchGen true Cfg.default s₁ cl.self cl.cls = r₁ at H ⊢
  generalize dispatchGen true c s₂ cl.self cl.cls = r₂ at H ⊢
  revert r₁ r₂
  refine Rel.bind ?_
  intro sA sB o₁ o₂ hobj haA
  have H2 := dispatchAll_full c cl.uses haA
  simp only
  generalize dispatchAll Cfg.default sA cl.uses = q₁ at H2 ⊢
  generalize dispatchAll c sB cl.uses = q₂ at H2 ⊢
  revert q₁ q₂
  refine Rel.bind ?_
  intro sA' sB' _ _ _ haA'
  simp only
  obtain ⟨hid, -, hbody⟩ := hobj.same
  rw [hbody, hid, hobj.sitesFire]
  rcases hg : cl.guard o₁.body with _ | e
  · simp only
    have H3 := innerAll_full c (cl.inner o₁.body) haA'
    generalize innerAll Cfg.default sA' (cl.inner o₁.body) = q₁ at H3 ⊢
    generalize innerAll c sB' (cl.inner o₁.body) = q₂ at H3 ⊢
    obtain ⟨sA3, fA⟩ := q₁; obtain ⟨sB3, fB⟩ := q₂
    obtain ⟨rfl, ha3⟩ := H3
    cases fA
    · simp only
      rcases hsf : sitesFire o₁ (cl.sites o₁.body) with _ | e
      · simp only
        cases hu : cl.undef o₁.body
        · simp only [Bool.false_eq_true, if_false]
          rcases hh : cl.hard o₁.body with _ | e
          · exact ⟨.ok rfl, ha3.setBody _ _⟩
          · exact ⟨.raised, ha3⟩
        · simp only [if_true]
          exact ⟨.ub, ha3⟩
      · exact ⟨orel_refuse c _ e, ha3⟩
    · exact ⟨orel_refuse c _ _, ha3⟩
  · exact ⟨orel_refuse c _ e, haA'⟩

theorem runAlloc_full (c : Cfg) (d : Nat) (ty : String) (b : Body) (uses : List (Nat × String)) (mode : AMode) {s₁ s₂ : St}
    (ha : Agree c s₁ s₂) : Rel c (ORel c Eq) (runAlloc Cfg.default d ty b uses mode s₁) (runAlloc c d ty b uses mode s₂) := by
  have H2 := dispatchAll_full c uses ha
  unfold runAlloc
  generalize dispatchAll Cfg.default s₁ uses = q₁ at H2 ⊢
  generalize dispatchAll c s₂ uses = q₂ at H2 ⊢
  revert q₁ q₂
  refine Rel.bind ?_
  intro sA sB _ _ _ haA
  simp only
  rw [sitesFire_congr (o₁ := { id := sB.next, hdr := headerInit c ty heapClass, body := b })
    (o₂ := { id := sA.next, hdr := headerInit Cfg.default ty heapClass, body := b }) (by simp only [siteClass_self_headerInit])]
  rcases sitesFire { id := sA.next, hdr := headerInit Cfg.default ty heapClass, body := b }
      ((ty ++ "_Assign", .self) :: elemSites "_Assign" b) with _ | e
  · simp only
    exact ⟨.ok rfl, (haA.alloc d ty b).collected (register_collected ..) (register_collected ..)⟩
  · simp only
    exact ⟨orel_refuse c _ e, haA⟩

theorem runDel_full (c : Cfg) (x : Nat) {s₁ s₂ : St} (ha : Agree c s₁ s₂) :
    Rel c (ORel c Eq) (runDel Cfg.default x s₁) (runDel c x s₂) := by
  have H := dispatchGen_full false c x "New" ha
  unfold runDel
  generalize dispatchGen false Cfg.default s₁ x "New" = r₁ at H ⊢
  generalize dispatchGen false c s₂ x "New" = r₂ at H ⊢
  revert r₁ r₂
  refine Rel.bind ?_
  intro sA sB o₁ o₂ hobj haA
  have H2 := dispatchGen_full false c x "Alloc" haA
  simp only
  generalize dispatchGen false Cfg.default sA x "Alloc" = q₁ at H2 ⊢
  generalize dispatchGen false c sB x "Alloc" = q₂ at H2 ⊢
  revert q₁ q₂
  refine Rel.bind ?_
  intro sA' sB' _ _ _ haA'
  simp only
  obtain ⟨hid, hty, hbody⟩ := hobj.same
  rw [hid, hbody, hty, hobj.sitesFire]
  rcases hsf : sitesFire o₁ ((o₁.hdr.type ++ "_Del", .self) :: elemSites "_Del" o₁.body ++ [("dealloc", .self)]) with _ | e
  · simp only [hsf]
    exact ⟨.ok rfl, haA'.free x o₁.id _ _ _ _⟩
  · simp only [hsf]
    exact ⟨orel_refuse c _ e, haA'⟩

theorem step_full (c : Cfg) (op : Op) {s₁ s₂ : St} (ha : Agree c s₁ s₂) :
    Rel c (ORel c Eq) (step Cfg.default op s₁) (step c op s₂) := by
  unfold step
  rw [ha.view]
  rcases plan op s₁.view with cl | ⟨d, ty, b, uses, mode⟩ | x | x | _ | o | e | _
  · exact runCall_full c cl ha
  · exact runAlloc_full c d ty b uses mode ha
  · exact runDel_full c x ha
  · exact ⟨.ok rfl, ha.drop x⟩
  · have hc : ∀ (g : Bool) (s : St), Collected s (if g then collect s else s) := fun g s => by
      cases g
      · exact .refl s
      · exact collect_collected s
    exact ⟨.ok rfl, ha.collected (hc _ s₁) (hc _ s₂)⟩
  · exact ⟨.ok rfl, ha⟩
  · exact ⟨orel_refuse c _ e, ha⟩
  · exact ⟨.ub, ha⟩

/-- **One step, in contract**: the case of `step_full` in which the default build returns `ok` — then so does every build. -/
theorem step_sim (cfg : Cfg) (op : Op) {s₁ s₂ : St} {out : Out} (ha : Agree cfg s₁ s₂) (h : (step Cfg.default op s₁).2 = .ok out) :
    (step cfg op s₂).2 = .ok out ∧ Agree cfg (step Cfg.default op s₁).1 (step cfg op s₂).1 := by
  obtain ⟨hr, ha'⟩ := step_full cfg op ha
  obtain ⟨_, hb, rfl⟩ := (h ▸ hr).of_ok
  exact ⟨hb, ha'⟩

/-- the outcome lists of a program in the default build and in build `c`: of one length, related by `ORel c Eq` position by position -/
inductive AllRel (c : Cfg) : List (Outcome Out) → List (Outcome Out) → Prop where
  | nil : AllRel c [] []
  | cons {x y : Outcome Out} {xs ys : List (Outcome Out)} :
      ORel c Eq x y → AllRel c xs ys → AllRel c (x :: xs) (y :: ys)

theorem run_full (c : Cfg) : ∀ (prog : List Op) {s₁ s₂ : St}, Agree c s₁ s₂ →
    Rel c (AllRel c) (run Cfg.default prog s₁) (run c prog s₂)
  | [], _, _, ha => ⟨.nil, ha⟩
  | op :: rest, _, _, ha =>
    have h := step_full c op ha
    have h' := run_full c rest h.2
    ⟨.cons h.1 h'.1, h'.2⟩

theorem run_full_init (c : Cfg) (prog : List Op) :
    AllRel c (run Cfg.default prog St.init).2 (run c prog St.init).2 ∧
      (run c prog St.init).1.observe = (run Cfg.default prog St.init).1.observe :=
  have h := run_full c prog (Agree.init c)
  ⟨h.1, (h.2.1.map_proj id).symm⟩

/-- without a raise in the default build there is nothing a compiled-out check could turn into undefined behaviour -/
theorem AllRel.eq_of_inContract {c : Cfg} {xs ys : List (Outcome Out)} (h : AllRel c xs ys) (hok : InContract xs) : ys = xs := by
  induction h with
  | nil => rfl
  | cons hr _ ih =>
    obtain ⟨out, rfl⟩ := hok _ (List.mem_cons_self ..)
    obtain ⟨_, rfl, rfl⟩ := hr.of_ok
    rw [ih fun r hr => hok r (List.mem_cons_of_mem _ hr)]

theorem AllRel.eq_of_checks {c : Cfg} (hc : c.checks = true) {xs ys : List (Outcome Out)} (h : AllRel c xs ys) : ys = xs := by
  induction h with
  | nil => rfl
  | cons hr _ ih =>
    rw [ih]
    cases hr with
    | ok h => rw [h]
    | raised => rfl
    | ub => rfl
    | off h => rw [hc] at h; cases h

theorem AllRel.pointwise {c : Cfg} {xs ys : List (Outcome Out)} (h : AllRel c xs ys) :
    xs.length = ys.length ∧
    ∀ (i : Nat) (x y : Outcome Out), xs[i]? = some x → ys[i]? = some y →
      (y = x ∨ (c.checks = false ∧ (∃ e, x = .raised e) ∧ y = .ub)) := by
  induction h with
  | nil => exact ⟨rfl, fun i x y hx _ => by simp at hx⟩
  | cons hr _ ih =>
    refine ⟨by simp [ih.1], ?_⟩
    intro i x y hx hy
    cases i with
    | zero =>
      simp only [List.getElem?_cons_zero, Option.some.injEq] at hx hy
      subst hx hy
      cases hr with
      | ok h => left; rw [h]
      | raised => left; rfl
      | ub => left; rfl
      | off h => right; exact ⟨h, ⟨_, rfl⟩, rfl⟩
    | succ n =>
      simp only [List.getElem?_cons_succ] at hx hy
      exact ih.2 n x y hx hy

end Cello.Config
