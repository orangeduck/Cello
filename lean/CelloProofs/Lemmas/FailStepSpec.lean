import CelloProofs.Lemmas.FailAux
import CelloProofs.Lemmas.FailNest
import CelloProofs.Lemmas.FailStr
/-
  C12: the answer of `X.step` against the specification (`X.spec`, `X.ubTerritory`: FailSpec.lean), one case analysis over `Op` per
  container type; a case opens with the `…_cases` lemma of the check the operation runs (Fail.lean, FailAux.lean), which gives the
  model's answer and the specification's together, and `simp` compares the two.  Both halves of the comparison come out of the same
  cases: the model answers `ub` exactly on the territory (or for a `print_to` that starts with a directive, which is not modelled:
  `Op.directiveFirst`), and off the territory it raises the documented exception, or none.  `Str.step_spec` and `Nest.step_spec` are
  the second half only: a String (`print_to` apart: `C12_print_raises_exactly`, Props/C12.lean) has no `ub` on well-formed
  arguments; a container of containers has, and no territory names it (`C12_raises_exactly_nest` says where).
-/
namespace Cello.Fail

theorem Arr.step_spec (a : Arr) (op : Op) (hw : a.wf) (ho : op.argsOk) :
    ((a.step op).2 = .ub ↔ Arr.ubTerritory op = true ∨ op.directiveFirst = true) ∧
    (Arr.ubTerritory op = false → (a.step op).2.exc? = a.spec op) := by
  obtain ⟨hty, hel, hlen⟩ := hw
  have hn : a.items.length < 2 ^ 63 := by omega
  cases op with
  | get k =>
    rcases resolve_cases _ hn k ho.1 with ⟨i, hr, he⟩ | ⟨e, hr, he⟩ <;>
      simp [Arr.step, Arr.get, Arr.spec, Arr.ubTerritory, Op.directiveFirst, hr, he, R.exc?]
  | set k v =>
    rcases resolve_cases _ hn k ho.1.1 with ⟨i, hr, he⟩ | ⟨e, hr, he⟩ <;>
      rcases assignTo_cases a.ty hty v ho.2.2 with ⟨w, ha, hf⟩ | ⟨e', ha, hf⟩ <;>
      simp [Arr.step, Arr.set, Arr.spec, Arr.ubTerritory, Op.directiveFirst, hr, he, ha, hf, R.exc?]
  | mem v =>
    rcases findEq_cases a.ty v ho.2 a.items hel with ⟨e, hf, hs⟩ | ⟨r, hf, hs, _⟩ <;>
      simp [Arr.step, Arr.mem, Arr.spec, Arr.ubTerritory, Op.directiveFirst, hf, hs, R.exc?]
  | rem v =>
    rcases findEq_cases a.ty v ho.2 a.items hel with ⟨e, hf, hs⟩ | ⟨_ | j, hf, hs, hm⟩ <;>
      simp [Arr.step, Arr.rem, Arr.spec, Arr.ubTerritory, Op.directiveFirst, hf, hs, R.exc?]
    · simpa using hm
    · simpa using hm
  | push v | append v =>
    rcases assignTo_cases a.ty hty v ho.2 with ⟨w, ha, hf⟩ | ⟨e', ha, hf⟩ <;>
      simp [Arr.step, Arr.push, Arr.spec, Arr.ubTerritory, Op.directiveFirst, ha, hf, R.exc?]
  | pushAt v k =>
    rcases arrPushPos_cases _ hlen k ho.2.1 with ⟨i, hp, he⟩ | ⟨e, hp, he⟩ <;>
      rcases assignTo_cases a.ty hty v ho.1.2 with ⟨w, ha, hf⟩ | ⟨e', ha, hf⟩ <;>
      simp [Arr.step, Arr.pushAt_eq, Arr.spec, Arr.ubTerritory, Op.directiveFirst, hp, he, ha, hf, R.exc?]
  | pop => simp only [Arr.step, Arr.pop, Arr.spec]; split <;> simp [Arr.ubTerritory, Op.directiveFirst, R.exc?]
  | popAt k =>
    rcases resolve_cases _ hn k ho.1 with ⟨i, hr, he⟩ | ⟨e, hr, he⟩ <;>
      simp [Arr.step, Arr.popAt, Arr.spec, Arr.ubTerritory, Op.directiveFirst, hr, he, R.exc?]
  | resize n => simp only [Arr.step, Arr.resize, Arr.spec]; split <;> simp [Arr.ubTerritory, Op.directiveFirst, R.exc?]
  | len => simp [Arr.step, Arr.spec, Arr.ubTerritory, Op.directiveFirst, R.exc?]
  | concat src =>
    cases src with
    | seq vs =>
      have h := Arr.concatLoop_exc a.ty hty vs (fun v hv => (ho v hv).2)
      simp only [Arr.step, Arr.concat, Arr.spec, Arr.ubTerritory, Op.directiveFirst]
      rcases hc : Arr.concatLoop a.ty vs with ⟨r, _ | _ | _ | _⟩ <;> rw [hc] at h <;> simp only at h <;> simp [h, R.exc?]
    | scalar v => cases v <;> simp [Arr.step, Arr.concat, Arr.spec, R.exc?, Arr.ubTerritory, Op.directiveFirst]
  | assign v => cases v <;> simp [Arr.step, Arr.assign, Arr.spec, R.exc?, Arr.ubTerritory, Op.directiveFirst]
  | print pos fmt args =>
    rcases fmt with _ | ⟨_ | _ | _ | _, rest⟩ <;> simp [Arr.step, Arr.spec, R.exc?, Arr.ubTerritory, Op.directiveFirst]

theorem Lst.step_spec (l : Lst) (op : Op) (hw : l.wf) (ho : op.argsOk) :
    ((l.step op).2 = .ub ↔ Lst.ubTerritory op = true ∨ op.directiveFirst = true) ∧
    (Lst.ubTerritory op = false → (l.step op).2.exc? = l.spec op) := by
  obtain ⟨hty, hel, hlen⟩ := hw
  have hn : l.items.length < 2 ^ 63 := by omega
  cases op with
  | get k =>
    rcases resolve_cases _ hn k ho.1 with ⟨i, hr, he⟩ | ⟨e, hr, he⟩ <;>
      simp [Lst.step, Lst.get, Lst.spec, Lst.ubTerritory, Op.directiveFirst, hr, he, R.exc?]
  | set k v =>
    rcases resolve_cases _ hn k ho.1.1 with ⟨i, hr, he⟩ | ⟨e, hr, he⟩ <;>
      rcases assignTo_cases l.ty hty v ho.2.2 with ⟨w, ha, hf⟩ | ⟨e', ha, hf⟩ <;>
      simp [Lst.step, Lst.set, Lst.spec, Lst.ubTerritory, Op.directiveFirst, hr, he, ha, hf, R.exc?]
  | mem v =>
    rcases findEq_cases l.ty v ho.2 l.items hel with ⟨e, hf, hs⟩ | ⟨r, hf, hs, _⟩ <;>
      simp [Lst.step, Lst.mem, Lst.spec, Lst.ubTerritory, Op.directiveFirst, hf, hs, R.exc?]
  | rem v =>
    rcases findEq_cases l.ty v ho.2 l.items hel with ⟨e, hf, hs⟩ | ⟨_ | j, hf, hs, hm⟩ <;>
      simp [Lst.step, Lst.rem, Lst.spec, Lst.ubTerritory, Op.directiveFirst, hf, hs, R.exc?]
    · simpa using hm
    · simpa using hm
  | push v | append v =>
    rcases assignTo_cases l.ty hty v ho.2 with ⟨w, ha, hf⟩ | ⟨e', ha, hf⟩ <;>
      simp [Lst.step, Lst.push, Lst.spec, Lst.ubTerritory, Op.directiveFirst, ha, hf, R.exc?]
  | pushAt v k =>
    rcases lstPushPos_cases _ hn k ho.2.1 with ⟨i, hp, he⟩ | ⟨e, hp, he⟩ <;>
      rcases assignTo_cases l.ty hty v ho.1.2 with ⟨w, ha, hf⟩ | ⟨e', ha, hf⟩ <;>
      simp [Lst.step, Lst.pushAt_eq, Lst.spec, Lst.ubTerritory, Op.directiveFirst, hp, he, ha, hf, R.exc?]
  | pop => simp only [Lst.step, Lst.pop, Lst.spec]; split <;> simp [Lst.ubTerritory, Op.directiveFirst, R.exc?]
  | popAt k =>
    rcases resolve_cases _ hn k ho.1 with ⟨i, hr, he⟩ | ⟨e, hr, he⟩ <;>
      simp [Lst.step, Lst.popAt, Lst.spec, Lst.ubTerritory, Op.directiveFirst, hr, he, R.exc?]
  | resize n => simp only [Lst.step, Lst.resize, Lst.spec]; split <;> simp [Lst.ubTerritory, Op.directiveFirst, R.exc?]
  | len => simp [Lst.step, Lst.spec, Lst.ubTerritory, Op.directiveFirst, R.exc?]
  | concat src =>
    cases src with
    | seq vs =>
      obtain ⟨hx, hu⟩ := Lst.concatLoop_exc l.ty hty vs l rfl (fun v hv => (ho v hv).2)
      simp [Lst.step, Lst.concat, Lst.spec, Lst.ubTerritory, Op.directiveFirst, hx, hu]
    | scalar v => cases v <;> simp [Lst.step, Lst.concat, Lst.spec, R.exc?, Lst.ubTerritory, Op.directiveFirst]
  | assign v =>
    cases v with
    | str s => simp only [Lst.step, Lst.assign, Lst.spec]; split <;> simp [Lst.ubTerritory, Op.directiveFirst, R.exc?]
    | _ => simp [Lst.step, Lst.assign, Lst.spec, Lst.ubTerritory, Op.directiveFirst, R.exc?]
  | print pos fmt args =>
    rcases fmt with _ | ⟨_ | _ | _ | _, rest⟩ <;> simp [Lst.step, Lst.spec, R.exc?, Lst.ubTerritory, Op.directiveFirst]

theorem Tup.step_spec (t : Tup) (op : Op) (hw : t.wf) (ho : op.argsOk) (hop : ∀ v, op ≠ .mem v ∧ op ≠ .rem v) :
    ((t.step op).2 = .ub ↔ t.ubTerritory op = true ∨ op.directiveFirst = true) ∧
    (t.ubTerritory op = false → (t.step op).2.exc? = t.spec op) := by
  have hn : t.items.length < 2 ^ 63 := by unfold Tup.wf at hw; omega
  cases op with
  | get k =>
    rcases resolve_cases _ hn k ho.1 with ⟨i, hr, he⟩ | ⟨e, hr, he⟩ <;>
      simp [Tup.step, Tup.get, Tup.spec, Tup.ubTerritory, Op.directiveFirst, hr, he, R.exc?]
  | set k v =>
    rcases resolve_cases _ hn k ho.1.1 with ⟨i, hr, he⟩ | ⟨e, hr, he⟩ <;>
      simp [Tup.step, Tup.set, Tup.spec, Tup.ubTerritory, Op.directiveFirst, hr, he, R.exc?]
  | mem v => exact absurd rfl (hop v).1
  | rem v => exact absurd rfl (hop v).2
  | push v | append v =>
    cases hh : t.alloc.nonHeap <;> simp [Tup.step, Tup.push, Tup.spec, heapExc, Tup.ubTerritory, Op.directiveFirst, hh, R.exc?]
  | pushAt v k =>
    rcases resolve_cases _ hn k ho.2.1 with ⟨i, hr, he⟩ | ⟨e, hr, he⟩ <;> cases hh : t.alloc.nonHeap <;>
      simp [Tup.step, Tup.pushAt, Tup.spec, heapExc, Tup.ubTerritory, Op.directiveFirst, hr, he, hh, R.exc?]
  | pop =>
    by_cases h0 : t.items.length = 0 <;> cases hh : t.alloc.nonHeap <;>
      simp [Tup.step, Tup.pop, Tup.spec, heapExc, Tup.ubTerritory, Op.directiveFirst, h0, hh, R.exc?]
  | popAt k =>
    rcases resolve_cases _ hn k ho.1 with ⟨i, hr, he⟩ | ⟨e, hr, he⟩ <;> cases hh : t.alloc.nonHeap <;>
      simp [Tup.step, Tup.popAt, Tup.spec, heapExc, Tup.ubTerritory, Op.directiveFirst, hr, he, hh, R.exc?]
  | resize n =>
    by_cases hl : n < t.items.length <;> cases hh : t.alloc.nonHeap <;>
      simp [Tup.step, Tup.resize, Tup.spec, heapExc, Tup.ubTerritory, Op.directiveFirst, hl, hh, R.exc?]
  | len => simp [Tup.step, Tup.spec, Tup.ubTerritory, Op.directiveFirst, R.exc?]
  | concat src =>
    cases hh : t.alloc.nonHeap <;> rcases src with vs | (_ | _ | _ | _ | _) <;>
      simp [Tup.step, Tup.concat, Tup.spec, heapExc, Tup.ubTerritory, Op.directiveFirst, hh, R.exc?]
  | assign v => cases v <;> simp [Tup.step, Tup.assign, Tup.spec, R.exc?, Tup.ubTerritory, Op.directiveFirst]
  | print pos fmt args =>
    rcases fmt with _ | ⟨_ | _ | _ | _, rest⟩ <;> simp [Tup.step, Tup.spec, R.exc?, Tup.ubTerritory, Op.directiveFirst]

theorem Tab.step_spec (t : Tab) (op : Op) :
    ((t.step op).2 = .ub ↔ Tab.ubTerritory op = true ∨ op.directiveFirst = true) ∧
    (t.wf → Tab.ubTerritory op = false → (t.step op).2.exc? = t.spec op) := by
  -- `wf` stands inside the second half: the first holds of every table (`C12_no_ub_table`)
  -- `get` / `rem` of an accepted key: the lookup decides, since a well-formed table without slots is empty
  have empty {k : Val} {v : Val} (h0 : t.nslots = 0) (hl : t.items.lookup k = some v) : ¬ t.wf :=
    fun hw => by rw [hw.1 h0] at hl; cases hl
  cases op with
  | get k =>
    rcases castTo_cases t.kty k with ⟨hc, he, _⟩ | ⟨hc, he⟩ <;> by_cases h0 : t.nslots = 0 <;> cases hl : t.items.lookup k <;>
      simp [Tab.step, Tab.get, Tab.spec, keyExc, Tab.ubTerritory, Op.directiveFirst, hc, he, h0, hl, R.exc?]
    exact empty h0 hl
  | rem k =>
    rcases castTo_cases t.kty k with ⟨hc, he, _⟩ | ⟨hc, he⟩ <;> by_cases h0 : t.nslots = 0 <;> cases hl : t.items.lookup k <;>
      simp [Tab.step, Tab.rem, Tab.spec, keyExc, Tab.ubTerritory, Op.directiveFirst, hc, he, h0, hl, R.exc?]
    exact empty h0 hl
  | set k v =>
    rcases castTo_cases t.kty k with ⟨hc, he, _⟩ | ⟨hc, he⟩ <;> rcases castTo_cases t.vty v with ⟨hd, hf, _⟩ | ⟨hd, hf⟩ <;>
      simp [Tab.step, Tab.set, Tab.spec, Tab.ubTerritory, Op.directiveFirst, hc, he, hd, hf, R.exc?]
  | mem k =>
    rcases castTo_cases t.kty k with ⟨hc, he, _⟩ | ⟨hc, he⟩ <;>
      simp [Tab.step, Tab.mem, Tab.spec, Tab.ubTerritory, Op.directiveFirst, hc, he, R.exc?]
  | resize n =>
    by_cases h0 : n = 0 <;> by_cases h1 : n < t.items.length <;>
      simp [Tab.step, Tab.resize, Tab.spec, Tab.ubTerritory, Op.directiveFirst, h0, h1, R.exc?]
  | assign v => cases v <;> simp [Tab.step, Tab.assign, Tab.spec, Tab.ubTerritory, Op.directiveFirst, R.exc?]
  | print pos fmt args =>
    rcases fmt with _ | ⟨_ | _ | _ | _, rest⟩ <;> simp [Tab.step, Tab.spec, R.exc?, Tab.ubTerritory, Op.directiveFirst]
  | _ => simp [Tab.step, Tab.spec, R.exc?, Tab.ubTerritory, Op.directiveFirst]

theorem Tre.step_spec (t : Tre) (op : Op) :
    ((t.step op).2 = .ub ↔ Tre.ubTerritory op = true ∨ op.directiveFirst = true) ∧
    (Tre.ubTerritory op = false → (t.step op).2.exc? = t.spec op) := by
  cases op with
  | get k =>
    rcases castTo_cases t.kty k with ⟨hc, he, _⟩ | ⟨hc, he⟩ <;> cases hl : t.items.lookup k <;>
      simp [Tre.step, Tre.get, Tre.spec, keyExc, Tre.ubTerritory, Op.directiveFirst, hc, he, hl, R.exc?]
  | rem k =>
    rcases castTo_cases t.kty k with ⟨hc, he, _⟩ | ⟨hc, he⟩ <;> cases hl : t.items.lookup k <;>
      simp [Tre.step, Tre.rem, Tre.spec, keyExc, Tre.ubTerritory, Op.directiveFirst, hc, he, hl, R.exc?]
  | set k v =>
    rcases castTo_cases t.kty k with ⟨hc, he, _⟩ | ⟨hc, he⟩ <;> rcases castTo_cases t.vty v with ⟨hd, hf, _⟩ | ⟨hd, hf⟩ <;>
      simp [Tre.step, Tre.set, Tre.spec, Tre.ubTerritory, Op.directiveFirst, hc, he, hd, hf, R.exc?]
  | mem k =>
    rcases castTo_cases t.kty k with ⟨hc, he, _⟩ | ⟨hc, he⟩ <;>
      simp [Tre.step, Tre.mem, Tre.spec, Tre.ubTerritory, Op.directiveFirst, hc, he, R.exc?]
  | resize n => by_cases h0 : n = 0 <;> simp [Tre.step, Tre.resize, Tre.spec, Tre.ubTerritory, Op.directiveFirst, h0, R.exc?]
  | assign v => cases v <;> simp [Tre.step, Tre.assign, Tre.spec, Tre.ubTerritory, Op.directiveFirst, R.exc?]
  | print pos fmt args =>
    rcases fmt with _ | ⟨_ | _ | _ | _, rest⟩ <;> simp [Tre.step, Tre.spec, R.exc?, Tre.ubTerritory, Op.directiveFirst]
  | _ => simp [Tre.step, Tre.spec, R.exc?, Tre.ubTerritory, Op.directiveFirst]

theorem Str.step_spec (s : Str) (op : Op) (ho : op.argsOk) (hop : ∀ p f a, op ≠ .print p f a) :
    (s.step op).2.exc? = s.spec op := by
  have concat (v : Val) (hv : v ≠ .nullstr) : (s.concat v).2.exc? = (heapExc s.alloc).or (strArgExc v) := by
    simp only [Str.concat, heapExc]
    split
    · simp [R.exc?, Option.or]
    · cases v <;> simp_all [cStr, strArgExc, R.exc?, Option.or]
  cases op with
  | print p f a => exact absurd rfl (hop p f a)
  | mem v => cases v <;> simp [Str.step, Str.mem, Str.spec, R.exc?]
  | rem v =>
    have hv : v ≠ .nullstr := ho.2
    cases v with
    | str t =>
      simp only [Str.step, Str.rem, Str.spec, cStr, ← removeFirst_isSome]
      cases removeFirst t s.s <;> simp [R.exc?]
    | nullstr => exact absurd rfl hv
    | _ => simp [Str.step, Str.rem, Str.spec, cStr, strArgExc, R.exc?]
  | resize n => simp only [Str.step, Str.resize, Str.spec, heapExc]; split <;> simp [R.exc?]
  | concat src =>
    cases src with
    | seq vs => simp only [Str.step, Str.spec, heapExc]; split <;> simp [R.exc?, Option.or]
    | scalar v => exact concat v ho.2
  | append v => exact concat v ho.2
  | assign v =>
    have hv : v ≠ .nullstr := ho.2
    simp only [Str.step, Str.assign, Str.spec, heapExc]
    cases v with
    | str t => by_cases hh : s.alloc.nonHeap = true <;> simp [cStr, strArgExc, hh, R.exc?, Option.or]
    | nullstr => exact absurd rfl hv
    | _ => simp [cStr, strArgExc, R.exc?, Option.or]
  | _ => simp [Str.step, Str.spec, R.exc?]

theorem Nest.step_spec (n : Nest) (op : NOp) (hw : n.wf) (ho : op.argsOk) : (n.step op).2.exc? = n.spec op := by
  have hlen : n.items.length < 2 ^ 63 := by have := hw.2; omega
  cases op with
  | get k =>
    rcases resolve_cases _ hlen k ho.1 with ⟨i, hr, he⟩ | ⟨e, hr, he⟩ <;> simp only [Nest.step, Nest.spec, hr, he, R.exc?]
  | set k src =>
    rcases resolve_cases _ hlen k ho.1.1 with ⟨i, hr, he⟩ | ⟨e, hr, he⟩ <;> simp only [Nest.step, Nest.set, Nest.spec, hr, he, Option.or]
    · rw [Inner.assign_exc _ src ho.2, n.getD_kind hw.1 i]
    · rfl
  | push src =>
    have := Inner.assign_exc (Inner.zero n.ek) src ho
    rw [Inner.zero_kind] at this
    simp only [Nest.step, Nest.push, Nest.spec, ← this]
    cases n.outer with
    | arr => rfl
    | lst =>
      simp only
      cases (Inner.zero n.ek).assign src with
      | mk e' r => cases r <;> rfl
  | pushAt src k =>
    have ha := Inner.assign_exc (Inner.zero n.ek) src ho.1
    rw [Inner.zero_kind] at ha
    simp only [Nest.step, Nest.pushAt_eq]
    rcases n.pushPos_cases hw.2 k ho.2.1 src with ⟨i, hp, he⟩ | ⟨e, hp, he⟩ <;> rw [hp, he]
    · rw [← ha]; rcases (Inner.zero n.ek).assign src with ⟨e', _ | _ | _⟩ <;> cases n.outer <;> rfl
    · rfl
  | pop => simp only [Nest.step, Nest.spec]; split <;> simp [R.exc?]
  | popAt k =>
    rcases resolve_cases _ hlen k ho.1 with ⟨i, hr, he⟩ | ⟨e, hr, he⟩ <;> simp only [Nest.step, Nest.spec, hr, he, R.exc?]
  | resize m =>
    simp only [Nest.step, Nest.spec]
    cases n.outer <;> simp only <;> (repeat' split) <;> simp [R.exc?]
  | len => simp [Nest.step, Nest.spec, R.exc?]

end Cello.Fail
