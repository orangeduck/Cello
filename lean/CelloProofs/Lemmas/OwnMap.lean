/-
  CelloProofs/Lemmas/OwnMap.lean — C05: the map operations (Table / Tree) of Cello/Own.lean conserve, hand out fresh
  identities and keep the keys distinct (the map invariant that the count of a deep copy, `mapSetMany_distinct`, needs).
  `set`, `rem` and `assign` are composed (`Conserves.trans`) from three moves: the pair with a key is taken out
  (`takeKey` in a lemma name stands for `takeFirst (keyIs k)`; `conserves_takeKey`), a pair is inserted
  (`conserves_mapInsert`), the map is cleared.
-/
import CelloProofs.Lemmas.Own

namespace Cello.Own
open List

def keys (kvs : List KV) : List Nat := kvs.map (·.1.pay)

@[simp] theorem kvToks_nil : kvToks [] = [] := rfl
@[simp] theorem kvToks_cons (kv : KV) (kvs : List KV) : kvToks (kv :: kvs) = kv.1 :: kv.2 :: kvToks kvs := by
  simp [kvToks]
theorem kvToks_perm {a b : List KV} (h : a ~ b) : kvToks a ~ kvToks b := h.flatMap_right _
theorem keys_perm {a b : List KV} (h : a ~ b) : keys a ~ keys b := h.map _
@[simp] theorem length_kvToks (kvs : List KV) : (kvToks kvs).length = 2 * kvs.length := by
  induction kvs with
  | nil => rfl
  | cons kv kvs ih => simp [ih]; omega

theorem mapInsert_perm (kv : KV) (l : List KV) : mapInsert kv l ~ kv :: l := by
  induction l with
  | nil => exact Perm.refl _
  | cons x xs ih =>
    simp only [mapInsert]
    split
    · exact Perm.refl _
    · exact (ih.cons x).trans (Perm.swap _ _ _)

theorem find?_mapInsert (k : Nat) (kv : KV) (l : List KV) :
    (mapInsert kv l).find? (keyIs k) = if keyIs k kv then some kv else l.find? (keyIs k) := by
  induction l with
  | nil => simp [mapInsert, List.find?]
  | cons x xs ih =>
    simp only [mapInsert]
    split
    · simp only [List.find?_cons]
      cases keyIs k kv <;> rfl
    · rename_i hle
      simp only [List.find?_cons]
      by_cases hx : keyIs k x = true
      · -- `x` has key `k` and stands in front of `kv`, whose key is larger
        have hkv : keyIs k kv = false := by
          simp only [keyIs, beq_iff_eq] at hx
          cases h : keyIs k kv
          · rfl
          · simp only [keyIs, beq_iff_eq] at h; omega
        simp [hx, hkv]
      · simp only [Bool.not_eq_true] at hx
        simp [hx, ih]

theorem takeKey_some {k : Nat} {kvs : List KV} {old : KV} {rest : List KV}
    (h : takeFirst (keyIs k) kvs = some (old, rest)) : kvs ~ old :: rest ∧ old.1.pay = k := by
  obtain ⟨h1, h2⟩ := takeFirst_perm h
  exact ⟨h1, by simpa [keyIs] using h2⟩

theorem takeKey_none {k : Nat} {kvs : List KV} (h : takeFirst (keyIs k) kvs = none) : k ∉ keys kvs := by
  intro hk
  obtain ⟨kv, hkv, rfl⟩ := List.mem_map.mp hk
  have := takeFirst_none h kv hkv
  simp [keyIs] at this

theorem conserves_mapInsert (kv : KV) (kvs : List KV) :
    Conserves (kvToks kvs) (kvToks (mapInsert kv kvs)) [kv.1, kv.2] [] := by
  have := kvToks_perm (mapInsert_perm kv kvs)
  simp only [kvToks_cons] at this
  exact .issue (this.trans (perm_append_comm (l₁ := [_, _]) (l₂ := kvToks kvs)))

theorem conserves_takeKey {k : Nat} {kvs : List KV} {old : KV} {rest : List KV}
    (h : takeFirst (keyIs k) kvs = some (old, rest)) : Conserves (kvToks kvs) (kvToks rest) [] [old.1, old.2] := by
  have h2 := kvToks_perm (takeKey_some h).1
  simp only [kvToks_cons] at h2
  exact .retire ((perm_append_comm (l₁ := kvToks rest) (l₂ := [old.1, old.2])).trans h2.symm)

theorem tableSet_spec (next : Nat) (kvs : List KV) (k v : Nat) :
    let r := tableSet next kvs k v
    Conserves (kvToks kvs) (kvToks r.val) r.issued r.retired ∧ FreshFrom next r.issued := by
  simp only [tableSet]
  cases h : takeFirst (keyIs k) kvs with
  | none => exact ⟨conserves_mapInsert _ kvs, fresh_two _ _ _⟩
  | some q =>
    obtain ⟨old, rest⟩ := q
    -- the resident pair is taken out and finalised, then the new pair is stored
    exact ⟨(conserves_takeKey h).trans (conserves_mapInsert _ rest), fresh_two _ _ _⟩

/-- Tree_Set conserves on constructed elements (existing key: both elements are assigned in place) -/
theorem treeSet_spec (next : Nat) (kvs : List KV) (k v : Nat) (hraw : 0 ∉ ids (kvToks kvs)) :
    let r := treeSet next kvs k v
    Conserves (kvToks kvs) (kvToks r.val) r.issued r.retired ∧ FreshFrom next r.issued := by
  simp only [treeSet]
  cases h : takeFirst (keyIs k) kvs with
  | none => exact ⟨conserves_mapInsert _ kvs, fresh_two _ _ _⟩
  | some q =>
    obtain ⟨old, rest⟩ := q
    have hold : ∀ t ∈ [old.1, old.2], t.id ≠ 0 := fun t ht h0 =>
      hraw (h0 ▸ ((conserves_takeKey h).mem (.inr (List.mem_map_of_mem ht))).resolve_right (by simp))
    obtain ⟨hid1, hiss1⟩ := assignProbe_live next old.1 k (hold _ (by simp))
    simp only [hiss1, List.length_nil, Nat.add_zero, List.nil_append]
    obtain ⟨hid2, hiss2⟩ := assignProbe_live next old.2 v (hold _ (by simp))
    rw [hiss2]
    refine ⟨.of_ids ?_, fresh_nil _⟩
    -- as identities go, the pair is taken out and put back
    have hc := conserves_iff.mp ((conserves_takeKey h).trans
      (conserves_mapInsert ((assignProbe next old.1 k).val, (assignProbe next old.2 v).val) rest))
    simp only [ids_cons, ids_nil, hid1, hid2, List.nil_append, List.append_nil] at hc
    exact (perm_append_right_iff _).mp hc

theorem mapRem_spec (kvs : List KV) (k : Nat) :
    let r := mapRem kvs k
    (Conserves (kvToks kvs) (kvToks r.val) r.issued r.retired ∧ r.issued = []) ∧ (r.out ≠ .ok → r.inert kvs) := by
  simp only [mapRem]
  cases h : takeFirst (keyIs k) kvs with
  | none => exact ⟨⟨.refl _, rfl⟩, fun _ => ⟨rfl, rfl, rfl, rfl⟩⟩
  | some q =>
    obtain ⟨old, rest⟩ := q
    exact ⟨⟨conserves_takeKey h, rfl⟩, fun h => absurd rfl h⟩

theorem mapResize_spec (mk : MapKind) (kvs : List KV) (n : Nat) :
    let r := mapResize mk kvs n
    (Conserves (kvToks kvs) (kvToks r.val) r.issued r.retired ∧ r.issued = []) ∧ (r.out ≠ .ok → r.inert kvs) := by
  simp only [mapResize]
  split
  · exact ⟨⟨conserves_clear _, rfl⟩, fun h => absurd rfl h⟩
  · cases mk <;> simp only []
    · split
      · exact ⟨⟨.refl _, rfl⟩, fun _ => ⟨rfl, rfl, rfl, rfl⟩⟩
      · exact ⟨⟨.refl _, rfl⟩, fun h => absurd rfl h⟩
    · exact ⟨⟨.refl _, trivial⟩, fun _ => ⟨rfl, rfl, rfl, rfl⟩⟩

theorem mapSet_spec (mk : MapKind) (next : Nat) (kvs : List KV) (k v : Nat) (hraw : 0 ∉ ids (kvToks kvs)) :
    let r := mapSet mk next kvs k v
    Conserves (kvToks kvs) (kvToks r.val) r.issued r.retired ∧ FreshFrom next r.issued := by
  cases mk
  · exact tableSet_spec next kvs k v
  · exact treeSet_spec next kvs k v hraw

theorem mapSetMany_spec (mk : MapKind) (ps : List (Nat × Nat)) :
    ∀ (next : Nat) (kvs : List KV), 0 < next → 0 ∉ ids (kvToks kvs) →
      let r := mapSetMany mk next kvs ps
      Conserves (kvToks kvs) (kvToks r.val) r.issued r.retired ∧ FreshFrom next r.issued := by
  induction ps with
  | nil => intro next kvs _ _; exact ⟨.refl _, fresh_nil _⟩
  | cons kv ps ih =>
    intro next kvs hn hraw
    obtain ⟨k, v⟩ := kv
    simp only [mapSetMany]
    obtain ⟨hc1, hf1⟩ := mapSet_spec mk next kvs k v hraw
    have hraw1 := noraw_after hc1 hf1 hn hraw
    obtain ⟨hc2, hf2⟩ := ih (next + (mapSet mk next kvs k v).issued.length) (mapSet mk next kvs k v).val (by omega) hraw1
    exact ⟨hc1.trans hc2, hf1.append hf2⟩

theorem mapAssign_spec (mk : MapKind) (next : Nat) (kvs src : List KV) (hn : 0 < next) :
    let r := mapAssign mk next kvs src
    Conserves (kvToks kvs) (kvToks r.val) r.issued r.retired ∧ FreshFrom next r.issued := by
  obtain ⟨hc, hf⟩ := mapSetMany_spec mk (src.map (fun kv => (kv.1.pay, kv.2.pay))) next [] hn (by simp)
  exact ⟨(conserves_clear (kvToks kvs)).trans hc, hf⟩

theorem mapSet_out (mk : MapKind) (next : Nat) (kvs : List KV) (k v : Nat) : (mapSet mk next kvs k v).out = .ok := by
  cases mk <;> simp only [mapSet, tableSet, treeSet] <;> split <;> rfl

theorem mapSetMany_out (mk : MapKind) (ps : List (Nat × Nat)) (next : Nat) (kvs : List KV) :
    (mapSetMany mk next kvs ps).out = .ok := by
  cases ps with
  | nil => rfl
  | cons kv ps => rfl

theorem mapSet_absent {mk : MapKind} {next : Nat} {kvs : List KV} {k v : Nat} (h : takeFirst (keyIs k) kvs = none) :
    mapSet mk next kvs k v =
      { val := mapInsert (⟨next, k⟩, ⟨next + 1, v⟩) kvs, issued := [⟨next, k⟩, ⟨next + 1, v⟩] } := by
  cases mk <;> simp only [mapSet, tableSet, treeSet, h]

theorem mapSet_present {mk : MapKind} {next : Nat} {kvs : List KV} {k v : Nat} {old : KV} {rest : List KV}
    (h : takeFirst (keyIs k) kvs = some (old, rest)) :
    ∃ kt vt, kt.pay = k ∧ (mapSet mk next kvs k v).val = mapInsert (kt, vt) rest := by
  cases mk
  · exact ⟨⟨next, k⟩, ⟨next + 1, v⟩, rfl, by simp only [mapSet, tableSet, h]⟩
  · exact ⟨(assignProbe next old.1 k).val, (assignProbe (next + (assignProbe next old.1 k).issued.length) old.2 v).val,
      assignProbe_pay _ _ _, by simp only [mapSet, treeSet, h]⟩

theorem keys_mapInsert (kv : KV) (l : List KV) : keys (mapInsert kv l) ~ kv.1.pay :: keys l := by
  simpa [keys] using keys_perm (mapInsert_perm kv l)

theorem keys_takeKey {k : Nat} {kvs : List KV} {old : KV} {rest : List KV}
    (h : takeFirst (keyIs k) kvs = some (old, rest)) : keys kvs ~ k :: keys rest := by
  obtain ⟨hperm, hold⟩ := takeKey_some h
  exact hold ▸ keys_perm hperm

theorem keys_mapSet (mk : MapKind) (next : Nat) (kvs : List KV) (k v : Nat) (h : (keys kvs).Nodup) :
    (keys (mapSet mk next kvs k v).val).Nodup := by
  cases hq : takeFirst (keyIs k) kvs with
  | none =>
    rw [mapSet_absent hq]
    exact (keys_mapInsert _ _).nodup_iff.mpr (List.nodup_cons.mpr ⟨takeKey_none hq, h⟩)
  | some q =>
    obtain ⟨old, rest⟩ := q
    obtain ⟨kt, vt, hkt, hval⟩ := mapSet_present (mk := mk) (next := next) (v := v) hq
    rw [hval]
    exact (hkt ▸ keys_mapInsert (kt, vt) rest).nodup_iff.mpr ((keys_takeKey hq).nodup_iff.mp h)

theorem keys_mapRem (kvs : List KV) (k : Nat) (h : (keys kvs).Nodup) : (keys (mapRem kvs k).val).Nodup := by
  simp only [mapRem]
  cases hq : takeFirst (keyIs k) kvs with
  | none => simpa using h
  | some q =>
    obtain ⟨old, rest⟩ := q
    exact (List.nodup_cons.mp ((keys_takeKey hq).nodup_iff.mp h)).2

theorem keys_mapResize (mk : MapKind) (kvs : List KV) (n : Nat) (h : (keys kvs).Nodup) :
    (keys (mapResize mk kvs n).val).Nodup := by
  simp only [mapResize]
  split
  · simp [mapClear, keys]
  · cases mk <;> simp only [] <;> (try split) <;> simpa using h

theorem keys_mapSetMany (mk : MapKind) (ps : List (Nat × Nat)) :
    ∀ (next : Nat) (kvs : List KV), (keys kvs).Nodup → (keys (mapSetMany mk next kvs ps).val).Nodup := by
  induction ps with
  | nil => intro next kvs h; simpa [mapSetMany] using h
  | cons kv ps ih =>
    intro next kvs h
    obtain ⟨k, v⟩ := kv
    simp only [mapSetMany]
    exact ih _ _ (keys_mapSet mk next kvs k v h)

theorem keys_mapAssign (mk : MapKind) (next : Nat) (kvs src : List KV) :
    (keys (mapAssign mk next kvs src).val).Nodup := by
  simp only [mapAssign]
  exact keys_mapSetMany mk _ next [] List.nodup_nil

/-- new keys, pairwise distinct and absent from the map: every `set` of the run takes the insert branch — one
    construction per key and per value, in order, and nothing is finalised -/
theorem mapSetMany_distinct (mk : MapKind) (ps : List (Nat × Nat)) :
    ∀ (next : Nat) (kvs : List KV), (ps.map (·.1)).Nodup → (∀ k ∈ ps.map (·.1), k ∉ keys kvs) →
      let r := mapSetMany mk next kvs ps
      r.issued.map (·.pay) = ps.flatMap (fun kv => [kv.1, kv.2]) ∧ r.retired = [] ∧
      kvToks r.val ~ kvToks kvs ++ r.issued := by
  induction ps with
  | nil => intro next kvs _ _; simp [mapSetMany]
  | cons kv ps ih =>
    intro next kvs hnd hnew
    obtain ⟨k, v⟩ := kv
    simp only [List.map_cons, List.nodup_cons] at hnd
    have hnone : takeFirst (keyIs k) kvs = none := by
      cases hq : takeFirst (keyIs k) kvs with
      | none => rfl
      | some q => exact absurd ((keys_takeKey hq).mem_iff.mpr List.mem_cons_self) (hnew k List.mem_cons_self)
    have hkeys : keys (mapSet mk next kvs k v).val ~ k :: keys kvs := by
      rw [mapSet_absent hnone]; exact keys_mapInsert _ _
    obtain ⟨hpay, hret, hperm⟩ := ih (next + (mapSet mk next kvs k v).issued.length) (mapSet mk next kvs k v).val hnd.2
      fun x hx hx' => (List.mem_cons.mp (hkeys.mem_iff.mp hx')).elim (fun e => hnd.1 (e ▸ hx)) (hnew x (by simp [hx]))
    simp only [mapSetMany, mapSet_absent hnone, List.length_cons, List.length_nil, Nat.zero_add, Nat.reduceAdd]
      at hpay hret hperm ⊢
    refine ⟨by simp [hpay], by simp [hret], hperm.trans ?_⟩
    have hins := kvToks_perm (mapInsert_perm (⟨next, k⟩, ⟨next + 1, v⟩) kvs)
    simp only [kvToks_cons] at hins
    refine (Perm.append_right _ hins).trans ?_
    show [(⟨next, k⟩ : Tok), ⟨next + 1, v⟩] ++ kvToks kvs ++ _ ~ kvToks kvs ++ ([⟨next, k⟩, ⟨next + 1, v⟩] ++ _)
    rw [List.append_assoc]; exact perm_append_comm_assoc _ _ _

end Cello.Own
