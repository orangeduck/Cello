/-
  Blocks of cells.  `ArrS.cells` (records) and `TupS.cells` (pointer cells) are both an
  `Array (Option β)` on which `realloc`, `memmove`, a cell write and a run of cell writes act in the same way.  Here: what
  these four do to the list of values held in the first cells (`Block.Holds`).  Core Lean only.
-/
import Cello.SeqStore
import CelloProofs.Lemmas.SeqBasic

namespace Cello.Seq

abbrev Block (β : Type) := Array (Option β)

namespace Block
variable {β : Type} {c : Block β} {l : List β}

/-- the first cells of the block hold the list `l` (all written); `some l[k]?` and not `some (some l[k])`, so that no statement carries
    a bound proof -/
def Holds (c : Block β) (l : List β) : Prop := ∀ k, k < l.length → c[k]? = some l[k]?

/-- the cells after `realloc n` -/
def resize (c : Block β) (n : Nat) : Block β := Array.ofFn (n := n) fun j => (c[j.val]?).getD none

/-- the cells after `memmove dst src cnt` -/
def move (c : Block β) (dst src cnt : Nat) : Block β :=
  Array.ofFn (n := c.size) fun j =>
    if dst ≤ j.val ∧ j.val < dst + cnt then (c[src + (j.val - dst)]?).getD none else (c[j.val]?).getD none

/-- the cells after `ys` was written into consecutive cells from `k` on -/
def fill (c : Block β) : Nat → List β → Block β
  | _, [] => c
  | k, y :: ys => fill (c.setIfInBounds k (some y)) (k + 1) ys

theorem Holds.nil (c : Block β) : Holds c [] := fun _ hk => absurd hk (Nat.not_lt_zero _)

theorem Holds.le_size (h : Holds c l) : l.length ≤ c.size := by
  cases hl : l.length with
  | zero => omega
  | succ n =>
    have := h n (by omega)
    by_cases hn : n < c.size
    · omega
    · rw [Array.getElem?_eq_none (by omega)] at this; cases this

theorem Holds.getD (h : Holds c l) {k : Nat} (hk : k < l.length) : (c[k]?).getD none = l[k]? := by
  rw [h k hk]; rfl

theorem Holds.mono {l' : List β} (h : Holds c l) (hl : ∀ k, k < l'.length → k < l.length ∧ l'[k]? = l[k]?) : Holds c l' := by
  intro k hk
  obtain ⟨h1, h2⟩ := hl k hk
  rw [h k h1, h2]

theorem Holds.take (h : Holds c l) (n : Nat) : Holds c (l.take n) :=
  h.mono fun k hk => by
    rw [List.length_take] at hk
    exact ⟨by omega, by rw [List.getElem?_take, if_pos (by omega)]⟩

theorem size_resize (c : Block β) (n : Nat) : (resize c n).size = n := Array.size_ofFn

theorem getElem?_resize (c : Block β) (n j : Nat) :
    (resize c n)[j]? = if j < n then some ((c[j]?).getD none) else none := by
  simp only [resize, Array.getElem?_ofFn]
  split <;> rfl

theorem Holds.resize (h : Holds c l) {n : Nat} (hn : l.length ≤ n) : Holds (resize c n) l := by
  intro k hk
  rw [getElem?_resize, if_pos (by omega), h.getD hk]

theorem getElem?_set (c : Block β) {k : Nat} (x : β) (hk : k < c.size) (j : Nat) :
    (c.setIfInBounds k (some x))[j]? = if j = k then some (some x) else c[j]? := by
  rw [Array.getElem?_setIfInBounds]
  by_cases hj : j = k
  · subst hj; simp [hk]
  · rw [if_neg (by omega), if_neg hj]

theorem Holds.snoc (h : Holds c l) (x : β) (hl : l.length < c.size) :
    Holds (c.setIfInBounds l.length (some x)) (l ++ [x]) := by
  intro k hk
  simp only [List.length_append, List.length_singleton] at hk
  rw [getElem?_set c x hl]
  by_cases hkl : k = l.length
  · subst hkl; simp
  · rw [if_neg hkl, h k (by omega), List.getElem?_append_left (by omega)]

theorem Holds.set (h : Holds c l) {k : Nat} (x : β) (hk : k < c.size) :
    Holds (c.setIfInBounds k (some x)) (l.set k x) := by
  intro j hj
  rw [List.length_set] at hj
  rw [getElem?_set c x hk, List.getElem?_set]
  by_cases hjk : j = k
  · subst hjk; simp [hj]
  · rw [if_neg hjk, if_neg (by omega), h j hj]

theorem Holds.set_above (h : Holds c l) {k : Nat} (v : Option β) (hk : l.length ≤ k) : Holds (c.setIfInBounds k v) l := by
  intro j hj
  rw [Array.getElem?_setIfInBounds, if_neg (by omega)]; exact h j hj

theorem size_move (c : Block β) (d sr n : Nat) : (move c d sr n).size = c.size := Array.size_ofFn

theorem getElem?_move (c : Block β) {d sr n : Nat} (hs : sr + n ≤ c.size) {j : Nat} (hj : j < c.size) :
    (move c d sr n)[j]? = if d ≤ j ∧ j < d + n then c[sr + (j - d)]? else c[j]? := by
  simp only [move, Array.getElem?_ofFn, hj, dite_true]
  split
  · have : sr + (j - d) < c.size := by omega
    simp [Array.getElem?_eq_getElem this]
  · simp [Array.getElem?_eq_getElem hj]

/-- `memmove` of the tail one cell up, then a write into the gap = insertion -/
theorem Holds.insert (h : Holds c l) {k : Nat} (x : β) (hk : k ≤ l.length) (hl : l.length < c.size) :
    Holds ((move c (k + 1) k (l.length - k)).setIfInBounds k (some x)) (l.take k ++ x :: l.drop k) := by
  have hsrc : k + (l.length - k) ≤ c.size := by rw [Nat.add_sub_cancel' hk]; exact Nat.le_of_lt hl
  intro j hj
  rw [take_cons_drop_eq_insertIdx l k x hk] at hj ⊢
  rw [List.length_insertIdx_of_le_length hk] at hj
  rw [getElem?_set _ x (by rw [size_move]; exact Nat.lt_of_le_of_lt hk hl), List.getElem?_insertIdx]
  by_cases hjk : j = k
  · subst hjk; simp [hk]
  · rw [if_neg hjk, getElem?_move c hsrc (Nat.lt_of_lt_of_le hj hl)]
    by_cases hlt : j < k
    · rw [if_neg (fun hh => Nat.lt_irrefl _ (Nat.lt_of_lt_of_le hlt (Nat.le_of_succ_le hh.1))), if_pos hlt,
        h j (Nat.lt_of_lt_of_le hlt hk)]
    · have hkj : k + 1 ≤ j := Nat.lt_of_le_of_ne (Nat.not_lt.1 hlt) (Ne.symm hjk)
      rw [if_pos ⟨hkj, by rw [Nat.add_right_comm, Nat.add_sub_of_le hk]; exact hj⟩, if_neg hlt, if_neg hjk]
      have e : k + (j - (k + 1)) = j - 1 := by omega
      rw [e, h (j - 1) (by omega)]

/-- `memmove` of the tail one cell down = removal -/
theorem Holds.erase (h : Holds c l) {k : Nat} (hk : k < l.length) :
    Holds (move c k (k + 1) (l.length - 1 - k)) (l.take k ++ l.drop (k + 1)) := by
  have hsz := h.le_size
  have hsrc : k + 1 + (l.length - 1 - k) ≤ c.size := by rw [Nat.sub_sub, Nat.add_comm 1 k, Nat.add_sub_of_le hk]; exact hsz
  intro j hj
  rw [← List.eraseIdx_eq_take_drop_succ] at hj ⊢
  rw [List.length_eraseIdx_of_lt hk] at hj
  have hjs : j + 1 < l.length := Nat.add_lt_of_lt_sub hj
  rw [getElem?_move c hsrc (Nat.lt_of_lt_of_le (Nat.lt_of_succ_lt hjs) hsz), List.getElem?_eraseIdx]
  by_cases hlt : j < k
  · rw [if_neg (fun hh => Nat.lt_irrefl _ (Nat.lt_of_lt_of_le hlt hh.1)), if_pos hlt, h j (Nat.lt_trans hlt hk)]
  · rw [if_pos ⟨Nat.le_of_not_lt hlt, by rw [Nat.add_sub_of_le (Nat.le_sub_one_of_lt hk)]; exact hj⟩, if_neg hlt]
    have e : k + 1 + (j - k) = j + 1 := by rw [Nat.add_right_comm, Nat.add_sub_of_le (Nat.le_of_not_lt hlt)]
    rw [e, h (j + 1) hjs]

theorem fill_nil (c : Block β) (k : Nat) : fill c k [] = c := rfl

theorem fill_cons (c : Block β) (k : Nat) (y : β) (ys : List β) :
    fill c k (y :: ys) = fill (c.setIfInBounds k (some y)) (k + 1) ys := rfl

theorem size_fill : ∀ (ys : List β) (c : Block β) (k : Nat), (fill c k ys).size = c.size
  | [], _, _ => rfl
  | _ :: ys, c, k => by rw [fill, size_fill ys, Array.size_setIfInBounds]

theorem getElem?_fill : ∀ (ys : List β) (c : Block β) (k : Nat), k + ys.length ≤ c.size → ∀ j,
    (fill c k ys)[j]? = if k ≤ j ∧ j < k + ys.length then some ys[j - k]? else c[j]?
  | [], c, k, _, j => by rw [fill, if_neg (by simp only [List.length_nil]; omega)]
  | y :: ys, c, k, hk, j => by
    simp only [List.length_cons] at hk ⊢
    rw [fill, getElem?_fill ys _ (k + 1) (by rw [Array.size_setIfInBounds]; omega), getElem?_set c y (by omega)]
    by_cases hj : j = k
    · subst hj
      rw [if_neg (by omega), if_pos rfl, if_pos (by omega)]; simp
    · by_cases hlt : k + 1 ≤ j ∧ j < k + 1 + ys.length
      · rw [if_pos hlt, if_pos (by omega)]
        have : j - k = (j - (k + 1)) + 1 := by omega
        rw [this, List.getElem?_cons_succ]
      · rw [if_neg hlt, if_neg hj, if_neg (by omega)]

theorem Holds.fill (h : Holds c l) (ys : List β) (hl : l.length + ys.length ≤ c.size) : Holds (fill c l.length ys) (l ++ ys) := by
  intro j hj
  rw [getElem?_fill ys c _ hl]
  by_cases hlt : j < l.length
  · rw [if_neg (by omega), h j hlt, List.getElem?_append_left hlt]
  · rw [List.length_append] at hj
    rw [if_pos (by omega), List.getElem?_append_right (by omega)]

/-- the front rewritten, what stands behind it kept (`Tuple_Sort_By`: the items, and the Terminal cell) -/
theorem Holds.fill_front {l r : List β} (h : Holds c (l ++ r)) (ys : List β) (hy : ys.length = l.length) :
    Holds (Block.fill c 0 ys) (ys ++ r) := by
  have hsz := h.le_size
  rw [List.length_append] at hsz
  intro j hj
  rw [getElem?_fill ys c 0 (by omega), Nat.zero_add, Nat.sub_zero]
  by_cases hlt : j < ys.length
  · rw [if_pos ⟨Nat.zero_le _, hlt⟩, List.getElem?_append_left hlt]
  · rw [List.length_append] at hj
    rw [if_neg (fun hh => hlt hh.2), h j (by rw [List.length_append]; omega),
      List.getElem?_append_right (by omega), List.getElem?_append_right (by omega), hy]

/- `fill` on a literal list would otherwise be unfolded, write by write, whenever a block is compared with another. -/
attribute [irreducible] fill

end Block
end Cello.Seq
