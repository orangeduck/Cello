import Cello.Fail
/-
  C12, the dispatcher: which class members the modelled types lack (`lacks`, the hand model's view: exactly the operations whose
  branch in `X.step` is an unconditional ClassError).  `declares_as_modelled` compares it with the declaration matrix
  `CelloGen.Disp.declared`, which is generated from the `Cello(T, Instance(…))` texts (a finite table: `decide`).
-/
namespace Cello.Fail

/-- every class member an operation of the model is dispatched through -/
def allMembers : List (String × Nat) :=
  [("Get", 0), ("Get", 1), ("Get", 2), ("Get", 3), ("Push", 0), ("Push", 1), ("Push", 2), ("Push", 3), ("Resize", 0), ("Len", 0),
   ("Concat", 0), ("Concat", 1), ("Format", 0)]

def modelledTypes : List String := ["Array", "List", "Tuple", "Table", "Tree", "String", "Range", "Slice", "Zip", "Int", "Plain"]

/-- the members a type lacks, as the model has them (its unconditional ClassError branches) -/
def lacks : String → List (String × Nat)
  | "Array" => [("Format", 0)]
  | "List" => [("Format", 0)]
  | "Tuple" => [("Format", 0)]
  | "Table" => [("Push", 0), ("Push", 1), ("Push", 2), ("Push", 3), ("Concat", 0), ("Concat", 1), ("Format", 0)]
  | "Tree" => [("Push", 0), ("Push", 1), ("Push", 2), ("Push", 3), ("Concat", 0), ("Concat", 1), ("Format", 0)]
  | "String" => [("Get", 0), ("Get", 1), ("Push", 0), ("Push", 1), ("Push", 2), ("Push", 3)]
  | "Range" => [("Get", 1), ("Get", 3), ("Push", 0), ("Push", 1), ("Push", 2), ("Push", 3), ("Resize", 0), ("Concat", 0), ("Concat", 1), ("Format", 0)]
  | "Slice" => [("Get", 1), ("Get", 3), ("Push", 0), ("Push", 1), ("Push", 2), ("Push", 3), ("Resize", 0), ("Concat", 0), ("Concat", 1), ("Format", 0)]
  | "Zip" => [("Get", 1), ("Get", 3), ("Push", 0), ("Push", 1), ("Push", 2), ("Push", 3), ("Resize", 0), ("Concat", 0), ("Concat", 1), ("Format", 0)]
  | _ => allMembers          -- Int, Plain: none of Get, Push, Resize, Len, Concat, Format

theorem declares_as_modelled :
    ∀ ty ∈ modelledTypes, ∀ m ∈ allMembers, declares ty m.1 m.2 = !(lacks ty).contains m := by decide +kernel

theorem Op.member_mem (op : Op) (m : String × Nat) (hm : op.member = some m) : m ∈ allMembers := by
  cases op with
  | assign v => cases hm
  | print pos fmt args => rcases fmt with _ | ⟨_ | _ | _ | _, rest⟩ <;> cases hm; decide
  | _ => cases hm; decide

theorem lacks_of_undeclared (ty : String) (ht : ty ∈ modelledTypes) (m : String × Nat) (hm : m ∈ allMembers)
    (hd : declares ty m.1 m.2 = false) : (lacks ty).contains m = true := by
  have := declares_as_modelled ty ht m hm
  rw [hd] at this
  simpa using this.symm

theorem typeName_modelled (o : Obj) (hj : ∀ x, o ≠ .junk x)
    (hs : ∀ a v, o = .scalar a v → (∃ i, v = .int i) ∨ (∃ i, v = .plain i)) : o.typeName ∈ modelledTypes := by
  cases o with
  | junk x => exact absurd rfl (hj x)
  | scalar a v => rcases hs a v rfl with ⟨i, rfl⟩ | ⟨i, rfl⟩ <;> simp [Obj.typeName, Val.ty?, Ty.name, modelledTypes]
  | nest n => rcases n with ⟨_ | _, _, _, _⟩ <;> simp [Obj.typeName, modelledTypes]
  | _ => simp [Obj.typeName, modelledTypes]

theorem step_classError_of_lacks (σ : Store) (o : Obj) (op : Op) (m : String × Nat)
    (hm : op.member = some m) (hl : (lacks o.typeName).contains m = true) (hj : ∀ x, o ≠ .junk x) :
    (if o.isView then viewStep σ o op else o.stepLocal op) = (o, .raised .ClassError) := by
  -- `hm` fixes the member (`assign`, an empty format, a leading directive have none); then kind by kind: the branch of `step` is
  -- that ClassError (`rfl`), or `lacks` does not list the member and `hl` evaluates to `false = true`
  cases op with
  | assign v => cases hm
  | print pos fmt args =>
    rcases fmt with _ | ⟨_ | _ | _ | _, rest⟩ <;> cases hm
    cases o with
    | junk x => exact absurd rfl (hj x)
    | _ => first | rfl | cases hl
  | _ =>
    cases hm
    cases o with
    | junk x => exact absurd rfl (hj x)
    | nest n => rcases n with ⟨_ | _, _, _, _⟩ <;> cases hl
    | _ => first | rfl | cases hl

end Cello.Fail
