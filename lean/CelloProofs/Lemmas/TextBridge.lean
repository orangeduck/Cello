/-
  Lemmas for C15 (engine `text`): the bridge to C14's model of `print_to_with` (Cello/Fmt.lean).
  C15 cuts a format with `Text.segmentF` (byte lists); C14 proves what `print_to_with` does (`Fmt.loop`, index-based, with
  `fmt_buf`) about formats given by the grammar `Fmt.wfSegs` / the parser `Fmt.parseFmt` (character lists).  Here: the format a
  list of C15 items renders is, character by character, the rendering of a well-formed C14 segmentation — the same segments.
-/
import CelloProofs.Lemmas.TextFmt
import CelloProofs.Lemmas.FmtParse

namespace Cello.Text

/-- bytes as the characters C14's model works with -/
def toStr (l : List Nat) : Cello.Fmt.Str := l.map Char.ofNat

/-- the segment of C14's grammar (`Cello.Fmt.Seg`) that an item of this model is -/
def Item.fmtSeg (it : Item) : Cello.Fmt.Seg :=
  match it.parts with
  | some (mods, cb) => .spec (toStr mods) (Char.ofNat cb)
  | none => match it with
    | .lit t => .lit (toStr t)
    | _ => .pct

theorem toNat_ofNat_byte (b : Nat) (hb : b < 256) : (Char.ofNat b).toNat = b := by
  have h : b.isValidChar := Or.inl (by omega)
  simp only [Char.ofNat, h, dite_true]
  simp [Char.ofNatAux, Char.toNat]

theorem ofNat_ne_of_ne (b c : Nat) (hb : b < 256) (hc : c < 256) (h : b ≠ c) : Char.ofNat b ≠ Char.ofNat c := by
  intro he
  have := congrArg Char.toNat he
  rw [toNat_ofNat_byte b hb, toNat_ofNat_byte c hc] at this
  exact h this

theorem fmtSeg_text (it : Item) : it.fmtSeg.text = toStr it.fmt := by
  cases hp : it.parts with
  | some mc =>
    obtain ⟨mods, cb⟩ := mc
    obtain ⟨hfmt, _, _, _⟩ := parts_spec it mods cb hp
    simp [Item.fmtSeg, hp, hfmt, Cello.Fmt.Seg.text, toStr]
  | none =>
    rcases parts_none it hp with ⟨t, rfl⟩ | rfl <;> simp [Item.fmtSeg, Item.parts, Item.fmt, Cello.Fmt.Seg.text, toStr]

theorem bridge_render (its : List Item) : Cello.Fmt.render (its.map Item.fmtSeg) = toStr (its.flatMap Item.fmt) := by
  induction its with
  | nil => rfl
  | cons it its ih =>
    have hstep : Cello.Fmt.render (it.fmtSeg :: its.map Item.fmtSeg) = it.fmtSeg.text ++ Cello.Fmt.render (its.map Item.fmtSeg) := by
      simp [Cello.Fmt.render]
    simp only [List.map_cons, hstep, ih, fmtSeg_text, List.flatMap_cons, toStr, List.map_append]

/-- what the bridge needs of the conversion set C14's theorems are stated over (`cfgNow.conv`, the characters extracted from
    `print_to_with`): it contains the conversion characters of this model's specifications and none of the modifier characters -/
def bridgeOK (conv : Cello.Fmt.Str) : Bool :=
  convChars.all (fun b => decide (Char.ofNat b ∈ conv) && Char.ofNat b != Cello.Fmt.NUL) &&
  modChars.all (fun b => decide (Char.ofNat b ∉ conv) && Char.ofNat b != Cello.Fmt.NUL && Char.ofNat b != '%') &&
  decide ('%' ∉ conv)

theorem fmtSeg_wf (conv : Cello.Fmt.Str) (hB : bridgeOK conv = true) (it : Item)
    (hb : ∀ t, it = .lit t → t ≠ [] ∧ ∀ b ∈ t, b ≠ 0 ∧ b ≠ 37 ∧ b < 256) : it.fmtSeg.wf conv = true := by
  simp only [bridgeOK, Bool.and_eq_true, List.all_eq_true, decide_eq_true_eq, bne_iff_ne, ne_eq] at hB
  obtain ⟨⟨hc, hm⟩, _⟩ := hB
  cases hp : it.parts with
  | some mc =>
    obtain ⟨mods, cb⟩ := mc
    obtain ⟨_, _, hmods, hcb⟩ := parts_spec it mods cb hp
    simp only [Item.fmtSeg, hp, Cello.Fmt.Seg.wf, Bool.and_eq_true, decide_eq_true_eq, ne_eq, List.all_eq_true, toStr,
      List.mem_map, forall_exists_index, and_imp, forall_apply_eq_imp_iff₂]
    refine ⟨⟨⟨(hc cb hcb).1, (hc cb hcb).2⟩, fun b hbm => ⟨(hm b (hmods b hbm)).1.1, (hm b (hmods b hbm)).1.2⟩⟩, ?_⟩
    cases mods with
    | nil => simp
    | cons a t =>
      have := (hm a (hmods a List.mem_cons_self)).2
      simp [this]
  | none =>
    rcases parts_none it hp with ⟨t, rfl⟩ | rfl
    · obtain ⟨hne, hbs⟩ := hb t rfl
      simp only [Item.fmtSeg, Item.parts, Cello.Fmt.Seg.wf, Bool.and_eq_true, Bool.not_eq_true', List.isEmpty_eq_false_iff,
        List.all_eq_true, toStr, List.mem_map, forall_exists_index, and_imp, forall_apply_eq_imp_iff₂, ne_eq]
      refine ⟨by simpa using hne, fun b hbt => ?_⟩
      obtain ⟨h0, h37, h256⟩ := hbs b hbt
      have e0 : Char.ofNat b ≠ Cello.Fmt.NUL := ofNat_ne_of_ne b 0 h256 (by omega) h0
      have e1 : Char.ofNat b ≠ '%' := ofNat_ne_of_ne b 37 h256 (by omega) h37
      simp [e0, e1]
    · simp [Item.fmtSeg, Item.parts, Cello.Fmt.Seg.wf]

theorem fmtSeg_isLit (it : Item) : it.fmtSeg.isLit = true ↔ ∃ t, it = .lit t := by
  cases it <;> simp [Item.fmtSeg, Item.parts, Cello.Fmt.Seg.isLit]

theorem bridge_wf (conv : Cello.Fmt.Str) (hB : bridgeOK conv = true) (its : List Item) (hf : fmtOK its = true)
    (hb : ∀ t, Item.lit t ∈ its → ∀ b ∈ t, b ≠ 0 ∧ b < 256) : Cello.Fmt.wfSegs conv (its.map Item.fmtSeg) = true := by
  induction its with
  | nil => rfl
  | cons it its ih =>
    have hf' : fmtOK its = true := by
      cases it <;> simp only [fmtOK, Bool.and_eq_true] at hf <;> first | exact hf | exact hf.2
    apply Cello.Fmt.wfSegs_mk
    · apply fmtSeg_wf conv hB it
      intro t ht; subst ht
      simp only [fmtOK, Bool.and_eq_true, Bool.not_eq_true', List.isEmpty_eq_false_iff, List.all_eq_true, bne_iff_ne, ne_eq] at hf
      refine ⟨hf.1.1.1, fun b hbt => ?_⟩
      have := hb t List.mem_cons_self b hbt
      exact ⟨this.1, hf.1.1.2 b hbt, this.2⟩
    · exact ih hf' (fun t ht => hb t (List.mem_cons_of_mem _ ht))
    · intro hl s hs
      obtain ⟨t, rfl⟩ := (fmtSeg_isLit it).1 hl
      cases its with
      | nil => simp at hs
      | cons it2 its2 =>
        simp only [List.map_cons, List.head?_cons, Option.mem_def, Option.some.injEq] at hs
        subst hs
        cases h2 : it2.fmtSeg.isLit with
        | false => rfl
        | true =>
          obtain ⟨t2, rfl⟩ := (fmtSeg_isLit it2).1 h2
          simp [fmtOK] at hf

theorem bridge_parse (conv : Cello.Fmt.Str) (hB : bridgeOK conv = true) (its : List Item) (hf : fmtOK its = true)
    (hb : ∀ t, Item.lit t ∈ its → ∀ b ∈ t, b ≠ 0 ∧ b < 256) :
    Cello.Fmt.parseFmt conv (toStr (its.flatMap Item.fmt)) = some (its.map Item.fmtSeg) := by
  have hpct : '%' ∉ conv := by
    simp only [bridgeOK, Bool.and_eq_true, decide_eq_true_eq] at hB; exact hB.2
  exact (Cello.Fmt.parseFmt_iff hpct).2 ⟨bridge_render its, bridge_wf conv hB its hf hb⟩

end Cello.Text
