/-
  Lemmas for C10: `memswap` as a program (Cello/Hash.lean: `runSwapProg`). Between two steps the memories are `mixAt x y c`,
  the two objects with their first `c` bytes exchanged, and both cursors stand at `c` (`At`; with the count, `Mid`). From that:
  every program of the shape `swapOk` exchanges (`swapProg_exchanges`), and what the two refuted variants of Props/C10.lean leave.
  What `swap` and `sort` make of a `memswap` that exchanges: HashSwapVal.lean.
-/
import Cello.Hash

namespace Cello.Hash
open CelloGen.Hash (SwPtr SwStmt SwBlock)

variable {α : Type}

theorem window_length (m : List α) (o w : Nat) (h : o + w ≤ m.length) : (window m o w).length = w := by
  simp only [window, List.length_take, List.length_drop]; omega

theorem splice_length (m : List α) (o : Nat) (x : List α) (h : o + x.length ≤ m.length) : (splice m o x).length = m.length := by
  simp only [splice, List.length_append, List.length_take, List.length_drop]; omega

theorem window_append (p m : List α) {d : Nat} (hp : p.length = d) (w : Nat) : window (p ++ m) d w = m.take w := by
  subst hp; simp [window]

theorem splice_append (p m z : List α) {d : Nat} (hp : p.length = d) : splice (p ++ m) d z = p ++ (z ++ m.drop z.length) := by
  subst hp; simp [splice]

/-- the two objects with their first `d` bytes exchanged -/
def mixAt (x y : List α) (d : Nat) : List α × List α := (y.take d ++ x.drop d, x.take d ++ y.drop d)

-- one component of `mixAt_step`; the other is the same with `x` and `y` exchanged
private theorem mixAt_step_fst (x y : List α) (hxy : y.length = x.length) (d w : Nat) (h : d + w ≤ x.length) :
    splice (mixAt x y d).1 d (window (mixAt x y d).2 d w) = (mixAt x y (d + w)).1 := by
  have hwl : ((y.drop d).take w).length = w := List.length_take_of_le (by rw [List.length_drop]; omega)
  simp only [mixAt]
  rw [window_append _ _ (List.length_take_of_le (by omega)), splice_append _ _ _ (List.length_take_of_le (by omega)), hwl,
    List.drop_drop, List.take_add, List.append_assoc]

theorem mixAt_length {x y : List α} (hxy : y.length = x.length) (d : Nat) :
    (mixAt x y d).1.length = x.length ∧ (mixAt x y d).2.length = x.length := by
  simp only [mixAt, List.length_append, List.length_take, List.length_drop]; omega

theorem mixAt_step {x y : List α} (hxy : y.length = x.length) {d w : Nat} (h : d + w ≤ x.length) :
    (splice (mixAt x y d).1 d (window (mixAt x y d).2 d w), splice (mixAt x y d).2 d (window (mixAt x y d).1 d w)) =
      mixAt x y (d + w) :=
  Prod.ext (mixAt_step_fst x y hxy d w h) (mixAt_step_fst y x hxy.symm d w (by omega))

/-- two equally long memories are the `c`-byte mixture of their own `c`-byte mixture: any state whose cursors stand at `c` can be
    taken as the start of an exchange from `c` on -/
theorem mixAt_mixAt (u v : List α) {c : Nat} (hu : c ≤ u.length) (hv : c ≤ v.length) :
    mixAt (mixAt u v c).1 (mixAt u v c).2 c = (u, v) := by
  have l0 := List.length_take_of_le hu
  have l1 := List.length_take_of_le hv
  simp only [mixAt, List.take_left' l0, List.take_left' l1, List.drop_left' l0, List.drop_left' l1, List.take_append_drop]

theorem mixAt_drop (u v : List α) {d e : Nat} (hde : d ≤ e) (hu : d ≤ u.length) (hv : d ≤ v.length) :
    (mixAt u v d).1.drop e = u.drop e ∧ (mixAt u v d).2.drop e = v.drop e := by
  obtain ⟨m, rfl⟩ := Nat.exists_eq_add_of_le hde
  simp only [mixAt, ← List.drop_drop, List.drop_left' (List.length_take_of_le hu), List.drop_left' (List.length_take_of_le hv), and_self]

theorem mixAt_eq_swap_iff (x y : List α) (d : Nat) : mixAt x y d = (y, x) ↔ x.drop d = y.drop d := by
  have h : ∀ u v : List α, u.take d ++ v.drop d = u ↔ v.drop d = u.drop d := fun u v => by
    conv => lhs; rhs; rw [← List.take_append_drop d u]
    exact List.append_right_inj _
  rw [mixAt, Prod.mk.injEq, h y x, h x y]
  exact ⟨fun h => h.1, fun h => ⟨h, h.symm⟩⟩

theorem mixAt_full {x y : List α} (hxy : y.length = x.length) : mixAt x y x.length = (y, x) := by
  rw [mixAt_eq_swap_iff, List.drop_of_length_le (Nat.le_refl _), List.drop_of_length_le (Nat.le_of_eq hxy)]

theorem runBody_book : ∀ (bk : List SwStmt) (x y z : Nat), bookOf bk = some (x, y, z) → ∀ σ : SwSt α, σ.ub = false → z ≤ σ.s →
    runBody σ bk = { σ with a := σ.a + x, b := σ.b + y, s := σ.s - z }
  | [], x, y, z, h, σ, _, _ => by
    obtain ⟨rfl, rfl, rfl⟩ : 0 = x ∧ 0 = y ∧ 0 = z := by simpa [bookOf] using h
    rfl
  | .load .. :: _, _, _, _, h, _, _, _ | .move .. :: _, _, _, _, h, _, _, _ | .store .. :: _, _, _, _, h, _, _, _ => by
    simp [bookOf] at h
  | .adv .a k :: r, x, y, z, h, σ, hub, hz => by
    simp only [bookOf, Option.map_eq_some_iff, Prod.mk.injEq] at h
    obtain ⟨⟨x', y', z'⟩, hr, rfl, rfl, rfl⟩ := h
    rw [runBody, if_neg (by simp [hub]), runStmt, runBody_book r x' y' z' hr { σ with a := σ.a + k } hub hz, Nat.add_right_comm σ.a, Nat.add_assoc σ.a]
  | .adv .b k :: r, x, y, z, h, σ, hub, hz => by
    simp only [bookOf, Option.map_eq_some_iff, Prod.mk.injEq] at h
    obtain ⟨⟨x', y', z'⟩, hr, rfl, rfl, rfl⟩ := h
    rw [runBody, if_neg (by simp [hub]), runStmt, runBody_book r x' y' z' hr { σ with b := σ.b + k } hub hz, Nat.add_right_comm σ.b, Nat.add_assoc σ.b]
  | .dec k :: r, x, y, z, h, σ, hub, hz => by
    simp only [bookOf, Option.map_eq_some_iff, Prod.mk.injEq] at h
    obtain ⟨⟨x', y', z'⟩, hr, rfl, rfl, rfl⟩ := h
    have hk : k ≤ σ.s := Nat.le_trans (Nat.le_add_left _ _) hz
    rw [runBody, if_neg (by simp [hub]), runStmt, if_pos hk, runBody_book r x' y' z' hr { σ with s := σ.s - k } hub (Nat.le_sub_of_add_le hz),
      Nat.sub_sub, Nat.add_comm k]

theorem runBody_splitAdv (p : SwPtr) : ∀ (rest : List SwStmt) (σ : SwSt α), σ.ub = false →
    runBody σ rest = runBody (runStmt σ (.adv p (splitAdv p rest).1)) (splitAdv p rest).2 := by
  intro rest
  induction rest with
  | nil => intro σ _; cases p <;> simp [splitAdv, runStmt]
  | cons st r ih =>
    intro σ hub
    cases st with
    | adv q k =>
      by_cases hq : q = p
      · subst hq
        simp only [splitAdv, if_true]
        rw [runBody, if_neg (by simp [hub]), ih (runStmt σ (.adv q k)) (by cases q <;> simpa [runStmt] using hub)]
        congr 1
        cases q <;> (cases σ; simp [runStmt]; omega)
      · simp only [splitAdv, hq, if_false]
        cases p <;> simp [runStmt]
    | load _ _ _ => cases p <;> simp [splitAdv, runStmt]
    | move _ _ _ _ => cases p <;> simp [splitAdv, runStmt]
    | store _ _ _ => cases p <;> simp [splitAdv, runStmt]
    | dec _ => cases p <;> simp [splitAdv, runStmt]

theorem exchBody_inv {body : List SwStmt} {e : Exch} (h : exchBody body = some e) :
    ∃ (p q : SwPtr) (rest bk : List SwStmt) (k1 x y z : Nat), p ≠ q ∧
      body = .load p e.idx e.w :: .move p q e.idx e.w :: rest ∧
      splitAdv p rest = (k1, .store q e.idx e.w :: bk) ∧ bookOf bk = some (x, y, z) ∧
      e.da = (if p = .a then k1 else 0) + x ∧ e.db = (if p = .b then k1 else 0) + y ∧ e.ds = z := by
  unfold exchBody at h
  split at h
  · rename_i p idx w d s idx' w' rest
    split at h
    · rename_i k1 q idx'' w'' bk hsp
      split at h
      · rename_i x y z hbk
        split at h
        · rename_i hc
          obtain ⟨rfl, rfl, hne, rfl, rfl, rfl, rfl⟩ := hc
          simp only [Option.some.injEq] at h
          subst h
          exact ⟨d, s, rest, bk, k1, x, y, z, hne, rfl, hsp, hbk, rfl, rfl, rfl⟩
        · simp at h
      · simp at h
    · simp at h
  · simp at h

theorem runBody_exch {body : List SwStmt} {e : Exch} (h : exchBody body = some e) (σ : SwSt α) (hub : σ.ub = false)
    (ha : σ.off .a e.idx e.w + e.w ≤ σ.m0.length) (hb : σ.off .b e.idx e.w + e.w ≤ σ.m1.length) (hs : e.ds ≤ σ.s) :
    (runBody σ body).m0 = splice σ.m0 (σ.off .a e.idx e.w) (window σ.m1 (σ.off .b e.idx e.w) e.w) ∧
    (runBody σ body).m1 = splice σ.m1 (σ.off .b e.idx e.w) (window σ.m0 (σ.off .a e.idx e.w) e.w) ∧
    (runBody σ body).a = σ.a + e.da ∧ (runBody σ body).b = σ.b + e.db ∧ (runBody σ body).s + e.ds = σ.s ∧
    (runBody σ body).i = σ.i ∧ (runBody σ body).ub = false := by
  obtain ⟨p, q, rest, bk, k1, x, y, z, hne, rfl, hsp, hbk, hda, hdb, hds⟩ := exchBody_inv h
  obtain ⟨m0, m1, a, b, s, i, t, ub⟩ := σ
  simp only at hub hs
  subst hub
  simp only [SwSt.off, SwSt.cur] at ha hb ⊢
  generalize hoa : a + (if e.idx = true then i * e.w else 0) = oa at ha ⊢
  generalize hob : b + (if e.idx = true then i * e.w else 0) = ob at hb ⊢
  have hwa := window_length m0 oa e.w ha
  have hwb := window_length m1 ob e.w hb
  have hz : z ≤ s := by omega
  -- load and move put the window of `q` into `p` and that of `p` into `t` (`e1`); the steps of `p`'s cursor come next
  -- (`runBody_splitAdv`); the store puts `t` into `q` (`e2`); what is left only counts (`runBody_book`)
  cases p with
  | a =>
    cases q with
    | a => exact absurd rfl hne
    | b =>
      have e1 : runBody (⟨m0, m1, a, b, s, i, t, false⟩ : SwSt α) (.load .a e.idx e.w :: .move .a .b e.idx e.w :: rest) =
          runBody ⟨splice m0 oa (window m1 ob e.w), m1, a, b, s, i, window m0 oa e.w, false⟩ rest := by
        simp only [runBody, runStmt, SwSt.off, SwSt.cur, SwSt.mem, SwSt.setMem, hoa, hob, ha, hb, and_self, if_true,
          Bool.false_eq_true, if_false]
      rw [e1, runBody_splitAdv .a rest _ rfl, hsp]
      simp only [runStmt]
      have e2 : runBody (⟨splice m0 oa (window m1 ob e.w), m1, a + k1, b, s, i, window m0 oa e.w, false⟩ : SwSt α)
            (.store .b e.idx e.w :: bk) =
          runBody ⟨splice m0 oa (window m1 ob e.w), splice m1 ob (window m0 oa e.w), a + k1, b, s, i, window m0 oa e.w, false⟩ bk := by
        simp only [runBody, runStmt, SwSt.off, SwSt.cur, SwSt.mem, SwSt.setMem, hob, hb, hwa, Nat.le_refl, and_self, if_true,
          Bool.false_eq_true, if_false]
        rw [List.take_of_length_le (by rw [hwa]; exact Nat.le_refl _)]
      rw [e2, runBody_book bk x y z hbk _ rfl hz]
      simp only [hda, hdb, hds, if_true, reduceCtorEq, if_false]
      exact ⟨trivial, trivial, by omega, by omega, by omega, trivial, trivial⟩
  | b =>
    cases q with
    | b => exact absurd rfl hne
    | a =>
      have e1 : runBody (⟨m0, m1, a, b, s, i, t, false⟩ : SwSt α) (.load .b e.idx e.w :: .move .b .a e.idx e.w :: rest) =
          runBody ⟨m0, splice m1 ob (window m0 oa e.w), a, b, s, i, window m1 ob e.w, false⟩ rest := by
        simp only [runBody, runStmt, SwSt.off, SwSt.cur, SwSt.mem, SwSt.setMem, hoa, hob, ha, hb, and_self, if_true,
          Bool.false_eq_true, if_false]
      rw [e1, runBody_splitAdv .b rest _ rfl, hsp]
      simp only [runStmt]
      have e2 : runBody (⟨m0, splice m1 ob (window m0 oa e.w), a, b + k1, s, i, window m1 ob e.w, false⟩ : SwSt α)
            (.store .a e.idx e.w :: bk) =
          runBody ⟨splice m0 oa (window m1 ob e.w), splice m1 ob (window m0 oa e.w), a, b + k1, s, i, window m1 ob e.w, false⟩ bk := by
        simp only [runBody, runStmt, SwSt.off, SwSt.cur, SwSt.mem, SwSt.setMem, hoa, ha, hwb, Nat.le_refl, and_self, if_true,
          Bool.false_eq_true, if_false]
        rw [List.take_of_length_le (by rw [hwb]; exact Nat.le_refl _)]
      rw [e2, runBody_book bk x y z hbk _ rfl hz]
      simp only [hda, hdb, hds, if_true, reduceCtorEq, if_false]
      exact ⟨trivial, trivial, by omega, by omega, by omega, trivial, trivial⟩

theorem runBody_mixAt {x y : List α} (hxy : y.length = x.length) {body : List SwStmt} {e : Exch} (h : exchBody body = some e)
    {d : Nat} (σ : SwSt α) (hm : (σ.m0, σ.m1) = mixAt x y d) (hoa : σ.off .a e.idx e.w = d) (hob : σ.off .b e.idx e.w = d)
    (hub : σ.ub = false) (hw : d + e.w ≤ x.length) (hs : e.ds ≤ σ.s) :
    ((runBody σ body).m0, (runBody σ body).m1) = mixAt x y (d + e.w) ∧ (runBody σ body).a = σ.a + e.da ∧
    (runBody σ body).b = σ.b + e.db ∧ (runBody σ body).s + e.ds = σ.s ∧ (runBody σ body).i = σ.i ∧
    (runBody σ body).ub = false := by
  obtain ⟨l0, l1⟩ : σ.m0.length = x.length ∧ σ.m1.length = x.length := by
    have := mixAt_length hxy d; rwa [← hm] at this
  obtain ⟨r0, r1, r⟩ := runBody_exch h σ hub (by rw [hoa, l0]; exact hw) (by rw [hob, l1]; exact hw) hs
  rw [hoa, hob] at r0 r1
  exact ⟨by rw [r0, r1, ← mixAt_step hxy hw, ← hm], r⟩

/-- both objects exchanged up to byte `c`, both cursors at `c` (nothing is said about the count: `while (s--)` runs its body on a
    count already decremented) -/
structure At (x y : List α) (c : Nat) (σ : SwSt α) : Prop where
  mix : (σ.m0, σ.m1) = mixAt x y c
  ha : σ.a = c
  hb : σ.b = c
  hi : σ.i = 0
  hub : σ.ub = false

/-- the invariant between blocks: exchanged up to `c`, and the count is what is left (written as a sum, so that the arithmetic
    below is linear) -/
def Mid (x y : List α) (c : Nat) (σ : SwSt α) : Prop := At x y c σ ∧ σ.s + c = x.length

theorem runBody_at {x y : List α} (hxy : y.length = x.length) {body : List SwStmt} {e : Exch} (h : exchBody body = some e)
    (hda : e.da = e.w) (hdb : e.db = e.w) {c : Nat} {σ : SwSt α} (hp : At x y c σ) (hw : c + e.w ≤ x.length) (hs : e.ds ≤ σ.s) :
    At x y (c + e.w) (runBody σ body) ∧ (runBody σ body).s + e.ds = σ.s := by
  have hoa : σ.off .a e.idx e.w = c := by simp [SwSt.off, SwSt.cur, hp.ha, hp.hi]
  have hob : σ.off .b e.idx e.w = c := by simp [SwSt.off, SwSt.cur, hp.hb, hp.hi]
  obtain ⟨m, a', b', s', i', u'⟩ := runBody_mixAt hxy h σ hp.mix hoa hob hp.hub hw hs
  exact ⟨⟨m, by rw [a', hp.ha, hda], by rw [b', hp.hb, hdb], i'.trans hp.hi, u'⟩, s'⟩

-- `j`, the number of rounds, is asked for by `staleProg_run` alone (its first stage ends at a multiple of 8)
theorem loopGe_mid {x y : List α} (hxy : y.length = x.length) {body : List SwStmt} {e : Exch} (h : exchBody body = some e)
    {k : Nat} (hw1 : 1 ≤ e.w) (hwk : e.w ≤ k) (hda : e.da = e.w) (hdb : e.db = e.w) (hds : e.ds = e.w) :
    ∀ (fuel c : Nat) (σ : SwSt α), Mid x y c σ → σ.s < fuel →
      ∃ c' j, Mid x y c' (loopGe k body fuel σ) ∧ (loopGe k body fuel σ).s < k ∧ c' = c + j * e.w := by
  intro fuel
  induction fuel with
  | zero => intro c σ _ hf; omega
  | succ f ih =>
    intro c σ ⟨hp, hs⟩ hf
    rw [loopGe, if_neg (by simp [hp.hub])]
    by_cases hk : k ≤ σ.s
    · rw [if_pos hk]
      obtain ⟨hw, hle⟩ : c + e.w ≤ x.length ∧ e.ds ≤ σ.s := by omega
      obtain ⟨hp', hs'⟩ := runBody_at hxy h hda hdb hp hw hle
      obtain ⟨hs2, hf2⟩ : (runBody σ body).s + (c + e.w) = x.length ∧ (runBody σ body).s < f := by omega
      obtain ⟨c', j, hm', hlt, hc'⟩ := ih (c + e.w) _ ⟨hp', hs2⟩ hf2
      exact ⟨c', j + 1, hm', hlt, by rw [hc', Nat.succ_mul, Nat.add_assoc, Nat.add_comm e.w]⟩
    · rw [if_neg hk]
      exact ⟨c, 0, ⟨hp, hs⟩, Nat.lt_of_not_le hk, by rw [Nat.zero_mul, Nat.add_zero]⟩

/-- `while (s--)` over a byte step exchanges the `s` bytes from the cursors on — whether or not that reaches the end -/
theorem loopDec_mixed {x y : List α} (hxy : y.length = x.length) {body : List SwStmt}
    (h : exchBody body = some ⟨1, 1, 1, 0, false⟩) :
    ∀ (fuel c : Nat) (σ : SwSt α), At x y c σ → σ.s + c ≤ x.length → σ.s < fuel →
      (loopDec body fuel σ).ub = false ∧ ((loopDec body fuel σ).m0, (loopDec body fuel σ).m1) = mixAt x y (c + σ.s) := by
  intro fuel
  induction fuel with
  | zero => intro c σ _ _ hf; omega
  | succ f ih =>
    intro c σ hp hs hf
    rw [loopDec, if_neg (by simp [hp.hub])]
    by_cases h0 : σ.s = 0
    · rw [if_pos h0, h0]
      exact ⟨hp.hub, hp.mix⟩
    · rw [if_neg h0]
      -- the body runs on the decremented count and does not touch it
      obtain ⟨hp', hs'⟩ := runBody_at hxy h rfl rfl (σ := { σ with s := σ.s - 1 }) ⟨hp.mix, hp.ha, hp.hb, hp.hi, hp.hub⟩
        (by show c + 1 ≤ x.length; omega) (Nat.zero_le _)
      have hs' : (runBody { σ with s := σ.s - 1 } body).s + 0 = σ.s - 1 := hs'
      obtain ⟨e, h1, h2⟩ : c + 1 + (runBody { σ with s := σ.s - 1 } body).s = c + σ.s ∧
          (runBody { σ with s := σ.s - 1 } body).s + (c + 1) ≤ x.length ∧ (runBody { σ with s := σ.s - 1 } body).s < f := by omega
      exact e ▸ ih (c + 1) _ hp' h1 h2

/-- `for (i = 0; i < s / w; i++)` over `p[i]` with words of `w` bytes exchanges the whole words and nothing else -/
theorem loopFor_mixed {x y : List α} (hxy : y.length = x.length) {body : List SwStmt} {w : Nat}
    (h : exchBody body = some ⟨w, 0, 0, 0, true⟩) (hw : 0 < w) (c : Nat) :
    ∀ (fuel : Nat) (σ : SwSt α), (σ.m0, σ.m1) = mixAt x y (c + σ.i * w) → σ.a = c → σ.b = c → σ.s + c = x.length → σ.i ≤ σ.s / w →
      σ.ub = false → σ.s / w < fuel + σ.i →
      (loopFor w body fuel σ).ub = false ∧ ((loopFor w body fuel σ).m0, (loopFor w body fuel σ).m1) = mixAt x y (c + σ.s / w * w) := by
  intro fuel
  induction fuel with
  | zero => intro σ _ _ _ _ _ _ hf; omega
  | succ f ih =>
    intro σ hm ha hb hs hi hub hf
    rw [loopFor, if_neg (by simp [hub])]
    by_cases hlt : σ.i < σ.s / w
    · rw [if_pos hlt]
      have hle : σ.i * w + w ≤ σ.s := by rw [← Nat.succ_mul]; exact (Nat.le_div_iff_mul_le hw).mp hlt
      obtain ⟨m, a', b', s', i', u'⟩ := runBody_mixAt hxy h σ hm (by simp [SwSt.off, SwSt.cur, ha]) (by simp [SwSt.off, SwSt.cur, hb])
        hub (by show c + σ.i * w + w ≤ x.length; omega) (Nat.zero_le _)
      simp only [Nat.add_zero] at a' b' s'
      have := ih { runBody σ body with i := (runBody σ body).i + 1 }
        (by show _ = mixAt x y (c + ((runBody σ body).i + 1) * w)
            rw [i', Nat.succ_mul, ← Nat.add_assoc]; exact m)
        (a'.trans ha) (b'.trans hb) (s' ▸ hs) (by show (runBody σ body).i + 1 ≤ (runBody σ body).s / w; rw [i', s']; exact hlt) u'
        (by show (runBody σ body).s / w < f + ((runBody σ body).i + 1); rw [i', s']; omega)
      rw [show (runBody σ body).s = σ.s from s'] at this
      exact this
    · rw [if_neg hlt]
      have e : σ.s / w = σ.i := by omega
      exact ⟨hub, e ▸ hm⟩

theorem blockOk_inv {k : Nat} {body : List SwStmt} (hok : blockOk (.whileGe k body) = true) :
    ∃ e, exchBody body = some e ∧ 1 ≤ e.w ∧ e.w ≤ k ∧ e.da = e.w ∧ e.db = e.w ∧ e.ds = e.w := by
  simp only [blockOk] at hok
  split at hok
  · rename_i e he
    simp only [Bool.and_eq_true, beq_iff_eq, decide_eq_true_eq] at hok
    exact ⟨e, he, hok.1.1.1.1.2, hok.1.1.1.2, hok.1.1.2, hok.1.2, hok.2⟩
  · exact absurd hok (by simp)

theorem runBlock_mid {x y : List α} (hxy : y.length = x.length) {blk : SwBlock} (hok : blockOk blk = true) {c : Nat}
    {σ : SwSt α} (hm : Mid x y c σ) : ∃ c', Mid x y c' (runBlock σ blk) := by
  cases blk with
  | forIdx _ _ => cases hok
  | whileDec _ => cases hok
  | whileGe k body =>
    obtain ⟨e, he, hw1, hwk, hda, hdb, hds⟩ := blockOk_inv hok
    obtain ⟨c', _, hm', _⟩ := loopGe_mid hxy he hw1 hwk hda hdb hds (σ.s + 1) c σ hm (Nat.lt_succ_self _)
    exact ⟨c', hm'⟩
  | ifGe k body =>
    -- `blockOk` treats `ifGe` and `whileGe` in one arm
    obtain ⟨e, he, hw1, hwk, hda, hdb, hds⟩ := blockOk_inv (show blockOk (.whileGe k body) = true from hok)
    simp only [runBlock]
    split
    · rename_i hk
      obtain ⟨hp', hs'⟩ := runBody_at hxy he hda hdb hm.1 (by have := hm.2; omega) (by omega)
      exact ⟨c + e.w, hp', by have := hm.2; omega⟩
    · exact ⟨c, hm⟩

theorem runBlock_last {x y : List α} (hxy : y.length = x.length) {blk : SwBlock} (hok : lastOk blk = true) {c : Nat}
    {σ : SwSt α} (hm : Mid x y c σ) : (runBlock σ blk).ub = false ∧ ((runBlock σ blk).m0, (runBlock σ blk).m1) = (y, x) := by
  cases blk with
  | ifGe _ _ => cases hok
  | whileGe k body =>
    simp only [lastOk, Bool.and_eq_true, beq_iff_eq] at hok
    obtain ⟨rfl, he⟩ := hok
    obtain ⟨c', _, hm', hlt, _⟩ := loopGe_mid hxy he (Nat.le_refl 1) (Nat.le_refl 1) rfl rfl rfl (σ.s + 1) c σ hm (Nat.lt_succ_self _)
    obtain rfl : c' = x.length := by have := hm'.2; omega
    exact ⟨hm'.1.hub, hm'.1.mix.trans (mixAt_full hxy)⟩
  | whileDec body =>
    simp only [lastOk, beq_iff_eq] at hok
    obtain ⟨u, m⟩ := loopDec_mixed hxy hok (σ.s + 1) c σ hm.1 (by have := hm.2; omega) (Nat.lt_succ_self _)
    have hc : c + σ.s = x.length := by have := hm.2; omega
    exact ⟨u, (hc ▸ m).trans (mixAt_full hxy)⟩
  | forIdx div body =>
    simp only [lastOk, Bool.and_eq_true, beq_iff_eq] at hok
    obtain ⟨rfl, he⟩ := hok
    simp only [runBlock, Nat.one_ne_zero, if_false]
    obtain ⟨u, m⟩ := loopFor_mixed hxy he Nat.one_pos c (σ.s + 1) { σ with i := 0 } (by simpa using hm.1.mix) hm.1.ha hm.1.hb hm.2
      (Nat.zero_le _) hm.1.hub (by show σ.s / 1 < σ.s + 1 + 0; omega)
    have hc : c + σ.s / 1 * 1 = x.length := by have := hm.2; omega
    exact ⟨u, (hc ▸ m).trans (mixAt_full hxy)⟩

theorem runBlocks_cons {σ : SwSt α} (h : σ.ub = false) (blk : SwBlock) (rest : List SwBlock) :
    runBlocks σ (blk :: rest) = runBlocks (runBlock σ blk) rest := by
  simp [runBlocks, h]

theorem runBlocks_ok {x y : List α} (hxy : y.length = x.length) : ∀ (prog : List SwBlock), swapOk prog = true →
    ∀ (c : Nat) (σ : SwSt α), Mid x y c σ →
      (runBlocks σ prog).ub = false ∧ ((runBlocks σ prog).m0, (runBlocks σ prog).m1) = (y, x) := by
  intro prog
  induction prog with
  | nil => intro h; simp [swapOk] at h
  | cons blk rest ih =>
    intro hok c σ hm
    cases rest with
    | nil =>
      simp only [swapOk] at hok
      simp only [runBlocks, hm.1.hub, Bool.false_eq_true, if_false]
      exact runBlock_last hxy hok hm
    | cons b2 rest' =>
      simp only [swapOk, Bool.and_eq_true] at hok
      obtain ⟨c', hm'⟩ := runBlock_mid hxy hok.1 hm
      have := ih hok.2 c' _ hm'
      simpa only [runBlocks, hm.1.hub, Bool.false_eq_true, if_false] using this

theorem swapProg_exchanges (prog : List SwBlock) (hok : swapOk prog = true) (x y : List α) (hxy : x.length = y.length) :
    runSwapProg prog x y = some (y, x) := by
  obtain ⟨u, r⟩ := runBlocks_ok hxy.symm prog hok 0 (⟨x, y, 0, 0, x.length, 0, [], false⟩ : SwSt α) ⟨⟨rfl, rfl, rfl, rfl, rfl⟩, rfl⟩
  simp only [runSwapProg, u, Bool.false_eq_true, if_false, r]

/-- a program that is one word loop `for (i = 0; i < s / w; i++)` over `p[i]` exchanges the whole words, for objects of every
    size, and leaves the `s % w` bytes behind them where they were -/
theorem forIdxProg_run {body : List SwStmt} {w : Nat} (h : exchBody body = some ⟨w, 0, 0, 0, true⟩) (hw : 0 < w)
    (x y : List α) (hxy : x.length = y.length) :
    runSwapProg [.forIdx w body] x y = some (mixAt x y (x.length / w * w)) := by
  obtain ⟨u, m⟩ := loopFor_mixed hxy.symm h hw 0 (x.length + 1) (⟨x, y, 0, 0, x.length, 0, [], false⟩ : SwSt α)
    (by simp [mixAt]) rfl rfl rfl (Nat.zero_le _) rfl (by show x.length / w < x.length + 1 + 0; have := Nat.div_le_self x.length w; omega)
  simp only [Nat.zero_add] at m
  simp only [runSwapProg, runBlocks, runBlock, Nat.ne_of_gt hw, if_false, Bool.false_eq_true, u, m]

/-- … hence, on two objects that differ at every position, it exchanges exactly when no incomplete word is left -/
theorem forIdxProg_exchanges_iff {body : List SwStmt} {w : Nat} (h : exchBody body = some ⟨w, 0, 0, 0, true⟩) (hw : 0 < w)
    {x y : List α} {n : Nat} (hx : x.length = n) (hy : y.length = n) (hne : ∀ d, x.drop d = y.drop d ↔ n ≤ d) :
    runSwapProg [.forIdx w body] x y = some (y, x) ↔ n % w = 0 := by
  subst hx
  rw [forIdxProg_run h hw x y hy.symm, Option.some.injEq, mixAt_eq_swap_iff, hne]
  have := Nat.div_add_mod' x.length w
  omega

/-- a three-stage program — whole words, then a half word whose stage decrements the count but leaves both cursors where they
    were, then the byte loop `while (s--)` — on objects of every size `n`, with `c = n / 8 * 8`: when fewer than 4 bytes are left
    behind the whole words it exchanges; otherwise the half-word stage exchanges `[c, c + 4)` and leaves the cursors at `c`, and
    the byte loop exchanges the `n % 8 - 4` bytes from `c` on a second time — back to where they were -/
theorem staleProg_run {b8 b4 b1 : List SwStmt} (h8 : exchBody b8 = some ⟨8, 8, 8, 8, false⟩)
    (h4 : exchBody b4 = some ⟨4, 0, 0, 4, false⟩) (h1 : exchBody b1 = some ⟨1, 1, 1, 0, false⟩)
    (x y : List α) (hxy : x.length = y.length) :
    runSwapProg [.whileGe 8 b8, .ifGe 4 b4, .whileDec b1] x y = some (
      if x.length % 8 < 4 then (y, x) else
        let p := mixAt x y (x.length / 8 * 8 + 4)
        let q := mixAt p.1 p.2 (x.length / 8 * 8)
        mixAt q.1 q.2 (x.length / 8 * 8 + (x.length % 8 - 4))) := by
  have hyx := hxy.symm
  rw [runSwapProg, runBlocks_cons rfl]
  -- stage 1: whole words, up to `c = 8 * j`
  obtain ⟨c, j, ⟨hp, hs⟩, hlt, hc⟩ := loopGe_mid hyx h8 (k := 8) (by decide) (by decide) rfl rfl rfl
    (x.length + 1) 0 ⟨x, y, 0, 0, x.length, 0, [], false⟩ ⟨⟨rfl, rfl, rfl, rfl, rfl⟩, rfl⟩ (Nat.lt_succ_self _)
  rw [show runBlock (⟨x, y, 0, 0, x.length, 0, [], false⟩ : SwSt α) (.whileGe 8 b8) = loopGe 8 b8 (x.length + 1) _ from rfl]
  generalize loopGe 8 b8 (x.length + 1) (⟨x, y, 0, 0, x.length, 0, [], false⟩ : SwSt α) = σ at hp hs hlt ⊢
  replace hc : c = j * 8 := by simpa using hc
  obtain ⟨hr, hc8⟩ : σ.s = x.length % 8 ∧ x.length / 8 * 8 = c := by omega
  rw [runBlocks_cons hp.hub, hc8, ← hr]
  clear hr hc8 hc
  simp only [runBlock]
  by_cases h4' : 4 ≤ σ.s
  · -- stage 2 exchanges the half word at `c` and leaves the cursors there
    simp only [h4', Nat.not_lt.mpr h4', if_true, if_false]
    obtain ⟨m, a', b', s', i', u'⟩ := runBody_mixAt hyx h4 σ hp.mix
      (by simp [SwSt.off, SwSt.cur, hp.ha]) (by simp [SwSt.off, SwSt.cur, hp.hb]) hp.hub (by show c + 4 ≤ x.length; omega) h4'
    simp only [Nat.add_zero] at a' b' s'
    generalize runBody σ b4 = σ2 at m a' b' s' i' u' ⊢
    obtain ⟨l0, l1⟩ : σ2.m0.length = x.length ∧ σ2.m1.length = x.length := by
      have := mixAt_length hyx (c + 4); rwa [← m] at this
    -- stage 3 exchanges the next `σ2.s` bytes from `c` on: some of them a second time
    rw [runBlocks_cons u', runBlocks]
    simp only [runBlock]
    have l' := mixAt_length (x := σ2.m0) (y := σ2.m1) (l1.trans l0.symm) c
    obtain ⟨u3, m3⟩ := loopDec_mixed (x := (mixAt σ2.m0 σ2.m1 c).1) (y := (mixAt σ2.m0 σ2.m1 c).2)
      (l'.2.trans l'.1.symm) h1
      (σ2.s + 1) c σ2 ⟨(mixAt_mixAt _ _ (by omega) (by omega)).symm, a'.trans hp.ha, b'.trans hp.hb, i'.trans hp.hi, u'⟩
      (by rw [l'.1, l0]; omega) (Nat.lt_succ_self _)
    simp only [u3, Bool.false_eq_true, if_false]
    rw [m3, show σ2.m0 = (mixAt x y (c + 4)).1 from congrArg Prod.fst m, show σ2.m1 = (mixAt x y (c + 4)).2 from congrArg Prod.snd m,
      show c + σ2.s = c + (σ.s - 4) by omega]
  · -- fewer than 4 bytes are left: stage 2 does nothing, stage 3 finishes the exchange
    simp only [h4', Nat.lt_of_not_le h4', if_true, if_false]
    rw [runBlocks_cons hp.hub, runBlocks]
    simp only [runBlock]
    obtain ⟨u3, m3⟩ := loopDec_mixed hyx h1 (σ.s + 1) c σ hp (by omega) (Nat.lt_succ_self _)
    simp only [u3, Bool.false_eq_true, if_false, m3, show c + σ.s = x.length by omega, mixAt_full hyx]

/-- … hence, on two objects that differ at every position, it exchanges exactly when fewer than 5 bytes are left behind the
    whole words: with 4 the half-word stage finishes the exchange and the byte loop has nothing left; with 5, 6 or 7 the byte
    loop, started at the stale cursors, exchanges bytes back and never reaches the bytes from `c + 4` on -/
theorem staleProg_exchanges_iff {b8 b4 b1 : List SwStmt} (h8 : exchBody b8 = some ⟨8, 8, 8, 8, false⟩)
    (h4 : exchBody b4 = some ⟨4, 0, 0, 4, false⟩) (h1 : exchBody b1 = some ⟨1, 1, 1, 0, false⟩)
    {x y : List α} {n : Nat} (hx : x.length = n) (hy : y.length = n) (hne : ∀ d, x.drop d = y.drop d ↔ n ≤ d) :
    runSwapProg [.whileGe 8 b8, .ifGe 4 b4, .whileDec b1] x y = some (y, x) ↔ n % 8 < 5 := by
  rw [staleProg_run h8 h4 h1 x y (hx.trans hy.symm), Option.some.injEq, hx]
  have hcn : n / 8 * 8 + n % 8 = n ∧ n % 8 < 8 := by omega
  generalize n / 8 * 8 = c at *
  generalize n % 8 = r at *
  by_cases h4 : r < 4
  · simp [h4, show r < 5 by omega]
  · rw [if_neg h4]
    by_cases h5 : r = 4
    · subst h5
      have e1 : mixAt x y (c + 4) = (y, x) := by
        rw [mixAt_eq_swap_iff, List.drop_of_length_le (by omega), List.drop_of_length_le (by omega)]
      simp only [Nat.sub_self, Nat.add_zero, e1, mixAt_mixAt y x (show c ≤ y.length by omega) (show c ≤ x.length by omega),
        show (4 : Nat) < 5 by omega]
    · refine iff_of_false (fun h => ?_) (by omega)
      obtain ⟨b1, b2, b3, b4⟩ : c + 4 ≤ x.length ∧ c ≤ x.length ∧ c + (r - 4) ≤ x.length ∧ c + (r - 4) ≤ c + 4 := by omega
      obtain ⟨l0, l1⟩ := mixAt_length (hy.trans hx.symm) (c + 4)
      obtain ⟨m0, m1⟩ := mixAt_length (l1.trans l0.symm) c
      have h1 := congrArg (fun p : List α × List α => p.1.drop (c + 4)) h
      simp only at h1
      rw [(mixAt_drop _ _ b4 (m0.symm ▸ l0.symm ▸ b3) (m1.symm ▸ l0.symm ▸ b3)).1,
        (mixAt_drop _ _ (Nat.le_add_right c 4) (l0.symm ▸ b2) (l1.symm ▸ b2)).1,
        (mixAt_drop _ _ (Nat.le_refl _) b1 (hy.trans hx.symm ▸ b1)).1] at h1
      have := (hne (c + 4)).mp h1
      omega

end Cello.Hash
