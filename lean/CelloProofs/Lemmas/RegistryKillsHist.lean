/-
  Whole histories with destructors that delete other objects (`K`).  The model's nested recursion, release loop, GC_Sweep,
  GC_Set and GC_Rem refine the same operations on (ledger, pending slots) of RegistryKillsAbs.lean; the refinements are
  relations (both sides fail, or both answer with the same trace and related states), and that the model answers comes from
  RegistryRaise.lean.  An operation has at most one ledger transition (`ledgerK_det`), so the model's next state is well
  formed for whichever ledger `LedgerK` allows, and every history can be continued; plain destructors are the case
  `K = noK`, where `LedgerK` is the function `ledgerStep`.
-/
import Cello.Registry
import CelloProofs.Lemmas.RegistryRaise
import CelloProofs.Lemmas.RegistryOrder
namespace Cello.Registry

/-- the model's outcome simulates the abstract one: both fail, or both succeed with the same deallocation trace and related
    states: `SimO` below with `pendList r'` (struck-off slots forgotten) for the pending slots, i.e. `RelTr` of the four
    conjuncts after `t = t'`, written out -/
def Sim (c : Cfg) (running : Bool) (psize : Nat) : Option (Reg × List Nat) → Option (Abs × List Nat) → Prop
  | none, none => True
  | some (r', t), some (a', t') =>
      t = t' ∧ WFP c r' a'.1 ∧ pendList r' = a'.2 ∧ r'.running = running ∧ r'.pending.size = psize
  | _, _ => False

/-- the model's outcome agrees with the abstract one on (ledger, pending slots); the pending array keeps its size `psize` -/
def SimO (c : Cfg) (running : Bool) (psize : Nat) : Option (Reg × List Nat) → Option (AbsO × List Nat) → Prop :=
  RelTr (fun r' a' => WFP c r' a'.1 ∧ r'.pending.toList = a'.2 ∧ r'.running = running ∧ r'.pending.size = psize)

/-- nested removals refine the positional abstract recursion, for every `K` and every fuel -/
theorem exec_simO (c : Cfg) (g : GoodCfg c) (K : Nat → List Nat) (hK : NullOk c K) :
    ∀ (fuel : Nat) (r : Reg) (a : AbsO) (cmd : Cmd), WFP c r a.1 → r.pending.toList = a.2 → CmdOk c r cmd →
      SimO c r.running r.pending.size (exec c K fuel r cmd) (absExecO K r.running fuel a cmd) := by
  intro fuel
  induction fuel with
  | zero => intro r a cmd _ _ _; exact trivial
  | succ fuel ih =>
    intro r a cmd hwf hp hok
    cases cmd with
    | fin p =>
      rw [exec_fin_succ, absExecO_fin_succ]
      have := foldl_stepTr_rel (K p)
        (P := fun r' a' => WFP c r' a'.1 ∧ r'.pending.toList = a'.2 ∧ r'.running = r.running ∧ r'.pending.size = r.pending.size)
        (f := fun r' y => exec c K fuel r' (.rem y)) (g := fun a' y => absExecO K r.running fuel a' (.rem y))
        (fun z hz r' a' ⟨h2, h3, h4, h5⟩ => by
          have := ih r' a' (.rem z) h2 h3 (hK.cmdOk hz r')
          rw [h4, h5] at this; exact this)
        (some (r, [])) (some (a, [])) ⟨rfl, hwf, hp, rfl, rfl⟩
      match hx : (K p).foldl _ (some (r, [])), hy : (K p).foldl _ (some (a, [])), this with
      | none, none, _ => trivial
      | some (r', t), some (a', t'), ⟨e1, e2⟩ => subst e1; exact ⟨rfl, e2⟩
    | rem x =>
      rw [exec_rem_succ]
      simp only [absExecO]
      cases hrun : r.running with
      | false => simp only [Bool.not_false, if_true]; exact ⟨rfl, hwf, hp, hrun, rfl⟩
      | true =>
        simp only [Bool.not_true, Bool.false_eq_true, if_false]
        obtain ⟨r1, fi, hrem, hrun1, _, hcases⟩ := remPtr_absO c r a.1 hwf x hok
        rw [hrem]; simp only []
        have tail : ∀ (x' : Option (Reg × List Nat)) (y' : Option (AbsO × List Nat)), SimO c true r.pending.size x' y' →
            SimO c true r.pending.size
              (match x' with
               | none => none
               | some (r2, t) =>
                 match resizeLess c r2 with
                 | none => none
                 | some r3 => some ({ r3 with mitems := c.mitemsOf r3.nitems }, t)) y' := by
          intro x' y' h
          match x', y', h with
          | none, none, _ => trivial
          | some (r2, t), some (a2, t'), ⟨e1, e2, e3, e4, e5⟩ =>
            obtain ⟨r3, hr3, w3, p3, run3⟩ := rem_tail c g r2 a2.1 e2
            simp only [hr3]
            exact ⟨e1, w3, by show r3.pending.toList = _; rw [p3]; exact e3, by show r3.running = true; rw [run3]; exact e4,
              by show r3.pending.size = _; rw [p3]; exact e5⟩
        rcases hcases with ⟨i, hidx, hfi, hpl, hw1⟩ | ⟨hnone, hxL, hfi, hpend, hw1, _⟩ | ⟨hnone, hxL, hfi, hr1⟩
        · subst hfi
          rw [← hp, hidx]
          simp only []
          have hsz : r1.pending.size = r.pending.size := by
            have := congrArg List.length hpl
            simpa using this
          have := ih r1 (a.1, r.pending.toList.set i none) (.fin x) hw1 hpl trivial
          rw [hrun1, hrun, hsz] at this
          exact tail _ _ this
        · subst hfi
          rw [← hp, hnone]
          simp only [if_pos hxL]
          have := ih r1 (a.1.filter (fun y => y.1 != x), r.pending.toList) (.fin x) hw1 (by rw [hpend]) trivial
          rw [hrun1, hrun, hpend] at this
          exact tail _ _ this
        · subst hfi; subst hr1
          rw [← hp, hnone]
          simp only [if_neg hxL]
          exact tail (some (r1, [])) (some (a, [])) ⟨rfl, hwf, hp, hrun, rfl⟩

theorem exec_sim (c : Cfg) (g : GoodCfg c) (K : Nat → List Nat) (hK : NullOk c K) (fuel : Nat) (r : Reg) (a : Abs) (cmd : Cmd)
    (hwf : WFP c r a.1) (hp : pendList r = a.2) (hok : CmdOk c r cmd) :
    Sim c r.running r.pending.size (exec c K fuel r cmd) (absExec K r.running fuel a cmd) := by
  have h1 := exec_simO c g K hK fuel r (a.1, r.pending.toList) cmd hwf rfl hok
  have h2 := absExec_forget K r.running fuel (a.1, r.pending.toList) cmd
  have ha : AbsO.forget (a.1, r.pending.toList) = a := by
    show (a.1, pendList r) = a; rw [hp]
  rw [ha] at h2
  match hx : exec c K fuel r cmd, hy : absExecO K r.running fuel (a.1, r.pending.toList) cmd,
      hz : absExec K r.running fuel a cmd, h1, h2 with
  | none, none, none, _, _ => trivial
  | some (r', t), some (b', t'), some (a', t''), ⟨e1, e2, e3, e4, e5⟩, ⟨e6, e7⟩ =>
    subst e7
    exact ⟨e1.trans e6.symm, e2, by show r'.pending.toList.filterMap id = _; rw [e3]; rfl, e4, e5⟩

theorem gcRem_sim (c : Cfg) (g : GoodCfg c) (K : Nat → List Nat) (hK : NullOk c K) (r : Reg) (L : Ledger) (h : WFP c r L) (x : Nat)
    (hx : CmdOk c r (.rem x)) :
    ∃ r' a' t, gcRem c K r x = some (r', t) ∧ absExec K r.running (nestFuel r) (L, pendList r) (.rem x) = some (a', t) ∧
      WFP c r' a'.1 ∧ pendList r' = a'.2 ∧ r'.running = r.running ∧ r'.pending.size = r.pending.size ∧
      Abs.size a' ≤ Abs.size (L, pendList r) := by
  obtain ⟨r', t, L', he, hs⟩ := exec_total c g K hK (nestFuel r) r L (.rem x) h (nestFuel_ge c r L h) hx
  have hsim := exec_sim c g K hK (nestFuel r) r (L, pendList r) (.rem x) h rfl hx
  rw [he] at hsim
  match hy : absExec K r.running (nestFuel r) (L, pendList r) (.rem x), hsim with
  | some (a', t'), ⟨e1, e2, e3, e4, e5⟩ =>
    refine ⟨r', a', t, he, by rw [e1], e2, e3, e4, e5, ?_⟩
    have := hs.size
    rw [← hs.wfp.marked.count_eq, e2.marked.count_eq, e3] at this
    exact this

theorem nestFuel_eq (c : Cfg) (r : Reg) (a : AbsO) (h : WFP c r a.1) (hp : r.pending.toList = a.2) : nestFuel r = absFuel a := by
  unfold nestFuel absFuel
  rw [h.marked.count_eq, ← hp]
  simp

theorem finaliseLoop_relO (c : Cfg) (g : GoodCfg c) (K : Nat → List Nat) (hK : NullOk c K) :
    ∀ (todo i : Nat) (r : Reg) (a : AbsO) (t : List Nat), WFP c r a.1 → r.pending.toList = a.2 →
      RelTr (fun r' a' => WFP c r' a'.1 ∧ r'.pending.toList = a'.2 ∧ r'.running = r.running)
        (finaliseLoop c K todo i r t) (absFinLoop K r.running todo i a t) := by
  intro todo
  induction todo with
  | zero => intro i r a t h hp; exact ⟨rfl, h, hp, rfl⟩
  | succ todo ih =>
    intro i r a t h hp
    unfold finaliseLoop absFinLoop
    have hget : r.pending[i]? = a.2[i]? := by rw [← hp]; simp
    rw [← hget]
    cases hgi : r.pending[i]? with
    | none => exact ih (i+1) r a t h hp
    | some o =>
      cases o with
      | none => exact ih (i+1) r a t h hp
      | some p =>
        simp only []
        have hw1 := wfp_set_pending c r a.1 h i
        have hp1 : ({ r with pending := r.pending.setIfInBounds i none } : Reg).pending.toList = a.2.set i none := by
          show (r.pending.setIfInBounds i none).toList = _
          rw [Array.toList_setIfInBounds, hp]
        rw [nestFuel_eq c _ (a.1, a.2.set i none) hw1 hp1]
        have hsim := exec_simO c g K hK (absFuel (a.1, a.2.set i none) + 1) _ (a.1, a.2.set i none) (.fin p) hw1 hp1 trivial
        match hx : exec c K (absFuel (a.1, a.2.set i none) + 1) { r with pending := r.pending.setIfInBounds i none } (.fin p),
              hy : absExecO K r.running (absFuel (a.1, a.2.set i none) + 1) (a.1, a.2.set i none) (.fin p), hsim with
        | none, none, _ => trivial
        | some (r2, t2), some (a2, t2'), ⟨e1, e2, e3, e4, _⟩ =>
          subst e1
          have := ih (i+1) r2 a2 (t ++ t2) e2 e3
          rw [e4] at this
          exact this

theorem gcSweep_simO (c : Cfg) (g : GoodCfg c) (K : Nat → List Nat) (hK : NullOk c K) (r : Reg) (L : Ledger) (mk : Nat → Bool → Bool)
    (h : Marked c r L mk) :
    ∃ (order : List Nat) (r' : Reg) (a' : AbsO) (t : List Nat),
      gcSweep c K r = some (r', t) ∧
      absFinLoop K r.running order.length 0 (collectBy L mk, order.map some) [] = some (a', t) ∧
      WF c r' a'.1 ∧ r'.running = r.running ∧ order.Nodup ∧
      (∀ p, p ∈ order ↔ ∃ b, (p, b) ∈ L ∧ (p, b) ∉ collectBy L mk) := by
  obtain ⟨order, r2, h2, hw2, hpend, hrun2, hnd', hmem⟩ := sweepPhase_wfp c g r L mk h
  have hp2 : r2.pending.toList = order.map some := by rw [hpend]
  have hsize : r2.pending.size = order.length := by rw [hpend]; simp
  obtain ⟨r3, t, hfin⟩ := finaliseLoop_total c g K hK r2.pending.size 0 r2 _ [] hw2
  have hrel := finaliseLoop_relO c g K hK r2.pending.size 0 r2 (collectBy L mk, order.map some) [] hw2 hp2
  rw [hfin] at hrel
  match hy : absFinLoop K r2.running r2.pending.size 0 (collectBy L mk, order.map some) [], hrel with
  | some (a', t'), ⟨e1, hw3, _, hrun3⟩ =>
    subst e1
    exact ⟨order, { r3 with pending := #[] }, a', t, by rw [gcSweep_eq, h2]; simp only []; rw [hfin],
      by rw [← hsize, ← hrun2]; exact hy, hw3.clear, hrun3.trans hrun2, hnd', hmem⟩

/-- the model's transition with destructors `K` -/
def stepK (c : Cfg) (K : Nat → List Nat) (r : Reg) : Op → Option Reg
  | .new p root marks => (gcSet c K r p root marks).map (fun x => x.1)
  | .newRaw _ => some r
  | .del p => (gcRem c K r p).map (fun x => x.1)
  | .delRaw p => (exec c K (nestFuel r + 1) r (.fin p)).map (fun x => x.1)
  | .sweep marks =>
    match markAll c r marks with
    | none => none
    | some r1 => (gcSweep c K r1).map (fun x => x.1)
  | .stop => some (gcStop r)
  | .start => some (gcStart r)

/-- `roots`: the collection GC_Set triggers marks the roots first (GC_Mark), the explicit one of `Op.sweep` does not; the
    sweep keeps the roots either way -/
theorem collect_simO (c : Cfg) (g : GoodCfg c) (K : Nat → List Nat) (hK : NullOk c K) (r : Reg) (L : Ledger) (hwf : WF c r L) (roots : Bool)
    (marks : List Nat) :
    ∃ r1 r' L' t, markAll c (if roots then markRoots r else r) marks = some r1 ∧ gcSweep c K r1 = some (r', t) ∧
      SweepL K r.running L marks L' ∧ WF c r' L' ∧ r'.running = r.running := by
  obtain ⟨mk0, h0, hrun0, hmk0⟩ : ∃ mk0 : Nat → Bool → Bool, Marked c (if roots then markRoots r else r) L mk0 ∧
      (if roots then markRoots r else r).running = r.running ∧ (∀ q b, (b || mk0 q b) = b) := by
    cases roots with
    | false => exact ⟨noMark, hwf.marked, rfl, by intro q b; simp [noMark]⟩
    | true => exact ⟨_, markRoots_marked hwf.marked, rfl, by intro q b; cases b <;> simp [noMark]⟩
  obtain ⟨r1, hr1, h1, hmeta1⟩ := markAll_marked h0 marks
  obtain ⟨order, r', a', t, hsw, habs, hwf', hrun', hnd, hmem⟩ := gcSweep_simO c g K hK r1 L _ h1
  have hrun1 : r1.running = r.running := by rw [hmeta1.running, hrun0]
  rw [collectBy_eq_collectL L mk0 marks hmk0, hrun1] at habs
  rw [collectBy_eq_collectL L mk0 marks hmk0] at hmem
  exact ⟨r1, r', a'.1, t, hr1, hsw, ⟨order, a', t, hnd, hmem, habs, rfl⟩, hwf', by rw [hrun', hrun1]⟩

/-- a removal or finalisation issued outside a collection (empty pending list), with enough fuel -/
theorem exec_wf (c : Cfg) (g : GoodCfg c) (K : Nat → List Nat) (hK : NullOk c K) (r : Reg) (L : Ledger) (hwf : WF c r L) (cmd : Cmd)
    (fuel : Nat) (hf : (match cmd with | .fin _ => 2 * L.length + 2 | .rem _ => 2 * L.length + 1) ≤ fuel) :
    ∃ r' a' t, exec c K fuel r cmd = some (r', t) ∧ absExecO K r.running fuel (L, []) cmd = some (a', t) ∧ WF c r' a'.1 ∧
      r'.running = r.running := by
  have hok : CmdOk c r cmd := by cases cmd; exact trivial; exact Or.inr (Or.inr hwf.pend)
  obtain ⟨r', t, _, hx, _⟩ := exec_total c g K hK fuel r L cmd hwf.toWFP
    (by rw [pendList_nil hwf.pend]; cases cmd <;> simpa using hf) hok
  have hsim := exec_simO c g K hK fuel r (L, []) cmd hwf.toWFP (by rw [hwf.pend]) hok
  rw [hx] at hsim
  match hy : absExecO K r.running fuel (L, []) cmd, hsim with
  | some (a', t'), ⟨e1, hw, _, hrun, hsz⟩ =>
    -- the pending array keeps its size: it is still empty
    exact ⟨r', a', t, hx, by rw [e1], hw.toWF (Array.eq_empty_of_size_eq_zero (by rw [hsz, hwf.pend]; rfl)), hrun⟩

theorem stepK_wf (c : Cfg) (g : GoodCfg c) (K : Nat → List Nat) (hK : NullOk c K) (r : Reg) (L : Ledger) (hwf : WF c r L) (op : Op) (hok : okOp L op) :
    ∃ r' L', stepK c K r op = some r' ∧ LedgerK K r L op L' ∧ WF c r' L' ∧ r'.running = runAfter r.running op := by
  cases op with
  | new p root marks =>
    cases hrun : r.running with
    | false =>
      refine ⟨r, L, ?_, LedgerK.new_stopped p root marks hrun, hwf, hrun⟩
      simp only [stepK, gcSet, hrun, Bool.not_false, if_true, Option.map]
    | true =>
      obtain ⟨r1, s, hr1, hs, wf2, hni1, hmi1, hrun1⟩ := gcSet_register_wf c g r L hwf p root hok.1 hok.2.1 hok.2.2
      have hrun2 : ({ r1 with slots := s } : Reg).running = true := hrun1.trans hrun
      -- `gcSet` with its registration half (`hr1`, `hs`) evaluated: the threshold test and the collection are left
      have hset : gcSet c K r p root marks =
          if r1.nitems > r1.mitems then
            (match gcMark c { r1 with slots := s } marks with
             | none => none
             | some r3 => gcSweep c K r3)
          else some ({ r1 with slots := s }, []) := by
        have hnr : (!r.running) = false := by rw [hrun]; rfl
        unfold gcSet
        rw [hnr]
        simp only [Bool.false_eq_true, if_false]
        rw [hr1]; simp only []
        rw [hs]; rfl
      have hth : r1.nitems > r1.mitems ↔ r.nitems + 1 > r.mitems := by rw [hni1, hmi1]
      by_cases h : r.nitems + 1 > r.mitems
      · have hnz2 : ({ r1 with slots := s } : Reg).nitems ≠ 0 := by show r1.nitems ≠ 0; omega
        obtain ⟨wf3, hrun3⟩ := markStart_wf c _ _ wf2
        obtain ⟨ra, r', L', t, hra, hsw, hL', hwf', hrun'⟩ := collect_simO c g K hK _ _ wf3 true marks
        simp only [if_true] at hra
        rw [hrun3, hrun2] at hL' hrun'
        refine ⟨r', L', ?_, LedgerK.new_collect p root marks L' hrun h hL', hwf', hrun'⟩
        simp only [stepK, hset, if_pos (hth.2 h), gcMark_eq c _ marks hnz2, hra, hsw, Option.map]
      · refine ⟨_, _, ?_, LedgerK.new_plain p root marks hrun h, wf2, hrun2⟩
        simp only [stepK, hset, if_neg (fun h' => h (hth.1 h')), Option.map]
  | newRaw p => exact ⟨r, L, rfl, LedgerK.newRaw p, hwf, rfl⟩
  | del p =>
    cases hrun : r.running with
    | false =>
      refine ⟨r, L, ?_, LedgerK.del_stopped p hrun, hwf, hrun⟩
      have hfuel : nestFuel r = (2 * (r.nitems + r.pending.size) + 3) + 1 := by unfold nestFuel; omega
      simp only [stepK, gcRem, hfuel, exec_rem_succ, hrun, Bool.not_false, if_true, Option.map]
    | true =>
      have hfuel := nestFuel_eq c r (L, []) hwf.toWFP (by rw [hwf.pend])
      obtain ⟨r', a', t, hx, ha, hw, hr⟩ := exec_wf c g K hK r L hwf (.rem p) (absFuel (L, [])) (by
        simp only [absFuel, List.length_nil]; omega)
      rw [hrun] at ha hr
      refine ⟨r', a'.1, ?_, LedgerK.del_run p a' t hrun ha, hw, hr⟩
      simp only [stepK, gcRem, hfuel, hx, Option.map]
  | delRaw p =>
    have hfuel := nestFuel_eq c r (L, []) hwf.toWFP (by rw [hwf.pend])
    obtain ⟨r', a', t, hx, ha, hw, hr⟩ := exec_wf c g K hK r L hwf (.fin p) (absFuel (L, []) + 1) (by
      simp only [absFuel, List.length_nil]; omega)
    refine ⟨r', a'.1, ?_, LedgerK.delRaw p a' t ha, hw, hr⟩
    simp only [stepK, hfuel, hx, Option.map]
  | sweep marks =>
    obtain ⟨r1, r', L', t, h1, h2, h3, h4, h5⟩ := collect_simO c g K hK r L hwf false marks
    simp only [Bool.false_eq_true, if_false] at h1
    exact ⟨r', L', by simp only [stepK, h1, h2, Option.map], LedgerK.sweep marks L' h3, h4, h5⟩
  | stop => exact ⟨_, L, rfl, LedgerK.stop, wf_running c r L hwf false, rfl⟩
  | start => exact ⟨_, L, rfl, LedgerK.start, wf_running c r L hwf true, rfl⟩

/-- the states reachable with destructors `K`, each with a ledger that explains the history so far (any ledger the abstract
    transitions `LedgerK` allow — there is at most one, `ledgerK_det` —: that the state is well formed for it is `reachK_wf`
    below) -/
inductive ReachK (c : Cfg) (K : Nat → List Nat) : Reg → Ledger → Prop where
  | init : ReachK c K Reg.init []
  | step {r : Reg} {L : Ledger} {op : Op} {r' : Reg} {L' : Ledger} :
      ReachK c K r L → okOp L op → stepK c K r op = some r' → LedgerK K r L op L' → ReachK c K r' L'

/-- the new state is well formed for EVERY ledger `LedgerK` allows: `stepK_wf` gives one, `ledgerK_det` says there is no other -/
theorem ledgerK_wf (c : Cfg) (g : GoodCfg c) (K : Nat → List Nat) (hK : NullOk c K) (r : Reg) (L : Ledger) (hwf : WF c r L)
    (op : Op) (hok : okOp L op) (r' : Reg) (L' : Ledger) (hstep : stepK c K r op = some r') (hled : LedgerK K r L op L') :
    WF c r' L' := by
  obtain ⟨r'', L'', h1, h2, h3, _⟩ := stepK_wf c g K hK r L hwf op hok
  rw [hstep] at h1
  cases h1
  rw [ledgerK_det K r L op L' L'' hwf.nodup hok hled h2]
  exact h3

theorem reachK_wf (c : Cfg) (g : GoodCfg c) (K : Nat → List Nat) (hK : NullOk c K) (r : Reg) (L : Ledger) (h : ReachK c K r L) :
    WF c r L := by
  induction h with
  | init => exact wf_init c
  | step _ hok hstep hled ih => exact ledgerK_wf c g K hK _ _ ih _ hok _ _ hstep hled

theorem reachK_progress (c : Cfg) (g : GoodCfg c) (K : Nat → List Nat) (hK : NullOk c K) (r : Reg) (L : Ledger) (h : ReachK c K r L)
    (op : Op) (hok : okOp L op) : ∃ r' L', stepK c K r op = some r' ∧ LedgerK K r L op L' ∧ ReachK c K r' L' := by
  obtain ⟨r', L', h1, h2, _⟩ := stepK_wf c g K hK r L (reachK_wf c g K hK r L h) op hok
  exact ⟨r', L', h1, h2, ReachK.step h hok h1 h2⟩

theorem step_eq_stepK (c : Cfg) (r : Reg) (op : Op) : step c r op = stepK c noK r op := by cases op <;> rfl

theorem nullOk_noK (c : Cfg) : NullOk c noK := Or.inr (fun _ h => by cases h)

theorem step_wf (c : Cfg) (g : GoodCfg c) (r : Reg) (L : Ledger) (hwf : WF c r L) (op : Op) (hok : okOp L op) :
    ∃ r', step c r op = some r' ∧ WF c r' (ledgerStep r L op) ∧ r'.running = runAfter r.running op := by
  obtain ⟨r', L', h1, h2, h3, h4⟩ := stepK_wf c g noK (nullOk_noK c) r L hwf op hok
  rw [ledgerK_noK h2] at h3
  exact ⟨r', (step_eq_stepK c r op).trans h1, h3, h4⟩

theorem reach_wf (c : Cfg) (g : GoodCfg c) (r : Reg) (L : Ledger) (h : Reach c r L) : WF c r L := by
  induction h with
  | init => exact wf_init c
  | step _ hok hstep ih =>
    obtain ⟨r'', h1, h2, _⟩ := step_wf c g _ _ ih _ hok
    rw [hstep] at h1
    cases h1
    exact h2

theorem collect_wf (c : Cfg) (g : GoodCfg c) (r : Reg) (L : Ledger) (hwf : WF c r L) (roots : Bool) (marks : List Nat) :
    ∃ r1 r' t, markAll c (if roots then markRoots r else r) marks = some r1 ∧ gcSweep c noK r1 = some (r', t) ∧
      WF c r' (collectL L marks) ∧ r'.running = r.running := by
  obtain ⟨r1, r', L', t, h1, h2, ⟨order, a', t', _, _, hrun, rfl⟩, h4, h5⟩ := collect_simO c g noK (nullOk_noK c) r L hwf roots marks
  rw [absFinLoop_noK _ _ _ _ _ _ _ hrun] at h4
  exact ⟨r1, r', t, h1, h2, h4, h5⟩

theorem gcMark_collect_wf (c : Cfg) (g : GoodCfg c) (hu : c.markUnmarks = true) (r : Reg) (L : Ledger) (mk : Nat → Bool → Bool)
    (h : Marked c r L mk) (hp : r.pending = #[]) (hnz : r.nitems ≠ 0) (marks : List Nat) :
    ∃ r1 r' t, gcMark c r marks = some r1 ∧ gcSweep c noK r1 = some (r', t) ∧ WF c r' (collectL L marks) ∧ r'.running = r.running := by
  have e := collect_wf c g (unmark r) L ((unmark_marked h).wf hp) true marks
  rw [gcMark_eq c r marks hnz, markStart, if_pos hu]
  exact e

theorem gcDel_wf (c : Cfg) (g : GoodCfg c) (hu : c.delUnmarks = true) (r : Reg) (L : Ledger) (mk : Nat → Bool → Bool)
    (h : Marked c r L mk) (hp : r.pending = #[]) :
    ∃ r' t, gcDel c noK r = some (r', t) ∧ WF c r' (collectL L []) ∧ r'.running = r.running := by
  obtain ⟨r1, r', t, e1, e2, e3, e4⟩ := collect_wf c g (unmark r) L ((unmark_marked h).wf hp) false []
  cases (Option.some.inj e1 : unmark r = r1)
  rw [gcDel, if_pos hu]
  exact ⟨r', t, e2, e3, e4⟩

end Cello.Registry
