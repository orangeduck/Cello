/-
  Lemmas for C10: the Tree as a search tree of entries (`Sh`) refines its iteration sequence, for every shape and every header /
  key / value width: on the in-order sequence `shSet` is `treeSet`, `shRem` (with the relocation of the in-order neighbour at the
  width of the source) is `treeRem`, and `shGet` finds the one entry whose key is eq to the argument.
-/
import Cello.Hash
import CelloProofs.Lemmas.HashTree
import CelloProofs.Lemmas.HashMove

namespace Cello.Hash

theorem shMax_toList : ∀ (t : Sh) (p : Scalar × Scalar) (t' : Sh), shMax t = some (p, t') → t.toList = t'.toList ++ [p] := by
  intro t
  induction t with
  | nil => intro p t' h; simp [shMax] at h
  | node l e r _ ihr =>
    intro p t' h
    simp only [shMax] at h
    cases hr : shMax r with
    | none =>
      simp only [hr, Option.some.injEq, Prod.mk.injEq] at h
      obtain ⟨rfl, rfl⟩ := h
      cases r with
      | nil => simp [Sh.toList]
      | node rl re rr => simp only [shMax] at hr; cases h2 : shMax rr <;> simp [h2] at hr
    | some q =>
      obtain ⟨m, r'⟩ := q
      simp only [hr, Option.some.injEq, Prod.mk.injEq] at h
      obtain ⟨rfl, rfl⟩ := h
      simp [Sh.toList, ihr m r' hr]

theorem shMax_isSome_of_node (l : Sh) (e : Scalar × Scalar) (r : Sh) : ∃ q, shMax (.node l e r) = some q := by
  simp only [shMax]; cases shMax r with
  | none => exact ⟨_, rfl⟩
  | some q => exact ⟨_, rfl⟩

def EntriesOf (kt : Ty) (L : Layout) (es : List (Scalar × Scalar)) : Prop := ∀ e ∈ es, e.1.ty = kt ∧ EntrySized L e

theorem toList_shRemHere (L : Layout) (l : Sh) (e : Scalar × Scalar) (r : Sh)
    (hs : ∀ x ∈ l.toList ++ e :: r.toList, EntrySized L x) :
    (shRemHere L l e r).toList = l.toList ++ r.toList := by
  cases l with
  | nil => cases r <;> simp [shRemHere, Sh.toList]
  | node ll le lr =>
    cases r with
    | nil => simp [shRemHere, Sh.toList]
    | node rl re rr =>
      obtain ⟨⟨p, l'⟩, hq⟩ := shMax_isSome_of_node ll le lr
      have hl := shMax_toList _ p l' hq
      simp only [shRemHere, hq]
      have hp : EntrySized L p := hs p (by rw [hl]; simp)
      have he : EntrySized L e := hs e (by simp)
      simp only [Sh.toList, treeRelocate_full L p e hp he]
      rw [show (Sh.node ll le lr).toList = ll.toList ++ le :: lr.toList from rfl] at hl
      rw [hl]; simp

theorem toList_shSet (addr : Nat → Bytes) (k v : Scalar) (hk : k.isNaN = false) :
    ∀ (t : Sh), TreeSeq addr t.toList → (∀ e ∈ t.toList, e.1.ty = k.ty) →
      (shSet addr t k v).toList = treeSet addr t.toList k v := by
  intro t
  induction t with
  | nil => intro _ _; rfl
  | node l e r ihl ihr =>
    intro hseq hty
    simp only [Sh.toList] at hseq hty
    obtain ⟨hl, her, -⟩ := List.pairwise_append.mp hseq
    obtain ⟨c, hc⟩ := scalarCmp_isSome_of_ty addr e.1 k (hty e (by simp))
    simp only [shSet, hc, Sh.toList]
    by_cases hneg : c < 0
    · simp only [show ¬ c = 0 by omega, hneg, if_false, if_true, Sh.toList]
      rw [ihl hl (fun x hx => hty x (by simp [hx])), treeSet_append_lt addr _ _ e k v c hc hneg]
    · rw [treeSet_append_gt addr l.toList (e :: r.toList) k v (hseq.above hk hc (by omega))]
      by_cases h0 : c = 0
      · subst h0; simp [Sh.toList, treeSet, hc]
      · simp only [h0, hneg, if_false, Sh.toList, treeSet, hc]
        rw [ihr (List.pairwise_cons.mp her).2 (fun x hx => hty x (by simp [hx]))]

theorem toList_shRem (addr : Nat → Bytes) (L : Layout) (k : Scalar) (hk : k.isNaN = false) :
    ∀ (t : Sh), TreeSeq addr t.toList → (∀ e ∈ t.toList, e.1.ty = k.ty ∧ EntrySized L e) →
      (shRem addr L t k).map Sh.toList = treeRem addr t.toList k := by
  intro t
  induction t with
  | nil => intro _ _; rfl
  | node l e r ihl ihr =>
    intro hseq hty
    simp only [Sh.toList] at hseq hty
    obtain ⟨hl, her, -⟩ := List.pairwise_append.mp hseq
    obtain ⟨c, hc⟩ := scalarCmp_isSome_of_ty addr e.1 k (hty e (by simp)).1
    have hlno : 0 ≤ c → treeRem addr l.toList k = none := fun h0 =>
      treeRem_none_of_ne addr _ k fun x hx => (hseq.above hk hc h0 x hx).keyEq_false.1
    have hrno : c < 0 → treeRem addr r.toList k = none := fun hneg =>
      treeRem_none_of_ne addr _ k fun y hy => (hseq.below hc hneg y hy).keyEq_false.2
    simp only [shRem, hc, Sh.toList]
    rw [treeRem_append]
    by_cases h0 : c = 0
    · subst h0
      simp only [if_true, hlno (Int.le_refl 0), Option.map_some, treeRem, show keyEq addr e.1 k = true by simp [keyEq, hc]]
      rw [toList_shRemHere L l e r (fun x hx => (hty x hx).2)]
    · have hke : keyEq addr e.1 k = false := by simp [keyEq, hc, h0]
      by_cases hneg : c < 0
      · simp only [h0, hneg, if_false, if_true]
        rw [← ihl hl (fun x hx => hty x (by simp [hx]))]
        cases shRem addr L l k <;> simp [Sh.toList, treeRem, hke, hrno hneg]
      · simp only [h0, hneg, if_false, hlno (by omega), treeRem, hke, Bool.false_eq_true]
        rw [← ihr (List.pairwise_cons.mp her).2 (fun x hx => hty x (by simp [hx]))]
        cases shRem addr L r k <;> simp [Sh.toList]

theorem toList_shGet (addr : Nat → Bytes) (k : Scalar) (hk : k.isNaN = false) :
    ∀ (t : Sh), TreeSeq addr t.toList → (∀ e ∈ t.toList, e.1.ty = k.ty) → shGet addr t k = seqGet addr t.toList k := by
  intro t
  induction t with
  | nil => intro _ _; rfl
  | node l e r ihl ihr =>
    intro hseq hty
    simp only [Sh.toList] at hseq hty
    obtain ⟨hl, her, -⟩ := List.pairwise_append.mp hseq
    obtain ⟨c, hc⟩ := scalarCmp_isSome_of_ty addr e.1 k (hty e (by simp))
    have hlno : 0 ≤ c → seqGet addr l.toList k = none := fun h0 =>
      seqGet_none_of_ne addr _ k fun x hx => (hseq.above hk hc h0 x hx).keyEq_false.1
    have hrno : c < 0 → seqGet addr r.toList k = none := fun hneg =>
      seqGet_none_of_ne addr _ k fun y hy => (hseq.below hc hneg y hy).keyEq_false.2
    have hcons : seqGet addr (e :: r.toList) k = if keyEq addr e.1 k then some e.2 else seqGet addr r.toList k := by
      unfold seqGet; simp only [List.find?_cons]; cases keyEq addr e.1 k <;> simp
    simp only [shGet, hc, Sh.toList]
    rw [seqGet_append, hcons]
    by_cases h0 : c = 0
    · subst h0
      simp [hlno (Int.le_refl 0), show keyEq addr e.1 k = true by simp [keyEq, hc]]
    · by_cases hneg : c < 0
      · simp only [h0, hneg, if_false, if_true]
        rw [ihl hl (fun x hx => hty x (by simp [hx])), (Above.of_neg hc hneg).keyEq_false.2, hrno hneg]
        cases seqGet addr l.toList k <;> simp
      · simp only [h0, hneg, if_false]
        rw [hlno (by omega), (Above.keyEq_false ⟨c, hc, by omega⟩).1, ihr (List.pairwise_cons.mp her).2 (fun x hx => hty x (by simp [hx]))]
        simp

def ShInv (addr : Nat → Bytes) (kt : Ty) (L : Layout) (t : Sh) : Prop :=
  TreeSeq addr t.toList ∧ ∀ e ∈ t.toList, (e.1.ty = kt ∧ e.1.isNaN = false) ∧ EntrySized L e

/-- the shapes a Tree with key type `kt` and layout `L` can reach: `Tree_Set`, `Tree_Rem`, and — standing for the rotations of
    `Tree_Set_Fix` / `Tree_Rem_Fix` — any relinking that keeps the in-order sequence -/
inductive ShReach (addr : Nat → Bytes) (kt : Ty) (L : Layout) : Sh → Prop
  | nil : ShReach addr kt L .nil
  | set {t : Sh} {k v : Scalar} : ShReach addr kt L t → k.ty = kt → k.isNaN = false → EntrySized L (k, v) →
      ShReach addr kt L (shSet addr t k v)
  | rem {t t' : Sh} {k : Scalar} : ShReach addr kt L t → k.ty = kt → k.isNaN = false → shRem addr L t k = some t' →
      ShReach addr kt L t'
  | relink {t t' : Sh} : ShReach addr kt L t → t'.toList = t.toList → ShReach addr kt L t'

theorem ShInv.set {addr : Nat → Bytes} {kt : Ty} {L : Layout} {t : Sh} {k v : Scalar} (h : ShInv addr kt L t) (hty : k.ty = kt)
    (hk : k.isNaN = false) (hs : EntrySized L (k, v)) : ShInv addr kt L (shSet addr t k v) := by
  obtain ⟨hseq, hes⟩ := h
  have e := toList_shSet addr k v hk t hseq (fun x hx => by rw [hty]; exact (hes x hx).1.1)
  refine ⟨by rw [e]; exact treeSet_treeSeq addr _ k v hk hseq, fun x hx => ?_⟩
  rw [e] at hx
  rcases mem_treeSet addr _ k v x hx with rfl | hx
  · exact ⟨⟨hty, hk⟩, hs⟩
  · exact hes x hx

theorem ShInv.rem {addr : Nat → Bytes} {kt : Ty} {L : Layout} {t t' : Sh} {k : Scalar} (h : ShInv addr kt L t) (hty : k.ty = kt)
    (hk : k.isNaN = false) (hr : shRem addr L t k = some t') : ShInv addr kt L t' := by
  obtain ⟨hseq, hes⟩ := h
  have e := toList_shRem addr L k hk t hseq (fun x hx => by rw [hty]; exact ⟨(hes x hx).1.1, (hes x hx).2⟩)
  rw [hr] at e
  simp only [Option.map_some] at e
  exact ⟨treeRem_treeSeq addr _ k _ e.symm hseq, fun x hx => hes x ((treeRem_sublist addr _ k _ e.symm).subset hx)⟩

theorem ShReach.inv {addr : Nat → Bytes} {kt : Ty} {L : Layout} {t : Sh} (h : ShReach addr kt L t) : ShInv addr kt L t := by
  induction h with
  | nil => exact ⟨by simp [Sh.toList, TreeSeq], by simp [Sh.toList]⟩
  | set _ hty hk hs ih => exact ih.set hty hk hs
  | rem _ hty hk hr ih => exact ih.rem hty hk hr
  | relink _ he ih => exact ⟨by rw [he]; exact ih.1, by rw [he]; exact ih.2⟩

theorem shOfEntries_eq (addr : Nat → Bytes) (kt : Ty) (es : List (Scalar × Scalar))
    (hes : ∀ e ∈ es, e.1.ty = kt ∧ e.1.isNaN = false) : (shOfEntries addr es).toList = treeOfEntries addr es := by
  unfold shOfEntries treeOfEntries
  refine (List.foldl_rel (r := fun (t : Sh) l => t.toList = l ∧ TreeSeq addr l ∧ ∀ x ∈ l, x.1.ty = kt) (a := .nil) (b := [])
    ⟨rfl, List.Pairwise.nil, by simp⟩ fun e he t _ ⟨ht, hseq, hty⟩ => ?_).1
  subst ht
  obtain ⟨hk, hnan⟩ := hes e he
  refine ⟨toList_shSet addr e.1 e.2 hnan t hseq (fun x hx => by rw [hty x hx, hk]), treeSet_treeSeq addr _ e.1 e.2 hnan hseq,
    fun x hx => ?_⟩
  rcases mem_treeSet addr _ e.1 e.2 x hx with rfl | hx
  · exact hk
  · exact hty x hx

theorem shOfEntries_toList (addr : Nat → Bytes) (kt : Ty) (es : List (Scalar × Scalar)) (hseq : TreeSeq addr es)
    (hty : ∀ e ∈ es, e.1.ty = kt ∧ e.1.isNaN = false) : (shOfEntries addr es).toList = es := by
  rw [shOfEntries_eq addr kt es hty, treeOfEntries_of_treeSeq addr es hseq]

end Cello.Hash
