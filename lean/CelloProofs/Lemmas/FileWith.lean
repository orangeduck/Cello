/-
  C20, the `with` construct (Cello/File.lean, "The `with` construct"), for every stdio: each clause of the for loop is a composition of
  `Multi.step`s, so a program that never copies / assigns an open File keeps `Tracks`; the events of a program are accepted by the
  protocol automaton `wtrack`; one block by the way it is left (`execStmt_withIn_stepped`: through the step clause; `_left`: break, return
  or an exception; `_none`: the init clause threw); for `with (f in new(File, …))`, the init clause over a constructor and a body of writes.
-/
import CelloProofs.Lemmas.FileTrack

namespace Cello.File

variable {σ : Type} (io : Stdio σ)

theorem stepO_fst (cfg : Cfg) (s : Multi σ) (o : Nat) (m : MOp) :
    (Multi.stepO io cfg s o m).1 = s.step io cfg o m := by
  simp only [Multi.stepO, Multi.step]
  cases s.stepR io cfg o m with
  | none => rfl
  | some p => rfl

theorem evalSrc_m (cfg : Cfg) (s : Multi σ) (src : Src) :
    (evalSrc io cfg s src).m = match src with
      | .var _ => s
      | .newFile name args => s.step io cfg (freshName s.objs name) (.new args) := by
  cases src with
  | var o => simp only [evalSrc]; cases lookup o s.objs <;> rfl
  | newFile name args =>
    simp only [evalSrc]
    rw [← stepO_fst]
    rcases Multi.stepO io cfg s (freshName s.objs name) (.new args) with ⟨s', _ | r⟩ <;> rfl

theorem evalSrc_evs (cfg : Cfg) (s : Multi σ) (src : Src) :
    (evalSrc io cfg s src).evs = [.eval src (evalSrc io cfg s src).x] := by
  cases src with
  | var o => simp only [evalSrc]; cases lookup o s.objs <;> rfl
  | newFile name args =>
    simp only [evalSrc]
    rcases Multi.stepO io cfg s (freshName s.objs name) (.new args) with ⟨s', _ | r⟩ <;> rfl

theorem evalSrc_tracks (s : Multi σ) (src : Src) : Tracks s (evalSrc io Cfg.fixed s src).m := by
  rw [evalSrc_m]
  cases src with
  | var o => exact Tracks.refl s
  | newFile name args => exact Tracks.step io s _ _ rfl

theorem initClause_m (cfg : Cfg) (s : Multi σ) (src : Src) :
    (initClause io cfg s src).m = match (evalSrc io cfg s src).x with
      | none => (evalSrc io cfg s src).m
      | some x => (evalSrc io cfg s src).m.step io cfg x (.op .withEnter) := by
  simp only [initClause]
  cases h : (evalSrc io cfg s src).x <;> simp

theorem initClause_evs (cfg : Cfg) (s : Multi σ) (src : Src) :
    (initClause io cfg s src).evs = match (initClause io cfg s src).x with
      | none => [.eval src none]
      | some x => [.eval src (some x), .start x] := by
  simp only [initClause]
  cases h : (evalSrc io cfg s src).x <;> simp [evalSrc_evs, h]

theorem initClause_tracks (s : Multi σ) (src : Src) : Tracks s (initClause io Cfg.fixed s src).m := by
  rw [initClause_m]
  cases (evalSrc io Cfg.fixed s src).x with
  | none => exact evalSrc_tracks io s src
  | some x => exact Tracks.trans (evalSrc_tracks io s src) (Tracks.step io _ _ _ rfl)

theorem stopIn_m (cfg : Cfg) (s : Multi σ) (y : Nat) (c0 : List Call) (e0 : List WEv) :
    (stopIn io cfg s y c0 e0).m = s.step io cfg y (.op .withExit) := by
  simp only [stopIn]
  rw [← stepO_fst]
  rcases Multi.stepO io cfg s y (.op .withExit) with ⟨s', _ | r⟩ <;> rfl

theorem stopIn_evs (cfg : Cfg) (s : Multi σ) (y : Nat) (c0 : List Call) (e0 : List WEv) :
    (stopIn io cfg s y c0 e0).evs = e0 ++ [.stop y] := by
  simp only [stopIn]
  rcases Multi.stepO io cfg s y (.op .withExit) with ⟨s', _ | r⟩ <;> rfl

theorem stepClause_fixed (cfg : Cfg) (s : Multi σ) (src : Src) (x : Nat) :
    (stepClause io cfg WithCfg.fixed s src x).m = s.step io cfg x (.op .withExit) ∧
      (stepClause io cfg WithCfg.fixed s src x).evs = [.stop x] := by
  simp only [stepClause, WithCfg.fixed]
  exact ⟨stopIn_m io cfg s x [] [], by rw [stopIn_evs]; rfl⟩

theorem stepClause_tracks (w : WithCfg) (s : Multi σ) (src : Src) (x : Nat) :
    Tracks s (stepClause io Cfg.fixed w s src x).m := by
  simp only [stepClause]
  cases w.stepArg with
  | bound => simp only []; rw [stopIn_m]; exact Tracks.step io s _ _ rfl
  | source =>
    simp only []
    cases h : (evalSrc io Cfg.fixed s src).x with
    | none => simp only []; exact evalSrc_tracks io s src
    | some y => simp only []; rw [stopIn_m]; exact Tracks.trans (evalSrc_tracks io s src) (Tracks.step io _ _ _ rfl)

mutual
theorem execStmt_tracks (w : WithCfg) :
    ∀ (st : Stmt) (s : WSys σ), cleanStmt io Cfg.fixed w st s = true → Tracks s.m (execStmt io Cfg.fixed w st s).m
  | .op o m, s, hc => by
    simp only [cleanStmt, Bool.not_eq_true'] at hc
    simp only [execStmt]; exact Tracks.step io s.m o m hc
  | .withIn src body leave, s, hc => by
    simp only [execStmt]
    simp only [cleanStmt] at hc
    cases hx : (initClause io Cfg.fixed s.m src).x with
    | none => simp only []; exact initClause_tracks io s.m src
    | some x =>
      simp only [hx] at hc
      simp only []
      have hb := execList_tracks w body ⟨(initClause io Cfg.fixed s.m src).m, s.ev ++ (initClause io Cfg.fixed s.m src).evs⟩ hc
      have hi := initClause_tracks io s.m src
      cases leave.runsStep
      · exact Tracks.trans hi hb
      · exact Tracks.trans (Tracks.trans hi hb) (stepClause_tracks io w _ src x)
theorem execList_tracks (w : WithCfg) :
    ∀ (p : List Stmt) (s : WSys σ), cleanList io Cfg.fixed w p s = true → Tracks s.m (execList io Cfg.fixed w p s).m
  | [], s, _ => by simp only [execList]; exact Tracks.refl s.m
  | st :: rest, s, hc => by
    simp only [cleanList, Bool.and_eq_true] at hc
    simp only [execList]
    exact Tracks.trans (execStmt_tracks w st s hc.1) (execList_tracks w rest _ hc.2)
end

theorem wtrack_append (c : List Nat × Option Nat) (a b : List WEv) :
    wtrack c (a ++ b) = (wtrack c a).bind (fun c' => wtrack c' b) := by
  fun_induction wtrack c a with
  | case1 c => rfl
  | case2 c e es c1 he ih => simpa [wtrack, he] using ih
  | case3 c e es he => simp [wtrack, he]

theorem wtrack_append_of {c c' c'' : List Nat × Option Nat} {a b : List WEv}
    (h1 : wtrack c a = some c') (h2 : wtrack c' b = some c'') : wtrack c (a ++ b) = some c'' := by
  rw [wtrack_append, h1]; exact h2

/-- one accepted event.  First line: an evaluation either fails or leaves a value pending, and only `start` takes the pending value.
    Second line: `start` opens a block, `stop` / `left` close the innermost one. -/
theorem wtrackEv_count {c c' : List Nat × Option Nat} {e : WEv} (h : wtrackEv c e = some c') :
    (if isEval e then 1 else 0) + (if c.2.isSome then 1 else 0)
        = (if isStart e then 1 else 0) + (if isEvalFail e then 1 else 0) + (if c'.2.isSome then 1 else 0) ∧
      c.1.length + (if isStart e then 1 else 0) = c'.1.length + (if isExit e then 1 else 0) := by
  obtain ⟨st, pend⟩ := c
  cases e with
  | eval src res => cases pend <;> cases res <;> simp only [wtrackEv, reduceCtorEq] at h <;> cases h <;> exact ⟨rfl, rfl⟩
  | start y =>
    cases pend <;> simp only [wtrackEv, reduceCtorEq] at h
    split at h <;> cases h
    exact ⟨rfl, rfl⟩
  | stop y =>
    cases pend <;> cases st <;> simp only [wtrackEv, reduceCtorEq] at h
    split at h <;> cases h
    exact ⟨rfl, rfl⟩
  | left how =>
    cases pend <;> cases st <;> simp only [wtrackEv, reduceCtorEq] at h
    cases h
    exact ⟨rfl, rfl⟩

/-- summed over a run; `c.1` / `c'.1` are the blocks open at the beginning / at the end, `c.2` / `c'.2` an evaluation pending -/
theorem wtrack_count (c c' : List Nat × Option Nat) (evs : List WEv) (h : wtrack c evs = some c') :
    (evs.filter isEval).length + (if c.2.isSome then 1 else 0)
        = (evs.filter isStart).length + (evs.filter isEvalFail).length + (if c'.2.isSome then 1 else 0) ∧
      c.1.length + (evs.filter isStart).length
        = c'.1.length + (evs.filter isExit).length := by
  fun_induction wtrack c evs with
  | case1 c => cases h; simp
  | case2 c e es c1 he ih =>
    have := wtrackEv_count he
    have := ih h
    simp only [length_filter_cons]
    omega
  | case3 c e es he => cases h

mutual
/-- under the macro as it is, the events of any statement are accepted by the automaton from any stack of enclosing
    blocks, and leave that stack as it was -/
theorem execStmt_protocol (cfg : Cfg) : ∀ (st : Stmt) (s : WSys σ) (stack : List Nat),
    ∃ evs, (execStmt io cfg WithCfg.fixed st s).ev = s.ev ++ evs ∧ wtrack (stack, none) evs = some (stack, none)
  | .op o m, s, stack => ⟨[], by simp [execStmt], rfl⟩
  | .withIn src body leave, s, stack => by
    simp only [execStmt]
    have hie := initClause_evs io cfg s.m src
    cases hx : (initClause io cfg s.m src).x with
    | none =>
      rw [hx] at hie
      exact ⟨_, rfl, by rw [hie]; rfl⟩
    | some x =>
      rw [hx] at hie
      simp only []
      obtain ⟨bevs, hb1, hb2⟩ := execList_protocol cfg body
        ⟨(initClause io cfg s.m src).m, s.ev ++ (initClause io cfg s.m src).evs⟩ (x :: stack)
      have hinit : wtrack (stack, none) (initClause io cfg s.m src).evs = some (x :: stack, none) := by
        rw [hie]; simp [wtrack, wtrackEv]
      cases leave.runsStep
      · refine ⟨(initClause io cfg s.m src).evs ++ bevs ++ [.left leave], ?_, ?_⟩
        · show _ ++ [WEv.left leave] = _; rw [hb1]; simp [List.append_assoc]
        · exact wtrack_append_of (wtrack_append_of hinit hb2) (by simp [wtrack, wtrackEv])
      · refine ⟨(initClause io cfg s.m src).evs ++ bevs ++ [.stop x], ?_, ?_⟩
        · show _ ++ (stepClause io cfg WithCfg.fixed _ src x).evs = _
          rw [hb1, (stepClause_fixed io cfg _ src x).2]; simp [List.append_assoc]
        · exact wtrack_append_of (wtrack_append_of hinit hb2) (by simp [wtrack, wtrackEv])
theorem execList_protocol (cfg : Cfg) : ∀ (p : List Stmt) (s : WSys σ) (stack : List Nat),
    ∃ evs, (execList io cfg WithCfg.fixed p s).ev = s.ev ++ evs ∧ wtrack (stack, none) evs = some (stack, none)
  | [], s, stack => ⟨[], by simp [execList], rfl⟩
  | st :: rest, s, stack => by
    simp only [execList]
    obtain ⟨e1, h1, t1⟩ := execStmt_protocol cfg st s stack
    obtain ⟨e2, h2, t2⟩ := execList_protocol cfg rest (execStmt io cfg WithCfg.fixed st s) stack
    exact ⟨e1 ++ e2, by rw [h2, h1, List.append_assoc], wtrack_append_of t1 t2⟩
end

theorem execStmt_withIn_stepped (cfg : Cfg) (src : Src) (body : List Stmt) (leave : Leave) (s : WSys σ) (x : Nat)
    (hx : (initClause io cfg s.m src).x = some x) (hl : leave.runsStep = true) :
    execStmt io cfg WithCfg.fixed (.withIn src body leave) s =
      let b := execList io cfg WithCfg.fixed body ⟨(initClause io cfg s.m src).m, s.ev ++ (initClause io cfg s.m src).evs⟩
      ⟨b.m.step io cfg x (.op .withExit), b.ev ++ [.stop x]⟩ := by
  simp only [execStmt, hx, hl, if_true]
  rw [(stepClause_fixed io cfg _ src x).1, (stepClause_fixed io cfg _ src x).2]

theorem execStmt_withIn_left (cfg : Cfg) (w : WithCfg) (src : Src) (body : List Stmt) (leave : Leave) (s : WSys σ) (x : Nat)
    (hx : (initClause io cfg s.m src).x = some x) (hl : leave.runsStep = false) :
    execStmt io cfg w (.withIn src body leave) s =
      let b := execList io cfg w body ⟨(initClause io cfg s.m src).m, s.ev ++ (initClause io cfg s.m src).evs⟩
      ⟨b.m, b.ev ++ [.left leave]⟩ := by
  simp only [execStmt, hx, hl]
  simp

theorem execStmt_withIn_none (cfg : Cfg) (w : WithCfg) (src : Src) (body : List Stmt) (leave : Leave) (s : WSys σ)
    (hx : (initClause io cfg s.m src).x = none) :
    execStmt io cfg w (.withIn src body leave) s =
      ⟨(initClause io cfg s.m src).m, s.ev ++ (initClause io cfg s.m src).evs⟩ := by
  simp only [execStmt, hx]

/-- File_Close through the step clause leaves the object holding nothing (also when fclose fails, also when the body
    closed or deleted it) -/
theorem held_step_withExit (s : Multi σ) (x : Nat) : (s.step io Cfg.fixed x (.op .withExit)).held x = none := by
  cases hl : lookup x s.objs with
  | none => simp [Multi.step, Multi.stepR, Multi.held, hl]
  | some f => rw [Multi.step_op io _ s hl, held_apply_self]; exact step_closes io s.lib f .withExit rfl

/-- the init clause over a constructor expression: either the constructor threw — no value, and no object under the fresh
    name — or the value is the fresh name -/
theorem initClause_newFile (cfg : Cfg) (s : Multi σ) (name : Nat) (args : Option (Nat × Mode)) :
    ((initClause io cfg s (.newFile name args)).x = none ∧
        (initClause io cfg s (.newFile name args)).m.held (freshName s.objs name) = none) ∨
      (initClause io cfg s (.newFile name args)).x = some (freshName s.objs name) := by
  have hfree := freshName_free s.objs name
  simp only [initClause, evalSrc, Multi.stepO, Multi.stepR, hfree]
  cases ((fileNew io cfg s.lib args).val (fun _ => Val.unit)).out with
  | ok v => exact Or.inr rfl
  | raised e => exact Or.inl ⟨rfl, held_apply_self _ _ _ false⟩
  | ub => exact Or.inl ⟨rfl, held_apply_self _ _ _ false⟩

/-- … and when the name asked for is free and the constructor succeeds: one `new`, one `start_in`, for every stdio (the entry is
    written twice: by `new`, and again by `start_in`, whose `Op.withEnter` puts back what it found) -/
theorem initClause_new_ok (cfg : Cfg) (s : Multi σ) (name : Nat) (args : Option (Nat × Mode)) (hfree : lookup name s.objs = none)
    (hok : (fileNew io cfg s.lib args).out = .ok ()) :
    initClause io cfg s (.newFile name args) =
      ⟨⟨(fileNew io cfg s.lib args).lib, insert name (fileNew io cfg s.lib args).f (insert name (fileNew io cfg s.lib args).f s.objs),
          s.log ++ (fileNew io cfg s.lib args).calls.map (fun c => (name, c))⟩,
        some name, .ok .unit, (fileNew io cfg s.lib args).calls, [.eval (.newFile name args) (some name), .start name]⟩ := by
  simp [initClause, evalSrc, freshName, hfree, Multi.stepO, Multi.stepR, R.val, hok, Out.map, Multi.apply, Multi.step, step]

/-- the statements `swrite(f, chunk)` for each chunk -/
def writeStmts (o : Nat) (cs : List (List Byte)) : List Stmt := cs.map (fun c => Stmt.op o (.op (.write c)))

theorem execList_writes (cfg : Cfg) (w : WithCfg) (o : Nat) (h : Handle) (cs : List (List Byte)) (s : WSys σ)
    (ho : lookup o s.m.objs = some (some h)) :
    let e := execList io cfg w (writeStmts o cs) s
    e.m.lib = (writeAll io s.m.lib (some h) cs).1 ∧ lookup o e.m.objs = some (some h) ∧ e.ev = s.ev ∧
      e.m.log = s.m.log ++ (cs.map (fun _ => (o, Call.on .fwrite h))) := by
  induction cs generalizing s with
  | nil => simp [writeStmts, execList, writeAll, ho]
  | cons c cs ih =>
    have ih' := ih ⟨s.m.step io cfg o (.op (.write c)), s.ev⟩ (by rw [Multi.step_op io cfg s.m ho]; exact lookup_insert_self _ _ _)
    rw [Multi.step_op io cfg s.m ho] at ih'
    simp only [writeStmts, List.map_cons, execList, execStmt] at ih' ⊢
    rw [Multi.step_op io cfg s.m ho]
    obtain ⟨a1, a2, a3, a4⟩ := ih'
    exact ⟨a1, a2, a3, by rw [a4]; simp [Multi.apply, step, R.val, fileWrite_some, List.append_assoc]⟩

end Cello.File
