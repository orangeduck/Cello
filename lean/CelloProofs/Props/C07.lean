/-
  C07 — try / catch / throw follow block structure.

  The property theorems. The machines: `run` (Cello/Exn.lean) walks the filter by index (fix a0ef2da), `runOld` with the
  foreach of the code before that fix, `runW w` compares typed objects; `runNow` / `runNowW w`, defined first below, are
  the ones the flags of CelloGen/Exn.lean select, i.e. the code as it is in /repo.

  Domain of the refinement theorems (each part is an explicit, decidable hypothesis; what happens outside is modelled
  too and exhibited by the `…_refuted` theorems below):
    * objects: every `throw` names a non-NULL object whose message format has enough arguments, no filter lists
      NULL (`inDomain`), the variable bound at the start is non-NULL. Built into the representation: exception
      objects are static or heap objects that outlive the jump (addresses), and `eq` on them is identity and cannot
      raise (the library's `…Error` Type objects, compared by name).
    * depth: the try-nesting fits into the jump-buffer array (`s.depth + nest p ≤ maxDepth`); beyond it the machine
      aborts (`C07_overflow_aborts`), it never performs an undefined jump and never hangs (`C07_no_undefined_jump`).
      The property's own nesting bound is the FIXED number `nestBound` = 2048 (Cello/Exn.lean), not the generated
      constant: `C07_depth_capacity` (`nestBound ≤ CelloGen.Exn.maxDepth`) is the obligation a shrunk
      `EXCEPTION_MAX_DEPTH` breaks, and the `…_within_nesting_bound…` theorems rest on it.
  Catch filters are arbitrary lists. The hypothesis `nodupFilters` (the territory of finding KF-C07-filter-dup, which
  fix a0ef2da repaired) appears only in the theorems about the OLD machine (`C07_foreach_walk_…`).
  Further domains, each with its own section below: exception objects of any type (`World`; hypothesis `noClash`,
  finding KF-C07-filter-eq-raises) and signals delivered as exceptions (hypothesis: each signal once per thread,
  finding KF-C07-signal-once).
-/
import Cello.Exn
import CelloGen.Exn
import CelloProofs.Lemmas.ExnWalk
import CelloProofs.Lemmas.ExnSteps
import CelloProofs.Lemmas.ExnRefine
import CelloProofs.Lemmas.ExnSafe
import Cello.ExnSignal
import CelloProofs.Lemmas.ExnSignal

namespace Cello.Exn

/-- the machine for the code as it is in /repo now: every source-derived switch is the one the translator read -/
def runNow : Prog → Nat → St → St × List Ev × Sig :=
  runCfg CelloGen.Exn.catchWalksFilterWithForeachEq CelloGen.Exn.catchConsumes CelloGen.Exn.maxDepth

/-- the machine for the code as it is in /repo now, exception objects of any type -/
def runNowW (w : World) : Prog → Nat → St → St × List Ev × Sig :=
  runCfgW w CelloGen.Exn.catchWalksFilterWithForeachEq CelloGen.Exn.catchConsumes CelloGen.Exn.maxDepth

/-- **C07 (core).** For every program tree inside the object domain — catch filters are arbitrary lists, an object may
    be named any number of times —, every nesting bound, every non-NULL bound variable and every start state with no
    pending exception in which the program's try-nesting fits into the jump-buffer array, the machine produces exactly
    the reference trace (which statements ran, which handlers ran and with which bound object — throws from bodies,
    from called functions, from handlers, rethrows of the bound object), restores the depth, and ends `normal` iff the
    reference ends without exception; otherwise it jumps to the innermost enclosing buffer — the one of the nearest
    enclosing try block — or, at depth 0, terminates the program (`fatal`). It never aborts, never hangs and never
    performs an undefined jump.
    The hypotheses are met by every state the machine itself produces at a statement boundary (conclusion `Agrees`
    gives `active = false` and the depth back), so the theorem composes over histories (`C07_sequence_history`). -/
theorem C07_machine_refines_reference (maxDepth : Nat) (p : Prog) :
    ∀ (x : Nat) (s : St), s.active = false → s.depth + nest p ≤ maxDepth →
      x ≠ 0 → inDomain p = true →
      Agrees s (run true maxDepth p x s) (eval p x) := by
  intro x s ha hn hx hd
  rw [run_eq_runW_idWorld, ← evalW_idWorld]
  exact runWith_refines_along (catchDecisionW idWorld) (fmatchW idWorld) maxDepth p x s ha hn hx hd
    (noClash_decidesAlong idWorld p x hx hd (noClash_idWorld p x))

/-- **The repair a0ef2da, as a statement**: `exception_catch` decides every filter of non-NULL entries by membership
    of the pending object (empty filter = catch all) — also a filter that names one object twice — and its walk always
    ends (whatever the entries). A NULL entry makes the comparison itself raise ValueError (`walkIdx`: `.nullCmp`). -/
theorem C07_filter_is_membership (f : List Nat) (obj : Nat) (hobj : obj ≠ 0) (h0 : 0 ∉ f) :
    catchDecision f obj = (if fmatch f obj then .matched else .exhausted) ∧
    (∀ o, catchDecision f o ≠ .hang) :=
  ⟨catchDecision_membership f obj hobj h0, fun o => catchDecision_ne_hang f o⟩

/-- **C07 for the code as it is in /repo now**: the same statement about `runNow`, the machine selected by the three
    source-derived parameters (`exception_catch` walks its filter with foreach or by index; consumes or not;
    `EXCEPTION_MAX_DEPTH`) read from the current source by the translator. If the source stops consuming the handled
    exception, or goes back to the foreach walk, this theorem fails to type-check. -/
theorem C07_current_source (p : Prog) (x : Nat) (s : St) (ha : s.active = false)
    (hn : s.depth + nest p ≤ CelloGen.Exn.maxDepth)
    (hx : x ≠ 0) (hd : inDomain p = true) :
    Agrees s (runNow p x s) (eval p x) :=
  C07_machine_refines_reference CelloGen.Exn.maxDepth p x s ha hn hx hd

/-- **The jump-buffer stack of the code as it is now holds every nesting the property speaks about**: the property's
    nesting bound `nestBound` (2048 try blocks open at once in one thread — a fixed number, Cello/Exn.lean) does not
    exceed `EXCEPTION_MAX_DEPTH` as the translator reads it from src/Exception.c (the number `exception_try` compares
    `e->depth` with, and the dimension of `struct Exception.buffers`). A source change that shrinks the capacity (seeded
    change c07_j: 2048 → 64) makes exactly this statement false — every theorem whose hypothesis is
    `… ≤ CelloGen.Exn.maxDepth` would silently follow the smaller number. -/
theorem C07_depth_capacity : nestBound ≤ CelloGen.Exn.maxDepth := by decide

/-- the capacity `exception_try` tests against is the number of slots the record really has, and the two block copies of
    the buffer array (Exception_New's memset, Exception_Assign's memcpy) cover exactly that many slots (translator:
    `buffersLen`, `buffersInitLen`, `buffersCopyLen`) — an array dimension shrunk on its own would let `exception_try`
    write past the record before its overflow test fires -/
theorem C07_buffers_hold_capacity :
    CelloGen.Exn.maxDepth ≤ CelloGen.Exn.buffersLen ∧
    CelloGen.Exn.buffersInitLen = CelloGen.Exn.buffersLen ∧
    CelloGen.Exn.buffersCopyLen = CelloGen.Exn.buffersLen := by decide

/-- **C07 within the property's nesting bound** — the core statement with NO reference to the source's capacity in its
    hypotheses: every program in the object domain whose try-nesting (lexical and dynamic), counted from the blocks
    already open, stays within 2048 produces exactly the reference trace on the machine of the code as it is now,
    restores the depth, and ends as the reference says. -/
theorem C07_within_nesting_bound (p : Prog) (x : Nat) (s : St) (ha : s.active = false)
    (hn : s.depth + nest p ≤ nestBound) (hx : x ≠ 0) (hd : inDomain p = true) :
    Agrees s (runNow p x s) (eval p x) :=
  C07_current_source p x s ha (Nat.le_trans hn C07_depth_capacity) hx hd

/-- the macros and the statement order the machine was modelled on are those of include/Cello.h and
    src/Exception.c, src/Tuple.c now -/
theorem C07_macros_as_modelled :
    CelloGen.Exn.tryMacro = CelloGen.Exn.tryMacroModelled ∧
    CelloGen.Exn.catchMacro = CelloGen.Exn.catchMacroModelled ∧
    CelloGen.Exn.throwMacro = CelloGen.Exn.throwMacroModelled ∧
    CelloGen.Exn.throwSetsObjBeforeMessage = true ∧
    CelloGen.Exn.catchWalksFilterWithForeachEq = false ∧
    CelloGen.Exn.catchWalksFilterByIndex = true ∧
    CelloGen.Exn.tupleGetByIndex = true := ⟨rfl, rfl, rfl, rfl, rfl, rfl, rfl⟩

/-- the comparison `exception_catch` performs is the one `cmpObj` models: `eq` is `cmp … is 0`, `cmp` calls the `Cmp`
    instance of the filter entry, and `Type_Cmp` / `String_Cmp` / `Int_Cmp` / `cast` read as the model assumes
    (src/Cmp.c, Type.c, String.c, Num.c) -/
theorem C07_comparison_as_modelled :
    CelloGen.Exn.eqIsCmpOfFirstArgument = true ∧
    CelloGen.Exn.typeCmp = CelloGen.Exn.typeCmpModelled ∧
    CelloGen.Exn.stringCmp = CelloGen.Exn.stringCmpModelled ∧
    CelloGen.Exn.intCmp = CelloGen.Exn.intCmpModelled ∧
    CelloGen.Exn.castRaisesValueError = true := ⟨rfl, rfl, rfl, rfl, rfl⟩

/-- **KF-C07-accessors-undefined.** `exception_object()` and `exception_message()` — "To get the current exception
    object or message use the `exception_message` or `exception_object` methods" (src/Exception.c, documentation) — are
    declared in include/Cello.h and defined in no source file: a program that calls them does not link. The thrown object
    is observable in a handler through the bound variable only (what the machine's `Ev.handler` records), the thrown
    message through nothing. (Flags read from the source by the translator; when the two definitions are added this
    statement fails and harness op `A` starts checking them against the thrown object and message.) -/
theorem C07_exception_accessors_undefined :
    CelloGen.Exn.exceptionObjectDeclared = true ∧ CelloGen.Exn.exceptionMessageDeclared = true ∧
    CelloGen.Exn.exceptionObjectDefined = false ∧ CelloGen.Exn.exceptionMessageDefined = false := ⟨rfl, rfl, rfl, rfl⟩

/-- **Top level**: from the initial state, a program in the domain whose nesting fits produces exactly the reference
    trace, ends with depth 0, and ends `normal` iff no exception escapes; an escaping exception terminates the program
    (`fatal`) after exactly the reference trace, with the thrown object recorded. -/
theorem C07_top_level (p : Prog) (x : Nat) (hn : nest p ≤ CelloGen.Exn.maxDepth)
    (hx : x ≠ 0) (hd : inDomain p = true) :
    let r := runNow p x St.init
    r.2.1 = (eval p x).1 ∧ r.1.depth = 0 ∧
      (r.2.2 = .normal ↔ (eval p x).2 = none) ∧ (r.2.2 = .fatal ↔ (eval p x).2 ≠ none) ∧
      (∀ e, (eval p x).2 = some e → r.1.obj = e) := by
  have h := C07_current_source p x St.init rfl (by simpa [St.init] using hn) hx hd
  -- at depth 0 the escape in `h.sig` evaluates to `.fatal`
  have hs : (runNow p x St.init).2.2 = if (eval p x).2 = none then .normal else .fatal := h.sig
  refine ⟨h.trace, h.depth, by simp [hs], by simp [hs], fun e he => ?_⟩
  obtain ⟨s', hr, ho, -⟩ := h.of_some he
  rw [hr]; exact ho

/-- **Depth restored**: after every construct in the object domain whose nesting fits — completed or left by an
    exception — the nesting depth is what it was. (Outside the domain: `C07_no_undefined_jump`, whose `Safe` gives the
    depth back when the construct ends `normal` or jumps.) -/
theorem C07_depth_restored (p : Prog) (x : Nat) (s : St) (ha : s.active = false)
    (hn : s.depth + nest p ≤ CelloGen.Exn.maxDepth)
    (hx : x ≠ 0) (hd : inDomain p = true) :
    (runNow p x s).1.depth = s.depth :=
  (C07_current_source p x s ha hn hx hd).depth

/-- `C07_top_level` within the property's nesting bound (2048, no reference to the source's capacity) -/
theorem C07_top_level_within_bound (p : Prog) (x : Nat) (hn : nest p ≤ nestBound) (hx : x ≠ 0)
    (hd : inDomain p = true) :
    let r := runNow p x St.init
    r.2.1 = (eval p x).1 ∧ r.1.depth = 0 ∧
      (r.2.2 = .normal ↔ (eval p x).2 = none) ∧ (r.2.2 = .fatal ↔ (eval p x).2 ≠ none) ∧
      (∀ e, (eval p x).2 = some e → r.1.obj = e) :=
  C07_top_level p x (Nat.le_trans hn C07_depth_capacity) hx hd

/-- **A handled exception never fires again** (machine statement: any body in the object domain whose nesting fits
    under one more block, ANY outer filter and outer handler — nothing is assumed about them, not even the object domain —
    and any start state, pending exception or not): if every exception raised inside `b` is handled inside `b` — the
    reference outcome of `b` is `none`, e.g. `b = try { b' } catch (e in f) { h1 }` with `b'` raising a matching `e` and
    `h1` completing — then the enclosing `try { b } catch (e in g) { h2 }` runs exactly `b`'s events, none of `h2`'s,
    ends normally with nothing pending and the depth restored. -/
theorem C07_handled_not_refired (b h2 : Prog) (g : List Nat) (x : Nat) (s : St)
    (hn : s.depth + 1 + nest b ≤ CelloGen.Exn.maxDepth) (hx : x ≠ 0) (hd : inDomain b = true)
    (hb : (eval b x).2 = none) :
    ∃ o, runNow (.tryCatch b g h2) x s = (⟨s.depth, false, o⟩, (eval b x).1, .normal) :=
  runWith_try_of_body_completes g h2
    (Nat.ne_of_lt (Nat.lt_of_lt_of_le (Nat.lt_succ_self _) (Nat.le_trans (Nat.le_add_right _ _) hn)))
    (C07_current_source b x { s with depth := s.depth + 1, active := false } rfl hn hx hd) hb

/-- the shape the property text names: inner block handles, outer block of any filter stays silent -/
theorem C07_handled_not_refired_inner (b' h1 h2 : Prog) (f g : List Nat) (e x : Nat) (s : St) (ha : s.active = false)
    (hn : s.depth + nest (.tryCatch (.tryCatch b' f h1) g h2) ≤ CelloGen.Exn.maxDepth)
    (hx : x ≠ 0) (hd : inDomain (.tryCatch (.tryCatch b' f h1) g h2) = true)
    (hb : (eval b' x).2 = some e) (hm : fmatch f e = true) (hh : (eval h1 e).2 = none) :
    (runNow (.tryCatch (.tryCatch b' f h1) g h2) x s).2
      = ((eval b' x).1 ++ [.handler e] ++ (eval h1 e).1, .normal) := by
  have hin := eval_try_of_match h1 hb hm
  -- of `ha`, `hn`, `hd` only the inner block's share is used: `exception_try` clears the flag, `g` and `h2` are never looked at
  obtain ⟨o, hr⟩ := C07_handled_not_refired (.tryCatch b' f h1) h2 g x s (fits_try hn).2.1 hx
    (inDomain_try hd).1 (by rw [hin, hh])
  rw [hr, hin]

/-- **Sequences are independent** (machine statement, `p; q` in the object domain, nesting fits): when `p` completes,
    the machine's trace of `p; q` is its trace of `p` followed by its trace of `q` *run alone from the original state* —
    what `p` did (handled exceptions included) leaves nothing behind that `q` can observe — and `p; q` ends as `q` alone
    ends. -/
theorem C07_sequence (p q : Prog) (x : Nat) (s : St) (ha : s.active = false)
    (hn : s.depth + nest (.seq p q) ≤ CelloGen.Exn.maxDepth)
    (hx : x ≠ 0) (hd : inDomain (.seq p q) = true)
    (hp : (eval p x).2 = none) :
    let M := runNow
    (M (.seq p q) x s).2.1 = (M p x s).2.1 ++ (M q x s).2.1 ∧ (M (.seq p q) x s).2.2 = (M q x s).2.2 := by
  obtain ⟨hdp, hdq⟩ := inDomain_seq hd
  have h1 := eval_seq_of_none q hp ▸ C07_current_source _ x s ha hn hx hd
  have h2 := C07_current_source p x s ha (fits_seq hn).1 hx hdp
  have h3 := C07_current_source q x s ha (fits_seq hn).2 hx hdq
  exact ⟨by rw [h1.trace, h2.trace, h3.trace], by rw [h1.sig, h3.sig]⟩

/-- **Histories against the reference**: any number of constructs in the object domain, each completing (its exceptions
    handled inside it), executed one after another from a state with nothing pending: the machine's trace is the
    concatenation of the REFERENCE traces of the constructs, the history ends normally, with the depth restored and
    nothing pending. -/
theorem C07_history_reference_traces (ps : List Prog) (x : Nat) (hx : x ≠ 0) :
    ∀ (s : St), s.active = false →
      (∀ p ∈ ps, s.depth + nest p ≤ CelloGen.Exn.maxDepth ∧ inDomain p = true ∧ (eval p x).2 = none) →
      (runSeq runNow ps x s).2.1 = (ps.map (fun p => (eval p x).1)).flatten ∧ (runSeq runNow ps x s).2.2 = .normal ∧
        (runSeq runNow ps x s).1.depth = s.depth ∧ (runSeq runNow ps x s).1.active = false := by
  induction ps with
  | nil => intro s ha _; exact ⟨rfl, rfl, rfl, ha⟩
  | cons p ps ih =>
    intro s ha hall
    obtain ⟨hn, hd, hp⟩ := hall p (List.mem_cons_self ..)
    obtain ⟨s1, hr, hd1, ha1⟩ := (C07_current_source p x s ha hn hx hd).of_none hp
    obtain ⟨b1, b2, b3, b4⟩ := ih s1 ha1 (fun q hq => hd1 ▸ hall q (List.mem_cons_of_mem _ hq))
    rw [runSeq, hr]
    exact ⟨by rw [List.map_cons, List.flatten_cons, ← b1], b2, b3.trans hd1, b4⟩

/-- **Histories**: any number of constructs in the object domain executed one after another, each completing (its
    exceptions handled inside it): the machine's trace is the concatenation of the traces each construct produces *alone
    from the start state*, the history ends normally, with the depth restored and nothing pending. -/
theorem C07_sequence_history (ps : List Prog) (x : Nat) (hx : x ≠ 0) :
    ∀ (s : St), s.active = false →
      (∀ p ∈ ps, s.depth + nest p ≤ CelloGen.Exn.maxDepth ∧ inDomain p = true ∧ (eval p x).2 = none) →
      let M := runNow
      let r := runSeq runNow ps x s
      r.2.1 = (ps.map (fun p => (M p x s).2.1)).flatten ∧ r.2.2 = .normal ∧
        r.1.depth = s.depth ∧ r.1.active = false := by
  intro s ha hall
  obtain ⟨h1, h2⟩ := C07_history_reference_traces ps x hx s ha hall
  refine ⟨h1.trans (congrArg _ (List.map_congr_left fun p hp => ?_)), h2⟩
  exact (C07_current_source p x s ha (hall p hp).1 hx (hall p hp).2.1).trace.symm

/-- **No undefined jump and no hang, whatever the program**: with no hypothesis on nesting depth, object domain or
    filters, from any state with nothing pending, a construct ends in one of: `normal` (depth restored, nothing
    pending), a jump to exactly the innermost enclosing live buffer (depth restored), `fatal` only at depth 0, `abort`
    (buffer overflow) — never a `longjmp` into a block that has been left, never a buffer underflow, and (since fix
    a0ef2da) never a filter walk that does not return (`Safe`, CelloProofs/Lemmas/ExnSafe.lean: `.hang => False`). -/
theorem C07_no_undefined_jump (maxDepth : Nat) (p : Prog) :
    ∀ (x : Nat) (s : St), s.active = false → Safe s (run true maxDepth p x s) :=
  runWith_safe catchDecision catchDecision_ne_hang maxDepth p

/-- … for the code as it is now -/
theorem C07_no_undefined_jump_current_source (p : Prog) (x : Nat) (s : St) (ha : s.active = false) :
    Safe s (runNow p x s) :=
  C07_no_undefined_jump CelloGen.Exn.maxDepth p x s ha

/-- **Overflow of the jump-buffer array**: `exception_try` at depth `EXCEPTION_MAX_DEPTH` prints "Exception Buffer
    Overflow" and calls `abort()` before touching the record. A tower of try blocks that does not fit aborts at the
    block that would be number `maxDepth + 1`, after the events of the blocks entered so far (none for `tower`), and
    nothing of its body runs. -/
theorem C07_overflow_aborts (maxDepth : Nat) (c : Bool) (p : Prog) (x : Nat) :
    ∀ (n : Nat) (s : St), s.depth ≤ maxDepth → maxDepth < s.depth + n →
      (run c maxDepth (tower n p) x s).2 = ([], .abort) :=
  runWith_tower_aborts catchDecision c maxDepth p x

/-- … and every tower around a `throw` that fits — up to exactly `EXCEPTION_MAX_DEPTH` blocks (`n = maxDepth`), from
    the initial state — still behaves by the reference (instance of the core theorem at the boundary). -/
theorem C07_full_depth_ok (e : Nat) (he : e ≠ 0) (n : Nat) (hle : n ≤ CelloGen.Exn.maxDepth) :
    Agrees St.init (runNow (tower n (.throw e)) 1 St.init)
      (eval (tower n (.throw e)) 1) :=
  C07_current_source _ 1 St.init rfl (by simpa [nest_tower, nest, St.init] using hle) Nat.one_ne_zero
    (by simpa [inDomain_tower, inDomain] using he)

/-- Non-vacuity: a concrete nested program — throw from a called function, filters that name objects repeatedly, a
    handler that rethrows the bound object after an inner block overwrote the record's object, a throw from a handler,
    a second construct afterwards — meets every hypothesis (and the machine really runs handlers). -/
example :
    let p : Prog := .seq
      (.tryCatch (.seq (.stmt 1) (.tryCatch (.call (.throw 2)) [3, 3, 2, 3]
          (.seq (.tryCatch (.throw 4) [] (.stmt 8)) .rethrow))) [2, 4, 2] (.seq (.stmt 5) (.throw 6)))
      (.stmt 9)
    nest p ≤ CelloGen.Exn.maxDepth ∧ St.init.active = false ∧ inDomain p = true ∧ nodupFilters p = false ∧
    runNow p 1 St.init
      = (⟨0, false, 6⟩, [.stmt 1, .handler 2, .handler 4, .stmt 8, .handler 2, .stmt 5], .fatal) ∧
    eval p 1 = ([.stmt 1, .handler 2, .handler 4, .stmt 8, .handler 2, .stmt 5], some 6) := by decide

/-- Non-vacuity of `C07_sequence_history` / `C07_handled_not_refired`: completing constructs in a row -/
example :
    let c1 : Prog := .tryCatch (.tryCatch (.throw 1) [1] (.stmt 7)) [] (.stmt 9)
    let c2 : Prog := .tryCatch (.call (.throw 3)) [] .rethrow
    (eval c1 1).2 = none ∧ (eval (.tryCatch c2 [3] (.stmt 4)) 1).2 = none ∧
    (runSeq runNow [c1, .tryCatch c2 [3] (.stmt 4), c1] 1 St.init).2
      = ([.handler 1, .stmt 7, .handler 3, .handler 3, .stmt 4, .handler 1, .stmt 7], .normal) := by decide

/-- The un-repaired `exception_catch` (does not consume) is refuted by a concrete program: the outer handler fires
    for an exception the inner block already handled (this was defect F01, fixed in /repo). -/
theorem C07_nonconsuming_refuted :
    let bad : Prog := .tryCatch (.tryCatch (.throw 1) [1] (.stmt 7)) [] (.stmt 9)
    (run false 2048 bad 1 St.init).2.1 ≠ (eval bad 1).1 ∧
    (runNow bad 1 St.init).2.1 = (eval bad 1).1 := by decide

/-- **The foreach walk refuted (finding KF-C07-filter-dup), and the same witness on the code as it is now.**
    `try { throw(ValueError) } catch (e in TypeError, TypeError) { … }`: the reference lets the exception escape
    (uncaught → failure status). The OLD machine never left `exception_catch` — `Tuple_Iter_Next` finds the current
    item by identity, so the successor of the first `TypeError` is the second, whose successor is again the second; the
    hang is not an artefact of the fuel: the walk is `hang` for every fuel. The current machine (`runNow`, walk by
    index) does what the reference says: nothing runs, the program ends `fatal` with ValueError recorded. -/
theorem C07_foreach_walk_refuted :
    let bad : Prog := .tryCatch (.throw 2) [1, 1] (.stmt 1)
    nodupFilters bad = false ∧ inDomain bad = true ∧
    eval bad 1 = ([], some 2) ∧
    runOld CelloGen.Exn.catchConsumes CelloGen.Exn.maxDepth bad 1 St.init = (⟨0, true, 2⟩, [], .hang) ∧
    (∀ fuel, walkFrom [1, 1] 2 fuel (some 1) = .hang) ∧
    runNow bad 1 St.init = (⟨0, true, 2⟩, [], .fatal) := by
  refine ⟨by decide, by decide, by decide, by decide, ?_, by decide⟩
  intro fuel
  exact walkFrom_dup_hangs [1, 1] 2 (by decide) (by decide) (by decide) fuel

/-- the OLD machine did behave by the reference on programs whose filters are duplicate-free (the statement of
    `C07_machine_refines_reference` about `runOld`, with the extra hypothesis `nodupFilters`) … -/
theorem C07_foreach_walk_refines_nodup (maxDepth : Nat) (p : Prog) :
    ∀ (x : Nat) (s : St), s.active = false → s.depth + nest p ≤ maxDepth →
      x ≠ 0 → inDomain p = true → nodupFilters p = true →
      Agrees s (runOld true maxDepth p x s) (eval p x) := by
  intro x s ha hn hx hd hf
  exact evalM_fmatch p x ▸ runWith_refines_along catchDecisionOld fmatch maxDepth p x s ha hn hx hd
    (nodupFilters_decidesAlong p x hx hd hf)

/-- … and in general: on the OLD machine *every* try block whose filter repeats an object — its body in the object
    domain with duplicate-free filters of its own, so that it raises what the reference says — hung on *every* exception
    that the filter does not list, in place of "continues to the nearest enclosing matching handler". -/
theorem C07_foreach_walk_hangs (maxDepth : Nat) (b h : Prog) (f : List Nat) (x e : Nat) (s : St)
    (hn : s.depth + nest b + 1 ≤ maxDepth)
    (hx : x ≠ 0) (hd : inDomain b = true) (hf : nodupFilters b = true)
    (hb : (eval b x).2 = some e) (hdup : ¬ f.Nodup) (hnot : e ∉ f) :
    (runOld true maxDepth (.tryCatch b f h) x s).2 = ((eval b x).1, .hang) := by
  obtain ⟨hlt, hnb⟩ : s.depth ≠ maxDepth ∧ s.depth + 1 + nest b ≤ maxDepth := by omega
  rw [runOld, runWith_try_of_body_raises f h hlt
      (C07_foreach_walk_refines_nodup maxDepth b x { s with depth := s.depth + 1, active := false } rfl hnb hx hd hf) hb,
    catchPhase_hangs (catchDecisionOld_dup_hangs f e (eval_exc_ne_zero b x e hx hd hb) hdup hnot)]

/-- … where the machine of the current code, in the same situation, passes the exception on to the enclosing block
    after exactly the body's events (instance of the core theorem; `f` is any non-empty list that does not name `e`,
    repeated objects or not). -/
theorem C07_repeated_filter_object_passes_on (maxDepth : Nat) (b h : Prog) (f : List Nat) (x e : Nat) (s : St)
    (ha : s.active = false) (hn : s.depth + nest (.tryCatch b f h) ≤ maxDepth)
    (hx : x ≠ 0) (hd : inDomain (.tryCatch b f h) = true)
    (hb : (eval b x).2 = some e) (hnot : e ∉ f) (hne : f ≠ []) :
    (run true maxDepth (.tryCatch b f h) x s).2
      = ((eval b x).1, if s.depth ≥ 1 then .jump (s.depth - 1) else .fatal) := by
  have hm : fmatch f e = false := by
    cases f with
    | nil => exact absurd rfl hne
    | cons a r => simpa [fmatch] using hnot
  obtain ⟨s', hr, -, -⟩ := (eval_try_of_nomatch h hb hm ▸
    C07_machine_refines_reference maxDepth (.tryCatch b f h) x s ha hn hx hd).of_some rfl
  rw [hr]

/-- **throw(NULL, …) (refuted outside `inDomain`).** `try { throw(NULL) } catch (e) { H }`: the reference runs `H`
    ("an empty filter matches everything"); the machine consumes the exception and skips the handler — the catch-all
    returns `e->obj`, which is NULL, and the macro's `X isnt NULL` ends the `for`. Against a non-empty filter the
    comparison `eq(arg, NULL)` itself raises ValueError, which is what the enclosing handler then binds. -/
theorem C07_throw_null_refuted :
    let bad : Prog := .tryCatch (.throw 0) [] (.stmt 1)
    let bad2 : Prog := .tryCatch (.tryCatch (.throw 0) [1] (.stmt 1)) [] (.stmt 2)
    inDomain bad = false ∧
    eval bad 1 = ([.handler 0, .stmt 1], none) ∧
    runNow bad 1 St.init = (⟨0, false, 0⟩, [], .normal) ∧
    eval bad2 1 = ([.handler 0, .stmt 2], none) ∧
    runNow bad2 1 St.init
      = (⟨0, false, valueErr⟩, [.handler valueErr, .stmt 2], .normal) := by decide

/-- **A message format with too few arguments (refuted outside `inDomain`).** `try { throw(TypeError, "%i") } catch (e)
    { … }` binds FormatError, not the thrown TypeError: `exception_throw` stores the object and then formats the
    message with `print_to_with`, which itself throws FormatError (same mechanism as KF-C08-terminal-message, there
    triggered by a Terminal among the arguments). -/
theorem C07_bad_message_refuted :
    let bad : Prog := .tryCatch (.throwBad 1) [] (.stmt 1)
    inDomain bad = false ∧
    eval bad 1 = ([.handler 1, .stmt 1], none) ∧
    runNow bad 1 St.init
      = (⟨0, false, fmtErr⟩, [.handler fmtErr, .stmt 1], .normal) := by decide

/-- … exactly: for the machine a `throw` with a malformed message *is* a `throw` of FormatError, in every program and
    every state; so block structure holds for such programs with FormatError in place of the named object. -/
theorem C07_bad_message_as_format_error (p : Prog) (x : Nat) (s : St) (ha : s.active = false)
    (hn : s.depth + nest p ≤ CelloGen.Exn.maxDepth)
    (hx : x ≠ 0) (hd : inDomain (normalizeMsg p) = true) :
    Agrees s (runNow p x s) (eval (normalizeMsg p) x) := by
  have := C07_current_source (normalizeMsg p) x s ha (by rw [nest_normalizeMsg]; exact hn) hx hd
  rwa [runNow, runCfg, runWith_normalizeMsg] at this

/-- **C07 for exception objects of any type.** `w` says what lives at each address: Type objects, Strings, Ints.
    The machine `runW w` compares a filter entry with the pending object the way `exception_catch` does — `eq`, i.e. the
    `Cmp` instance of the ENTRY (`cmpObj`: Type_Cmp casts the object, String_Cmp takes its `c_str`, Int_Cmp its `c_int`).
    The reference `evalW w` lets a handler run iff the filter is empty or lists an object of equal value (`specEq`).
    For every program in the object domain on whose reference run no filter walk reaches an entry that cannot be
    compared with the arriving exception before an entry that lists it (`noClash w p x`, decidable — exactly the
    complement of the territory of KF-C07-filter-eq-raises), the machine produces the reference trace, binds the thrown
    object, restores the depth, and ends normally / jumps to the innermost enclosing buffer / ends fatally as the
    reference says. Heterogeneous programs are covered: a Type entry and a thrown String may occur in one program as
    long as that String does not arrive at that entry first (example below). -/
theorem C07_any_objects (w : World) (maxDepth : Nat) (p : Prog) :
    ∀ (x : Nat) (s : St), s.active = false → s.depth + nest p ≤ maxDepth →
      x ≠ 0 → inDomain p = true → noClash w p x = true →
      Agrees s (runW w true maxDepth p x s) (evalW w p x) := by
  intro x s ha hn hx hd hc
  exact runWith_refines_along (catchDecisionW w) (fmatchW w) maxDepth p x s ha hn hx hd
    (noClash_decidesAlong w p x hx hd hc)

/-- … for the code as it is in /repo now (`runNowW w`: the machine the translator's flags select — the one the driver
    runs with the harness's objects, `harnessWorld`) -/
theorem C07_current_source_any_objects (w : World) (p : Prog) (x : Nat) (s : St) (ha : s.active = false)
    (hn : s.depth + nest p ≤ CelloGen.Exn.maxDepth)
    (hx : x ≠ 0) (hd : inDomain p = true) (hc : noClash w p x = true) :
    Agrees s (runNowW w p x s) (evalW w p x) :=
  C07_any_objects w CelloGen.Exn.maxDepth p x s ha hn hx hd hc

/-- … within the property's nesting bound (the statement lean/Driver/Exn.lean tests on every op file: `hyp=true` on the
    `R` line is exactly these hypotheses at `s = St.init`, `w = harnessWorld`) -/
theorem C07_within_nesting_bound_any_objects (w : World) (p : Prog) (x : Nat) (s : St) (ha : s.active = false)
    (hn : s.depth + nest p ≤ nestBound) (hx : x ≠ 0) (hd : inDomain p = true) (hc : noClash w p x = true) :
    Agrees s (runNowW w p x s) (evalW w p x) :=
  C07_current_source_any_objects w p x s ha (Nat.le_trans hn C07_depth_capacity) hx hd hc

/-- **Within the nesting bound the capacity is never reached** — no hypothesis on the program (object domain, filters,
    clashes: any `p`), exception objects of any type: from a state with nothing pending, a program whose try-nesting
    stays within 2048 never takes the overflow branch of `exception_try` on the code as it is now: it does not end
    `abort`, and it does exactly what the same code with ANY larger jump-buffer stack would do (the capacity is
    unobservable). -/
theorem C07_capacity_never_reached (w : World) (p : Prog) (x : Nat) (s : St) (ha : s.active = false)
    (hn : s.depth + nest p ≤ nestBound) :
    (runNowW w p x s).2.2 ≠ .abort ∧
    (∀ m, nestBound ≤ m → runW w true m p x s = runNowW w p x s) := by
  have hcap : s.depth + nest p ≤ CelloGen.Exn.maxDepth := Nat.le_trans hn C07_depth_capacity
  have h := runWith_within_capacity (catchDecisionW w) (catchDecisionW_ne_hang w)
  exact ⟨(h _ _ p x s ha hcap hcap).2, fun m hm => (h m _ p x s ha (Nat.le_trans hn hm) hcap).1⟩

/-- **A shrunk jump-buffer stack refuted** (what seeded change c07_j does: capacity 64). 65 try/catch blocks open at once
    (`tower 65`; in C e.g. a recursion 65 levels deep with a try/catch per level — `nest` counts lexical and dynamic
    nesting alike), the exception thrown at the bottom: the reference — and the machine of the code as it is
    now — run the innermost handler and complete all 65 blocks; a machine with capacity 64 runs nothing and aborts at
    the 65th `exception_try`. The program is inside every hypothesis of `C07_within_nesting_bound`. -/
theorem C07_shrunk_capacity_refuted :
    let p : Prog := tower 65 (.throw 1)
    nest p ≤ nestBound ∧ inDomain p = true ∧
    eval p 1 = ([.handler 1, .stmt 0], none) ∧
    (runNow p 1 St.init).2 = ([.handler 1, .stmt 0], .normal) ∧
    (run true 64 p 1 St.init).2 = ([], .abort) := by
  refine ⟨by decide +kernel, by decide +kernel, by decide +kernel, by decide +kernel, ?_⟩
  exact C07_overflow_aborts 64 true (.throw 1) 1 65 St.init (by decide) (by decide)

/-- Non-vacuity of `C07_within_nesting_bound`: dynamic nesting 100 deep (beyond any small bound a model checker would
    use, and beyond the shrunk capacity of c07_j), thrown at the bottom through a callee, passed on by 98 non-matching
    blocks, handled by the outermost but one whose handler rethrows to the outermost; a second construct afterwards
    starts from depth 0 again. -/
example :
    let rec_ (n : Nat) (q : Prog) : Prog := Nat.rec q (fun _ r => .tryCatch (.call r) [3] (.stmt 7)) n
    let p : Prog := .seq (.tryCatch (.tryCatch (rec_ 98 (.call (.throw 2))) [2, 2] (.seq (.stmt 1) .rethrow)) [] (.stmt 2))
      (.tryCatch (.throw 4) [4] (.stmt 3))
    nest p = 100 ∧ nest p ≤ nestBound ∧ inDomain p = true ∧
    runNow p 1 St.init = (⟨0, false, 4⟩, [.handler 2, .stmt 1, .handler 2, .stmt 2, .handler 4, .stmt 3], .normal) ∧
    eval p 1 = ([.handler 2, .stmt 1, .handler 2, .stmt 2, .handler 4, .stmt 3], none) := by
  decide +kernel

/-- **`C07_machine_refines_reference` is the instance "every object is a Type object with a name of its own"** — the
    restriction is a theorem, not an assumption of the representation: in that world the machine is `run`, the
    reference is `eval`, and no program has a clash. -/
theorem C07_type_objects_instance :
    run = runW idWorld ∧ (∀ p x, evalW idWorld p x = eval p x) ∧ (∀ p x, noClash idWorld p x = true) ∧
    runNow = runNowW idWorld :=
  ⟨run_eq_runW_idWorld, evalW_idWorld, fun p x => noClash_idWorld p x, by
    funext p x s
    simp [runNow, runNowW, runCfg, runCfgW, catchDecision_eq_catchDecisionW]⟩

/-- the filter walk of the code decides by "some entry lists the object" exactly outside the clash territory, and
    inside it the comparison raises ValueError (cast to Type) or ClassError (no `C_Str` / `C_Int`); it always ends -/
theorem C07_filter_walk_any_objects (w : World) (f : List Nat) (obj : Nat) (hobj : obj ≠ 0) (h0 : 0 ∉ f) :
    (clash w obj f = false → catchDecisionW w f obj = if fmatchW w f obj then .matched else .exhausted) ∧
    (clash w obj f = true →
      catchDecisionW w f obj = .cmpRaises valueErr ∨ catchDecisionW w f obj = .cmpRaises classErr) ∧
    (∀ o, catchDecisionW w f o ≠ .hang) :=
  ⟨(catchDecisionW_spec w f obj hobj h0).1, (catchDecisionW_spec w f obj hobj h0).2,
   fun o => catchDecisionW_ne_hang w f o⟩

/-- no undefined jump and no hang with objects of any type either (no hypothesis on the program) -/
theorem C07_no_undefined_jump_any_objects (w : World) (maxDepth : Nat) (p : Prog) :
    ∀ (x : Nat) (s : St), s.active = false → Safe s (runW w true maxDepth p x s) :=
  runWith_safe (catchDecisionW w) (catchDecisionW_ne_hang w) maxDepth p

/-- **KF-C07-filter-eq-raises (refuted outside `noClash`).** With the harness's objects (`harnessWorld`: 1 = TypeError,
    2 = ValueError, 7 = ClassError, 8 = a String "A", 12 = an Int 5):
    `try { try { throw(A) } catch (e in TypeError) {…} } catch (e) { H }` — the reference passes the String on to the
    catch-all, which binds it; the machine (= the code, reproduced) binds ValueError: `Type_Cmp` casts the pending
    object to Type inside `exception_catch`, the thrown String reaches no handler. Mirror case
    `catch (e in Int 5)` with `throw(TypeError)`: `Int_Cmp` takes `c_int(TypeError)`, the catch-all binds ClassError.
    Uncaught: the diagnostic names ValueError, not the thrown object. -/
theorem C07_mixed_type_filter_refuted :
    let w := harnessWorld
    let bad : Prog := .tryCatch (.tryCatch (.throw 8) [1] (.stmt 1)) [] (.stmt 2)
    let bad2 : Prog := .tryCatch (.tryCatch (.throw 1) [12] (.stmt 1)) [] (.stmt 2)
    let bad3 : Prog := .tryCatch (.throw 8) [9, 1] (.stmt 1)
    inDomain bad = true ∧ noClash w bad 1 = false ∧
    evalW w bad 1 = ([.handler 8, .stmt 2], none) ∧
    runNowW w bad 1 St.init = (⟨0, false, valueErr⟩, [.handler valueErr, .stmt 2], .normal) ∧
    inDomain bad2 = true ∧ noClash w bad2 1 = false ∧
    evalW w bad2 1 = ([.handler 1, .stmt 2], none) ∧
    runNowW w bad2 1 St.init = (⟨0, false, classErr⟩, [.handler classErr, .stmt 2], .normal) ∧
    noClash w bad3 1 = false ∧ evalW w bad3 1 = ([], some 8) ∧
    runNowW w bad3 1 St.init = (⟨0, true, valueErr⟩, [], .fatal) := by decide

/-- … in general: whenever the exception `e` that the body raises meets a clash in the filter, the block neither
    handles `e` nor passes `e` on: after exactly the body's events it leaves with ValueError or ClassError recorded in
    place of `e` (jump to the enclosing buffer, or fatal at depth 0) — on the whole territory of the finding. -/
theorem C07_clash_replaces_exception (w : World) (maxDepth : Nat) (b h : Prog) (f : List Nat) (x e : Nat) (s : St)
    (hn : s.depth + nest b + 1 ≤ maxDepth)
    (hx : x ≠ 0) (hd : inDomain (.tryCatch b f h) = true) (hc : noClash w b x = true)
    (hb : (evalW w b x).2 = some e) (hcl : clash w e f = true) :
    let r := runW w true maxDepth (.tryCatch b f h) x s
    r.2.1 = (evalW w b x).1 ∧ (r.1.obj = valueErr ∨ r.1.obj = classErr) ∧ r.1.depth = s.depth ∧
      r.2.2 = (if s.depth ≥ 1 then .jump (s.depth - 1) else .fatal) := by
  obtain ⟨hdb, h0, -⟩ := inDomain_try hd
  have he0 : e ≠ 0 := evalM_exc_ne_zero (fmatchW w) b x e hx hdb hb
  obtain ⟨hlt, hnb⟩ : s.depth ≠ maxDepth ∧ s.depth + 1 + nest b ≤ maxDepth := by omega
  rw [runW, runWith_try_of_body_raises f h hlt
    (C07_any_objects w maxDepth b x { s with depth := s.depth + 1, active := false } rfl hnb hx hdb hc) hb]
  rcases (catchDecisionW_spec w f e he0 h0).2 hcl with hw | hw <;> rw [catchPhase_raises hw]
  · exact ⟨rfl, .inl rfl, rfl, rfl⟩
  · exact ⟨rfl, .inr rfl, rfl, rfl⟩

/-- Non-vacuity of `C07_any_objects` (harness objects: 8, 10 = two distinct Strings "A", 9 = String "B", 11 = String
    "TypeError", 12, 14 = two distinct Ints 5, 13 = Int 7): value equality binds the thrown object, not the listed one;
    a String entry lists a Type by its name; Ints among Ints; and a heterogeneous program — a thrown String under a
    block with a Type filter — is inside the hypothesis because an inner catch-all handles it first. -/
example :
    let w := harnessWorld
    let p : Prog := .seq
      (.tryCatch (.tryCatch (.throw 10) [9] (.stmt 1)) [9, 8] (.seq (.stmt 2) (.tryCatch .rethrow [8] (.stmt 0))))
      (.seq (.tryCatch (.throw 1) [9, 11] (.stmt 3))
        (.seq (.tryCatch (.tryCatch (.throw 14) [13] (.stmt 4)) [12] (.stmt 5))
          (.tryCatch (.tryCatch (.throw 8) [] (.stmt 6)) [1, 2] (.stmt 7))))
    inDomain p = true ∧ noClash w p 1 = true ∧ allTypes w p = false ∧
    runNowW w p 1 St.init = (⟨0, false, 8⟩,
      [.handler 10, .stmt 2, .handler 10, .stmt 0, .handler 1, .stmt 3, .handler 14, .stmt 5, .handler 8, .stmt 6],
      .normal) ∧
    evalW w p 1 =
      ([.handler 10, .stmt 2, .handler 10, .stmt 0, .handler 1, .stmt 3, .handler 14, .stmt 5, .handler 8, .stmt 6],
       none) := by
  decide

/-- **`Exception_Signal` / `exception_signals` as modelled**: the switch of `Exception_Signal` read from src/Exception.c is
    the table the model's `sigObj` / the harness's oracle were written against (six rows: signal, exception object,
    message), `exception_signals` registers exactly the signals that have a row, in that order, and nothing in the source
    re-opens the signal mask when the handler is left by `longjmp` (the switch `unblocks` of `stepS`). A row changed,
    dropped or pointed at another exception object, or a registration dropped, makes this statement false. -/
theorem C07_signal_table_current_source :
    CelloGen.Exn.signalTable = sigTableModelled ∧
    CelloGen.Exn.signalsRegistered = sigNames ∧
    CelloGen.Exn.signalTable.map (fun r => r.1) = CelloGen.Exn.signalsRegistered ∧
    CelloGen.Exn.signalHandlerUnblocks = false := ⟨rfl, rfl, rfl, rfl⟩

/-- **C07 with signals (each signal once per thread)**: a history of constructs `try { raise(sig); s1 } catch (e in
    filter) { handler }` in one thread, on the machine of the code as it is now with the thread's signal mask (`runS`,
    `unblocks` as read from the source), whose signals are pairwise different and not blocked at the start, every
    construct in the object domain and completing: the trace is the concatenation of the reference traces in which every
    `raise` IS a `throw` of the exception object `Exception_Signal` names, the history ends normally, depth restored. -/
theorem C07_signals_delivered_once_each (ops : List SOp) (x : Nat) (hx : x ≠ 0) (s : SigSt) (ha : s.st.active = false)
    (hnd : (ops.map (fun o => sigIdx o.sig)).Nodup) (hbl : ∀ o ∈ ops, sigIdx o.sig ∉ s.blocked)
    (hall : ∀ o ∈ ops, s.st.depth + nest o.delivered ≤ CelloGen.Exn.maxDepth ∧ inDomain o.delivered = true ∧
      (eval o.delivered x).2 = none) :
    let r := runS CelloGen.Exn.signalHandlerUnblocks runNow ops x s
    r.2.1 = (ops.map (fun o => (eval o.delivered x).1)).flatten ∧ r.2.2 = .normal ∧
      r.1.st.depth = s.st.depth ∧ r.1.st.active = false := by
  have h2 := C07_history_reference_traces (ops.map SOp.delivered) x hx s.st ha (List.forall_mem_map.mpr hall)
  rw [← runS_eq_runSeq CelloGen.Exn.signalHandlerUnblocks runNow x ops s (.inr hnd) hbl, List.map_map] at h2
  exact h2

/-- the full statement, trace part, from the initial state: the machine's trace is the reference's (`evalS`) for EVERY
    history of completing constructs (a signal may occur any number of times) -/
def C07_signals_every_delivery_statement : Prop :=
  ∀ (ops : List SOp) (x : Nat), x ≠ 0 →
    (∀ o ∈ ops, nest o.delivered ≤ CelloGen.Exn.maxDepth ∧ inDomain o.delivered = true ∧ (eval o.delivered x).2 = none) →
    (runS CelloGen.Exn.signalHandlerUnblocks runNow ops x ⟨St.init, []⟩).2.1 = (evalS ops x).1

/-- **KF-C07-signal-once.** `Exception_Signal` leaves its handler through `longjmp`; the signal, blocked by `signal()` for
    the duration of the handler, is never unblocked: the second `raise(SIGINT)` of a thread is left pending, `raise`
    returns and the body goes on — no exception, no handler (witness corpus/kf_c07_signal_once.ops: `S 0 3 3`). -/
theorem C07_signal_second_delivery_refuted : ¬ C07_signals_every_delivery_statement := by
  intro h
  have := h [⟨3, [], .stmt 2⟩, ⟨3, [], .stmt 2⟩] 1 (by decide) (by decide)
  revert this
  decide

/-- what the code does with the second occurrence, exactly: the construct runs as the one without the `raise` -/
theorem C07_blocked_signal_is_skipped (x : Nat) (s : SigSt) (o : SOp) (h : sigIdx o.sig ∈ s.blocked) :
    ((stepS CelloGen.Exn.signalHandlerUnblocks runNow x s o).1.st, (stepS CelloGen.Exn.signalHandlerUnblocks runNow x s o).2)
      = runNow o.skipped x s.st :=
  (stepS_blocked _ runNow x s o h).1

/-- **The repair in the model**: a handler that re-opens the mask before it throws (`unblocks = true`: SA_NODEFER /
    sigprocmask in `Exception_Signal`) makes the statement hold for every history, repeated signals included. -/
theorem C07_signal_unblocking_repair (ops : List SOp) (x : Nat) (hx : x ≠ 0)
    (hall : ∀ o ∈ ops, nest o.delivered ≤ CelloGen.Exn.maxDepth ∧ inDomain o.delivered = true ∧
      (eval o.delivered x).2 = none) :
    (runS true runNow ops x ⟨St.init, []⟩).2.1 = (ops.map (fun o => (eval o.delivered x).1)).flatten ∧
      (runS true runNow ops x ⟨St.init, []⟩).2.2 = .normal := by
  have h2 := C07_history_reference_traces (ops.map SOp.delivered) x hx St.init rfl
    (List.forall_mem_map.mpr fun o ho => (Nat.zero_add _).symm ▸ hall o ho)
  rw [← runS_eq_runSeq true runNow x ops ⟨St.init, []⟩ (.inl rfl) (fun _ _ => List.not_mem_nil), List.map_map] at h2
  exact ⟨h2.1, h2.2.1⟩

/-- non-vacuity: three different signals, caught by a catch-all, by the signal's own exception object, and by a filter
    that lists it second — hypotheses met, three handlers run -/
example :
    let ops : List SOp := [⟨3, [], .stmt 2⟩, ⟨0, [sigObj 0], .stmt 2⟩, ⟨5, [2, sigObj 5], .seq (.stmt 2) (.stmt 3)⟩]
    (ops.map (fun o => sigIdx o.sig)).Nodup ∧
    (∀ o ∈ ops, nest o.delivered ≤ CelloGen.Exn.maxDepth ∧ inDomain o.delivered = true ∧ (eval o.delivered 1).2 = none) ∧
    (runS false runNow ops 1 ⟨St.init, []⟩).2 =
      ([.handler 18, .stmt 2, .handler 15, .stmt 2, .handler 20, .stmt 2, .stmt 3], .normal) := by decide

/-- **The uncaught-exception report of the code as it is now** (`Exception_Error`, read from src/Exception.c as a
    statement list): for every exception object (shown form, C string) and every message, exactly these pieces are
    written to stderr in this order — an empty line, the `Uncaught <object as show prints it>` line, the message line
    `!!\t\t <message>` with the message as a C string, each framed by `!!\t` lines —, the process then exits with status
    1 = EXIT_FAILURE, and the backtrace is printed after the whole report. -/
theorem C07_uncaught_report_current_source (objShown objStr msg : String) :
    reportParts objShown objStr msg CelloGen.Exn.errorStmts =
      ["\n", "!!\t\n", "!!\tUncaught ", objShown, "\n", "!!\t\n", "!!\t\t ", msg, "\n", "!!\t\n"] ∧
    reportStatus CelloGen.Exn.errorStmts = some 1 ∧
    reportTraceLast CelloGen.Exn.errorStmts = true := ⟨rfl, rfl, rfl⟩

/-- **The record's accessors as modelled**: `len(current(Exception))` is the record's `depth`, `running(…)` its `active`
    flag, `current(Exception)` the per-thread record, the jump target of a throw is `buffers[depth-1]` (guarded), the
    Exception type registers them as its Len / Current / Start / Assign / New instances, and both `exception_throw` and
    `exception_catch` jump exactly when the depth is ≥ 1 and report through `Exception_Error` otherwise (`throwObj`,
    `catchPhase`). -/
theorem C07_record_accessors_as_modelled :
    CelloGen.Exn.lenBody = CelloGen.Exn.lenBodyModelled ∧
    CelloGen.Exn.runningBody = CelloGen.Exn.runningBodyModelled ∧
    CelloGen.Exn.currentBody = CelloGen.Exn.currentBodyModelled ∧
    CelloGen.Exn.bufferBody = CelloGen.Exn.bufferBodyModelled ∧
    CelloGen.Exn.recordInstancesAsModelled = true ∧
    CelloGen.Exn.throwJumpsWhenLenPositive = true ∧
    CelloGen.Exn.catchJumpsWhenDepthPositive = true := ⟨rfl, rfl, rfl, rfl, rfl, rfl, rfl⟩

/-- **`running(current(Exception))` is never observed true by user code**: at every point where a construct has ended
    normally — which is where the next user statement runs after a block — the `active` flag is clear and the depth is
    back, whatever the program, its nesting or its objects (from `C07_no_undefined_jump`). The other place where user
    code runs, the start of a handler, is not part of this statement: there `catchPhase` itself hands the handler a
    state with `active := false` (the consuming `exception_catch`). -/
theorem C07_running_false_at_statement_boundaries (maxDepth : Nat) (p : Prog) (x : Nat) (s : St) (ha : s.active = false)
    (hn : (run true maxDepth p x s).2.2 = .normal) :
    (run true maxDepth p x s).1.active = false ∧ (run true maxDepth p x s).1.depth = s.depth := by
  have h := C07_no_undefined_jump maxDepth p x s ha
  unfold Safe at h
  rw [hn] at h
  exact ⟨h.2, h.1⟩

end Cello.Exn
