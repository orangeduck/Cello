/-
  C04 — Array, List and Tuple behave as sequences.

  Property theorems and the definitions their statements need (`NoRawGrow`, `FreshRun`, the `…_statement`s); helper lemmas
  are in CelloProofs/Lemmas/Seq*.lean and SortSorted.lean.
  Model: Cello/Seq.lean (`Arr`, `Lst`, `Tup`: mirrors of src/Array.c, src/List.c, src/Tuple.c) and Cello/Sort.lean
  (the quicksort of Array_Sort_By / Tuple_Sort_By).  Specification: `List α` with the operations of `Spec` — each type's
  own notion of "in range" (`Spec.arrStep`, `Spec.lstStep`, `Spec.tupStep` return `none` for an argument that is out of
  range for that type: e.g. `push_at` at `len` is in range for Array only, `resize` beyond `len` only for Array and List).

  `runOps step s ops` runs a history on the model and stops at the first operation that raises;
  `Spec.run specStep l ops = some l'` says that every argument in the history is in range and that the abstract
  sequence ends as `l'`.

  Two model levels.  The STORE level (Cello/SeqStore.lean: `ArrS`, `LstS`, `TupS`: cells, nodes and links, the Terminal cell)
  is what the driver runs and what is compared with the C representation after every operation.  The LIST level
  (Cello/Seq.lean: `Arr`, `Lst`, `Tup`) is where those mechanisms are already list operations.
  The `C04_store_*` theorems connect them: every store-level step IS the list-level step (`…_simulates`), so
  `memmove = take/drop`, `relinking = insertion/removal`, `prev-walk = reverse` and `nitems ≤ nslots` are theorems about cells
  and links, not definitions; and no step ever reads an unwritten or out-of-block cell, follows a NULL link or touches a freed
  node (`…_never_ub`; for a List under `NoRawGrow`, i.e. outside the `resize` territory of KF-C04-list-resize-raw).  The
  `C04_refines_list_*` theorems then take the list level to the abstract sequence, and `C04_store_refines_list_*` state the
  composition.

  Arguments are VALUES in `Op`: an element passed to push / push_at / set / concat / assign is not a record of the container
  it is passed to, and the operand of concat / assign does not hold pointers to such records.  The aliased calls are modelled
  separately (section "aliased arguments"): assign(x, x) (holds since fix a3140e4), concat(x, x) (known finding
  KF-C04-self-concat), push(a, get(a, k)) / push_at(a, get(a, k), i) on an Array and concat / assign(x, tuple(get(x, k0), …)) (known
  finding KF-C04-push-own-element), set / rem(x, get(x, k)) (hold; set on String elements since fix 744a45f).  `resize` of a List
  beyond its length is in range only for element types whose zero record is a value (known finding KF-C04-list-resize-raw,
  `C04_list_resize_*`).  Tuple elements are object pointers other than the `Terminal` object (`C04_tuple_terminal_element`),
  Tuples are on the heap (`C04_tuple_not_on_heap` for the others).  `assign` from an iterator-only source is taken separately
  (`C04_assign_iter_*`, known finding KF-C04-tuple-assign-iter).

  The last section (`C04_source_*`) ties the arithmetic of the model to the terms extracted from the source.
-/
import CelloProofs.Lemmas.SeqRun
import CelloProofs.Lemmas.SortSorted
import CelloProofs.Lemmas.SeqTupDistinct
import CelloProofs.Lemmas.SeqStoreLst
import CelloProofs.Lemmas.SeqStoreTup
import CelloProofs.Lemmas.SeqStoreOwn
import CelloProofs.Lemmas.SeqSrc

namespace Cello.Seq
variable {α : Type}

/-- **C04 for Array (T1).** After every history of push, pop, push_at, pop_at, set, rem, concat, append, resize, sort and
    assign whose arguments are in range, started from any Array state, nothing was raised, the Array holds exactly the
    abstract sequence, and every observation agrees with it: `len`, `get` for every index (positive and negative
    indices return the element of the abstract sequence, every other index raises `IndexOutOfBoundsError`), `mem`,
    and iteration forwards and backwards through the iterator protocol.  (`x` in `push x` / `pushAt x i` is a value: not a
    record of this Array — for that case see `C04_push_own_element_*`.) -/
theorem C04_refines_list_array [BEq α] (ops : List (Op α)) (a : Arr α) (l' : List α)
    (h : Spec.run Spec.arrStep a.items ops = some l') :
    let r := runOps Arr.step a ops
    r.2 = .ok () ∧ r.1.items = l' ∧ r.1.nitems = l'.length ∧
    (∀ i, r.1.get i = match Spec.get l' i with
        | some x => .ok x
        | none => .raised .indexOutOfBounds) ∧
    (∀ x, r.1.mem x = Spec.mem l' x) ∧
    r.1.iterFwd = some l' ∧ r.1.iterBwd = some l'.reverse := by
  intro r
  obtain ⟨h1, h2, _⟩ := runOps_refines Arr.step Spec.arrStep Arr.items (fun _ => True)
    (fun s op l1 _ hs => ⟨(Arr.step_refines s op l1 hs).1, (Arr.step_refines s op l1 hs).2, trivial⟩) ops a l' trivial h
  refine ⟨h1, h2, ?_, ?_, ?_, ?_, ?_⟩
  · show r.1.items.length = l'.length; rw [h2]
  · intro i; rw [← h2]; exact Arr.get_eq r.1 i
  · intro x; rw [← h2]; rfl
  · rw [← h2]; exact Arr.iterFwd_eq r.1
  · rw [← h2]; exact Arr.iterBwd_eq r.1

/-- the converse of `C04_refines_list_array`, so that the abstract "in range" is exactly what the Array code accepts: an
    out-of-range argument raises and leaves the Array as it was (the state half of this is property C12's) -/
theorem C04_array_out_of_range [BEq α] (a : Arr α) (op : Op α) (h : Spec.arrStep a.items op = none) :
    (a.step op).1 = a ∧ ∃ e, (a.step op).2 = .raised e := Arr.step_out_of_range a op h

/-- **Capacity, list level (T1).** `nitems ≤ nslots` for the two numbers of the list-level model in every state reachable from a
    fresh Array by any history whatsoever — in range or not, exceptions caught and the history continued.  (What this means
    for the block — no record read, written or moved outside it — is `C04_store_array_never_ub` below.) -/
theorem C04_capacity [BEq α] (xs : List α) (ops : List (Op α)) :
    (ops.foldl (fun a op => (a.step op).1) (Arr.new xs)).CapOk :=
  List.foldlRecOn ops _ (ArrS.new_abs xs).capOk fun a h op _ => Arr.step_capOk a op h

/-- … and a copy starts within capacity too -/
theorem C04_capacity_copy (a : Arr α) : a.copy.CapOk := by simp [Arr.CapOk, Arr.copy, Arr.assign]

/-- **The cells do what the list-level Array does (T1).** From any store state `s` that holds a list-level Array `a`
    (`ArrS.Abs`: capacity = number of cells, counter, the first `nitems` cells are written and hold the items — true of
    `Array_New`, `ArrS.new_abs`), for EVERY history — arguments in range or not — run to the first exception: the
    store-level run (index normalisation → bounds check → `nitems++` or `nitems--` → `Array_Reserve_More/Less` = `realloc` into a new
    block → `memmove` of a cell range → write) ends in a state that holds exactly what the list-level run ends in, with
    the same outcome.  This is what makes "`memmove` of the tail = `take k ++ x :: drop k`" a theorem. -/
theorem C04_store_array_simulates [BEq α] (ops : List (Op α)) (s : ArrS α) (a : Arr α) (h : s.Abs a) :
    (runOps ArrS.step s ops).1.Abs (runOps Arr.step a ops).1 ∧ (runOps ArrS.step s ops).2 = (runOps Arr.step a ops).2 :=
  runOps_sim ArrS.step Arr.step ArrS.Abs (fun _ _ op h => ArrS.step_sim h op) ops s a h

/-- **No access outside the block, no read of an unwritten cell (T1)** — the capacity property as a statement about
    cells: in every state reachable from a new Array by any history whatsoever (exceptions caught, history continued) the
    next operation, whatever it is, does not produce `.ub` (every cell read was written since the last (re)allocation,
    every cell read, written or moved lies inside the block of `nslots` cells), `nitems ≤ nslots`, and the first `nitems`
    cells are all written (`items?` reads them). -/
theorem C04_store_array_never_ub [BEq α] (xs : List α) (ops : List (Op α)) (op : Op α) :
    let s := ops.foldl (fun s op => (s.step op).1) (ArrS.new xs)
    (s.step op).2 ≠ .ub ∧ s.nitems ≤ s.cells.size ∧ ∃ l, s.items? = some l := by
  intro s
  have habs : s.Abs (ops.foldl (fun a op => (a.step op).1) (Arr.new xs)) :=
    foldl_sim ArrS.step Arr.step ArrS.Abs (fun _ _ op h => ArrS.step_sim h op) ops _ _ (ArrS.new_abs xs)
  exact ⟨ArrS.step_ne_ub habs op, by rw [habs.len]; exact habs.cell.le_size, _, ArrS.items?_eq habs⟩

/-- **C04 for Array, cells to abstract sequence (T1)**: the composition.  After every in-range history the cells in use are
    exactly the abstract sequence, and the observations made THROUGH THE CELLS — `len` (the counter), `get` with positive
    and negative indices (a cell read), `mem` (the scan), iteration in both directions (record addresses) — agree with it. -/
theorem C04_store_refines_list_array [BEq α] (ops : List (Op α)) (s : ArrS α) (a : Arr α) (habs : s.Abs a) (l' : List α)
    (h : Spec.run Spec.arrStep a.items ops = some l') :
    let r := runOps ArrS.step s ops
    r.2 = .ok () ∧ r.1.items? = some l' ∧ r.1.nitems = l'.length ∧
    (∀ i, r.1.get i = match Spec.get l' i with
        | some x => .ok x
        | none => .raised .indexOutOfBounds) ∧
    (∀ x, r.1.mem x = .ok (Spec.mem l' x)) ∧
    r.1.iterFwd = some l' ∧ r.1.iterBwd = some l'.reverse := by
  intro r
  obtain ⟨hs, ho⟩ := C04_store_array_simulates ops s a habs
  obtain ⟨g1, g2, _, g4, g5, _⟩ := C04_refines_list_array ops a l' h
  refine ⟨by rw [ho]; exact g1, by rw [ArrS.items?_eq hs, g2], by rw [hs.len, g2], ?_, ?_, ?_, ?_⟩
  · intro i; rw [ArrS.get_sim hs i]; exact g4 i
  · intro x; rw [ArrS.mem_sim hs x, g5 x]
  · rw [ArrS.iterFwd_sim hs, g2]
  · rw [ArrS.iterBwd_sim hs, g2]

/-- a copy is a fresh block that holds the same items -/
theorem C04_store_array_copy (s : ArrS α) (a : Arr α) (h : s.Abs a) : s.copy.1.Abs a.copy ∧ s.copy.2 = .ok () :=
  ArrS.copy_sim h

/-- **C04 for List (T1).** The same for a List whose counter field agrees with its chain (true of a new List, and
    preserved — third conjunct). `push_at` with key 0 is always in range, other keys must name an existing element;
    `resize` beyond the length pads with zero-initialised elements and is in range ONLY for element types whose all-zero record
    is a value (`ZeroIsValue.zeroOk`: Int, the byte records — not String; otherwise known finding KF-C04-list-resize-raw,
    `C04_list_resize_grow_refuted`); shrinking `resize` is in range for every element type; `sort` is not available. -/
theorem C04_refines_list_list [BEq α] [ZeroIsValue α] (ops : List (Op α)) (l : Lst α) (hinv : l.Inv) (l' : List α)
    (h : Spec.run Spec.lstStep l.items ops = some l') :
    let r := runOps Lst.step l ops
    r.2 = .ok () ∧ r.1.items = l' ∧ r.1.Inv ∧ r.1.nitems = l'.length ∧
    (∀ i, r.1.get i = match Spec.get l' i with
        | some x => .ok x
        | none => .raised .indexOutOfBounds) ∧
    (∀ x, r.1.mem x = Spec.mem l' x) ∧
    r.1.iterFwd = some l' ∧ r.1.iterBwd = some l'.reverse := by
  intro r
  obtain ⟨h1, h2, h3⟩ := runOps_refines Lst.step Spec.lstStep Lst.items Lst.Inv
    (fun s op l1 hi hs => Lst.step_refines s hi op l1 hs) ops l l' hinv h
  refine ⟨h1, h2, h3, ?_, ?_, ?_, ?_, ?_⟩
  · rw [← h2]; exact h3
  · intro i; rw [← h2]; exact Lst.get_eq r.1 h3 i
  · intro x; rw [← h2]; rfl
  · rw [← h2]; exact Lst.iterFwd_eq r.1 h3
  · rw [← h2]; exact Lst.iterBwd_eq r.1 h3

/-- out of range for a List raises and leaves the List as it was — except `assign` from a source without `Len`
    (`filter(…)`), which raises `ClassError` *after* `List_Clear` (second conjunct; the state half belongs to C12), and except
    `resize` beyond the length for an element type whose zero record is not a value (`l.rawGrow op`), which does not raise at
    all: the List is grown with records that were never constructed (third conjunct; known finding KF-C04-list-resize-raw) -/
theorem C04_list_out_of_range [BEq α] [ZeroIsValue α] (l : Lst α) (hinv : l.Inv) (op : Op α)
    (h : Spec.lstStep l.items op = none) :
    (op.iterAssign = false → l.rawGrow op = false → (l.step op).1 = l ∧ ∃ e, (l.step op).2 = .raised e) ∧
    (∀ ys, op = .assign ys false → l.step op = (l.clear, .raised .classError)) ∧
    (l.rawGrow op = true → (l.step op).2 = .ub ∧ ∃ n, op = .resize n ∧ (l.step op).1 = (l.resize n).1) :=
  ⟨fun hop hrg => Lst.step_out_of_range l hinv op hop hrg h, fun ys he => by subst he; rfl, Lst.step_rawGrow l op⟩

/-- the hypothesis `l.Inv` of `C04_refines_list_list` is met by a new List (built by pushes onto the empty List) and by a copy -/
theorem C04_list_new_inv (xs : List α) : ((Lst.empty : Lst α).concat xs).1.Inv ∧ (⟨xs, xs.length⟩ : Lst α).copy.Inv := by
  simp [Lst.concat, Lst.copy, Lst.assign, Lst.clear, Lst.foldl_push, Lst.Inv, Lst.empty]

/-- **The links do what the list-level List does (T1).** From any store state whose chain of nodes (`head` → `next` … →
    `tail`, every `prev` pointing back, all nodes distinct and allocated: `LstS.Abs`) holds a list-level List, for EVERY
    history run to the first exception: the store-level run (`List_At` walking `next` from `head` or `prev` from `tail`,
    `List_Link` with its head / tail / neighbour cases, `List_Unlink` with its four cases, free) ends in a state whose
    chain holds exactly what the list-level run ends in, with the same outcome. -/
theorem C04_store_list_simulates [BEq α] [ZeroIsValue α] (ops : List (Op α)) (s : LstS α) (l : Lst α) (h : s.Abs l) :
    (runOps LstS.step s ops).1.Abs (runOps Lst.step l ops).1 ∧ (runOps LstS.step s ops).2 = (runOps Lst.step l ops).2 :=
  runOps_sim LstS.step Lst.step LstS.Abs (fun _ _ op h => LstS.step_sim h op) ops s l h

/-- no operation of the history (exceptions caught, history continued) is a `resize` in the territory of known finding
    KF-C04-list-resize-raw at the state it is applied to -/
def NoRawGrow [BEq α] [ZeroIsValue α] : Lst α → List (Op α) → Prop
  | _, [] => True
  | l, op :: ops => l.rawGrow op = false ∧ NoRawGrow (l.step op).1 ops

theorem NoRawGrow.last [BEq α] [ZeroIsValue α] (op : Op α) : ∀ (ops : List (Op α)) (l : Lst α), NoRawGrow l (ops ++ [op]) →
    (ops.foldl (fun l op => (l.step op).1) l).rawGrow op = false
  | [], _, h => h.1
  | _ :: ops, _, h => NoRawGrow.last op ops _ h.2

/-- for element types whose zero record is a value (Int, byte records) the hypothesis is empty: every history qualifies -/
theorem NoRawGrow.of_zeroOk [BEq α] [ZeroIsValue α] (hz : ZeroIsValue.zeroOk α = true) : ∀ (ops : List (Op α)) (l : Lst α), NoRawGrow l ops
  | [], _ => trivial
  | op :: ops, l => ⟨Lst.rawGrow_false hz l op, NoRawGrow.of_zeroOk hz ops _⟩

/-- **No NULL link followed, no freed node touched (T1)**: in every state reachable from a new List by any history
    whatsoever (exceptions caught) none of whose steps is a `resize` that manufactures unconstructed elements (`NoRawGrow`:
    no restriction at all for Int-like element types — `NoRawGrow.of_zeroOk`; for String-like ones exactly the territory of
    KF-C04-list-resize-raw is excluded) the next operation does not produce `.ub`, and the chain is intact: forward iteration
    along `next` and backward iteration along `prev` read the same items, one the reverse of the other, and the counter
    field is their number. -/
theorem C04_store_list_never_ub [BEq α] [ZeroIsValue α] (xs : List α) (ops : List (Op α)) (op : Op α)
    (hn : NoRawGrow (Lst.empty.concat xs).1 (ops ++ [op])) :
    let s := ops.foldl (fun s op => (s.step op).1) (LstS.new xs).1
    (s.step op).2 ≠ .ub ∧ ∃ items, s.iterFwd = some items ∧ s.iterBwd = some items.reverse ∧ s.nitems = items.length := by
  intro s
  have habs : s.Abs (ops.foldl (fun l op => (l.step op).1) (Lst.empty.concat xs).1) :=
    foldl_sim LstS.step Lst.step LstS.Abs (fun _ _ op h => LstS.step_sim h op) ops _ _ (LstS.new_abs xs).1
  refine ⟨?_, _, LstS.iterFwd_sim habs, LstS.iterBwd_sim habs, ?_⟩
  · rw [(LstS.step_sim habs op).2]; exact Lst.step_ne_ub _ habs.inv op (NoRawGrow.last op ops _ hn)
  · exact habs.nitems_eq.trans habs.inv

/-- … and from ANY state that holds a List, `.ub` is produced by exactly those steps (nodes and list level alike) -/
theorem C04_list_ub_iff_raw_grow [BEq α] [ZeroIsValue α] (s : LstS α) (l : Lst α) (h : s.Abs l) (op : Op α) :
    ((s.step op).2 = .ub ↔ l.rawGrow op = true) ∧ ((l.step op).2 = .ub ↔ l.rawGrow op = true) := by
  refine ⟨?_, Lst.step_ub_iff l h.inv op⟩
  rw [(LstS.step_sim h op).2]; exact Lst.step_ub_iff l h.inv op

/-- **C04 for List, links to abstract sequence (T1)**: the composition; observations through the nodes. -/
theorem C04_store_refines_list_list [BEq α] [ZeroIsValue α] (ops : List (Op α)) (s : LstS α) (l : Lst α) (habs : s.Abs l)
    (l' : List α) (h : Spec.run Spec.lstStep l.items ops = some l') :
    let r := runOps LstS.step s ops
    r.2 = .ok () ∧ r.1.nitems = l'.length ∧
    (∀ i, r.1.get i = match Spec.get l' i with
        | some x => .ok x
        | none => .raised .indexOutOfBounds) ∧
    (∀ x, r.1.mem x = .ok (Spec.mem l' x)) ∧
    r.1.iterFwd = some l' ∧ r.1.iterBwd = some l'.reverse := by
  intro r
  obtain ⟨hs, ho⟩ := C04_store_list_simulates ops s l habs
  obtain ⟨g1, g2, g3, g4, g5, g6, g7, g8⟩ := C04_refines_list_list ops l habs.inv l' h
  refine ⟨by rw [ho]; exact g1, hs.nitems_eq.trans g4, ?_, ?_, ?_, ?_⟩
  · intro i; rw [LstS.get_sim hs i]; exact g5 i
  · intro x; rw [LstS.mem_sim hs x, g6 x]
  · rw [LstS.iterFwd_sim hs, g2]
  · rw [LstS.iterBwd_sim hs, g2]

/-- **C04 for Tuple (T1): contents, len, get.** After every in-range history the Tuple holds exactly the abstract
    sequence and `len` / `get` agree with it.  (`push_at` needs the index of an existing element, `resize` only
    shrinks.)  No hypothesis on the stored pointers is needed for this part. -/
theorem C04_refines_list_tuple [BEq α] (ops : List (Op α)) (t : Tup α) (l' : List α)
    (h : Spec.run Spec.tupStep t.items ops = some l') :
    let r := runOps Tup.step t ops
    r.2 = .ok () ∧ r.1.items = l' ∧ r.1.len = l'.length ∧
    (∀ i, r.1.get i = match Spec.get l' i with
        | some x => .ok x
        | none => .raised .indexOutOfBounds) := by
  intro r
  obtain ⟨h1, h2, _⟩ := runOps_refines Tup.step Spec.tupStep Tup.items (fun _ => True)
    (fun s op l1 _ hs => ⟨(Tup.step_refines s op l1 hs).1, (Tup.step_refines s op l1 hs).2, trivial⟩) ops t l' trivial h
  refine ⟨h1, h2, ?_, ?_⟩
  · show r.1.items.length = l'.length; rw [h2]
  · intro i; rw [← h2]; exact Tup.get_eq r.1 i

/-- out of range for a Tuple raises and leaves the Tuple as it was — except `assign` from an iterator-only source to a
    non-empty Tuple, which does not raise at all (`C04_assign_iter_refuted` below) -/
theorem C04_tuple_out_of_range [BEq α] (t : Tup α) (op : Op α) (hop : op.iterAssign = false)
    (h : Spec.tupStep t.items op = none) :
    (t.step op).1 = t ∧ ∃ e, (t.step op).2 = .raised e := Tup.step_out_of_range t op hop h

/-- **The cell block does what the list-level Tuple does (T1).** From any heap Tuple whose block is exactly its items followed
    by the Terminal cell (`TupS.Abs`; true of `Tuple_New`, `TupS.new_abs`), for EVERY history run to the first exception:
    the store-level run (`Tuple_Len` scanning for Terminal, `realloc` to the exact new size, `memmove` of the tail
    INCLUDING the Terminal cell, the cell write) ends in a block that is exactly the items of the list-level result
    followed by Terminal, with the same outcome. -/
theorem C04_store_tuple_simulates [BEq α] (ops : List (Op α)) (s : TupS α) (t : Tup α) (h : s.Abs t) :
    (runOps TupS.step s ops).1.Abs (runOps Tup.step t ops).1 ∧ (runOps TupS.step s ops).2 = (runOps Tup.step t ops).2 :=
  runOps_sim TupS.step Tup.step TupS.Abs (fun _ _ op h => TupS.step_sim h op) ops s t h

/-- **The scan for Terminal never leaves the block (T1)**: in every state reachable from a new heap Tuple by any history
    whatsoever (exceptions caught) the next operation does not produce `.ub`, the block has exactly `len + 1` cells and
    `Tuple_Len` finds the Terminal in the last one. -/
theorem C04_store_tuple_never_ub [BEq α] (xs : List α) (ops : List (Op α)) (op : Op α) :
    let s := ops.foldl (fun s op => (s.step op).1) (TupS.new xs)
    (s.step op).2 ≠ .ub ∧ ∃ n, s.len = some n ∧ s.cells.size = n + 1 := by
  intro s
  have habs : s.Abs (ops.foldl (fun t op => (t.step op).1) ⟨xs⟩) :=
    foldl_sim TupS.step Tup.step TupS.Abs (fun _ _ op h => TupS.step_sim h op) ops _ _ (TupS.new_abs xs)
  exact ⟨TupS.step_ne_ub habs op, _, TupS.len_sim habs, habs.size⟩

/-- **C04 for Tuple, cells to abstract sequence (T1)**: the composition for contents, `len` and `get`; and iteration / `mem`
    through the cells (`Tuple_Iter_Next` scanning for the current pointer) are, for every fuel and every Tuple — distinct
    pointers or not — what the list-level model gives, so `C04_tuple_iteration_partial` / `C04_tuple_history_iteration`
    (and the divergence of F13) carry over to the cells. -/
theorem C04_store_refines_list_tuple [BEq α] (ops : List (Op α)) (s : TupS α) (t : Tup α) (habs : s.Abs t) (l' : List α)
    (h : Spec.run Spec.tupStep t.items ops = some l') :
    let r := runOps TupS.step s ops
    r.2 = .ok () ∧ r.1.items? = some l' ∧ r.1.len = some l'.length ∧ r.1.cells.size = l'.length + 1 ∧
    (∀ i, r.1.get i = match Spec.get l' i with
        | some x => .ok x
        | none => .raised .indexOutOfBounds) ∧
    (∀ (ident : α → Nat) (fuel : Nat),
        r.1.iterFwd ident fuel = (runOps Tup.step t ops).1.iterFwd ident fuel ∧
        r.1.iterBwd ident fuel = (runOps Tup.step t ops).1.iterBwd ident fuel ∧
        ∀ x, r.1.mem ident x fuel = (runOps Tup.step t ops).1.mem ident x fuel) := by
  intro r
  obtain ⟨hs, ho⟩ := C04_store_tuple_simulates ops s t habs
  obtain ⟨g1, g2, g3, g4⟩ := C04_refines_list_tuple ops t l' h
  refine ⟨by rw [ho]; exact g1, by rw [TupS.items?_eq hs, g2], by rw [TupS.len_sim hs, g3], by rw [hs.size, g2], ?_, ?_⟩
  · intro i; rw [TupS.get_sim hs i]; exact g4 i
  · intro ident fuel
    exact ⟨(TupS.iter_cells hs.cells ident fuel).1, (TupS.iter_cells hs.cells ident fuel).2, fun x => TupS.mem_cells hs.cells ident x fuel⟩

/-- **`Terminal` stored as an element ends the Tuple there.**  The theorems above quantify over element values `x : α`,
    i.e. pointers to objects OTHER than `Terminal`.  If the `Terminal` object itself is stored with `set(t, i, Terminal)`
    (`i` in range), the call succeeds and `Tuple_Len` then stops at cell `i`: the items from `i` on are lost (the block keeps
    its size).  Concretely `set([1,2,3], 1, Terminal)` leaves length 1, and `push([1,2,3], Terminal)` leaves length 3 in a
    block of 5 cells. -/
theorem C04_tuple_terminal_element (s : TupS α) (t : Tup α) (h : s.Abs t) (i : Int) (k : Nat)
    (hk : Spec.idx t.items.length i = some k) :
    (∃ s', s.setCell i .term = (s', .ok ()) ∧ s'.len = some k ∧ s'.cells.size = s.cells.size) ∧
    ((TupS.new [1, 2, 3]).setCell 1 .term).1.len = some 1 ∧
    ((TupS.new [1, 2, 3]).pushCell .term).1.len = some 3 ∧ ((TupS.new [1, 2, 3]).pushCell .term).1.cells.size = 5 :=
  have ⟨s', e, _, hl, hs⟩ := TupS.setCell_term_truncates h.cells i k hk
  ⟨⟨s', e, hl, hs⟩, by decide, by decide, by decide⟩

/-- **Tuples that are not on the heap** (`tuple(…)` on the stack, static Tuples): every operation that would reallocate the
    block — push, append, pop, push_at, pop_at, rem, concat, resize, assign (with at least one item when the source is
    iterator-only) — raises (its own bounds error where the C code checks that first, else `ValueError`) and leaves the
    block as it was; "started from any Tuple state" in the theorems above means any HEAP Tuple state. -/
theorem C04_tuple_not_on_heap [BEq α] (s : TupS α) (t : Tup α) (h : s.Cells t) (hs : s.onHeap = false) (op : Op α)
    (hop : match op with
      | .set _ _ => False | .sort _ => False | .assign ys false => ys ≠ [] | _ => True) :
    (s.step op).1 = s ∧ ∃ e, (s.step op).2 = .raised e := TupS.stack_refuses h hs op hop

/-- … while the operations that do not reallocate — `get`, `set`, `sort`, `len`, iteration, `mem` — do on ANY Tuple block
    (`TupS.Cells`: on the heap or not) what the list-level model does -/
theorem C04_tuple_any_block [BEq α] (s : TupS α) (t : Tup α) (h : s.Cells t) :
    s.len = some t.len ∧ (∀ i, s.get i = t.get i) ∧
    (∀ i x, (s.set i x).1.Cells (t.set i x).1 ∧ (s.set i x).2 = (t.set i x).2) ∧
    (∀ f, (s.sortBy f).1.Cells (t.sortBy f).1 ∧ (s.sortBy f).2 = (t.sortBy f).2) ∧
    (∀ (ident : α → Nat) (fuel : Nat), s.iterFwd ident fuel = t.iterFwd ident fuel ∧ s.iterBwd ident fuel = t.iterBwd ident fuel ∧
      ∀ x, s.mem ident x fuel = t.mem ident x fuel) :=
  ⟨h.len_sim, TupS.get_cells h, fun i x => ⟨(TupS.set_cells h i x).1, (TupS.set_cells h i x).2.2⟩,
    fun f => ⟨(TupS.sortBy_cells h f).1, (TupS.sortBy_cells h f).2.2⟩,
    fun ident fuel => ⟨(TupS.iter_cells h ident fuel).1, (TupS.iter_cells h ident fuel).2, fun x => TupS.mem_cells h ident x fuel⟩⟩

/-- The full statement for Tuple iteration (on which `mem`, implemented with `foreach`, depends), stated for forward
    iteration: in *every* Tuple state the iterator protocol, given enough steps, yields the stored sequence.  It is FALSE for the code as it is (known
    finding F13, `C04_tuple_iteration_refuted`): `Tuple_Iter_Next` finds its position by pointer identity. -/
def C04_tuple_iteration_statement : Prop :=
  ∀ (ident : Nat → Nat) (t : Tup Nat), ∃ fuel, t.iterFwd ident fuel = some t.items

/-- **Tuple iteration and mem (partial: distinct pointers).** In a Tuple whose stored pointers are pairwise distinct,
    iteration forwards and backwards yields exactly the stored sequence (within `len+1` steps) and `mem` agrees with the
    abstract sequence.  Missing for the full statement: Tuples that hold one object twice (F13). -/
theorem C04_tuple_iteration_partial [BEq α] (ident : α → Nat) (t : Tup α) (hd : t.Distinct ident) (fuel : Nat)
    (hf : t.items.length + 1 ≤ fuel) :
    t.iterFwd ident fuel = some t.items ∧ t.iterBwd ident fuel = some t.items.reverse ∧
    (∀ x, t.mem ident x fuel = some (Spec.mem t.items x)) :=
  ⟨Tup.iterFwd_eq ident t hd fuel hf, Tup.iterBwd_eq ident t hd fuel hf, fun x => Tup.mem_eq ident t hd x fuel hf⟩

/-- every operation of the history stores only pointers that the Tuple does not hold at that moment (`set(t, i, x)` may store
    the pointer that cell `i` already holds), and the operand of `concat` / `assign` holds no pointer twice (`FreshOp`) -/
def FreshRun [BEq α] (ident : α → Nat) : List α → List (Op α) → Prop
  | _, [] => True
  | l, op :: ops => FreshOp ident l op ∧ ∀ l', Spec.tupStep l op = some l' → FreshRun ident l' ops

/-- **Tuple: whole histories that never store a pointer twice.** Started from a Tuple with distinct pointers, after every
    in-range history in which no operation stores a pointer that is already inside, the pointers are still distinct, and
    forward iteration, backward iteration and `mem` agree with the abstract sequence. -/
theorem C04_tuple_history_iteration [BEq α] (ident : α → Nat) (ops : List (Op α)) (t : Tup α) (l' : List α)
    (hd : t.Distinct ident) (hfresh : FreshRun ident t.items ops) (h : Spec.run Spec.tupStep t.items ops = some l') :
    let r := runOps Tup.step t ops
    r.1.Distinct ident ∧ r.1.iterFwd ident (l'.length + 1) = some l' ∧
    r.1.iterBwd ident (l'.length + 1) = some l'.reverse ∧
    (∀ x, r.1.mem ident x (l'.length + 1) = some (Spec.mem l' x)) := by
  intro r
  have hnd : ∀ (ops : List (Op α)) (l : List α), (l.map ident).Nodup → FreshRun ident l ops →
      Spec.run Spec.tupStep l ops = some l' → (l'.map ident).Nodup := by
    intro ops
    induction ops with
    | nil => intro l hn _ hr; simp [Spec.run] at hr; subst hr; exact hn
    | cons op ops ih =>
      intro l hn hf hr
      simp only [Spec.run] at hr
      cases hs : Spec.tupStep l op with
      | none => rw [hs] at hr; simp at hr
      | some l1 =>
        rw [hs] at hr; simp only [Option.bind_some] at hr
        exact ih l1 (tupStep_distinct ident l l1 op hn hf.1 hs) (hf.2 l1 hs) hr
  have hitems : r.1.items = l' := (C04_refines_list_tuple ops t l' h).2.1
  have hdist : r.1.Distinct ident := by unfold Tup.Distinct; rw [hitems]; exact hnd ops t.items hd hfresh h
  have hfuel : r.1.items.length + 1 ≤ l'.length + 1 := by rw [hitems]
  obtain ⟨g1, g2, g3⟩ := C04_tuple_iteration_partial ident r.1 hdist (l'.length + 1) hfuel
  rw [hitems] at g1 g2 g3
  exact ⟨hdist, g1, g2, g3⟩

/-- **`mem` before the cycle (what F13 leaves intact).**  In ANY Tuple — repeated pointers or not — `mem` returns `true` when an
    element equal to the argument sits at a position up to which the stored pointers are still pairwise distinct (only
    elements behind the second occurrence of a pointer are out of reach: `mem [7,7,8] 8` never answers). -/
theorem C04_tuple_mem_before_cycle [BEq α] (ident : α → Nat) (t : Tup α) (x : α) (p : Nat) (hp : p < t.items.length)
    (hx : (t.items[p] == x) = true) (hnd : ((t.items.take (p + 1)).map ident).Nodup) (fuel : Nat) (hf : p + 1 ≤ fuel) :
    t.mem ident x fuel = some true := Tup.mem_dup_true_prefix ident t x p hp hx hnd fuel hf

example : (⟨[7, 7, 8]⟩ : Tup Nat).mem id 7 10 = some true ∧ (⟨[7, 7, 8]⟩ : Tup Nat).mem id 8 100 = none := by decide

/-- **F13 refuted witness**: the Tuple `[x, x]` — `foreach` never terminates, whatever the number of steps -/
theorem C04_tuple_iteration_refuted : ¬ C04_tuple_iteration_statement := by
  intro h
  obtain ⟨fuel, hf⟩ := h id ⟨[7, 7]⟩
  rw [Tup.iterFwd_dup_diverges id 7 fuel] at hf
  cases hf

/-- copy = assign into a fresh object: the copy holds the same sequence (all three types) -/
theorem C04_copy (a : Arr α) (l : Lst α) (t : Tup α) :
    a.copy.items = a.items ∧ l.copy.items = l.items ∧ l.copy.Inv ∧ t.copy.items = t.items := by
  simp [Arr.copy, Arr.assign, Lst.copy, Lst.assign, Lst.concat, Lst.clear, Lst.foldl_push, Lst.Inv, Tup.copy, Tup.assign]

/-- **rem deletes the first element equal to its argument** (all three types: same abstract operation; for Tuple the
    test is `eq(x, item)` — the argument order of `Tuple_Rem` — so its hypotheses are stated with `x == z`): if the
    sequence is `pre ++ y :: post` with `y` equal to `x` and nothing in `pre` equal to `x`, then after `rem x` it is
    `pre ++ post` and nothing was raised.  (Through `C04_store_*_simulates` the same holds for the cells / links.) -/
theorem C04_rem_first [BEq α] [ZeroIsValue α] (pre post : List α) (y x : α)
    (hpre : ∀ z ∈ pre, (z == x) = false) (hy : (y == x) = true) :
    (∀ a : Arr α, a.items = pre ++ y :: post → ((a.step (.rem x)).1.items = pre ++ post ∧ (a.step (.rem x)).2 = .ok ())) ∧
    (∀ l : Lst α, l.Inv → l.items = pre ++ y :: post → ((l.step (.rem x)).1.items = pre ++ post ∧ (l.step (.rem x)).2 = .ok ())) ∧
    (∀ t : Tup α, (∀ z ∈ pre, (x == z) = false) → (x == y) = true → t.items = pre ++ y :: post →
      ((t.step (.rem x)).1.items = pre ++ post ∧ (t.step (.rem x)).2 = .ok ())) := by
  have hs : ∀ items : List α, items = pre ++ y :: post → (if Spec.mem items x = true then some (items.erase x) else none) = some (pre ++ post) := by
    intro items hi
    obtain ⟨hm, he⟩ := eraseP_first (· == x) pre post y hpre hy
    rw [hi, if_pos (show Spec.mem _ x = true from hm), List.erase_eq_eraseP', he]
  refine ⟨?_, ?_, ?_⟩
  · intro a ha
    have := Arr.step_refines a (.rem x) (pre ++ post) (by simp only [Spec.arrStep]; exact hs _ ha)
    exact ⟨this.2, this.1⟩
  · intro l hinv hl
    have := Lst.step_refines l hinv (.rem x) (pre ++ post) (by simp only [Spec.lstStep]; exact hs _ hl)
    exact ⟨this.2.1, this.1⟩
  · intro t hpre' hy' ht
    obtain ⟨hany, herase⟩ := eraseP_first (fun z => x == z) pre post y hpre' hy'
    have := Tup.step_refines t (.rem x) (pre ++ post) (by simp only [Spec.tupStep, ht, hany, if_true, herase])
    exact ⟨this.2, this.1⟩

/-- **sort leaves a permutation (T1)** — for every comparison function whatsoever (the algorithm only swaps).  Element types:
    `swap` (Assign.c) exchanges the bytes of two records; an Array whose element type has `size` 0 or its own `Swap`
    instance would go through `TypeError` / user code instead — not an element type of this model (`.ok ()` below is for
    types with a positive size and the default swap: Int, String, the record types of the harness). -/
theorem C04_sort_perm (f : α → α → Bool) (a : Arr α) (t : Tup α) :
    (a.sortBy f).1.items.Perm a.items ∧ (t.sortBy f).1.items.Perm t.items ∧
    (a.sortBy f).2 = .ok () ∧ (t.sortBy f).2 = .ok () :=
  ⟨Sort.sortList_perm f a.items, Sort.sortList_perm f t.items, rfl, rfl⟩

/-- **sort orders the sequence (T2).** For every comparison function that is a strict partial order (asymmetric and
    transitive — in particular the `lt` of any lawful total order, or `lt` on a key, which is only a strict weak order on
    the elements), after `sort_by` no element is `f`-below an element that precedes it.  Together with `C04_sort_perm`:
    the result is the ordered permutation.  (For a comparator that is not asymmetric, e.g. `le`, the model and the
    code still agree and still permute; nothing is claimed about the order.) -/
theorem C04_sort_sorted (f : α → α → Bool)
    (hasym : ∀ x y, f x y = true → f y x = false)
    (htrans : ∀ x y z, f x y = true → f y z = true → f x z = true) (a : Arr α) (t : Tup α) :
    (a.sortBy f).1.items.Pairwise (fun x y => f y x = false) ∧
    (t.sortBy f).1.items.Pairwise (fun x y => f y x = false) :=
  ⟨Sort.sortList_sorted f hasym htrans a.items, Sort.sortList_sorted f hasym htrans t.items⟩

/-- instance: `sort` on integers (`lt`) yields a non-decreasing permutation -/
theorem C04_sort_int (a : Arr Int) :
    (a.sortBy (fun x y => decide (x < y))).1.items.Pairwise (· ≤ ·) ∧
    (a.sortBy (fun x y => decide (x < y))).1.items.Perm a.items := by
  refine ⟨?_, Sort.sortList_perm _ a.items⟩
  have := (C04_sort_sorted (fun x y : Int => decide (x < y))
    (by intro x y h; simp only [decide_eq_true_eq, decide_eq_false_iff_not] at *; omega)
    (by intro x y z h1 h2; simp only [decide_eq_true_eq] at *; omega) a ⟨[]⟩).1
  refine this.imp ?_
  intro x y h
  simp only [decide_eq_false_iff_not] at h
  omega

/-! ## aliased arguments (assign(x, x): fixed; known findings KF-C04-self-concat, KF-C04-push-own-element)

  The refinement theorems above take the argument of `concat` / `assign` as a *value* (the abstract contents of the other
  container): they cover every call whose `obj` is not `self`.  The full statements for `obj == self` are below; they are
  false for `concat` in the code as it is, with concrete witnesses, and `C04_self_alias_partial` states the part that does hold. -/

/-- full statement: `assign(x, x)` leaves the contents of `x` as they were, for any implementation `fa` / `fl` of the aliased
    call on an Array / a List (the two types whose `…_Assign` cleared the target first) -/
def C04_self_assign_statement (fa : Arr Nat → Arr Nat × Res Unit) (fl : Lst Nat → Lst Nat × Res Unit) : Prop :=
  (∀ a : Arr Nat, (fa a).1.items = a.items) ∧ (∀ l : Lst Nat, l.Inv → (fl l).1.items = l.items)

/-- **assign(x, x) changes nothing** (the code as it is since fix a3140e4: `if (self is obj) return;`), all three types,
    every element type: contents, capacity, counter and outcome -/
theorem C04_self_assign (a : Arr α) (l : Lst α) (t : Tup α) :
    a.assignSelf = (a, .ok ()) ∧ l.assignSelf = (l, .ok ()) ∧ t.assignSelf = (t, .ok ()) := ⟨rfl, rfl, rfl⟩

theorem C04_self_assign_holds : C04_self_assign_statement Arr.assignSelf Lst.assignSelf :=
  ⟨fun _ => rfl, fun _ _ => rfl⟩

/-- **the code before fix a3140e4 refuted the statement**: `Array_Assign` / `List_Assign` cleared the target before they
    read the source: `assign(a, a)` emptied `[1]` (regression witness corpus/seq_fixed_self_assign.ops) -/
theorem C04_self_assign_old_refuted : ¬ C04_self_assign_statement Arr.assignSelfOld Lst.assignSelfOld := by
  intro h
  have := h.1 ⟨[1], 1⟩
  simp [Arr.assignSelfOld, Arr.assign, Arr.clear] at this

/-- full statement: `concat(x, x)` completes, stays inside the object and doubles the sequence -/
def C04_self_concat_statement : Prop :=
  (∀ l : Lst Nat, l.Inv → ∃ fuel l', l.concatSelf fuel = some l' ∧ l'.items = l.items ++ l.items) ∧
  (∀ t : Tup Nat, t.concatSelf.2 = .ok () ∧ t.concatSelf.1.items = t.items ++ t.items) ∧
  (∀ a : Arr Nat, a.CapOk → a.concatSelf.2 = .ok () ∧ a.concatSelf.1.items = a.items ++ a.items)

/-- **refuted**, each conjunct separately: a non-empty List never finishes, a non-empty Tuple and an Array whose
    capacity is already `2·len` leave the object -/
theorem C04_self_concat_refuted :
    (¬ ∀ l : Lst Nat, l.Inv → ∃ fuel l', l.concatSelf fuel = some l' ∧ l'.items = l.items ++ l.items) ∧
    (¬ ∀ t : Tup Nat, t.concatSelf.2 = .ok () ∧ t.concatSelf.1.items = t.items ++ t.items) ∧
    (¬ ∀ a : Arr Nat, a.CapOk → a.concatSelf.2 = .ok () ∧ a.concatSelf.1.items = a.items ++ a.items) ∧
    ¬ C04_self_concat_statement := by
  have h1 : ¬ ∀ l : Lst Nat, l.Inv → ∃ fuel l', l.concatSelf fuel = some l' ∧ l'.items = l.items ++ l.items := by
    intro h
    obtain ⟨fuel, l', hl, _⟩ := h ⟨[1], 1⟩ rfl
    rw [Lst.concatSelf_diverges ⟨[1], 1⟩ rfl (by simp) fuel] at hl
    cases hl
  have h2 : ¬ ∀ t : Tup Nat, t.concatSelf.2 = .ok () ∧ t.concatSelf.1.items = t.items ++ t.items := by
    intro h
    have := (h ⟨[1]⟩).1
    simp [Tup.concatSelf, Tup.len] at this
  have h3 : ¬ ∀ a : Arr Nat, a.CapOk → a.concatSelf.2 = .ok () ∧ a.concatSelf.1.items = a.items ++ a.items := by
    intro h
    have := (h ⟨[1, 2], 4⟩ (by simp [Arr.CapOk])).1
    simp [Arr.concatSelf, Arr.nitems, reserveMore] at this
  exact ⟨h1, h2, h3, fun h => h1 h.1⟩

/-- **what does hold for aliased arguments**: `assign(t, t)` on a Tuple changes nothing; `concat(a, a)` on an Array
    is right whenever the resulting capacity is at least `3·len` — in particular whenever the Array has to grow, because
    `Array_Reserve_More` then makes it exactly `3·len`; every aliased call on an empty container is harmless. -/
theorem C04_self_alias_partial (a : Arr α) (l : Lst α) (t : Tup α) :
    t.assignSelf = (t, .ok ()) ∧
    (a.nslots < 2 * a.nitems ∨ 3 * a.nitems ≤ a.nslots →
      a.concatSelf.2 = .ok () ∧ a.concatSelf.1.items = a.items ++ a.items ∧ a.concatSelf.1.CapOk) ∧
    (l.items = [] → l.Inv → ∀ fuel, l.concatSelf fuel = some l) ∧
    (t.items = [] → t.concatSelf = (t, .ok ())) := by
  refine ⟨rfl, ?_, ?_, ?_⟩
  · intro h
    have hn : a.nitems = a.items.length := rfl
    unfold Arr.concatSelf
    simp only
    have hcond : ¬ (a.nitems > 0 ∧ 3 * a.nitems > reserveMore (a.nitems + a.nitems) a.nslots) := by
      unfold reserveMore
      split <;> omega
    rw [if_neg hcond]
    refine ⟨rfl, rfl, ?_⟩
    rw [Arr.CapOk, List.length_append]
    exact Arr.reserveMore_ge _ _
  · intro he hinv fuel
    have h0 : l.nitems = 0 := by have : l.nitems = l.items.length := hinv; rw [this, he]; rfl
    unfold Lst.concatSelf Lst.iterInit
    rw [if_pos h0]
    cases fuel <;> rfl
  · intro he
    have : t.len = 0 := by unfold Tup.len; rw [he]; rfl
    unfold Tup.concatSelf
    rw [if_pos this]

/-- full statement: `push(a, get(a, k))` and `push_at(a, get(a, k), i)` do what `push(a, v)` / `push_at(a, v, i)` do for the
    value `v` of element `k` -/
def C04_push_own_element_statement : Prop :=
  ∀ (a : Arr Nat), a.CapOk → ∀ (k i : Int) (v : Nat), a.get k = .ok v →
    a.pushElem k = a.push v ∧ a.pushAtElem k i = a.pushAt v i

/-- **refuted** (known finding KF-C04-push-own-element) on three witnesses: `push(a, get(a, 0))` on `[1,2,3]` with capacity 3
    reads the element through a pointer into the block that `realloc` has just replaced (`.ub`: use after free); with spare
    capacity `push_at(a, get(a, 1), 1)` inserts the ZEROED record (`[1,0,2,3]`) and `push_at(a, get(a, 2), 0)` inserts the
    element that was shifted into record 2 (`[2,1,2,3]`).  Witness corpus/kf_c04_push_own.ops. -/
theorem C04_push_own_element_refuted :
    ((⟨[1, 2, 3], 3⟩ : Arr Nat).pushElem 0).2 = .ub ∧
    ((⟨[1, 2, 3], 8⟩ : Arr Nat).pushAtElem 1 1).1.items = [1, 0, 2, 3] ∧
    ((⟨[1, 2, 3], 8⟩ : Arr Nat).pushAtElem 2 0).1.items = [2, 1, 2, 3] ∧
    ¬ C04_push_own_element_statement := by
  refine ⟨by decide, by decide, by decide, ?_⟩
  intro h
  have := congrArg (·.2) (h ⟨[1, 2, 3], 3⟩ (by simp [Arr.CapOk]) 0 0 1 (by decide)).1
  revert this; decide

/-- **what does hold** (partial; missing for the full statement: the two regions refuted above): with spare capacity
    (`nitems < nslots`: no `realloc`) `push(a, get(a, k))` is `push(a, v)`; and if moreover the insertion position lies
    strictly behind element `k` (after normalisation), `push_at(a, get(a, k), i)` is `push_at(a, v, i)`. -/
theorem C04_push_own_element_partial [Inhabited α] (a : Arr α) (k i : Int) (v : α) (hv : a.get k = .ok v)
    (hcap : a.nitems < a.nslots) :
    a.pushElem k = a.push v ∧
    ((normIdx a.nitems k).toNat < (pushIdx a.nitems i).toNat → a.pushAtElem k i = a.pushAt v i) := by
  have hn : a.nitems = a.items.length := rfl
  have hget := hv
  unfold Arr.get at hget
  simp only at hget
  by_cases hc : normIdx a.nitems k < 0 ∨ normIdx a.nitems k ≥ (a.nitems : Int)
  · rw [if_pos hc] at hget; cases hget
  · rw [if_neg hc] at hget
    have hkl : (normIdx a.nitems k).toNat < a.items.length := toNat_normIdx_lt hc
    rw [List.getElem?_eq_getElem hkl] at hget
    simp only [Res.ok.injEq] at hget
    constructor
    · unfold Arr.pushElem; rw [hv]; simp only; rw [if_neg (Nat.not_lt.2 hcap)]
    · intro hlt
      unfold Arr.pushAtElem Arr.pushAt
      rw [hv]; simp only
      by_cases hci : pushIdx a.nitems i < 0 ∨ pushIdx a.nitems i > (a.nitems : Int)
      · rw [if_pos hci, if_pos hci]
      · rw [if_neg hci, if_neg hci, if_neg (Nat.not_lt.2 hcap)]
        have hjl : (pushIdx a.nitems i).toNat ≤ a.items.length := toNat_pushIdx_le hci
        generalize (pushIdx a.nitems i).toNat = jj at *
        generalize (normIdx a.nitems k).toNat = kk at *
        clear hc hci
        -- record `kk` lies in front of the insertion position: neither the memmove nor the zeroing touches it
        have hlen : (a.items.take jj).length = jj := by rw [List.length_take]; exact Nat.min_eq_left hjl
        have e1 : (a.items.take jj ++ default :: a.items.drop jj)[kk]? = some v := by
          rw [List.getElem?_append_left (by rw [hlen]; exact hlt), List.getElem?_take, if_pos hlt,
            List.getElem?_eq_getElem hkl, hget]
        rw [e1]
        simp only
        have hrm : reserveMore (a.nitems + 1) a.nslots = a.nslots := by unfold reserveMore; rw [if_neg (Nat.not_lt.2 hcap)]
        rw [hrm]
        congr 2
        rw [List.set_append_right _ _ (Nat.le_of_eq hlen), hlen, Nat.sub_self]
        rfl

/-- the formulas of `Arr.pushElem` / `Arr.pushAtElem` are not assumptions of the list-level model: they are what the CELLS do
    (pointer into the block, `realloc` → new block, `memmove`, zeroing of record `i`, read through the pointer, write) -/
theorem C04_store_push_own_element [Inhabited α] (s : ArrS α) (a : Arr α) (h : s.Abs a) (k i : Int) :
    ((s.pushElem k).1.Abs (a.pushElem k).1 ∧ (s.pushElem k).2 = (a.pushElem k).2) ∧
    ((s.pushAtElem k i).1.Abs (a.pushAtElem k i).1 ∧ (s.pushAtElem k i).2 = (a.pushAtElem k i).2) :=
  ⟨ArrS.pushElem_sim h k, ArrS.pushAtElem_sim h k i⟩

/-- a List copies the element into the new node before it links anything: passing its own element is passing the value -/
theorem C04_list_push_own_element (l : Lst α) (k i : Int) (v : α) (hv : l.get k = .ok v) :
    l.pushElem k = l.push v ∧ l.pushAtElem k i = l.pushAt v i := by
  unfold Lst.pushElem Lst.pushAtElem; rw [hv]; exact ⟨rfl, rfl⟩

/-- full statement: `concat(x, tuple(get(x, k0), …))` / `assign(x, tuple(get(x, k0), …))` do what `concat(x, vs)` / `assign(x, vs)` do
    for the values `vs` of those elements -/
def C04_operand_own_elements_statement : Prop :=
  (∀ (a : Arr Nat), a.CapOk → ∀ (ks : List Int) (vs : List Nat), getAll a.get ks = .ok vs →
    a.concatElems ks = a.concat vs ∧ a.assignElems ks = a.assign vs) ∧
  (∀ (l : Lst Nat), l.Inv → ∀ (ks : List Int) (vs : List Nat), getAll l.get ks = .ok vs →
    l.concatElems ks = l.concat vs ∧ l.assignElems ks = l.assign vs)

/-- **refuted** (the same known finding, at `Array_Concat`, `Array_Assign`, `List_Assign`):
    `concat(a, tuple(get(a, 0), get(a, 2)))` on `[1,2,3]` with capacity 3 — `Array_Reserve_More`
    reallocs before the loop reads the operand's pointers (`.ub`: use after free; ASan: heap-use-after-free in `Type_Of`);
    `assign(a, tuple(get(a, 0), get(a, 2)))` — `Array_Clear` frees the block before the operand is read; the same for a
    List, whose `List_Clear` frees the nodes.  Witnesses in corpus/kf_c04_push_own.ops (`kfown concat|assign|lassign`). -/
theorem C04_operand_own_elements_refuted :
    ((⟨[1, 2, 3], 3⟩ : Arr Nat).concatElems [0, 2]).2 = .ub ∧
    ((⟨[1, 2, 3], 8⟩ : Arr Nat).assignElems [0, 2]).2 = .ub ∧
    ((⟨[1, 2, 3], 3⟩ : Lst Nat).assignElems [0, 2]).2 = .ub ∧
    ¬ C04_operand_own_elements_statement := by
  refine ⟨by decide, by decide, by decide, ?_⟩
  intro h
  have := congrArg (·.2) (h.1 ⟨[1, 2, 3], 3⟩ (by simp [Arr.CapOk]) [0, 2] [1, 3] (by decide)).1
  revert this; decide

/-- **what does hold** (partial; missing for the full statement exactly the regions refuted above): `concat` on an Array with
    enough spare capacity for the operand (`nitems + len ≤ nslots`: no `realloc`) is `concat` of the values; `concat` on a
    List always is (every item is copied into a fresh node, nothing moves or is freed); an empty operand is harmless for
    `assign` too. -/
theorem C04_operand_own_elements_partial (a : Arr α) (l : Lst α) (ks : List Int) (vs : List α) :
    (getAll a.get ks = .ok vs → a.nitems + vs.length ≤ a.nslots → a.concatElems ks = a.concat vs) ∧
    (getAll l.get ks = .ok vs → l.concatElems ks = l.concat vs) ∧
    (a.assignElems [] = a.assign [] ∧ l.assignElems [] = l.assign []) := by
  refine ⟨?_, ?_, rfl, rfl⟩
  · intro hg hcap
    unfold Arr.concatElems; rw [hg]; simp only
    rw [if_neg (by intro h; omega)]
  · intro hg; unfold Lst.concatElems; rw [hg]

/-- the formulas of `Arr.concatElems` / `Arr.assignElems` (`.ub` exactly when the operand is not empty and the block is reallocated,
    resp. freed by `Array_Clear`) are not assumptions of the list-level model: they are what the CELLS do — record addresses with a
    block generation, `realloc` / `free` bump the generation, the loop zeroes record `n+i`, reads through the pointer, writes.
    (The List counterparts `LstS.concatElems` / `LstS.assignElems` — node addresses, `List_Clear` frees the nodes — are executed by
    the driver beside the list level and compared on every input (`M` line), but their simulation is not proved.) -/
theorem C04_store_operand_own_elements [Inhabited α] (s : ArrS α) (a : Arr α) (h : s.Abs a) (ks : List Int) :
    ((s.concatElems ks).1.Abs (a.concatElems ks).1 ∧ (s.concatElems ks).2 = (a.concatElems ks).2) ∧
    ((s.assignElems ks).1.Abs (a.assignElems ks).1 ∧ (s.assignElems ks).2 = (a.assignElems ks).2) :=
  ⟨ArrS.concatElems_sim h ks, ArrS.assignElems_sim h ks⟩

/-- `set(a, i, get(a, k))` on cells, for both settings of the element type's `assign(x, x)` (`ok = true`: the code as it is /
    `ok = false`: String before fix 744a45f): the list-level formula of `Arr.setElem` is what the cells do — pointer into the
    block, no reallocation, read through it, write -/
theorem C04_store_set_own_element (s : ArrS α) (a : Arr α) (h : s.Abs a) (i k : Int) (ok : Bool) :
    (s.setElem i k ok).1.Abs (a.setElem i k ok).1 ∧ (s.setElem i k ok).2 = (a.setElem i k ok).2 :=
  ArrS.setElem_sim h i k ok

/-- … and `rem(x, get(x, k))` on cells / nodes is the list-level operation -/
theorem C04_store_rem_own_element [BEq α] (s : ArrS α) (a : Arr α) (h : s.Abs a) (sl : LstS α) (l : Lst α) (hl : sl.Abs l) (k : Int) :
    ((s.remElem k).1.Abs (a.remElem k).1 ∧ (s.remElem k).2 = (a.remElem k).2) ∧
    ((sl.remElem k).1.Abs (l.remElem k).1 ∧ (sl.remElem k).2 = (l.remElem k).2) :=
  ⟨ArrS.remElem_sim h k, LstS.remElem_sim hl k⟩

/-- **`set(x, i, get(x, k))` is `set(x, i, v)`** for the value `v` of element `k` — Array and List, the code as it is: nothing
    moves, and for `i = k` the element is assigned to itself, which every element type of this model takes (String since
    fix 744a45f: `String_Assign` returns at once when `val is s->val`).  **`rem(x, get(x, k))` is `rem(x, v)`** (all three types). -/
theorem C04_set_rem_own_element [BEq α] (a : Arr α) (l : Lst α) (t : Tup α) (i k : Int) :
    (∀ v, a.get k = .ok v → a.setElem i k = a.set i v ∧ a.remElem k = a.rem v) ∧
    (∀ v, l.get k = .ok v → l.setElem i k = l.set i v ∧ l.remElem k = l.rem v) ∧
    (∀ v, t.get k = .ok v → t.remElem k = t.rem v) := by
  refine ⟨?_, ?_, ?_⟩
  · intro v hv; unfold Arr.setElem Arr.remElem; rw [hv]; simp
  · intro v hv; unfold Lst.setElem Lst.remElem; rw [hv]; simp
  · intro v hv; unfold Tup.remElem; rw [hv]

/-- full statement for an element type whose `assign(x, x)` is given by `ok` -/
def C04_set_own_element_statement (ok : Bool) : Prop :=
  ∀ (a : Arr Nat) (i k : Int) (v : Nat), a.get k = .ok v → a.setElem i k ok = a.set i v

theorem C04_set_own_element_holds : C04_set_own_element_statement true :=
  fun a i k v hv => ((C04_set_rem_own_element a ⟨[], 0⟩ ⟨[]⟩ i k).1 v hv).1

/-- **the String code before fix 744a45f refuted it**: `set(a, 0, get(a, 0))` on an `Array<String>` reached `String_Assign(s, s)`,
    which reallocated the buffer and then copied from the freed one (regression witness corpus/seq_own_element.ops, op `setelem`
    on kinds AS / LS: reverting the fix makes the harness die under ASan there) -/
theorem C04_set_own_element_old_refuted :
    ((⟨[5], 1⟩ : Arr Nat).setElem 0 0 false).2 = .ub ∧ ((⟨[5, 6], 2⟩ : Arr Nat).setElem (-1) 1 false).2 = .ub ∧
    ¬ C04_set_own_element_statement false := by
  refine ⟨by decide, by decide, ?_⟩
  intro h
  have := congrArg (·.2) (h ⟨[5], 1⟩ 0 0 5 (by decide))
  revert this; decide

/-- full statement: for EVERY element type `resize(l, n)` completes normally and leaves `n` elements that every observation
    accepts.  (Stated for the String-like element type of the model; `.ub` is the model's outcome for a List that counts
    records no operation of the element type accepts.) -/
def C04_list_resize_grow_statement : Prop :=
  ∀ (l : Lst StrElem) (n : Nat), l.Inv → (l.step (.resize n)).2 = .ok () ∧ (l.step (.resize n)).1.items.length = n

/-- **refuted** (known finding KF-C04-list-resize-raw): `l = new(List, String, $S("a")); resize(l, 3)` links two `calloc`ed
    records whose `val` is NULL; `mem(l, $S("zz"))` then is `strcmp(NULL, …)` (reproduced: SIGSEGV).
    Witness corpus/kf_c04_list_resize_raw.ops. -/
theorem C04_list_resize_grow_refuted :
    ((⟨[⟨1⟩], 1⟩ : Lst StrElem).step (.resize 3)).2 = .ub ∧ ¬ C04_list_resize_grow_statement := by
  refine ⟨by decide, ?_⟩
  intro h
  have := (h ⟨[⟨1⟩], 1⟩ 3 rfl).1
  revert this; decide

/-- **what does hold** (partial; missing exactly `n > len` for element types whose zero record is not a value): every `resize`
    for Int-like element types, and every `resize` that does not grow for all element types, completes and leaves the
    abstract result. -/
theorem C04_list_resize_partial [BEq α] [ZeroIsValue α] (l : Lst α) (hinv : l.Inv) (n : Nat)
    (h : ZeroIsValue.zeroOk α = true ∨ n ≤ l.items.length) :
    (l.step (.resize n)).2 = .ok () ∧
    (l.step (.resize n)).1.items = l.items.take n ++ List.replicate (n - l.items.length) default ∧ (l.step (.resize n)).1.Inv := by
  apply Lst.step_refines l hinv (.resize n)
  simp only [Spec.lstStep]
  rw [if_pos]
  rcases h with h | h
  · simp [h]
  · simp [h]

/-- full statement: `assign(x, filter(…))` replaces the contents by the items the iteration yields (Array and Tuple, the two
    types whose `…_Assign` has an iterator branch) -/
def C04_assign_iter_statement : Prop :=
  (∀ (a : Arr Nat) (ys : List Nat), (a.assign ys false).1.items = ys ∧ (a.assign ys false).2 = .ok ()) ∧
  (∀ (t : Tup Nat) (ys : List Nat), (t.assign ys false).1.items = ys ∧ (t.assign ys false).2 = .ok ())

/-- **refuted for Tuple** (known finding KF-C04-tuple-assign-iter): `Tuple_Assign` has no clear in its iterator branch:
    `assign([10,20], filter([1,2,3,4], even))` leaves `[10,20,2,4]`.  Witness corpus/kf_c04_tuple_assign_iter.ops. -/
theorem C04_assign_iter_refuted :
    ((⟨[10, 20]⟩ : Tup Nat).assign [2, 4] false).1.items = [10, 20, 2, 4] ∧ ¬ C04_assign_iter_statement := by
  refine ⟨rfl, ?_⟩
  intro h
  have := (h.2 ⟨[10, 20]⟩ [2, 4]).1
  revert this; decide

/-- **what does hold** (partial; missing: non-empty Tuple targets): an Array is cleared first, so the statement holds for
    every Array (and it stays within capacity); a Tuple gets the items appended, which is the statement exactly when it
    was empty (the documented use `var y = new(Tuple); assign(y, filter(…))`); a List has no iterator branch and raises
    `ClassError` after it was cleared. -/
theorem C04_assign_iter_partial (a : Arr α) (l : Lst α) (t : Tup α) (ys : List α) :
    ((a.assign ys false).1.items = ys ∧ (a.assign ys false).2 = .ok () ∧ (a.assign ys false).1.CapOk) ∧
    ((t.assign ys false).1.items = t.items ++ ys ∧ (t.items = [] → (t.assign ys false).1.items = ys)) ∧
    l.assign ys false = (l.clear, .raised .classError) := by
  refine ⟨⟨?_, rfl, ?_⟩, ⟨rfl, ?_⟩, rfl⟩
  · simp [Arr.assign, Arr.foldl_push_items, Arr.clear]
  · exact (ArrS.pushAll_sim ys (ArrS.nil_abs 0)).1.capOk
  · intro he; simp [Tup.assign, he]

/-- a concrete in-range Array history (negative indices, append through `push_at -1`, duplicates, `rem`) -/
example : Spec.run Spec.arrStep [1, 2, 3] [.push 2, .pushAt 9 (-1), .pushAt 8 0, .popAt (-2), .set (-1) 5, .rem 2, .resize 3] =
    some [8, 1, 3] := by decide

/-- `push_at` at `len` is out of range for List and Tuple, in range for Array -/
example : Spec.lstStep [1, 2, 3] (.pushAt 9 3) = none ∧ Spec.tupStep [1, 2, 3] (.pushAt 9 3) = none ∧
    Spec.arrStep [1, 2, 3] (.pushAt 9 3) = some [1, 2, 3, 9] := by decide

example : Spec.run Spec.lstStep [1, 2, 3] [.pushAt 9 (-1), .pushAt 7 0, .resize 7, .popAt (-7)] = some [1, 2, 9, 3, 0, 0] := by decide

/-- a history that meets both hypotheses of `C04_tuple_history_iteration` (`FreshRun` and in range) -/
example : FreshRun id [10, 20] [.push 30, .pushAt 40 (-1), .rem 20] ∧
    Spec.run Spec.tupStep [10, 20] [.push 30, .pushAt 40 (-1), .rem 20] = some [10, 40, 30] := by
  refine ⟨?_, by decide⟩
  simp [FreshRun, FreshOp, Spec.tupStep, Spec.idx]

/-- a comparison function that meets the hypotheses of `C04_sort_sorted` without being total on the elements:
    `lt` on the key `v / 256` (the comparator the harness uses to make instability visible) -/
example : (∀ x y : Int, decide (x / 256 < y / 256) = true → decide (y / 256 < x / 256) = false) ∧
    (∀ x y z : Int, decide (x / 256 < y / 256) = true → decide (y / 256 < z / 256) = true → decide (x / 256 < z / 256) = true) := by
  constructor
  · intro x y h; simp only [decide_eq_true_eq, decide_eq_false_iff_not] at *; omega
  · intro x y z h1 h2; simp only [decide_eq_true_eq] at *; omega

/-- the `Distinct` hypothesis of `C04_tuple_iteration_partial` / `C04_tuple_history_iteration` on a concrete Tuple -/
example : (⟨[10, 20, 30]⟩ : Tup Nat).Distinct id := by simp [Tup.Distinct]

/-- the store-level hypotheses are met by what the constructors build: `ArrS.new`, `LstS.new`, `TupS.new` hold the list-level
    containers with the same elements -/
example : (ArrS.new [1, 2, 3]).Abs (Arr.new [1, 2, 3]) ∧ (LstS.new [1, 2, 3]).1.Abs (Lst.empty.concat [1, 2, 3]).1 ∧
    (TupS.new [1, 2, 3]).Abs ⟨[1, 2, 3]⟩ := ⟨ArrS.new_abs _, (LstS.new_abs _).1, TupS.new_abs _⟩

/-- a concrete store-level run: the cells after `push_at 9 at 1`, `pop_at 0`, `push 5` on `[1,2,3]` (capacity 3 → 6) -/
example : ((runOps ArrS.step (ArrS.new [1, 2, 3]) [.pushAt 9 1, .popAt 0, .push 5]).1.cells.toList,
    (runOps ArrS.step (ArrS.new [1, 2, 3]) [.pushAt 9 1, .popAt 0, .push 5]).1.nitems) =
    ([some 9, some 2, some 3, some 5, none, none], 4) := by decide

/-- a state that meets the hypotheses of `C04_push_own_element_partial` -/
example : (⟨[1, 2, 3], 8⟩ : Arr Nat).get 0 = .ok 1 ∧ (⟨[1, 2, 3], 8⟩ : Arr Nat).nitems < 8 := by decide
/-- states that meet the hypotheses of `C04_operand_own_elements_partial`, `C04_list_resize_partial` (a String-like List that shrinks)
    and `NoRawGrow` (a String-like history with a shrinking resize) -/
example : getAll (⟨[1, 2, 3], 8⟩ : Arr Nat).get [0, -1] = .ok [1, 3] ∧ (⟨[1, 2, 3], 8⟩ : Arr Nat).nitems + 2 ≤ 8 := by decide
example : ZeroIsValue.zeroOk StrElem = false ∧ (2 : Nat) ≤ ([⟨1⟩, ⟨2⟩, ⟨3⟩] : List StrElem).length := by decide
example : NoRawGrow (⟨[⟨1⟩, ⟨2⟩, ⟨3⟩], 3⟩ : Lst StrElem) [.push ⟨4⟩, .resize 2, .resize 2, .pop] := by
  simp [NoRawGrow, Lst.rawGrow, Lst.step, Lst.push, Lst.resize, ZeroIsValue.zeroOk]
/-- a Tuple block that is not on the heap (`onHeap = false`) and holds a Tuple: the hypotheses of `C04_tuple_not_on_heap` and
    `C04_tuple_any_block` -/
example : (⟨#[some (.item 1), some .term], false⟩ : TupS Nat).Cells ⟨[1]⟩ :=
  -- the block of `TupS.new [1]`; `Cells` does not look at the heap flag
  ⟨(TupS.new_abs [1]).size, (TupS.new_abs [1]).cell⟩

/-! ## the arithmetic of the source inside the theorems

`translate/g_seq.py` turns the index normalisations and bounds tests, the capacity policy, the `memmove` / `realloc` arguments, the
record and node layout expressions of src/Array.c, src/List.c, src/Tuple.c into terms (`CelloGen.SeqSrc`, regenerated on every
check); `Cello/SeqSrc.lean` evaluates them.  The theorems below say that the hand-written model IS the model one gets by reading
that arithmetic from the source, so every history theorem above speaks about the expressions that are in the files; a change of
one of them (a bound, a count, `n + n/2`, the rounding, a link offset) makes the theorem that mentions it fail. -/

section Source
open Cello.Seq.Src

/-- index normalisation and bounds test of the nine indexed functions, for every length and every index: the source accepts exactly the
    abstract in-range indices of its type and names the abstract position (`Array_Push_At`: against the length + 1, so −1 appends) -/
theorem C04_source_index_rules (n : Nat) (i : Int) :
    applyRule CelloGen.SeqSrc.arrayGet n i = Spec.idx n i ∧ applyRule CelloGen.SeqSrc.arraySet n i = Spec.idx n i ∧
    applyRule CelloGen.SeqSrc.arrayPopAt n i = Spec.idx n i ∧ applyRule CelloGen.SeqSrc.arrayPushAt n i = Spec.arrInsIdx n i ∧
    applyRule CelloGen.SeqSrc.listAt n i = Spec.idx n i ∧
    applyRule CelloGen.SeqSrc.tupleGet n i = Spec.idx n i ∧ applyRule CelloGen.SeqSrc.tupleSet n i = Spec.idx n i ∧
    applyRule CelloGen.SeqSrc.tuplePushAt n i = Spec.idx n i ∧ applyRule CelloGen.SeqSrc.tuplePopAt n i = Spec.idx n i := by
  have std : ∀ {r}, r = CelloGen.SeqSrc.arrayGet → applyRule r n i = Spec.idx n i :=
    fun hr => (applyRule_std hr n i).trans (stdPick_spec n i)
  exact ⟨std rfl, std rfl, std rfl, (applyRule_arrayPushAt n i).trans (insPick_spec n i), std rfl, std rfl, std rfl, std rfl, std rfl⟩

/-- the capacity policy of `Array_Reserve_More` / `Array_Reserve_Less` as written in the source, for every length and capacity:
    it is the policy of the model, the store never has fewer slots than items after growing, and shrinking keeps every item -/
theorem C04_source_capacity_policy (n slots : Nat) :
    reserveSrc CelloGen.SeqSrc.reserveMore n slots = reserveMore n slots ∧
    reserveSrc CelloGen.SeqSrc.reserveLess n slots = reserveLess n slots ∧
    n ≤ reserveSrc CelloGen.SeqSrc.reserveMore n slots ∧
    (n ≤ slots → n ≤ reserveSrc CelloGen.SeqSrc.reserveLess n slots) := by
  rw [policy_more, policy_less]
  exact ⟨rfl, rfl, Arr.reserveMore_ge n slots, Arr.reserveLess_ge n slots⟩

/-- every Array / Tuple operation run with the source's arithmetic (positions, tests, `memmove` triples, `realloc` sizes, the slot
    constructed or destructed) is the modelled operation, on every state and for every argument; `List_At` likewise (bounds, the end it
    walks from, the number of backward steps) -/
theorem C04_source_ops_are_modelled [BEq α] :
    (∀ (s : ArrS α) (op : Op α), s.stepSrc op = s.step op) ∧ (∀ (s : ArrS α) (i : Int), s.getSrc i = s.get i) ∧
    (∀ (s : LstS α) (i : Int), s.nodeAtSrc i = s.nodeAt i) ∧
    (∀ (s : TupS α) (op : Op α), s.stepSrc op = s.step op) ∧ (∀ (s : TupS α) (i : Int), s.getCellSrc i = s.getCell i) :=
  ⟨fun s op => by rw [ArrS.stepSrc_eq], getSrc_eq, nodeAtSrc_eq, fun s op => by rw [TupS.stepSrc_eq], getCellSrc_eq⟩

/-- **C04 for Array with the arithmetic read from the source**: the history theorem `C04_store_refines_list_array` holds for the
    step function that evaluates the extracted terms (the `mem` conjunct is not restated).  For Tuple the step functions agree too
    (`C04_source_ops_are_modelled`); of its history theorems only the `never_ub` one is restated, in
    `C04_source_history_never_ub` below. -/
theorem C04_source_history_array [BEq α] (ops : List (Op α)) (s : ArrS α) (a : Arr α) (habs : s.Abs a) (l' : List α)
    (h : Spec.run Spec.arrStep a.items ops = some l') :
    let r := runOps ArrS.stepSrc s ops
    r.2 = .ok () ∧ r.1.items? = some l' ∧ r.1.nitems = l'.length ∧
    (∀ i, r.1.getSrc i = match Spec.get l' i with
        | some x => .ok x
        | none => .raised .indexOutOfBounds) ∧
    r.1.iterFwd = some l' ∧ r.1.iterBwd = some l'.reverse := by
  intro r
  have hr : r = runOps ArrS.step s ops := by rw [← ArrS.stepSrc_eq]
  obtain ⟨g1, g2, g3, g4, _, g6, g7⟩ := C04_store_refines_list_array ops s a habs l' h
  rw [hr]
  exact ⟨g1, g2, g3, fun i => by rw [getSrc_eq]; exact g4 i, g6, g7⟩

/-- **No access outside the block with the arithmetic read from the source**: the `.ub` conjuncts of `C04_store_array_never_ub`
    and `C04_store_tuple_never_ub` for the step functions that evaluate the extracted terms -/
theorem C04_source_history_never_ub [BEq α] (xs : List α) (ops : List (Op α)) (op : Op α) :
    ((ops.foldl (fun s op => (s.stepSrc op).1) (ArrS.new xs)).stepSrc op).2 ≠ .ub ∧
    ((ops.foldl (fun s op => (s.stepSrc op).1) (TupS.new xs)).stepSrc op).2 ≠ .ub := by
  rw [ArrS.stepSrc_eq, TupS.stepSrc_eq]
  exact ⟨(C04_store_array_never_ub xs ops op).1, (C04_store_tuple_never_ub xs ops op).1⟩

/-- record layout of an Array for EVERY element size `raw`, header size and pointer size (`ptr > 0`), every length and capacity:
    the rounded size holds the element and is the next multiple of the pointer size; the stride is header + rounded size; record `n`
    starts at `n` strides, its header is at its start, the element right behind the header, and the element ends where the record
    ends (so records do not overlap and the last one ends where the block of `slots` strides ends) -/
theorem C04_source_array_layout (raw hdr ptr n slots : Nat) (hp : 0 < ptr) :
    let L := arrLayout raw hdr ptr n slots
    (raw : Int) ≤ L.tsize ∧ L.tsize < raw + ptr ∧ L.tsize % ptr = 0 ∧
    L.step = L.tsize + hdr ∧ L.recFrom = L.step * n ∧ L.recLen = L.step ∧ L.head = L.recFrom ∧
    L.item = L.recFrom + hdr ∧ L.item + L.tsize = L.recFrom + L.recLen ∧ L.bytes = slots * L.step := by
  intro L
  obtain ⟨h0, h1, h2, h3, h4, h5, h6, h7⟩ := arrLayout_spec raw hdr ptr n slots
  obtain ⟨r1, r2, r3⟩ := roundSize_spec raw ptr hp
  have ht : L.tsize = roundSize raw ptr := h0
  exact ⟨by rw [ht]; exact r1, by rw [ht]; exact r2, by rw [ht]; exact r3, h1, h2, h3, h4, h5, h6, h7⟩

/-- the byte arguments of the two Array `memmove`s (`Array_Push_At`, `Array_Pop_At`) are the cell arguments of the model times
    the stride, for every stride and every position `k < n` -/
theorem C04_source_memmove_bytes (st : Int) (n k : Nat) (h : k + 1 ≤ n) :
    (let ρ : Env := { nitems := n, i := k, step := st }
     evalE ρ CelloGen.SeqSrc.arrayPushAtMove.dst = st * (moveArgs CelloGen.SeqSrc.arrayPushAtMove n k).1 ∧
     evalE ρ CelloGen.SeqSrc.arrayPushAtMove.src = st * (moveArgs CelloGen.SeqSrc.arrayPushAtMove n k).2.1 ∧
     evalE ρ CelloGen.SeqSrc.arrayPushAtMove.cnt = st * (moveArgs CelloGen.SeqSrc.arrayPushAtMove n k).2.2) ∧
    (let ρ : Env := { nitems := n, i := k, step := st }
     evalE ρ CelloGen.SeqSrc.arrayPopAtMove.dst = st * (moveArgs CelloGen.SeqSrc.arrayPopAtMove n k).1 ∧
     evalE ρ CelloGen.SeqSrc.arrayPopAtMove.src = st * (moveArgs CelloGen.SeqSrc.arrayPopAtMove n k).2.1 ∧
     evalE ρ CelloGen.SeqSrc.arrayPopAtMove.cnt = st * (moveArgs CelloGen.SeqSrc.arrayPopAtMove n k).2.2) :=
  ⟨pushAtMove_bytes st n k h, popAtMove_bytes st n k h⟩

/-- a List node for every element size: `prev` word at 0, `next` word one pointer further, header after the two link words, the
    element behind the header, the block ends where the element ends, and `List_Free` frees the start of the block -/
theorem C04_source_list_node_layout (tsize hdr ptr : Nat) :
    let N := nodeLayout tsize hdr ptr
    N.prev = 0 ∧ N.next = ptr ∧ N.header = 2 * ptr ∧ N.elem = N.header + hdr ∧ N.bytes = N.elem + tsize ∧ N.freed = 0 :=
  nodeLayout_spec tsize hdr ptr

/-- the order of the state-changing statements of the four Array functions that move `nitems`: the counter is updated and the store
    reserved BEFORE the records are moved / constructed on the growing side, and the record destructed and the tail moved BEFORE the
    counter drops on the shrinking side (the order `ArrS.push / pop / pushAt / popAt` are written in); and `Array_Assign` rounds
    the element size it takes over (`arrayAssignRounds`) -/
theorem C04_source_statement_order :
    CelloGen.SeqSrc.arrayPushOrder = ["inc", "more", "alloc", "assign"] ∧
    CelloGen.SeqSrc.arrayPushAtOrder = ["norm", "check", "inc", "more", "move", "alloc", "assign"] ∧
    CelloGen.SeqSrc.arrayPopOrder = ["check", "destruct", "dec", "less"] ∧
    CelloGen.SeqSrc.arrayPopAtOrder = ["norm", "check", "destruct", "move", "dec", "less"] ∧
    CelloGen.SeqSrc.arrayAssignRounds = true := ⟨rfl, rfl, rfl, rfl, rfl⟩

/-- non-vacuity: the extracted terms on concrete numbers — a 5-byte record on a 64-bit build with a 24-byte header: rounded to 8, stride 32,
    element 3 at byte 120; growth 5 → 7 slots at the 5th item of a 4-slot Array; `push_at(a, x, -1)` on 3 items names position 3 -/
example : arrLayout 5 24 8 3 7 = { tsize := 8, step := 32, item := 120, recFrom := 96, recLen := 32, head := 96, bytes := 224 } ∧
    reserveSrc CelloGen.SeqSrc.reserveMore 5 4 = 7 ∧ reserveSrc CelloGen.SeqSrc.reserveLess 2 7 = 2 ∧
    applyRule CelloGen.SeqSrc.arrayPushAt 3 (-1) = some 3 ∧ applyRule CelloGen.SeqSrc.tuplePushAt 3 3 = none ∧
    moveArgs CelloGen.SeqSrc.arrayPushAtMove 4 1 = (2, 1, 2) ∧
    nodeLayout 8 24 8 = { bytes := 48, header := 16, elem := 40, next := 8, prev := 0, freed := 0 } := by decide

example : ((runOps ArrS.stepSrc (ArrS.new [1, 2, 3]) [.pushAt 9 1, .popAt 0, .push 5]).1.cells.toList,
           (runOps ArrS.stepSrc (ArrS.new [1, 2, 3]) [.pushAt 9 1, .popAt 0, .push 5]).1.nitems) =
          ((runOps ArrS.step (ArrS.new [1, 2, 3]) [.pushAt 9 1, .popAt 0, .push 5]).1.cells.toList, 4) := by decide

end Source

end Cello.Seq
