/-
  C19 — objects keep their true type and class; non-heap objects are never freed.

  Model: Cello/Hdr.lean (`step`, `run`: births, dealloc/del, the guarded String/Tuple operations, the containers' element
  births and moves, the collector's registry and sweep), Cello/HdrSlots.lean (the slot level of Array).  Source-derived
  tables: CelloGen/Hdr.lean.  Lemmas: CelloProofs/Lemmas/Hdr*.lean.

  **What "all histories" means here.**  A history is any list of `Op`s.  Some calls are *left out*: the model's `step`
  answers `Obs.skip why`, the harness prints `skip why`, and the state is returned unchanged (`C19_skipped_ops_change_nothing`),
  so a history containing such a call is the history without it.  `Skipped` is the predicate; the reasons are
  * `misuse` / `referenced` / `dangling` — freeing calls that are double frees by construction, belong to another property's
    known finding or show a pointer the program left dangling: listed exactly by `St.freeSkip` (Cello/Hdr.lean) — a raw release
    of a collector-managed object, `destruct` of a heap object, the release of a run-time Type in use, the release of a heap
    object that a live Tuple still points to, `dealloc` of a stack Box whose pointee was released behind its back.
    No other freeing call on a stack, static or embedded object is ever left out (`C19_nonheap_release_never_skipped`);
  * `unsupported` — a constructor, `copy`, in-place operation, iteration or view whose operand types are outside the
    universe of the model (`buildBody`, `copyBody`, `inPlaceObj`, `inPlaceElem`, `iterate`, `viewItems` return `none`):
    element types other than Int / String / Tuple / Array-of-Int / run-time structs, key types other than Int / String,
    Tuples of more than six items or holding Boxes, Boxes that are static or own Type objects, `alloc`-routes of types
    whose zeroed body is not a valid object;
  * `dead` / `self` / `duplicate` — an operation on a released handle, with the target among its own arguments, or a second
    handle for the same static Type object.

  The model theorems are proved for all configurations that are `Sound` (`C19_size_usable` and
  `C19_string_self_assign_is_noop` for the current one only); `C19_current_source_sound` decides that the configuration read
  from the source that is in /repo now is `Sound`, and the `…_current` corollaries instantiate it.
-/
import CelloProofs.Lemmas.HdrStep
import CelloProofs.Lemmas.HdrKeep
import CelloProofs.Lemmas.HdrRefuse
import CelloProofs.Lemmas.HdrType
import CelloProofs.Lemmas.HdrSlots

namespace Cello.Hdr

/-- the configuration as the translator's tables give it: the concrete histories below are evaluated under this record,
    not by looking every field up in the tables again -/
theorem Config.current_eq : Config.current =
    { cStatic := 1, cStack := 2, cHeap := 3, cData := 4, magic := 844048,
      bAllocBy := 3, bTypeAlloc := 3, bStack := 2, bStaticObj := 1, bArray := 4, bList := 4,
      bTableK := 4, bTableV := 4, bTreeK := 4, bTreeV := 4,
      writesType := true, writesAlloc := true, writesMagic := true,
      deallocRefused := [(1, "ResourceError"), (2, "ResourceError"), (4, "ResourceError")],
      sDel := ⟨[2, 1], "ValueError", true, false⟩, sAssign := ⟨[2, 1], "ValueError", true, false⟩,
      sConcat := ⟨[2, 1], "ValueError", true, false⟩, sResize := ⟨[2, 1], "ValueError", true, false⟩,
      tDel := ⟨[2, 1], "ValueError", true, false⟩, tAssign := ⟨[2, 1], "ValueError", true, false⟩,
      tPush := ⟨[2, 1], "ValueError", true, false⟩, tPop := ⟨[2, 1], "ValueError", true, true⟩,
      tPushAt := ⟨[2, 1], "ValueError", true, true⟩, tPopAt := ⟨[2, 1], "ValueError", true, true⟩,
      tConcat := ⟨[2, 1], "ValueError", true, false⟩, tResize := ⟨[2, 1], "ValueError", true, false⟩,
      regStandard := some false, regRaw := none, regRoot := some true,
      delViaCollector := true, delRawDestructFirst := true, delRawClassFirst := false, gcSetOnlyAllocBy := true,
      roundArray := true, roundList := false, roundTable := true, roundTree := false, typeBlock := 6360,
      swClear := .before, swFinalises := true, swUnlistsFirst := true,
      remPendClear := .before, remPendFinalises := true, remRegErase := .before,
      boxDelDeletes := true, sAssignSelfReturns := true } := by
  rfl

/-- **The code that is in /repo now satisfies every source-level assumption of the theorems below**: four distinct
    allocation classes; every place a header is written (alloc_by, Type_Alloc, alloc_stack, CelloObject, Array_Alloc,
    List_Alloc, Table_Set_Move ×2, Tree_Alloc ×2) writes type, class and magic number with the class of its route;
    `dealloc` refuses static, stack and data objects with ResourceError before it fills or frees the block and does not
    refuse heap objects; every reallocating function of String.c / Tuple.c tests `AllocStack or AllocStatic` and throws
    ValueError before its first mutation; objects are registered with the collector only by `alloc_by` (standard and
    root, not raw), after `header_init(.., AllocHeap)`; `del` goes through the collector; on every release path of the
    collector (GC_Sweep's release loop, both branches of GC_Rem_Ptr) the object is un-listed — pending slot cleared,
    registry entry erased — *before* `dealloc(destruct(..))` runs, and GC_Sweep takes its victims out of the registry
    before it finalises the first of them.
    Decided over the tables regenerated from the source on every run. -/
theorem C19_current_source_sound : Config.current.Sound = true := by rw [Config.current_eq]; decide

/-- **The reallocating functions are guarded**: every function of String.c and Tuple.c that calls `realloc` or `free` — whatever the
    translator finds, not a fixed list — has the allocation-class guard (stack and static refused with ValueError, heap and
    data let through) before its first mutation of the object; a sibling that it calls counts as a mutation only if that
    sibling reallocates too. Moving a guard after a `memmove`/`realloc`/store, weakening it or dropping it breaks this. -/
theorem C19_realloc_guarded :
    ∀ p ∈ CelloGen.Hdr.reallocFns, (guardFromEvents p.2).Protects Config.current = true := by decide +kernel

/-- **the collector un-lists before it finalises** — the statements of GC_Sweep's release loop, of the two branches of
    GC_Rem_Ptr and of Box_Del, in the order the source has them.  `C19_release_once` and the theorems about collections
    and `del` below depend on this order (through `Config.Sound`): with `dealloc(destruct(item))` ahead of
    `gc->freelist[i] = NULL` an object whose destructor reaches it again through a ring of Boxes is finalised twice
    (`C19_late_clear_refuted`). -/
theorem C19_collector_unlists_before_finalising :
    CelloGen.Hdr.sweepLoopEvents = [.test, .clear, .finalise] ∧
    CelloGen.Hdr.sweepPhases = [.reset, .collect, .release, .reset] ∧
    CelloGen.Hdr.remPendingEvents = [.test, .clear, .finalise, .ret] ∧
    CelloGen.Hdr.remRegistryEvents = [.erase, .count, .finalise, .ret] ∧
    CelloGen.Hdr.boxDelEvents = [.test, .finalise, .clear] := ⟨rfl, rfl, rfl, rfl, rfl⟩

/-- the reallocating functions the model mirrors are all in that table (none was renamed away) -/
theorem C19_realloc_table_covers_model :
    ["String_Del", "String_Assign", "String_Concat", "String_Resize", "Tuple_Del", "Tuple_Assign", "Tuple_Push",
     "Tuple_Pop", "Tuple_Push_At", "Tuple_Pop_At", "Tuple_Concat", "Tuple_Resize"].all
      (fun f => (CelloGen.Hdr.reallocFns.lookup f).isSome) = true := by decide +kernel

/-- **headers are written at exactly these places, with these classes** (calls of `header_init` in src/*.c, the
    `alloc_stack` macro, the static initialiser of `CelloObject`): a new birth place, a removed one or a changed class
    breaks this theorem. -/
theorem C19_header_sites :
    CelloGen.Hdr.headerSites =
      [("Array_Alloc", "a->type", CelloGen.Hdr.allocData), ("CelloObject", "NULL", CelloGen.Hdr.allocStatic),
       ("List_Alloc", "l->type", CelloGen.Hdr.allocData), ("Table_Set_Move", "t->ktype", CelloGen.Hdr.allocData),
       ("Table_Set_Move", "t->vtype", CelloGen.Hdr.allocData), ("Tree_Alloc", "m->ktype", CelloGen.Hdr.allocData),
       ("Tree_Alloc", "m->vtype", CelloGen.Hdr.allocData), ("Type_Alloc", "Type", CelloGen.Hdr.allocHeap),
       ("alloc_by", "type", CelloGen.Hdr.allocHeap), ("alloc_stack", "T", CelloGen.Hdr.allocStack)] := rfl

/-- `Type_Of` recovers the type as the model's `typeOf` does: NULL pointer, released block, foreign block → ValueError;
    a NULL type word means `Type`; otherwise the type word. `dealloc`: hand-over to the type's own `dealloc`, NULL check,
    the three class checks, only then fill and free. -/
theorem C19_typeof_and_dealloc_shape :
    CelloGen.Hdr.typeOfEvents =
      [.nullCheck "ValueError", .deadMagic CelloGen.Hdr.deadMagic "ValueError", .badMagic "ValueError", .nullIsType, .returnType] ∧
    CelloGen.Hdr.deallocEvents =
      [.own, .nullCheck "ResourceError", .classCheck CelloGen.Hdr.allocStatic "ResourceError",
       .classCheck CelloGen.Hdr.allocStack "ResourceError", .classCheck CelloGen.Hdr.allocData "ResourceError", .fill, .free] ∧
    CelloGen.Hdr.headerFields = ["type", "alloc", "magic"] := ⟨rfl, rfl, rfl⟩

/-- is this assignment to a slot-size field computed from the size of the *matching* declared type, with the rounding the
    model uses for that container? -/
def slotSiteOK (p : String × String × String × String × Bool) : Bool :=
  ((p.2.2.1 == "tsize" && p.2.2.2.1 == "type") || (p.2.2.1 == "ksize" && p.2.2.2.1 == "ktype") ||
   (p.2.2.1 == "vsize" && p.2.2.2.1 == "vtype")) &&
  p.2.2.2.2 == (if p.1 == "Array" then Config.current.roundArray else if p.1 == "List" then Config.current.roundList
                else if p.1 == "Table" then Config.current.roundTable else Config.current.roundTree)

/-- **`size(type)` bytes are usable — the source side**: `alloc_by` reserves `sizeof(struct Header) + size(type)`; every
    assignment to `tsize` / `ksize` / `vsize` in Array.c, List.c, Table.c and Tree.c (constructor and `assign`, whatever the
    translator finds — not a fixed list) computes the slot size as `size` of the field's *own* declared type (`tsize` from
    `type`, `ksize` from `ktype`, `vsize` from `vtype`), rounded up or not as the model's `slotCap` does for that container;
    and each of the eight (container, field) pairs is set by both `_New` and `_Assign`.  A value slot sized by the key type
    (or the reverse), a dropped rounding or a new place that sets a slot size breaks this theorem. -/
theorem C19_slot_sizes_follow_declared_types :
    CelloGen.Hdr.allocByReservesSize = true ∧
    (∀ p ∈ CelloGen.Hdr.slotSizeSites, slotSiteOK p = true) ∧
    [("Array", "tsize"), ("List", "tsize"), ("Table", "ksize"), ("Table", "vsize"), ("Tree", "ksize"), ("Tree", "vsize")].all
      (fun cf => ["_New", "_Assign"].all (fun fn =>
        CelloGen.Hdr.slotSizeSites.any (fun p => p.1 == cf.1 && p.2.1 == cf.1 ++ fn && p.2.2.1 == cf.2))) = true := by
  decide +kernel

/-- **the operations a history leaves out**: the model answers `Obs.skip why` (and so does the harness) -/
def Skipped (cfg : Config) (s : St) (op : Op) : Prop := ∃ why, (step cfg s op).2 = .skip why

/-- **a skipped operation changes nothing**: the state after it is the state before it, so every theorem "for all
    histories" below speaks about the history with the skipped calls removed. -/
theorem C19_skipped_ops_change_nothing (cfg : Config) (s : St) (op : Op) (h : Skipped cfg s op) : (step cfg s op).1 = s := by
  obtain ⟨why, hw⟩ := h
  exact step_skip hw

/-- **which freeing calls are skipped**: exactly those for which `St.freeSkip` gives a reason, and the reason is `misuse`
    (raw release of a collector-managed object, `destruct` of a heap object, release of a run-time Type in use),
    `referenced` (a heap object that a live Tuple points to: KF-C01-dangling-tuple-item) or `dangling` (`dealloc` of a stack Box
    whose pointee the program has already released: the refusal's message would show the released pointee). -/
theorem C19_free_skip_reasons (cfg : Config) (s : St) (f : FreeOp) (id : Nat) (o : Obj) (hget : s.get id = some o)
    (hlive : o.live = true) :
    (∀ why, (stepFree cfg s f (.obj id)).2 = .skip why ↔ s.freeSkip cfg f id o = some why) ∧
    (∀ why, s.freeSkip cfg f id o = some why → why = "misuse" ∨ why = "referenced" ∨ why = "dangling") := by
  refine ⟨fun why => ?_, fun why h => freeSkip_reasons h⟩
  rw [stepFree_obj f hget hlive]
  cases s.freeSkip cfg f id o <;> simp

/-- **no freeing call on a stack, static or embedded-class object is ever skipped** (for all histories): whatever the
    operation, it is executed and its outcome compared — with the one exception of a Box holding a pointer to an object the
    program has released (`danglingBox`). (A run-time Type object in use is a heap object.) -/
theorem C19_nonheap_release_never_skipped (cfg : Config) (hs : cfg.Sound = true) (ops : List Op) (id : Nat) (o : Obj)
    (f : FreeOp) (hget : (run cfg St.init ops).get id = some o) (hnh : o.hdr.alloc ≠ cfg.cHeap)
    (hty : (run cfg St.init ops).isTypeInUse id = false) (hdb : (run cfg St.init ops).danglingBox o = false) :
    (run cfg St.init ops).freeSkip cfg f id o = none :=
  freeSkip_nonheap_none
    (wf_run (facts_of_sound hs) ops (wf_init cfg) (noPend_of_nil rfl)).1 f hget hnh hty hdb

/-- **Invariant, for all histories**: starting from the empty state, after any sequence of operations (births by every
    route, copies, Boxes re-pointed at will — chains, rings, a Box that owns itself, Boxes on the stack —, freeing operations
    on objects and on embedded objects with whatever their destructors delete in turn, in-place operations, forced and
    threshold collector runs with any set of victims in any pending order) every
    element/key/value of every container — Int, String, Tuple, Array and run-time struct elements — carries the container's
    declared type, class `data` and the magic number;
    every registered handle is a live heap object; every released handle was a heap object and is dead; nothing was
    released twice; handles are distinct.
    "Any sequence" is literal: `ops` ranges over all lists of `Op`.  The calls that are `Skipped` (see the header of this
    file: `misuse`, `referenced`, `dangling`, `unsupported`, `dead`, `self`, `duplicate`; the freeing ones are exactly `St.freeSkip`)
    are no-ops of the model and are not executed by the harness either (`C19_skipped_ops_change_nothing`): for those
    calls — double frees by construction, KF-C01-dangling-tuple-item, operand types outside the model's universe — nothing
    is claimed. -/
theorem C19_reachable_wf (cfg : Config) (hs : cfg.Sound = true) (ops : List Op) : WF cfg (run cfg St.init ops) :=
  (wf_run (facts_of_sound hs) ops (wf_init cfg) (noPend_of_nil rfl)).1

/-- between operations no sweep is under way: the pending list is empty (every collection ran to its end) -/
theorem C19_reachable_no_pending (cfg : Config) (hs : cfg.Sound = true) (ops : List Op) : NoPend (run cfg St.init ops) :=
  (wf_run (facts_of_sound hs) ops (wf_init cfg) (noPend_of_nil rfl)).2

theorem C19_reachable_wf_current (ops : List Op) : WF Config.current (run Config.current St.init ops) :=
  C19_reachable_wf Config.current C19_current_source_sound ops

/-- **C19_types (elements)**: in every reachable state, every element of an Array/List and every key and value of a
    Table/Tree that `get` hands out has `type_of` = the container's declared element (key, value) type, class `data` and
    a valid magic number. -/
theorem C19_types_elements (cfg : Config) (hs : cfg.Sound = true) (ops : List Op) (t : Target) (o : Obj) (e : Elem) (ty : Ty)
    (hget : (run cfg St.init ops).get t.id = some o) (he : o.body.elemAt t = some e) (hty : declTy o.body t = some ty) :
    typeOf cfg e.hdr = some ty ∧ e.hdr.alloc = cfg.cData ∧ e.hdr.magic = cfg.magic := by
  obtain ⟨ty', hd, hh⟩ := elemAt_hdr (bodyOK_of_get (C19_reachable_wf cfg hs ops) hget) he
  rw [hty] at hd; cases hd
  rw [hh]; simp [typeOf, dataHdr]

/-- **C19_types (iteration)**: forward and backward iteration over an Array, List, Table or Tree in any reachable state
    hands out only objects whose `type_of` is the declared element (key) type and whose class is `data`; `get(m, key)`
    for every key of a Table/Tree hands out objects of the declared value type and class `data`. -/
theorem C19_types_iteration (cfg : Config) (hs : cfg.Sound = true) (ops : List Op) (id : Nat) (o : Obj)
    (hget : (run cfg St.init ops).get id = some o) :
    (∀ l k ety es, (run cfg St.init ops).iterate cfg id = some l → o.body = .seq k ety es →
        ∀ x ∈ l ++ l.reverse, x = some (some ety, cfg.cData)) ∧
    (∀ l k kty vty ents, (run cfg St.init ops).iterate cfg id = some l → o.body = .map k kty vty ents →
        ∀ x ∈ l ++ l.reverse, x = some (some kty, cfg.cData)) ∧
    (∀ l k kty vty ents, (run cfg St.init ops).mapValues cfg id = some l → o.body = .map k kty vty ents →
        ∀ x ∈ l, x = some (some vty, cfg.cData)) := by
  have hw := C19_reachable_wf cfg hs ops
  have hrev : ∀ {l : List (Option Seen)} {x}, x ∈ l ++ l.reverse → x ∈ l := fun hx => by simpa using hx
  exact ⟨fun l k ety es hit hbody x hx => (iterate_container hw hget hit).1 k ety es hbody x (hrev hx),
    fun l k kty vty ents hit hbody x hx => (iterate_container hw hget hit).2.1 k kty vty ents hbody x (hrev hx),
    fun l k kty vty ents hit hbody => mapValues_container hw hget hit hbody⟩

/-- **C19_types (views), for all histories**: in every reachable state, forward iteration over `slice(x, k, _)`,
    `reverse(x)`, `filter(x, f)` and `map(x, identity)` of an Array / List hands out only objects whose `type_of` is the
    declared element type and whose class is `data`; over a Table / Tree only objects of the declared key type and class
    `data`; over a Tuple only the Tuple's own items (each with the header it was born with: `C19_headers_never_change`).
    (Composition of what the views select — `drop`, `reverse`, every second item, all — with `C19_reachable_wf`.) -/
theorem C19_types_views (cfg : Config) (hs : cfg.Sound = true) (ops : List Op) (v : View) (id : Nat)
    (hid : (∃ k, v = .slice id k) ∨ v = .reverse id ∨ v = .filter id ∨ v = .map id)
    (l : List (Option Seen)) (hv : (run cfg St.init ops).viewItems cfg v = some l)
    (o : Obj) (hget : (run cfg St.init ops).get id = some o) :
    (∀ k ety es, o.body = .seq k ety es → ∀ x ∈ l, x = some (some ety, cfg.cData)) ∧
    (∀ k kty vty ents, o.body = .map k kty vty ents → ∀ x ∈ l, x = some (some kty, cfg.cData)) ∧
    (∀ items, o.body = .tuple items → ∀ x ∈ l, ∃ i ∈ items, x = (run cfg St.init ops).seenObj cfg i) := by
  have hw := C19_reachable_wf cfg hs ops
  generalize run cfg St.init ops = s at *
  -- what the view hands out is part of what the underlying iterable hands out
  have hsub : ∃ u, s.iterate cfg id = some u ∧ ∀ x ∈ l, x ∈ u := by
    rcases hid with ⟨k, rfl⟩ | rfl | rfl | rfl
    · obtain ⟨u, hu, rfl⟩ := Option.map_eq_some_iff.mp hv
      exact ⟨u, hu, fun x hx => List.mem_of_mem_drop hx⟩
    · obtain ⟨u, hu, rfl⟩ := Option.map_eq_some_iff.mp hv
      exact ⟨u, hu, fun x hx => List.mem_reverse.mp hx⟩
    · obtain ⟨u, hu, rfl⟩ := Option.map_eq_some_iff.mp hv
      exact ⟨u, hu, everySecond_mem u⟩
    · exact ⟨l, hv, fun x hx => hx⟩
  obtain ⟨u, hu, hlu⟩ := hsub
  have hc := iterate_container hw hget hu
  exact ⟨fun k ety es hb x hx => hc.1 k ety es hb x (hlu x hx), fun k kty vty ents hb x hx => hc.2.1 k kty vty ents hb x (hlu x hx),
    fun items hb x hx => hc.2.2 items hb x (hlu x hx)⟩

/-- correspondence anchors, not property theorems — the model *defines* that `zip` and `enumerate` hand out their own stack
    Tuple and a Range its own Int (`$I(0)` of `range(..)`: stack; `new(Int)` of `new(Range, ..)`: heap); the harness checks
    `type_of` and the header class of every object those views hand out against these definitions (`view zip|enumerate|
    range|hrange`), so what is established for them is agreement of model and library on the generated inputs. -/
example (cfg : Config) (hs : cfg.Sound = true) (s : St) (v : View) (l : List (Option Seen))
    (hv : s.viewItems cfg v = some l) :
    match v with
    | .zip _ _ | .enumerate _ => ∀ x ∈ l, x = some (some Ty.tuple, cfg.cStack)
    | .rangeStack _ _ _ => ∀ x ∈ l, x = some (some Ty.int, cfg.cStack)
    | .rangeHeap _ _ _ => ∀ x ∈ l, x = some (some Ty.int, cfg.cHeap)
    | _ => True := by
  have F := facts_of_sound hs
  cases v with
  | zip a b =>
    simp only [St.viewItems] at hv
    split at hv
    · simp only [Option.some.injEq] at hv; subst hv
      intro x hx; rw [(List.mem_replicate.mp hx).2, F.bStack]
    · cases hv
  | enumerate id =>
    simp only [St.viewItems] at hv
    cases hi : s.iterate cfg id with
    | none => simp [hi] at hv
    | some u => simp only [hi, Option.map_some, Option.some.injEq] at hv; subst hv
                intro x hx; rw [(List.mem_replicate.mp hx).2, F.bStack]
  | rangeStack a b c =>
    simp only [St.viewItems, Option.some.injEq] at hv; subst hv
    intro x hx; rw [(List.mem_replicate.mp hx).2, F.bStack]
  | rangeHeap a b c =>
    simp only [St.viewItems, Option.some.injEq] at hv; subst hv
    intro x hx; rw [(List.mem_replicate.mp hx).2, F.bAllocBy]
  | _ => trivial

/-- **new / new_raw / new_root / alloc / alloc_raw / alloc_root / `$` carry the constructing type and the class of their
    route** (run-time types included: `new(Type, ...)` gives an object of type `Type`, `new(rt)` an object of type `rt`):
    whenever the model makes an object, `type_of` of the new handle is the type it was made as, its class is `heap` for
    the six allocating routes, `stack` for `$`, `static` for an object in the data segment, its magic number is valid and
    it is alive. -/
theorem C19_births_carry_type (cfg : Config) (hs : cfg.Sound = true) (s s' : St) (id : Nat) (r : Route) (i : Init)
    (h : stepMake cfg s id r i = (s', .made id)) :
    ∃ o, s'.get id = some o ∧ typeOf cfg o.hdr = some i.ty ∧ o.hdr.alloc = r.cls cfg ∧ o.hdr.magic = cfg.magic ∧
      o.live = true := by
  have m := stepMake_does (cfg := cfg) s id r i
  rw [h] at m
  cases m with
  | same _ h => cases h
  | make hfresh hb x =>
    obtain ⟨cap, hborn⟩ := get_birth_self (facts_of_sound hs) s id r i.ty _ hfresh
    exact ⟨_, hborn, by simp [typeOf], rfl, rfl, rfl⟩

/-- **copy carries the type of its source and is a registered heap object** -/
theorem C19_copy_carries_type (cfg : Config) (hs : cfg.Sound = true) (s s' : St) (id src : Nat)
    (h : stepCopy cfg s id src = (s', .made id)) :
    ∃ o osrc, s.get src = some osrc ∧ s'.get id = some o ∧ typeOf cfg o.hdr = typeOf cfg osrc.hdr ∧
      o.hdr.alloc = cfg.cHeap ∧ o.live = true := by
  have m := stepCopy_does (cfg := cfg) s id src
  rw [h] at m
  cases m with
  | same _ h => cases h
  | copy hfresh hsrc hcp =>
    obtain ⟨cap, hborn⟩ := get_birth_self (facts_of_sound hs) s id .new _ _ hfresh
    exact ⟨_, _, hsrc, hborn, by rw [copyBody_ty hcp]; simp [typeOf], rfl, rfl⟩

/-- **a built-in static type object has type `Type` and class `static`** (its type word is NULL until `Type_Of` reads it) -/
theorem C19_static_type_objects (cfg : Config) (hs : cfg.Sound = true) (s s' : St) (id : Nat) (name : String)
    (h : stepStatic cfg s id name = (s', .made id)) :
    ∃ o, s'.get id = some o ∧ typeOf cfg o.hdr = some .type ∧ o.hdr.alloc = cfg.cStatic := by
  have m := stepStatic_does (cfg := cfg) s id name
  rw [h] at m
  cases m with
  | same _ h => cases h
  | static hfresh =>
    refine ⟨{ hdr := staticHeader cfg, cap := 0, body := .tyobj (Ty.ofName name) 0, live := true }, ?_,
      by simp [typeOf, staticHeader], (facts_of_sound hs).bStaticObj⟩
    simp only [St.get] at *
    rw [assoc_append, hfresh]; simp [assoc]

/-- **`size(type)` bytes are usable — the model side, tied to the source**: with the slot-size computations the translator
    reads from the source now (`C19_slot_sizes_follow_declared_types`: every slot is sized from its own declared type;
    `arrayRoundsSize` … `treeRoundsSize`), the bytes the model reserves are exactly: Array and Table slots
    `size(type)` rounded up to a multiple of 8, List and Tree slots `size(type)`, `alloc_by` blocks `size(type)`,
    `Type_Alloc` its whole table — in each case at least `size` of the type `type_of` reports for the object.  The harness
    checks the same numbers on the library (`cap=` of every O line: `malloc_usable`-independent white-box slot sizes, and
    writes `size(type_of(x))` bytes into every object it is handed under AddressSanitizer).
    This ties definitions of the model to generated constants; the inequalities themselves are immediate (`slotCap_ge`). -/
theorem C19_size_usable (s : St) :
    (∀ ety v, (seqElem Config.current s .array ety v).cap = round8 (s.sizeOf ety) ∧
              (seqElem Config.current s .list ety v).cap = s.sizeOf ety) ∧
    (∀ kty vty a b, (mapEntry Config.current s .table kty vty a b).1.cap = round8 (s.sizeOf kty) ∧
                    (mapEntry Config.current s .table kty vty a b).2.cap = round8 (s.sizeOf vty) ∧
                    (mapEntry Config.current s .tree kty vty a b).1.cap = s.sizeOf kty ∧
                    (mapEntry Config.current s .tree kty vty a b).2.cap = s.sizeOf vty) ∧
    (∀ r ty, r.isHeap = true → ty ≠ .type → (birthHeader Config.current s r ty).2 = s.sizeOf ty) ∧
    (∀ n, n ≤ round8 n) := by
  refine ⟨fun ety v => ⟨rfl, rfl⟩, fun kty vty a b => ⟨rfl, rfl, rfl, rfl⟩, ?_, round8_ge⟩
  intro r ty hr hty
  cases r <;> simp [Route.isHeap] at hr <;> simp [birthHeader, hty]

/-- correspondence anchor (definitional): for every configuration the reserved bytes are at least `size(type)` -/
example (cfg : Config) (s : St) :
    (∀ r ty, r.isHeap = true → s.sizeOf ty ≤ (birthHeader cfg s r ty).2) ∧
    (∀ r ty, r.isHeap = false → (∀ k, ty ≠ .rt k) → s.sizeOf ty = (birthHeader cfg s r ty).2) ∧
    (∀ k ety v, s.sizeOf ety ≤ (seqElem cfg s k ety v).cap) ∧
    (∀ k kty vty a b, s.sizeOf kty ≤ (mapEntry cfg s k kty vty a b).1.cap ∧ s.sizeOf vty ≤ (mapEntry cfg s k kty vty a b).2.cap) := by
  refine ⟨?_, ?_, ?_, ?_⟩
  · intro r ty hr
    cases r <;> simp [Route.isHeap] at hr <;> (simp only [birthHeader]; split)
    all_goals first
      | (rename_i hty; subst hty; simp [St.sizeOf, builtinSize])
      | exact Nat.le_refl _
  · intro r ty hr hrt
    cases r <;> simp [Route.isHeap] at hr <;> (cases ty <;> first | rfl | exact absurd rfl (hrt _))
  · intro k ety v
    cases k <;> simp only [seqElem, mkElem] <;> exact slotCap_ge _ _
  · intro k kty vty a b
    cases k <;> simp only [mapEntry, mkElem] <;> exact ⟨slotCap_ge _ _, slotCap_ge _ _⟩

/-- **headers never change, non-heap objects never die**: over any sequence of operations an existing handle keeps its
    header (type, class, magic number) and its reserved size, and if its class is not `heap` it stays as alive as it was —
    no `del`, `dealloc`, destructor, in-place operation or collector run releases a stack, static or embedded object. -/
theorem C19_headers_never_change (cfg : Config) (s : St) (ops : List Op) (id : Nat) (o : Obj) (h : s.get id = some o) :
    ∃ o', (run cfg s ops).get id = some o' ∧ o'.hdr = o.hdr ∧ o'.cap = o.cap ∧
      (o.hdr.alloc ≠ cfg.cHeap → o'.live = o.live) :=
  stable_run ops s id o h

/-- **C19_no_free_nonheap (dealloc)**: `dealloc` releases the block iff the class is `heap`; for a static, stack or
    embedded object it raises and the state is *unchanged* — ResourceError, except that the refusal of the `Terminal`
    object itself comes out as FormatError because `Terminal` cannot be an argument of the message. -/
theorem C19_dealloc_frees_iff_heap (cfg : Config) (hs : cfg.Sound = true) (s : St) (id : Nat) (o : Obj) :
    (o.hdr.alloc = cfg.cHeap → dealloc cfg s id o = (s.release id, .ok)) ∧
    (o.hdr.alloc = cfg.cStatic ∨ o.hdr.alloc = cfg.cStack ∨ o.hdr.alloc = cfg.cData →
      dealloc cfg s id o = (s, .raised (if o.body = .tyobj (.builtin "Terminal") 0 then "FormatError" else "ResourceError"))) :=
  ⟨dealloc_heap (facts_of_sound hs) s id, dealloc_refused (facts_of_sound hs) s id o⟩

/-- the same for an embedded object handed out by a container: always refused (never released) -/
theorem C19_dealloc_embedded_refused (cfg : Config) (hs : cfg.Sound = true) (e : Elem) (h : e.hdr.alloc = cfg.cData)
    (hv : e.val.dangling = false) : deallocElem cfg e = .raised "ResourceError" :=
  deallocElem_data (facts_of_sound hs) h hv

/-- **C19_no_free_nonheap (in-place operations)**: every reallocating operation of String (`resize`, `concat`,
    `assign`) and of Tuple (`push`, `pop`, `push_at`, `pop_at`, `concat`, `assign`, `resize`, `rem`) applied to a stack or
    static object returns the object *unchanged* and raises an exception — ValueError, or the IndexOutOfBoundsError of an
    index check that the source performs first. (String's `rem` edits the characters in place and never reallocates.) -/
theorem C19_inplace_refused_on_stack_static (cfg : Config) (hs : cfg.Sound = true) (s : St) (alloc : Nat)
    (ha : alloc = cfg.cStack ∨ alloc = cfg.cStatic) (op : InPlace) (b : Body) (out : Outcome) :
    (∀ cur, (∀ x, op ≠ .rem x) → stringOp cfg s alloc cur op = some (b, out) →
        b = .scalar (.str cur) ∧ ∃ e, out = .raised e) ∧
    (∀ items, tupleOp cfg s alloc items op = some (b, out) → b = .tuple items ∧ ∃ e, out = .raised e) :=
  ⟨fun _ hrem h => stringOp_refused (facts_of_sound hs) ha hrem h, fun _ h => tupleOp_refused (facts_of_sound hs) ha h⟩

/-- **the destructors refuse stack and static objects**: `String_Del` / `Tuple_Del` on a stack or static String / Tuple
    raise ValueError and change nothing (so `del_raw` of such an object stops there and never reaches `dealloc`). -/
theorem C19_destructor_refused_on_stack_static (cfg : Config) (hs : cfg.Sound = true) (h : Header)
    (ha : h.alloc = cfg.cStack ∨ h.alloc = cfg.cStatic) :
    (∀ t, destructBody cfg h (.scalar (.str t)) = (.scalar (.str t), .raised "ValueError")) ∧
    (∀ items, destructBody cfg h (.tuple items) = (.tuple items, .raised "ValueError")) := by
  have F := facts_of_sound hs
  constructor
  · intro t; simp only [destructBody, Guard.refuses_of_protects F.sDel ha, if_true, Guard.exc_of_protects F.sDel]
  · intro items; simp only [destructBody, Guard.refuses_of_protects F.tDel ha, if_true, Guard.exc_of_protects F.tDel]

/-- **only heap objects are ever registered with the collector** (for all histories), so `del` — which only acts on a
    registered pointer — and a collector run release only heap objects. -/
theorem C19_registry_heap_only (cfg : Config) (hs : cfg.Sound = true) (ops : List Op) :
    ∀ p ∈ (run cfg St.init ops).reg, ∃ o, (run cfg St.init ops).get p.1 = some o ∧ o.hdr.alloc = cfg.cHeap ∧ o.live = true :=
  (C19_reachable_wf cfg hs ops).reg

/-- **`del` of something the collector does not manage does nothing**: a stack, static or embedded object (never
    registered, by the invariant) is left exactly as it is — the model's state is unchanged. -/
theorem C19_del_of_unregistered_is_noop (cfg : Config) (hs : cfg.Sound = true) (s : St) (id : Nat) (o : Obj)
    (hnp : NoPend s) (hnr : s.isReg id = false) (f : FreeOp) (hf : f = .del ∨ f = .delRoot) : freeObj cfg s f id o = (s, .ok) :=
  freeObj_del_not_listed (facts_of_sound hs) hnp hnr o hf

theorem C19_del_of_embedded_is_noop (cfg : Config) (hs : cfg.Sound = true) (e : Elem) (f : FreeOp)
    (hf : f = .del ∨ f = .delRoot) : freeElem cfg f e = (e, .ok) := by
  have F := facts_of_sound hs
  rcases hf with h | h <;> subst h <;> simp [freeElem, F.delViaCollector]

/-- **a collector run frees only registered heap objects and leaves everything else exactly as it was**: in a reachable
    state, whatever set of victims is declared unreachable and whatever the layout of the registry (`order`), every block
    released — by the sweep itself or by a destructor running inside it — belonged to a registered, hence live heap,
    object, and every handle whose class is not `heap` keeps its object unchanged. -/
theorem C19_sweep_frees_only_heap (cfg : Config) (hs : cfg.Sound = true) (ops : List Op) (victims order : List Nat) :
    let s := run cfg St.init ops
    (∀ id ∈ (s.sweep cfg victims order).2.1, ∃ o, s.get id = some o ∧ o.hdr.alloc = cfg.cHeap ∧ o.live = true) ∧
    (∀ k o, s.get k = some o → o.hdr.alloc ≠ cfg.cHeap → (s.sweep cfg victims order).1.get k = some o) := by
  intro s
  have hw : WF cfg s := C19_reachable_wf cfg hs ops
  have h := sweep_spec (facts_of_sound hs) hw victims order
  exact ⟨fun id hid => h.heap hw hid, h.nonheap⟩

/-- **released exactly once**: over every history — nested deletions, rings of Boxes, every pending order, forced and
    threshold collections included — nothing is released twice, everything released was a heap object and is dead
    afterwards. -/
theorem C19_release_once (cfg : Config) (hs : cfg.Sound = true) (ops : List Op) :
    (run cfg St.init ops).freed.Nodup ∧
    ∀ id ∈ (run cfg St.init ops).freed, ∃ o, (run cfg St.init ops).get id = some o ∧ o.hdr.alloc = cfg.cHeap ∧ o.live = false :=
  ⟨(C19_reachable_wf cfg hs ops).once, (C19_reachable_wf cfg hs ops).freed⟩

/-- **the full statement about a collection** (forced, or the threshold collection of `GC_Set`): in every reachable state,
    for every list of `victims` — registered, not roots, not an item of a live Tuple (that region is KF-C01-dangling-tuple-item
    of property C01) — and every layout of the registry, the collection raises nothing and touches no released block (`ub`),
    every victim is among the blocks it released, that list has no repetition and nothing in it had been released before;
    afterwards no victim is registered and the pending list is empty.  The victims are whatever the collector finds
    unreachable: a run-time Type object that only the headers of its instances refer to is one of them. -/
def C19_sweep_releases_each_victim_once_statement (cfg : Config) : Prop :=
  ∀ (ops : List Op) (victims order : List Nat),
    let s := run cfg St.init ops
    let r := s.sweep cfg victims order
    (∀ v ∈ victims, (v, false) ∈ s.reg ∧ s.referenced v = false) →
    s.sweepOutcome r.2.1 r.2.2 = .ok ∧ (∀ v ∈ victims, v ∈ r.2.1) ∧ r.2.1.Nodup ∧ (∀ e ∈ r.2.1, e ∉ s.freed) ∧
      (∀ v ∈ victims, r.1.isReg v = false) ∧ NoPend r.1 ∧ r.1.freed = s.freed ++ r.2.1

/-- **a collection releases every one of its victims, exactly once, and never touches a released block** — proved for every
    collection that loses no Type (`typeLost = false`: no run-time Type object is released before, or under, a live object
    of that type; the complement is exactly the territory of KF-C19-type-outlived, `C19_type_outlived_refuted`).
    The victims are named explicitly: `victims` itself, each registered, not a root and not an item of a live Tuple — owner
    before owned, owned before owner, rings, a Box that owns itself, victims deleted by the destructor of another victim
    while they wait on the pending list, run-time Type objects that are not in use or whose instances are all released
    before them in the same collection.  The step of the model (`Op.sweep`, and `Op.thr` alike) then goes to exactly that state.
    `C19_collections_keep_types` gives a condition on the state before the collection that implies the hypothesis. -/
theorem C19_sweep_releases_each_victim_once_partial (cfg : Config) (hs : cfg.Sound = true) (ops : List Op)
    (victims order : List Nat)
    (hv : ∀ v ∈ victims, (v, false) ∈ (run cfg St.init ops).reg ∧ (run cfg St.init ops).referenced v = false)
    (hty : (run cfg St.init ops).typeLost ((run cfg St.init ops).sweep cfg victims order).2.1 = false) :
    let s := run cfg St.init ops
    let r := s.sweep cfg victims order
    s.sweepOutcome r.2.1 r.2.2 = .ok ∧ (∀ v ∈ victims, v ∈ r.2.1) ∧ r.2.1.Nodup ∧ (∀ e ∈ r.2.1, e ∉ s.freed) ∧
      (∀ v ∈ victims, r.1.isReg v = false) ∧ NoPend r.1 ∧ r.1.freed = s.freed ++ r.2.1 ∧
      step cfg s (.sweep victims order) = (r.1, .swept "sweep" r.2.1 .ok) ∧
      step cfg s (.thr victims order) = (r.1, .swept "thr" r.2.1 .ok) := by
  intro s r
  have h := sweep_spec (facts_of_sound hs) (C19_reachable_wf cfg hs ops) victims order
  have hin : ∀ v ∈ victims, v ∈ r.2.1 := fun v hvv => h.all v (mem_sweepVictims_of hvv (hv v hvv).1 (hv v hvv).2)
  refine ⟨?_, hin, h.nodup, h.new, fun v hvv => h.unreg (hin v hvv), h.noPend, h.freed, ?_, ?_⟩
  · show (if s.typeLost r.2.1 = true then Outcome.ub else r.2.2) = .ok
    rw [hty]; exact h.ok
  · show (if s.typeLost r.2.1 = true then _ else _) = _
    rw [hty]; simp only [Bool.false_eq_true, if_false]; rw [h.ok]
  · show (if s.typeLost r.2.1 = true then _ else _) = _
    rw [hty]; simp only [Bool.false_eq_true, if_false]; rw [h.ok]

/-- **a condition on the state before the collection**: if no *registered* run-time Type object is in use — the types of the
    live objects are static built-ins or were made with `new_raw(Type, ..)`, which the collector never sees — then no
    collection and no teardown, whatever the victims and the layout, loses a Type.  (A registered Type in use that is not
    among the released blocks — reachable from the roots, or root-registered — is fine as well: that is the hypothesis
    `typeLost = false` itself, met by the examples below; what the release log of a collection contains beyond the victims
    is what the destructors of Boxes delete, and a Box never owns a Type object: `St.ownable`.) -/
theorem C19_collections_keep_types (cfg : Config) (hs : cfg.Sound = true) (ops : List Op) (victims order : List Nat)
    (hreg : ∀ p ∈ (run cfg St.init ops).reg, (run cfg St.init ops).isTypeInUse p.1 = false) :
    (run cfg St.init ops).typeLost ((run cfg St.init ops).sweep cfg victims order).2.1 = false ∧
    (run cfg St.init ops).typeFirst ((run cfg St.init ops).teardown cfg order).2.1 = false := by
  have F := facts_of_sound hs
  have hw : WF cfg (run cfg St.init ops) := C19_reachable_wf cfg hs ops
  constructor
  · apply typeLost_false
    intro e he
    obtain ⟨p, hp, rfl⟩ := (sweep_spec F hw victims order).reg e he
    exact hreg p hp
  · apply typeFirst_false
    intro e he
    obtain ⟨p, hp, rfl⟩ := (teardown_spec F hw order).reg e he
    exact hreg p hp

/-- **the full statement about the teardown** (`GC_Del`, from `Cello_Exit` at program exit): it releases every
    collector-managed object that is not a root, exactly once, and touches no released block, whatever the layout of the
    registry and whatever the destructors delete among themselves. -/
def C19_teardown_releases_once_statement (cfg : Config) : Prop :=
  ∀ (ops : List Op) (order : List Nat),
    let s := run cfg St.init ops
    let r := s.teardown cfg order
    s.teardownOutcome r.2.1 r.2.2 = .ok ∧ (∀ p ∈ s.reg, p.2 = false → p.1 ∈ r.2.1) ∧ r.2.1.Nodup ∧ (∀ e ∈ r.2.1, e ∉ s.freed) ∧
      (∀ e ∈ r.2.1, ∃ o, s.get e = some o ∧ o.hdr.alloc = cfg.cHeap ∧ o.live = true)

/-- **the teardown releases every collector-managed object that is not a root, exactly once** — proved for every teardown in
    which no run-time Type object is released before an object of that type (`typeFirst = false`; the release order is the
    slot order of the registry, which depends on addresses: a program cannot arrange it — KF-C19-type-outlived,
    `C19_type_outlived_refuted`).  Run-time Type objects that are not in use, that are roots (`new_root(Type, ..)`), raw, or
    that happen to come after all their instances are covered. -/
theorem C19_teardown_releases_once_partial (cfg : Config) (hs : cfg.Sound = true) (ops : List Op) (order : List Nat)
    (hty : (run cfg St.init ops).typeFirst ((run cfg St.init ops).teardown cfg order).2.1 = false) :
    let s := run cfg St.init ops
    let r := s.teardown cfg order
    s.teardownOutcome r.2.1 r.2.2 = .ok ∧ (∀ p ∈ s.reg, p.2 = false → p.1 ∈ r.2.1) ∧ r.2.1.Nodup ∧ (∀ e ∈ r.2.1, e ∉ s.freed) ∧
      (∀ e ∈ r.2.1, ∃ o, s.get e = some o ∧ o.hdr.alloc = cfg.cHeap ∧ o.live = true) := by
  intro s r
  have hw : WF cfg s := C19_reachable_wf cfg hs ops
  have h := teardown_spec (facts_of_sound hs) hw order
  refine ⟨?_, fun p hp hroot => h.all p.1 (mem_exitVictims_of hp hroot), h.nodup, h.new, fun e he => h.heap hw he⟩
  show (if s.typeFirst r.2.1 = true then Outcome.ub else r.2.2) = .ok
  rw [hty]; exact h.ok

/-- what a collector operation reported (for the decidable statements below) -/
def Obs.sweptOut : Obs → Option (String × List Nat × Outcome)
  | .swept how ids out => some (how, ids, out)
  | _ => none

/-- `Foo = new(Type, "RT0", 16); a = new(Foo); b = new(Foo)` — a factory's type and two of its objects -/
def typeWitnessOps : List Op := [.make 0 .new (.rtType 0 16), .make 1 .new (.rtObj 0 5), .make 2 .new (.rtObj 0 6)]

/-- **refuted on this tree** (KF-C19-type-outlived): nothing in `GC_Recurse` / `GC_Mark_Item` follows the type pointer of a
    header, and `GC_Sweep` releases in slot order.  On the three-operation history above, which contains no misuse:
    * a collection that finds the Type unreachable (nothing but the headers of `a` and `b` refers to it) releases it under
      its living instances: `type_of(a)` points into a freed block — the property's first sentence fails for a live object;
    * a collection that finds all three unreachable, the Type first in slot order, finalises `a` after its Type;
    * the teardown does the same whenever the Type's slot comes first (birth order here);
    with the instances first in slot order the same collection and the same teardown are fine (each block once).
    Both full statements are false for the code that exists. -/
theorem C19_type_outlived_refuted :
    ¬ C19_sweep_releases_each_victim_once_statement Config.current ∧
    ¬ C19_teardown_releases_once_statement Config.current ∧
    ((step Config.current (run Config.current St.init typeWitnessOps) (.sweep [0] [])).2.sweptOut = some ("sweep", [0], .ub) ∧
     (step Config.current (run Config.current St.init typeWitnessOps) (.sweep [0, 1, 2] [])).2.sweptOut = some ("sweep", [0, 1, 2], .ub) ∧
     (step Config.current (run Config.current St.init typeWitnessOps) (.exit [])).2.sweptOut = some ("exit", [0, 1, 2], .ub) ∧
     (step Config.current (run Config.current St.init typeWitnessOps) (.sweep [0, 1, 2] [1, 2])).2.sweptOut = some ("sweep", [1, 2, 0], .ok) ∧
     (step Config.current (run Config.current St.init typeWitnessOps) (.exit [2, 1])).2.sweptOut = some ("exit", [2, 1, 0], .ok) ∧
     (step Config.current (run Config.current St.init typeWitnessOps) (.sweep [1, 2] [])).2.sweptOut = some ("sweep", [1, 2], .ok)) := by
  rw [Config.current_eq]
  refine ⟨?_, ?_, by decide, by decide, by decide, by decide, by decide, by decide⟩
  · intro h
    have := (h typeWitnessOps [0] [] (by decide)).1
    revert this; decide
  · intro h
    have := (h typeWitnessOps []).1
    revert this; decide

/-- the hypotheses of the two `_partial` theorems are met by reachable states with run-time types **in use**: a root-registered
    Type whose instances are collected; a registered Type that is not among the victims; instances and Type collected
    together with the instances first; a raw Type (`C19_collections_keep_types` applies: nothing registered is a Type) -/
example :
    (let s := run Config.current St.init [.make 0 .newRoot (.rtType 0 16), .make 1 .new (.rtObj 0 5), .make 2 .new (.rtObj 0 6)]
     s.isTypeInUse 0 = true ∧ s.typeLost (s.sweep Config.current [1, 2] []).2.1 = false ∧
     s.typeFirst (s.teardown Config.current []).2.1 = false ∧ (s.teardown Config.current []).2.1 = [1, 2]) ∧
    (let s := run Config.current St.init typeWitnessOps
     s.isTypeInUse 0 = true ∧ s.typeLost (s.sweep Config.current [1] []).2.1 = false ∧
     s.typeLost (s.sweep Config.current [0, 1, 2] [2, 1]).2.1 = false ∧ s.typeFirst (s.teardown Config.current [1, 2]).2.1 = false) ∧
    (let s := run Config.current St.init [.make 0 .newRaw (.rtType 0 16), .make 1 .new (.rtObj 0 5),
        .make 2 .new (.seq .array (.rt 0) [.raw 1, .raw 2])]
     s.isTypeInUse 0 = true ∧ (∀ p ∈ s.reg, s.isTypeInUse p.1 = false) ∧ (s.teardown Config.current []).2.1 = [1, 2]) := by
  rw [Config.current_eq]
  decide +kernel

/-- **a heap object deleted once is released once**: `del` of a live registered object in a reachable state raises
    nothing, removes it from the registry and releases its block — together with what its destructor deletes in turn, if
    it is a Box (the log only grows, and by `C19_release_once` without repetition); it can never be released again. -/
theorem C19_del_releases_registered (cfg : Config) (hs : cfg.Sound = true) (ops : List Op) (id : Nat) (o : Obj)
    (_hget : (run cfg St.init ops).get id = some o) (hreg : (run cfg St.init ops).isReg id = true) :
    let s := run cfg St.init ops
    (freeObj cfg s .del id o).2 = .ok ∧ id ∈ (freeObj cfg s .del id o).1.freed ∧ id ∉ s.freed ∧
      (∃ E, (freeObj cfg s .del id o).1.freed = s.freed ++ E) ∧ (freeObj cfg s .del id o).1.freed.Nodup ∧
      (freeObj cfg s .del id o).1.isReg id = false := by
  intro s
  have F := facts_of_sound hs
  have hw : WF cfg s := C19_reachable_wf cfg hs ops
  obtain ⟨p, hp, hpid⟩ := isReg_true hreg
  have hl : Listed s id := Or.inr ⟨p, hp, hpid⟩
  have hfo : freeObj cfg s .del id o = gcRem (finalise (fuelFor s) cfg) cfg s id := by
    simp only [freeObj, F.delViaCollector, if_true]
  rw [hfo]
  -- `GC_Rem` at the top level: `RemSpec` for a listed object
  have hs' := gcRem_finalise_spec F (fuelFor s) s id hw (pendOK_of_noPend (C19_reachable_no_pending cfg hs ops))
    (Nat.le_of_lt (listed_lt_fuelFor s))
  exact ⟨hs'.ok, hs'.released hl, hpid ▸ not_freed_of_reg hw hp, hs'.casc.freedExt, hs'.wf.once,
    isReg_false_of_freed hs'.wf (hs'.released hl)⟩

/-- **a refused release changes nothing at all, for all histories**: in every reachable state, `dealloc`, `dealloc_raw`,
    `dealloc_root`, `del`, `del_root`, `del_raw` or `destruct` applied to a live object whose class is static, stack or data
    returns the very same state (objects, registry, release log) — whatever the object is, with one exclusion that is
    exactly the whole-object territory of known finding KF-C19-delraw-embedded: `del_raw` / `destruct` of an object for
    which `delrawTerritory` holds (a Box that points to something; a container; a String or Tuple of class `data`).
    So `del_raw` and `destruct` of a stack or static Int, Ref, String, Tuple, empty Box, of a Type object … are covered:
    the destructor either does not exist or is the guarded `String_Del` / `Tuple_Del`, which refuses first.
    (`destruct` of a stack Box that points to something is not a refusal at all: it is the documented way to release what
    the Box holds — `C19_destruct_stack_box_releases_pointee`.) -/
theorem C19_step_release_refused_unchanged (cfg : Config) (hs : cfg.Sound = true) (ops : List Op) (id : Nat) (o : Obj)
    (f : FreeOp) (hf : f = .delRaw ∨ f = .destruct → delrawTerritory cfg o = false)
    (hget : (run cfg St.init ops).get id = some o) (hlive : o.live = true)
    (hcls : o.hdr.alloc = cfg.cStatic ∨ o.hdr.alloc = cfg.cStack ∨ o.hdr.alloc = cfg.cData) :
    (stepFree cfg (run cfg St.init ops) f (.obj id)).1 = run cfg St.init ops :=
  stepFree_nonheap_unchanged (facts_of_sound hs) (C19_reachable_wf cfg hs ops) (C19_reachable_no_pending cfg hs ops) f hf hget
    hlive hcls

/-- … and `del_raw` raises there (the statement: some exception; by the proof ResourceError from `dealloc`, ValueError from
    the guarded destructor of a stack or static String / Tuple, FormatError for the `Terminal` object, see
    `C19_dealloc_frees_iff_heap`) -/
theorem C19_step_delraw_refused_raises (cfg : Config) (hs : cfg.Sound = true) (ops : List Op) (id : Nat) (o : Obj)
    (ht : delrawTerritory cfg o = false)
    (hget : (run cfg St.init ops).get id = some o) (hlive : o.live = true)
    (hcls : o.hdr.alloc = cfg.cStatic ∨ o.hdr.alloc = cfg.cStack ∨ o.hdr.alloc = cfg.cData) :
    ∃ e, freeObj cfg (run cfg St.init ops) .delRaw id o = (run cfg St.init ops, .raised e) :=
  freeObj_delRaw_refused (facts_of_sound hs) (C19_reachable_wf cfg hs ops) hget hlive hcls ht

/-- name and outcome of an executed operation (for the decidable examples below) -/
def Obs.didOut : Obs → Option (String × Outcome)
  | .did n out _ => some (n, out)
  | _ => none

/-- the hypotheses are met by reachable stack objects, with `f = del_raw` and `f = destruct`: a stack Int (no destructor:
    `dealloc` refuses, ResourceError), a stack String and a stack Tuple (guarded destructor: ValueError), an empty stack Box;
    the state after each call is the state before it -/
example :
    let ops : List Op := [.make 0 .stack (.int 7), .make 1 .stack (.str "x"), .make 2 .stack (.tuple [0, 1]), .make 3 .stack (.box none)]
    let s := run Config.current St.init ops
    (∀ id ∈ [0, 1, 2, 3], (s.get id).map (fun o => (o.live, o.hdr.alloc, delrawTerritory Config.current o)) =
        some (true, Config.current.cStack, false)) ∧
    (stepFree Config.current s .delRaw (.obj 0)).2.didOut = some ("del_raw", .raised "ResourceError") ∧
    (stepFree Config.current s .delRaw (.obj 1)).2.didOut = some ("del_raw", .raised "ValueError") ∧
    (stepFree Config.current s .delRaw (.obj 2)).2.didOut = some ("del_raw", .raised "ValueError") ∧
    (stepFree Config.current s .delRaw (.obj 3)).2.didOut = some ("del_raw", .raised "ResourceError") ∧
    (stepFree Config.current s .destruct (.obj 1)).2.didOut = some ("destruct", .raised "ValueError") ∧
    (stepFree Config.current s .destruct (.obj 0)).2.didOut = some ("destruct", .ok) := by
  rw [Config.current_eq]
  decide +kernel

/-- **the excluded region is not empty** (KF-C19-delraw-embedded, stack Box): `del_raw($(Box, new(Int, 5)))` raises
    ResourceError — after Box_Del deleted the Int and cleared the Box: the state changed although the call was refused -/
theorem C19_step_delraw_stack_box_refuted :
    let ops : List Op := [.make 0 .new (.int 5), .make 1 .stack (.box (some 0))]
    let s := run Config.current St.init ops
    (s.get 1).map (fun o => (o.live, o.hdr.alloc, delrawTerritory Config.current o)) = some (true, Config.current.cStack, true) ∧
    (stepFree Config.current s .delRaw (.obj 1)).2.didOut = some ("del_raw", .raised "ResourceError") ∧
    (stepFree Config.current s .delRaw (.obj 1)).1.freed = [0] ∧
    ((stepFree Config.current s .delRaw (.obj 1)).1.get 1).map (·.body) = some (.box none) := by
  rw [Config.current_eq]
  decide +kernel

/-- **`destruct` of a stack Box is the documented release of what it holds** (src/Pointer.c, example "Lifetimes";
    tests/test.c `test_box_assign`): in every reachable state it raises nothing; a concrete history: the registered pointee
    is released exactly once, the Box is cleared, its header and liveness are untouched. -/
theorem C19_destruct_stack_box_releases_pointee :
    let ops : List Op := [.make 0 .new (.str "s"), .make 1 .stack (.box (some 0)), .free .destruct (.obj 1), .free .destruct (.obj 1)]
    let s := run Config.current St.init ops
    s.freed = [0] ∧ s.reg = [] ∧ (s.get 1).map (fun o => (o.body, o.live, o.hdr.alloc)) = some (.box none, true, Config.current.cStack) := by
  rw [Config.current_eq]
  decide +kernel

/-- **the same for an embedded object, at step level and for all histories**: a freeing operation applied to an element,
    key or value of a live container returns the very same state — for `del_raw` / `destruct` provided the element's destructor
    frees nothing (`Scalar.dtorFrees = false`: Int, run-time structs, an **empty** Array — `Array_Del` frees a NULL backing
    store); Strings, Tuples and Arrays with a backing store are the embedded territory of KF-C19-delraw-embedded, exactly. -/
theorem C19_step_release_refused_unchanged_elem (cfg : Config) (hs : cfg.Sound = true) (ops : List Op) (t : Target) (o : Obj)
    (e : Elem) (f : FreeOp) (hf : f = .delRaw ∨ f = .destruct → e.val.dtorFrees = false)
    (hget : (run cfg St.init ops).get t.id = some o) (hlive : o.live = true) (he : o.body.elemAt t = some e)
    (hnd : e.val.dangling = false) :
    (stepFree cfg (run cfg St.init ops) f t).1 = run cfg St.init ops ∧
    (f ≠ .del → f ≠ .delRoot → f ≠ .destruct → (stepFree cfg (run cfg St.init ops) f t).2 = .did f.name (.raised "ResourceError") t) := by
  rw [stepFree_elem_unchanged (facts_of_sound hs) (C19_reachable_wf cfg hs ops) f hf hget hlive he hnd]
  exact ⟨rfl, fun h1 h2 h3 => by simp [h1, h2, h3]⟩

/-- **a refused in-place operation changes nothing, for all histories**: in every reachable state a reallocating
    operation (everything but String's in-place `rem`) applied to a live stack or static String or Tuple raises, and the
    resulting state has the same object under every handle, the same registry and the same release log. -/
theorem C19_step_inplace_refused_unchanged (cfg : Config) (hs : cfg.Sound = true) (ops : List Op) (id : Nat) (o : Obj)
    (ip : InPlace) (hrem : ∀ x, ip ≠ .rem x ∨ ∃ items, o.body = .tuple items)
    (hnself : ip.srcs.contains id = false)
    (hget : (run cfg St.init ops).get id = some o) (hlive : o.live = true)
    (hcls : o.hdr.alloc = cfg.cStack ∨ o.hdr.alloc = cfg.cStatic)
    (hbody : (∃ t, o.body = .scalar (.str t)) ∨ ∃ items, o.body = .tuple items) :
    let r := stepInplace cfg (run cfg St.init ops) ip (.obj id)
    (∀ k, r.1.get k = (run cfg St.init ops).get k) ∧ r.1.reg = (run cfg St.init ops).reg ∧
      r.1.freed = (run cfg St.init ops).freed ∧
      (∀ name out t, r.2 = .did name out t → ∃ e, out = .raised e) := by
  obtain ⟨h1, h2⟩ := stepInplace_refused (facts_of_sound hs) (C19_reachable_wf cfg hs ops) ip hrem hnself hget hlive hcls hbody
  exact ⟨fun _ => by rw [h1], by rw [h1], by rw [h1], h2⟩

/-- **`assign(s, s)` of a String changes nothing and raises nothing, whatever the class of `s`** (fix 744a45f): `String_Assign`
    leaves by `if (val is s->val) { return; }` before the allocation-class guard and before `realloc` — read from the source
    (first conjunct: removing that line, or moving it after the guard or the `realloc`, makes it false).  In every reachable
    state the step returns the very same state with outcome `ok`; a stack or static String is neither reallocated nor
    refused.  (Operands that are views into the target's characters are KF-C16-alias-operand, property C16.) -/
theorem C19_string_self_assign_is_noop (ops : List Op) (id : Nat) (o : Obj) (txt : String)
    (hget : (run Config.current St.init ops).get id = some o) (hlive : o.live = true) (hbody : o.body = .scalar (.str txt)) :
    Config.current.sAssignSelfReturns = true ∧
    stepInplace Config.current (run Config.current St.init ops) (.assign id) (.obj id) =
      (run Config.current St.init ops, .did "assign" .ok (.obj id)) := by
  have hc : Config.current.sAssignSelfReturns = true := by rw [Config.current_eq]
  refine ⟨hc, ?_⟩
  rw [stepInplace_self hget hlive hbody, hc, if_pos rfl]

/-- a stack String assigned to itself: reachable, `ok`, unchanged -/
example :
    let s := run Config.current St.init [.make 0 .stack (.str "abc"), .inplace (.assign 0) (.obj 0)]
    (s.get 0).map (fun o => (o.body, o.live, o.hdr.alloc)) = some (.scalar (.str "abc"), true, Config.current.cStack) ∧
    (stepInplace Config.current s (.assign 0) (.obj 0)).2.didOut = some ("assign", .ok) := by rw [Config.current_eq]; decide

/-- The full statement "an attempt to free a container-embedded object raises and leaves it intact", for `del_raw`:
    `∀ e` embedded (and not already dangling), `freeElem cfg .delRaw e = (e, .raised "ResourceError")`. -/
def C19_delraw_embedded_statement (cfg : Config) : Prop :=
  ∀ e : Elem, e.hdr.alloc = cfg.cData → e.val.dangling = false → freeElem cfg .delRaw e = (e, .raised "ResourceError")

/-- … and for whole objects: `del_raw` of a live stack, static or data-class object raises and returns the very same state -/
def C19_delraw_nonheap_statement (cfg : Config) : Prop :=
  ∀ (ops : List Op) (id : Nat) (o : Obj), (run cfg St.init ops).get id = some o → o.live = true →
    (o.hdr.alloc = cfg.cStatic ∨ o.hdr.alloc = cfg.cStack ∨ o.hdr.alloc = cfg.cData) →
    ∃ e, freeObj cfg (run cfg St.init ops) .delRaw id o = (run cfg St.init ops, .raised e)

/-- **refuted on this tree** (KF-C19-delraw-embedded): `del_by` runs `dealloc(destruct(self))`, so the destructor of an
    embedded or stack object runs before `dealloc` looks at the class.  Four witnesses:
    the String element of `new(Array, String, "ab")` — String_Del frees the characters, `dealloc` formats them into its message
    (use of the released block);
    the Tuple element of `new(Array, Tuple, tuple($I(1), $I(2)))` — Tuple_Del frees `items`, Tuple_Show reads them;
    the Array element of `new(Array, Array, new(Array, Int, 7, 8))` — Array_Del frees the backing store, Array_Show reads it;
    and (second statement) `del_raw($(Box, new(Int, 5)))` — Box_Del deletes the Int and clears the Box, then ResourceError. -/
theorem C19_delraw_embedded_refuted :
    ¬ C19_delraw_embedded_statement Config.current ∧ ¬ C19_delraw_nonheap_statement Config.current ∧
    (let s := run Config.current St.init [.make 0 .stack (.int 1), .make 1 .stack (.int 2)]
     freeElem Config.current .delRaw (seqElem Config.current St.init .array .string (.str "ab")) =
        ({ seqElem Config.current St.init .array .string (.str "ab") with val := .strFreed }, .ub) ∧
     freeElem Config.current .delRaw (seqElem Config.current s .array .tuple (.tup [0, 1])) =
        ({ seqElem Config.current s .array .tuple (.tup [0, 1]) with val := .tupFreed }, .ub) ∧
     freeElem Config.current .delRaw (seqElem Config.current St.init .array .array (.arr [7, 8])) =
        ({ seqElem Config.current St.init .array .array (.arr [7, 8]) with val := .arrFreed 2 }, .ub)) := by
  refine ⟨?_, ?_, by rw [Config.current_eq]; decide⟩
  · intro h
    have := h (seqElem Config.current St.init .array .tuple (.tup [])) (by rw [Config.current_eq]; decide) (by decide)
    revert this
    rw [Config.current_eq]; decide
  · intro h
    -- the stack Box of `C19_step_delraw_stack_box_refuted` points to the Int before `del_raw` and is empty after it,
    -- while the statement makes the step hand back the state it started from
    obtain ⟨hget, -, -, hbody⟩ := C19_step_delraw_stack_box_refuted
    obtain ⟨o, ho, hp⟩ := Option.map_eq_some_iff.mp hget
    obtain ⟨e, he⟩ := h _ 1 o ho (congrArg (·.1) hp) (.inr (.inl (congrArg (·.2.1) hp)))
    rw [stepFree_obj .delRaw ho (congrArg (·.1) hp), he] at hbody
    have hb : o.body = .box none := by split at hbody <;> simpa [ho] using hbody
    simp [delrawTerritory, hb] at hp

/-- stack Ints, an Array of Tuples, a List of Arrays, a Table with Tuple values; `dealloc` / `del` on their elements -/
def embWitnessOps : List Op :=
  [.make 0 .stack (.int 1), .make 1 .stack (.int 2), .make 2 .newRaw (.seq .array .tuple [.tup [0, 1], .tup []]),
   .make 3 .new (.seq .list .array [.arr [7, 8]]), .make 4 .new (.map .table .int .tuple [(.int 3, .tup [1])]),
   .free .dealloc (.elem 2 0), .free .del (.elem 3 0), .free .deallocRaw (.val 4 0), .free .delRoot (.elem 2 1)]

/-- the witnesses are reachable: the model builds an Array of Tuples, a List of Arrays and a Table of Tuples, hands out their
    elements with the declared type and class `data`, and `dealloc` / `del` of those elements (outside the territory) leave
    everything as it is -/
example :
    (run Config.current St.init embWitnessOps).iterate Config.current 2 =
      some [some (some .tuple, Config.current.cData), some (some .tuple, Config.current.cData)] ∧
    (run Config.current St.init embWitnessOps).iterate Config.current 3 = some [some (some .array, Config.current.cData)] ∧
    (run Config.current St.init embWitnessOps).mapValues Config.current 4 = some [some (some .tuple, Config.current.cData)] ∧
    ((run Config.current St.init embWitnessOps).elemOf (.elem 2 0)).map (·.val) = some (.tup [0, 1]) ∧
    ((run Config.current St.init embWitnessOps).elemOf (.elem 3 0)).map (·.val) = some (.arr [7, 8]) ∧
    (run Config.current St.init embWitnessOps).freed = [] := by
  rw [Config.current_eq]
  refine ⟨by decide, by decide, by decide, by decide, by decide, by decide⟩

/-- what is proved instead: every freeing operation leaves an embedded object exactly as it is, and never releases it,
    unless it runs a destructor that frees a block — `del_raw` / `destruct` of a String, a Tuple or an Array that has a backing
    store (`Scalar.dtorFrees`; an empty embedded Array is covered: `Array_Del` frees NULL and `dealloc` refuses.  List, Table,
    Tree, Box and File elements are outside the model's universe and, having unguarded destructors as well, inside the
    finding's). -/
theorem C19_embedded_intact_partial (cfg : Config) (hs : cfg.Sound = true) (f : FreeOp) (e : Elem)
    (h : (f ≠ .delRaw ∧ f ≠ .destruct) ∨ e.val.dtorFrees = false) : (freeElem cfg f e).1 = e :=
  congrArg Prod.fst (freeElem_intact (facts_of_sound hs) fun hf => h.resolve_left fun hn => hf.elim hn.1 hn.2)

/-- the empty embedded Array is inside the hypothesis and reachable: `outer = new_raw(Array, Array, new_raw(Array, Int))`,
    `del_raw(get(outer, 0))` raises ResourceError and leaves the element as it was; with one element it is the finding -/
example :
    (Scalar.arr []).dtorFrees = false ∧ (Scalar.arr [7]).dtorFrees = true ∧
    freeElem Config.current .delRaw (seqElem Config.current St.init .array .array (.arr [])) =
      (seqElem Config.current St.init .array .array (.arr []), .raised "ResourceError") ∧
    (run Config.current St.init [.make 0 .newRaw (.seq .array .array [.arr []]), .free .delRaw (.elem 0 0), .free .destruct (.elem 0 0)]).elemOf (.elem 0 0) =
      some (seqElem Config.current St.init .array .array (.arr [])) := by
  rw [Config.current_eq]
  decide

/-- **the proposed repair closes the finding**: if `del_by` refuses an object whose class is not `heap` before it calls the
    destructor (`Config.delRawClassFirst`; the translator reads it from `del_by`, it is `false` on this tree), both full
    statements hold for every `Sound` configuration — every embedded object and every stack, static or data-class object
    is returned untouched with ResourceError (FormatError for `Terminal`), whatever its type. -/
theorem C19_delraw_repair_sound (cfg : Config) (hs : cfg.Sound = true) (hcf : cfg.delRawClassFirst = true) :
    C19_delraw_embedded_statement cfg ∧ C19_delraw_nonheap_statement cfg := by
  have F := facts_of_sound hs
  constructor
  · intro e hd hnd
    have hnh : (e.hdr.alloc != cfg.cHeap) = true := by
      rw [hd]; simp only [bne_iff_ne, ne_eq]; exact fun h => F.ne_heap_data h.symm
    have h1 : freeElem cfg .delRaw e = (e, deallocElem cfg e) := by
      simp only [freeElem, hcf, hnh, Bool.and_self, if_true]
    rw [h1, C19_dealloc_embedded_refused cfg hs e hd hnd]
  · intro ops id o _ _ hcls
    exact ⟨_, freeObj_delRaw_classFirst F hcf _ id o hcls⟩

/-- the configuration read from the source does not have the class check first (so the `_refuted` theorem above is about the
    code that exists), and a `Sound` configuration with the check exists: the current one with that one field flipped -/
example : Config.current.delRawClassFirst = false ∧
    ({ Config.current with delRawClassFirst := true }).Sound = true := by rw [Config.current_eq]; decide +kernel

/-- **refuted on this tree** (KF-C19-tree-misaligned-header): `Tree_Alloc` places the value's header at
    `3*sizeof(var) + sizeof(struct Header) + size(ktype)` without rounding, so a 12-byte key type puts it at offset 60. -/
theorem C19_tree_value_header_aligned_refuted : treeValHeaderAligned Config.current 12 = false := by decide

/-- what is proved instead: for key types whose size is a multiple of 8 (all built-in types) the value's header is aligned -/
theorem C19_tree_value_header_aligned_partial (cfg : Config) (ksize : Nat) (h : ksize % 8 = 0) :
    treeValHeaderAligned cfg ksize = true := by
  simp only [treeValHeaderAligned, treeValHeaderOffset, slotCap, round8, beq_iff_eq]
  split <;> omega

/-- **candidate finding** (KF-C19-del-silent): the statement asks that an attempt to `del` a stack object *raises*; the
    code (and the model) silently ignore a pointer the collector does not know. Witness: `del($I(7))`. The object is
    intact (`C19_del_of_embedded_is_noop`, `C19_headers_never_change`). -/
theorem C19_del_of_stack_object_raises_refuted :
    freeElem Config.current .del { hdr := headerInit Config.current .int Config.current.bStack, cap := 8, val := .int 7 } =
      ({ hdr := headerInit Config.current .int Config.current.bStack, cap := 8, val := .int 7 }, .ok) :=
  C19_del_of_embedded_is_noop _ C19_current_source_sound _ _ (.inl rfl)

/-- The full statement "`copy` hands out an object of the source's type" for the view objects of src/Iter.c -/
def C19_copy_view_statement : Prop :=
  ∀ name ∈ ["Range", "Slice", "Zip", "Filter", "Map"], copyViewOutcome name = some .ok

/-- **refuted on this tree** (KF-C19-copy-view): none of the view types has a `Copy` instance, so `copy(v)` is
    `assign(alloc(type_of(v)), v)`; `Range_Assign`, `Slice_Assign` and `Zip_Assign` assign into `r->value`, `s->range`,
    `z->iters` / `z->values`, which are NULL in the zeroed object `alloc` returns: `type_of(NULL)` raises ValueError.
    `copy(range($I(5)))`, `copy(new(Slice, a, $I(1)))`, `copy(zip(a, a))` hand out no object at all.  The table is read
    from Iter.c on every run: a `Copy` instance, or an Assign that creates the sub-object first, makes this theorem fail. -/
theorem C19_copy_view_refuted :
    ¬ C19_copy_view_statement ∧
    copyViewOutcome "Range" = some (.raised "ValueError") ∧ copyViewOutcome "Slice" = some (.raised "ValueError") ∧
    copyViewOutcome "Zip" = some (.raised "ValueError") := by
  have hr : copyViewOutcome "Range" = some (.raised "ValueError") := rfl
  refine ⟨fun h => ?_, hr, rfl, rfl⟩
  have := h "Range" (.head _)
  rw [hr] at this; cases this

/-- what is proved instead: Filter and Map objects (no Assign instance: the struct is copied) are copied -/
theorem C19_copy_view_partial : ∀ name ∈ ["Filter", "Map"], copyViewOutcome name = some .ok := by decide

/-- two registered Boxes that own each other -/
def ringOps : List Op := [.make 0 .alloc (.box none), .make 1 .alloc (.box none), .own 0 (some 1), .own 1 (some 0)]

/-- **the order of the two statements in GC_Sweep's release loop is what the property rests on**: with
    `dealloc(destruct(item))` ahead of `gc->freelist[i] = NULL` (`swClear := .after`, everything else as in the source) the
    sweep of a ring of two Boxes finalises the first Box a second time from the destructor of the second — while its own
    destructor is still running — and then touches the released block (`ub`); with the order the source has, the same sweep
    releases each Box once, under both layouts of the registry, and so does the teardown.  (The translator reads the order
    from the source on every run: `C19_collector_unlists_before_finalising`, `C19_current_source_sound`.) -/
theorem C19_late_clear_refuted :
    ((run { Config.current with swClear := When.after } St.init ringOps).sweep
        { Config.current with swClear := When.after } [0, 1] []).2 = ([0, 1], .ub) ∧
    ((run Config.current St.init ringOps).sweep Config.current [0, 1] []).2 = ([1, 0], .ok) ∧
    ((run Config.current St.init ringOps).sweep Config.current [0, 1] [1]).2 = ([0, 1], .ok) ∧
    ((run Config.current St.init ringOps).teardown Config.current [1]).2 = ([0, 1], .ok) := by rw [Config.current_eq]; decide +kernel

/-- the same for GC_Rem_Ptr: if a pending object were struck off the list only after its finalisation, a ring of two
    Boxes reached from a third would be finalised for ever (the model runs out of fuel: `ub`) -/
theorem C19_late_strike_refuted :
    ((run { Config.current with remPendClear := When.after } St.init
        (ringOps ++ [.make 2 .alloc (.box none), .own 2 (some 0)])).sweep
        { Config.current with remPendClear := When.after } [0, 1, 2] [2]).2.2 = .ub := by rw [Config.current_eq]; decide +kernel

/-- a history with a heap Int, a stack String, an Array of three Ints and a Table; the registry and release log after a
    `del`, a refused `dealloc` and a collector run -/
example :
    let ops : List Op :=
      [.make 0 .new (.int 5), .make 1 .stack (.str "hello"), .make 2 .new (.seq .array .int [.int 1, .int 2, .int 3]),
       .make 3 .newRoot (.map .table .int .string [(.int 1, .str "x")]), .free .dealloc (.obj 1), .free .del (.obj 0),
       .inplace (.push 0) (.obj 2), .sweep [1, 2, 3] []]
    let s := run Config.current St.init ops
    s.freed = [0, 2] ∧ s.reg = [(3, true)] ∧ s.isLive 1 = true ∧
    (s.get 3).map (fun o => o.body.elemAt (.key 3 0)) = some (some { hdr := dataHdr Config.current .int, cap := 8, val := .int 1 }) := by
  rw [Config.current_eq]
  decide +kernel

/-- the hypotheses of `C19_inplace_refused_on_stack_static` are met by a real stack Tuple: `pop_at(tuple(a, b), 0)` -/
example :
    tupleOp Config.current (run Config.current St.init [.make 0 .new (.int 1), .make 1 .new (.int 2)]) Config.current.cStack [0, 1] (.popAt 0)
      = some (.tuple [0, 1], .raised "ValueError") := by rw [Config.current_eq]; decide +kernel

/-- nested release in a concrete history: a chain root Box → Box → Int deleted from its head with `del_root` (three
    blocks, owner last), a Box that owns itself, a Box that owns a stack Int (which survives), a raw Box released by
    `del_raw` together with the registered String it owns; then a threshold collection of what is left -/
example :
    let ops : List Op :=
      [.make 0 .new (.int 5), .make 1 .alloc (.box none), .own 1 (some 0), .make 2 .allocRoot (.box none), .own 2 (some 1),
       .free .delRoot (.obj 2),
       .make 3 .alloc (.box none), .own 3 (some 3), .free .del (.obj 3),
       .make 4 .stack (.int 7), .make 5 .new (.box (some 4)), .free .del (.obj 5),
       .make 6 .new (.str "s"), .make 7 .allocRaw (.box none), .own 7 (some 6), .free .delRaw (.obj 7),
       .make 8 .alloc (.box none), .make 9 .alloc (.box none), .own 8 (some 9), .own 9 (some 8), .thr [8, 9] [9]]
    let s := run Config.current St.init ops
    s.freed = [0, 1, 2, 3, 5, 6, 7, 8, 9] ∧ s.reg = [] ∧ s.pending = [] ∧ s.isLive 4 = true := by
  rw [Config.current_eq]
  decide +kernel

/-! ## the slot level of Array, and the block arithmetic of births and releases

  The theorems above keep an Array as the list of its elements, each built *with* its header.  Here the storage is what
  src/Array.c works on — `nslots` slots, the first `nitems` of them elements, a slot holding whatever was last written to
  it — and the size-changing functions are the statement lists the translator reads from the source
  (`CelloGen.Hdr.arrayProgs`, run by `Cello.HdrSlots.runOp`). -/

open Cello.HdrSlots in
/-- **the size-changing functions of src/Array.c, as they are in /repo now**: Array_Push, Array_Push_At, Array_Pop,
    Array_Pop_At, Array_Concat, Array_Resize and the fill loops of Array_New / Array_Assign are these statements in this
    order; `Array_Alloc` zeroes the slot and writes the header at its start; the capacity policy is "grow to
    nitems + nitems/2 when nitems > nslots, shrink to nitems when nslots > nitems + nitems/2".  A moved, dropped or added
    statement (an `Array_Alloc` that is skipped for some index, a bounds test after `nitems++`, a `memmove` after the
    `Array_Alloc`) changes the generated list and breaks this theorem. -/
theorem C19_array_programs_current : ArraySrc :=
  ⟨rfl, rfl, rfl, rfl⟩

open Cello.HdrSlots in
/-- **every element of an Array carries the element type, the class `data` and the magic number — at the slot level, for
    every history**: starting from an empty Array, after any sequence of push, push_at (any index, negative ones and
    index == len included), pop, pop_at, concat (any number of items), resize (to 0, shrinking, same size, growing into slots
    that were never used) and assign-from-n-items, run as the statements of src/Array.c, every slot below `nitems` holds
    exactly the header `header_init(head, a->type, AllocData)` writes, `type_of` recovers the element type from it, and
    `nitems ≤ nslots` (no element lies outside the storage).  Stale headers of popped elements and never-written slots
    exist in the model (`Slot.junk`); none of them is ever an element. -/
theorem C19_array_slots_carry_headers (cfg : Config) (hs : cfg.Sound = true) (ety : Ty) (ops : List AOp) :
    let a := runOps (arrayHeader cfg ety) cfg.magic Arr.empty ops
    a.nitems ≤ a.nslots ∧
    (∀ j, j < a.nitems → a.slot j = .hdr (arrayHeader cfg ety)) ∧
    typeOf cfg (arrayHeader cfg ety) = some ety ∧ (arrayHeader cfg ety).alloc = cfg.cData ∧
    a.badCount cfg.magic = 0 := by
  have F := facts_of_sound hs
  have hg : (arrayHeader cfg ety).magic = cfg.magic := by simp [arrayHeader, headerInit_eq F]
  have hgood := runOps_good C19_array_programs_current hg ops Arr.empty (good_empty _)
  refine ⟨hgood.1, hgood.2, ?_, ?_, good_badCount hg hgood⟩
  · simp [arrayHeader, headerInit_eq F, typeOf]
  · simp [arrayHeader, headerInit_eq F, F.bArray]

open Cello.HdrSlots in
/-- **no operation of such a history meets a slot without a header or leaves the storage; a refused one changes nothing**:
    each call ends normally, or raises (with the programs of the source: IndexOutOfBoundsError) with the storage exactly as it
    was. -/
theorem C19_array_ops_end_well (cfg : Config) (hs : cfg.Sound = true) (ety : Ty) (ops : List AOp) (op : AOp) :
    let a := runOps (arrayHeader cfg ety) cfg.magic Arr.empty ops
    let r := runOp (arrayHeader cfg ety) cfg.magic a op
    r.2 = .ok ∨ ∃ e, r.2 = .raised e ∧ r.1 = a := by
  have F := facts_of_sound hs
  have hg : (arrayHeader cfg ety).magic = cfg.magic := by simp [arrayHeader, headerInit_eq F]
  have hgood := runOps_good C19_array_programs_current hg ops Arr.empty (good_empty _)
  exact (runOp_good C19_array_programs_current hg hgood op).2

open Cello.HdrSlots CelloGen.Hdr in
/-- non-vacuity, and the history-dependence that the seeded changes c19_i / c19_l / c19_m rest on: with the programs of the current source a
    push_at at index == len lands on a fresh slot and is fine; with `Array_Alloc(self, i)` taken out of Array_Push_At the very
    same call meets a slot without a header when the slot was never used — and goes unnoticed when the slot still holds
    the stale header of a popped element. -/
example :
    let g := arrayHeader Config.current .int
    let mg := Config.current.magic
    let noAlloc : List AEv := [.idx, .norm true, .chk .ins "IndexOutOfBoundsError", .inc, .more, .up, .assign .i]
    let pushAtWith (p : List AEv) (a : Arr) (key : Int) := finish (runEvs g mg p (M.start a key 0 0))
    -- the current source: empty Array, push_at(.., 0); three elements, push_at(.., 3) and push_at(.., -1)
    (runOp g mg Arr.empty (.pushAt 0)).2 = .ok ∧
    (runOp g mg (runOps g mg Arr.empty [.push, .push, .push]) (.pushAt 3)).2 = .ok ∧
    (runOp g mg (runOps g mg Arr.empty [.push, .push, .push]) (.pushAt (-1))).2 = .ok ∧
    (runOp g mg (runOps g mg Arr.empty [.push, .push, .push]) (.pushAt 4)).2 = .raised "IndexOutOfBoundsError" ∧
    -- without the Array_Alloc: a never-used slot …
    (pushAtWith noAlloc Arr.empty 0).2 = .badHeader ∧
    (pushAtWith noAlloc (runOps g mg Arr.empty [.push, .push, .push]) 3).2 = .badHeader ∧
    -- … an interior index, and a slot that keeps the header of a popped element
    (pushAtWith noAlloc (runOps g mg Arr.empty [.push, .push, .push]) 1).2 = .ok ∧
    (pushAtWith noAlloc (runOps g mg Arr.empty [.push, .push, .push, .pop]) 2).2 = .ok := by
  rw [Config.current_eq]
  refine ⟨by decide, by decide, by decide, by decide, by decide, by decide, by decide, by decide⟩

open Cello.HdrSlots CelloGen.Hdr in
/-- **the stack births**: `alloc_stack(T)` hands `header_init` a zeroed compound literal of `sizeof(struct Header) +
    sizeof(struct T)` bytes; `header_init` returns the address just past the header; `$(T, ..)` copies `sizeof(struct T)`
    bytes there — for every struct size the copy starts exactly where the header ends (the three header words are not
    overwritten) and ends exactly where the literal ends; `$I $F $S $R $B` and `tuple(..)` are `$` at Int, Float, String, Ref,
    Box and Tuple; `header(self)` undoes what `header_init` added.  All read from the macro texts. -/
theorem C19_stack_birth_block (structT : Nat) :
    (dollarWrites structT).1 = 8 * headerFields.length ∧
    (dollarWrites structT).2 = szSum structT 0 allocStackBuf ∧
    szSum structT 0 headerBack = szSum structT 0 headerInitReturns ∧
    dollarShortForms = [("I", "Int"), ("F", "Float"), ("S", "String"), ("R", "Ref"), ("B", "Box"), ("tuple", "Tuple")] := by
  refine ⟨rfl, ?_, rfl, rfl⟩
  show 0 + 24 + (0 + structT) = 0 + 24 + structT
  rw [Nat.zero_add structT]

open Cello.HdrSlots CelloGen.Hdr in
/-- **the poison pattern of `dealloc`**: for an object `alloc_by` made for a type of `sz` bytes, the fill loop writes
    `(sizeof(struct Header) + sz) / sizeof(var)` words from `header(self)` = the start of the `calloc`ed block: never beyond
    the block, the whole block when `sz` is a multiple of the word size, and always every header word — so `type_of` on the
    released object meets `deadMagic` (`Type_Of`'s first magic test) whatever the type's size, 0 included; `free` gets the
    start of the block. -/
theorem C19_dealloc_fill_stays_in_block (sz : Nat) :
    deallocFillWords sz * 8 ≤ szSum 0 sz allocByBlock ∧
    (sz % 8 = 0 → deallocFillWords sz * 8 = szSum 0 sz allocByBlock) ∧
    (∀ f w, headerWord f = some w → w < deallocFillWords sz) ∧
    headerWord "magic" = some 2 ∧
    deallocFreeOffset = 0 := by
  have hb : szSum 0 sz allocByBlock = 24 + sz := rfl
  have hf : deallocFillWords sz = (24 + sz) / 8 := rfl
  have h8 : (24 + sz) / 8 * 8 ≤ 24 + sz ∧ (sz % 8 = 0 → (24 + sz) / 8 * 8 = 24 + sz) ∧ 3 ≤ (24 + sz) / 8 := by omega
  rw [hb, hf]
  exact ⟨h8.1, h8.2.1, fun f w hw => Nat.lt_of_lt_of_le (List.findIdx?_eq_some_iff_getElem.mp hw).1 h8.2.2, rfl, rfl⟩

end Cello.Hdr
