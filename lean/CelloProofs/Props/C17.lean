/-
  C17 — the collector's registry is exactly the set of live managed objects.

  The property theorems (the facts about the source, `idealSize_gt` … `gcPrimes_count`, among them), and eight lemmas that
  serve them alone: `gcCfg_good`, `gcCfg_nullOk`, `gcCfgOldRem_good` (the source-derived parameters meet the hypotheses of the
  lemma files), `exact_of_wf` (`WF` gives `Exact`), `new_reachK`, `new64_reach`, `new64_exists` (the one-object state the
  witnesses start from), `allocTells_own`.  Everything else is in CelloProofs/Lemmas/RH*.lean and Registry*.lean (DESIGN.md
  §6 C17, *Proof layers*).
  Model: Cello/Registry.lean (mirrors src/GC.c as it is now).  Source-derived parameters: CelloGen/Reg.lean, bundled as
  `gcCfg` (prime table, load factor, `size+1`, hash shift, tie rule of GC_Set_Ptr, threshold formula, and three flags read from
  the statement shapes: the NULL test at the head of GC_Rem_Ptr — fix d3e4e44 —, GC_Unmark in the prologue of GC_Mark and in
  GC_Del — fix d8f0c4f); `gcProbe` is GC_Probe translated expression by expression.  Every theorem below that mentions
  `gcCfg` or `CelloGen.Reg` is re-checked against the regenerated file on every run: with either fix reverted in the source
  the flag turns false, the model follows the old code, and `gcRemPtr_tests_null` / `gcMark_unmarks_first` and every
  theorem that uses them stop checking.

  Assumptions, stated where used: a new object's address is non-NULL, 8-aligned and differs from the live managed ones
  (`okOp`, what malloc gives; `del` / `del_root` carry no condition: `del(NULL)` is admissible everywhere, also from a
  destructor during a sweep; `del_raw` is admitted for unregistered objects only); sizes as natural numbers (no 2^64 wrap-around).
  The destructor language: `K p` = the objects the destructor of `p` deletes (any pointers, in order), `R p` = it then leaves by
  an exception (`execR` …; `C17_model_without_raise`: with `R = noR` these are the functions of the theorems about `K`).  `K`
  has no ALLOCATION: a destructor that allocates managed objects during a sweep re-enters GC_Set, whose nested
  `GC_Mark; GC_Sweep` replaces `freelist` / `freenum` under the running release loop — the table stays consistent but
  `Exact.pending = #[]` and "every swept object is finalised" (`C17_sweep_destructors`: the trace lists all of `order`) fail
  there; that case is modelled and refuted in C06 (`Cello/Lifecycle.lean` `gcSet` / `sweepWith`,
  `C06_dtor_alloc_collect_refuted`, known finding KF-C06-dtor-alloc), not here.
  `C17_registry_exact` is the history theorem for plain destructors (`noK`), `C17_registry_exact_destructors` its counterpart
  for destructors that delete other objects (`K`).
  Where the code as it is departs from the property text, the departure is exhibited by a `…_refuted` theorem on a concrete
  witness, with a `…_partial` theorem where something weaker holds (stopped window, raising destructor; for `dealloc` what holds is
  `C17_registry_exact` itself, whose `Reach` has no such operation), instead of being folded into the ledger: `new` / `del` while
  the collector is stopped (F23, KF-C17-stopped), `dealloc` / `del_raw` of a registered object (KF-C17-dealloc-stale), a
  destructor that raises inside the release loop of GC_Sweep (KF-C17-dtor-raise).  The `…_old_refuted` theorems are about
  explicit OLD variants of the model: `gcCfgOldRem` (GC_Rem_Ptr before fix d3e4e44), `gcCfgOldMark` (GC_Mark / GC_Del before
  fix d8f0c4f).
-/
import Cello.Registry
import CelloGen.Reg
import CelloProofs.Lemmas.RegistryIdeal
import CelloProofs.Lemmas.RegistryIns
import CelloProofs.Lemmas.RegistryOps
import CelloProofs.Lemmas.RegistryHistory
import CelloProofs.Lemmas.RegistryKillsAbs
import CelloProofs.Lemmas.RegistryKills
import CelloProofs.Lemmas.RegistryKillsHist
import CelloProofs.Lemmas.RegistryInvB
import CelloProofs.Lemmas.RegistryOrder
import CelloProofs.Lemmas.RegistrySpec
import CelloProofs.Lemmas.RegistryRaise
import CelloProofs.Lemmas.RegistryApi
import CelloProofs.Lemmas.RegistryRun

namespace Cello.Registry
open RH

/-! ### facts about the source as it is now (link A) -/

/-- **GC_Ideal_Size(n) > n** over the prime table and load factor of the source as it is now: the registry always keeps an
    empty slot.  A load factor above 1 or a table ending in 0 in src/GC.c makes this theorem fail to check. -/
theorem idealSize_gt (n : Nat) : ∃ v, idealSize gcCfg n = some v ∧ n < v :=
  idealSize_gt_of gcCfg n (by decide) (by decide) (by decide) (by decide)

/-- the parameters of the source satisfy what the history theorem needs -/
theorem gcCfg_good : GoodCfg gcCfg := ⟨by decide, by decide, by decide, by decide⟩

/-- **GC_Rem_Ptr returns at once for NULL** (`if (gc->nslots is 0 or ptr is NULL) { return; }`, fix d3e4e44): read from the
    source on every run.  The destructor theorems below need no condition on what destructors delete because of this. -/
theorem gcRemPtr_tests_null : gcCfg.remNullGuard = true := by decide

/-- **GC_Mark and GC_Del call GC_Unmark first** (fix d8f0c4f): read from the source on every run -/
theorem gcMark_unmarks_first : gcCfg.markUnmarks = true ∧ gcCfg.delUnmarks = true := ⟨by decide, by decide⟩

theorem gcCfg_nullOk (K : Nat → List Nat) : NullOk gcCfg K := Or.inl gcRemPtr_tests_null

/-- **GC_Probe is the cyclic distance.**  The C expression (`v = i - (h-1); if (v < 0) v = nslots + v`) on a stored hash
    `h = home + 1` equals the model's `dist`. -/
theorem gcProbe_eq_dist (n i h : Nat) (_hi : i < n) (h1 : 1 ≤ h) (hh : h - 1 < n) :
    CelloGen.Reg.gcProbe n i h = (dist n i (h - 1) : Nat) := by
  obtain ⟨k, rfl⟩ : ∃ k, h = k + 1 := ⟨h - 1, by omega⟩
  rw [Nat.add_sub_cancel] at hh ⊢
  have hv : (i : Int) - (((k + 1 : Nat) : Int) - 1) = (i : Int) - k := by omega
  unfold CelloGen.Reg.gcProbe dist
  simp only [hv]
  by_cases hle : k ≤ i
  · rw [if_pos hle, if_neg (by omega)]; omega
  · rw [if_neg hle, if_pos (by omega)]; omega

/-- **GC_Hash** of the source is `address / 8` -/
theorem gcHash_eq (p : Nat) : hashOf gcCfg p = p / 8 := by
  show p >>> 3 = p / 8
  rw [Nat.shiftRight_eq_div_pow]

/-- the entry layout the model is written against -/
theorem gcEntry_fields : CelloGen.Reg.gcEntryFields = ["var ptr", "uint64_t hash", "bool root", "bool marked"] := rfl

/-- the prime table has the declared number of entries -/
theorem gcPrimes_count : CelloGen.Reg.gcPrimes.length = CelloGen.Reg.gcPrimesCount := by decide

/-! ### the robin-hood operations (for every hash function, every address pattern, every table size) -/

/-- **Lookup is membership.**  Under the local invariant (stored home = hash mod n, distinct keys, every displaced entry
    supported by its predecessor, one empty slot) the probing loop of GC_Mem_Ptr, with its early exit, answers `true`
    exactly for the stored keys, and always answers within `n` iterations. -/
theorem C17_lookup_correct {n : Nat} (hash : Nat → Nat) (s : Slots Nat Payload n) (inv : Inv hash s) (hn : 0 < n) (k : Nat) :
    (lookup hash s k hn = some true ↔ Present s k) ∧ (lookup hash s k hn = some false ↔ ¬ Present s k) :=
  lookup_correct hash s inv hn k

/-- **Insertion (GC_Set_Ptr) preserves the invariant and adds exactly the new entry**, for either tie rule, whenever the
    pointer is not stored yet and an empty slot remains afterwards (which GC_Resize_More guarantees: `idealSize_gt`). -/
theorem C17_insert_inv {n : Nat} (c : Cfg) (s : Slots Nat Payload n) (inv : Inv0 (hashOf c) s) (p : Nat) (root : Bool)
    (hfresh : ∀ q (hq : q < n) e, s[q] = some e → e.key ≠ p) (hroom : occ s + 1 < n) :
    ∃ s', setPtr c s p root = some s' ∧ Inv0 (hashOf c) s' ∧
      (∀ e, Mem s' e ↔ Mem s e ∨ e = ⟨p, hashOf c p % n, ⟨root, false⟩⟩) ∧ occ s' = occ s + 1 :=
  setPtr_spec c s inv p root hfresh (Nat.lt_of_succ_lt hroom)

/-- **Erase (backward shift) preserves the invariant**: zeroing an occupied slot and moving the following displaced entries
    back terminates and leaves a table that satisfies the invariant and still has its empty slot. -/
theorem C17_erase_inv {n : Nat} (hash : Nat → Nat) (s : Slots Nat Payload n) (inv : Inv0 hash s) (i : Nat) (hi : i < n) (x : Ent)
    (hx : s[i] = some x) (z : Nat) (hz : z < n) (hze : s[z] = none) :
    ∃ s', eraseAt s i hi = some s' ∧ Inv0 hash s' ∧ s'[z] = none := by
  obtain ⟨s', h1, h2, h3, _⟩ := eraseAt_spec hash s inv i hi x hx z hz hze
  exact ⟨s', h1, h2, h3⟩

/-- **Erase removes exactly the erased entry**: every other entry is still stored (payload included), the erased one is
    not, and one slot fewer is occupied. -/
theorem C17_erase_abs {n : Nat} (hash : Nat → Nat) (s : Slots Nat Payload n) (inv : Inv0 hash s) (i : Nat) (hi : i < n) (x : Ent)
    (hx : s[i] = some x) (z : Nat) (hz : z < n) (hze : s[z] = none) :
    ∃ s', eraseAt s i hi = some s' ∧ (∀ e, Mem s' e ↔ Mem s e ∧ e ≠ x) ∧ occ s' + 1 = occ s := by
  obtain ⟨s', h1, _, _, h4, h5, _⟩ := eraseAt_spec hash s inv i hi x hx z hz hze
  exact ⟨s', h1, h4, h5⟩

/-- **GC_Rehash**: re-inserting into a larger or smaller empty table keeps exactly the entries (home slot recomputed,
    mark dropped) and establishes the invariant, provided the new size exceeds the number of entries. -/
theorem C17_rehash (c : Cfg) (r : Reg) (inv : Inv0 (hashOf c) r.slots) (newSize : Nat) (hroom : occ r.slots < newSize) :
    ∃ t : Slots Nat Payload newSize, rehash c r newSize = some { r with n := newSize, slots := t } ∧ Inv0 (hashOf c) t ∧
      (∀ e', Mem t e' ↔ ∃ e, Mem r.slots e ∧ e' = rehome c newSize e) ∧ occ t = occ r.slots :=
  rehash_spec c r inv newSize (Nat.le_of_lt hroom)

/-- **Sweep compaction** (the `while (i < nslots)` loop of GC_Sweep, including the wrap-around case in which the shift moves
    slot 0 into slot n−1): it terminates; afterwards the table satisfies the invariant and stores exactly the entries that
    are marked or roots; every other entry is on the pending list exactly once; the item count dropped by their number.
    `ni` is the `nitems` counter the loop decrements: the hypothesis `occ s ≤ ni` (it counts at least the occupied slots; every
    registry-level theorem has `nitems = occ`) is what makes the model's truncated `ni - 1` the subtraction the C code performs
    on `size_t` — without it the C counter would wrap to 2^64 − 1 where the model says 0. -/
theorem C17_sweep_spec {n : Nat} (hash : Nat → Nat) (s : Slots Nat Payload n) (ni : Nat) (inv : Inv0 hash s)
    (hroom : occ s < n ∨ n = 0) (hni : occ s ≤ ni) :
    ∃ (s' : Slots Nat Payload n) (removed : List Ent),
      sweepLoop (2 * n + 1) s 0 #[] ni = some (s', (removed.map (fun x => some x.key)).toArray, ni - removed.length) ∧
      removed.length ≤ ni ∧
      Inv0 hash s' ∧ (∀ e, Mem s e ↔ Mem s' e ∨ e ∈ removed) ∧ (∀ e, Mem s' e → Keep e) ∧ (∀ e, e ∈ removed → ¬ Keep e) ∧
      (∀ e, e ∈ removed → ¬ Mem s' e) ∧ removed.Nodup ∧ occ s' + removed.length = occ s := by
  obtain ⟨s', removed, h1, h2, hkept, hrem, h6, h7⟩ := sweepLoop_total hash s ni inv hroom
  refine ⟨s', removed, h1, by omega, h2, fun e => ?_, fun e he => ((hkept e).1 he).2, fun e he => ((hrem e).1 he).2,
    fun e he hm => ((hrem e).1 he).2 ((hkept e).1 hm).2, h6, h7⟩
  -- kept or not: the stored entries and the listed ones partition the old table
  rw [hkept e, hrem e]
  exact ⟨fun he => (Classical.em (Keep e)).imp (⟨he, ·⟩) (⟨he, ·⟩), fun he => he.elim (·.1) (·.1)⟩

/-- **GC_Sweep as a whole** against a ledger: from a state whose entries are the ledger's (with mark bits `mk`), the
    sweep, the mark clearing, GC_Resize_Less and the finalisation leave exactly the roots and the marked objects,
    unmarked, with consistent count, an empty slot, unchanged bounds and an empty pending list. -/
theorem C17_sweep_registry (r : Reg) (L : Ledger) (mk : Nat → Bool → Bool) (h : Core gcCfg r L mk)
    (hc : r.nitems = occ r.slots) (hroom : Room r) :
    ∃ r' t, gcSweep gcCfg noK r = some (r', t) ∧ Core gcCfg r' (collectBy L mk) noMark ∧ r'.nitems = occ r'.slots ∧ Room r' ∧
      r'.minptr = r.minptr ∧ r'.maxptr = r.maxptr ∧ r'.pending = #[] := by
  obtain ⟨r', t, h1, h2, h3, h4, h5, h6, _, h8, _⟩ := gcSweep_core gcCfg gcCfg_good r L mk h hc hroom
  exact ⟨r', t, h1, h2, h3, h4, h5, h6, h8⟩

/-- what "the registry is exactly the set of live managed objects" means for a state `r` and a ledger `L` -/
structure Exact (c : Cfg) (r : Reg) (L : Ledger) : Prop where
  /-- `mem(gc, p)` holds precisely for the ledger's addresses (and the lookup loop always answers) -/
  mem : ∀ p, memPtr c r p = some (decide (p ∈ L.map Prod.fst))
  /-- the stored entries are the ledger's items: right root flag, right home slot, unmarked -/
  entries : ∀ e, Mem r.slots e ↔ ((e.key, e.val.root) ∈ L ∧ e.val.marked = false ∧ e.home = hashOf c e.key % r.n)
  /-- each is recorded once -/
  once : ∀ i j (hi : i < r.n) (hj : j < r.n) e e', r.slots[i] = some e → r.slots[j] = some e' → e.key = e'.key → i = j
  /-- the recorded count matches -/
  count : r.nitems = L.length ∧ r.nitems = occ r.slots
  /-- every live address lies within `[minptr, maxptr]` -/
  bounds : ∀ p b, (p, b) ∈ L → r.minptr ≤ p ∧ p ≤ r.maxptr
  /-- the local robin-hood invariant, and an empty slot -/
  inv : Inv0 (hashOf c) r.slots
  empty : r.n = 0 ∨ ∃ z, ∃ hz : z < r.n, r.slots[z] = none
  /-- no object is waiting to be finalised outside a collection -/
  pending : r.pending = #[]

theorem exact_of_wf (c : Cfg) (r : Reg) (L : Ledger) (hwf : WF c r L) : Exact c r L := by
  refine ⟨hwf.marked.mem, hwf.core.ents, hwf.core.inv.distinct, ⟨hwf.marked.count_eq, hwf.count⟩,
    hwf.bounded.bounds, hwf.core.inv, ?_, hwf.pend⟩
  rcases Nat.eq_zero_or_pos r.n with h0 | hn
  · exact Or.inl h0
  · exact Or.inr (empty_of_room r hwf.count hn hwf.room)

/-- **C17.**  For every history of allocations (managed, root, raw), deletions (`del`, `del_root`, `del_raw`), collections with
    an arbitrary mark set (explicit, or triggered by an allocation that reaches the threshold), `stop` and `start`, in which a
    new object's address is non-NULL, 8-aligned and differs from the live managed ones, at every step: `mem` holds exactly for
    the objects allocated through the running collector and neither deleted (while it runs) nor reclaimed, each is recorded once
    with its allocation-time root flag, `nitems` is their number, their addresses lie within `[minptr, maxptr]`, all marks are
    clear and the table satisfies the robin-hood invariant with an empty slot.  `Reach` quantifies over all histories and all
    their prefixes.  The ledger `ledgerStep` follows the code in the stopped window (allocation not recorded, deletion ignored:
    F23); against the ledger of the property text this is `C17_registry_exact_ideal_partial` + `C17_stopped_window_refuted`.
    Objects released with `dealloc` / `dealloc_root` are outside `Op`: `C17_dealloc_refuted`. -/
theorem C17_registry_exact (r : Reg) (L : Ledger) (h : Reach gcCfg r L) : Exact gcCfg r L :=
  exact_of_wf gcCfg r L (reach_wf gcCfg gcCfg_good r L h)

/-- **The model never gets stuck** on such a history: no division by zero (`nslots = 0`), no probing loop that fails to
    terminate, GC_Ideal_Size always answers. -/
theorem C17_progress (r : Reg) (L : Ledger) (h : Reach gcCfg r L) (op : Op) (hok : okOp L op) :
    ∃ r', step gcCfg r op = some r' ∧ Reach gcCfg r' (ledgerStep r L op) := by
  obtain ⟨r', h1, _⟩ := step_wf gcCfg gcCfg_good r L (reach_wf gcCfg gcCfg_good r L h) op hok
  exact ⟨r', h1, Reach.step h hok h1⟩

/-- the ledger only ever holds pairwise distinct addresses (so the filter of `ledgerStep` on `del` drops one object) -/
theorem C17_ledger_distinct (r : Reg) (L : Ledger) (h : Reach gcCfg r L) : (L.map Prod.fst).Nodup :=
  (reach_wf gcCfg gcCfg_good r L h).nodup

/-- **The executable invariant is sound**: whenever the Boolean check `invB`, which the driver evaluates on every state it
    compares with the C dump, answers `true`, the propositional invariant of the theorems above holds (stored homes, distinct
    keys — through "the probe finds this very slot" —, predecessor support, consistent count, an empty slot, bounds). -/
theorem C17_invB_sound (r : Reg) (h : invB gcCfg r = true) :
    Inv0 (hashOf gcCfg) r.slots ∧ r.nitems = occ r.slots ∧ Room r ∧
      (∀ i (hi : i < r.n) e, r.slots[i] = some e → r.minptr ≤ e.key ∧ e.key ≤ r.maxptr) :=
  invB_sound gcCfg r h

/-- **GC_Rem with arbitrary destructors, in any state — including mid-sweep, with objects waiting on the pending list.**
    `K p` lists what the destructor of `p` deletes.  From a well-formed state (`WFP`: as `Exact`, pending list arbitrary) the
    nested recursion GC_Rem → GC_Rem_Ptr → destructor → GC_Rem … of the model terminates within the fuel the model provides
    and refines the same recursion on (ledger, pending addresses) `absExec`: an address waiting on the pending list is struck
    off and finalised (the repaired defect F24), a registered one is erased and finalised, anything else is ignored; the
    deallocation trace is the abstract one; the resulting state is well formed for the resulting ledger; nothing is added.
    No hypothesis on NULL: `K` may list NULL and `x` may be NULL, mid-sweep included — GC_Rem_Ptr returns at once for NULL
    (`gcRemPtr_tests_null`; before fix d3e4e44 it compared the raw words of the pending list with the pointer, and a
    struck-off slot holds NULL: `C17_null_del_in_sweep_old_refuted`). -/
theorem C17_rem_nested (K : Nat → List Nat) (r : Reg) (L : Ledger) (h : WFP gcCfg r L) (x : Nat) :
    ∃ r' a' t, gcRem gcCfg K r x = some (r', t) ∧
      absExec K r.running (nestFuel r) (L, pendList r) (.rem x) = some (a', t) ∧
      WFP gcCfg r' a'.1 ∧ pendList r' = a'.2 ∧ r'.running = r.running ∧ Abs.size a' ≤ Abs.size (L, pendList r) := by
  obtain ⟨r', a', t, h1, h2, h3, h4, h5, _, h7⟩ := gcRem_sim gcCfg gcCfg_good K (gcCfg_nullOk K) r L h x (Or.inl gcRemPtr_tests_null)
  exact ⟨r', a', t, h1, h2, h3, h4, h5, h7⟩

/-- the simulation itself, for every fuel and both commands (finalise `p`, remove `x`): the model fails exactly when the
    abstract recursion runs out of fuel, and otherwise agrees with it -/
theorem C17_nested_simulation (K : Nat → List Nat) (fuel : Nat) (r : Reg) (a : Abs) (cmd : Cmd)
    (h : WFP gcCfg r a.1) (hp : pendList r = a.2) :
    Sim gcCfg r.running r.pending.size (exec gcCfg K fuel r cmd) (absExec K r.running fuel a cmd) :=
  exec_sim gcCfg gcCfg_good K (gcCfg_nullOk K) fuel r a cmd h hp (by cases cmd; exact trivial; exact Or.inl gcRemPtr_tests_null)

/-- every reachable state is such a well-formed state (with an empty pending list) -/
theorem C17_reach_wfp (r : Reg) (L : Ledger) (h : Reach gcCfg r L) : WFP gcCfg r L ∧ pendList r = [] := by
  have hwf := reach_wf gcCfg gcCfg_good r L h
  exact ⟨hwf.toWFP, pendList_nil hwf.pend⟩

/-- **GC_Sweep with destructors that delete other objects** (`K`): from a state whose entries are the ledger's with mark
    bits `mk`, the sweep always answers; the unmarked non-root objects are listed once each in some order `order`; the
    finalisation loop — which skips the slots a destructor has struck off and finalises a struck-off object at once —
    refines `absFinLoop` on (kept ledger, `order`) with the same deallocation trace; the final state is well formed for the
    resulting ledger, with an empty pending list. -/
theorem C17_sweep_destructors (K : Nat → List Nat) (r : Reg) (L : Ledger) (mk : Nat → Bool → Bool)
    (h : Core gcCfg r L mk) (hc : r.nitems = occ r.slots) (hroom : Room r) (hb : Bounded r L) (hnd : (L.map Prod.fst).Nodup) :
    ∃ (order : List Nat) (r' : Reg) (a' : AbsO) (t : List Nat),
      gcSweep gcCfg K r = some (r', t) ∧
      absFinLoop K r.running order.length 0 (collectBy L mk, order.map some) [] = some (a', t) ∧
      WF gcCfg r' a'.1 ∧ r'.running = r.running ∧ order.Nodup ∧
      (∀ p, p ∈ order ↔ ∃ b, (p, b) ∈ L ∧ (p, b) ∉ collectBy L mk) :=
  gcSweep_simO gcCfg gcCfg_good K (gcCfg_nullOk K) r L mk ⟨h, hc, hroom, hb, hnd⟩

/-- **C17 with destructors that delete other objects.**  `ReachK K` are the model states reached by a history of the same
    operations when the destructor of `p` deletes the objects `K p` (any pointers, NULL included), each paired with *any* ledger obtained
    by the abstract transitions `LedgerK` (deletion = `absExecO` on the ledger; collection = reclaim the unmarked non-roots in
    some order and run `absFinLoop`).  `ReachK` has no well-formedness premise: the theorem is an induction over the history
    (`reachK_wf`), whose step is `ledgerK_wf` — the model's next state is well formed for every ledger `LedgerK` allows.  In
    every such state the registry is exact for that ledger. -/
theorem C17_registry_exact_destructors (K : Nat → List Nat) (r : Reg) (L : Ledger) (h : ReachK gcCfg K r L) :
    Exact gcCfg r L :=
  exact_of_wf gcCfg r L (reachK_wf gcCfg gcCfg_good K (gcCfg_nullOk K) r L h)

/-- **The choice of ledger is immaterial**: the abstract transition of a collection is a relation only because the order in
    which the sweep lists the reclaimed objects is left open; any two ledgers that explain the same operation from the same
    ledger have the same members (the nested finalisation is a depth-first traversal of the "destructor of p deletes q" graph:
    whatever the order, exactly the objects reachable from a reclaimed one through live objects leave the ledger). -/
theorem C17_ledger_choice_irrelevant (K : Nat → List Nat) (r : Reg) (L : Ledger) (hnd : (L.map Prod.fst).Nodup) (op : Op)
    (hok : okOp L op) (L1 L2 : Ledger) (h1 : LedgerK K r L op L1) (h2 : LedgerK K r L op L2) : ∀ x, x ∈ L1 ↔ x ∈ L2 :=
  fun _ => by rw [ledgerK_det K r L op L1 L2 hnd hok h1 h2]

/-- the progress statement for every destructor behaviour, as a property of the source-derived parameters -/
def C17_progress_all_destructors_statement (c : Cfg) : Prop :=
  ∀ (K : Nat → List Nat) (r : Reg) (L : Ledger), ReachK c K r L → ∀ op, okOp L op →
    ∃ r' L', stepK c K r op = some r' ∧ LedgerK K r L op L' ∧ ReachK c K r' L'

/-- … and every history can be continued, **whatever the destructors delete** (NULL included: fix d3e4e44): for every
    admissible operation the model answers (nested destructors terminate within the model's fuel, no division by zero, no
    endless probe, no `destruct(NULL)`), some abstract ledger transition explains the step, and the new state is again
    reachable (hence exact) for the new ledger. -/
theorem C17_progress_destructors (K : Nat → List Nat) (r : Reg) (L : Ledger) (h : ReachK gcCfg K r L) (op : Op)
    (hok : okOp L op) :
    ∃ r' L', stepK gcCfg K r op = some r' ∧ LedgerK K r L op L' ∧ ReachK gcCfg K r' L' :=
  reachK_progress gcCfg gcCfg_good K (gcCfg_nullOk K) r L h op hok

/-- the statement holds of the source as it is (fix d3e4e44); of the OLD variant it is false:
    `C17_progress_all_destructors_old_refuted` -/
theorem C17_progress_all_destructors : C17_progress_all_destructors_statement gcCfg :=
  fun K r L h op hok => C17_progress_destructors K r L h op hok

/-! ### repaired region: a destructor that calls `del(NULL)` (was KF-C17-null-del-sweep, fix d3e4e44) -/

/-- the destructor of the object at address 64 calls `del(NULL)` -/
def nullK : Nat → List Nat := fun p => if p = 64 then [0] else []

/-- the state after a first allocation, whatever the destructors: the allocation reaches the threshold, the collection it
    triggers marks the object, it survives -/
theorem new_reachK (c : Cfg) (K : Nat → List Nat) (p : Nat) (hal : p % 8 = 0) (hnz : p ≠ 0) (r : Reg)
    (hr : stepK c K Reg.init (.new p false [p]) = some r) : ReachK c K r [(p, false)] := by
  have hc : collectL [(p, false)] [p] = [(p, false)] := by simp [collectL]
  refine ReachK.step ReachK.init (show okOp [] (.new p false [p]) from ⟨by simp, hal, hnz⟩) hr ?_
  refine LedgerK.new_collect p false [p] _ rfl (by decide) ⟨[], (collectL [(p, false)] [p], []), [], List.nodup_nil, ?_, rfl, hc.symm⟩
  intro q
  constructor
  · intro h; cases h
  · rintro ⟨b, h1, h2⟩
    rw [hc] at h2; exact absurd h1 h2

/-- **`del(NULL)` in a destructor is a no-op, under `del` and under collection** (the source as it is now).  After `new` of
    one object whose destructor calls `del(NULL)` (state `r`, reachable, ledger `[(64, false)]`): the explicit `del` of the
    object and a collection that reclaims it both answer and leave an empty registry with an empty pending list.  The C code
    does the same (harness op `killnull`, corpus/reg_fixed_null_del_sweep.ops). -/
theorem C17_null_del_in_sweep_fixed :
    ∃ r, ReachK gcCfg nullK r [(64, false)] ∧
      (stepK gcCfg nullK r (.del 64)).map (fun r' => (r'.nitems, r'.pending.size)) = some (0, 0) ∧
      (stepK gcCfg nullK r (.sweep [])).map (fun r' => (r'.nitems, r'.pending.size)) = some (0, 0) := by
  obtain ⟨r, hr, h⟩ : ∃ r ∈ stepK gcCfg nullK Reg.init (.new 64 false [64]),
      (stepK gcCfg nullK r (.del 64)).map (fun r' => (r'.nitems, r'.pending.size)) = some (0, 0) ∧
      (stepK gcCfg nullK r (.sweep [])).map (fun r' => (r'.nitems, r'.pending.size)) = some (0, 0) := by decide +kernel
  exact ⟨r, new_reachK gcCfg nullK 64 (by decide) (by decide) r hr, h⟩

/-- **OLD variant (before fix d3e4e44): `del(NULL)` in a destructor was fine under `del`, fatal under collection.**  With
    `gcCfgOldRem` (GC_Rem_Ptr tests `nslots` only), from the same state: the explicit `del` of the object answers — GC_Rem_Ptr
    probes for NULL, finds nothing, returns — and leaves an empty registry; a collection that reclaims the same object does
    not answer: GC_Sweep clears the object's pending slot before it runs the destructor, GC_Rem_Ptr(NULL) matches that slot
    and runs `dealloc(destruct(NULL))` (ValueError raised by `type_of` inside the collector, the rest of the pending list is
    never finalised). -/
theorem C17_null_del_in_sweep_old_refuted :
    ∃ r, ReachK gcCfgOldRem nullK r [(64, false)] ∧
      (stepK gcCfgOldRem nullK r (.del 64)).map (fun r' => (r'.nitems, r'.pending.size)) = some (0, 0) ∧
      stepK gcCfgOldRem nullK r (.sweep []) = none := by
  obtain ⟨r, hr, h1, h2⟩ : ∃ r ∈ stepK gcCfgOldRem nullK Reg.init (.new 64 false [64]),
      (stepK gcCfgOldRem nullK r (.del 64)).map (fun r' => (r'.nitems, r'.pending.size)) = some (0, 0) ∧
      (stepK gcCfgOldRem nullK r (.sweep [])).isNone := by decide +kernel
  exact ⟨r, new_reachK gcCfgOldRem nullK 64 (by decide) (by decide) r hr, h1, Option.isNone_iff_eq_none.1 h2⟩

theorem C17_progress_all_destructors_old_refuted : ¬ C17_progress_all_destructors_statement gcCfgOldRem := by
  intro hall
  obtain ⟨r, hr, _, hnone⟩ := C17_null_del_in_sweep_old_refuted
  obtain ⟨r', _, h, _⟩ := hall nullK r _ hr (.sweep []) trivial
  rw [hnone] at h; cases h

theorem gcCfgOldRem_good : GoodCfg gcCfgOldRem := ⟨by decide, by decide, by decide, by decide⟩

/-- what held before the fix: progress for destructors that do not delete NULL -/
theorem C17_progress_destructors_old_partial (K : Nat → List Nat) (hK : NoNull K) (r : Reg) (L : Ledger)
    (h : ReachK gcCfgOldRem K r L) (op : Op) (hok : okOp L op) :
    ∃ r' L', stepK gcCfgOldRem K r op = some r' ∧ LedgerK K r L op L' ∧ ReachK gcCfgOldRem K r' L' :=
  reachK_progress gcCfgOldRem gcCfgOldRem_good K (Or.inr hK) r L h op hok

/-- destructors that do not delete NULL exist (hypothesis of `C17_progress_destructors_old_partial`) -/
example : NoNull (fun p => if p = 64 then [72, 64] else []) := by
  intro p; by_cases h : p = 64 <;> simp [h]

/-! ### repaired region: mark bits left by a mark phase that an exception left (fix d8f0c4f; C01's KF-C01-stale-marks) -/

/-- **A collection starts from clear mark bits.**  From a state whose entries are the ledger's with *arbitrary* mark bits `mk`
    (a mark phase left by an exception), GC_Mark — GC_Unmark, the roots, GC_Mark_Item on `marks` — followed by GC_Sweep leaves
    a well-formed registry for exactly the roots and the objects this mark phase reached: the stale bits have no effect. -/
theorem C17_collection_ignores_stale_marks (r : Reg) (L : Ledger) (mk : Nat → Bool → Bool) (h : Core gcCfg r L mk)
    (hc : r.nitems = occ r.slots) (hroom : Room r) (hb : Bounded r L) (hnd : (L.map Prod.fst).Nodup) (hp : r.pending = #[])
    (hnz : r.nitems ≠ 0) (marks : List Nat) :
    ∃ r1 r' t, gcMark gcCfg r marks = some r1 ∧ gcSweep gcCfg noK r1 = some (r', t) ∧ WF gcCfg r' (collectL L marks) := by
  obtain ⟨r1, r', t, e1, e2, e3, _⟩ :=
    gcMark_collect_wf gcCfg gcCfg_good gcMark_unmarks_first.1 r L mk ⟨h, hc, hroom, hb, hnd⟩ hp hnz marks
  exact ⟨r1, r', t, e1, e2, e3⟩

/-- **… and so does the teardown**: GC_Del — GC_Unmark, GC_Sweep — finalises everything but the roots, whatever mark bits
    were left -/
theorem C17_teardown_ignores_stale_marks (r : Reg) (L : Ledger) (mk : Nat → Bool → Bool) (h : Core gcCfg r L mk)
    (hc : r.nitems = occ r.slots) (hroom : Room r) (hb : Bounded r L) (hnd : (L.map Prod.fst).Nodup) (hp : r.pending = #[]) :
    ∃ r' t, gcDel gcCfg noK r = some (r', t) ∧ WF gcCfg r' (collectL L []) := by
  obtain ⟨r', t, e1, e2, _⟩ := gcDel_wf gcCfg gcCfg_good gcMark_unmarks_first.2 r L mk ⟨h, hc, hroom, hb, hnd⟩ hp
  exact ⟨r', t, e1, e2⟩

/-- the state several witnesses below start from: one unrooted object at 64 (the first allocation reaches the threshold, the
    collection it triggers marks the object, it survives) -/
theorem new64_reach (r : Reg) (h : step gcCfg Reg.init (.new 64 false [64]) = some r) : Reach gcCfg r [(64, false)] := by
  have := Reach.step Reach.init (show okOp [] (.new 64 false [64]) from ⟨by simp, by decide, by decide⟩) h
  have e : ledgerStep Reg.init [] (.new 64 false [64]) = [(64, false)] := by decide
  rw [e] at this; exact this

theorem new64_exists : ∃ r, Reach gcCfg r [(64, false)] := by
  obtain ⟨r, hs, _⟩ := C17_progress Reg.init [] Reach.init (.new 64 false [64]) ⟨by simp, by decide, by decide⟩
  exact ⟨r, new64_reach r hs⟩

/-- a state with stale mark bits meets the hypotheses (object 64 registered, its mark bit left set) -/
example : ∃ r, Core gcCfg r [(64, false)] (fun _ _ => true) ∧ r.nitems = occ r.slots ∧ Room r ∧ r.nitems ≠ 0 := by
  obtain ⟨r0, hr0⟩ := new64_exists
  have hwf := reach_wf gcCfg gcCfg_good r0 _ hr0
  obtain ⟨r, _, hm, hmeta⟩ := markAll_marked hwf.marked [64]
  refine ⟨r, hm.core.congr_mk fun q b hL => ?_, hm.count, hm.room, ?_⟩
  · cases List.mem_singleton.1 hL; rfl
  · rw [hmeta.nitems, hwf.marked.count_eq]; decide

/-- **OLD variant (before fix d8f0c4f): a stale mark bit keeps a dead object registered.**  One object at 64, unreferenced;
    a mark phase marks it and is left by an exception (`markAll … [64]`, no sweep); the object then becomes unreachable.  The
    next collection reaches nothing (`marks = []`): with `gcCfgOldMark` (no GC_Unmark) the object is still registered
    afterwards and nothing is finalised; with the source as it is now it is reclaimed. -/
theorem C17_stale_marks_old_refuted :
    ∃ r0 r, Reach gcCfg r0 [(64, false)] ∧ markAll gcCfg r0 [64] = some r ∧
      ((gcMark gcCfgOldMark r []).bind (fun r1 => gcSweep gcCfgOldMark noK r1)).map (fun x => (x.1.nitems, x.2)) = some (1, []) ∧
      ((gcMark gcCfg r []).bind (fun r1 => gcSweep gcCfg noK r1)).map (fun x => (x.1.nitems, x.2)) = some (0, [64]) := by
  obtain ⟨r0, h0, r, h⟩ : ∃ r0 ∈ step gcCfg Reg.init (.new 64 false [64]), ∃ r ∈ markAll gcCfg r0 [64],
      ((gcMark gcCfgOldMark r []).bind (fun r1 => gcSweep gcCfgOldMark noK r1)).map (fun x => (x.1.nitems, x.2)) = some (1, []) ∧
      ((gcMark gcCfg r []).bind (fun r1 => gcSweep gcCfg noK r1)).map (fun x => (x.1.nitems, x.2)) = some (0, [64]) := by
    decide +kernel
  exact ⟨r0, r, new64_reach r0 h0, h⟩

/-! ### destructors that raise (known finding KF-C17-dtor-raise inside the release loop of GC_Sweep) -/

/-- **The functions the driver runs are the ones the theorems above are about**: with no raising destructor (`noR`) the
    variants with an exception outcome are `exec` / `gcRem` / `gcSweep` / `gcSet`, for every `K`, fuel, state and command. -/
theorem C17_model_without_raise (K : Nat → List Nat) :
    (∀ fuel r cmd, execR gcCfg K noR fuel r cmd = liftR (exec gcCfg K fuel r cmd)) ∧
    (∀ r x, gcRemR gcCfg K noR r x = liftR (gcRem gcCfg K r x)) ∧
    (∀ r, gcSweepR gcCfg K noR r = liftR (gcSweep gcCfg K r)) ∧
    (∀ r p root marks, gcSetR gcCfg K noR r p root marks = liftR (gcSet gcCfg K r p root marks)) :=
  ⟨execR_noRaise gcCfg K, gcRemR_noRaise gcCfg K, gcSweepR_noRaise gcCfg K, gcSetR_noRaise gcCfg K⟩

/-- **An explicit deletion whose destructors raise leaves an exact registry** (for every `K`, every set `R` of raising
    destructors, every reachable state): `del` / `del_root` answers; an exception may unwind through GC_Rem_Ptr and GC_Rem
    (`ex`), skipping GC_Resize_Less and the threshold update and the `dealloc` of every object whose destructor was running;
    in either case the registry is exact for a sub-ledger — the objects that were unregistered are exactly gone from `mem`,
    the count, the table — and the pending list is still empty.  (What is lost there is the storage of the objects whose
    destructor was interrupted: C06's matter, not the registry's.) -/
theorem C17_rem_raising (K : Nat → List Nat) (R : Nat → Bool) (r : Reg) (L : Ledger) (h : ReachK gcCfg K r L) (x : Nat) :
    ∃ r' L' t ex, gcRemR gcCfg K R r x = some (r', t, ex) ∧ Exact gcCfg r' L' ∧ (∀ y, y ∈ L' → y ∈ L) ∧
      r'.running = r.running := by
  have hwf := reachK_wf gcCfg gcCfg_good K (gcCfg_nullOk K) r L h
  obtain ⟨r', L', t, ex, he, hw, hsub, _, _, hrun, hps⟩ := gcRemR_safe gcCfg gcCfg_good K (gcCfg_nullOk K) R r L hwf.toWFP x (Or.inl gcRemPtr_tests_null)
  have hp : r'.pending = #[] := by
    have : r'.pending.size = 0 := by rw [hps, hwf.pend]; rfl
    exact Array.eq_empty_of_size_eq_zero this
  exact ⟨r', L', t, ex, he, exact_of_wf gcCfg r' L' (hw.toWF hp), hsub, hrun⟩

/-- … and the same in a state whose pending list an earlier exception left behind (any well-formed state): GC_Rem_Ptr scans
    the stale words first; the result is again well formed, nothing is added to the list -/
theorem C17_rem_raising_any_state (K : Nat → List Nat) (R : Nat → Bool) (r : Reg) (L : Ledger) (h : WFP gcCfg r L) (x : Nat) :
    ∃ r' L' t ex, gcRemR gcCfg K R r x = some (r', t, ex) ∧ WFP gcCfg r' L' ∧ (∀ y, y ∈ L' → y ∈ L) ∧
      (∀ y, y ∈ pendList r' → y ∈ pendList r) ∧ r'.pending.size = r.pending.size := by
  obtain ⟨r', L', t, ex, he, hw, hsub, hpsub, _, _, hps⟩ := gcRemR_safe gcCfg gcCfg_good K (gcCfg_nullOk K) R r L h x (Or.inl gcRemPtr_tests_null)
  exact ⟨r', L', t, ex, he, hw, hsub, hpsub, hps⟩

/-- the full statement for collections when destructors may raise: after GC_Sweep the pending list is empty and every object
    of the ledger is still registered or has been finalised -/
def C17_sweep_raising_statement : Prop :=
  ∀ (K : Nat → List Nat) (R : Nat → Bool) (r : Reg) (L : Ledger), Reach gcCfg r L →
    ∀ marks r1 r' t ex, markAll gcCfg r marks = some r1 → gcSweepR gcCfg K R r1 = some (r', t, ex) →
      r'.pending = #[] ∧ ∀ p b, (p, b) ∈ L → memPtr gcCfg r' p = some true ∨ p ∈ t

/-- **What holds of GC_Sweep when destructors raise** (every `K`, every `R`): the sweep answers; the registry proper — table,
    `mem`, count, bounds, invariant (`WFP`) — is exact for a sub-ledger `L'` of the survivors; the objects still listed are
    reclaimed ones (`order`: the unmarked non-roots, each once) and are not registered; if no exception left the release loop
    the state is `Exact` (pending list empty); if one did, the list keeps all its `order.length` slots (GC_Sweep's
    `free(gc->freelist); gc->freelist = NULL; gc->freenum = 0` did not run).  Missing for the full statement: exactly
    `pending = #[]` and "listed ⇒ finalised" in the exception case — false on the code, `C17_dtor_raise_refuted`. -/
theorem C17_sweep_raising_partial (K : Nat → List Nat) (R : Nat → Bool) (r : Reg) (L : Ledger) (mk : Nat → Bool → Bool)
    (h : Core gcCfg r L mk) (hc : r.nitems = occ r.slots) (hroom : Room r) (hb : Bounded r L) (hnd : (L.map Prod.fst).Nodup) :
    ∃ (order : List Nat) (r' : Reg) (L' : Ledger) (t : List Nat) (ex : Bool),
      gcSweepR gcCfg K R r = some (r', t, ex) ∧ WFP gcCfg r' L' ∧
      (∀ p, memPtr gcCfg r' p = some (decide (p ∈ L'.map Prod.fst))) ∧ r'.nitems = L'.length ∧
      (∀ y, y ∈ L' → y ∈ collectBy L mk) ∧
      (∀ y, y ∈ pendList r' → y ∈ order ∧ memPtr gcCfg r' y = some false) ∧ order.Nodup ∧
      (∀ p, p ∈ order ↔ ∃ b, (p, b) ∈ L ∧ (p, b) ∉ collectBy L mk) ∧
      (ex = false → Exact gcCfg r' L') ∧ (ex = true → r'.pending.size = order.length) := by
  obtain ⟨order, r', L', t, ex, he, hw, hsub, hpsub, hnd2, hmem2, _, hex0, hex1⟩ :=
    gcSweepR_safe gcCfg gcCfg_good K (gcCfg_nullOk K) R r L mk ⟨h, hc, hroom, hb, hnd⟩
  have hmem : ∀ p, memPtr gcCfg r' p = some (decide (p ∈ L'.map Prod.fst)) := hw.marked.mem
  exact ⟨order, r', L', t, ex, he, hw, hmem, hw.marked.count_eq, hsub,
    fun y hy => ⟨(hpsub y hy).1, by rw [hmem y, decide_eq_false (hpsub y hy).2]⟩, hnd2, hmem2,
    fun h0 => exact_of_wf gcCfg r' L' (hw.toWF (hex0 h0)), hex1⟩

/-- **KF-C17-dtor-raise: a destructor that raises inside the release loop of GC_Sweep leaves the pending list set and loses
    the objects still listed.**  `new 64; new 104; collect` with nothing reachable: the sweep lists 104 (slot 3: `j >= p`
    displaced 64 to slot 4) then 64; the destructor of 104 raises; the exception leaves GC_Sweep before
    `free(gc->freelist); … gc->freenum = 0` — afterwards the pending list is `[NULL, 64]` outside a collection, and 64 is
    neither registered nor finalised (nor is it ever: the next GC_Sweep overwrites the list).  The C code does the same
    (harness op `killraise`, corpus/kf_c17_dtor_raise.ops). -/
theorem C17_dtor_raise_refuted : ¬ C17_sweep_raising_statement := by
  intro hall
  obtain ⟨⟨r2, L⟩, h2, rm, hm, ⟨r', t, ex⟩, hsw, rfl, hpend, _⟩ :
      ∃ x ∈ runHist gcCfg id ledgerStep Reg.init [] [.new 64 false [64], .new 104 false []], ∃ rm ∈ markAll gcCfg x.1 [],
        ∃ y ∈ gcSweepR gcCfg noK (· == 104) rm, x.2 = [(104, false), (64, false)] ∧
          y.1.pending.toList = [none, some 64] ∧ y.2 = ([], true) ∧ memPtr gcCfg y.1 64 = some false := by decide +kernel
  obtain ⟨hp0, _⟩ := hall noK (· == 104) r2 _ (runHist_closed Reach.step Reach.init h2) [] rm r' t ex hm hsw
  rw [hp0] at hpend
  cases hpend

/-! ### excluded region 1: allocation and deletion while the collector is stopped (F23; known finding KF-C17-stopped) -/

/-- the full statement against the ledger of the property text (`idealStep`: every managed allocation adds, every `del`
    removes, whatever the `running` flag; the flag itself is a function of the history) -/
def C17_ideal_statement : Prop := ∀ (r : Reg) (S : Ledger × Bool), ReachI gcCfg r S → Exact gcCfg r S.1

/-- **Outside the stopped window the registry is exact for the ledger of the property text**: on every history in which no
    managed allocation and no `del` happens between `stop` and `start`, at every step.  (`Quiet`, an explicit decidable
    condition on the history: the flag in `S` is computed from the `stop` / `start` operations alone.) -/
theorem C17_registry_exact_ideal_partial (r : Reg) (S : Ledger × Bool) (h : ReachQ gcCfg r S) :
    Exact gcCfg r S.1 ∧ r.running = S.2 := by
  obtain ⟨h1, h2⟩ := reachQ_reach gcCfg gcCfg_good r S h
  exact ⟨C17_registry_exact r S.1 h1, h2⟩

/-- **Inside the window the property text is violated**: `new 64; stop; del 64` — GC_Rem returns at once because the collector
    is not running, so `mem(gc, 64)` still holds and `nitems` is still 1 for an object the program has deleted. -/
theorem C17_stopped_window_refuted : ¬ C17_ideal_statement := by
  intro hall
  obtain ⟨⟨r, S⟩, hr, rfl, hm, _⟩ : ∃ x ∈ runHist gcCfg Prod.fst idealStep Reg.init ([], true) [.new 64 false [64], .stop, .del 64],
      x.2 = ([], false) ∧ memPtr gcCfg x.1 64 = some true ∧ x.1.nitems = 1 := by decide +kernel
  have := (hall r _ (runHist_closed ReachI.step ReachI.init hr)).mem 64
  rw [hm] at this
  cases this

/-- histories outside the window reach non-trivial states (hypothesis of `C17_registry_exact_ideal_partial`) -/
example : ∃ r, ReachQ gcCfg r ([(64, false)], false) := by
  obtain ⟨r1, hs1, _⟩ := C17_progress Reg.init [] Reach.init (.new 64 false [64]) ⟨by simp, by decide, by decide⟩
  have h1 := ReachQ.step ReachQ.init (show okOp [] (.new 64 false [64]) from ⟨by simp, by decide, by decide⟩) rfl hs1
  have e : idealStep Reg.init ([], true) (.new 64 false [64]) = ([(64, false)], true) := by decide
  rw [e] at h1
  exact ⟨gcStop r1, ReachQ.step h1 (op := .stop) trivial trivial rfl⟩

/-! ### excluded region 2: `dealloc` / `dealloc_root` of a registered object (known finding KF-C17-dealloc-stale) -/

/-- the full statement when histories may also release managed objects with `dealloc` / `dealloc_raw` / `dealloc_root` -/
def C17_with_dealloc_statement : Prop := ∀ (r : Reg) (L : Ledger), ReachD gcCfg r L → Exact gcCfg r L

/-- **`dealloc` leaves a stale entry**: `alloc` (or `alloc_root`) followed by the `dealloc` (`dealloc_root`) Alloc's
    documentation pairs it with — the block is freed and the collector is not told, so `mem(gc, p)` keeps holding and
    `nitems` keeps counting an object that no longer exists. -/
theorem C17_dealloc_refuted : ¬ C17_with_dealloc_statement := by
  intro hall
  obtain ⟨r1, hr1⟩ := new64_exists
  have hd : ReachD gcCfg r1 [] := by
    have := ReachD.dealloc 64 (reach_reachD gcCfg r1 _ hr1)
    simpa using this
  have m1 := (C17_registry_exact r1 _ hr1).mem 64
  have m2 := (hall r1 _ hd).mem 64
  rw [m1] at m2
  simp at m2

/-- the full statement when `del_raw` may also be applied to a REGISTERED object (the program has released it: the ledger drops
    it) — the hypothesis `okOp (.delRaw p) := p ∉ L` of `Reach` excludes exactly this -/
def C17_with_del_raw_managed_statement : Prop :=
  ∀ (r : Reg) (L : Ledger) (p : Nat) (r' : Reg), Reach gcCfg r L → step gcCfg r (.delRaw p) = some r' →
    Exact gcCfg r' (L.filter (fun y => y.1 != p))

/-- **`del_raw` of a registered object is the same defect by another entrance** (KF-C17-dealloc-stale): `del_raw` is
    `dealloc(destruct(self))` without GC_Rem (Alloc.c `del_by`, `case ALLOC_RAW: break;` — shape checked by the translator), so
    after `p = alloc(T); del_raw(p)` the registry is untouched: `mem(gc, p)` still holds for a released object.  The C code
    does the same (corpus/kf_c17_dealloc.ops, op `delrawm`; the program then ends in the teardown sweep
    destructing the freed block). -/
theorem C17_del_raw_managed_refuted : ¬ C17_with_del_raw_managed_statement := by
  intro hall
  obtain ⟨r1, hr1⟩ := new64_exists
  have hs : step gcCfg r1 (.delRaw 64) = some r1 := by
    show (exec gcCfg noK (nestFuel r1 + 1) r1 (.fin 64)).map (fun x => x.1) = some r1
    rw [exec_fin_noK]; rfl
  have m1 := (C17_registry_exact r1 _ hr1).mem 64
  have m2 := (hall r1 _ 64 r1 hr1 hs).mem 64
  rw [m1] at m2
  simp at m2

/-- **… and when malloc hands the address out again the object is counted twice and keeps the old root flag**:
    `p = alloc(T); dealloc(p); q = alloc_root(T)` with `q = p` (admissible: the address is not live) — GC_Set increments
    `nitems` before GC_Set_Ptr finds the equal pointer and returns: `nitems = 2` for one occupied slot, whose entry still says
    `root = false` although the live object was allocated as a root. -/
theorem C17_dealloc_reuse_refuted :
    ∃ r, ReachD gcCfg r [(64, true)] ∧ r.nitems = 2 ∧ occ r.slots = 1 ∧
      Mem r.slots ⟨64, hashOf gcCfg 64 % r.n, ⟨false, false⟩⟩ ∧ ¬ Exact gcCfg r [(64, true)] := by
  obtain ⟨⟨r1, L1⟩, h1, ⟨r, L⟩, h2, rfl, hni, hocc, hmem⟩ :
      ∃ x ∈ runHist gcCfg id ledgerStep Reg.init [] [.new 64 false [64]],
        ∃ y ∈ runHist gcCfg id ledgerStep x.1 (x.2.filter (fun z => z.1 != 64)) [.new 64 true [64]],
          y.2 = [(64, true)] ∧ y.1.nitems = 2 ∧ occ y.1.slots = 1 ∧
            ⟨64, hashOf gcCfg 64 % y.1.n, ⟨false, false⟩⟩ ∈ entries y.1.slots := by decide +kernel
  have hd := ReachD.dealloc 64 (runHist_closed ReachD.step ReachD.init h1)
  exact ⟨r, runHist_closed ReachD.step hd h2, hni, hocc, (mem_entries _ _).1 hmem,
    fun hex => absurd (hni.symm.trans hex.count.1) (by decide)⟩

/-- the stored (address, root flag) pairs in slot order -/
def slotKeys (r : Reg) : List (Option (Nat × Bool)) := r.slots.toList.map (fun o => o.map (fun e => (e.key, e.val.root)))

/-- **… or even recorded twice**: GC_Set_Ptr's equal-pointer test only fires if the stale entry is met before the carried entry
    is swapped (`j >= p` displaces a resident at equal distance).  With two colliding addresses (64 and 104, both at home 3 of 5)
    `alloc(64); alloc(104); dealloc(64); alloc_root(64)`: the new entry for 64 takes slot 3, pushes 104 on, 104 pushes the stale
    entry of 64 on — the table ends with two entries for address 64 (one per root flag) and `nitems = 3` for two live objects. -/
theorem C17_dealloc_twice_refuted :
    ∃ r, ReachD gcCfg r [(64, true), (104, false)] ∧
      slotKeys r = [some (64, false), none, none, some (64, true), some (104, false)] ∧ r.nitems = 3 ∧
      ¬ Exact gcCfg r [(64, true), (104, false)] := by
  obtain ⟨⟨r2, L2⟩, h2, ⟨r, L⟩, h3, rfl, hkeys, hni⟩ :
      ∃ x ∈ runHist gcCfg id ledgerStep Reg.init [] [.new 64 false [64], .new 104 false []],
        ∃ y ∈ runHist gcCfg id ledgerStep x.1 (x.2.filter (fun z => z.1 != 64)) [.new 64 true [64, 104]],
          y.2 = [(64, true), (104, false)] ∧
            slotKeys y.1 = [some (64, false), none, none, some (64, true), some (104, false)] ∧ y.1.nitems = 3 := by
    decide +kernel
  have hd := ReachD.dealloc 64 (runHist_closed ReachD.step ReachD.init h2)
  exact ⟨r, runHist_closed ReachD.step hd h3, hkeys, hni, fun hex => absurd (hni.symm.trans hex.count.1) (by decide)⟩

/-! ### non-vacuity: concrete histories and states -/

def demoA : Nat := 35184372088864

/-- colliding addresses (hashes ≡ 3 mod 5 and ≡ 8 mod 11): a first allocation that triggers a collection and survives it
    because it is marked, a root, growth from 5 to 11 slots, a deletion, a collection that keeps one marked object and the
    root and shrinks the table, and a deletion while the collector is stopped (a no-op of the registry) -/
def demoOps : List Op :=
  [.new demoA false [demoA], .new (demoA+440) true [], .new (demoA+880) false [demoA, demoA+880], .new (demoA+1320) false [],
   .new (demoA+1760) false [], .del (demoA+880), .sweep [demoA], .stop, .del demoA, .start]

def runOps (c : Cfg) : Reg → Ledger → List Op → Option (Reg × Ledger)
  | r, L, [] => some (r, L)
  | r, L, op :: ops => match step c r op with
    | none => none
    | some r' => runOps c r' (ledgerStep r L op) ops

example : (runOps gcCfg Reg.init [] (demoOps.take 5)).map (fun x => (x.1.n, x.1.nitems, x.2.length)) = some (11, 5, 5) := by
  decide +kernel

example : (runOps gcCfg Reg.init [] demoOps).map (fun x => (x.1.n, x.1.nitems, x.1.mitems, x.2)) =
    some (5, 2, 4, [(demoA+440, true), (demoA, false)]) := by decide +kernel

/-- the executable invariant holds on the states of the demo history (hypothesis of `C17_invB_sound`) -/
example : (runOps gcCfg Reg.init [] (demoOps.take 5)).map (fun x => invB gcCfg x.1) = some true := by decide +kernel

/-- a removal in a mid-sweep state: after the demo history, with address `demoA+8` waiting on the pending list, `del` of that
    address strikes it off and finalises it; the destructor of `demoA+8` deletes the registered `demoA`, which is erased and
    finalised first (its own destructor deleting `demoA+8` again finds nothing) -/
example :
    ((runOps gcCfg Reg.init [] demoOps).bind (fun x =>
        (gcRem gcCfg (fun p => if p = demoA + 8 then [demoA] else if p = demoA then [demoA + 8] else [])
          { x.1 with pending := #[some (demoA + 8)] } (demoA + 8)).map (fun y => (y.2, y.1.nitems, y.1.pending)))) =
      some ([demoA, demoA + 8], 1, #[none]) := by decide +kernel

/-- reachable states with a non-empty ledger exist (so `C17_registry_exact` is not vacuous): by `C17_progress` any
    admissible operation extends a history -/
example : ∃ r, Reach gcCfg r [(8, false)] := by
  obtain ⟨r', _, h⟩ := C17_progress Reg.init [] Reach.init (.new 8 false [8]) ⟨by simp, by decide, by decide⟩
  exact ⟨r', h⟩

/-- histories with destructors reach states with a non-empty ledger (hypothesis of `C17_registry_exact_destructors`): the
    first allocation reaches the threshold, the collection it triggers marks it, and it survives -/
example (K : Nat → List Nat) : ∃ r, ReachK gcCfg K r [(8, false)] := by
  obtain ⟨r1, _, hs, _⟩ := C17_progress_destructors K Reg.init [] ReachK.init (.new 8 false [8]) ⟨by simp, by decide, by decide⟩
  exact ⟨r1, new_reachK gcCfg K 8 (by decide) (by decide) r1 hs⟩

/-- a table with a wrapped cluster (key 5 displaced from home slot 2 into slot 0) meets the hypotheses of the lookup, erase and
    sweep theorems -/
example : ∃ (s : Slots Nat Payload 3), Inv (fun p => p) s ∧ Present s 5 ∧ occ s = 2 ∧ dist 3 0 2 = 1 := by
  -- the executable invariant, run with the identity as hash function, accepts the table (`invB_sound`)
  have h := (invB_sound { gcCfg with hashShift := 0 }
    { Reg.init with n := 3, slots := #v[some ⟨5, 2, ⟨false, false⟩⟩, none, some ⟨2, 2, ⟨true, true⟩⟩], nitems := 2,
                    minptr := 2, maxptr := 5 } (by decide)).1
  exact ⟨_, h.toInv 1 (by decide) rfl, ⟨0, by decide, _, rfl, rfl⟩, by decide, by decide⟩

/-! ### the public entrances: src/Alloc.c alloc_by / del_by, GC_Show, GC_New -/

/-- **alloc_by, allocator branches** (read from src/Alloc.c): both the branch of a type with its own Alloc instance and the
    default calloc branch only assign the locals `self` / `head` and call allocation functions — neither changes `method`, talks to
    the collector or leaves the function (a source in which one of them does is outside the model: `allocBy = none`, and this
    theorem stops checking; classes c17_j / c17_n) -/
theorem C17_alloc_branches_only_allocate :
    branchPlain gcRoutes.ownAssigns gcRoutes.ownCalls = true ∧ branchPlain gcRoutes.defaultAssigns gcRoutes.defaultCalls = true := by
  constructor <;> decide

/-- both allocator branches being plain, `alloc_by` does the same with either -/
theorem allocTells_own (fn : String) (own : Bool) : allocTells gcRoutes fn own = allocTells gcRoutes fn false := by
  have h := C17_alloc_branches_only_allocate
  have hb : ∀ m, allocBy gcRoutes own m = allocBy gcRoutes false m := by
    intro m; unfold allocBy; cases own <;> simp [h.1, h.2]
  unfold allocTells
  cases allocMethod gcRoutes fn with
  | none => rfl
  | some m => simp only [hb m]

/-- **which entry point registers what**, for a type with and without its own allocator: alloc / new_with / the default copy
    register the object as managed (`GC_Set` with root = false), alloc_root / new_root_with as a root, alloc_raw / new_raw_with
    do not tell the collector — computed by the interpreter `allocTells` from the `switch (method)` rows, wrapper rows and
    allocator branches read from the source -/
theorem C17_alloc_routes_current_source (own : Bool) :
    allocTells gcRoutes "alloc" own = some (some false) ∧ allocTells gcRoutes "alloc_root" own = some (some true) ∧
    allocTells gcRoutes "alloc_raw" own = some none ∧
    allocTells gcRoutes "new_with" own = some (some false) ∧ allocTells gcRoutes "new_root_with" own = some (some true) ∧
    allocTells gcRoutes "new_raw_with" own = some none ∧ allocTells gcRoutes "copy" own = some (some false) := by
  simp only [allocTells_own _ own]
  decide +kernel

/-- del and del_root hand the object to `GC_Rem` (which finalises it) and do nothing else; del_raw runs
    `dealloc(destruct(self))` without the collector -/
theorem C17_del_routes_current_source :
    delTells gcRoutes "del" = some true ∧ delTells gcRoutes "del_root" = some true ∧ delTells gcRoutes "del_raw" = some false := by
  decide +kernel

/-- for EVERY entry point name: what the collector is told does not depend on whether the type brings its own allocator -/
theorem C17_registration_ignores_allocator (fn : String) : allocTells gcRoutes fn true = allocTells gcRoutes fn false :=
  allocTells_own fn true

/-- **GC_New**: the state built from the `gc->field = value;` statements of the source is the model's initial state
    (`minptr = UINTPTR_MAX`, `maxptr = 0`, running, no table, no pending list) -/
theorem C17_init_current_source : regInitFrom CelloGen.Reg.gcNewInit = some Reg.init := by
  -- the seven fields `regInitFrom` reads, as the statements of GC_New leave them
  have h : (["nslots", "nitems", "mitems", "minptr", "maxptr", "running", "freenum"].map (initField CelloGen.Reg.gcNewInit)) =
      [some 0, some 0, some 0, some uintptrMax, some 0, some 1, some 0] := by decide +kernel
  simp only [List.map_cons, List.map_nil, List.cons.injEq, and_true] at h
  obtain ⟨h1, h2, h3, h4, h5, h6, h7⟩ := h
  unfold regInitFrom
  rw [h1, h2, h3, h4, h5, h6, h7]
  rfl

/-- **C17 over histories of public calls**: every history of alloc / alloc_raw / alloc_root / new_with / new_raw_with /
    new_root_with / copy (default path) / del / del_raw / del_root — each on a type with or without its own Alloc instance —,
    collections, stop and start, routed by the tables of the source as it is now, leaves an exact registry -/
theorem C17_registry_exact_api (r : Reg) (L : Ledger) (h : ReachA gcCfg gcRoutes r L) : Exact gcCfg r L :=
  C17_registry_exact r L (reachA_reach gcCfg gcRoutes r L h)

/-- … and never gets stuck -/
theorem C17_progress_api (r : Reg) (L : Ledger) (h : ReachA gcCfg gcRoutes r L) (call : Call) (op : Op)
    (hop : call.toOp gcRoutes = some op) (hok : okOp L op) :
    ∃ r', step gcCfg r op = some r' ∧ ReachA gcCfg gcRoutes r' (ledgerStep r L op) := by
  obtain ⟨r', h1, _⟩ := C17_progress r L (reachA_reach gcCfg gcRoutes r L h) op hok
  exact ⟨r', h1, ReachA.step h hop hok h1⟩

/-- **GC_Show** (`show(current(GC))`, the one public view of the root flags): after every such history it prints one row per
    slot; the occupied rows are exactly the live managed objects with the root flag they were allocated with (`root` / `auto`)
    and a blank mark column, and no address appears on two rows -/
theorem C17_show_lists_registry (r : Reg) (L : Ledger) (h : ReachA gcCfg gcRoutes r L) :
    (showRows r).length = r.n ∧
    (∀ p b m, (∃ i, (i, some (p, b, m)) ∈ showRows r) ↔ ((p, b) ∈ L ∧ m = false)) ∧
    (∀ i j p b m b' m', (i, some (p, b, m)) ∈ showRows r → (j, some (p, b', m')) ∈ showRows r → i = j) := by
  have hc := (reach_wf gcCfg gcCfg_good r L (reachA_reach gcCfg gcRoutes r L h)).core
  exact ⟨showRows_length r, showRows_ledger hc, fun i j p b m b' m' hi hj => showRows_once _ r hc.inv i j p b m b' m' hi hj⟩

/-- histories of public calls reach states with a non-empty ledger: `new_root(T)` of a type without an allocator of its own -/
example : ∃ r, ReachA gcCfg gcRoutes r [(8, true)] := by
  obtain ⟨r', _, h⟩ := C17_progress_api Reg.init [] ReachA.init (.alloc "new_root_with" false 8 []) (.new 8 true [])
    (by simp only [Call.toOp, (C17_alloc_routes_current_source false).2.2.2.2.1]) ⟨by simp, by decide, by decide⟩
  have hl : ledgerStep Reg.init [] (.new 8 true []) = [(8, true)] := by decide
  rw [hl] at h
  exact ⟨r', h⟩

/-- the interpreter follows the tables: a switch whose ALLOC_STANDARD case registers a root (the effect of class c17_j), an
    allocator branch that assigns `method`, a case that returns before the object is handed back (class c17_n) -/
example : allocTells { gcRoutes with allocSwitch := [("ALLOC_STANDARD", [.set 1]), ("ALLOC_RAW", []), ("ALLOC_ROOT", [.set 1])] } "new_with" false
    = some (some true) := by decide +kernel
example : allocTells { gcRoutes with ownAssigns := ["self", "method"] } "alloc" true = none := by decide
example : allocTells { gcRoutes with allocSwitch := [("ALLOC_STANDARD", [.ret, .set 0])] } "alloc" false = none := by decide
example : delTells { gcRoutes with delSwitch := [("ALLOC_STANDARD", [.rem]), ("ALLOC_ROOT", [.rem, .ret]), ("ALLOC_RAW", [])] } "del" = none := by decide

/-- GC_Show on the demo history: slot 3 holds the object the collection kept because it was marked, slot 4 (displaced from home slot 3) the root -/
example : (runOps gcCfg Reg.init [] demoOps).map (fun x => showRows x.1) =
    some [(0, none), (1, none), (2, none), (3, some (demoA, false, false)), (4, some (demoA+440, true, false))] := by decide +kernel

end Cello.Registry
