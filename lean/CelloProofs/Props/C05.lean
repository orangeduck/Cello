/-
  C05 — containers own their elements: each is finalised exactly once.

  Property theorems only; the lemma files are CelloProofs/Lemmas/Own*.lean.
  Models: Cello/Own.lean — every operation of Array, List, Table, Tree and Box described by what it does to element
  ownership (`issued` = constructed by `assign` into zero-filled memory, `retired` = passed to `destruct`, contents), over a
  world of named containers with a log of every identity ever constructed / finalised; Cello/OwnConc.lean — the slot array
  of C02 and the red-black tree of C03 with token-valued records (section "Internal moves"); Cello/OwnAlias.lean — calls
  whose arguments are stored objects (sections "Aliased arguments", "Stored objects as operands").
  Source-derived facts: CelloGen/Own.lean, CelloGen/Table.lean, CelloGen/Tree.lean.

  The property as stated is false on this tree in these places (known findings; the model mirrors them):
    * Box_Assign copies the pointer (F28): containers of Box are copied shallowly, `set` drops the old pointee (KF-C05-box-shallow);
    * Box_Ref overwrites the pointer without `del` of the object the Box owned (KF-C05-box-ref-drops);
    * List_Resize(n > len) links zero-filled, never constructed elements (KF-C05-list-resize-raw);
    * Array_Assign from a source whose `get(obj, $I(i))` raises (a Table / Tree) leaves `len` counting records that were
      never constructed (KF-C05-array-assign-partial);
    * Array_New with an initial element whose assign raises leaves a half-built array (owned by the collector) whose
      Array_Del destructs records that were never constructed (KF-C05-array-new-partial, signature own-array-new-partial).
  (Another defect — a List_Push_At that raised had already constructed the element and leaked it — is repaired in /repo
  by 4077d96; `C05_list_pushat_old_order_refuted` keeps the witness against the old order.)
  Calls with an element / key / value of the WRONG TYPE are operations of the model (`Op.typed`): refused without any
  effect wherever the type check precedes the first effect (`C05_type_check_first_*` about the source,
  `C05_refused_no_effect_type` about the model), and mirrored where the container makes room first — Array_Push /
  Array_Push_At / Array_Concat (KF-C12-array-push-type, recorded under C12), Array_New (own-array-new-partial), List_Concat
  after well-typed items (KF-C12-list-concat-partial): `typedAtomic` keeps exactly those out (`C05_type_refused_atomic_exact`).
  `inContract` excludes exactly these and the operations the op-file interpreters do not execute at all (`bad`) —
  `assign(List, non-empty Table / Tree)`, refused after `List_Clear` with the accounting intact, is IN the contract
  (`C05_list_assign_from_map`); `ref(box, p)` on a Box that owns an object is its own finding (KF-C05-box-ref-drops,
  `C05_box_ref_refuted`); the theorems named `…_partial` are proved for every history of in-contract operations, the full
  statements are kept as `…_statement` and refuted (`…_refuted`) on concrete witnesses.  The second sentence of the
  property — internal moves neither duplicate nor drop an element — is the section "Internal moves" (`C05_moves_*`):
  composition with the structural models of Table (C02), Tree (C03) and Array (C04's store-level block of records,
  `C05_moves_array`); not composed: List (node relinking stays list surgery).
-/
import CelloProofs.Lemmas.OwnRefused
import CelloProofs.Lemmas.OwnProfile
import CelloProofs.Lemmas.OwnCompose
import CelloProofs.Lemmas.OwnSeqMoves
import CelloProofs.Lemmas.OwnAlias
import CelloProofs.Lemmas.TableIdeal
import CelloGen.Own
import CelloGen.Table

namespace Cello.Own
open List

/-! ### where the type checks stand (per function)

A call with a wrong-typed key or value is refused by the `cast` at the top of `Table_Set_Move` / `Tree_Set` /
`Table_Rem` / `Tree_Rem`.  The model's type-refused map calls (`mapSetArgs`, `mapRemWrong`, `mapNewRefused`) are inert
because, in the source as it is, each of these functions casts **every** element argument **before** its first effect
(allocation, assign, destruct, byte move, `nitems` update) and nowhere later.  One theorem per function, about the row
the translator regenerates on every run: a refactor that casts at the point of use — after the node was allocated and the
key copy assigned into it — breaks the theorem of that function. -/

/-- `Table_Set_Move(self, key, val, move)`: `cast(key)`, `cast(val)`, then — first effect — the `memset` of the swap space -/
theorem C05_type_check_first_table_set_move :
    typeCheckOf CelloGen.Own.typeChecks "Table_Set_Move" = some (["key", "val"], "memset", []) := by decide +kernel

/-- `Tree_Set(self, key, val)`: `cast(key)`, `cast(val)`, then — first effect — `Tree_Alloc`; no cast at a point of use -/
theorem C05_type_check_first_tree_set :
    typeCheckOf CelloGen.Own.typeChecks "Tree_Set" = some (["key", "val"], "Tree_Alloc", []) := by decide +kernel

/-- `Table_Rem(self, key)`: `cast(key)` before the lookup; the first effect is the `destruct` of the found pair -/
theorem C05_type_check_first_table_rem :
    typeCheckOf CelloGen.Own.typeChecks "Table_Rem" = some (["key"], "destruct", []) := by decide +kernel

/-- `Tree_Rem(self, key)`: `cast(key)` before the descent; the first effect is the `destruct` of the found pair -/
theorem C05_type_check_first_tree_rem :
    typeCheckOf CelloGen.Own.typeChecks "Tree_Rem" = some (["key"], "destruct", []) := by decide +kernel

/-- Array.c and List.c never cast an element argument — the stored element's own `Assign` / `Cmp` is the type check, and
    it is reached after the first effect recorded here: `nitems++` / `nitems +=` / `nitems =` for Array_Push,
    Array_Push_At, Array_Concat, Array_New (the array has made room: **not atomic**, KF-C12-array-push-type and
    own-array-new-partial), `List_Alloc` for List_Push (an unlinked node: the list itself is untouched), the bounds
    lookup for List_Push_At, the element's `assign` itself for the two `Set`s; `Table_Set` grows a table without slots
    before it delegates to `Table_Set_Move`; the constructors cast only their type arguments.  These rows are what
    `arrayPushWrong / arrayPushAtWrong / arrayConcatArgs / arrayNewRefused / listPushWrong / listPushAtWrong / seqSetWrong /
    seqRemWrong / tableSetRefusedC` mirror; a repair that casts first changes a row and this theorem with it. -/
theorem C05_type_check_late_array_list :
    CelloGen.Own.typeChecks.filter (fun r => (typeCheckOf modelledTypeChecksFirst r.1).isNone) = modelledTypeChecksLate := by
  decide +kernel

/-- …and the rows of the four cast-first functions are all there is besides (no function that takes an element argument
    is missing from either list). -/
theorem C05_type_checks_complete :
    CelloGen.Own.typeChecks.filter (fun r => (typeCheckOf modelledTypeChecksFirst r.1).isSome) = modelledTypeChecksFirst := by
  decide +kernel

/-- The element-handling functions call no function of their source file other than the ones of the profile vocabulary
    and pure accessors (item / key / value address, links, colours, sizes): allocation, assignment and type checks have
    not been moved into a helper the profile does not see. -/
theorem C05_no_unmodelled_helpers : CelloGen.Own.unmodelledCallees = [] := by decide

/-- The ownership-relevant calls of every element-handling function of Array.c, List.c, Table.c, Tree.c and of Box
    (regenerated from /repo on every run) are the ones the model was written against: which functions `destruct`,
    which `assign`, in which order relative to the bounds checks and the byte moves, and that every `*_Assign` returns
    before its `Clear` when `self is obj` (fix a3140e4).  (A comparison of callee names in textual order: it sees a removed
    `destruct`, an added `assign`, a check moved behind a construction, a dropped guard — not a changed argument or index;
    those are what the per-operation comparison with the running code and `C05_moves_*` are for.) -/
theorem C05_source_profile : CelloGen.Own.profile = modelledProfile := rfl

/-- …and the container types register these functions under the classes the harness calls them through. -/
theorem C05_source_instances : CelloGen.Own.instances = modelledInstances := rfl

/-- **C05_generic_dispatch**: the generic entry points through which every container reaches its elements, as
    the translator reads them from src/Alloc.c / src/Assign.c.  `destruct` consults the type's New instance and calls its
    destructor — nothing else (no fallback that could skip or double a finalisation); `construct_with` calls the type's
    constructor; `assign` calls the type's Assign when it has one and copies `size` bytes only otherwise; `copy` is
    `assign(alloc(type_of(self)), self)` unless the type registers Copy — and no container type (Array, List, Table, Tree, Box)
    registers Copy or Swap: the model's `copy c d` (assign into a fresh empty container; `swap` of two Array records = the
    byte exchange) is what the library runs. -/
theorem C05_generic_dispatch :
    CelloGen.Own.generic =
      [("destruct", ["instance(New)", "->destruct"]),
       ("construct_with", ["instance(New)", "->construct_with", "assign"]),
       ("copy", ["instance(Copy)", "->copy", "assign", "alloc"]),
       ("assign", ["instance(Assign)", "->assign", "memcpy", "throw"])] ∧
    CelloGen.Own.copySwapInstances = [] := ⟨rfl, rfl⟩

/-- **Array.c**: push, push_at, pop, pop_at, set, rem, clear/resize, concat, assign/copy, sort — each conserves the
    identities (`contents' + retired ~ contents + issued`) and the identities it hands out are fresh, for every
    array, index, payload and source.  (`set` assumes constructed elements: arrays never hold zero-filled ones.) -/
theorem C05_conservation_array (next : Nat) (xs src : List Tok) (i : Int) (p n : Nat) :
    (let r := seqPush next xs p; Conserves xs r.val r.issued r.retired ∧ FreshFrom next r.issued) ∧
    (let r := arrayPushAt next xs i p; Conserves xs r.val r.issued r.retired ∧ FreshFrom next r.issued) ∧
    (let r := seqPop xs; Conserves xs r.val r.issued r.retired ∧ r.issued = []) ∧
    (let r := seqPopAt xs i; Conserves xs r.val r.issued r.retired ∧ r.issued = []) ∧
    (0 ∉ ids xs → let r := seqSetProbe next xs i p; Conserves xs r.val r.issued r.retired ∧ FreshFrom next r.issued) ∧
    (let r := seqRem xs p; Conserves xs r.val r.issued r.retired ∧ r.issued = []) ∧
    (let r := arrayResize xs n; Conserves xs r.val r.issued r.retired ∧ r.issued = []) ∧
    (let r := seqConcatProbe next xs src; Conserves xs r.val r.issued r.retired ∧ FreshFrom next r.issued) ∧
    (let r := seqAssignProbe next xs src; Conserves xs r.val r.issued r.retired ∧ FreshFrom next r.issued) ∧
    (let r := seqSort xs; Conserves xs r.val r.issued r.retired ∧ r.issued = []) :=
  ⟨seqPush_spec _ _ _, (arrayPushAt_spec ..).1, (seqPop_spec _).1, (seqPopAt_spec _ _).1, (seqSetProbe_spec ..).1,
   (seqRem_spec _ _).1, (arrayResize_spec _ _).1, seqConcatProbe_spec _ _ _, seqAssignProbe_spec _ _ _, seqSort_spec _⟩

/-- **List.c**: the operations that differ from Array: push_at (every index, accepted or refused) and resize (when it
    does not grow); push, pop, pop_at, set, rem, concat, assign are the same functions as for Array. -/
theorem C05_conservation_list (next : Nat) (xs : List Tok) (i : Int) (p n : Nat) :
    (let r := listPushAt next xs i p; Conserves xs r.val r.issued r.retired ∧ FreshFrom next r.issued) ∧
    (n ≤ xs.length → let r := listResize xs n; Conserves xs r.val r.issued r.retired ∧ r.issued = []) :=
  ⟨(listPushAt_spec ..).1, (listResize_spec _ _).1⟩

/-- **Table.c / Tree.c**: set (new key, existing key: replace resp. in place), rem, clear/resize, constructor runs,
    assign/copy — for every map of constructed elements (`hraw`: no stored token has identity 0, the identity of a
    zero-filled record), every key, value and source, with `0 < next` (no identity handed out is 0); the identities
    handed out are fresh.  This is conservation of the ownership *protocol* on the association list; that the
    association list is what the slot array / the red-black tree holds after the same operation, whatever rehash,
    displacement, rotation or predecessor copy it involved, is `C05_moves_table` / `C05_moves_tree` below. -/
theorem C05_conservation_map (mk : MapKind) (next : Nat) (kvs src : List KV) (k v n : Nat) (ps : List (Nat × Nat))
    (hnext : 0 < next) (hraw : 0 ∉ ids (kvToks kvs)) :
    (let r := mapSet mk next kvs k v; Conserves (kvToks kvs) (kvToks r.val) r.issued r.retired ∧ FreshFrom next r.issued) ∧
    (let r := mapRem kvs k; Conserves (kvToks kvs) (kvToks r.val) r.issued r.retired ∧ r.issued = []) ∧
    (let r := mapResize mk kvs n; Conserves (kvToks kvs) (kvToks r.val) r.issued r.retired ∧ r.issued = []) ∧
    (let r := mapSetMany mk next kvs ps; Conserves (kvToks kvs) (kvToks r.val) r.issued r.retired ∧ FreshFrom next r.issued) ∧
    (let r := mapAssign mk next kvs src; Conserves (kvToks kvs) (kvToks r.val) r.issued r.retired ∧ FreshFrom next r.issued) :=
  ⟨mapSet_spec _ _ _ _ _ hraw, (mapRem_spec _ _).1, (mapResize_spec _ _ _).1, mapSetMany_spec _ _ _ _ hnext hraw,
   mapAssign_spec _ _ _ _ hnext⟩

/-- **C05_conservation** at the level of the world: every in-contract operation, applied in any world that satisfies
    the invariant, conserves identities over *all* containers, hands out fresh identities, logs exactly what it
    constructed and finalised, and re-establishes the invariant. -/
theorem C05_conservation_partial {w : World} (hinv : Inv w) (op : Op) (hin : inContract w op = true) :
    let w' := (step w op).1
    let o := (step w op).2
    allIds w'.objs ++ ids o.retired ~ allIds w.objs ++ ids o.issued ∧
    FreshFrom w.next o.issued ∧
    w'.issuedLog = ids o.issued ++ w.issuedLog ∧ w'.retiredLog = ids o.retired ++ w.retiredLog ∧
    Inv w' := by
  have h := step_ok hinv op (inContract_nkf hin)
  exact ⟨h.cons, h.fresh, h.issued, h.retired, h.inv⟩

/-- the full statement: conservation for *every* operation -/
def C05_conservation_statement : Prop :=
  ∀ (w : World) (op : Op), Inv w →
    allIds (step w op).1.objs ++ ids (step w op).2.retired ~ allIds w.objs ++ ids (step w op).2.issued

/-! ## Internal moves neither duplicate nor drop an element

The association lists of Cello/Own.lean have no slots, no swap spaces, no rehash, no rotations, no predecessor copy.  The
theorems of this section tie them to the *structural* models of the two map containers — the robin-hood slot array of
Cello/Table.lean (property C02) and the red-black tree with parent-chain repairs and the word-level predecessor `memcpy`
of Cello/RBTree.lean (property C03), both validated slot by slot / node by node against the C code by their own engines —
instantiated with token-valued records (Cello/OwnConc.lean).  `tableSet / treeSet / mapRem / mapResize / mapSetMany /
mapAssign` stop being definitions of what a move does and become consequences of the representation invariants. -/

/-- the parameters of src/Table.c as they are in /repo (regenerated by the translator on every run) — every field of `Cfg` is
    read from the generated file, none is left at the structure default: the strictness of the displacement test, the
    growth of a table without slots, `Table_Ideal_Size`, the `self is obj` guard of `Table_Assign` and the key test of the
    `Table_Get` shortcut (the same record as C02's `cfgNow`). -/
def tableCfgNow : Cello.Table.Cfg :=
  { ge := CelloGen.Table.tieGe, growEmpty := CelloGen.Table.setGrowsEmpty,
    ideal := Cello.Table.idealSize CelloGen.Table.primes CelloGen.Table.loadNum CelloGen.Table.loadDen,
    selfGuard := CelloGen.Table.assignGuardsSelf, getChecksKey := CelloGen.Table.getShortcutChecksKey }

/-- …satisfy what the composition needs: strict displacement test, an emptied table grows before the first `set`,
    `Table_Ideal_Size n > n`, `Table_Assign` guards `self is obj` (fourth conjunct: `rfl` about
    `CelloGen.Table.assignGuardsSelf`, not about a default).  Stops checking when src/Table.c changes one of them. -/
theorem C05_table_source_good : Cello.Table.GoodCfg tableCfgNow :=
  ⟨rfl, rfl, fun n => Cello.Table.idealSize_gt _ _ _ (by decide) (by decide) (by decide) n, rfl⟩

/-- the parts of src/Tree.c that the red-black model reads from the translator (node layout: key header, key, value header,
    value, the size `Tree_Alloc` reserves and the width of the `memcpy` of `Tree_Rem`; the comparison order and the
    directions of the four descent loops; the `self is obj` guard of `Tree_Assign`) are the ones the composition needs.
    Stops checking when src/Tree.c changes one of them (same statement as C03's `C03_current_source`, proved here from the
    generated definitions so that this file does not depend on Props/C03.lean). -/
theorem C05_tree_source_good : Cello.RB.SourceOk := by
  refine ⟨fun y => ?_, ⟨rfl, rfl, rfl, rfl⟩, rfl⟩
  simp only [Cello.RB.Lay.keyHdrOff, Cello.RB.Lay.keyOff, Cello.RB.Lay.valHdrOff, Cello.RB.Lay.valOff,
    Cello.RB.Lay.entryLen, Cello.RB.Lay.moveLen, Cello.RB.Lay.eval,
    CelloGen.Tree.keyHeaderOff, CelloGen.Tree.keyOff, CelloGen.Tree.valHeaderOff, CelloGen.Tree.valOff,
    CelloGen.Tree.allocSize, CelloGen.Tree.remMoveSize]
  and_intros <;> first | trivial | omega

open Conc in
/-- **C05_moves (Table).**  For every hash function, every slot array `t` that satisfies the robin-hood representation
    invariant for the pairs `kvs` (`AbsT`: stored home = hash % nslots, distinct keys, probe-distance order, `nitems` =
    occupied slots, an empty slot or no slots at all, the stored records are exactly `kvs`), every key, value and size:
    `Table_Set` (first growth of an emptied table, probing, displacement of residents through the two swap spaces or
    replacement of the resident with an equal key, `Table_Rehash` into the next prime), `Table_Rem` (backward shift,
    `Table_Rehash` into a smaller array) and `Table_Resize` (`Table_Clear` / refusal / `Table_Rehash`) on the slot-array
    model succeed (no division by zero, no endless probing), construct and finalise exactly the tokens the ownership
    model says (`ResRel`), leave a slot array that again satisfies the invariant for the ownership model's result, and
    **conserve the stored tokens**: `tokens in the slots afterwards ++ finalised ~ tokens in the slots before ++
    constructed`.  So no move of a record — rehash, displacement, back-shift — drops or duplicates an element. -/
theorem C05_moves_table (hash : Nat → Nat) {t : CTab} {kvs : List KV} (R : AbsT hash t kvs) (next k v n : Nat) :
    (∃ r, tableSetC tableCfgNow hash next t k v = .ok r ∧ ResRel (AbsT hash) r (tableSet next kvs k v) ∧
      Conserves (tabToks t) (tabToks r.val) r.issued r.retired ∧ FreshFrom next r.issued) ∧
    (∃ r, tableRemC tableCfgNow hash t k = .ok r ∧ ResRel (AbsT hash) r (mapRem kvs k) ∧
      Conserves (tabToks t) (tabToks r.val) r.issued r.retired ∧ r.issued = []) ∧
    (∃ r, tableResizeC tableCfgNow hash t n = .ok r ∧ ResRel (AbsT hash) r (mapResize .table kvs n) ∧
      Conserves (tabToks t) (tabToks r.val) r.issued r.retired ∧ r.issued = []) := by
  have g := C05_table_source_good
  have lift := fun {r a} (h : ResRel (AbsT hash) r a) hc =>
    conserves_lift (toks := tabToks) (fun _ _ h => tabToks_perm h) R h hc
  refine ⟨?_, ?_, ?_⟩
  · obtain ⟨r, e, h⟩ := tableSetC_refines g R next k v
    have hc := tableSet_spec next kvs k v
    exact ⟨r, e, h, lift h hc.1, by rw [h.2.1]; exact hc.2⟩
  · obtain ⟨r, e, h⟩ := tableRemC_refines g R k
    have hc := (mapRem_spec kvs k).1
    exact ⟨r, e, h, lift h hc.1, by rw [h.2.1]; exact hc.2⟩
  · obtain ⟨r, e, h⟩ := tableResizeC_refines g R n
    have hc := (mapResize_spec .table kvs n).1
    exact ⟨r, e, h, lift h hc.1, by rw [h.2.1]; exact hc.2⟩

open Conc in
/-- **C05_moves (Table): the pure moves by themselves.**  On a slot array that satisfies the representation invariant
    (`Rep0`): `Table_Rehash` into any array with room (more slots than items) re-inserts every record: the fresh array holds
    exactly the same pairs of tokens; and `Table_Set_Move` of a record with a new key into an array with a free slot,
    carried past the residents it displaces, leaves the old records and the new one. -/
theorem C05_moves_table_rehash_displace (hash : Nat → Nat) {t : CTab} {m : Cello.Table.Spec Nat KV}
    (R : Cello.Table.Rep0 hash t m) :
    (∀ newSize, t.nitems < newSize →
      ∃ t', Cello.Table.rehash tableCfgNow hash t newSize = .ok t' ∧ t'.n = newSize ∧ slotKVs t' ~ slotKVs t) ∧
    (∀ k kv, t.nitems < t.n → (∀ v, (k, v) ∉ m) →
      ∃ t', Cello.Table.setMove tableCfgNow hash t k kv = .ok t' ∧ slotKVs t' ~ kv :: slotKVs t) :=
  ⟨fun newSize h => rehash_moves R newSize h, fun k kv hroom hfresh => setMove_moves rfl R hroom k kv hfresh⟩

open Conc in
/-- **C05_moves (Tree).**  For every valid red-black tree `m` over probe elements (black root, no red node with a red
    child, equal black heights, strictly descending keys, `nitems` = number of nodes) that holds the pairs `kvs`, all
    of them constructed (`hraw`: no identity 0, the identity of a zero-filled record), every key, value and size:
    `Tree_Set` (descent; in-place assignment onto the node with an equal key, or a fresh node and `Tree_Set_Fix`:
    recolouring and rotations along the parent chain), `Tree_Rem` (the predecessor's block copied into a node with two
    children, the spliced-out node unlinked, `Tree_Rem_Fix`: sibling rotations and recolourings) and `Tree_Resize` on the
    red-black model never dereference NULL, construct / assign in place / finalise exactly the tokens the ownership
    model says, leave a valid tree that holds the ownership model's result, and conserve the stored tokens.  So no
    rotation and no predecessor copy drops or duplicates an element. -/
theorem C05_moves_tree {m : CTree} {kvs : List KV} (R : AbsR m kvs) (hraw : 0 ∉ ids (kvToks kvs)) (next k v n : Nat) :
    (∃ r, treeSetC next m k v = some r ∧ ResRel AbsR r (treeSet next kvs k v) ∧
      Conserves (treeToks m) (treeToks r.val) r.issued r.retired ∧ FreshFrom next r.issued) ∧
    (∃ r, treeRemC m k = some r ∧ ResRel AbsR r (mapRem kvs k) ∧
      Conserves (treeToks m) (treeToks r.val) r.issued r.retired ∧ r.issued = []) ∧
    (ResRel AbsR (treeResizeC m n) (mapResize .tree kvs n) ∧
      Conserves (treeToks m) (treeToks (treeResizeC m n).val) (treeResizeC m n).issued (treeResizeC m n).retired) := by
  have lift := fun {r a} (h : ResRel AbsR r a) hc =>
    conserves_lift (toks := treeToks) (fun _ _ h => treeToks_perm h) R h hc
  refine ⟨?_, ?_, ?_⟩
  · obtain ⟨r, e, h⟩ := treeSetC_refines C05_tree_source_good R next k v
    have hc := treeSet_spec next kvs k v hraw
    exact ⟨r, e, h, lift h hc.1, by rw [h.2.1]; exact hc.2⟩
  · obtain ⟨r, e, h⟩ := treeRemC_refines C05_tree_source_good R k
    have hc := (mapRem_spec kvs k).1
    exact ⟨r, e, h, lift h hc.1, by rw [h.2.1]; exact hc.2⟩
  · have h := treeResizeC_refines R n
    exact ⟨h, lift h (mapResize_spec .tree kvs n).1.1⟩

open Conc in
/-- **C05_moves (Tree): the pure moves by themselves.**  `Tree_Set_Fix` returns a tree with the in-order sequence of the
    tree it was given; `Tree_Rem_Fix` returns a parent chain that surrounds any subtree with the same pairs; and the block
    `header | key | header | value` that `Tree_Rem` copies from the predecessor decodes, at the node's key / value
    offsets, to exactly the predecessor's two elements — payload and identity — whatever the header width. -/
theorem C05_moves_tree_rotate_copy :
    (∀ (t t' : Cello.RB.T Tok Tok) (p : Cello.RB.Path Tok Tok), Cello.RB.setFix t p = some t' →
      Cello.RB.toList t' = Cello.RB.toList (Cello.RB.plug t p)) ∧
    (∀ (p p' : Cello.RB.Path Tok Tok) (t : Cello.RB.T Tok Tok), Cello.RB.remFix p = some p' →
      Cello.RB.toList (Cello.RB.plug t p') = Cello.RB.toList (Cello.RB.plug t p)) ∧
    (∀ (hdr : Nat) (dst src : KV), Cello.RB.relocate (⟨hdr, 2, 2⟩ : Cello.RB.Lay) dst src = some src) :=
  ⟨fun t t' p h => setFix_moves t p t' h, fun p p' t h => remFix_moves p p' h t, relocate_moves C05_tree_source_good.layout⟩

open Conc in
/-- **C05_moves: histories.**  Every history of `set / rem / resize / assign-from-another-map` on one Table, from
    `new(Table, K, V)` on (or from any slot array satisfying the invariant), and on one Tree, from the empty tree on (or
    from any valid tree): the structural model never fails and, step by step, issues / finalises / assigns in place
    exactly what the ownership model of Cello/Own.lean does, and holds exactly its contents (`Forall₂ ResRel`).  This is
    what licenses `C05_history_partial` — stated over the association lists — for the real layouts. -/
theorem C05_moves_histories (hash : Nat → Nat) (ops : List MOp) (next : Nat) :
    (∀ (t : CTab) (kvs : List KV), AbsT hash t kvs →
      ∃ rs, tableRunC tableCfgNow hash next t ops = .ok rs ∧
        List.Forall₂ (ResRel (AbsT hash)) rs (absRun .table next kvs ops)) ∧
    (∀ (m : CTree) (kvs : List KV), AbsR m kvs →
      ∃ rs, treeRunC next m ops = some rs ∧ List.Forall₂ (ResRel AbsR) rs (absRun .tree next kvs ops)) ∧
    AbsT hash (Cello.Table.new tableCfgNow) [] ∧ AbsR treeEmpty [] :=
  ⟨fun t kvs R => tableRunC_refines C05_table_source_good ops next t kvs R,
   fun m kvs R => treeRunC_refines C05_tree_source_good ops next m kvs R,
   Cello.Table.new_rep _ C05_table_source_good hash, absR_empty⟩

open Conc in
/-- **C05_moves: constructors.**  `new(Table/Tree, K, V, k1, v1, …)` with any initial pairs (repeated keys
    included: the insertion loop of `Table_New` takes the replace branch, `Tree_Set` assigns in place) on the structural
    models = `mapSetMany` of the ownership model from the empty map.  (Assignment from another map is the `MOp.assign`
    step of `C05_moves_histories`.) -/
theorem C05_moves_constructors (hash : Nat → Nat) (next : Nat) (ps : List (Nat × Nat)) :
    (∃ r, tableNewC tableCfgNow hash next ps = .ok r ∧ ResRel (AbsT hash) r (mapSetMany .table next [] ps)) ∧
    (∃ r, treeFillC next treeEmpty ps = some r ∧ ResRel AbsR r (mapSetMany .tree next [] ps)) :=
  ⟨tableNewC_refines C05_table_source_good next ps, treeFillC_refines C05_tree_source_good ps next treeEmpty [] absR_empty⟩

/-- **C05_moves (Array).**  The second sentence of the property for Array.c — growth and shrink (`realloc` into a new
    block of `nitems + nitems/2` resp. `nitems` records), the `memmove` of `push_at` / `pop_at` / `rem`, the in-place record
    write of `set`, the record exchanges of `sort` — by composition with the STORE-level Array of property C04
    (Cello/SeqStore.lean `ArrS`: cells, `memmove` as an index-range copy, `realloc` as a fresh block; validated cell by
    cell against the C code by the C04 engine) instantiated with token-valued records.  From any store state `s` holding a
    list-level Array `a` (`ArrS.Abs`; `new(Array, T, …)` is one: second conjunct) whose records are all constructed (`hraw`:
    no identity 0, the identity of a zero-filled record), for every operation `op` of `SOp` (push, push_at, pop, pop_at,
    set, rem, resize, sort, concat, assign) with any argument: the store-level step never reads an unwritten or
    out-of-block cell, succeeds exactly when the ownership step of Cello/Own.lean does, ends in a state that again
    satisfies `Abs`, and **the records in use afterwards are the ownership step's contents** (equal; for `sort` a
    permutation: the two quicksort transcriptions are not identified), so `records after ++ finalised ~ records before
    ++ constructed` — no move drops or duplicates an element.  (List.c: not composed — the List steps of Cello/Own.lean
    remain list surgery, not tied to the `LstS` nodes of C04.) -/
theorem C05_moves_array {s : Cello.Seq.ArrS Tok} {a : Cello.Seq.Arr Tok} (h : s.Abs a) (next : Nat) (op : SOp)
    (hraw : 0 ∉ ids a.items) :
    (let r := arrayAbs next a.items op
     let c := arrStoreStep s (arrayStoreOp next a.items op)
     s.items? = some a.items ∧ c.2 ≠ .ub ∧ (c.2 = .ok () ↔ r.out = .ok) ∧
     ∃ l a', c.1.Abs a' ∧ c.1.items? = some l ∧ a'.items = l ∧ l ~ r.val ∧ (op ≠ .sort → l = r.val) ∧
       Conserves a.items l r.issued r.retired ∧ FreshFrom next r.issued) ∧
    (∀ xs : List Tok, (Cello.Seq.ArrS.new xs).Abs (Cello.Seq.Arr.new xs)) :=
  ⟨arrayMoves h next op hraw, fun xs => Cello.Seq.ArrS.new_abs xs⟩

/-- the store-level Array on a concrete run: three records in a block of three; `push_at` at position 1 grows the block
    to 6 cells (`realloc`), moves two records up (`memmove`) and writes the new one; `pop_at 0` moves three records down -/
example :
    let s0 := Cello.Seq.ArrS.new [(⟨1, 5⟩ : Tok), ⟨2, 3⟩, ⟨3, 7⟩]
    let s1 := (arrStoreStep s0 (arrayStoreOp 4 [⟨1, 5⟩, ⟨2, 3⟩, ⟨3, 7⟩] (.pushAt 1 9))).1
    let s2 := (arrStoreStep s1 (arrayStoreOp 5 [⟨1, 5⟩, ⟨4, 9⟩, ⟨2, 3⟩, ⟨3, 7⟩] (.popAt 0))).1
    s1.items? = some [⟨1, 5⟩, ⟨4, 9⟩, ⟨2, 3⟩, ⟨3, 7⟩] ∧ s1.cells.size = 6 ∧
    s2.items? = some [⟨4, 9⟩, ⟨2, 3⟩, ⟨3, 7⟩] ∧
    (arrayAbs 5 [⟨1, 5⟩, ⟨4, 9⟩, ⟨2, 3⟩, ⟨3, 7⟩] (.popAt 0)).retired = [⟨1, 5⟩] := by decide

/-- **C05_history.** For every history of in-contract operations over any number of containers of all kinds
    (mutations, constructors, copies, assignments between containers of the same family and from an empty container of
    the other family, clears, deletions, failing calls), in the world `w` it leads to **after every operation** — a
    prefix of such a history being one (`C05_history_prefix`); nothing is stated about the states *inside* one
    operation —
      * every operation was executed (none was skipped as ill-formed: a history containing an operation the
        interpreters refuse is not in contract),
      * the elements ever constructed are exactly the finalised ones plus the ones held by the containers
        (live multiset = ⊎ of the container contents),
      * no identity was constructed twice, finalised twice, or is held in two places,
      * nothing finalised is still contained, nothing was finalised that was not constructed;
    and after deleting every container nothing is held and every element ever constructed has been finalised
    exactly once. -/
theorem C05_history_partial (ops : List Op) (h : allInContract {} ops) :
    let w := (run {} ops).1
    (w.issuedLog ~ w.retiredLog ++ allIds w.objs) ∧
    w.issuedLog.Nodup ∧ w.retiredLog.Nodup ∧ (allIds w.objs).Nodup ∧
    (∀ i ∈ w.retiredLog, i ∉ allIds w.objs) ∧ (∀ i ∈ w.retiredLog, i ∈ w.issuedLog) ∧
    (∀ o ∈ (run {} ops).2, o.bad = false) ∧ allInContract w (delAllOps w) ∧
    (let e := (run w (delAllOps w)).1
     e.objs = [] ∧ e.retiredLog ~ e.issuedLog ∧ e.retiredLog.Nodup ∧ ∀ i ∈ w.issuedLog, i ∈ e.retiredLog) := by
  have hinv := run_inv inv_init ops h.nkf
  exact ⟨hinv.cons, hinv.nodup, inv_retired_nodup hinv, inv_contents_nodup hinv, inv_disjoint hinv,
    inv_retired_issued hinv, allInContract_noBad h, delAll_spec hinv⟩

/-- a prefix of an in-contract history is an in-contract history (so `C05_history_partial` speaks about every step) -/
theorem C05_history_prefix (ops : List Op) (n : Nat) (h : allInContract {} ops) : allInContract {} (ops.take n) := by
  have := (allInContract_append (w := {}) (ops := ops.take n) (ops' := ops.drop n)).mp (by simpa using h)
  exact this.1

/-- number of live elements = sum of the container sizes, after every operation of an in-contract history
    (`toks.length` of a sequence is its `len`, of a map twice its `len` — an entry is two elements, key and value —, of a
    Box one: by definition of `Cont.toks` / `Cont.len`).  `liveCount` is a truncated subtraction: the equation is derived
    from the multiset equation `Inv.cons`, not from the subtraction. -/
theorem C05_live_count_partial (ops : List Op) (h : allInContract {} ops) :
    let w := (run {} ops).1
    liveCount w = (w.objs.map (fun cx => cx.2.toks.length)).sum ∧ w.retiredLog.length ≤ w.issuedLog.length :=
  inv_liveCount (run_inv inv_init ops h.nkf)

/-- the full statement of the history theorem: the same for *every* history -/
def C05_history_statement : Prop :=
  ∀ ops : List Op,
    let w := (run {} ops).1
    (w.issuedLog ~ w.retiredLog ++ allIds w.objs) ∧ (∀ i ∈ w.retiredLog, i ∉ allIds w.objs)

/-- **C05_never_while_contained.** An element finalised by an in-contract operation is in no container afterwards,
    and never again in the rest of an in-contract history; and what an operation finalises was held by a container
    before the operation or was constructed by this very operation (the argument of a refused insertion into a
    container of Box, which the caller deletes). -/
theorem C05_never_while_contained_partial {w : World} (hinv : Inv w) (op : Op) (hin : inContract w op = true)
    (later : List Op) (hlater : allInContract (step w op).1 later) :
    ∀ t ∈ (step w op).2.retired,
      t.id ∉ allIds (step w op).1.objs ∧ t.id ∉ allIds (run (step w op).1 later).1.objs ∧
      (t.id ∈ allIds w.objs ∨ t.id ∈ ids (step w op).2.issued) := by
  intro t ht
  have hs := step_ok hinv op (inContract_nkf hin)
  have hid : t.id ∈ ids (step w op).2.retired := List.mem_map_of_mem ht
  have hlog : t.id ∈ (step w op).1.retiredLog := by rw [hs.retired]; exact List.mem_append_left _ hid
  refine ⟨inv_disjoint hs.inv _ hlog, ?_, ?_⟩
  · exact inv_disjoint (run_inv hs.inv later hlater.nkf) _ ((run_logs_mono hs.inv later hlater.nkf).1 _ hlog)
  · exact List.mem_append.mp (hs.cons.mem_iff.mp (List.mem_append_right _ hid))

/-- A refused in-contract operation (empty pop, bad index, absent element or key, refused resize, **an element / key /
    value of the wrong type**) assigns nothing and leaves every container as it was, and
      * on a container of probe elements it constructs nothing and finalises nothing;
      * on a container of Box (a refused `push_at`) the only element constructed is the pointee made for the call, and
        nothing but that pointee is finalised (the caller deletes it): no *stored* element changes hands on an error path;
      * a refused constructor (a wrong-typed initial element / key / value) binds no name, and the identities finalised
        when the half-built object is reclaimed are exactly the ones it constructed (a repeated key among the initial
        pairs of a Tree was assigned in place before the failing pair was reached: `updated` need not be empty there);
    — with exactly one exception, named by the last disjunct (`ListClearedRefused`): `assign(List, non-empty Table / Tree)`
    raises ValueError *after* `List_Clear`.  There the receiver HAS changed (that is C12's KF-C12-assign-clears), but the
    ownership accounting is intact: nothing constructed, nothing assigned in place, exactly the list's old elements
    finalised, the list empty, every other container the value it was (and `C05_conservation_partial`,
    `C05_history_partial`, `C05_live_count_partial` hold for it like for any other in-contract call).
    (`0 < w.next` holds in every world an in-contract history reaches: `Inv.pos`.  The one error path that did leak —
    List_Push_At — was repaired by 4077d96, see `C05_list_pushat_old_order_refuted`.) -/
theorem C05_refused_no_effect_partial {w : World} (hpos : 0 < w.next) (op : Op) (hin : inContract w op = true)
    (hr : (step w op).2.out ≠ .ok) :
    ((∀ e, lookup (step w op).1.objs e = lookup w.objs e) ∧
     (((step w op).2.updated = [] ∧ (step w op).2.issued = [] ∧ (step w op).2.retired = []) ∨
      ((step w op).2.updated = [] ∧ srcIsBox w op.target = true ∧
         ∃ t, (step w op).2.issued = [t] ∧ ∀ u ∈ (step w op).2.retired, u = t) ∨
      (op.isTypedCtor = true ∧ ids (step w op).2.retired ~ ids (step w op).2.issued))) ∨
    ListClearedRefused w op (step w op) := by
  rcases step_refused hpos op (inContract_nkf hin) hr with ⟨h1, h2, h3, h4⟩ | ⟨-, hb, ht, hu, hf⟩ | ⟨hc, hp, hf⟩ | hl
  · exact Or.inl ⟨h4, Or.inl ⟨h3, h1, h2⟩⟩
  · exact Or.inl ⟨hf, Or.inr (Or.inl ⟨hu, hb, ht⟩)⟩
  · exact Or.inl ⟨hf, Or.inr (Or.inr ⟨hc, hp⟩)⟩
  · exact Or.inr hl

/-- **assign(List, non-empty Table / Tree) is in the contract** (the finding KF-C05-array-assign-partial is
    `site=Array_Assign` only).  In any world satisfying the invariant, for a List `c` of probe elements and a non-empty
    Table / Tree `d`: the call is in contract, raises ValueError, constructs nothing, finalises exactly the elements the
    List held, leaves the List empty and the map untouched; identities are conserved and the invariant holds afterwards —
    so live = Σ len after the call (`C05_live_count_partial` applies to histories that contain it; `xfListAssign` below
    is one). -/
theorem C05_list_assign_from_map {w : World} (hinv : Inv w) {c d : Nat} {xs : List Tok} {mk : MapKind} {src : List KV}
    (hc : lookup w.objs c = some (.seq .list .probe xs)) (hd : lookup w.objs d = some (.map mk src)) (hne : src ≠ []) :
    let w' := (step w (.assign c d)).1
    let o := (step w (.assign c d)).2
    inContract w (.assign c d) = true ∧ o.out = .raised .valueError ∧ o.issued = [] ∧ o.updated = [] ∧ o.retired = xs ∧
    lookup w'.objs c = some (.seq .list .probe []) ∧ lookup w'.objs d = some (.map mk src) ∧
    allIds w'.objs ++ ids xs ~ allIds w.objs ∧ Inv w' := by
  intro w' o
  have hcd : c ≠ d := by intro h; rw [h, hd] at hc; cases hc
  have hlen : src.length ≠ 0 := fun h => hne (List.length_eq_zero_iff.mp h)
  have hnkf : noKnownFinding w (.assign c d) = true := by
    simp [noKnownFinding, srcIsBox, crossRefused, hc, hd, Cont.isBox, hcd]
  have hstep : step w (.assign c d) =
      commitSeq w c .list .probe { val := [], retired := xs, out := .raised .valueError } [c, d] false := by
    simp [step, hc, hd, hcd, seqAssignFromMap, hlen]; rfl
  have hin : inContract w (.assign c d) = true := by simp only [inContract, hnkf, hstep]; rfl
  have hs := step_ok hinv (.assign c d) hnkf
  have ho : o.out = .raised .valueError := by simp only [o, hstep]; rfl
  have hi : o.issued = [] := by simp only [o, hstep]; rfl
  have hu : o.updated = [] := by simp only [o, hstep]; rfl
  have hret : o.retired = xs := by simp only [o, hstep]; simp [commitSeq, commit, Res.unit]
  refine ⟨hin, ho, hi, hu, hret, ?_, ?_, ?_, hs.inv⟩
  · simp only [w', hstep]; exact commitSeq_lookup_self _ _ _ _ _ _ _
  · rw [← hd]; exact step_frame w (.assign c d) (Ne.symm hcd)
  · have := hs.cons
    rw [hret, hi] at this
    simpa using this

/-- **C05_refused_no_effect (type errors).**  A call with an element / key / value of the wrong type — an Int, a String,
    a Float, a Type object, NULL where the probe type is expected — outside the non-atomic territory (`typedAtomic`: not
    Array_Push / Array_Push_At past its bounds check / Array_Concat / Array_New, not List_Concat after well-typed items)
    and executed (not `bad`: the receiver exists and is a container of probe elements) is **always refused** — never
    accepted, whatever the container holds — and
      * push, push_at, set, rem on a List; set, rem and a push_at with a bad index on an Array; concat whose first item
        is wrong-typed; set with a wrong-typed key and/or value (existing key or new key) and rem with a wrong-typed key
        on a Table and on a Tree: nothing is constructed, nothing finalised, nothing assigned in place, every container
        is the value it was;
      * a constructor of a List, Table or Tree with a wrong-typed initial element / key / value: no name is bound, every
        container is the value it was, and the identities finalised are exactly the identities constructed. -/
theorem C05_refused_no_effect_type {w : World} (hpos : 0 < w.next) (c : Nat) (t : TCall) (hw : t.hasWrong = true)
    (hat : typedAtomic w c t = true) (hb : (step w (.typed c t)).2.bad = false) :
    (step w (.typed c t)).2.out ≠ .ok ∧ (∀ e, lookup (step w (.typed c t)).1.objs e = lookup w.objs e) ∧
    (((step w (.typed c t)).2.issued = [] ∧ (step w (.typed c t)).2.retired = [] ∧ (step w (.typed c t)).2.updated = []) ∨
     (t.isCtor = true ∧ ids (step w (.typed c t)).2.retired ~ ids (step w (.typed c t)).2.issued)) := by
  have hr := typed_wrong_refused (w := w) (c := c) hw hb
  refine ⟨hr, ?_⟩
  rcases step_refused hpos (.typed c t) hat hr with ⟨h1, h2, h3, h4⟩ | ⟨⟨_, _, _, he⟩, _⟩ | ⟨hc, hp, hf⟩ | ⟨_, _, _, _, he, _⟩
  · exact ⟨h4, Or.inl ⟨h1, h2, h3⟩⟩
  · cases he
  · exact ⟨hf, Or.inr ⟨Op.isTypedCtor_typed c t ▸ hc, hp⟩⟩
  · cases he

/-- **the non-atomic territory is exact.**  For an executed call with a wrong-typed argument, `typedAtomic` holds *exactly*
    when the call has no effect (every container the value it was; nothing constructed or finalised, or — a constructor —
    finalised = constructed).  So the type-refused calls that are NOT atomic are precisely: `push` on an Array,
    `push_at` on an Array at an index its bounds check accepts, `concat` onto an Array (any wrong-typed item), `new(Array, …)`
    — the array counts records that were never constructed: KF-C12-array-push-type (Array_Push / Array_Push_At /
    Array_Concat, recorded under C12) and own-array-new-partial — and `concat` onto a List when well-typed items precede
    the wrong one (they stay: KF-C12-list-concat-partial).  Nothing else is excluded from the contract for a type error,
    and nothing that leaves an effect is included. -/
theorem C05_type_refused_atomic_exact {w : World} (hpos : 0 < w.next) (c : Nat) (t : TCall) (hw : t.hasWrong = true)
    (hb : (step w (.typed c t)).2.bad = false) :
    typedAtomic w c t = true ↔ TypedNoEffect w t (step w (.typed c t)) := by
  constructor
  · intro hat
    obtain ⟨_, hf, h⟩ := C05_refused_no_effect_type hpos c t hw hat hb
    exact ⟨hf, h.imp (fun h => ⟨h.1, h.2.1⟩) id⟩
  · intro h
    cases hat : typedAtomic w c t
    · exact absurd h (typed_not_atomic_effect hw hb hat)
    · rfl

/-- the same at the level of one container, for **every** input (no contract): what each type-refused call does to the
    contents.  The atomic ones (a map `set` counts when key and value are not both well-typed) return the contents they
    were given and construct / finalise nothing; List_Concat keeps the well-typed items before the wrong one — and still
    conserves identities; a refused List / Table / Tree constructor finalises exactly what it constructed (`0 < next`:
    the identities it hands out are not 0). -/
theorem C05_conservation_type_refused (mk : MapKind) (next : Nat) (xs : List Tok) (kvs : List KV) (i : Int)
    (args : List Arg) (k v : Arg) (pairs : List (Arg × Arg)) (hnext : 0 < next) :
    (listPushWrong xs).inert xs ∧ (listPushAtWrong xs i).inert xs ∧ (seqSetWrong xs i).inert xs ∧ (seqRemWrong xs).inert xs ∧
    ((¬ ∃ a b, k = .pay a ∧ v = .pay b) → (mapSetArgs mk next kvs k v).inert kvs) ∧ (mapRemWrong kvs).inert kvs ∧
    (let r := listConcatArgs next xs args; Conserves xs r.val r.issued r.retired ∧ FreshFrom next r.issued) ∧
    (let r := listNewRefused next args; Conserves [] [] r.issued r.retired ∧ FreshFrom next r.issued) ∧
    (let r := mapNewRefused mk next pairs; Conserves [] [] r.issued r.retired ∧ FreshFrom next r.issued) := by
  refine ⟨inert_refused _ _, ?_, ?_, inert_refused _ _, fun h => ?_, inert_refused _ _, listConcatArgs_spec _ _ _,
    ⟨(listNewRefused_spec next args).1, (listNewRefused_spec next args).2.1⟩, mapNewRefused_spec mk next pairs hnext⟩
  · obtain ⟨e, he⟩ := listPushAtWrong_refused xs i; rw [he]; exact inert_refused _ _
  · obtain ⟨e, he⟩ := seqSetWrong_refused xs i; rw [he]; exact inert_refused _ _
  · rw [mapSetArgs_refused h]; exact inert_refused _ _

/-- the full statement: *every* executed call with a wrong-typed argument is refused without any effect -/
def C05_refused_no_effect_type_statement : Prop :=
  ∀ (w : World) (c : Nat) (t : TCall), t.hasWrong = true → (step w (.typed c t)).2.bad = false →
    ∀ e, (lookup (step w (.typed c t)).1.objs e).map Cont.toks = (lookup w.objs e).map Cont.toks

/-- …fails where the container makes room before the element's own type check runs.  Array_Push of an Int into an Array
    of probes raises ValueError and leaves the array one zero-filled, never constructed record longer (this is
    KF-C12-array-push-type, recorded under C12; the model mirrors it, `typedAtomic` keeps it out of the contract and
    generated inputs stay out of it). -/
theorem C05_refused_no_effect_type_refuted : ¬ C05_refused_no_effect_type_statement := by
  intro h
  have := h (run {} [.new 0 .arr, .push 0 5]).1 0 (.push .int) rfl (by decide) 0
  revert this; decide

/-- the full statement about refused constructors: what the half-built container's reclamation finalises is exactly
    what the constructor had constructed -/
def C05_ctor_refused_statement : Prop :=
  ∀ (w : World) (c : Nat) (t : TCall), t.isCtor = true → t.hasWrong = true → (step w (.typed c t)).2.bad = false →
    (step w (.typed c t)).2.retired ~ (step w (.typed c t)).2.issued

/-- …fails for Array_New (known-finding territory own-array-new-partial): `nitems` and the `malloc` come before the
    loop, so `new(Array, T, a, WRONG, b)` leaves a half-built array whose Array_Del — run by the collector — destructs
    three records of which one was constructed: the zero-filled record of the wrong element and the uninitialised one
    after it are passed to `destruct` as well. -/
theorem C05_array_new_partial_refuted : ¬ C05_ctor_refused_statement := by
  intro h
  have := (h {} 0 (.newSeq .array [.pay 1, .wrong .int, .pay 2]) rfl rfl (by decide)).length_eq
  revert this; decide

/-- the non-atomic territory, operation by operation, on concrete witnesses (the model mirrors the code):
    Array_Push, Array_Push_At (accepted index), Array_Concat (a wrong-typed item after one well-typed: the record of the
    wrong item and of the item after it are counted but never constructed) raise ValueError with `len` counting raw
    records; a refused Array_New runs destructors on records that were never constructed; List_Concat keeps the
    well-typed items before the wrong one (ownership stays consistent: 3 live, 3 held). -/
theorem C05_type_refused_not_atomic_witnesses :
    (let w := (run {} [.new 0 .arr, .push 0 5, .typed 0 (.push .int)]).1
     liveCount w = 1 ∧ (w.objs.map (fun cx => cx.2.len)).sum = 2) ∧
    (let w := (run {} [.new 0 .arr, .push 0 5, .typed 0 (.pushAt 0 .str)]).1
     liveCount w = 1 ∧ (w.objs.map (fun cx => cx.2.len)).sum = 2) ∧
    (let w := (run {} [.new 0 .arr, .push 0 5, .typed 0 (.concat [.pay 7, .wrong .null, .pay 8])]).1
     liveCount w = 2 ∧ (w.objs.map (fun cx => cx.2.len)).sum = 4) ∧
    (let o := (step {} (.typed 0 (.newSeq .array [.pay 1, .wrong .int, .pay 2]))).2
     o.out = .raised .valueError ∧ o.issued.length = 1 ∧ o.retired.length = 3) ∧
    (let r := run {} [.new 0 .lst, .push 0 5, .typed 0 (.concat [.pay 7, .pay 8, .wrong .type, .pay 9])]
     (r.2.map (·.out)) = [.ok, .ok, .raised .valueError] ∧ liveCount r.1 = 3 ∧ (r.1.objs.map (fun cx => cx.2.len)).sum = 3) := by
  decide

/-- the full statement of "never while contained" (`C05_never_while_contained_partial`), for every history
    (refuted by `C05_never_while_contained_refuted`) -/
def C05_never_while_contained_statement : Prop :=
  ∀ (ops : List Op), ∀ i ∈ (run {} ops).1.retiredLog, i ∉ allIds (run {} ops).1.objs

/-- **C05_deep (copy).** `copy` of a container of probe elements (any kind), bound to a free name, constructs exactly
    one fresh element per source element, with the source's payloads, finalises nothing, the new container holds exactly
    these elements, none of which is an element of the source, and the source is unchanged. -/
theorem C05_deep_partial {w : World} (hinv : Inv w) {c d : Nat} {x : Cont}
    (hc : c < maxConts) (hfree : lookup w.objs c = none) (hd : lookup w.objs d = some x) (hbox : x.isBox = false) :
    let w' := (step w (.copy c d)).1
    let o := (step w (.copy c d)).2
    ∃ y, lookup w'.objs c = some y ∧ y.toks ~ o.issued ∧ o.issued.map (·.pay) = x.toks.map (·.pay) ∧
      FreshFrom w.next o.issued ∧ o.retired = [] ∧ lookup w'.objs d = some x ∧
      (∀ i ∈ ids y.toks, i ∉ ids x.toks) := by
  intro w' o
  have hdc : d ≠ c := by intro h; rw [h, hfree] at hd; cases hd
  have hguard : ¬ (c ≥ maxConts ∨ (lookup w.objs c).isSome = true) := by simp [hfree]; exact hc
  -- `copy` is `assign` onto a new, empty container
  cases x with
  | cell t => simp [Cont.isBox] at hbox
  | seq k ek src =>
    cases ek with
    | box => simp [Cont.isBox] at hbox
    | probe => simp only [w', o, step, hguard, if_false, hd]; exact deep_seq hinv c k [] hd hdc [c, d]
  | map k src => simp only [w', o, step, hguard, if_false, hd]; exact deep_map hinv c k [] hd hdc [c, d]

/-- **C05_deep (assign).** `assign(c, d)` between two different containers of the same family (Array↔List, Table↔Tree,
    probe elements) finalises exactly what `c` held, constructs one fresh element per element of `d` with the same
    payloads, after which `c` holds exactly these, none of them an element of `d`, and `d` is unchanged. -/
theorem C05_deep_assign_partial {w : World} (hinv : Inv w) {c d : Nat} {x y : Cont} (hcd : c ≠ d)
    (hc : lookup w.objs c = some y) (hd : lookup w.objs d = some x) (hbx : x.isBox = false) (hby : y.isBox = false)
    (hfam : (∃ k ek xs k' ek' ys, y = .seq k ek xs ∧ x = .seq k' ek' ys) ∨ (∃ k kvs k' src, y = .map k kvs ∧ x = .map k' src)) :
    let w' := (step w (.assign c d)).1
    let o := (step w (.assign c d)).2
    ∃ z, lookup w'.objs c = some z ∧ z.toks ~ o.issued ∧ o.issued.map (·.pay) = x.toks.map (·.pay) ∧
      FreshFrom w.next o.issued ∧ o.retired = y.toks ∧ lookup w'.objs d = some x ∧
      (∀ i ∈ ids z.toks, i ∉ ids x.toks) := by
  intro w' o
  rcases hfam with ⟨k, ek, xs, k', ek', src, rfl, rfl⟩ | ⟨k, kvs, k', src, rfl, rfl⟩
  · cases ek' with
    | box => simp [Cont.isBox] at hbx
    | probe =>
      cases ek with
      | box => simp [Cont.isBox] at hby
      | probe => simp only [w', o, step, hc, hd, hcd, if_false]; exact deep_seq hinv c k xs hd (Ne.symm hcd) [c, d]
  · simp only [w', o, step, hc, hd, hcd, if_false]; exact deep_map hinv c k kvs hd (Ne.symm hcd) [c, d]

/-- **C05_deep (independence).** Whatever is done to other containers — in contract or not — a container that no
    operation of the history is applied to is the same value afterwards.  (This is the frame property of the model, in
    which containers are separate values; that the *code* has it — no operation reaches into another container's
    storage — is what the per-operation comparison of all container contents (`dig`) checks, and what F28 violates for
    Box.  The content of "deep" is the freshness conjunct of `C05_deep_partial` / `C05_deep_assign_partial`.) -/
theorem C05_deep_independent (w : World) (ops : List Op) (d : Nat) (h : ∀ op ∈ ops, op.target ≠ d) :
    lookup (run w ops).1.objs d = lookup w.objs d := run_frame w ops d h

/-- …and no in-contract operation finalises an element of a container it is not applied to. -/
theorem C05_deep_no_foreign_finalise {w : World} (hinv : Inv w) (op : Op) (hin : inContract w op = true)
    {e : Nat} {x : Cont} (he : e ≠ op.target) (hl : lookup w.objs e = some x) :
    ∀ t ∈ (step w op).2.retired, t.id ∉ ids x.toks := by
  intro t ht hx
  have hs := step_ok hinv op (inContract_nkf hin)
  have hl' : lookup (step w op).1.objs e = some x := by rw [← hl]; exact step_frame w op he
  have h1 : t.id ∈ allIds (step w op).1.objs := ids_sub_allIds hl' _ hx
  have h2 : t.id ∈ (step w op).1.retiredLog := by
    rw [hs.retired]; exact List.mem_append_left _ (List.mem_map_of_mem ht)
  exact inv_disjoint hs.inv _ h2 h1

/-- the full statement of deep copying, for every kind of element -/
def C05_deep_statement : Prop :=
  ∀ (ops : List Op) (c d : Nat), lookup (run {} ops).1.objs c = none → c < maxConts →
    ∀ x, lookup (run {} ops).1.objs d = some x →
      ∀ y, lookup (step (run {} ops).1 (.copy c d)).1.objs c = some y → ∀ i ∈ ids y.toks, i ∉ ids x.toks

/-! ## Aliased arguments: stored objects passed back into a container

`set(t, k, get(t, k))`, `foreach (key in t) rem(t, key)`, `push(l, get(l, 0))`, `set(a, i, get(a, j))`,
`set(t, key_from_iteration, get(u, other))`: the element / key / value argument is an object that lives in a container's
own storage (Cello/OwnAlias.lean: `Ref`, `Src`, `stepAliased`; the argument is read when the code reads it). -/

/-- **C05_aliased_as_resolved.**  For every world, every receiver and every aliased call (push, push_at, set, rem on an
    Array / List; set, rem on a Table / Tree; each argument a fresh object or a reference to an element, key object or value
    object of the receiver itself or of any other container): the call is either not executed by the op-file interpreters
    (`bad`: the receiver is not a container of probe elements, a reference designates nothing, an Array is pushed an element
    of itself — KF-C04-push-own-element) or it does to the world exactly what the plain call does whose arguments are fresh
    objects with the payloads the references resolve to BEFORE the call — although the model reads an argument that lies in
    the receiver when the code reads it (`treeSetSrc`: the value argument after the key was assigned in place). -/
theorem C05_aliased_as_resolved (w : World) (c : Nat) (t : ACall) :
    stepAliased w c t = (match lowerCall w c t with
      | some op => step w op
      | none => badOp w) := by
  rw [stepAliased_lower]; rfl

/-- at the level of one map, for every contents and every pair of arguments (no contract): `Table_Set` / `Tree_Set` with
    stored objects as arguments = the same with the payloads read from the map as it was before the call -/
theorem C05_aliased_map_set_reads (mk : MapKind) (next : Nat) (kvs : List KV) (ka va : Src) :
    mapSetSrc mk next kvs ka va =
      (match ka.read (.map mk kvs), va.read (.map mk kvs) with
       | some k, some v => some (mapSet mk next kvs k v)
       | _, _ => none) := mapSetSrc_eq mk next kvs ka va

/-- **C05_conservation for aliased calls**: every in-contract operation of an op file — plain or aliased — conserves
    identities over all containers, hands out fresh identities, logs what it constructed and finalised and re-establishes
    the invariant. -/
theorem C05_conservation_aliased_partial {w : World} (hinv : Inv w) (a : AOp) (hin : inContractA w a = true) :
    let w' := (stepA w a).1
    let o := (stepA w a).2
    allIds w'.objs ++ ids o.retired ~ allIds w.objs ++ ids o.issued ∧
    FreshFrom w.next o.issued ∧
    w'.issuedLog = ids o.issued ++ w.issuedLog ∧ w'.retiredLog = ids o.retired ++ w.retiredLog ∧
    Inv w' := by
  obtain ⟨op, _, hc, hs⟩ := inContractA_lower hin
  rw [hs]
  exact C05_conservation_partial hinv op hc

/-- **C05_history for histories with aliased calls.**  Every history of in-contract operations in which any element / key
    / value argument may be a stored object (of the receiver or of another container): after every operation the elements
    ever constructed are exactly the finalised ones plus the ones the containers hold, no identity was constructed or
    finalised twice or is held in two places, nothing finalised is still contained, every operation was executed, live
    count = Σ sizes; and after deleting every container every element ever constructed has been finalised exactly once. -/
theorem C05_history_aliased_partial (ops : List AOp) (h : allInContractA {} ops) :
    let w := (runA {} ops).1
    (w.issuedLog ~ w.retiredLog ++ allIds w.objs) ∧
    w.issuedLog.Nodup ∧ w.retiredLog.Nodup ∧ (allIds w.objs).Nodup ∧
    (∀ i ∈ w.retiredLog, i ∉ allIds w.objs) ∧ (∀ i ∈ w.retiredLog, i ∈ w.issuedLog) ∧
    (∀ o ∈ (runA {} ops).2, o.bad = false) ∧
    liveCount w = (w.objs.map (fun cx => cx.2.toks.length)).sum ∧
    (let e := (run w (delAllOps w)).1
     e.objs = [] ∧ e.retiredLog ~ e.issuedLog ∧ e.retiredLog.Nodup ∧ ∀ i ∈ w.issuedLog, i ∈ e.retiredLog) := by
  obtain ⟨e, hc, _⟩ := runA_lower h
  have h1 := C05_history_partial _ hc
  have h2 := C05_live_count_partial _ hc
  rw [e]
  exact ⟨h1.1, h1.2.1, h1.2.2.1, h1.2.2.2.1, h1.2.2.2.2.1, h1.2.2.2.2.2.1, h1.2.2.2.2.2.2.1, h2.1, h1.2.2.2.2.2.2.2.2⟩

/-- the store-back idiom `set(t, k, get(t, k))`, as a statement about a model `f` of `set` with `Src` arguments: whenever
    the map holds a (constructed) pair under `k`, passing the stored value back — with a fresh key object — is executed,
    finalises nothing, constructs nothing, and the value stored under `k` afterwards is the very same element. -/
def C05_store_back_statement (f : Nat → List KV → Src → Src → Option (Res (List KV))) : Prop :=
  ∀ (next k : Nat) (kvs : List KV) (old : KV) (rest : List KV), takeFirst (keyIs k) kvs = some (old, rest) →
    old.1.id ≠ 0 → old.2.id ≠ 0 →
    ∃ r, f next kvs (.obj k) (.own (.val k)) = some r ∧ r.retired = [] ∧ r.issued = [] ∧
      (Cont.map .tree r.val).pick (.val k) = some old.2

/-- **Tree_Set as it is** (`assign` key, then `assign` value, both in place) satisfies it: the contained element is
    assigned onto itself — never finalised while contained. -/
theorem C05_store_back_tree : C05_store_back_statement treeSetSrc := by
  intro next k kvs old rest h hk hv
  have hf := (takeFirst_eq_some h).1
  have hold : old.1.pay = k := (takeKey_some h).2
  have hr : (Src.own (.val k)).read (.map .tree kvs) = some old.2.pay := by simp [Src.read, Cont.pick, hf]
  have e := treeSetSrc_eq next kvs (.obj k) (.own (.val k))
  rw [hr] at e
  simp only [Src.read] at e
  refine ⟨_, e, ?_, ?_, ?_⟩
  · simp [treeSet, h]
  · simp [treeSet, h, assignProbe, hk, hv]
  · have h1 : (assignProbe next old.1 k).val = old.1 := by
      obtain ⟨⟨i1, p1⟩, v1⟩ := old
      simp only at hold hk
      simp [assignProbe, hk, hold]
    have h2 : (assignProbe (next + (assignProbe next old.1 k).issued.length) old.2 old.2.pay).val = old.2 := by
      obtain ⟨k1, ⟨i2, p2⟩⟩ := old
      simp only at hv
      simp [assignProbe, hv]
    simp only [treeSet, h, h1, h2, Cont.pick, find?_mapInsert]
    have : keyIs k old = true := by simp [keyIs, hold]
    simp [this]

/-- …whereas the order "destruct the old value, zero it, assign the new one" (seeded change c05_l: what Table does — but
    Table has copied both arguments into its swap space before) does NOT: with a Tree holding `5 ↦ 7`, `set(t, 5, get(t, 5))`
    finalises the contained value, reads zeroed bytes and constructs a blank element (payload 0) in its place. -/
theorem C05_tree_set_destruct_first_refuted : ¬ C05_store_back_statement treeSetDestructFirstSrc := by
  intro h
  obtain ⟨r, hr, hret, _⟩ := h 3 5 [(⟨1, 5⟩, ⟨2, 7⟩)] (⟨1, 5⟩, ⟨2, 7⟩) [] (by decide) (by decide) (by decide)
  have hw : (treeSetDestructFirstSrc 3 [(⟨1, 5⟩, ⟨2, 7⟩)] (.obj 5) (.own (.val 5))).map
      (fun r => (r.val, r.issued, r.retired)) = some ([(⟨1, 5⟩, ⟨3, 0⟩)], [⟨3, 0⟩], [⟨2, 7⟩]) := by decide
  rw [hr] at hw
  simp only [Option.map_some, Option.some.injEq, Prod.mk.injEq] at hw
  rw [hret] at hw
  exact absurd hw.2.2 (by decide)

/-- **Table_Set** with the stored value passed back (`set(t, k, get(t, k))` with a fresh key object, for every table that
    holds `k`): both arguments are copied into the swap space first — two fresh elements carrying the payloads read from
    the table as it was —, THEN the resident pair is finalised (once, and it is not contained afterwards) and replaced. -/
theorem C05_store_back_table (next k : Nat) (kvs : List KV) (old : KV) (rest : List KV)
    (h : takeFirst (keyIs k) kvs = some (old, rest)) :
    ∃ r, tableSetSrc next kvs (.obj k) (.own (.val k)) = some r ∧ r.retired = [old.1, old.2] ∧
      r.issued = [⟨next, k⟩, ⟨next + 1, old.2.pay⟩] ∧ (Cont.map .table r.val).pick (.val k) = some ⟨next + 1, old.2.pay⟩ := by
  have hf := (takeFirst_eq_some h).1
  have hr : (Src.own (.val k)).read (.map .table kvs) = some old.2.pay := by simp [Src.read, Cont.pick, hf]
  have e := tableSetSrc_eq next kvs (.obj k) (.own (.val k))
  rw [hr] at e
  refine ⟨tableSet next kvs k old.2.pay, e, by simp [tableSet, h], by simp [tableSet, h], ?_⟩
  simp [tableSet, h, Cont.pick, find?_mapInsert, keyIs]

/-- an op file with aliased calls of every shape, all executed: store-back on a Tree (in place: nothing finalised) and on a
    Table (replaced: the old pair finalised), the stored key object as key of `set` and of `rem`, a value object as key,
    elements of a List pushed / inserted / assigned / removed by reference to themselves, one Array record assigned onto
    another and onto itself, elements of other containers as arguments — 16 live elements, none lost -/
def demoAliased : List AOp :=
  [.base (.newMap 0 .tree [(5, 7), (3, 4)]), .aliased 0 (.mset (.pay 5) (.ref ⟨0, .val 5⟩)),
   .aliased 0 (.mset (.ref ⟨0, .key 3⟩) (.ref ⟨0, .val 5⟩)), .aliased 0 (.mset (.ref ⟨0, .val 3⟩) (.pay 9)),
   .base (.newMap 1 .table [(1000, 1), (5, 2)]), .aliased 1 (.mset (.pay 1000) (.ref ⟨1, .val 1000⟩)),
   .aliased 1 (.mset (.ref ⟨1, .key 5⟩) (.ref ⟨0, .val 5⟩)), .aliased 1 (.mrem ⟨1, .key 1000⟩),
   .base (.newSeq 2 .list [1, 2, 3]), .aliased 2 (.push ⟨2, .elem 0⟩), .aliased 2 (.pushAt 1 ⟨2, .elem (-1)⟩),
   .aliased 2 (.set 0 ⟨2, .elem 0⟩), .aliased 2 (.set 0 ⟨2, .elem 2⟩), .aliased 2 (.rem ⟨2, .elem 3⟩),
   .base (.newSeq 3 .array [7, 8, 9]), .aliased 3 (.set 0 ⟨3, .elem 1⟩), .aliased 3 (.set 1 ⟨3, .elem 1⟩),
   .aliased 3 (.rem ⟨3, .elem 2⟩), .aliased 3 (.push ⟨2, .elem 0⟩), .aliased 2 (.push ⟨3, .elem 0⟩),
   .aliased 0 (.mset (.ref ⟨2, .elem 0⟩) (.ref ⟨3, .elem 0⟩)), .aliased 0 (.mrem ⟨0, .key 3⟩)]

example : allInContractA {} demoAliased := by
  simp only [demoAliased, allInContractA]
  decide +kernel

example : liveCount (runA {} demoAliased).1 = 16 ∧ (runA {} demoAliased).2.all (fun o => !o.bad) = true ∧
    -- store-back on the Tree: nothing constructed, nothing finalised; on the Table: one pair each way
    ((runA {} demoAliased).2.map (fun o => (o.issued.length, o.retired.length, o.updated.length))).take 8 =
      [(4, 0, 0), (0, 0, 2), (0, 0, 2), (2, 0, 0), (4, 0, 0), (2, 2, 0), (2, 2, 0), (0, 2, 0)] := by
  decide +kernel

/-- an Array is not pushed an element of itself (the argument would be read after `Array_Reserve_More` / the `memmove`:
    KF-C04-push-own-element, C04): answered `bad`, outside the contract; the same call with an element of another
    container is executed -/
example : let w := (runA {} [.base (.newSeq 0 .array [1, 2]), .base (.newSeq 1 .list [3])]).1
    inContractA w (.aliased 0 (.push ⟨0, .elem 0⟩)) = false ∧ inContractA w (.aliased 0 (.pushAt 0 ⟨0, .elem 1⟩)) = false ∧
    inContractA w (.aliased 0 (.push ⟨1, .elem 0⟩)) = true ∧ inContractA w (.aliased 1 (.push ⟨1, .elem 0⟩)) = true := by
  decide

/-! ## Stored objects as operands of `concat` and of the constructors

`concat(l, tuple(get(l, 0), get(t, k), x))`, `new(List, Probe, get(l, 0), …)`, `new(Table, K, V, key_from_iteration, get(u, k), …)`:
SEVERAL operands at once, any of which may be a stored object (`ACall.concat / newSeq / newMap`).  `C05_aliased_as_resolved`,
`C05_conservation_aliased_partial` and `C05_history_aliased_partial` above quantify over every `ACall` and so cover them; the
theorems here are the List_Concat-specific content: the operands are read ONE BY ONE, each when its own push runs. -/

/-- **C05_concat_operands_read_when_pushed.**  For every world, every List `c` of probe elements and every operand list (fresh
    objects, elements / key objects / value objects of other containers, nodes of `c` itself by positive or negative index):
    List_Concat as the code runs it — `List_Push` per operand, operand i read from the list that already holds the elements
    constructed for the operands before it (`listConcatSrc`) — is executed exactly when every reference designates an element,
    and then equals the concat of fresh objects carrying the payloads the references resolve to BEFORE the call. -/
theorem C05_concat_operands_read_when_pushed {w : World} {c : Nat} {xs : List Tok}
    (hl : lookup w.objs c = some (.seq .list .probe xs)) (items : List RArg) :
    (toCSrcs w c xs items).bind (listConcatSrc w.next xs []) =
      (resolveArgs w items).map (fun ps => listConcatArgs w.next xs (ps.map Arg.pay)) :=
  listConcat_operands hl items

/-- at the level of one List (no world): operands whose read is stable under pushes at the tail — in particular every node
    the list held before the call — make the item-by-item run construct one fresh element per operand, in order, finalise
    nothing and leave the old elements where they were: contents after = contents before + constructed. -/
theorem C05_concat_operands_conservation (next : Nat) (xs : List Tok) {ss : List CSrc} {ps : List Nat}
    (h : List.Forall₂ (Stable xs) ss ps) :
    ∃ r, listConcatSrc next xs [] ss = some r ∧ r.issued = mkFresh next ps ∧ r.val = xs ++ r.issued ∧ r.retired = [] ∧
      r.updated = [] ∧ r.out = .ok := by
  refine ⟨_, listConcatSrc_stable next xs h [], ?_, ?_, rfl, rfl, rfl⟩ <;> simp

/-- a node of the receiving list IS stable (non-vacuity of the hypothesis above), a position beyond its end is not: a model
    that resolved `get(l, -1)` only when the push runs would read the element constructed for the operand before it -/
example : Stable [⟨1, 5⟩, ⟨2, 6⟩] (.node 1) 6 ∧ ¬ Stable [⟨1, 5⟩, ⟨2, 6⟩] (.node 2) 7 ∧
    (CSrc.node 2).read ([⟨1, 5⟩, ⟨2, 6⟩] ++ [⟨3, 7⟩]) = some 7 := by
  refine ⟨fun acc => by simp [CSrc.read], fun h => ?_, by decide⟩
  have := h []
  simp [CSrc.read] at this

/-- an op file with operands of every shape, all executed: a List concatenated nodes of itself (negative index = position
    before the call) mixed with fresh objects and elements of an Array / Table / Tree; an Array concatenated elements of
    others; List / Array / Table / Tree constructed from stored objects (the same object twice is fine there: the
    constructors fetch their arguments by index) — then the sources are mutated and deleted, the copies stay -/
def demoOperands : List AOp :=
  [.base (.newSeq 0 .list [1, 2, 3]), .base (.newSeq 1 .array [7, 8]), .base (.newMap 2 .table [(5, 50), (1000, 9)]),
   .aliased 0 (.concat [.ref ⟨0, .elem (-1)⟩, .pay 4, .ref ⟨0, .elem 0⟩]),
   .aliased 0 (.concat [.ref ⟨1, .elem 0⟩, .ref ⟨2, .key 5⟩, .ref ⟨2, .val 1000⟩, .ref ⟨0, .elem (-2)⟩]),
   .aliased 1 (.concat [.ref ⟨0, .elem 1⟩, .ref ⟨2, .val 5⟩]),
   .aliased 3 (.newSeq .list [.ref ⟨0, .elem 0⟩, .ref ⟨0, .elem 0⟩, .pay 6]),
   .aliased 4 (.newSeq .array [.ref ⟨2, .key 1000⟩]),
   .aliased 5 (.newMap .tree [(.ref ⟨2, .key 5⟩, .ref ⟨0, .elem 3⟩), (.pay 8, .ref ⟨2, .val 5⟩), (.ref ⟨2, .key 5⟩, .ref ⟨1, .elem 1⟩)]),
   .aliased 6 (.newMap .table [(.ref ⟨0, .elem 1⟩, .ref ⟨5, .val 8⟩)]),
   .base (.del 0), .base (.mrem 2 5), .base (.read 5)]

example : allInContractA {} demoOperands := by
  simp only [demoOperands, allInContractA]
  decide +kernel

example : liveCount (runA {} demoOperands).1 = 16 ∧ (runA {} demoOperands).2.all (fun o => !o.bad) = true ∧
    -- constructed / finalised / assigned in place per call: the two List concats, the Array concat, the four constructors
    (((runA {} demoOperands).2.map (fun o => (o.issued.map (·.pay), o.retired.length, o.updated.length))).drop 3).take 7 =
      [([3, 4, 1], 0, 0), ([7, 5, 9, 4], 0, 0), ([2, 50], 0, 0), ([1, 1, 6], 0, 0), ([1000], 0, 0),
       ([5, 3, 8, 50], 0, 2), ([2, 50], 0, 0)] := by
  decide +kernel

/-- outside the contract (answered `bad` by harness and model): the same stored object twice among the operands of concat
    (the Tuple of operands cannot be iterated: KF-C04-tuple-dup-iter), records of the receiving Array
    (KF-C04-push-own-element), a reference that designates nothing; the same operands through a constructor are fine -/
example : let w := (runA {} [.base (.newSeq 0 .list [1, 2]), .base (.newSeq 1 .array [3])]).1
    inContractA w (.aliased 0 (.concat [.ref ⟨0, .elem 0⟩, .ref ⟨0, .elem (-2)⟩])) = false ∧
    inContractA w (.aliased 1 (.concat [.ref ⟨1, .elem 0⟩])) = false ∧
    inContractA w (.aliased 0 (.concat [.ref ⟨0, .elem 2⟩])) = false ∧
    inContractA w (.aliased 1 (.concat [.ref ⟨0, .elem 0⟩, .ref ⟨0, .elem 1⟩])) = true ∧
    inContractA w (.aliased 2 (.newSeq .list [.ref ⟨0, .elem 0⟩, .ref ⟨0, .elem 0⟩])) = true := by
  decide

open Conc in
/-- **C05_boundary_hashes.**  `C05_moves_table` holds for every hash function; the one the correspondence runs with
    (`probeHash` = `Probe_Hash` of harness/h_own.c) takes, on the payloads `1000 + 8·b + r`, the boundary values of a 64-bit
    hash: 2^64-1 (what `Int_Hash` gives for -1; the all-ones NaN pattern), 0, 1, 2^63 (INT64_MIN, -0.0), 2^63-1, 2^32 and its
    neighbours, the float bit patterns of NaN / inf / 1.0, and `L`, `L-1`, `L+1` with `L` a common multiple of every table
    size of `Table_Primes` (as the translator reads it) between 2 and 1259 — home slot 0, `nslots-1`, 1 in every one of
    those tables at once.  Every value is below 2^64, so the `%` of the model (on ℕ) is the `%` of the code (on
    `uint64_t`); eight payloads share each value; the payloads next to the range on either side (999, 1176) hash the
    ordinary way, `(p mod 16) · 37`. -/
theorem C05_boundary_hashes :
    probeHash 1000 = 2 ^ 64 - 1 ∧ probeHash 1008 = 0 ∧ probeHash 1016 = 1 ∧ probeHash 1032 = 2 ^ 63 ∧
    probeHash 1040 = 2 ^ 63 - 1 ∧ probeHash 1056 = 2 ^ 32 ∧ probeHash 1128 = bhL ∧ probeHash 1136 = bhL - 1 ∧
    (∀ h ∈ bhTable, h < 2 ^ 64) ∧
    (∀ b < bhTable.length, ∀ r < bhPer, probeHash (bhBase + bhPer * b + r) = bhTable.getD b 0) ∧
    (∀ n ∈ CelloGen.Table.primes, 1 < n → n ≤ 1259 → bhL % n = 0 ∧ (bhL - 1) % n = n - 1 ∧ (bhL + 1) % n = 1) ∧
    (probeHash 999 = 7 * 37 ∧ probeHash 1176 = 8 * 37) := by
  refine ⟨by decide, by decide, by decide, by decide, by decide, by decide, by decide, by decide, by decide +kernel, by decide +kernel,
    by decide +kernel, by decide⟩

open Conc in
/-- a Table history over keys whose hashes are all-ones (1000, 1001), 0 (1008), 2^63 (1032), L-1 (1136): clustering in slot 0
    / slot nslots-1, growth 5 → 11, replacement, `rem` with backward shift, shrink -/
def demoBoundary : List MOp :=
  [.set 1000 1, .set 1008 2, .set 1001 3, .set 1032 4, .set 1136 5, .set 1000 6, .rem 1008, .rem 1000, .set 1137 7, .rem 1136]

open Conc in
/-- nslots, nitems, the slots of the stored keys and the identities finalised, step by step: no pair is lost or invisible -/
example : (match tableRunC tableCfgNow probeHash 1 (Cello.Table.new tableCfgNow) demoBoundary with
    | .ok rs => some (rs.map (fun r => (r.val.n, r.val.nitems, (slotKVs r.val).length, r.retired.map (·.id))))
    | .error _ => none) =
  some [(5, 1, 1, []), (5, 2, 2, []), (5, 3, 3, []), (5, 4, 4, []), (11, 5, 5, []), (11, 5, 5, [1, 2]), (5, 4, 4, [3, 4]),
        (5, 3, 3, [11, 12]), (5, 4, 4, []), (5, 3, 3, [9, 10])] := by decide +kernel

/-- Array of Box: push two, copy, delete the original -/
def kfBoxCopy : List Op := [.new 0 .boxArr, .push 0 1, .push 0 2, .copy 1 0, .del 0]
/-- List: resize an empty list to 3 -/
def kfListResize : List Op := [.new 0 .lst, .resize 0 3]
/-- Array of Box: `set` over a stored Box -/
def kfBoxSet : List Op := [.new 0 .boxArr, .push 0 1, .set 0 0 5]

/-- F28: after copying an Array of Box the copy holds the *same* elements as the original… -/
theorem C05_deep_refuted : ¬ C05_deep_statement := by
  intro h
  have := h [.new 0 .boxArr, .push 0 1, .push 0 2] 1 0 (by decide) (by decide)
    (.seq .array .box [⟨1, 1⟩, ⟨2, 2⟩]) rfl (.seq .array .box [⟨1, 1⟩, ⟨2, 2⟩]) rfl 1 (by decide)
  exact this (by decide)

/-- …so deleting the original finalises elements that the copy still contains. -/
theorem C05_never_while_contained_refuted : ¬ C05_never_while_contained_statement := by
  intro h
  exact h kfBoxCopy 1 (by decide) (by decide)

/-- `set` on a stored Box constructs nothing in the container's name and finalises nothing, yet the old pointee leaves
    the container: conservation fails -/
theorem C05_conservation_refuted : ¬ C05_conservation_statement := by
  intro h
  have hinv : Inv (run {} [.new 0 .boxArr, .push 0 1]).1 := run_inv inv_init _ ⟨rfl, rfl, trivial⟩
  have := (h _ (.set 0 0 5) hinv).length_eq
  revert this; decide

/-- the history statement fails as well: after `set` on a stored Box a constructed element is neither finalised nor
    contained -/
theorem C05_history_refuted : ¬ C05_history_statement := by
  intro h
  have := (h kfBoxSet).1.length_eq
  revert this; decide

/-- List_Push_At as it was before fix 4077d96: `List_Alloc` + `assign` first, the index check (`List_At`) afterwards -/
def listPushAtOldOrder (next : Nat) (xs : List Tok) (i : Int) (p : Nat) : Res (List Tok) :=
  let t : Tok := ⟨next, p⟩
  if i = 0 then { val := t :: xs, issued := [t] }
  else
    let n : Int := xs.length
    let j : Int := if i < 0 then n + i else i
    if j < 0 ∨ j ≥ n then { val := xs, issued := [t], out := .raised .indexOutOfBounds }
    else { val := xs.insertIdx j.toNat t, issued := [t] }

/-- the repaired defect: with the old order a refused push_at had constructed an element that was neither stored nor
    finalised (regression witness `corpus/own_list_pushat.ops`); the present order conserves (`C05_conservation_list`) -/
theorem C05_list_pushat_old_order_refuted :
    let r := listPushAtOldOrder 2 [⟨1, 1⟩] 5 9
    r.out = .raised .indexOutOfBounds ∧ ¬ Conserves [⟨1, 1⟩] r.val r.issued r.retired := by
  refine ⟨by decide, fun h => ?_⟩
  have := (conserves_iff.mp h).length_eq
  revert this; decide

/-- List_Resize growing a list: the list reports 3 elements, none was ever constructed -/
theorem C05_live_count_list_resize_refuted :
    let w := (run {} kfListResize).1
    liveCount w = 0 ∧ (w.objs.map (fun cx => cx.2.len)).sum = 3 := by decide

/-- `set` on a stored Box drops the old pointee: it stays live and is in no container -/
theorem C05_box_set_refuted :
    let w := (run {} kfBoxSet).1
    liveCount w = 2 ∧ (allIds w.objs).length = 1 ∧ w.retiredLog = [] := by decide

/-- Array ← non-empty Table: `Array_Assign` clears, sets `nitems = len(obj) = 2`, allocates, zero-fills record 0 and
    `get(obj, $I(0))` raises -/
def kfArrayAssign : List Op := [.newSeq 0 .array [1], .newMap 1 .table [(0, 10), (7, 20)], .assign 0 1]
/-- `ref(box, p)` on a Box that owns an object -/
def kfBoxRef : List Op := [.box 0 1, .bref 0 2]
/-- List ← non-empty Table: `List_Assign` clears, then `get(obj, $I(0))` raises -/
def xfListAssign : List Op := [.newSeq 0 .list [1], .newMap 1 .table [(0, 10)], .assign 0 1]

/-- Array_Assign from a source whose `get(obj, $I(i))` raises: the call fails with `len(a) = 2` although no element of
    `a` exists — 4 live elements (the Table's), container sizes summing to 6 -/
theorem C05_live_count_array_assign_refuted :
    let w := (run {} kfArrayAssign).1
    (run {} kfArrayAssign).2.map (·.out) = [.ok, .ok, .raised .valueError] ∧
    liveCount w = 4 ∧ (w.objs.map (fun cx => cx.2.toks.length)).sum = 6 := by decide

/-- **KF-C05-box-ref-drops** (sig own-box-ref-drops, witness corpus/kf_c05_box_ref.ops; a finding of its own — it is not
    what KF-C05-box-shallow, `site=Box_Assign`, describes).  `Box_Ref` is `b->val = val;`: `ref(box, p)` on a Box that owns
    an object overwrites the pointer, the object the Box owned stays live and is owned by nothing (2 live, 1 held, nothing
    finalised).  Pointer.c documents only "deleted with the Box" and its Usage example calls `ref` on a Box of stack
    objects — `ref` is the documented way to take ownership away — but the property text says a *replaced* object is
    finalised; `noKnownFinding (.bref _ _) = false` keeps exactly this call out of the contract. -/
theorem C05_box_ref_refuted :
    let w := (run {} kfBoxRef).1
    liveCount w = 2 ∧ (allIds w.objs).length = 1 ∧ w.retiredLog = [] := by decide

/-- the full statement of "a refused call has no effect", for every operation -/
def C05_refused_no_effect_statement : Prop :=
  ∀ (w : World) (op : Op), (step w op).2.out ≠ .ok →
    ∀ e, (lookup (step w op).1.objs e).map Cont.toks = (lookup w.objs e).map Cont.toks

/-- …fails for assignment across the families from a non-empty source: `List_Assign` clears the destination before the
    source's `get` raises.  Ownership stays consistent — the cleared elements were finalised once, live = Σ len — and the
    call is IN this contract (`C05_list_assign_from_map`, last disjunct of `C05_refused_no_effect_partial`); only "a failed
    call changed its receiver" fails, which is C12's subject (KF-C12-assign-clears). -/
theorem C05_refused_no_effect_refuted : ¬ C05_refused_no_effect_statement := by
  intro h
  have := h (run {} [.newSeq 0 .list [1], .newMap 1 .table [(0, 10)]]).1 (.assign 0 1) (by decide) 0
  revert this; decide

/-- `assign(List, non-empty Table)` is an in-contract history: the call raises ValueError, the List's element (identity 1)
    is finalised, the Table keeps its pair — 2 live elements, container sizes summing to 2 -/
example : allInContract {} xfListAssign ∧ (run {} xfListAssign).2.map (·.out) = [.ok, .ok, .raised .valueError] ∧
    liveCount (run {} xfListAssign).1 = 2 ∧ ((run {} xfListAssign).1.objs.map (fun cx => cx.2.toks.length)).sum = 2 ∧
    (run {} xfListAssign).1.retiredLog = [1] := by
  refine ⟨by simp only [xfListAssign, allInContract]; decide, by decide, by decide, by decide, by decide⟩

/-- the hypotheses of `C05_list_assign_from_map` are met by the world before the last operation of `xfListAssign` -/
example : let w := (run {} (xfListAssign.take 2)).1
    (lookup w.objs 0).map Cont.toks = some [⟨1, 1⟩] ∧ (lookup w.objs 1).map Cont.toks = some [⟨2, 0⟩, ⟨3, 10⟩] ∧
    listCrossCleared w 0 1 = true ∧ crossRefused w 0 1 = false ∧ inContract w (.assign 0 1) = true := by decide

/-- …whereas the same call onto an Array stays outside (exactly the territory of KF-C05-array-assign-partial) -/
example : let w := (run {} (kfArrayAssign.take 2)).1
    crossRefused w 0 1 = true ∧ inContract w (.assign 0 1) = false := by decide

/-! ## Non-vacuity: concrete in-contract histories that exercise every kind of container -/

def demo : List Op :=
  [.new 0 .arr, .push 0 5, .push 0 3, .pushAt 0 1 7, .sort 0, .set 0 0 4, .copy 1 0, .pop 0, .popAt 0 (-1), .rem 0 9,
   .new 2 .lst, .assign 2 1, .pushAt 2 (-1) 2, .resize 2 2, .newMap 3 .table [(1, 10), (17, 20), (1, 11)],
   .mset 3 33 30, .mrem 3 17, .new 4 .tre, .assign 4 3, .mset 4 1 12, .copy 5 4, .del 4, .resize 3 0,
   .new 6 .boxArr, .push 6 41, .push 6 42, .pop 6, .box 7 50, .concat 0 2, .assign 0 0,
   .new 8 .boxLst, .push 8 43, .pushAt 8 0 44, .pushAt 6 5 45, .pushAt 6 0 46, .new 9 .tre, .assign 1 9, .mset 9 3 4,
   .mrem 9 3,
   -- wrong-typed arguments: every one refused, nothing constructed that is not finalised again, nothing changed
   .typed 2 (.push .int), .typed 2 (.pushAt 0 .null), .typed 2 (.set 0 .str), .typed 2 (.rem .type), .typed 0 (.set 0 .float),
   .typed 0 (.pushAt 99 .int), .typed 2 (.concat [.wrong .int, .pay 4]), .typed 2 (.concat [.pay 4, .pay 6]),
   .typed 3 (.mset (.wrong .int) (.pay 1)), .typed 3 (.mset (.pay 33) (.wrong .null)), .typed 3 (.mset (.pay 77) (.wrong .str)),
   .typed 5 (.mset (.pay 1) (.wrong .int)), .typed 5 (.mset (.pay 78) (.wrong .type)), .typed 5 (.mrem .float), .typed 3 (.mrem .int),
   .typed 10 (.newSeq .list [.pay 1, .pay 2, .wrong .int, .pay 3]), .typed 10 (.newMap .table [(.pay 1, .pay 2), (.pay 3, .wrong .int)]),
   .typed 10 (.newMap .tree [(.pay 1, .pay 2), (.pay 1, .pay 5), (.wrong .null, .pay 6)]), .typed 10 (.newSeq .list [.pay 8, .pay 9])]

example : allInContract {} demo := by
  simp only [demo, allInContract]
  decide +kernel

/-- the demo history (58 operations over all kinds: probe and Box elements, a refused `push_at` of a Box, self-assignment,
    assignment across the families from an empty source, 17 calls with a wrong-typed element / key / value — all refused —
    and two through the typed route that are accepted) ends with 18 live elements in 10 containers, 29 finalised, and no
    operation was refused as ill-formed -/
example : liveCount (run {} demo).1 = 18 ∧ (run {} demo).1.objs.length = 10 ∧ (run {} demo).1.retiredLog.length = 29 ∧
    (run {} demo).2.all (fun o => !o.bad) = true ∧
    ((run {} demo).2.drop 39).map (fun o => o.out == .ok) =
      [false, false, false, false, false, false, false, true, false, false, false, false, false, false, false, false, false,
       false, true] := by
  decide +kernel

/-- the hypotheses of `C05_refused_no_effect_type` are met in the demo world (after the first 39 operations) by a `set`
    on the Tree 5 with an existing key and a wrong-typed value, and by a Tree constructor whose third pair has a NULL key -/
example : let w := (run {} (demo.take 39)).1
    0 < w.next ∧ typedAtomic w 5 (.mset (.pay 1) (.wrong .int)) = true ∧
    (step w (.typed 5 (.mset (.pay 1) (.wrong .int)))).2.bad = false ∧
    typedAtomic w 10 (.newMap .tree [(.pay 1, .pay 2), (.pay 1, .pay 5), (.wrong .null, .pay 6)]) = true ∧
    (step w (.typed 10 (.newMap .tree [(.pay 1, .pay 2), (.pay 1, .pay 5), (.wrong .null, .pay 6)]))).2.bad = false := by
  decide +kernel

/-- the hypotheses of `C05_deep_partial` are met in the demo world: container 2 exists (the List of probes made by `.new 2 .lst`),
    name 12 is free -/
example : lookup (run {} demo).1.objs 12 = none ∧ (lookup (run {} demo).1.objs 2).isSome = true := by decide +kernel

/-! ### the structural models on concrete histories (hypotheses of `C05_moves_*` are met by every reachable state:
    `C05_moves_histories`; here what the runs look like) -/

open Conc in
/-- a Table history with four keys of one hash value (1, 17, 33, 49 ≡ 1 mod 16): clustering and displacement, growth
    5 → 11 slots, replacement of an existing key, `rem` with backward shift and shrink 11 → 5, explicit resize to 53 -/
def demoTable : List MOp :=
  [.set 1 10, .set 17 20, .set 33 30, .set 2 5, .set 49 7, .rem 1, .set 17 21, .set 3 1, .resize 30, .rem 33]

open Conc in
/-- nslots, nitems and the identities finalised, step by step -/
example : (match tableRunC tableCfgNow probeHash 1 (Cello.Table.new tableCfgNow) demoTable with
    | .ok rs => some (rs.map (fun r => (r.val.n, r.val.nitems, r.retired.map (·.id))))
    | .error _ => none) =
  some [(5, 1, []), (5, 2, []), (5, 3, []), (5, 4, []), (11, 5, []), (5, 4, [1, 2]), (5, 4, [3, 4]), (11, 5, []),
        (53, 5, []), (5, 4, [5, 6])] := by decide +kernel

open Conc in
/-- a Tree history: seven insertions that fill a perfect tree (one recolouring, no rotation), `set` of an existing key (in
    place), `rem` of the root's key and of the key 3 (two children each: predecessor copy), a refused resize, `rem` of
    the black node 8 (`Tree_Rem_Fix`: a sibling rotation at the root) -/
def demoTree : List MOp :=
  [.set 5 1, .set 3 2, .set 8 3, .set 1 4, .set 4 5, .set 7 6, .set 9 7, .set 5 9, .rem 5, .rem 3, .resize 3, .rem 8]

open Conc in
/-- number of nodes, identities finalised and identities assigned in place, step by step -/
example : (treeRunC 1 treeEmpty demoTree).map (fun rs => rs.map (fun r =>
      ((treeKVs r.val).length, r.retired.map (·.id), r.updated.map (·.id)))) =
  some [(1, [], []), (2, [], []), (3, [], []), (4, [], []), (5, [], []), (6, [], []), (7, [], []), (7, [], [1, 2]),
        (6, [1, 2], []), (5, [3, 4], []), (5, [], []), (4, [5, 6], [])] := by decide +kernel

end Cello.Own
