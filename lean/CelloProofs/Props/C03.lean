/-
  C03 — Tree behaves as an ordered map and stays balanced.

  Model: Cello/RBTree.lean — zipper mirror of src/Tree.c (`Tree.set`, `Tree.rem`, … one function per C function; `step`/`run`:
  histories over named trees) and its specification (`Spec.step`/`Spec.run`: strictly sorted association lists).  `none` in the
  model = the C code would dereference NULL.
  `cmp` is any comparison satisfying `Std.TransCmp` (antisymmetric, transitive — what C09 establishes for Int and String);
  `Key.cmp` is the one the op files use (instances in Lemmas/RBCheck.lean).
  Keys and values are arbitrary types `α`, `β` whose bytes are given by `Packed` (8-byte words) with `LawfulPacked`
  (the bytes of an object read back as the object); a Tree carries `ksize` / `vsize`, and the one place where Tree.c
  moves raw bytes — the predecessor relocation of `Tree_Rem` — is modelled as that block move (`relocate`).
  Histories are well typed (`WellTyped`): `new` and `set` are given keys / values of the sizes of the tree's key / value
  types (in C, `cast` raises otherwise), where a tree's types are fixed by `new` and taken over by `assign` / `copy`.
  Source-derived data: CelloGen/Tree.lean (translate/g_tree.py, regenerated from src/Tree.c on every run). The model USES
  them, the `…_current_source` theorems say what the proofs need of them (`SourceOk`), and every refinement theorem of this
  file is proved from `C03_current_source`.
  Two further layers of histories: `AOp` (the tree's own key / value objects as arguments, assignment from a map that is not a
  Tree, the odd-count constructor; `C03_own_objects_refine`, instantiated with the code's comparisons in `C03_int_keys` /
  `C03_string_keys`) and `BOp` (`Tree_Cmp` / `Tree_Hash`, Cello/RBTreeCmp.lean; `C03_cmp_hash_refine`).  The parent-and-colour
  word is Cello/RBTreeWord.lean.
-/
import CelloProofs.Lemmas.RBStore
import CelloProofs.Lemmas.RBCheck
import CelloProofs.Lemmas.RBArgs
import CelloProofs.Lemmas.RBCmp
import CelloProofs.Lemmas.RBWord

namespace Cello.RB
open Std

variable {α β : Type}

/-! The source-derived facts the model stands on come first, so that a source change that breaks one is named first. -/

/-- **Node layout of the source as it is now.** For every width of `struct Header`, of the key type and of the value type
    (`y`), the expressions read from `Tree_Alloc`, `Tree_Key`, `Tree_Val` and the `memcpy` of `Tree_Rem` evaluate to:
    key header at the payload start, key after one header, value header after the key, value after that header; the node
    has room for exactly header + key + header + value, and **the relocation memcpy moves exactly that many bytes** (`LayoutOk`).
    Moreover the link words are where the model's zipper assumes nothing else lives: `Tree_Left`, `Tree_Right` and the
    parent-and-colour word are three different words in front of the payload, every place that computes the payload start
    (Tree_Key, Tree_Val, Tree_Alloc ×3, both memcpy arguments, the cursor-to-node step of Tree_Iter_Next / Tree_Iter_Prev /
    Tree_Hash / Tree_Show / Tree_Mark) uses the same `K * sizeof(var)`, the cursor-to-node step undoes `Tree_Key`, and
    `ksize` / `vsize` are `size(ktype)` / `size(vtype)` in Tree_New and Tree_Assign. -/
theorem C03_layout_current_source :
    LayoutOk ∧
    (CelloGen.Tree.leftLink ≠ CelloGen.Tree.rightLink ∧
     ∀ p ∈ CelloGen.Tree.parentLinks, ∀ s ∈ CelloGen.Tree.payloadStarts,
       p.2 ≠ CelloGen.Tree.leftLink ∧ p.2 ≠ CelloGen.Tree.rightLink ∧ p.2 < s.2 ∧
       CelloGen.Tree.leftLink < s.2 ∧ CelloGen.Tree.rightLink < s.2 ∧
       some p = CelloGen.Tree.parentLinks.head?.map (fun q => (p.1, q.2)) ∧
       some s = CelloGen.Tree.payloadStarts.head?.map (fun q => (s.1, q.2))) ∧
    (CelloGen.Tree.cursorToNode.map (·.1) = ["Tree_Iter_Next", "Tree_Iter_Prev", "Tree_Hash", "Tree_Show", "Tree_Mark"] ∧
     ∀ c ∈ CelloGen.Tree.cursorToNode, ∀ y : Lay, y.eval c.2 = y.keyOff) ∧
    CelloGen.Tree.sizesFromTypes = true := by
  refine ⟨fun y => ?_, ⟨by decide, fun ⟨pn, pk⟩ hp ⟨sn, sk⟩ hs => ?_⟩, ⟨rfl, ?_⟩, rfl⟩
  · -- the source's sums are bracketed to the right
    simp only [Nat.add_assoc]
    exact ⟨rfl, rfl, rfl, rfl, rfl, rfl⟩
  · -- every access to the parent-and-colour word uses word 2, every payload start is 3 words in
    cases (by decide : ∀ p ∈ CelloGen.Tree.parentLinks, p.2 = 2) _ hp
    cases (by decide : ∀ s ∈ CelloGen.Tree.payloadStarts, s.2 = 3) _ hs
    exact ⟨(by decide : 2 ≠ CelloGen.Tree.leftLink), (by decide : 2 ≠ CelloGen.Tree.rightLink), (by decide : 2 < 3),
      (by decide : CelloGen.Tree.leftLink < 3), (by decide : CelloGen.Tree.rightLink < 3), rfl, rfl⟩
  · intro c hc y
    simp only [CelloGen.Tree.cursorToNode, List.mem_cons, List.not_mem_nil, or_false] at hc
    rcases hc with rfl | rfl | rfl | rfl | rfl <;> rfl

/-- **Descent loops of the source as they are now.** `Tree_Set`, `Tree_Get`, `Tree_Mem` and `Tree_Rem` all compute
    `c = cmp(Tree_Key(m, node), key)` and go to `Tree_Left` for `c < 0`, to `Tree_Right` for `c > 0` — the same way in all
    four, which is what makes a key that `Tree_Set` stored findable by the other three (`DescentOk`; the model's four
    operations take their turns from these data through `orient`). -/
theorem C03_descent_current_source : DescentOk := by
  refine ⟨rfl, rfl, rfl, rfl⟩

/-- **`Tree_Assign` of the source as it is now**: the only early return in front of `Tree_Clear(self)` is `self is obj`
    (so `assign(t, s)` with `s ≠ t` always clears `t`, takes over the types and copies every binding — also when `s` is
    empty — and `assign(t, t)` changes nothing). -/
theorem C03_assign_current_source :
    CelloGen.Tree.assignGuards = ["self is obj"] ∧ CelloGen.Tree.assignGuardsSelf = true :=
  ⟨rfl, rfl⟩

/-- **The parent-and-colour word of the source as it is now.** With the expressions `Tree_Get_Parent`, `Tree_Get_Color`,
    `Tree_Set_Parent` and `Tree_Set_Color` compute today (read from src/Tree.c on every run as terms over `ptr`:
    `ptr & (~1)`, `ptr & 1`, `ptr | 1` / `ptr` under the test `Tree_Is_Red(m, node)`, `ptr | 1` / `ptr` under `col`), the third
    word of a node is a PAIR (parent address, colour) for every even address: reading gives back what was stored,
    `Tree_Set_Parent` keeps the colour, `Tree_Set_Color` keeps the parent, NULL is black, and a node fresh from `Tree_Alloc`
    (`calloc`, `Tree_Set_Parent(NULL)`, `Tree_Set_Red`) is a red node without parent. This is what lets the zipper model keep
    colours (`Frame.c`) and parents (the `Path`) apart. -/
theorem C03_parent_word_current_source :
    PWordLaws getParentW getColorW setParentW setColorW ∧ CelloGen.Tree.getColorNullIsBlack = true ∧
      allocW = encodeW 0 .R := by
  -- the reads: `ptr & (~1)` is the address and `ptr & 1` the colour
  have gp : ∀ a c, a % 2 = 0 → getParentW (encodeW a c) = a := fun a c h => encodeW_high h c
  have gc : ∀ a c, a % 2 = 0 → getColorW (encodeW a c) = decide (c = .R) := by
    intro a c h
    show (encodeW a c % 2 != 0) = _
    rw [encodeW_low h c]; cases c <;> rfl
  -- the writes test what the reads return, and `p | 1` is `p + 1` on an even `p`
  refine ⟨⟨gp, gc, ?_, ?_⟩, rfl, rfl⟩
  · intro a c p h hp
    show (if getColorW (encodeW a c) == true then p + (1 - p % 2) else p) = encodeW p c
    rw [gc a c h, hp]; cases c <;> rfl
  · intro a c c' h
    show (if decide (c' = .R) == true then getParentW (encodeW a c) + (1 - getParentW (encodeW a c) % 2)
      else getParentW (encodeW a c)) = encodeW a c'
    rw [gp a c h, h]; cases c' <;> rfl

/-- the link table of every tree — parent addresses and colours written into the words by the accessors in the order the code
    uses them and read back through them — is the model's own table: nothing is lost in the packed word -/
theorem C03_link_table_faithful (t : T α β) : linkTable t = (nodesPre t 0 0).1 :=
  linkTable_faithful C03_parent_word_current_source.1 t

/-- why `Tree_Set_Parent` tests the colour: with a plain store of `ptr` on both branches a red node that is given a new parent
    (every rotation does that) reads back BLACK; and with `Tree_Get_Parent` returning the word unmasked the parent of a red
    node reads back as an odd address; the accessors of the source give the red node with the new parent, and the even address -/
theorem C03_parent_word_variants_refuted :
    setParentWith CelloGen.Tree.getColorExpr true .arg .arg (encodeW 32 .R) 64 = encodeW 64 .B ∧
    getParentWith .arg (encodeW 32 .R) = 33 ∧
    (setParentW (encodeW 32 .R) 64 = encodeW 64 .R ∧ getParentW (encodeW 32 .R) = 32) := by
  decide

/-- **The code the model mirrors is the code in /repo now**: the statements of the `while (true)` bodies of `Tree_Set_Fix`
    and `Tree_Rem_Fix` — every case as (condition chain, actions) — and the bodies of the other functions the model follows
    one to one (colour and parent words, Tree_Alloc, Tree_New, Tree_Clear, Tree_Assign after its guards, Tree_Mem, Tree_Get,
    Tree_Maximum, Tree_Sibling / Grandparent / Uncle, Tree_Replace, the rotations, Tree_Set, Tree_Rem, the four iterator
    functions, Tree_Resize), whitespace-normalised, with the data of `C03_layout_current_source`, `C03_descent_current_source`,
    `C03_assign_current_source` and `C03_parent_word_current_source` masked, are the texts
    `setFix`, `remFix` (`remCase2`, `remFixBody`, `remCase5`, `remCase6`), `insAt`, `remAt` / `remHere` / `spliceOut`, … were
    written against. -/
theorem C03_source_as_modelled :
    CelloGen.Tree.setFixCases = CelloGen.Tree.setFixCasesModelled ∧
    CelloGen.Tree.remFixCases = CelloGen.Tree.remFixCasesModelled ∧
    CelloGen.Tree.shape = CelloGen.Tree.shapeModelled :=
  ⟨rfl, rfl, rfl⟩

/-- **`String_Assign` of the source as it is now** (src/String.c, fix 744a45f): between `char* val = c_str(obj);` and the
    `realloc` of the buffer stands `if (val is s->val) { return; }`, and nothing else returns there.  `Tree_Set` on a present
    key assigns the stored key and the stored value in place, so `set(t, k, …)` with `k` handed out by `foreach (k in t)` and
    `set(t, k, get(t, k))` make a stored String the source of its own assignment; with this test that is a no-op
    (`C03_own_objects_refine`), without it the `strcpy` reads the block `realloc` released (`C03_set_own_string_old_refuted`). -/
theorem C03_string_assign_current_source :
    CelloGen.Tree.stringAssignGuards = ["val is s->val"] ∧ CelloGen.Tree.stringAssignGuardsSelf = true :=
  ⟨rfl, rfl⟩

/-- everything the refinement proof uses of the generated data -/
theorem C03_current_source : SourceOk :=
  ⟨C03_layout_current_source.1, C03_descent_current_source, C03_assign_current_source.2⟩

/-- the generated expressions on concrete widths (24-byte header, Int key, 24-byte value): offsets, widths, and the payload
    `Tree_Alloc` + `Tree_Set` leave in a node; and a descent that takes the other turn misses a key that is there, so
    `DescentOk` is not a formality -/
example :
    let y : Lay := ⟨3, 1, 3⟩
    (y.keyHdrOff, y.keyOff, y.valHdrOff, y.valOff, y.entryLen, y.moveLen) = (0, 3, 4, 7, 10, 10) ∧
    entryWords y (Key.i 14, (.w 14 15 [16] : Val)) =
      [.hdr true, .hdr true, .hdr true, .int 14, .hdr false, .hdr false, .hdr false, .int 14, .int 15, .int 16] ∧
    find (orient ⟨true, .right, .left⟩ Key.cmp) (T.node .B (T.node .R .nil (.i 2) (.i 20) .nil) (.i 1) (.i 10 : Val) .nil) (.i 2) = none ∧
    find (orient CelloGen.Tree.getDescent Key.cmp) (T.node .B (T.node .R .nil (.i 2) (.i 20) .nil) (.i 1) (.i 10 : Val) .nil) (.i 2)
      = some (.i 20) := by
  decide

/-- **C03 (T1), refinement.** For every comparison that is a lawful order and every well-typed (`WellTyped`: keys / values
    given to `new` and `set` have the sizes of the tree's types) history of
    new / set / rem / get / mem / len / resize / assign / copy / iter / riter / del over any number of trees
    (self-assignment `assign(t, t)` included: since the fix a3140e4 `Tree_Assign` returns at once when `self is obj`; the
    behaviour before the fix is `C03_self_assign_old_refuted`), starting from nothing:
    * every operation of the model is defined (the C code never dereferences NULL),
    * the observations (values, membership, lengths, KeyError / FormatError, iteration sequences) are exactly those of
      the specification, a store of strictly sorted association lists — in particular KeyError is raised exactly for
      absent keys and leaves the map unchanged, forward iteration yields the sorted sequence and backward iteration its
      reverse, both reaching Terminal,
    * afterwards every tree holds exactly the bindings of its specification list — whole keys and whole values, of any
      width: `α` and `β` are arbitrary types with a byte representation, and the value a key maps to after the
      predecessor relocation of `Tree_Rem` is what the moved block decodes to, and
    * every tree is a valid red-black tree whose `nitems` is its number of bindings and whose entries all have the
      sizes of its key and value types.
    Since this holds for every history, it holds after every prefix: at every intermediate step. -/
theorem C03_refines_ordered_map [Packed α] [Packed β] [LawfulPacked α] [LawfulPacked β]
    (cmp : α → α → Ordering) [TransCmp cmp] (ops : List (Op α β))
    (hty : WellTyped [] ops) :
    ∃ st os, run cmp [] ops = some (st, os) ∧
      os = (Spec.run cmp [] ops).2 ∧
      absStore st = (Spec.run cmp [] ops).1 ∧
      AllValid cmp st := by
  obtain ⟨st, os, h1, h2, h3⟩ := run_refines (cmp := cmp) C03_current_source ops [] AllValid.nil hty
  exact ⟨st, os, h1, (congrArg Prod.snd h2).symm, (congrArg Prod.fst h2).symm, h3⟩

/-- **One step, from any valid state** (the inductive step of the theorem above, usable from any reachable state). -/
theorem C03_step_refines [Packed α] [Packed β] [LawfulPacked α] [LawfulPacked β]
    (cmp : α → α → Ordering) [TransCmp cmp] (st : Store (Tree α β)) (op : Op α β)
    (hv : AllValid cmp st) (hty : op.typed (sizeStore st)) :
    ∃ st' o, step cmp st op = some (st', o) ∧ Spec.step cmp (absStore st) op = (absStore st', o) ∧
      AllValid cmp st' ∧ tyStep (sizeStore st) op = sizeStore st' :=
  step_refines C03_current_source st op hv hty

/-- **The memcpy of `Tree_Rem` carries the whole entry.** For every header width, key width and value width: if the
    predecessor's key and value have the sizes of the Tree's key and value types, then after
    `memcpy(node + 3*sizeof(var), pred + 3*sizeof(var), sizeof(Header) + ksize + sizeof(Header) + vsize)` the node holds
    exactly the predecessor's key and the predecessor's complete value, whatever it held before.
    `relocate` moves `Lay.moveLen` = the width expression of the memcpy **as generated from the source**, reads the key and
    the value back at `Tree_Key` / `Tree_Val` as generated, from payloads written at the places `Tree_Alloc` and `Tree_Set`
    write them as generated; the proof goes through `C03_layout_current_source`. -/
theorem C03_relocation_moves_whole_entry [Packed α] [Packed β] [LawfulPacked α] [LawfulPacked β]
    (y : Lay) (dst src : α × β) (h : FitsLay y src) :
    relocate y dst src = some src :=
  relocate_fits C03_layout_current_source.1 y dst src h

/-- **…and no shorter block does**: a move of `n` words that ends inside the value (`Tree_Val` offset ≤ n ≤ block
    length) leaves at `Tree_Val(node)` the first `n − valOff` words of the predecessor's value followed by the remaining
    words of the value that was there — so `relocate`, and with it the refinement theorem, depends on the width of the
    block the code moves (a value wider than the key is cut when `ksize` is used for `vsize`). -/
theorem C03_relocation_width_matters [Packed α] [Packed β]
    (y : Lay) (dst src : α × β) (hd : FitsLay y dst) (hs : FitsLay y src)
    (n : Nat) (h1 : y.valOff ≤ n) (h2 : n ≤ y.entryLen) :
    valAt y (memcpyW n (entryWords y dst) (entryWords y src)) =
      (Packed.words src.2).take (n - y.valOff) ++ (Packed.words dst.2).drop (n - y.valOff) :=
  valAt_short C03_layout_current_source.1 y dst src hd hs n h1 h2

/-- **The specification is an ordered finite map**: lists stay strictly sorted; lookup after insertion / removal is what
    a map gives; `len` counts the bindings. (So "refines the sorted association list" means "behaves as an ordered map".) -/
theorem C03_spec_is_ordered_map (cmp : α → α → Ordering) [TransCmp cmp] (l : List (α × β)) (hl : Desc cmp l)
    (k k' : α) (v : β) :
    Desc cmp (Spec.set cmp k v l) ∧ Desc cmp (Spec.rem cmp k l) ∧
    Spec.get cmp k' (Spec.set cmp k v l) = (if cmp k k' = .eq then some v else Spec.get cmp k' l) ∧
    Spec.get cmp k' (Spec.rem cmp k l) = (if cmp k k' = .eq then none else Spec.get cmp k' l) ∧
    (Spec.set cmp k v l).length = l.length + (if (Spec.get cmp k l).isNone then 1 else 0) ∧
    ((Spec.get cmp k l).isSome → (Spec.rem cmp k l).length + 1 = l.length) :=
  ⟨Spec.desc_set k v l hl, Spec.desc_rem k l hl, Spec.get_set k k' v l, Spec.get_rem k k' l hl,
   Spec.length_set k v l hl, Spec.length_rem k l⟩

/-- **KeyError exactly on absent keys, with the tree unchanged**; `get`/`mem`/`len` agree with the map. -/
theorem C03_keyerror_iff_absent [Packed α] [Packed β] [LawfulPacked α] [LawfulPacked β]
    (cmp : α → α → Ordering) [TransCmp cmp] (m : Tree α β) (hv : Valid cmp m) (k : α) :
    (m.get cmp k = .raised .KeyError ↔ Spec.get cmp k m.abs = none) ∧
    (∀ v, m.get cmp k = .ok v ↔ Spec.get cmp k m.abs = some v) ∧
    (m.mem cmp k = (Spec.get cmp k m.abs).isSome) ∧
    (m.len = m.abs.length) ∧
    (Spec.get cmp k m.abs = none → m.rem cmp k = some (m, .raised .KeyError)) ∧
    ((Spec.get cmp k m.abs).isSome → ∃ m', m.rem cmp k = some (m', .ok ()) ∧ m'.abs = Spec.rem cmp k m.abs) := by
  obtain ⟨m', o, e, -, -, hr⟩ := rem_valid C03_current_source m k hv
  have hg := get_eq C03_current_source m k hv.ordered
  refine ⟨?_, fun v => ?_, mem_eq C03_current_source m k hv.ordered, hv.len_eq, fun hn => ?_, fun hs => ?_⟩
  · rw [hg]; cases Spec.get cmp k m.abs <;> simp
  · rw [hg]; cases Spec.get cmp k m.abs <;> simp
  · rcases hr with ⟨-, rfl, rfl⟩ | ⟨h1, -, -⟩
    · exact e
    · rw [hn] at h1; cases h1
  · rcases hr with ⟨h1, -, -⟩ | ⟨-, rfl, h3⟩
    · rw [h1] at hs; cases hs
    · exact ⟨m', e, h3⟩

/-- **C03 (T1), iteration.** On a valid tree the parent-link walk `Tree_Iter_Init`/`Tree_Iter_Next` visits exactly the
    bindings of the tree, each key once, in strictly monotone (descending) key order, and reaches Terminal;
    `Tree_Iter_Last`/`Tree_Iter_Prev` visits the exact reverse. -/
theorem C03_iteration [Packed α] [Packed β]
    (cmp : α → α → Ordering) [TransCmp cmp] (m : Tree α β) (hv : Valid cmp m) :
    m.iterFwd = some (m.abs, true) ∧
    m.iterBwd = some (m.abs.reverse, true) ∧
    m.abs.Pairwise (fun a b => cmp a.1 b.1 = .gt) ∧
    (m.abs.map (·.1)).Nodup ∧
    m.abs.length = m.len := by
  refine ⟨iterFwd_eq m hv.count, iterBwd_eq m hv.count, hv.ordered, ?_, hv.len_eq.symm⟩
  rw [List.Nodup, List.pairwise_map]
  refine List.Pairwise.imp ?_ hv.ordered
  intro a b hab heq
  rw [heq, ReflCmp.compare_self (cmp := cmp)] at hab
  cases hab

/-- **C03 (T2), balance is preserved by insertion**: from a valid tree `Tree_Set`, given a key and a value of the sizes of
    the tree's types (`Fits`), never dereferences NULL and returns a valid red-black tree holding the updated map. -/
theorem C03_balanced_set [Packed α] [Packed β]
    (cmp : α → α → Ordering) [TransCmp cmp] (m : Tree α β) (hv : Valid cmp m) (k : α) (v : β)
    (hkv : Fits m.sizes (k, v)) :
    ∃ m', m.set cmp k v = some m' ∧ Valid cmp m' ∧ m'.abs = Spec.set cmp k v m.abs := by
  obtain ⟨m', e, v', a, _⟩ := set_valid C03_current_source m k v hv hkv
  exact ⟨m', e, v', a⟩

/-- **C03 (T2), balance is preserved by removal** (all cases of `Tree_Rem_Fix`, predecessor copy, root removal). -/
theorem C03_balanced_rem [Packed α] [Packed β] [LawfulPacked α] [LawfulPacked β]
    (cmp : α → α → Ordering) [TransCmp cmp] (m : Tree α β) (hv : Valid cmp m) (k : α) :
    ∃ m' o, m.rem cmp k = some (m', o) ∧ Valid cmp m' := by
  obtain ⟨m', o, e, v, _⟩ := rem_valid C03_current_source m k hv
  exact ⟨m', o, e, v⟩

/-- **C03 (T2), height bound**: a valid tree with `n` bindings has height at most `2·log2(n+1)`
    (also in the logarithm-free form `2^height ≤ (n+1)²`). -/
theorem C03_height_bound [Packed α] [Packed β]
    (cmp : α → α → Ordering) (m : Tree α β) (hv : Valid cmp m) :
    height m.root ≤ 2 * Nat.log2 (m.nitems + 1) ∧ 2 ^ height m.root ≤ (m.nitems + 1) ^ 2 := by
  rw [← hv.count]
  exact ⟨height_le_log m.root hv.shape, pow_height_le_sq m.root hv.shape⟩

/-- **C03 (T2), along every history**: every tree of every store a well-typed history reaches from nothing is a valid
    red-black tree within the height bound. -/
theorem C03_balanced [Packed α] [Packed β] [LawfulPacked α] [LawfulPacked β]
    (cmp : α → α → Ordering) [TransCmp cmp] (ops : List (Op α β))
    (hty : WellTyped [] ops)
    (st : Store (Tree α β)) (os : List (Obs α β)) (hrun : run cmp [] ops = some (st, os)) :
    ∀ e ∈ st, Valid cmp e.2 ∧ height e.2.root ≤ 2 * Nat.log2 (e.2.nitems + 1) := by
  obtain ⟨st', os', h1, _, _, h4⟩ := C03_refines_ordered_map cmp ops hty
  rw [h1] at hrun
  cases hrun
  exact fun e he => ⟨h4 e he, (C03_height_bound cmp e.2 (h4 e he)).1⟩

/-- number of nodes the descent of `Tree_Get`/`Tree_Mem`/`Tree_Set`/`Tree_Rem` compares the key with -/
def searchSteps (cmp : α → α → Ordering) : T α β → α → Nat
  | .nil, _ => 0
  | .node _ l nk _ r, k =>
    match cmp nk k with
    | .eq => 1
    | .lt => searchSteps cmp l k + 1
    | .gt => searchSteps cmp r k + 1

/-- **Lookups stay logarithmic**: the descent compares at most `2·log2(n+1)` keys. -/
theorem C03_logarithmic_search [Packed α] [Packed β]
    (cmp : α → α → Ordering) (m : Tree α β) (hv : Valid cmp m) (k : α) :
    searchSteps cmp m.root k ≤ 2 * Nat.log2 (m.nitems + 1) := by
  have : ∀ t : T α β, searchSteps cmp t k ≤ height t := by
    intro t
    induction t with
    | nil => simp [searchSteps]
    | node c l nk nv r ihl ihr =>
      simp only [searchSteps, height]
      cases cmp nk k
      · exact Nat.succ_le_succ (Nat.le_trans ihl (Nat.le_max_left _ _))
      · exact Nat.succ_le_succ (Nat.zero_le _)
      · exact Nat.succ_le_succ (Nat.le_trans ihr (Nat.le_max_right _ _))
  exact Nat.le_trans (this m.root) (C03_height_bound cmp m hv).1

/-- **The model's `Tree_Rem_Fix` loop is the C loop**: the only place where `remFix` departs from the text of the C
    `while (true)` is the round after the red-sibling rotation, where it passes no continuation for the "all black"
    case. That case cannot be taken there — the parent has just been painted red — whatever the continuation. -/
theorem C03_remFix_dead_branch (f : Frame α β) (rest : Path α β) (up up' : Option (Path α β))
    (h : color f.sib = .R) :
    remFixBody (remCase2 f rest).1 (remCase2 f rest).2 up = remFixBody (remCase2 f rest).1 (remCase2 f rest).2 up' :=
  remFixBody_red_irrelevant _ _ up up' (remCase2_red f rest h)

/-- **The `ok=` flag printed by the driver on every state is `Valid`** (so the correspondence run also checks the
    invariant of the theorems on every state the implementation reaches). -/
theorem C03_executable_check [Packed α] [Packed β]
    (cmp : α → α → Ordering) [TransCmp cmp] (m : Tree α β) :
    m.validB cmp = true ↔ Valid cmp m :=
  validB_iff m

/-- **For the op files**: the statement for the comparison the driver uses (`Key.cmp`: Int_Cmp on Ints, strcmp on Strings,
    field by field on the struct keys). -/
theorem C03_op_files (ops : List (Op Key Val)) (hty : WellTyped [] ops) :
    ∃ st os, run Key.cmp [] ops = some (st, os) ∧ os = (Spec.run Key.cmp [] ops).2 ∧
      absStore st = (Spec.run Key.cmp [] ops).1 ∧ AllValid Key.cmp st :=
  C03_refines_ordered_map Key.cmp ops hty

/-- non-vacuity: a concrete tree with both colours, Int keys and 24-byte values, built by the model, is `Valid` -/
example :
    let m : Tree Key Val := ⟨.node .B (.node .B .nil (.i 7) (.w 70 71 [72]) .nil) (.i 5) (.w 50 51 [52])
                               (.node .B .nil (.i 3) (.w 30 31 [32]) (.node .R .nil (.i 1) (.w 10 11 [12]) .nil)), 4, 8, 24⟩
    Valid Key.cmp m ∧
      Tree.new Key.cmp 8 24 [(.i 5, (.w 50 51 [52])), (.i 3, (.w 30 31 [32])), (.i 7, (.w 70 71 [72])), (.i 1, (.w 10 11 [12]))]
        = some m := by
  refine ⟨(validB_iff _).mp (by decide), by decide⟩

/-- a history with updates, removals of nodes with two children (predecessor relocation of 24-byte values past 8-byte keys,
    and of 24-byte keys past 8-byte values), KeyError, assign (also of a tree to itself) and copy is well typed and runs -/
example :
    let ops : List (Op Key Val) :=
      [.new 0 8 24 [(.i 5, (.w 50 51 [52])), (.i 3, (.w 30 31 [32])), (.i 7, (.w 70 71 [72])), (.i 1, (.w 10 11 [12]))],
       .set 0 (.i 5) (.w 55 56 [57]), .rem 0 (.i 5), .rem 0 (.i 9), .get 0 (.i 3),
       .new 1 8 8 [], .assign 1 0, .copy 2 1, .rem 2 (.i 7), .iter 0, .riter 2, .len 1, .get 2 (.i 7),
       .new 3 24 8 [(.w 1 2 [3], .i 1), (.w 1 2 [4], .i 2), (.w 0 9 [9], .i 3)], .rem 3 (.w 1 2 [3]), .assign 3 3, .iter 3]
    WellTyped [] ops ∧
    (run Key.cmp [] ops).map (·.2) = some
      [.done, .done, .done, .err .KeyError, .val (.w 30 31 [32]), .done, .done, .done, .done,
       .items [(.i 7, (.w 70 71 [72])), (.i 3, (.w 30 31 [32])), (.i 1, (.w 10 11 [12]))] true,
       .items [(.i 1, (.w 10 11 [12])), (.i 3, (.w 30 31 [32]))] true, .nat 3,
       .err .KeyError, .done, .done, .done, .items [(.w 1 2 [4], .i 2), (.w 0 9 [9], .i 3)] true] := by
  exact ⟨wellTypedB_sound _ _ (by decide), by decide +kernel⟩

/-- the relocation on concrete bytes: Int key, 24-byte value, 24-byte header. The block Tree.c moves carries the whole
    value; a block computed with `ksize` in place of `vsize` (8 bytes of value) leaves the predecessor's first word
    followed by the removed entry's second and third. -/
example :
    let y : Lay := ⟨3, 1, 3⟩
    relocate y ((Key.i 14, (.w 14 14007 [-14000042] : Val))) ((Key.i 15, (.w 15 15007 [-15000042] : Val)))
        = some (Key.i 15, (.w 15 15007 [-15000042])) ∧
      intsOf (valAt y (memcpyW (y.hdr + y.ks + y.hdr + y.ks)
          (entryWords y (Key.i 14, (.w 14 14007 [-14000042] : Val)))
          (entryWords y (Key.i 15, (.w 15 15007 [-15000042] : Val))))) = some [15, 14007, -14000042] := by
  decide

/-- **C03, second layer.** Histories over all operations of `C03_refines_ordered_map` and, in addition,
    * `set(t, K, V)` where `K` is the key object stored in the tree itself (what `foreach (k in t)` hands out) and / or `V` is the
      value object `get(t, k')` returns — a pointer into a node of the same tree (the node `Tree_Set` stops at, or another one);
      `get` / `mem` / `rem` given the tree's own key object (for `rem`: the argument lives in the node that is removed),
    * `assign(t, obj)` for a map `obj` that is not a Tree (any key / value sizes, any iteration order, duplicates allowed),
    * `new(Tree, K, V, …)` with an odd number of arguments (FormatError, no tree),
    starting from nothing, for every lawful comparison and keys / values of any width — Strings (objects that own a buffer their
    `Assign` reallocates) included: every operation is defined, the observations are those of the store of strictly sorted
    association lists (an own key / value object denotes the key / value the map holds; KeyError from `get(t, k')` for an absent
    `k'` leaves the map as it was), and every tree stays a valid red-black tree.
    The model is run with the flag read from src/String.c (`CelloGen.Tree.stringAssignGuardsSelf`): the statement holds
    because `String_Assign` returns when given its own buffer. The only hypothesis is `WellTypedA`: key / value objects OF THE
    CALLER have the sizes of the tree's types (`cast` raises otherwise); the tree's own objects need none. -/
theorem C03_own_objects_refine [Packed α] [Packed β] [LawfulPacked α] [LawfulPacked β]
    (cmp : α → α → Ordering) [TransCmp cmp] (ops : List (AOp α β))
    (hty : WellTypedA [] ops) :
    ∃ st os, runA CelloGen.Tree.stringAssignGuardsSelf cmp [] ops = some (st, os) ∧
      os = (Spec.runA cmp [] ops).2 ∧
      absStore st = (Spec.runA cmp [] ops).1 ∧
      AllValid cmp st := by
  rw [C03_string_assign_current_source.2]
  obtain ⟨st, os, h1, h2, h3⟩ := runA_refines (cmp := cmp) C03_current_source ops [] AllValid.nil hty
  exact ⟨st, os, h1, (congrArg Prod.snd h2).symm, (congrArg Prod.fst h2).symm, h3⟩

/-- one step of the second layer, from any valid state -/
theorem C03_own_objects_step [Packed α] [Packed β] [LawfulPacked α] [LawfulPacked β]
    (cmp : α → α → Ordering) [TransCmp cmp] (st : Store (Tree α β)) (op : AOp α β)
    (hv : AllValid cmp st) (hty : op.typed (sizeStore st)) :
    ∃ st' o, stepA CelloGen.Tree.stringAssignGuardsSelf cmp st op = some (st', o) ∧
      Spec.stepA cmp (absStore st) op = (absStore st', o) ∧ AllValid cmp st' ∧ tyStepA (sizeStore st) op = sizeStore st' := by
  rw [C03_string_assign_current_source.2]
  exact stepA_refines C03_current_source st op hv hty

/-- the second layer for the comparison and the key / value kinds of the op files (Int, String, 24- and 40-byte structs) -/
theorem C03_op_files_own_objects (ops : List (AOp Key Val)) (hty : WellTypedA [] ops) :
    ∃ st os, runA CelloGen.Tree.stringAssignGuardsSelf Key.cmp [] ops = some (st, os) ∧ os = (Spec.runA Key.cmp [] ops).2 ∧
      absStore st = (Spec.runA Key.cmp [] ops).1 ∧ AllValid Key.cmp st :=
  C03_own_objects_refine Key.cmp ops hty

/-- **Before the fix 744a45f** (`String_Assign` without the `val is s->val` test; the model run with the flag `false`):
    on a valid Tree with String keys `set(t, K, v)` with `K` the tree's own key object — the body of
    `foreach (k in t) { set(t, k, …); }` — is undefined (`realloc` of the stored String's buffer, then `strcpy` from the
    released block: ASan heap-use-after-free at String.c `strcpy`, reached from Tree.c `assign(Tree_Key(m, node), key)`), and on
    a Tree with String values so is `set(t, "a", get(t, "a"))`; an own VALUE of ANOTHER node, an own Int object, and the same
    calls with the test in place are defined and leave a valid tree holding the expected map. -/
theorem C03_set_own_string_old_refuted :
    ∃ m : Tree Key Val, Valid Key.cmp m ∧ m.abs = [(.s "b", .s "y"), (.s "a", .s "x")] ∧
      m.setArgs false Key.cmp (.own (.s "a")) (.val (.s "z")) = none ∧
      m.setArgs false Key.cmp (.val (.s "a")) (.own (.s "a")) = none ∧
      (m.setArgs false Key.cmp (.val (.s "a")) (.own (.s "b"))).map (fun r => (r.1.abs, r.2))
        = some ([(.s "b", .s "y"), (.s "a", .s "y")], .done) ∧
      (m.setArgs true Key.cmp (.own (.s "a")) (.own (.s "a"))).map (fun r => (r.1.abs, r.2)) = some (m.abs, .done) ∧
      (m.setArgs true Key.cmp (.own (.s "a")) (.val (.s "z"))).map (fun r => (r.1.abs, r.2))
        = some ([(.s "b", .s "y"), (.s "a", .s "z")], .done) ∧
      ∃ mi : Tree Key Val, Valid Key.cmp mi ∧
        (mi.setArgs false Key.cmp (.own (.i 1)) (.own (.i 1))).map (fun r => (r.1.abs, r.2)) = some (mi.abs, .done) := by
  refine ⟨⟨.node .B (.node .R .nil (.s "b") (.s "y") .nil) (.s "a") (.s "x") .nil, 2, 8, 8⟩, (validB_iff _).mp (by decide),
    by decide, by decide, by decide, by decide, by decide, by decide,
    ⟨.node .B .nil (.i 1) (.i 10) .nil, 1, 8, 8⟩, (validB_iff _).mp (by decide), by decide⟩

/-- non-vacuity of the second layer: a history that walks a String → String tree setting each of its own keys to a new value
    and to its own value, gives own key objects to get / mem / rem, fetches an absent value, assigns from a foreign map with
    24-byte values and a duplicate key, and calls the odd-count constructor, is well typed and runs with these observations -/
example :
    let ops : List (AOp Key Val) :=
      [.base (.new 0 8 8 [(.s "a", .s "x"), (.s "b", .s "y"), (.s "c", .s "zz")]),
       .setA 0 (.own (.s "a")) (.val (.s "longer-than-before")), .setA 0 (.own (.s "b")) (.own (.s "b")),
       .setA 0 (.val (.s "d")) (.own (.s "a")), .setA 0 (.val (.s "e")) (.own (.s "nope")), .setA 0 (.own (.s "nope")) (.val (.s "v")),
       .getK 0 (.s "d"), .memK 0 (.s "c"), .remK 0 (.s "b"), .base (.iter 0),
       .newOdd 1, .base (.len 1),
       .assignMap 0 8 24 [(.i 3, .w 1 2 [3]), (.i 9, .w 4 5 [6]), (.i 3, .w 7 8 [9])], .base (.iter 0),
       .setA 0 (.own (.i 9)) (.own (.i 3)), .base (.get 0 (.i 9))]
    WellTypedA [] ops ∧
    (runA CelloGen.Tree.stringAssignGuardsSelf Key.cmp [] ops).map (·.2) = some
      [.done, .done, .done, .done, .err .KeyError, .noobj, .val (.s "longer-than-before"), .bool true, .done,
       .items [(.s "d", .s "longer-than-before"), (.s "c", .s "zz"), (.s "a", .s "longer-than-before")] true,
       .err .FormatError, .noobj,
       .done, .items [(.i 9, .w 4 5 [6]), (.i 3, .w 7 8 [9])] true, .done, .val (.w 7 8 [9])] := by
  exact ⟨wellTypedAB_sound _ _ (by decide), by decide +kernel⟩

/-- **Int keys.** For keys that are (or contain, `val`) a 64-bit integer compared by `Int_Cmp` — the function translated from
    src/Num.c on every run, whose sign is the order of the two integers at ANY distance (also 2^31, 2^32 or 2^64 − 1 apart) —
    the three tests `c < 0`, `c is 0`, `c > 0` of the descent loops are a lawful order, and every history of both layers
    refines the ordered map. (With the subtract-and-truncate `Int_Cmp` this tree had before 1403e2f the keys 0 and 2^32 are
    ONE key for a Tree: `C03_truncating_int_cmp_merges_keys`.) -/
theorem C03_int_keys {κ : Type} [Packed κ] [Packed β] [LawfulPacked κ] [LawfulPacked β] (val : κ → BitVec 64)
    (ops : List (AOp κ β)) (hty : WellTypedA [] ops) :
    (∀ a b : BitVec 64, (Cello.Cmp.intCmp a b < 0 ↔ a.toInt < b.toInt) ∧ (Cello.Cmp.intCmp a b = 0 ↔ a.toInt = b.toInt) ∧
      (0 < Cello.Cmp.intCmp a b ↔ b.toInt < a.toInt)) ∧
    ∃ st os, runA CelloGen.Tree.stringAssignGuardsSelf (fun a b => ordOf Cello.Cmp.intCmp (val a) (val b)) [] ops = some (st, os) ∧
      os = (Spec.runA (fun a b => ordOf Cello.Cmp.intCmp (val a) (val b)) [] ops).2 ∧
      absStore st = (Spec.runA (fun a b => ordOf Cello.Cmp.intCmp (val a) (val b)) [] ops).1 ∧
      AllValid (fun a b => ordOf Cello.Cmp.intCmp (val a) (val b)) st := by
  haveI := transCmp_of_lawful Cello.Cmp.intCmp Cello.Cmp.intCmp_strict.toLawfulCmpOn val
  exact ⟨Cello.Cmp.intCmp_sign, C03_own_objects_refine _ ops hty⟩

/-- the subtract-and-truncate `Int_Cmp` this tree had before commit 1403e2f (F04) as the order of a Tree: 0 and 2^32 are one
    key (the second `set` overwrites the first), so a Tree with Int keys loses a binding -/
theorem C03_truncating_int_cmp_merges_keys :
    ordOf Cello.Cmp.intCmpTruncating (0 : BitVec 64) (BitVec.ofNat 64 (2^32)) = .eq ∧
    ordOf Cello.Cmp.intCmp (0 : BitVec 64) (BitVec.ofNat 64 (2^32)) = .lt := by
  decide

/-- **String keys.** For keys compared by `strcmp` of their character buffers (`bytes`; `Cello.Cmp.bytesCmp`: unsigned bytes,
    a proper prefix is smaller, bytes above 127 are large — what `String_Cmp` computes, tied to the text of src/String.c by
    C02's `StringCmpIsStrcmp` and C09) every history of both layers refines the ordered map. -/
theorem C03_string_keys {κ : Type} [Packed κ] [Packed β] [LawfulPacked κ] [LawfulPacked β] (bytes : κ → List UInt8)
    (ops : List (AOp κ β)) (hty : WellTypedA [] ops) :
    (∀ a b : List UInt8, Cello.Cmp.bytesCmp a b < 0 ↔ a < b) ∧
    ∃ st os, runA CelloGen.Tree.stringAssignGuardsSelf (fun a b => ordOf Cello.Cmp.bytesCmp (bytes a) (bytes b)) [] ops = some (st, os) ∧
      os = (Spec.runA (fun a b => ordOf Cello.Cmp.bytesCmp (bytes a) (bytes b)) [] ops).2 ∧
      absStore st = (Spec.runA (fun a b => ordOf Cello.Cmp.bytesCmp (bytes a) (bytes b)) [] ops).1 ∧
      AllValid (fun a b => ordOf Cello.Cmp.bytesCmp (bytes a) (bytes b)) st := by
  haveI := transCmp_of_lawful Cello.Cmp.bytesCmp Cello.Cmp.bytesCmp_strict.toLawfulCmpOn bytes
  exact ⟨Cello.Cmp.bytesCmp_lt_iff, C03_own_objects_refine _ ops hty⟩

/-- **Before the fix, `assign(t, t)` emptied the tree**: `Tree_Assign` cleared the destination before it iterated over
    the source, so with `self == obj` nothing was left, while an ordered map assigned to itself is unchanged. The old
    variant of the model function (`Tree.assignSelfOld`, which mirrors the code before a3140e4 and agreed with it on
    corpus/tree_fixed_self_assign.ops) loses the bindings of a valid tree; the current one (`Tree.assignSelf`, the
    `if (self is obj) { return; }` of the code that exists now) keeps the tree as it is — which is what lets
    `C03_refines_ordered_map` hold for histories with self-assignment. -/
theorem C03_self_assign_old_refuted :
    ∃ m : Tree Key Val, Valid Key.cmp m ∧ m.abs = [(.i 2, .i 20), (.i 1, .i 10)] ∧
      (Tree.assignSelfOld Key.cmp m).map (fun r => (r.1.abs, r.1.len)) = some ([], 0) ∧
      (Tree.assignSelf Key.cmp m).map (·.1) = some m := by
  refine ⟨⟨.node .B .nil (.i 2) (.i 20) (.node .R .nil (.i 1) (.i 10) .nil), 2, 8, 8⟩, (validB_iff _).mp (by decide), by decide,
    by decide, rfl⟩

/-- **`Tree_Cmp` is the lexicographic comparison of the two maps.** For two valid trees — of whatever shapes and colourings
    their histories left them in — the lock-step walk of `Tree_Cmp` (`Tree_Iter_Init` / `Tree_Iter_Next` on both sides, the key
    type's `cmp` on the two cursors, then the values fetched again by `Tree_Get(self, item0)` / `get(obj, item1)`) reaches a
    result within its fuel, raises no KeyError, dereferences no NULL, and returns the comparison of the two in-order sequences
    binding by binding (keys first, then values; a proper prefix is smaller). -/
theorem C03_tree_cmp_is_lexicographic [Packed α] [Packed β] (cmp : α → α → Ordering) [TransCmp cmp]
    (vcmp : β → β → Ordering) (m s : Tree α β) (hm : Valid cmp m) (hs : Valid cmp s) :
    m.cmpTree cmp vcmp s = some (.ok (Spec.cmpList cmp vcmp m.abs s.abs)) :=
  cmpTree_eq C03_current_source vcmp m s hm.ordered hm.count hs.ordered hs.count

/-- `cmp(t, s)` returns 0 (`eq(t, s)` holds) exactly when both maps have the same number of bindings and, in key order, keys
    that compare equal with values that compare equal -/
theorem C03_tree_cmp_zero_iff_same_map [Packed α] [Packed β] (cmp : α → α → Ordering) [TransCmp cmp]
    (vcmp : β → β → Ordering) (m s : Tree α β) (hm : Valid cmp m) (hs : Valid cmp s) :
    m.cmpTree cmp vcmp s = some (.ok .eq) ↔
      m.abs.length = s.abs.length ∧ ∀ p ∈ m.abs.zip s.abs, cmp p.1.1 p.2.1 = .eq ∧ vcmp p.1.2 p.2.2 = .eq := by
  rw [C03_tree_cmp_is_lexicographic cmp vcmp m s hm hs, ← Spec.cmpList_eq_iff]
  constructor
  · intro h; injection h with h; injection h
  · intro h; rw [h]

/-- **`Tree_Hash` does not depend on the shape.** It is defined on every tree whose `nitems` is its node count and is the xor of
    `hash(key) ^ hash(value)` over the in-order sequence; two valid trees that hold the same map — reached by different
    histories, hence in general of different shapes — have the same hash, and `cmp` of them is 0 when every value
    compares equal to itself (`hrefl`; every key does, the key comparison being lawful). -/
theorem C03_tree_hash_shape_independent [Packed α] [Packed β] (cmp : α → α → Ordering) [TransCmp cmp]
    (vcmp : β → β → Ordering) (hk : α → UInt64) (hv : β → UInt64) (m s : Tree α β) (hm : Valid cmp m) (hs : Valid cmp s)
    (hsame : m.abs = s.abs) (hrefl : ∀ v, vcmp v v = .eq) :
    m.hashTree hk hv = some (Spec.hashList hk hv m.abs) ∧ m.hashTree hk hv = s.hashTree hk hv ∧
      m.cmpTree cmp vcmp s = some (.ok .eq) := by
  refine ⟨hashTree_eq hk hv m hm.count, ?_, ?_⟩
  · rw [hashTree_eq hk hv m hm.count, hashTree_eq hk hv s hs.count]; exact congrArg _ (congrArg _ hsame)
  · rw [C03_tree_cmp_is_lexicographic cmp vcmp m s hm hs, ← hsame,
      Spec.cmpList_self vcmp m.abs (fun e _ => ReflCmp.compare_self) (fun e _ => hrefl e.2)]

/-- **Histories with `cmp` and `hash`.** Every well-typed history over the operations of both earlier layers plus `cmp(t, s)`
    and `hash(t)` on Trees, starting from nothing, for every lawful key comparison, any value comparison and any hash functions
    of the element types: every operation is defined, the observations are those of the store of strictly sorted association
    lists (`cmp` = lexicographic comparison of the two lists, `hash` = xor-fold), and every tree stays a valid red-black tree. -/
theorem C03_cmp_hash_refine [Packed α] [Packed β] [LawfulPacked α] [LawfulPacked β]
    (cmp : α → α → Ordering) [TransCmp cmp] (E : Elem α β) (ops : List (BOp α β))
    (hty : WellTypedB [] ops) :
    ∃ st os, runB CelloGen.Tree.stringAssignGuardsSelf cmp E [] ops = some (st, os) ∧
      os = (Spec.runB cmp E [] ops).2 ∧
      absStore st = (Spec.runB cmp E [] ops).1 ∧
      AllValid cmp st := by
  rw [C03_string_assign_current_source.2]
  obtain ⟨st, os, h1, h2, h3⟩ := runB_refines (cmp := cmp) C03_current_source E ops [] AllValid.nil hty
  exact ⟨st, os, h1, (congrArg Prod.snd h2).symm, (congrArg Prod.fst h2).symm, h3⟩

/-- the third layer for the comparisons of the op files: `Key.cmp` on keys, `Val.cmpC` on values (`memcmp` for the plain
    structs), any `hash_data` -/
theorem C03_op_files_cmp_hash (hashData : List UInt8 → UInt64) (ops : List (BOp Key Val))
    (hty : WellTypedA [] (ops.filterMap BOp.aOp)) :
    let E : Elem Key Val := ⟨Val.cmpC, Key.hashC hashData, Key.hashC hashData⟩
    ∃ st os, runB CelloGen.Tree.stringAssignGuardsSelf Key.cmp E [] ops = some (st, os) ∧
      os = (Spec.runB Key.cmp E [] ops).2 ∧ AllValid Key.cmp st :=
  let ⟨st, os, h1, h2, _, h4⟩ := C03_cmp_hash_refine Key.cmp _ ops (wellTypedB_of_A [] ops hty)
  ⟨st, os, h1, h2, h4⟩

/-- non-vacuity: two trees built in opposite insertion orders (different shapes) compare equal and hash alike; after one
    value changes the comparison follows the values (`memcmp` on little-endian words: 256 < 1 as byte strings), a tree that is
    a proper prefix is smaller, and the comparison of a tree with itself is 0 -/
example :
    let E : Elem Key Val := ⟨Val.cmpC, Key.hashC (fun b => UInt64.ofNat b.length), Key.hashC (fun b => UInt64.ofNat b.length)⟩
    let ops : List (BOp Key Val) :=
      [.a (.base (.new 0 8 24 [(.i 1, .w 1 0 [0]), (.i 2, .w 2 0 [0]), (.i 3, .w 3 0 [0])])),
       .a (.base (.new 1 8 24 [(.i 3, .w 3 0 [0]), (.i 2, .w 2 0 [0]), (.i 1, .w 1 0 [0])])),
       .cmp 0 1, .hash 0, .hash 1,
       .a (.base (.set 1 (.i 2) (.w 256 0 [0]))), .cmp 0 1, .cmp 1 0,
       .a (.base (.rem 1 (.i 1))), .a (.base (.set 1 (.i 2) (.w 2 0 [0]))), .cmp 1 0, .cmp 0 0, .cmp 0 7, .hash 7]
    WellTypedA [] (ops.filterMap BOp.aOp) ∧
    ((runB CelloGen.Tree.stringAssignGuardsSelf Key.cmp E [] ops).map (fun r => r.2.map (fun o =>
        match o with | .ord c => some c | _ => none))) = some
      [none, none, some .eq, none, none, none, some .gt, some .lt, none, none, some .lt, some .eq, none, none] ∧
    ((runB CelloGen.Tree.stringAssignGuardsSelf Key.cmp E [] ops).map (fun r => r.2.map (fun o =>
        match o with | .word h => some h.toNat | _ => none))) = some
      [none, none, none, some 24, some 24, none, none, none, none, none, none, none, none, none] := by
  refine ⟨wellTypedAB_sound _ _ (by decide), by decide +kernel, by decide +kernel⟩

end Cello.RB
