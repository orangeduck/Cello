/-
  C01 — the collector never reclaims a reachable object.

  The property theorems; their lemmas are in CelloProofs/Lemmas/Mark*.lean.
  Model: Cello/Heap.lean (the mark phase `dfs` / `gcMark`, `sweep`, `collect` on clear mark bits; then the whole collector with the bits in
  its state: `gcMarkFrom`, `release`, `collectAll`, `collectWhole`, histories `GState.run`), Cello/HeapRec.lean (the mark phase with the C
  call structure and a depth budget: `level`; histories with the header's type pointer: `TState.run`; the marker that also knows live
  unregistered objects: `levelX`).  The parts on a collection inside a container operation (Cello/HeapMid.lean, CelloGen/GcMid.lean) and on
  the loops of the Mark instances (Cello/HeapWalk.lean, CelloGen/GcWalk.lean) carry their own section heads.  Source-derived facts:
  CelloGen/GcMark.lean, entering through `Cfg.current` and `clearFirstNow`.  The collector before a repair is an explicit OLD
  variant of the model (`clearFirst := false`, `remPtrPre`, `tlsCallback := false`, `guarded := false`); the withdrawn guard of
  Thread_Mark (80c795e, reverted by 0a0ad73) is the variant `Cfg.threadGuarded`.
  All theorems hold for every implementation `S : MarkSet σ` of the mark bits (the driver runs the hash-set one).
-/
import Cello.Heap
import Cello.HeapRec
import CelloGen.GcMark
import CelloProofs.Lemmas.Mark
import CelloProofs.Lemmas.MarkRec
import CelloProofs.Lemmas.MarkFields
import CelloProofs.Lemmas.MarkRelease
import CelloProofs.Lemmas.MarkWitness
import CelloProofs.Lemmas.MarkType
import Cello.HeapMid
import CelloGen.GcMid
import CelloProofs.Lemmas.MarkMid
import CelloProofs.Lemmas.MarkDeep
import Cello.HeapWalk
import CelloProofs.Lemmas.MarkWalk

namespace Cello.Heap

/-! ### the source-derived facts the model stands on (first, so that a source change that breaks them is named first) -/

/-- the parts of GC.c and of the Mark instances the model was written against are the ones in /repo now -/
theorem C01_source_as_modelled :
    CelloGen.GcMark.itemRejects = CelloGen.GcMark.itemRejectsModelled ∧
    CelloGen.GcMark.rootPhase = CelloGen.GcMark.rootPhaseModelled ∧
    CelloGen.GcMark.sweepFrees = CelloGen.GcMark.sweepFreesModelled ∧
    CelloGen.GcMark.markBodies.map (fun x => x.1) = ["Array", "List", "Table", "Tree", "Tuple", "Thread"] ∧
    CelloGen.GcMark.markBodies.map (fun x => x.2.1) = CelloGen.GcMark.markBodies.map (fun x => x.2.2) :=
  ⟨rfl, rfl, rfl, rfl, rfl⟩

/-- **Every Mark instance hands every occupied element to the callback, unconditionally** (generated facts, re-extracted
    from the source on every run): in `Array_Mark`, `List_Mark`, `Table_Mark`, `Tree_Mark`, `Tuple_Mark`, `Thread_Mark`
    there is no `return` (but Tuple's `items is NULL`), the loop runs over all items / all slots / up to Terminal, and no
    struct member is read but the loop bound — in particular no cached "holds no references" flag; the container structs
    have no member the model does not know; and the element / key / value types are (re)defined by `X_New` and `X_Assign`
    only (the two model operations that type a container). -/
theorem C01_mark_instances_unconditional :
    CelloGen.GcMark.markFacts = CelloGen.GcMark.markFactsModelled ∧
    (∀ ty ∈ ["Array", "List", "Table", "Tree", "Tuple", "Thread"], CelloGen.GcMark.markVisitsAll ty = true) ∧
    CelloGen.GcMark.containerStructs = CelloGen.GcMark.containerStructsModelled ∧
    CelloGen.GcMark.typeWriters = CelloGen.GcMark.typeWritersModelled := by
  refine ⟨rfl, fun ty hty => markVisitsAll_markTypes ty ?_, rfl, rfl⟩
  revert ty; decide

/-- **The life of a mark bit and the release path, as modelled** (generated facts): a new or re-inserted registry entry starts
    unmarked (`GC_Set_Ptr`), the second loop of `GC_Sweep` — after the unlink loop, before the release loop — clears every bit,
    `GC_Set` runs `GC_Mark(gc); GC_Sweep(gc);` with no handler in between (an exception that leaves `GC_Mark` skips the sweep);
    the release loop of `GC_Sweep`, `Box_Del` (deletes its target), `del` (→ `rem(current(GC), ·)`), the two branches of
    `GC_Rem_Ptr` (free list, then registry) and which container destructors `destruct` their embedded elements are the ones
    `Cello.Heap.release` / `owns` were written against, including the early-out of `GC_Rem_Ptr` for NULL (fix d3e4e44).  Whether
    `GC_Mark` clears the bits before it starts enters the theorems as `clearFirstNow` (= `CelloGen.GcMark.markClearsFirst`);
    that it does (fix d8f0c4f) is part of `C01_tables`. -/
theorem C01_collector_state_as_modelled :
    CelloGen.GcMark.markBitLife = (true, true, true) ∧
    CelloGen.GcMark.releaseLoop = CelloGen.GcMark.releaseLoopModelled ∧
    CelloGen.GcMark.boxDel = CelloGen.GcMark.boxDelModelled ∧
    CelloGen.GcMark.delBy = CelloGen.GcMark.delByModelled ∧
    CelloGen.GcMark.remPtr = CelloGen.GcMark.remPtrModelled ∧
    CelloGen.GcMark.elementDestructors = CelloGen.GcMark.elementDestructorsModelled :=
  ⟨rfl, rfl, rfl, rfl, rfl, rfl⟩

/-- **T1 table facts** over the lists generated from the source: every container type declares `Mark`, none of the
    pointer-carrying types is a leaf type, and the repairs (guarded callback 7d133ba, TLS through the callback fc3452e,
    `GC_Mark` clears the mark bits first d8f0c4f) and the scan bound are in place; `Thread_Mark` presents the table of every
    Thread object (the guard of 80c795e was withdrawn by 0a0ad73: `C01_thread_guard_refuted`). -/
theorem C01_tables :
    (∀ ty ∈ ["Array", "List", "Table", "Tree", "Tuple", "Thread"],
        Cfg.current.hasMark ty = true ∧ Cfg.current.isLeaf ty = false) ∧
    (∀ ty ∈ ["Ref", "Box", "Probe", "ProbeD"], Cfg.current.hasMark ty = false ∧ Cfg.current.isLeaf ty = false) ∧
    (∀ ty ∈ ["Int", "Float", "String"], Cfg.current.isLeaf ty = true) ∧
    Cfg.current.guarded = true ∧ Cfg.current.tlsCallback = true ∧ Cfg.current.scanInclusive = true ∧
    Cfg.current.foreignTls = true ∧ clearFirstNow = true := by
  rw [Cfg.current_eq]; decide

/-- a heap Tuple is traced through its Mark instance, behind the guarded callback -/
theorem current_traces_tuples :
    Cfg.current.isLeaf "Tuple" = false ∧ Cfg.current.hasMark "Tuple" = true ∧ Cfg.current.guarded = true :=
  ⟨(C01_tables.1 "Tuple" (by decide)).2, (C01_tables.1 "Tuple" (by decide)).1, C01_tables.2.2.2.1⟩

/-- a Ref is scanned word by word, all its words -/
theorem current_scans_refs :
    Cfg.current.isLeaf "Ref" = false ∧ Cfg.current.hasMark "Ref" = false ∧ Cfg.current.scanInclusive = true :=
  ⟨(C01_tables.2.1 "Ref" (by decide)).2, (C01_tables.2.1 "Ref" (by decide)).1, C01_tables.2.2.2.2.2.1⟩

section main
variable {σ : Type} (S : MarkSet σ) (c : Cfg) (h : Heap)

/-- **T1 `mark_closed`.** When the marker stops, every registered word of a marked object is marked, and every
    registered root word is marked. -/
theorem C01_mark_closed (wf : h.WF) (roots : List Word) :
    (∀ a b, S.mem a (dfs S c h roots S.empty) = true → Points c h a b → (h.lookup b).isSome = true →
        S.mem b (dfs S c h roots S.empty) = true) ∧
    (∀ w ∈ roots, (h.lookup w).isSome = true → S.mem w (dfs S c h roots S.empty) = true) := by
  -- the invariant of the worklist, when the stack is empty
  have hI := dfs_worklistInv S c h S.empty roots
  refine ⟨?_, fun w hw hreg => (hI.roots w hw (accepts_of_registered wf hreg)).elim id fun h => nomatch h⟩
  intro a b ha hp hreg
  obtain ⟨e, hl, hb⟩ := hp
  exact (hI.closed a ha (S.mem_empty a) b (by rw [fieldsAt_lookup hl]; exact hb) (accepts_of_registered wf hreg)).elim id
    fun h => nomatch h

/-- **T1 `mark_complete` (the marker).** Every registered object reachable from the root words — through any chain of
    representations, with no bound on the size or shape of the graph — is marked. -/
theorem C01_mark_complete (wf : h.WF) (roots : List Word) (a : Addr) (hr : Reachable c h roots a) :
    S.mem a (dfs S c h roots S.empty) = true :=
  (dfs_iff_reach S c h roots a).mpr ((reachable_iff_reach wf roots a).mp hr)

/-- **T1 `mark_exact`.** Nothing else is marked: the mark bits after the mark phase are exactly the reachable set
    (so the result does not depend on the order in which containers enumerate their elements). -/
theorem C01_mark_exact (wf : h.WF) (roots : List Word) (a : Addr) :
    S.mem a (dfs S c h roots S.empty) = true ↔ Reachable c h roots a := by
  rw [dfs_iff_reach, reachable_iff_reach wf]

/-- **T1 `GC_Mark` marks everything reachable from the three kinds of roots**: a word of thread-local storage, a
    root-registered entry, a word of the stack (or registers flushed to it). -/
theorem C01_gcMark_complete (wf : h.WF) (thread : Obj) (stack : List Word) (a : Addr)
    (hr : Reachable c h (tlsWords c thread ++ (rootAddrs h ++ stack)) a) :
    S.mem a (gcMark S c h thread stack) = true := by
  rw [gcMark_eq]
  exact C01_mark_complete S c h wf _ a hr

/-- `rootWords` (what `C01_sweep_safe` and the theorems after it take as roots) contains each of the three kinds -/
theorem C01_roots_of_each_kind (thread : Obj) (stack : List Word) (w : Word) :
    (w ∈ tlsWords c thread → w ∈ rootWords c h thread stack) ∧
    ((∃ e, h.lookup w = some e ∧ e.root = true) → w ∈ rootWords c h thread stack) ∧
    (w ∈ stack → w ∈ rootWords c h thread stack) := by
  refine ⟨fun hw => List.mem_append_left _ hw, ?_, fun hw => List.mem_append_right _ (List.mem_append_right _ hw)⟩
  rintro ⟨e, hl, hr⟩
  exact List.mem_append_right _ (List.mem_append_left _ (mem_rootAddrs hl hr))

/-- **T1 `sweep_safe`: the mark phase and the unlink phase of the sweep, on a registry whose mark bits are clear.**  After
    `GC_Mark` and the first two loops of `GC_Sweep`, every registered object reachable from thread-local storage, from a
    root-registered entry or from a stack word — along a chain of REGISTERED objects: `Points` reads the registry, as
    `GC_Mark_Item` does; an object allocated with `new_raw` (or otherwise unregistered) in the middle of a path is not
    traced unless it is handed to the callback by the Mark instance of a registered holder — is still registered, with the
    same contents and root flag, and is not on the pending (to be finalised and freed) list.  Root-registered entries are
    never swept, reachable or not (`C01_roots_never_swept`).  What the release loop then does, and what happens when mark bits are already set, is
    `C01_collect_safe_partial`. -/
theorem C01_sweep_safe (wf : h.WF) (thread : Obj) (stack : List Word) (a : Addr)
    (hr : Reachable c h (rootWords c h thread stack) a) :
    (collect S c h thread stack).1.lookup a = h.lookup a ∧ (h.lookup a).isSome = true ∧
      a ∉ (collect S c h thread stack).2 :=
  collect_keeps_reachable S c h wf thread stack a hr

theorem C01_roots_never_swept (m : σ) (a : Addr) (e : Entry) (hl : h.lookup a = some e) (hroot : e.root = true) :
    (sweep S h m).1.lookup a = some e ∧ a ∉ (sweep S h m).2 := by
  have hns : sweeps S h m a = false := by simp [sweeps, hl, hroot]
  rw [← hl]; exact sweep_keeps_unswept S h hns

/-- the pending list after `GC_Mark` and the unlink phase on clear mark bits is exactly the registered, non-root, unreachable
    part (that the reachable part is untouched: `C01_sweep_safe`) -/
theorem C01_sweep_exact (wf : h.WF) (thread : Obj) (stack : List Word) (a : Addr) :
    a ∈ (collect S c h thread stack).2 ↔
      ∃ e, h.lookup a = some e ∧ e.root = false ∧ ¬ Reachable c h (rootWords c h thread stack) a := by
  simp only [collect, mem_pending, sweeps_iff, ← gcMark_iff_reachable S c h wf, Bool.not_eq_true]
  exact ⟨fun ⟨_, e, hl, hr, hm⟩ => ⟨e, hl, hr, hm⟩, fun ⟨e, hl, hr, hm⟩ => ⟨h.complete a e hl, e, hl, hr, hm⟩⟩

/-- the registry stays well formed across a sweep (so the theorems apply to the next collection as well) -/
theorem C01_sweep_preserves_wf (wf : h.WF) (m : σ) : (sweep S h m).1.WF := sweep_wf S h wf m

/-- **T1 `mark_mono`.** More root words can only mark more: stale words found by the conservative stack scan never
    cause a reachable object to be lost. -/
theorem C01_mark_mono (r1 r2 : List Word) (hsub : ∀ w ∈ r1, w ∈ r2) (a : Addr)
    (ha : S.mem a (dfs S c h r1 S.empty) = true) : S.mem a (dfs S c h r2 S.empty) = true :=
  (dfs_iff_reach S c h r2 a).mpr (reach_mono c h hsub ((dfs_iff_reach S c h r1 a).mp ha))

theorem C01_gcMark_mono (thread : Obj) (s1 s2 : List Word) (hsub : ∀ w ∈ s1, w ∈ s2) (a : Addr)
    (ha : S.mem a (gcMark S c h thread s1) = true) : S.mem a (gcMark S c h thread s2) = true := by
  rw [gcMark_eq] at ha ⊢
  refine C01_mark_mono S c h _ _ ?_ a ha
  intro w hw
  simp only [rootWords, List.mem_append] at hw ⊢
  rcases hw with hw | hw | hw
  · exact .inl hw
  · exact .inr (.inl hw)
  · exact .inr (.inr (hsub w hw))

end main

section whole
variable {σ : Type} (S : MarkSet σ) (c : Cfg) (h : Heap)

/-- **The mark phase from bits that are already set** (the `marked` field of a registry entry survives when an exception
    leaves `GC_Mark`: `GC_Sweep`, which clears it, is skipped).  `GC_Mark` then sets exactly: the bits that were set, and the
    bits of the registered objects reachable from the roots THROUGH ENTRIES WHOSE BIT WAS CLEAR — the root loop skips a marked
    root entry and `GC_Mark_Item` does not trace an entry it finds marked. -/
theorem C01_mark_exact_from (wf : h.WF) (thread : Obj) (stack : List Word) (m0 : σ) (a : Addr) :
    S.mem a (gcMarkFrom S c h thread stack m0) = true ↔
      S.mem a m0 = true ∨ ReachableUnmarked c h (fun x => S.mem x m0) (rootWords c h thread stack) a :=
  gcMarkFrom_iff S c h wf thread stack m0 a

/-- … and the sweep frees exactly the registered, non-root entries whose bit was clear and that are not reachable through
    entries whose bit was clear.  With no bit set this is `C01_sweep_exact`. -/
theorem C01_sweep_exact_from (wf : h.WF) (thread : Obj) (stack : List Word) (m0 : σ) (a : Addr) :
    a ∈ (collectAll S c h thread stack m0).pending ↔
      ∃ e, h.lookup a = some e ∧ e.root = false ∧ S.mem a m0 = false ∧
        ¬ ReachableUnmarked c h (fun x => S.mem x m0) (rootWords c h thread stack) a := by
  rw [collectAll_pending]; exact collectFrom_pending_iff S c h wf thread stack m0 a

/-- with no bit set, reachability through unmarked entries is reachability -/
theorem C01_unmarked_is_reachable (roots : List Word) (a : Addr) :
    ReachableUnmarked c h (fun _ => false) roots a ↔ Reachable c h roots a :=
  reachableUnmarked_none roots a

/-- **The release loop** (`dealloc(destruct(item))` for every item of the free list; `Box_Del` → `del` → `GC_Rem_Ptr`, which
    finalises a target it finds on the free list OR IN THE REGISTRY; container destructors destruct embedded elements):
    when no entry the sweep frees owns an entry that stays registered, only items of the pending list are finalised and the
    registry is left as the unlink phase left it.  The nesting budget of the model never runs out (for every heap, with or
    without the hypothesis): each nested destructor is preceded by the removal of an item from the free list or of an entry
    from the registry. -/
theorem C01_release_within_pending (thread : Obj) (stack : List Word) (m0 : σ)
    (hbox : boxExclusive S c h thread stack m0 = true) :
    (collectAll S c h thread stack m0).heap = (collectFrom S c h thread stack m0).1 ∧
    (∀ x ∈ (collectAll S c h thread stack m0).finalised, x ∈ (collectAll S c h thread stack m0).pending) ∧
    (collectAll S c h thread stack m0).exhausted = false := by
  obtain ⟨r1, r2⟩ := collectAll_within_pending S c h thread stack m0 hbox
  exact ⟨r1, r2, collectAll_bounded S c h thread stack m0⟩

theorem C01_release_bounded (thread : Obj) (stack : List Word) (m0 : σ) :
    (collectAll S c h thread stack m0).exhausted = false :=
  collectAll_bounded S c h thread stack m0

/-- **Box's ownership contract implies the decidable hypothesis.**  "No registered object that is reachable from the roots is
    owned by an unreachable object" (a Box owns its target; a container owns the targets of its embedded Boxes) gives
    `boxExclusive = true` on a registry whose mark bits are clear. -/
theorem C01_box_contract (wf : h.WF) (thread : Obj) (stack : List Word)
    (hc : ∀ b v, v ∈ h.ownsAt b → Reachable c h (rootWords c h thread stack) v → Reachable c h (rootWords c h thread stack) b) :
    boxExclusive S c h thread stack S.empty = true :=
  boxExclusive_of_contract S c h wf thread stack hc

/-- **T1 `collect_safe` for one WHOLE collection — partial.**  `GC_Mark` — with `GC_Unmark` first iff `cf` —, `GC_Sweep` including
    its release loop, entered with the mark bits `m0` set.  Every registered object reachable from thread-local storage, a
    root-registered entry or a stack word (along registered objects) is still registered afterwards with unchanged contents,
    was not put on the pending list and was not finalised, UNDER TWO EXPLICIT HYPOTHESES:
    * `hclean` — `GC_Mark` clears the bits first (`cf = true`: the source since fix d8f0c4f, `C01_collect_safe_current`), or no
      mark bit is set when the collection begins.  Without it (the OLD variant `cf = false` entered with stale bits — a mark
      phase that an exception left keeps its bits): `C01_collect_safe_stale_refuted`.
    * `hbox` — no entry the sweep frees owns an entry that stays registered.  This is Box's ownership contract (a Box deletes its
      target when it dies), a restriction of the property, not a defect: `C01_box_contract` derives it from "no reachable
      object is owned by an unreachable one"; without it `C01_collect_safe_box_refuted`.
    The full statement is `C01_collect_safe_statement`. -/
theorem C01_collect_safe_partial (cf : Bool) (wf : h.WF) (thread : Obj) (stack : List Word) (m0 : σ) (a : Addr)
    (hr : Reachable c h (rootWords c h thread stack) a)
    (hclean : cf = true ∨ ∀ x, S.mem x m0 = false)
    (hbox : boxExclusive S c h thread stack (startBits S cf m0) = true) :
    (collectWhole S c cf h thread stack m0).heap.lookup a = h.lookup a ∧ (h.lookup a).isSome = true ∧
      a ∉ (collectWhole S c cf h thread stack m0).pending ∧ a ∉ (collectWhole S c cf h thread stack m0).finalised := by
  -- the three phases start from clear bits: cleared by `GC_Unmark`, or clear as they were
  have hcl : ∀ x, S.mem x (startBits S cf m0) = false := by
    cases cf
    · exact hclean.resolve_left (fun h => nomatch h)
    · exact S.mem_empty
  obtain ⟨e2, e13⟩ := collectAll_keeps_reachable S c h wf thread stack _ hcl a hr
  exact ⟨(e13 hbox).1, reachable_registered hr, e2, (e13 hbox).2⟩

end whole

/-- in the source as it is, the three phases of `GC_Mark` start from no bits, whatever was set (`GC_Unmark`, fix d8f0c4f) -/
theorem C01_starts_clean {σ : Type} (S : MarkSet σ) (m0 : σ) : startBits S clearFirstNow m0 = S.empty := by
  have : clearFirstNow = true := by decide
  simp [startBits, this]

/-- **`collect_safe` for one whole collection of the code in /repo now: NO hypothesis on the mark bits.**  Whatever bits are set
    when `GC_Mark` is entered (left by a mark phase that an exception left, or by anything else), every registered object
    reachable from the roots stays registered with unchanged contents, off the pending list and is not finalised — at every
    collection at which no freed entry owns a surviving one (Box's ownership contract, the remaining exclusion). -/
theorem C01_collect_safe_current {σ : Type} (S : MarkSet σ) (h : Heap) (wf : h.WF) (thread : Obj) (stack : List Word) (m0 : σ)
    (a : Addr) (hr : Reachable Cfg.current h (rootWords Cfg.current h thread stack) a)
    (hbox : boxExclusive S Cfg.current h thread stack S.empty = true) :
    (collectWhole S Cfg.current clearFirstNow h thread stack m0).heap.lookup a = h.lookup a ∧ (h.lookup a).isSome = true ∧
      a ∉ (collectWhole S Cfg.current clearFirstNow h thread stack m0).pending ∧
      a ∉ (collectWhole S Cfg.current clearFirstNow h thread stack m0).finalised :=
  C01_collect_safe_partial S Cfg.current h clearFirstNow wf thread stack m0 a hr (.inl (by decide))
    (by rw [C01_starts_clean]; exact hbox)

/-- the full statement of `collect_safe` for one whole collection: no hypothesis on the mark bits that are set when it begins,
    none on what the freed objects own (`cf`: does `GC_Mark` clear the bits first) -/
def C01_collect_safe_statement (cf : Bool) : Prop :=
  ∀ (h : Heap), h.WF → ∀ (thread : Obj) (stack : List Word) (marked : List Addr) (a : Addr),
    Reachable Cfg.current h (rootWords Cfg.current h thread stack) a →
      a ∉ (collectWhole listSet Cfg.current cf h thread stack (seed listSet marked)).pending ∧
      a ∉ (collectWhole listSet Cfg.current cf h thread stack (seed listSet marked)).finalised

/-- the statement with Box's ownership contract as its only hypothesis: any mark bits may be set when the collection begins -/
def C01_collect_safe_any_bits_statement (cf : Bool) : Prop :=
  ∀ (h : Heap), h.WF → ∀ (thread : Obj) (stack : List Word) (marked : List Addr) (a : Addr),
    Reachable Cfg.current h (rootWords Cfg.current h thread stack) a →
    boxExclusive listSet Cfg.current h thread stack (startBits listSet cf (seed listSet marked)) = true →
      a ∉ (collectWhole listSet Cfg.current cf h thread stack (seed listSet marked)).pending ∧
      a ∉ (collectWhole listSet Cfg.current cf h thread stack (seed listSet marked)).finalised

/-- **… which is a theorem for the code in /repo now** (it was refuted before fix d8f0c4f: `C01_collect_safe_stale_refuted`) -/
theorem C01_collect_safe_any_bits : C01_collect_safe_any_bits_statement clearFirstNow := by
  intro h wf thread stack marked a hr hbox
  obtain ⟨_, _, e3, e4⟩ := C01_collect_safe_partial listSet Cfg.current h clearFirstNow wf thread stack (seed listSet marked) a hr
    (.inl (by decide)) hbox
  exact ⟨e3, e4⟩

/-- **Refuted (Box's ownership contract, an exclusion): `collect_safe` without `hbox`**, whether `GC_Mark` clears the bits first or
    not.  4096 ↦ a root-registered Ref to the Probe at 4160, 4224 ↦ a Box on the same Probe that nothing refers to.  One
    collection on clear mark bits: the Probe is marked and stays off the pending list; the Box is swept; the release loop runs
    `Box_Del`, `del` finds the Probe IN THE REGISTRY and finalises it — a reachable, root-referenced object (witness
    corpus/gcmark_box_shared_target.ops). -/
theorem C01_collect_safe_box_refuted (cf : Bool) :
    boxHeap.WF ∧ Reachable Cfg.current boxHeap (rootWords Cfg.current boxHeap emptyThread []) 4160 ∧
    4160 ∈ (collectWhole listSet Cfg.current cf boxHeap emptyThread [] (seed listSet [])).finalised ∧
    4160 ∉ (collectWhole listSet Cfg.current cf boxHeap emptyThread [] (seed listSet [])).pending ∧
    boxExclusive listSet Cfg.current boxHeap emptyThread [] (startBits listSet cf (seed listSet [])) = false ∧
    ¬ C01_collect_safe_statement cf := by
  obtain ⟨h1, h2, h3⟩ := boxHeap_collect
  -- for either `cf` the three phases start from no bits
  cases cf <;> exact ⟨boxHeap_wf, boxHeap_reach, h1, h2, h3,
    fun hst => (hst boxHeap boxHeap_wf emptyThread [] [] 4160 boxHeap_reach).2 h1⟩

/-- **Refuted for the OLD variant (the collector before fix d8f0c4f, `cf = false`; was known finding KF-C01-stale-marks):
    `collect_safe` entered with stale bits.**  4096 ↦ a root-registered Ref that points to the Probe at 4224, 4160 ↦ an (empty)
    heap Tuple on the stack; the bits of 4096 and 4160 are still set from a mark phase that an exception left.  Without
    `GC_Unmark` the root loop of `GC_Mark` skips the marked root entry, `GC_Mark_Item` skips the marked Tuple: the Probe —
    referenced directly by a root-registered entry — is not marked and is swept.  No entry owns anything here (`hbox` holds).
    With the bits cleared first (`cf = true`, the code in /repo now) the Probe is kept. -/
theorem C01_collect_safe_stale_refuted :
    staleHeap2.WF ∧ Reachable Cfg.current staleHeap2 (rootWords Cfg.current staleHeap2 emptyThread [4160]) 4224 ∧
    4224 ∈ (collectWhole listSet Cfg.current false staleHeap2 emptyThread [4160] (seed listSet [4096, 4160])).pending ∧
    boxExclusive listSet Cfg.current staleHeap2 emptyThread [4160] (startBits listSet false (seed listSet [4096, 4160])) = true ∧
    4224 ∉ (collectWhole listSet Cfg.current true staleHeap2 emptyThread [4160] (seed listSet [4096, 4160])).pending ∧
    ¬ C01_collect_safe_any_bits_statement false ∧ ¬ C01_collect_safe_statement false := by
  have hb := boxExclusive_of_no_owner listSet Cfg.current staleHeap2 emptyThread [4160]
    (startBits listSet false (seed listSet [4096, 4160])) staleHeap2_no_owner
  have hsw : 4224 ∈ (collectWhole listSet Cfg.current false staleHeap2 emptyThread [4160] (seed listSet [4096, 4160])).pending :=
    staleHeap2_swept
  refine ⟨staleHeap2_wf, staleHeap2_reach, hsw, hb, staleHeap2_kept, ?_, ?_⟩
  · intro hs
    exact (hs staleHeap2 staleHeap2_wf emptyThread [4160] [4096, 4160] 4224 staleHeap2_reach hb).1 hsw
  · intro hs
    exact (hs staleHeap2 staleHeap2_wf emptyThread [4160] [4096, 4160] 4224 staleHeap2_reach).1 hsw

/-- the hypothesis on a collection event under which the release loop stays within the pending list -/
def GEvent.exclusive {σ : Type} (S : MarkSet σ) (c : Cfg) (ev : GEvent) : Bool :=
  boxExclusive S c ev.before.heap ev.before.thread ev.before.stack (seed S ev.started)

/-- **C01 over histories — partial.**  The state of a history is the registry, thread-local storage, the stack AND THE MARK
    BITS of the registry entries.  Operations: allocations, stores into registered objects (pointer stores, container
    insertions and removals: any new contents), re-typing operations (`assign` between containers, `copy`, `resize(…, 0)`),
    changes of thread-local storage and of the stack, explicit deletions, collections that run to completion, collections
    whose mark phase is left by an exception after any number of marking events (`GOp.raise`: the bits set so far stay, the
    sweep is skipped), registry rehashes (which clear the bits).  `cf` says whether `GC_Mark` clears the bits before it starts.
    If `cf = true` (the code in /repo now: `C01_current_source_history`, no such hypothesis), or if no bit is set initially and
    no exception leaves a mark phase (`GOp.completes`), then from any well-formed registry: the registry stays well formed,
    every completed collection starts its three phases with all bits clear, and every object reachable at that moment from
    thread-local storage, a root-registered entry or a stack word is registered and is not put on the pending list — and, at
    every collection at which no freed entry owns a surviving one (`GEvent.exclusive`, Box's ownership contract), is not
    finalised by the release loop and is still registered afterwards with the same contents.
    The full statement is `C01_history_safe_statement cf`; refuted for either `cf` without the ownership hypothesis by
    `C01_box_shared_target_refuted`; with the ownership hypothesis only (`C01_history_safe_exclusive_statement cf`) it is a
    theorem for the current source and refuted for the OLD variant `cf = false` by `C01_stale_marks_refuted`. -/
theorem C01_history_safe_partial {σ : Type} (S : MarkSet σ) (c : Cfg) (cf : Bool) (ops : List GOp) (s0 : GState)
    (wf : s0.heap.WF) (hok : ∀ op ∈ ops, op.ok)
    (hclean : cf = true ∨ (s0.stale = [] ∧ ∀ op ∈ ops, op.completes = true)) :
    (GState.run S c cf ops s0).1.heap.WF ∧
    ∀ ev ∈ (GState.run S c cf ops s0).2, ev.started = [] ∧ ∀ a,
      Reachable c ev.before.heap (rootWords c ev.before.heap ev.before.thread ev.before.stack) a →
        a ∉ ev.pending ∧ (ev.before.heap.lookup a).isSome = true ∧
        (ev.exclusive S c = true → a ∉ ev.finalised ∧ ev.after.lookup a = ev.before.heap.lookup a) := by
  obtain ⟨h1, h2⟩ := grun_events S c cf ops s0 wf hok hclean
  refine ⟨h1, fun ev hev => ?_⟩
  -- every event is a whole collection from no bits, on a well-formed registry
  obtain ⟨hwf, hs0, hp, hf, ha⟩ := h2 ev hev
  refine ⟨hs0, fun a hr => ?_⟩
  obtain ⟨k1, k2⟩ := collectAll_keeps_reachable S c _ hwf _ _ S.empty S.mem_empty a hr
  refine ⟨hp ▸ k1, reachable_registered hr, fun hex => ?_⟩
  obtain ⟨e1, e2⟩ := k2 (by simpa [GEvent.exclusive, hs0, seed_nil] using hex)
  exact ⟨hf ▸ e2, ha ▸ e1⟩

/-- the full statement over histories, for a collector whose `GC_Mark` clears the bits first (`cf = true`) or not: no bit is set
    initially, exceptions may leave mark phases, no hypothesis on what the freed objects own -/
def C01_history_safe_statement (cf : Bool) : Prop :=
  ∀ (ops : List GOp) (s0 : GState), s0.heap.WF → s0.stale = [] → (∀ op ∈ ops, op.ok) →
    ∀ ev ∈ (GState.run listSet Cfg.current cf ops s0).2, ∀ a,
      Reachable Cfg.current ev.before.heap (rootWords Cfg.current ev.before.heap ev.before.thread ev.before.stack) a →
        a ∉ ev.pending ∧ a ∉ ev.finalised

/-- the statement over ALL histories — exceptions may leave mark phases, any bits may be set initially — with Box's ownership
    contract as the only hypothesis, at the collections it concerns -/
def C01_history_safe_exclusive_statement (cf : Bool) : Prop :=
  ∀ (ops : List GOp) (s0 : GState), s0.heap.WF → (∀ op ∈ ops, op.ok) →
    ∀ ev ∈ (GState.run listSet Cfg.current cf ops s0).2, ∀ a,
      Reachable Cfg.current ev.before.heap (rootWords Cfg.current ev.before.heap ev.before.thread ev.before.stack) a →
        a ∉ ev.pending ∧ (ev.exclusive listSet Cfg.current = true → a ∉ ev.finalised ∧ ev.after.lookup a = ev.before.heap.lookup a)

/-- **Refuted for the OLD variant (the collector before fix d8f0c4f, `cf = false`; was known finding KF-C01-stale-marks):
    histories in which an exception leaves a mark phase.**
    Start: 4096 ↦ a root-registered Ref (empty), 4160 ↦ a heap Tuple whose only item (4288) has been deleted by hand
    (KF-C01-dangling-tuple-item), 4224 ↦ a Probe; the Tuple and the Probe are on the stack; no bit is set.
    1. a collection: the root loop marks 4096, the stack scan marks 4160, `Tuple_Mark` hands 4288 to `GC_Mark_And_Recurse`,
       which calls `GC_Recurse` on the freed block — outside the model (`.ub`); on the real machine `type_of` throws ValueError
       on the `0xDeadCe110` fill.  The exception leaves `GC_Mark` after two marking events: no sweep, both bits stay (`GOp.raise 2`);
    2. the program catches it, empties the Tuple, stores the Probe into the root Ref and drops it from the stack;
    3. the next collection: WITHOUT `GC_Unmark` both roots are skipped as already marked, the Probe — referenced DIRECTLY by a
       root-registered entry — is put on the pending list.  (Witness corpus/gcmark_stale_marks_fixed.ops, with a Mark instance
       that throws; since fix d8f0c4f a regression input.)
    With the bits cleared at the start of `GC_Mark` (`cf = true`: the code in /repo now) the same history keeps the Probe. -/
theorem C01_stale_marks_refuted :
    staleStart.heap.WF ∧ staleStart.stale = [] ∧ (∀ op ∈ staleOps, op.ok) ∧
    markEvents Cfg.current staleStart.heap staleStart.thread staleStart.stack [] = [4096, 4160, 4224] ∧
    (∀ d, (level listSet Cfg.current staleStart.heap (d + 2)).item 4160 [] = .ub) ∧
    (∃ ev ∈ (GState.run listSet Cfg.current false staleOps staleStart).2,
      Reachable Cfg.current ev.before.heap (rootWords Cfg.current ev.before.heap ev.before.thread ev.before.stack) 4224 ∧
      4224 ∈ ev.pending ∧ ev.started = [4096, 4160] ∧ ev.exclusive listSet Cfg.current = true) ∧
    (∀ ev ∈ (GState.run listSet Cfg.current true staleOps staleStart).2, 4224 ∉ ev.pending) ∧
    ¬ C01_history_safe_statement false ∧ ¬ C01_history_safe_exclusive_statement false := by
  have hex : ∃ ev ∈ (GState.run listSet Cfg.current false staleOps staleStart).2,
      Reachable Cfg.current ev.before.heap (rootWords Cfg.current ev.before.heap ev.before.thread ev.before.stack) 4224 ∧
      4224 ∈ ev.pending ∧ ev.started = [4096, 4160] ∧ ev.exclusive listSet Cfg.current = true := by
    rw [staleRun_events false]
    refine ⟨_, List.mem_cons_self, staleHeap2_reach, staleHeap2_swept, rfl, ?_⟩
    exact boxExclusive_of_no_owner listSet _ _ _ _ _ staleHeap2_no_owner
  refine ⟨staleHeap_wf, rfl, staleOps_ok, staleHeap_events, ?_, hex, ?_, ?_, ?_⟩
  · intro d
    obtain ⟨hl, hk, hg⟩ := current_traces_tuples
    exact tuple_unregistered_item_ub listSet Cfg.current staleHeap staleHeap_wf hl hk hg 4160 4288 [] false rfl rfl d
  · intro ev hev
    rw [staleRun_events true] at hev
    simp only [List.mem_cons, List.not_mem_nil, or_false] at hev
    subst hev
    exact staleHeap2_kept
  · intro hs
    obtain ⟨ev, hev, hr, hp, _, _⟩ := hex
    exact (hs staleOps staleStart staleHeap_wf rfl staleOps_ok ev hev 4224 hr).1 hp
  · intro hs
    obtain ⟨ev, hev, hr, hp, _, _⟩ := hex
    exact (hs staleOps staleStart staleHeap_wf staleOps_ok ev hev 4224 hr).1 hp

/-- **Refuted (Box's ownership contract, an exclusion): histories without `GEvent.exclusive`**, whether `GC_Mark` clears the
    bits first or not: one collection on `boxHeap` (a garbage Box on a Probe that a root-registered Ref refers to). -/
theorem C01_box_shared_target_refuted (cf : Bool) : ¬ C01_history_safe_statement cf := by
  intro hs
  -- the history's one event is the collection of `boxHeap_collect`, for either `cf`
  cases cf <;> exact (hs [.base .collect] ⟨boxHeap, emptyThread, [], []⟩ boxHeap_wf rfl (by decide) _ List.mem_cons_self 4160
    boxHeap_reach).2 boxHeap_collect.1

/-- **What a container presents to the marker is determined by its CURRENT element types.**  An Array / List whose
    current element type is `ety` presents, element by element, what an object of type `ety` with those words presents
    (`elemWords`); a Table / Tree with current key type `kty` and value type `vty` presents the same for every key under `kty`
    and every value under `vty`.  For the source as it is now: Ref elements / keys / values present their word, Int,
    Float and String ones present nothing — whatever the types of the container were earlier in its life. -/
theorem C01_fields_typed (ty : String) (hl : Cfg.current.isLeaf ty = false) (hm : Cfg.current.hasMark ty = true)
    (vals : List (List Word)) (kvs : List (List Word × List Word)) :
    (∀ ety, fields Cfg.current (.cont ty (seqElems ety vals)) = vals.flatMap (elemWords Cfg.current ety)) ∧
    (∀ kty vty, fields Cfg.current (.cont ty (mapElems kty vty kvs)) =
        kvs.flatMap (fun kv => elemWords Cfg.current kty kv.1 ++ elemWords Cfg.current vty kv.2)) ∧
    (∀ ws, elemWords Cfg.current "Ref" ws = ws) ∧
    (∀ ety ∈ ["Int", "Float", "String"], ∀ ws, elemWords Cfg.current ety ws = []) := by
  refine ⟨fun ety => ?_, fun kty vty => ?_, fun ws => ?_, ?_⟩
  · rw [fields_cont _ hl hm, fieldsL_seqElems]
  · rw [fields_cont _ hl hm, fieldsL_mapElems]
  · obtain ⟨hl, hm, hs⟩ := current_scans_refs
    exact elemWords_scan _ hl hm hs ws
  · exact fun ety he ws => elemWords_leaf _ (C01_tables.2.2.1 ety he) ws

/-- **Re-typing.** After `assign(dst, src)` (`Array_Assign`, `List_Assign`, `Table_Assign`, `Tree_Assign`, `Tuple_Assign`)
    the target presents to the marker exactly the words the source presents — whatever the target held and whatever its
    element types were before (leaf → reference-bearing: everything the source reaches; reference-bearing → leaf: nothing);
    `copy(src)` presents what `src` presents; `resize(…, 0)` presents nothing. -/
theorem C01_assign_retypes (c : Cfg) (h : Heap) {ty ty' : String} (hl : c.isLeaf ty = false) (hm : c.hasMark ty = true)
    (hl' : c.isLeaf ty' = false) (hm' : c.hasMark ty' = true) (es0 es : List Obj) (i0 items : List Word) :
    fields c (Obj.assignFrom h (.cont ty es0) (.cont ty' es)) = fields c (.cont ty' es) ∧
    fields c (Obj.assignFrom h (.tup ty i0) (.tup ty' items)) = fields c (.tup ty' items) ∧
    fields c (Obj.assignFrom h (.cont ty es0) (.tup ty' items)) = items.flatMap (fun w => elemWords c "Ref" [h.derefIfPtr w]) ∧
    fields c (Obj.copyOf h (.cont ty' es)) = fields c (.cont ty' es) ∧
    fields c (Obj.cleared (.cont ty es0)) = [] :=
  ⟨fields_assignFrom_cont c h hl hm hl' hm' es0 es, fields_assignFrom_tup c h hl hm hl' hm' i0 items,
   fields_assignFrom_cont_tup c h hl hm es0 items, rfl, fields_cleared_cont c es0⟩

/-- **A re-typed container as the sole path.**  In any state with a well-formed registry: a container at `a` (whatever
    its contents and element types — e.g. a Table constructed as String → Int) is `assign`ed from the container at `b`;
    `b` is deleted; only `a` is held by the stack.  Then every registered object `x` that the SOURCE presented to the
    marker (a Ref value or key of `b`) survives the mark and unlink phases of the next collection (on clear mark bits; the
    release loop and bits that are already set: `C01_collect_safe_partial`): it is not put on the pending list and is still
    registered afterwards. -/
theorem C01_retyped_sole_path_safe {σ : Type} (S : MarkSet σ) (c : Cfg) (s : HState) (wf : s.heap.WF)
    (a b x : Addr) (ty ty' : String) (es0 es : List Obj) (ra rb : Bool) (hab : a ≠ b) (hxb : x ≠ b)
    (ha : s.heap.lookup a = some ⟨.cont ty es0, ra⟩) (hb : s.heap.lookup b = some ⟨.cont ty' es, rb⟩)
    (hty : c.isLeaf ty = false ∧ c.hasMark ty = true) (hty' : c.isLeaf ty' = false ∧ c.hasMark ty' = true)
    (hx : x ∈ fields c (.cont ty' es)) (hreg : (s.heap.lookup x).isSome = true) :
    (∀ ev ∈ (HState.run S c [.assign a b, .del b, .setStack [a], .collect] s).2, x ∉ ev.pending) ∧
    (HState.run S c [.assign a b, .del b, .setStack [a], .collect] s).2.length = 1 ∧
    ((HState.run S c [.assign a b, .del b, .setStack [a], .collect] s).1.heap.lookup x).isSome = true := by
  -- the heap the collection runs on
  let h2 : Heap := (s.heap.write a (.cont ty es)).remove b
  have hrun : HState.run S c [.assign a b, .del b, .setStack [a], .collect] s =
      ({ heap := (collect S c h2 s.thread [a]).1, thread := s.thread, stack := [a] },
       [⟨{ heap := h2, thread := s.thread, stack := [a] }, (collect S c h2 s.thread [a]).2⟩]) := by
    simp only [HState.run, HState.step, ha, hb]
    rfl
  have wf2 : h2.WF := remove_wf (write_wf wf a _) b
  have la : h2.lookup a = some ⟨.cont ty es, ra⟩ := by
    show ((s.heap.write a (.cont ty es)).remove b).lookup a = _
    rw [remove_lookup_ne hab, write_lookup_self ha]
  have lx : (h2.lookup x).isSome = true := by
    show (((s.heap.write a (.cont ty es)).remove b).lookup x).isSome = true
    rw [remove_lookup_ne hxb, write_isSome]; exact hreg
  have hfx : x ∈ fields c (.cont ty es) := by
    rw [fields_cont c hty.1 hty.2]; rw [fields_cont c hty'.1 hty'.2] at hx; exact hx
  have hreach : Reachable c h2 (rootWords c h2 s.thread [a]) x :=
    .step (.root (by simp [rootWords]) (by rw [la]; rfl)) ⟨_, la, hfx⟩ lx
  obtain ⟨e1, _, e3⟩ := C01_sweep_safe S c h2 wf2 s.thread [a] x hreach
  rw [hrun]
  refine ⟨?_, rfl, ?_⟩
  · intro ev hev
    simp only [List.mem_cons, List.not_mem_nil, or_false] at hev
    subst hev; exact e3
  · show ((collect S c h2 s.thread [a]).1.lookup x).isSome = true
    rw [e1]; exact lx

/-- non-vacuity: the hypotheses of `C01_retyped_sole_path_safe` hold for a Table constructed as String → Int (at 4096) that
    is assigned from a Table String → Ref (at 4160) whose value points to the Probe at 4224; and before the re-typing the
    target presents nothing (its Int value equals the address 4224 and is not a reference) -/
example : retypeHeap.WF ∧
    retypeHeap.lookup 4096 = some ⟨.cont "Table" (mapElems "String" "Int" [([0], [4224])]), false⟩ ∧
    retypeHeap.lookup 4160 = some ⟨.cont "Table" (mapElems "String" "Ref" [([0], [4224])]), false⟩ ∧
    (Cfg.current.isLeaf "Table" = false ∧ Cfg.current.hasMark "Table" = true) ∧
    (4224 : Addr) ∈ fields Cfg.current (.cont "Table" (mapElems "String" "Ref" [([0], [4224])])) ∧
    fields Cfg.current (.cont "Table" (mapElems "String" "Int" [([0], [4224])])) = [] ∧
    (retypeHeap.lookup 4224).isSome = true := by
  rw [Cfg.current_eq]; exact ⟨retypeHeap_wf, rfl, rfl, by decide, by decide, by decide, rfl⟩

/-- **Refuted: a Mark instance that consults a verdict cached at construction.**  Let `Table_Mark` skip the table when a
    flag computed by `Table_New` from the key / value types says "no references" (and not recomputed by `Table_Assign`):
    for the marker that is the table as it was CONSTRUCTED (4096 ↦ String → Int, presenting nothing) although its current
    value is the assigned one.  Then the Probe at 4224 — reachable from the stack word 4096 through the re-typed table in
    the heap as it is — is put on the pending list. -/
theorem C01_cached_leaf_flag_refuted :
    let hNow : Heap := (retypeHeap.write 4096 (.cont "Table" (mapElems "String" "Ref" [([0], [4224])]))).remove 4160
    let hSeen : Heap := retypeHeap.remove 4160     -- what a marker trusting the construction-time flag traces
    let thread : Obj := .thr "Thread" (.cont "Table" [])
    Reachable Cfg.current hNow (rootWords Cfg.current hNow thread [4096]) 4224 ∧
    4224 ∈ (collect listSet Cfg.current hSeen thread [4096]).2 ∧
    4224 ∉ (collect listSet Cfg.current hNow thread [4096]).2 := by
  intro hNow hSeen thread
  have wfNow : hNow.WF := remove_wf (write_wf retypeHeap_wf _ _) _
  have hreach : Reachable Cfg.current hNow (rootWords Cfg.current hNow thread [4096]) 4224 := by
    rw [Cfg.current_eq]
    exact .step (a := 4096) (.root (by decide) (by decide))
      ⟨⟨.cont "Table" (mapElems "String" "Ref" [([0], [4224])]), false⟩, rfl, by decide⟩ (by decide)
  refine ⟨hreach, ?_, (C01_sweep_safe listSet Cfg.current hNow wfNow thread [4096] 4224 hreach).2.2⟩
  -- from the stack word 4096 the table as constructed (String → Int) leads nowhere: the marker stops at the table
  have e : gcMark listSet Cfg.current hSeen thread [4096] = [4096] := gcMark_of_dfsFuel (n := 2) (by rw [Cfg.current_eq]; decide)
  simp only [collect, e]
  decide

/-- **T1 `terminates`.** The marker is a total function on every heap (Lean accepted `dfs` with the measure
    (unmarked registered entries, worklist length)); with the mark bits kept as the list of marking events, no
    entry is marked — hence traced — twice, and only registered entries are marked. -/
theorem C01_terminates (c : Cfg) (h : Heap) (roots : List Word) :
    (dfs listSet c h roots []).Nodup ∧ ∀ a ∈ dfs listSet c h roots [], a ∈ h.regs :=
  ⟨dfs_list_nodup c h roots [] List.nodup_nil, fun a ha => by
    have := dfs_list_regs c h roots [] (by intro x hx; cases hx) a ha
    exact this⟩

/-- **T2 the C recursion agrees with the worklist marker.** With the guarded callback (the code as it is now), the recursive marker with
    the call structure of GC.c returns, for every budget at which it completes, exactly the worklist marker's bits. -/
theorem C01_rec_agrees {σ : Type} (S : MarkSet σ) (c : Cfg) (h : Heap) (hg : c.guarded = true) (d : Nat)
    (ws : List Word) (m m' : σ) (hok : foldRes (level S c h d).item ws m = .ok m') : m' = dfs S c h ws m :=
  rec_items_agree S c h hg d ws m m' hok

/-- the same for the whole of `GC_Mark` (thread-local storage, root loop, stack words) -/
theorem C01_gcMark_rec_agrees {σ : Type} (S : MarkSet σ) (c : Cfg) (h : Heap) (hg : c.guarded = true)
    (ht : c.tlsCallback = true) (wf : h.WF) (d : Nat) (thread : Obj) (stack : List Word) (m' : σ)
    (hok : gcMarkRec S c h d thread stack = .ok m') : m' = gcMark S c h thread stack :=
  gcMarkRec_agree S c h hg ht wf d thread stack m' hok

/-- **T2 every collection runs to completion** (the algorithm with the call structure of GC.c, guarded callback): for
    every heap — whatever its size and shape: cycles, sharing, self references, chains — in which Tuples hold pointers
    to registered objects, every list of root words and every state of the mark bits, there is a finite recursion depth
    at which `GC_Mark_Item`/`GC_Recurse`/`GC_Mark_And_Recurse` finish, and they return the worklist marker's bits (to
    which `C01_mark_complete` applies when no bit is set).  How deep a recursion the C stack holds is a run-time matter (known finding F27). -/
theorem C01_rec_completes {σ : Type} (S : MarkSet σ) (c : Cfg) (h : Heap) (hg : c.guarded = true)
    (safe : h.CallbackSafe) (ws : List Word) (m : σ) :
    ∃ d, foldRes (level S c h d).item ws m = .ok (dfs S c h ws m) :=
  rec_completes S c h hg safe ws m

/-- **Reachability goes through every representation** (for the source as it is now): the words the collector
    presents to `GC_Mark_Item` when it traces … -/
theorem C01_fields_current (ws : List Word) (w : Word) (es : List Obj) :
    -- a plain struct, a Ref, a Box: all its words
    fields Cfg.current (.raw "Probe" ws) = ws ∧
    fields Cfg.current (.raw "Ref" [w]) = [w] ∧
    fields Cfg.current (.raw "Box" [w]) = [w] ∧
    -- Array, List (elements), Table, Tree (keys and values): the words of every embedded element
    fields Cfg.current (.cont "Array" es) = fieldsL Cfg.current es ∧
    fields Cfg.current (.cont "List" es) = fieldsL Cfg.current es ∧
    fields Cfg.current (.cont "Table" es) = fieldsL Cfg.current es ∧
    fields Cfg.current (.cont "Tree" es) = fieldsL Cfg.current es ∧
    -- heap Tuple: every stored pointer
    fields Cfg.current (.tup "Tuple" ws) = ws ∧
    -- thread-local storage: the words of every key and value of the thread's table
    tlsWords Cfg.current (.thr "Thread" (.cont "Table" es)) = fieldsL Cfg.current es := by
  rw [Cfg.current_eq]
  simp [fields, viaMark, tlsWords, scanWords, Cfg.isLeaf, Cfg.hasMark]

/-- **`Thread_Mark` presents the table of EVERY Thread object the marker meets** (the source as it is: the guard
    `self is current(Thread)` of 80c795e was withdrawn by 0a0ad73).  A Thread object found in the registry — never `current(Thread)`
    of the marking thread: `new(Thread, f)` before it is called, or one that never runs — presents every key and value of its
    table, exactly as `current(Thread)` does in the thread-local-storage phase of `GC_Mark`: objects stored with
    `set(t, key, obj)` are reachable through the Thread object.  (The unsynchronised walk of a RUNNING thread's table is a known
    limitation of the source, C13.) -/
theorem C01_thread_table_traced (es : List Obj) :
    fields Cfg.current (.thr "Thread" (.cont "Table" es)) = fieldsL Cfg.current es ∧
    tlsWords Cfg.current (.thr "Thread" (.cont "Table" es)) = fieldsL Cfg.current es ∧
    (∀ tls, fields Cfg.threadGuarded (.thr "Thread" tls) = []) := by
  rw [Cfg.threadGuarded, Cfg.current_eq]
  simp [fields, viaMark, tlsWords, Cfg.isLeaf, Cfg.hasMark]

/-- **Refuted for the variant with the WITHDRAWN repair 80c795e (`Thread_Mark` guarded by `self is current(Thread)`).**
    4096 ↦ a Thread object that is not `current(Thread)` (created, not started), held by a stack word; the program has stored the
    Probe at 4160 in it with `set(t, key, probe)`; nothing else refers to the Probe.  The Probe is reachable (for the source as
    it is: `C01_thread_table_traced`) and a collection keeps it; with the guard the marker traces nothing below the Thread
    object and the Probe is put on the pending list while the table still holds it (witness
    corpus/gcmark_thread_table_sole_path.ops, the case that caught the withdrawn repair). -/
theorem C01_thread_guard_refuted :
    threadHeap.WF ∧ Reachable Cfg.current threadHeap (rootWords Cfg.current threadHeap emptyThread [4096]) 4160 ∧
    4160 ∉ (collect listSet Cfg.current threadHeap emptyThread [4096]).2 ∧
    4160 ∈ (collect listSet Cfg.threadGuarded threadHeap emptyThread [4096]).2 := by
  have hreach : Reachable Cfg.current threadHeap (rootWords Cfg.current threadHeap emptyThread [4096]) 4160 := by
    rw [Cfg.current_eq]
    exact .step (a := 4096) (.root (by decide) (by decide)) ⟨_, rfl, by decide⟩ (by decide)
  refine ⟨threadHeap_wf, hreach, (C01_sweep_safe listSet Cfg.current threadHeap threadHeap_wf emptyThread [4096] 4160 hreach).2.2, ?_⟩
  -- with the guard the Thread object presents nothing: the marker stops at it
  have e : gcMark listSet Cfg.threadGuarded threadHeap emptyThread [4096] = [4096] :=
    gcMark_of_dfsFuel (n := 2) (by rw [Cfg.threadGuarded, Cfg.current_eq]; decide)
  simp only [collect, e]
  decide

/-- **`del(NULL)` is a no-op in every state of the release loop** (fix d3e4e44; was known finding KF-C17-null-del-sweep): a
    destructor that deletes an optional member which is NULL (`owns (.raw "ProbeD" _) = [0]`) changes nothing — not the free
    list, not the registry, not the list of finalised objects. -/
theorem C01_del_null_noop (fin : RState → Addr → RState) (st : RState) :
    remPtr fin st 0 = st ∧ owns (.raw "ProbeD" [7]) = [0] :=
  ⟨remPtr_null fin st, rfl⟩

/-- **Refuted for the OLD variant (`GC_Rem_Ptr` before fix d3e4e44, `remPtrPre`)**: the release loop is finalising the item at
    4096 — it has set the item's slot of the free list to NULL — and the item's destructor calls `del(NULL)`: the free-list loop
    of `GC_Rem_Ptr` compares `gc->freelist[i] is ptr`, finds the NULL slot and runs `dealloc(destruct(NULL))` (address 0 is
    "finalised": a NULL dereference in C).  `remPtr`, the code as it is, returns at once; and for a pointer that is not NULL the
    two agree. -/
theorem C01_del_null_old_refuted :
    let st : RState := { heap := boxHeap, pending := [none], finalised := [4096], exhausted := false }
    0 ∈ (remPtrPre (finaliseAt boxHeap 1) st 0).finalised ∧ (remPtr (finaliseAt boxHeap 1) st 0).finalised = [4096] ∧
    ∀ (fin : RState → Addr → RState) (s : RState) (v : Word), v ≠ 0 → remPtr fin s v = remPtrPre fin s v := by
  refine ⟨by decide, by decide, ?_⟩
  intro fin s v hv
  obtain ⟨h1, h2⟩ := remPtr_nonnull fin s v hv
  rw [h1, h2]

/-- an element embedded in a container contributes its own words, wherever it sits -/
theorem C01_fieldsL_mem (c : Cfg) (es : List Obj) (e : Obj) (he : e ∈ es) (w : Word) (hw : w ∈ fields c e) :
    w ∈ fieldsL c es :=
  mem_fieldsL.mpr ⟨e, he, hw⟩

/-- **C01 for the code in /repo now**, one collection: mark phase and unlink phase on clear mark bits. -/
theorem C01_current_source {σ : Type} (S : MarkSet σ) (h : Heap) (wf : h.WF) (thread : Obj) (stack : List Word) (a : Addr)
    (hr : Reachable Cfg.current h (rootWords Cfg.current h thread stack) a) :
    (collect S Cfg.current h thread stack).1.lookup a = h.lookup a ∧ (h.lookup a).isSome = true ∧
      a ∉ (collect S Cfg.current h thread stack).2 :=
  C01_sweep_safe S Cfg.current h wf thread stack a hr

/-- **C01 for the code in /repo now, over ALL histories with the mark bits in the state** — with what `GC_Mark` does to the bits
    before it starts in the CURRENT source (`clearFirstNow` = `CelloGen.GcMark.markClearsFirst`, re-extracted on every run: `true`
    since fix d8f0c4f).  No hypothesis on the initial bits, none on exceptions: a mark phase may be left by an exception after any
    number of marking events, any number of times; every later collection still keeps every object reachable from thread-local
    storage, a root-registered entry or a stack word off the pending list, registered, and — where no freed entry owns a
    surviving one — not finalised and with unchanged contents.  (For the collector before the fix the hypothesis "no exception
    leaves a mark phase" was needed: `C01_stale_marks_refuted`.) -/
theorem C01_current_source_history {σ : Type} (S : MarkSet σ) (ops : List GOp) (s0 : GState)
    (wf : s0.heap.WF) (hok : ∀ op ∈ ops, op.ok) :
    (GState.run S Cfg.current clearFirstNow ops s0).1.heap.WF ∧
    ∀ ev ∈ (GState.run S Cfg.current clearFirstNow ops s0).2, ev.started = [] ∧ ∀ a,
      Reachable Cfg.current ev.before.heap (rootWords Cfg.current ev.before.heap ev.before.thread ev.before.stack) a →
        a ∉ ev.pending ∧ (ev.before.heap.lookup a).isSome = true ∧
        (ev.exclusive S Cfg.current = true → a ∉ ev.finalised ∧ ev.after.lookup a = ev.before.heap.lookup a) :=
  C01_history_safe_partial S Cfg.current clearFirstNow ops s0 wf hok (.inl (by decide))

/-- **`C01_history_safe_exclusive_statement` is a theorem for the code in /repo now** (refuted for the collector before fix
    d8f0c4f: `C01_stale_marks_refuted`) -/
theorem C01_history_safe_exclusive : C01_history_safe_exclusive_statement clearFirstNow := by
  intro ops s0 wf hok ev hev a hr
  obtain ⟨e1, _, e3⟩ := ((C01_current_source_history listSet ops s0 wf hok).2 ev hev).2 a hr
  exact ⟨e1, e3⟩

/-- non-vacuity: the hypotheses of `C01_sweep_safe` hold on the demo heap for an object three hops from a stack word,
    through an Array element, a Ref and a self-containing heap Tuple (for one reachable only from thread-local storage: under
    `C01_tls_item_only_refuted`) -/
example : Reachable Cfg.current demoHeap (rootWords Cfg.current demoHeap demoThread [12, 4100, 4096]) 4224 := by
  rw [Cfg.current_eq]
  exact .step (a := 4160) (.step (a := 4096) (.root (by decide) (by decide)) ⟨_, rfl, by decide⟩ (by decide))
    ⟨_, rfl, by decide⟩ (by decide)

/-- non-vacuity of the standing hypotheses: a concrete heap with an Array, a self-containing Tuple, plain structs and
    garbage is well formed and callback-safe; a history with allocation, store, root change, deletion and two
    collections consists of admissible operations -/
example : demoHeap.WF ∧ demoHeap.CallbackSafe := ⟨demoHeap_wf, demoHeap_safe⟩

example : ∀ op ∈ [HOp.alloc 4416 ⟨.raw "Ref" [4096], false⟩, .write 4224 (.raw "Probe" [4416]), .setStack [4160],
    .collect, .del 4352, .setThread demoThread, .collect], op.ok := by decide

/-- non-vacuity of the hypotheses of `C01_collect_safe_partial` / `C01_collect_safe_current` / `C01_history_safe_partial`: a registry with a Box that is used
    within its contract (root-registered Ref → Box → Probe, plus garbage) is well formed, the Probe is reachable through the
    Box, "no reachable object is owned by an unreachable one" holds, hence `boxExclusive`; no bit is set in the empty set; and
    a history with a store, a rehash and two completed collections meets `GOp.ok` and `GOp.completes`; the event of a
    collection on that registry meets `GEvent.exclusive` -/
example : okBoxHeap.WF ∧ Reachable Cfg.current okBoxHeap (rootWords Cfg.current okBoxHeap emptyThread []) 4224 ∧
    boxExclusive listSet Cfg.current okBoxHeap emptyThread [] listSet.empty = true ∧ (∀ x, listSet.mem x listSet.empty = false) :=
  ⟨okBoxHeap_wf, okBoxHeap_target_reach,
    C01_box_contract listSet Cfg.current okBoxHeap okBoxHeap_wf emptyThread [] okBoxHeap_contract, listSet.mem_empty⟩

example : (∀ op ∈ [GOp.base (.write 4288 (.raw "Probe" [4224])), .base .collect, .rehash, .base (.setStack [4288]), .base .collect],
      op.ok ∧ op.completes = true) ∧
    GEvent.exclusive listSet Cfg.current ⟨⟨okBoxHeap, emptyThread, [], []⟩, [], [], [], okBoxHeap⟩ = true :=
  ⟨by decide, C01_box_contract listSet Cfg.current okBoxHeap okBoxHeap_wf emptyThread [] okBoxHeap_contract⟩

/-- **Refuted (F25, repaired by fc3452e).** With thread-local storage handed to `GC_Mark_Item` only, the object at 4288 —
    reachable, but only from thread-local storage — is not marked and ends up on the pending list. -/
theorem C01_tls_item_only_refuted :
    let c : Cfg := { Cfg.current with tlsCallback := false }
    Reachable Cfg.current demoHeap (rootWords Cfg.current demoHeap demoThread []) 4288 ∧
    4288 ∈ (collect listSet c demoHeap demoThread []).2 := by
  refine ⟨by rw [Cfg.current_eq]; exact .root (by decide) (by decide), ?_⟩
  -- `GC_Mark_Item` ignores the embedded elements of the thread's table: the marker has no root word at all
  have e : gcMark listSet { Cfg.current with tlsCallback := false } demoHeap demoThread [] = [] :=
    gcMark_of_dfsFuel (n := 0) (by rw [Cfg.current_eq]; decide)
  simp only [collect, e]
  decide

/-- non-vacuity of `C01_sweep_safe` for an object reachable only from thread-local storage: the first fact of the witness above -/
example : Reachable Cfg.current demoHeap (rootWords Cfg.current demoHeap demoThread []) 4288 := C01_tls_item_only_refuted.1

/-- **Refuted (F26, repaired by 7d133ba).** With the unconditional `GC_Mark_Item(ptr); GC_Recurse(ptr);` the recursive
    marker does not complete on the one-object heap `tuple [self]`, whatever the depth budget: the collection never ends. -/
theorem C01_unguarded_callback_refuted {σ : Type} (S : MarkSet σ) :
    let c : Cfg := { Cfg.current with guarded := false }
    ∀ d, (level S c selfTupleHeap d).item 4096 S.empty = .deep :=
  fun d => selfTuple_diverges S { Cfg.current with guarded := false } current_traces_tuples.1 current_traces_tuples.2.1 rfl d

/-- **Refuted (known finding F27, not repaired): "every collection runs to completion within a fixed stack".**
    Full statement that fails: `∃ d, ∀ h ws, (foldRes (level S Cfg.current h d).item ws S.empty) ≠ .deep`.
    For every depth budget `d` there is a heap — a chain of `d+1` Refs, well formed and callback-safe, every object
    reachable from the root word 8 — on which the marker with the call structure of GC.c needs more than `d` nested
    activations: on the real machine, a chain longer than the C stack allows overflows it (witness
    corpus/kf_c01_deep_chain.ops).  What is proved instead: `C01_rec_completes` (some finite depth always suffices). -/
theorem C01_fixed_stack_refuted {σ : Type} (S : MarkSet σ) (d : Nat) :
    (chainHeap (d + 1)).WF ∧ (chainHeap (d + 1)).CallbackSafe ∧
    (level S Cfg.current (chainHeap (d + 1)) d).item 8 S.empty = .deep :=
  ⟨chainHeap_wf _, chainHeap_safe _,
    chain_exceeds_budget S Cfg.current current_scans_refs.1 current_scans_refs.2.1 current_scans_refs.2.2 d⟩

/-- **Refuted (known finding KF-C01-tuple-aliases-elements, not repaired): completion after `assign(tuple, array)`.**
    `Tuple_Assign(t, obj)` stores `get(obj, i)`: for an Array / List source these are pointers to the elements EMBEDDED in the
    source's storage — words that are not registered objects (no embedded element is ever registered) and that dangle as
    soon as the source grows, shrinks or is cleared.  In every well-formed heap, a registered Tuple whose first stored
    pointer is not a registered object makes the marker with the call structure of GC.c leave the model at every budget ≥ 2:
    `GC_Mark_And_Recurse` finds the pointer unregistered and calls `GC_Recurse` on it (on the real machine: a freed or
    reallocated block, witness corpus/kf_c01_tuple_alias.ops).  This is why `Obj.assignFrom` has no Tuple ← Array / List
    case and the histories assign a Tuple only from a Tuple. -/
theorem C01_tuple_aliases_elements_refuted {σ : Type} (S : MarkSet σ) (h : Heap) (wf : h.WF) (a w : Addr) (rest : List Word)
    (r : Bool) (ha : h.lookup a = some ⟨.tup "Tuple" (w :: rest), r⟩) (hw : h.lookup w = none) (d : Nat) :
    ¬ h.CallbackSafe ∧ (level S Cfg.current h (d + 2)).item a S.empty = .ub := by
  obtain ⟨hl, hk, hg⟩ := current_traces_tuples
  refine ⟨?_, tuple_unregistered_item_ub S Cfg.current h wf hl hk hg a w rest r ha hw d⟩
  intro hs
  have := hs a _ ha w (by simp [handed])
  rw [hw] at this; cases this

/-- **Refuted (known finding KF-C01-dangling-tuple-item, not repaired): completion without `CallbackSafe`.**
    Full statement that fails: `C01_rec_completes` without the hypothesis `h.CallbackSafe`.
    On a well-formed heap whose Tuple holds the address of an object that has been deleted by hand, the marker with the
    call structure of GC.c does not complete for any budget ≥ 2: `GC_Mark_And_Recurse` finds the pointer unregistered and
    calls `GC_Recurse` on it — memory the model knows nothing about (on the real machine: a freed block, witness
    corpus/kf_c01_dangling_tuple.ops).  When the freed block has not been reused, `type_of` throws ValueError there: the exception
    LEAVES `GC_Mark` with the mark bits set so far and `GC_Sweep` is skipped; since fix d8f0c4f the next `GC_Mark` clears those bits
    first (`C01_current_source_history`); before it the NEXT collection reclaimed objects reachable only through the stale-marked
    entries (`C01_stale_marks_refuted`). -/
theorem C01_dangling_tuple_item_refuted {σ : Type} (S : MarkSet σ) (d : Nat) :
    danglingHeap.WF ∧ ¬ danglingHeap.CallbackSafe ∧
    (level S Cfg.current danglingHeap (d + 2)).item 4096 S.empty = .ub :=
  ⟨danglingHeap_wf, C01_tuple_aliases_elements_refuted S danglingHeap danglingHeap_wf 4096 4160 [] false rfl rfl d⟩

/-- non-vacuity of `C01_tuple_aliases_elements_refuted`: `danglingHeap` (a Tuple whose item was deleted by hand) meets its hypotheses -/
example {σ : Type} (S : MarkSet σ) (d : Nat) : (level S Cfg.current danglingHeap (d + 2)).item 4096 S.empty = .ub :=
  (C01_tuple_aliases_elements_refuted S danglingHeap danglingHeap_wf 4096 4160 [] false rfl rfl d).2

/-- on the one-object heap `tuple [self]` of `C01_unguarded_callback_refuted` the guarded callback completes and marks the Tuple
    (non-vacuity of `C01_rec_agrees`) -/
example : (level listSet Cfg.current selfTupleHeap 3).item 4096 [] = .ok [4096] := by rw [Cfg.current_eq]; decide

/-! ### the header's type pointer: a run-time Type is not kept alive by its instances (known finding KF-C01-type-outlived)

  `Cello/HeapRec.lean` (`TyMap`, `ReachableT`, `typesAnchored`, `TState.run`): an object refers to its Type through its header, which lies in
  front of the address the collector knows; the collector neither marks through that pointer nor orders the release.  The unconditional
  statement — reachability INCLUDING the header edge, every collection runs to completion — is refuted for the source as it is; the theorems
  hold under the explicit, decidable hypothesis "the types of all registered objects are static, root-registered, or themselves reachable
  from the roots" (`typesAnchored`, checked whenever a mark phase begins: `TState.anchored`). -/

/-- the unconditional statement over typed histories: every mark phase runs to completion (no `GC_Recurse` on an object whose Type has been
    released) and no object reachable from the roots — along the words the collector reads OR along a header's type pointer — is put on the
    pending list -/
def C01_type_edge_statement : Prop :=
  ∀ (ops : List TOp) (s0 : TState), s0.g.heap.WF → (∀ op ∈ TOp.erase ops, op.ok) →
    ∃ s2 evs, TState.run listSet Cfg.current clearFirstNow ops s0 = some (s2, evs) ∧
      ∀ tev ∈ evs, ∀ a,
        ReachableT Cfg.current tev.ev.before.heap tev.ty
          (rootWords Cfg.current tev.ev.before.heap tev.ev.before.thread tev.ev.before.stack) a → a ∉ tev.ev.pending

/-- **Refuted (known finding KF-C01-type-outlived, not repaired): the header's type pointer is not traced.**
    `T = new(Type, …)` at 4160 (an ordinary non-root registry entry: `Type_Alloc` → `alloc_by` → `GC_Set`), `x = new(T)` at 4096 held by a stack
    word; nothing but `header(x)->type` refers to `T`.  (1) `T` is reachable through the header edge, not along the words the collector reads;
    (2) one collection puts `T` on the pending list and releases it while `x` stays registered; (3) the NEXT collection marks `x` and calls
    `GC_Recurse(gc, x)` → `type_of(x)` → `type_instance(T, Mark)` on the released block: undefined behaviour, the typed history has no result
    (on the real machine: SIGSEGV / heap-use-after-free in `GC_Recurse`, witness corpus/kf_c01_type_outlived.ops); (4) the hypothesis
    `typesAnchored` is false on this heap, and true as soon as the program also keeps `T` in a stack word — then nothing is lost. -/
theorem C01_type_outlived_refuted :
    typeHeap.WF ∧
    ReachableT Cfg.current typeHeap typeTy (rootWords Cfg.current typeHeap emptyThread [4096]) 4160 ∧
    ¬ Reachable Cfg.current typeHeap (rootWords Cfg.current typeHeap emptyThread [4096]) 4160 ∧
    4160 ∈ (collectWhole listSet Cfg.current clearFirstNow typeHeap emptyThread [4096] (seed listSet [])).pending ∧
    (collectWhole listSet Cfg.current clearFirstNow typeHeap emptyThread [4096] (seed listSet [])).heap.lookup 4096 =
      some ⟨.raw "Probe" [7], false⟩ ∧
    TState.run listSet Cfg.current clearFirstNow [.op (.base .collect), .op (.base .collect)] typeStart = none ∧
    typesAnchored listSet Cfg.current typeHeap typeTy emptyThread [4096] = false ∧
    typesAnchored listSet Cfg.current typeHeap typeTy emptyThread [4096, 4160] = true ∧
    ¬ C01_type_edge_statement := by
  have hrun : TState.run listSet Cfg.current clearFirstNow [.op (.base .collect), .op (.base .collect)] typeStart = none :=
    typeHeap_second_collection_ub
  refine ⟨typeHeap_wf, typeHeap_type_reachT, typeHeap_type_unreachable, typeHeap_collect.1, typeHeap_collect.2.1, hrun, ?_, ?_, fun hs => ?_⟩
  -- `typesAnchored` asks whether `GC_Mark` marks the Type: the run with x on the stack does not, the run with x and T does
  · simp only [typesAnchored, gcMark_of_dfsFuel typeHeap_run]; decide
  · simp only [typesAnchored, gcMark_of_dfsFuel typeHeap_run_held]; decide
  · obtain ⟨s2, evs, h1, _⟩ := hs [.op (.base .collect), .op (.base .collect)] typeStart typeHeap_wf (by decide)
    rw [hrun] at h1; cases h1

/-- **C01 for the code in /repo now over typed histories, under `TState.anchored`**: whenever a mark phase begins, the type of every
    registered object is static, root-registered, or reachable from the roots along the words the collector reads (decidable; false exactly
    in the territory of KF-C01-type-outlived: `C01_type_outlived_refuted`).  Then every mark phase runs to completion — no `GC_Recurse` meets
    a released Type —, the collections are those of the untyped history (`C01_current_source_history` applies to them), and every object
    reachable from thread-local storage, a root-registered entry or a stack word ALONG POINTER WORDS OR HEADER TYPE POINTERS stays off the
    pending list, registered, and (Box's ownership contract) not finalised and with unchanged contents.  `TOp.retag` (the allocator writes the
    header of a block it hands out) may change any object's type at any time; no hypothesis on the mark bits or on exceptions. -/
theorem C01_current_source_history_typed {σ : Type} (S : MarkSet σ) (ops : List TOp) (s0 : TState)
    (wf : s0.g.heap.WF) (hok : ∀ op ∈ TOp.erase ops, op.ok)
    (hanch : TState.anchored S Cfg.current clearFirstNow ops s0 = true) :
    ∃ s2 evs, TState.run S Cfg.current clearFirstNow ops s0 = some (s2, evs) ∧
      evs.map (·.ev) = (GState.run S Cfg.current clearFirstNow (TOp.erase ops) s0.g).2 ∧
      ∀ tev ∈ evs, ∀ a,
        ReachableT Cfg.current tev.ev.before.heap tev.ty
          (rootWords Cfg.current tev.ev.before.heap tev.ev.before.thread tev.ev.before.stack) a →
        a ∉ tev.ev.pending ∧ (tev.ev.before.heap.lookup a).isSome = true ∧
        (tev.ev.exclusive S Cfg.current = true → a ∉ tev.ev.finalised ∧ tev.ev.after.lookup a = tev.ev.before.heap.lookup a) := by
  obtain ⟨s2, evs, h1, h2, _, h4⟩ := run_of_anchored S Cfg.current clearFirstNow ops s0 hanch
  refine ⟨s2, evs, h1, h2, ?_⟩
  intro tev htev a hr
  have hmem : tev.ev ∈ (GState.run S Cfg.current clearFirstNow (TOp.erase ops) s0.g).2 := by
    rw [← h2]; exact List.mem_map_of_mem htev
  have hwf : tev.ev.before.heap.WF :=
    ((grun_events S Cfg.current clearFirstNow (TOp.erase ops) s0.g wf hok (.inl (by decide))).2 tev.ev hmem).1
  have hr' := reachableT_reachable S Cfg.current hwf (h4 tev htev) a hr
  exact ((C01_current_source_history S (TOp.erase ops) s0.g wf hok).2 tev.ev hmem).2 a hr'

/-- non-vacuity: with the Type also held by a stack word the hypothesis holds for a history that re-tags an object and collects -/
example : TState.anchored listSet Cfg.current clearFirstNow [.retag 4096 (some 4160), .op (.base (.setStack [4096, 4160])), .op (.base .collect)]
    ⟨⟨typeHeap, emptyThread, [], []⟩, fun _ => none⟩ = true := by
  have h := C01_type_outlived_refuted.2.2.2.2.2.2.2.1
  have hty : (TState.retag ⟨⟨typeHeap, emptyThread, [], []⟩, fun _ => none⟩ 4096 (some 4160)).ty = typeTy := by
    funext x; simp [TState.retag, typeTy]
  simp only [TState.anchored, GOp.marks, Bool.not_true, Bool.false_or, Bool.not_false, Bool.true_or, Bool.true_and, Bool.and_true]
  rw [hty]
  exact h

/-- **`levelX` is a conservative extension of `level`**: with no live unregistered object known it is the marker all the theorems above are about -/
theorem C01_levelX_conservative {σ : Type} (S : MarkSet σ) (c : Cfg) (h : Heap) (d : Nat) :
    levelX S c h (fun _ => none) d = level S c h d := by
  induction d with
  | zero => rfl
  | succ d ih =>
    have hcb : callbackX c h (fun _ => none) (level S c h d) = callback c h (level S c h d) := by
      funext w m
      cases hg : c.guarded <;> cases hl : h.lookup w <;> simp [callbackX, callback, hg, hl]
    simp only [levelX, level, ih, hcb]

/-- **The marker completes on a Tuple whose items are live unregistered objects, and follows the path through them** (the case the hypothesis
    `CallbackSafe` of `C01_rec_completes` excludes although the C code is right): on `extHeap` the recursion with the call structure of GC.c
    finishes at depth 7, having marked the Tuple and the Probe that is reachable only THROUGH the `new_raw` Array; `level`, which knows registered
    objects only, answers `.ub` there; and with one of the three items neither registered nor live (`extLive` without the stack Int at 5008) the answer is
    `.ub` again — the territory of KF-C01-dangling-tuple-item / KF-C01-tuple-aliases-elements, and nothing more. -/
theorem C01_tuple_live_items_complete :
    (levelX listSet Cfg.current extHeap extLive 7).item 4096 [] = .ok [4160, 4096] ∧
    (level listSet Cfg.current extHeap 5).item 4096 [] = .ub ∧
    (levelX listSet Cfg.current extHeap (fun a => if a = 5008 then none else extLive a) 5).item 4096 [] = .ub := by
  rw [Cfg.current_eq]; exact ⟨by decide, by decide, by decide⟩

/-- the full statement — completion for EVERY heap whose Tuples / user Mark instances hand out pointers to
    registered objects or to live unregistered objects (`ext`) whose own handed pointers are live in turn and whose nesting is finite (`rank`) —
    is NOT proved in general: `C01_rec_completes` covers `ext = ∅` (every handed pointer registered), `C01_tuple_live_items_complete` a concrete
    heap with static, stack and `new_raw` items; the general induction over `levelX` (the worklist `dfs` would have to splice the words of live
    unregistered objects into the stack) is missing. -/
def C01_rec_completes_live_statement : Prop :=
  ∀ {σ : Type} (S : MarkSet σ) (h : Heap) (ext : Ext) (rank : Addr → Nat),
    (∀ a e, h.lookup a = some e → ∀ w ∈ handed e.obj, (h.lookup w).isSome = true ∨ (ext w).isSome = true) →
    (∀ a o, ext a = some o → ∀ w ∈ handed o, (h.lookup w).isSome = true ∨ ∃ o', ext w = some o' ∧ rank w < rank a) →
    ∀ (ws : List Word) (m : σ), ∃ d m', foldRes (levelX S Cfg.current h ext d).item ws m = .ok m'

end Cello.Heap

/-! ### a collection INSIDE a container operation: mark-safe intermediate states

  `Cello.Heap.Mid` (Cello/HeapMid.lean) runs the statement lists that translate/g_gcmark.py extracts from Array.c, List.c, Table.c and Tree.c
  (`CelloGen/GcMid.lean`: where `destruct` / `assign` of an element stand relative to `nitems--`, `List_Unlink`, `memset`, `free`, …) and records,
  for every call of element code, what the container's Mark instance presents at that moment (`View`; `MarkSafe`: Lemmas/MarkMid.lean).
  `C01_mid_op_collection_safe` turns `MarkSafe` into the property: a collection that runs inside such a call finalises nothing that is
  reachable when the operation completes. -/

namespace Cello.Heap.Mid
open CelloGen.GcMid
variable {α : Type}

/-- where the model uses one statement list for several branches of the source, the branches agree (the three branches of `Tree_Set` that add
    a node; `List_Rem` and `List_Pop_At`; `List_Pop` and `List_Pop_At` behind the unlink); `Array_Assign` starts with `Array_Clear` of the
    target, `Tree_Clear` with the walk of `Tree_Clear_Entry` over the nodes; `Tree_Mark` presents nothing when `nitems is 0` -/
theorem C01_mid_source_consistent :
    treeSetRoot = treeSetLeft ∧ treeSetLeft = treeSetRight ∧ listRem = listPopAt ∧ listPop.tail = listPopAt.tail ∧
    arrayAssignHead.head? = some Ev.clear ∧ treeClear.head? = some Ev.clear ∧ treeMarkEmptyWhenLen0 = true := by decide

/-- **Every operation the flow check admits** (`flowProg`, Lemmas/MarkMid.lean, decided on the statement lists re-extracted from the source on
    every run): element code runs only where the Mark instance finds no empty slot, and no statement brings into view an element that was
    not in view before (`nitems` of an Array is not raised, no cell moves across it; `nitems` of an emptied Tree is raised only over cells
    of the operand).  For every container kind, content and operand (an Array whose block is exactly full: `Mach.init`; the theorems below
    that start from `Mach.initCap` cover the spare slots). -/
theorem flow_mark_safe (elems : List α) (env : Env α) {p : List Instr} (h : flowProg env.shape p = true) :
    MarkSafe env ((Mach.init elems).exec env p) :=
  markSafe_of_flow rfl rfl (init_ok env elems) h

/-- **Array_Pop_At (and Array_Rem, which calls it): `destruct(Array_Item(a, i))` runs while `nitems` still counts every element.**  For every
    Array (any block size, whatever the spare slots hold) and every index `i < nitems`: inside the destructor of the removed element
    `Array_Mark` reads only constructed elements and presents every element the Array keeps: `memmove` closes the gap inside the first
    `nitems` slots, whatever the spare slots hold (`mem_takePad_moveDown`).  The statement order is
    `CelloGen.GcMid.arrayPopAt`, re-extracted from src/Array.c on every run: with `a->nitems--` in front of `destruct` (seeded change c01_h)
    this theorem is false (`C01_array_pop_at_dec_first_refuted`). -/
theorem C01_array_pop_at_mark_safe (elems : List α) (spare : List (Cell α)) (env : Env α) (hs : env.shape = Shape.array)
    (hi : env.i < elems.length) :
    MarkSafe env ((Mach.initCap elems spare).exec env (prog .array false .popAt)) :=
  markSafe_of_flow rfl rfl (initCap_ok env elems spare hs) (hs ▸ by decide)

/-- Array_Pop: `destruct` of the last element stands in front of `nitems--`: the destructor sees the Array as it was (spare slots: empty) -/
theorem C01_array_pop_mark_safe (elems : List α) (k : Nat) (env : Env α) (hs : env.shape = Shape.array) :
    MarkSafe env ((Mach.initCap elems (List.replicate k none)).exec env (prog .array false .pop)) :=
  markSafe_of_flow rfl rfl (initCap_ok env elems _ hs) (hs ▸ by decide)

/-- Array_Push: `nitems++`, room, `Array_Alloc` of the last slot (zeroed), then `assign`: inside the Assign instance the Array holds every
    old element and the new one, no unconstructed slot -/
theorem C01_array_push_mark_safe (elems : List α) (k : Nat) (env : Env α) (hs : env.shape = Shape.array) :
    MarkSafe env ((Mach.initCap elems (List.replicate k none)).exec env (prog .array false .push)) := by
  obtain ⟨rest, h⟩ := array_push_pre elems (List.replicate k none) env hs
  -- behind `Array_Alloc` the first `nitems` slots hold elements again: the flow check takes over there
  refine markSafe_of_flow_behind (evs := [.inc, .reserveMore, .alloc .last]) (evs' := [.assign .last]) rfl
    (by rw [h]) (by rw [h]) ⟨fun c hc => ?_, fun h0 => by rw [hs] at h0; cases h0⟩ (hs ▸ by decide)
  rw [h, Mach.presented, hs] at hc
  exact all_some_insert (B := []) (by simp) env.zero c ((presented_array_cons _ [] rest _ (by simp)).subst (motive := (c ∈ ·)) hc)

/-- Array_Push_At: `nitems++`, room, the elements from `i` on move up, the slot is zeroed, then `assign`: inside the Assign instance the Array
    holds every old element and the new one -/
theorem C01_array_push_at_mark_safe (elems : List α) (k : Nat) (env : Env α) (hs : env.shape = Shape.array) (hi : env.i ≤ elems.length) :
    MarkSafe env ((Mach.initCap elems (List.replicate k none)).exec env (prog .array false .pushAt)) := by
  obtain ⟨rest, h⟩ := array_push_at_pre elems (List.replicate k none) env hi
  refine markSafe_of_flow_behind (evs := [.inc, .reserveMore, .moveUp (-1), .alloc .idx]) (evs' := [.assign .idx]) rfl
    (by rw [h]) (by rw [h]) ⟨fun c hc => ?_, fun h0 => by rw [hs] at h0; cases h0⟩ (hs ▸ by decide)
  rw [h, Mach.presented, hs, presented_array_cons _ _ rest _ (by simp; omega)] at hc
  exact all_some_insert (all_some_take_drop elems _ _) env.zero c hc

/-- Array_Set / List_Set: the element is overwritten in place -/
theorem C01_seq_set_mark_safe (elems : List α) (env : Env α) (hi : env.i < elems.length) :
    (env.shape = Shape.array → MarkSafe env ((Mach.init elems).exec env (prog .array false .set))) ∧
    (env.shape = Shape.list → MarkSafe env ((Mach.init elems).exec env (prog .list false .set))) :=
  ⟨fun hs => flow_mark_safe elems env (hs ▸ by decide), fun hs => flow_mark_safe elems env (hs ▸ by decide)⟩

/-- Array_Clear: the loop only destructs; `free(a->data)` and `nitems = 0` stand behind it: every destructor sees the Array as it was -/
theorem C01_array_clear_mark_safe (elems : List α) (k : Nat) (env : Env α) (hs : env.shape = Shape.array) :
    MarkSafe env ((Mach.initCap elems (List.replicate k none)).exec env (prog .array false .clear)) :=
  markSafe_of_flow rfl rfl (initCap_ok env elems _ hs) (hs ▸ by decide)

/-- Array_Resize (shrinking): `destruct(last); nitems--` — the views are ever shorter prefixes, all at least as long as what stays -/
theorem C01_array_resize_mark_safe (elems : List α) (env : Env α) (hs : env.shape = Shape.array) :
    MarkSafe env ((Mach.init elems).exec env (prog .array false .resize)) :=
  flow_mark_safe elems env (hs ▸ by decide)

/-- List_Pop_At: the cell is unlinked before its element is destructed -/
theorem C01_list_pop_at_mark_safe (elems : List α) (env : Env α) (hs : env.shape = Shape.list) :
    MarkSafe env ((Mach.init elems).exec env (prog .list false .popAt)) :=
  flow_mark_safe elems env (hs ▸ by decide)

/-- List_Pop: the same order, on the last cell -/
theorem C01_list_pop_mark_safe (elems : List α) (env : Env α) (hs : env.shape = Shape.list) :
    MarkSafe env ((Mach.init elems).exec env (prog .list false .pop)) :=
  flow_mark_safe elems env (hs ▸ by decide)

/-- List_Rem, the branch of the first equal element: the same order -/
theorem C01_list_rem_mark_safe (elems : List α) (env : Env α) (hs : env.shape = Shape.list) :
    MarkSafe env ((Mach.init elems).exec env (prog .list false .remVal)) :=
  flow_mark_safe elems env (hs ▸ by decide)

/-- List_Push / List_Push_At: the new cell is linked after its element was assigned -/
theorem C01_list_push_mark_safe (elems : List α) (env : Env α) (hs : env.shape = Shape.list) :
    MarkSafe env ((Mach.init elems).exec env (prog .list false .push)) ∧
    MarkSafe env ((Mach.init elems).exec env (prog .list false .pushAt)) :=
  ⟨flow_mark_safe elems env (hs ▸ by decide),
   flow_mark_safe elems env (hs ▸ by decide)⟩

/-- List_Resize (shrinking): `unlink(tail); destruct; free; nitems--` -/
theorem C01_list_resize_mark_safe (elems : List α) (env : Env α) (hs : env.shape = Shape.list) :
    MarkSafe env ((Mach.init elems).exec env (prog .list false .resize)) :=
  flow_mark_safe elems env (hs ▸ by decide)

/-- List_Concat: `List_Push` of every element of the source — the list only grows, by constructed elements -/
theorem C01_list_concat_mark_safe (elems : List α) (env : Env α) (hs : env.shape = Shape.list) :
    MarkSafe env ((Mach.init elems).exec env (prog .list false .concat)) :=
  flow_mark_safe elems env (hs ▸ by decide)

/-- Table_Set_Move: the new entry is built in the swap space; the old entry (if the key exists) is destructed in its slot, then overwritten -/
theorem C01_table_set_mark_safe (elems : List α) (env : Env α) (hs : env.shape = Shape.table) :
    MarkSafe env ((Mach.init elems).exec env (prog .table false .set)) ∧
    MarkSafe env ((Mach.init elems).exec env (prog .table false .setNew)) :=
  ⟨flow_mark_safe elems env (hs ▸ by decide),
   flow_mark_safe elems env (hs ▸ by decide)⟩

/-- Table_Rem: key and value are destructed in their slot, then the slot is cleared -/
theorem C01_table_rem_mark_safe (elems : List α) (env : Env α) (hs : env.shape = Shape.table) :
    MarkSafe env ((Mach.init elems).exec env (prog .table false .remKey)) :=
  flow_mark_safe elems env (hs ▸ by decide)

/-- Table_Clear: the loop over the slots only destructs keys and values; the slot array is freed and `nitems` zeroed behind it -/
theorem C01_table_clear_mark_safe (elems : List α) (env : Env α) (hs : env.shape = Shape.table) :
    MarkSafe env ((Mach.init elems).exec env (prog .table false .clear)) :=
  flow_mark_safe elems env (hs ▸ by decide)

/-- Table_Assign: Table_Clear (every destructor sees the table as it was), then `Table_Set_Move` of every entry of the source into the emptied
    table (every Assign call sees the entries stored so far) -/
theorem C01_table_assign_mark_safe (elems : List α) (env : Env α) (hs : env.shape = Shape.table) :
    MarkSafe env ((Mach.init elems).exec env (prog .table false .assign)) :=
  flow_mark_safe elems env (hs ▸ by decide)

/-- Tree_Rem: key and value are destructed while the node is linked; Tree_Set of a new key (as a child,
    or as the root of an empty tree): the node is linked after its key and value were assigned -/
theorem C01_tree_rem_setnew_mark_safe (elems : List α) (env : Env α) (hs : env.shape = Shape.tree) :
    MarkSafe env ((Mach.init elems).exec env (prog .tree false .remKey)) ∧
    MarkSafe env ((Mach.init elems).exec env (prog .tree false .setNew)) ∧
    MarkSafe env ((Mach.init elems).exec env (prog .tree true .setNew)) :=
  ⟨flow_mark_safe elems env (hs ▸ by decide),
   flow_mark_safe elems env (hs ▸ by decide),
   flow_mark_safe elems env (hs ▸ by decide)⟩

/-- Tree_Set of a key that is there: key and value are assigned in place, in the linked node -/
theorem C01_tree_set_mark_safe (elems : List α) (env : Env α) (hs : env.shape = Shape.tree) (hi : env.i < elems.length) :
    MarkSafe env ((Mach.init elems).exec env (prog .tree false .set)) :=
  flow_mark_safe elems env (hs ▸ by decide)

/-- how a concrete run refutes `MarkSafe`: one of its views (given by its cells) reads a cell that holds no element, or misses an element the
    container keeps; which view the run has is evaluated -/
theorem not_markSafe_of_view {env : Env α} {r : Mach α} {cs : List (Cell α)} (hv : cs ∈ r.views.map (·.cells))
    (h : none ∈ cs ∨ ∃ x ∈ r.final env, x ∉ env.src ∧ x ≠ env.zero ∧ some x ∉ cs) : ¬ MarkSafe env r := by
  obtain ⟨v, hm, rfl⟩ := List.mem_map.mp hv
  intro hs
  rcases h with h | ⟨x, hx, h1, h2, h3⟩
  · exact (hs v hm).1 none h rfl
  · exact ((hs v hm).2 x hx).elim h1 fun h => h.elim h2 h3

def C01_list_clear_mark_safe_statement : Prop :=
  ∀ (elems : List Nat) (env : Env Nat), env.shape = Shape.list → MarkSafe env ((Mach.init elems).exec env (prog .list false .clear))

/-- **KF-C01-clear-freed-cells (List).**  `List_Clear` frees each cell right after its destructor while `l->head` and the links still lead to it:
    a collection inside the destructor of the SECOND element walks the freed first cell. -/
theorem C01_list_clear_mark_safe_refuted : ¬ C01_list_clear_mark_safe_statement :=
  fun h => not_markSafe_of_view (cs := [none, some 2]) (by decide) (.inl (by decide)) (h [1, 2] { shape := Shape.list, zero := 0 } rfl)

/-- … the destructor of the FIRST element sees the whole list -/
theorem C01_list_clear_first_call_partial (elems : List α) (env : Env α) (hs : env.shape = Shape.list) :
    ((Mach.init elems).run { env with j := 0 } listClearLoop).views = [⟨Tag.dtor, elems.map some⟩] :=
  -- the call stands in front of every change: its view is what the container presents as it was
  congrArg (fun p => [View.mk Tag.dtor p]) (init_presented { env with j := 0 } elems)

def C01_tree_clear_mark_safe_statement : Prop :=
  ∀ (elems : List Nat) (env : Env Nat), env.shape = Shape.tree → MarkSafe env ((Mach.init elems).exec env (prog .tree false .clear))

/-- **KF-C01-clear-freed-cells (Tree).**  `Tree_Clear_Entry` frees a node (post-order) while its parent still links it and `m->root` is set:
    a collection inside a destructor of any node but the first walks freed nodes. -/
theorem C01_tree_clear_mark_safe_refuted : ¬ C01_tree_clear_mark_safe_statement :=
  fun h => not_markSafe_of_view (cs := [none, some 2]) (by decide) (.inl (by decide)) (h [1, 2] { shape := Shape.tree, zero := 0 } rfl)

theorem C01_tree_clear_first_call_partial (elems : List α) (env : Env α) (hs : env.shape = Shape.tree) (hne : elems ≠ []) :
    ((Mach.init elems).run { env with j := 0 } treeClearEntry).views = [⟨Tag.dtor, elems.map some⟩, ⟨Tag.dtorKey, elems.map some⟩] :=
  congrArg (fun p => [View.mk Tag.dtor p, View.mk Tag.dtorKey p]) (init_presented { env with j := 0 } elems)

def C01_array_fill_mark_safe_statement : Prop :=
  ∀ (elems : List Nat) (env : Env Nat), env.shape = Shape.array →
    MarkSafe env ((Mach.init elems).exec env (prog .array false .assign)) ∧ MarkSafe env ((Mach.init elems).exec env (prog .array false .concat))

/-- **KF-C01-array-uninit-slots.**  `Array_Assign` sets `nitems = len(obj)` over a fresh `malloc` block (and `Array_Concat` adds `len(obj)` to
    `nitems` before the new slots exist): a collection inside the Assign instance of any element but the last makes `Array_Mark` read slots
    that hold no element yet.  The refutation runs `Array_Assign` of [1, 2] to the empty Array; the conjunct for `Array_Concat` is in the
    statement, no run of it is exhibited. -/
theorem C01_array_fill_mark_safe_refuted : ¬ C01_array_fill_mark_safe_statement :=
  fun h => not_markSafe_of_view (cs := [some 1, none]) (by decide) (.inl (by decide))
    (h [] { shape := Shape.array, zero := 0, src := [1, 2] } rfl).1

/-- **A collection inside a container operation.**  `h` is the heap while the container at `a` is in an intermediate state `e.obj`; `post` is
    the container when the operation has completed.  If the intermediate state presents every word `post` presents, except words of the
    operand (`extra`, held by the caller's frame), then whatever is reachable — from thread-local storage, a root-registered entry or the
    stack — when the operation completes is not put on the pending list by a collection that runs now, stays registered, unchanged. -/
theorem C01_mid_collection_safe {σ : Type} (S : MarkSet σ) (c : Cfg) (h : Heap) (wf : h.WF) (thread : Obj) (stack extra : List Word)
    (a : Addr) (e : Entry) (hl : h.lookup a = some e) (post : Obj)
    (hcov : ∀ w ∈ fields c post, w ∈ fields c e.obj ∨ w ∈ extra)
    (x : Addr) (hr : Reachable c (h.write a post) (rootWords c (h.write a post) thread stack) x) :
    (collect S c h thread (stack ++ extra)).1.lookup x = h.lookup x ∧ (h.lookup x).isSome = true ∧
      x ∉ (collect S c h thread (stack ++ extra)).2 :=
  mid_collection_safe S c h wf thread stack extra a e hl post hcov x hr

/-- **…for every operation with mark-safe intermediate states** (all the `C01_*_mark_safe` theorems above): the container of embedded elements
    at `a` is, inside the element call of view `v`, the container `.cont ty v.elems`; when the operation completes it is `.cont ty (r.final env)`.
    A collection inside that call (the operand's words on the stack) keeps everything that is reachable when the operation completes. -/
theorem C01_mid_op_collection_safe {σ : Type} (S : MarkSet σ) (c : Cfg) (h : Heap) (wf : h.WF) (thread : Obj) (stack : List Word)
    (a : Addr) (root : Bool) (ty : String) (env : Env Obj) (r : Mach Obj) (hsafe : MarkSafe env r) (v : View Obj) (hv : v ∈ r.views)
    (hl : h.lookup a = some ⟨.cont ty v.elems, root⟩)
    (x : Addr) (hr : Reachable c (h.write a (.cont ty (r.final env))) (rootWords c (h.write a (.cont ty (r.final env))) thread stack) x) :
    (collect S c h thread (stack ++ (fieldsL c env.src ++ fields c env.zero))).1.lookup x = h.lookup x ∧ (h.lookup x).isSome = true ∧
      x ∉ (collect S c h thread (stack ++ (fieldsL c env.src ++ fields c env.zero))).2 :=
  mid_collection_safe S c h wf thread stack _ a _ hl _ (fields_covered_of_markSafe c ty hsafe hv) x hr

/-- **`a->nitems--` in front of `destruct(Array_Item(a, i))`** (seeded change c01_h; the memmove count then reads `a->nitems - i`): inside the
    destructor of element 0 of [1, 2, 3] `Array_Mark` stops before element 3, which the Array keeps. -/
theorem C01_array_pop_at_dec_first_refuted :
    ¬ ∀ (elems : List Nat) (env : Env Nat), env.shape = Shape.array → env.i < elems.length →
        MarkSafe env ((Mach.init elems).exec env [.seq [.dec, .destruct .idx, .moveDown 0, .reserveLess]]) :=
  fun h => not_markSafe_of_view (cs := [some 1, some 2]) (by decide) (.inr ⟨3, by decide⟩)
    (h [1, 2, 3] { shape := Shape.array, zero := 0 } rfl (by decide))

/-- the current source on a concrete Array: one destructor call, which sees [10, 20, 30]; [20, 30] stay -/
example : ((runOp .array .popAt { shape := Shape.array, zero := 0, i := 0 } [10, 20, 30]).views.map (·.cells) = [[some 10, some 20, some 30]]) ∧
    (runOp .array .popAt { shape := Shape.array, zero := (0 : Nat), i := 0 } [10, 20, 30]).final { shape := Shape.array, zero := 0 } = [20, 30] := by
  decide

/-- the hypothesis `MarkSafe` of `C01_mid_op_collection_safe` is met by a concrete, non-trivial run: an Array of the Refs to 4160 and 4224,
    element 0 is being popped (for a heap that holds this Array, the theorem then says that 4224, kept, survives a collection inside the destructor) -/
example : MarkSafe { shape := Shape.array, zero := Obj.raw "Ref" [0], i := 0 }
      ((Mach.init [Obj.raw "Ref" [4160], Obj.raw "Ref" [4224]]).exec { shape := Shape.array, zero := Obj.raw "Ref" [0], i := 0 } (prog .array false .popAt)) :=
  C01_array_pop_at_mark_safe _ [] _ rfl (by decide)

end Cello.Heap.Mid

/-! ### element types whose Assign instance ALLOCATES: the publication order of the operations that assign an element (whether the slot is in
  the range the Mark instance walks — `nitems++`, `Array_Alloc`, the link — before or after its `assign`)

  An element type like `struct Record { var name; var tags; }` with a deep-copying `Record_Assign` allocates once per field; every allocation
  may run a threshold collection.  At allocation point `k` the first `k` fields of the copy are stored in the target element and are
  reachable through nothing else.  `DMach` (Cello/HeapMid.lean) runs the statement lists of the current source and records what the
  container's Mark instance presents at every allocation point (`AView`); `DeepSafe` (Lemmas/MarkDeep.lean): only constructed cells, every kept element, and the
  element under assignment as soon as it holds a new field.  Proved for the operations that assign in place behind the publication
  (`Array_Push`, `Array_Push_At`, `Array_Set`, `List_Set`, `Tree_Set` on an existing key); refuted for the order of the seeded changes c01_l /
  c01_j and — a known finding of the unchanged tree — for the operations that build the entry outside the structure (`List_Push`,
  `List_Push_At`, `Table_Set_Move`, `Tree_Set` on a new key). -/

namespace Cello.Heap.Mid
open CelloGen.GcMid
variable {α : Type}

/-- **Array_Push, element type with an allocating Assign instance.**  For every Array (any content, any block size), every element type
    (`D`: any sequence of partly assigned states) and every operand: at EVERY allocation point of the Assign instance `Array_Mark` reads only
    constructed elements, presents every element the Array held, and presents the new element in its partly assigned state — `nitems++` and
    `Array_Alloc` (zeroed slot, valid header) come BEFORE `assign` in `CelloGen.GcMid.arrayPush`, re-extracted from src/Array.c on every run.
    With `nitems++` behind `assign` (seeded change c01_l) this theorem is false: `C01_array_push_count_after_assign_refuted`. -/
theorem C01_array_push_deep_safe (D : Deep α) (elems : List α) (k : Nat) (env : Env α) (hs : env.shape = Shape.array) :
    DeepSafe env ((DMach.initCap elems (List.replicate k none)).exec D env (prog .array false .push)) := by
  obtain ⟨rest, h⟩ := array_push_pre elems (List.replicate k none) env hs
  refine deepSafe_assign_last D env [.inc, .reserveMore, .alloc .last] .last _ (A := elems.map some) (R := rest) (B := []) rfl
    (by simp) (by rw [h]) (by rw [h]; simp [Mach.pos, hs, Shape.array]) (fun q => ?_) (by simp)
  rw [h, hs]
  exact presented_array_cons _ [] rest _ (by simp)

/-- **Array_Push_At**, the same: `nitems++`, room, memmove, `Array_Alloc(i)`, then `assign` (seeded change c01_j moves `nitems++` behind it:
    `C01_array_push_at_count_after_assign_refuted`) -/
theorem C01_array_push_at_deep_safe (D : Deep α) (elems : List α) (k : Nat) (env : Env α) (hs : env.shape = Shape.array)
    (hi : env.i ≤ elems.length) :
    DeepSafe env ((DMach.initCap elems (List.replicate k none)).exec D env (prog .array false .pushAt)) := by
  obtain ⟨rest, h⟩ := array_push_at_pre elems (List.replicate k none) env hi
  refine deepSafe_assign_last D env [.inc, .reserveMore, .moveUp (-1), .alloc .idx] .idx _ (B := (elems.map some).drop env.i) rfl
    (by simp) (by rw [h]) (by rw [h]; simp [Mach.pos, hi]) (fun q => ?_) (all_some_take_drop elems _ _)
  rw [h, hs]
  exact presented_array_cons _ _ rest _ (by simp; omega)

/-- **Array_Set / List_Set**: the element is assigned in place, inside the range the Mark instance walks -/
theorem C01_seq_set_deep_safe (D : Deep α) (elems : List α) (env : Env α) (hi : env.i < elems.length) :
    (env.shape = Shape.array → DeepSafe env ((DMach.initCap elems []).exec D env (prog .array false .set))) ∧
    (env.shape = Shape.list → DeepSafe env ((DMach.initCap elems []).exec D env (prog .list false .set))) :=
  ⟨fun _ => deepSafe_set D env elems hi [] rfl (by simp) rfl rfl, fun _ => deepSafe_set D env elems hi [] rfl (by simp) rfl rfl⟩

/-- **Tree_Set on a key that exists**: key and value are assigned in the node that is linked in the tree -/
theorem C01_tree_set_deep_safe (D : Deep α) (elems : List α) (env : Env α) (hs : env.shape = Shape.tree) (hi : env.i < elems.length) :
    DeepSafe env ((DMach.initCap elems []).exec D env (prog .tree false .set)) :=
  deepSafe_set D env elems hi [.assignKey .idx] rfl (by simp) rfl rfl

/-- the claim for an arbitrary statement order of an Array operation that adds one element -/
def DeepSafeOrder (evs : List Ev) : Prop :=
  ∀ (D : Deep (List Nat)) (elems : List (List Nat)) (env : Env (List Nat)), env.shape = Shape.array → env.i ≤ elems.length →
    DeepSafe env ((DMach.initCap elems []).exec D env [.seq evs])

/-- an allocation point at which a stored field of the element under assignment is not presented: a collection there frees the object -/
def LosesField (r : DMach (List Nat)) : Prop := ∃ v ∈ r.aviews, v.k ≠ 0 ∧ some v.part ∉ v.cells

theorem C01_loses_field_not_deep_safe {env : Env (List Nat)} {r : DMach (List Nat)} (h : LosesField r) : ¬ DeepSafe env r := by
  intro hs
  obtain ⟨v, hv, hk, hp⟩ := h
  rcases (hs v hv).2.1 with h0 | h0
  · exact hk h0
  · exact hp h0

/-- a record of two pointer fields, pushed into the empty Array / List / Table / Tree; the copies will be the objects 4160 and 4224 -/
def deepEnv (sh : Shape) : Env (List Nat) := { shape := sh, zero := [0, 0], src := [[4160, 4224]] }

/-- where every run below loses a field: in round 0, at the second allocation point (the first field, 4160, is stored), nothing is presented;
    that the run has this allocation point is evaluated -/
theorem losesField_at {r : DMach (List Nat)} (h : ⟨0, 1, [4160, 0], []⟩ ∈ r.aviews) : LosesField r :=
  ⟨_, h, by decide, by decide⟩

/-- **`a->nitems++` behind `assign(Array_Item(a, a->nitems), obj)`** (seeded change c01_l): pushing the record [4160, 4224] into the empty Array, the
    allocation point of the second field finds the first field stored in a slot `Array_Mark` does not walk: the view presents nothing, object 4160
    is held by nothing the collector sees -/
theorem C01_array_push_count_after_assign_refuted :
    LosesField ((DMach.initCap [] []).exec (Deep.words 2) (deepEnv Shape.array) [.seq [.reserveFor 1, .alloc .atLen, .assign .atLen, .inc]]) ∧
    ¬ DeepSafeOrder [.reserveFor 1, .alloc .atLen, .assign .atLen, .inc] :=
  have h := losesField_at (by decide)
  ⟨h, fun hall => C01_loses_field_not_deep_safe h (hall _ _ _ rfl (by decide))⟩

/-- the same order in Array_Push_At (seeded change c01_j) -/
theorem C01_array_push_at_count_after_assign_refuted :
    ¬ DeepSafeOrder [.reserveFor 1, .moveUp 0, .alloc .idx, .assign .idx, .inc] := by
  intro hall
  exact C01_loses_field_not_deep_safe (losesField_at (by decide)) (hall (Deep.words 2) [] (deepEnv Shape.array) rfl (by decide))

/-- the full statement: the operations that build the new entry outside the structure (`List_Push`, `List_Push_At`, `Table_Set_Move` on a new
    and on an existing key, `Tree_Set` on a new key) are deep-safe -/
def C01_entry_assign_deep_safe_statement : Prop :=
  ∀ (D : Deep (List Nat)) (elems : List (List Nat)) (env : Env (List Nat)), env.i ≤ elems.length →
    (env.shape = Shape.list → DeepSafe env ((DMach.initCap elems []).exec D env (prog .list false .push)) ∧
                              DeepSafe env ((DMach.initCap elems []).exec D env (prog .list false .pushAt))) ∧
    (env.shape = Shape.table → DeepSafe env ((DMach.initCap elems []).exec D env (prog .table false .setNew)) ∧
                               DeepSafe env ((DMach.initCap elems []).exec D env (prog .table false .set))) ∧
    (env.shape = Shape.tree → DeepSafe env ((DMach.initCap elems []).exec D env (prog .tree elems.isEmpty .setNew)))

/-- **KF-C01-unlinked-entry-assign.**  `List_Push` / `List_Push_At` assign the new element in a cell that `List_Link` has not linked in yet,
    `Table_Set_Move` builds the entry in the swap space, `Tree_Set` assigns key and value of a node that no parent links yet: at the second
    allocation point of the value's Assign instance the first stored field is presented by no Mark instance (the statement lists are those of
    the current source, `CelloGen.GcMid`) — with the record [4160, 4224] pushed into / set in the empty container, a collection there frees
    object 4160 -/
theorem C01_entry_assign_deep_safe_refuted :
    LosesField (runOpD (Deep.words 2) .list .push (deepEnv Shape.list) []) ∧
    LosesField (runOpD (Deep.words 2) .list .pushAt (deepEnv Shape.list) []) ∧
    LosesField (runOpD (Deep.words 2) .table .setNew (deepEnv Shape.table) []) ∧
    LosesField (runOpD (Deep.words 2) .table .set (deepEnv Shape.table) []) ∧
    LosesField (runOpD (Deep.words 2) .tree .setNew (deepEnv Shape.tree) []) ∧
    ¬ C01_entry_assign_deep_safe_statement := by
  have h1 : LosesField (runOpD (Deep.words 2) .list .push (deepEnv Shape.list) []) := losesField_at (by decide)
  exact ⟨h1, losesField_at (by decide), losesField_at (by decide), losesField_at (by decide), losesField_at (by decide),
    fun hall => C01_loses_field_not_deep_safe h1 ((hall (Deep.words 2) [] (deepEnv Shape.list) (by decide)).1 rfl).1⟩

/-- … what does hold there, for `List_Push`: at every allocation point `List_Mark` presents exactly the elements the List held — nothing the
    List keeps is lost; what is lost, from the second point on, are the stored fields of the new element -/
theorem C01_list_push_first_point_partial (D : Deep α) (elems : List α) (env : Env α) (hs : env.shape = Shape.list) :
    ∀ v ∈ ((DMach.initCap elems []).exec D env (prog .list false .push)).aviews, v.cells = elems.map some := by
  intro v hv
  simp only [prog, DMach.exec, DMach.instr, listPush, DMach.run, DMach.step, Mach.step, Mach.view, DMach.initCap, Mach.initCap, Mach.presented,
    hs, presented_list, List.foldl, List.append_nil, List.nil_append] at hv
  exact (mem_avs hv).2

end Cello.Heap.Mid

namespace Cello.Heap
open Cello.Heap.Mid

/-- a container of embedded elements presents the words of its elements: more elements, more words -/
theorem C01_fields_cont_mono (c : Cfg) (ty : String) {es es' : List Obj} (h : ∀ e ∈ es, e ∈ es') :
    ∀ w ∈ fields c (.cont ty es), w ∈ fields c (.cont ty es') := fun w hw =>
  (fields_cont_covered c ty (extra := []) (fun e he => .inl (h e he)) w hw).elim id fun h => nomatch h

/-- **A collection at an allocation point of an element's Assign instance.**  The container of embedded elements at `a` is, at the allocation
    point of view `v`, the container `.cont ty v.elems`.  `keep`: elements the container holds when the operation completes, other than the
    operand's copies that are not complete yet.  For a deep-safe operation, a collection that runs NOW (no extra root: the copies are held by
    nothing but the container) keeps everything that is reachable through the kept elements and through the element under assignment as far as
    it is assigned (`v.part`, once a field is stored): registered, unchanged, off the pending list. -/
theorem C01_deep_op_collection_safe {σ : Type} (S : MarkSet σ) (c : Cfg) (h : Heap) (wf : h.WF) (thread : Obj) (stack : List Word)
    (a : Addr) (root : Bool) (ty : String) (env : Env Obj) (r : DMach Obj) (hsafe : DeepSafe env r) (v : AView Obj) (hv : v ∈ r.aviews)
    (keep : List Obj) (hkeep : ∀ x ∈ keep, x ∈ r.m.final env ∧ x ∉ env.src.drop v.j ∧ x ≠ env.zero)
    (hl : h.lookup a = some ⟨.cont ty v.elems, root⟩) (x : Addr)
    (hr : Reachable c (h.write a (.cont ty (keep ++ (if v.k = 0 then [] else [v.part]))))
            (rootWords c (h.write a (.cont ty (keep ++ (if v.k = 0 then [] else [v.part])))) thread stack) x) :
    (collect S c h thread stack).1.lookup x = h.lookup x ∧ (h.lookup x).isSome = true ∧ x ∉ (collect S c h thread stack).2 := by
  have := mid_collection_safe S c h wf thread stack [] a _ hl _
    (fun w hw => Or.inl (C01_fields_cont_mono c ty (hsafe.kept hv hkeep) w hw)) x hr
  simpa using this

end Cello.Heap

namespace Cello.Heap.Mid

/-- the current source on a concrete Array: the record [4160, 4224] is pushed behind [5000, 5064]; the three allocation points of a two-field
    record see the old element and the new one with 0, 1, 2 fields stored -/
example : ((runOpD (Deep.words 2) .array .push (deepEnv Shape.array) [[5000, 5064]]).aviews.map fun v => (v.k, v.cells)) =
    [(0, [some [5000, 5064], some [0, 0]]), (1, [some [5000, 5064], some [4160, 0]]), (2, [some [5000, 5064], some [4160, 4224]])] := by decide

/-- the hypotheses of `C01_array_push_deep_safe` are met by that run -/
example : DeepSafe (deepEnv Shape.array) ((DMach.initCap [[5000, 5064]] (List.replicate 0 none)).exec (Deep.words 2) (deepEnv Shape.array) (prog .array false .push)) :=
  C01_array_push_deep_safe _ _ 0 _ rfl

end Cello.Heap.Mid

/-! ### the loops of the Mark instances, the pointer bounds of `GC_Set`, the two loops of `GC_Mark_Stack`, as terms extracted from
    the source (CelloGen/GcWalk.lean) and interpreted by Cello/HeapWalk.lean -/
namespace Cello.Heap
open CelloGen.GcWalk

/-- **`Array_Mark` hands every element of the block to the callback, each once, in order, and nothing else** — for every Array content.  The loop
    header is the one extracted from src/Array.c on this run; a header that starts at 1, stops at `nitems-1`, steps by 2 or runs to `<= nitems`
    makes `CountLoop.Complete` false and this theorem fail. -/
theorem C01_array_mark_presents_all :
    ∃ L, arrayMarkLoop = some L ∧ ∀ es : List Obj, Walk.arrayPresented L es = es :=
  ⟨_, rfl, fun es => Walk.arrayPresented_all _ (by decide) rfl es⟩

/-- **`Table_Mark` hands key and value of EVERY occupied slot to the callback** — the first and the last slot included, for every slot array —
    and tests the hash word before it touches a slot. -/
theorem C01_table_mark_presents_all :
    ∃ L, tableMarkLoop = some L ∧ L.guard = true ∧ ∀ slots : List Walk.Slot, Walk.tablePresented L slots = Walk.tableElems slots :=
  ⟨_, rfl, rfl, fun s => Walk.tablePresented_all _ (by decide) rfl s⟩

/-- the class of seeded change c01_n spelled out: an entry in the LAST slot of a table of any size is presented -/
theorem C01_table_mark_last_slot :
    ∃ L, tableMarkLoop = some L ∧ ∀ (slots : List Walk.Slot) (k v : Obj),
      Walk.tablePresented L (slots ++ [some (k, v)]) = Walk.tableElems slots ++ [k, v] := by
  obtain ⟨L, hL, _, h⟩ := C01_table_mark_presents_all
  refine ⟨L, hL, fun slots k v => ?_⟩
  rw [h]; simp [Walk.tableElems]

/-- **`List_Mark` visits every cell from `head` to the cell whose link is NULL**, each once, in order, for every length -/
theorem C01_list_mark_presents_all : ∃ L, listMarkLoop = some L ∧ ∀ n, L.visits n = List.range n :=
  ⟨_, rfl, fun n => PtrLoop.visits_complete _ (by decide) n⟩

/-- **`Tuple_Mark` visits every item in front of the Terminal** (and returns on `items is NULL` first) -/
theorem C01_tuple_mark_presents_all : ∃ L, tupleMarkLoop = some L ∧ L.nullGuard = true ∧ ∀ n, L.visits n = List.range n :=
  ⟨_, rfl, rfl, fun n => SentLoop.visits_complete _ (by decide) n⟩

/-- what the abstract model takes a container to present (`fields` of `Obj.cont`: ALL elements; keys and values of ALL entries) is what the
    extracted loops present on the concrete block / slot array: the layer the `C01_mark_complete` family quantifies over loses nothing -/
theorem C01_cont_fields_are_loop_walks :
    (∀ L, arrayMarkLoop = some L → ∀ es, fieldsL Cfg.current (Walk.arrayPresented L es) = fields Cfg.current (.cont "Array" es)) ∧
    (∀ L, tableMarkLoop = some L → ∀ slots, fieldsL Cfg.current (Walk.tablePresented L slots) = fields Cfg.current (.cont "Table" (Walk.tableElems slots))) := by
  constructor
  · intro L hL es
    obtain ⟨L', hL', h⟩ := C01_array_mark_presents_all
    rw [hL] at hL'; cases hL'
    rw [h, (C01_fields_current [] 0 es).2.2.2.1]
  · intro L hL slots
    obtain ⟨L', hL', _, h⟩ := C01_table_mark_presents_all
    rw [hL] at hL'; cases hL'
    rw [h, (C01_fields_current [] 0 _).2.2.2.2.2.1]

/-- planted variants are refuted on concrete blocks: the exclusive bound `nslots - 1` loses the last slot (and `<= nslots - 1` leaves the block of an empty table), a start at 1
    loses the first, `<=` leaves the block, a step of 2 loses every other position; `while (*List_Next(l, item))` loses the last cell,
    a `Tuple_Mark` that starts at item 1 the first item -/
theorem C01_mark_loop_variants_refuted :
    ({ start := 0, cmp := .lt, sub := 1, step := 1, guard := true, presents := [.key, .val] } : CountLoop).visits 5 = [0, 1, 2, 3] ∧
    ({ start := 1, cmp := .lt, sub := 0, step := 1, guard := false, presents := [.item] } : CountLoop).visits 3 = [1, 2] ∧
    ({ start := 0, cmp := .le, sub := 0, step := 1, guard := false, presents := [.item] } : CountLoop).visits 3 = [0, 1, 2, 3] ∧
    ({ start := 0, cmp := .lt, sub := 0, step := 2, guard := false, presents := [.item] } : CountLoop).visits 4 = [0, 2] ∧
    ({ start := 0, cmp := .le, sub := 1, step := 1, guard := false, presents := [.item] } : CountLoop).visits 0 = [0, 1] ∧
    ({ fromHead := true, cond := .next, advNext := true } : PtrLoop).visits 3 = [0, 1] ∧
    ({ start := 1, nullGuard := true, step := 1 } : SentLoop).visits 3 = [1, 2] := by decide

example : ∃ L, tableMarkLoop = some L ∧ L.visits 5 = [0, 1, 2, 3, 4] := ⟨_, rfl, by decide⟩
example : ∃ L, listMarkLoop = some L ∧ L.visits 3 = [0, 1, 2] ∧ L.visits 0 = [] := ⟨_, rfl, by decide, by decide⟩

/-- **The pointer bounds `GC_Mark_Item` filters with contain every registered address**: the two conditional expressions of `GC_Set` (their
    comparison operators extracted) compute `max` / `min` of the old bound and the new pointer — `Heap.register` is that step —, they and the
    registration stand in front of the threshold collection, `GC_New` starts from the empty interval, and no other statement of GC.c writes them. -/
theorem C01_gc_set_bounds :
    gcSetBoundsBeforeCollect = true ∧ gcNewBoundsInit = (true, true) ∧ gcBoundWrites = 4 ∧
    (∀ key cur, Walk.boundStep gcSetMaxOp key cur = max cur key) ∧ (∀ key cur, Walk.boundStep gcSetMinOp key cur = min cur key) ∧
    (∀ (h : Heap) a e, (h.lookup a).isSome = false →
      (h.register a e).maxptr = Walk.boundStep gcSetMaxOp a h.maxptr ∧ (h.register a e).minptr = Walk.boundStep gcSetMinOp a h.minptr) := by
  refine ⟨rfl, rfl, rfl, Walk.boundStep_max, Walk.boundStep_min, fun h a e hn => ?_⟩
  have e1 : gcSetMaxOp = ">" := rfl
  have e2 : gcSetMinOp = "<" := rfl
  rw [e1, e2, Walk.boundStep_max, Walk.boundStep_min]
  unfold Heap.register
  rw [if_neg (by simp [hn])]
  exact ⟨rfl, rfl⟩

/-- a `GC_Set` that kept the smaller pointer as `maxptr` is refuted: the second, higher object falls outside the interval -/
theorem C01_gc_set_bounds_variant_refuted : Walk.boundStep "<" 4096 1024 = 1024 ∧ Walk.boundStep ">" 4096 1024 = 4096 := by decide

/-- **`GC_Mark_Stack` hands every word between `&stk` and `gc->bottom`, both ends included, to `GC_Mark_Item`**, whichever way the stack grows
    (addresses in words, `&stk` and `gc->bottom` different; the two loops are the ones extracted from the source) -/
theorem C01_stack_scan_covers :
    stackScanProlog = true ∧
    ∀ top bot w, top ≠ bot → min top bot ≤ w → w ≤ max top bot → w ∈ Walk.stackVisits stackScanLoops top bot := by
  refine ⟨rfl, fun top bot w hne hlo hhi => ?_⟩
  rw [show stackScanLoops = [("<", "top", ">=", "bot", "-"), (">", "top", "<=", "bot", "+")] from rfl]
  simp only [Walk.stackVisits, List.flatMap_cons, List.flatMap_nil, List.append_nil, List.mem_append]
  rcases Nat.lt_or_gt_of_ne hne with hb | hb
  · exact .inr (Walk.mem_scanLoop_up hb (by omega) (by omega))
  · exact .inl (Walk.mem_scanLoop_down hb (by omega) (by omega))

/-- the exclusive comparisons lose the word at `gc->bottom` -/
theorem C01_stack_scan_exclusive_refuted :
    10 ∉ Walk.stackVisits [("<", "top", ">", "bot", "-"), (">", "top", "<", "bot", "+")] 14 10 ∧
    10 ∈ Walk.stackVisits stackScanLoops 14 10 ∧ 14 ∈ Walk.stackVisits stackScanLoops 10 14 := by decide

end Cello.Heap
