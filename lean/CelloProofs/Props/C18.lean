/-
  C18 — build configurations agree on every in-contract program.

  Models: Cello/Config.lean (value objects; namespace Keep: containers as the sole path to collector-managed objects, on the
  collector of Cello/Heap.lean), Cello/ConfigType.lean (run-time type objects, on C08's Cello/Dispatch.lean), Cello/ConfigThread.lean
  (objects that cross the end of a thread's collector).  Source-derived tables: CelloGen/Cfg.lean (translate/g_cfg.py).
  Lemmas: CelloProofs/Lemmas/Cfg*.lean.
-/
import Cello.Config
import CelloGen.Cfg
import CelloProofs.Lemmas.Cfg
import CelloProofs.Lemmas.CfgFull
import CelloProofs.Lemmas.CfgKeep
import CelloProofs.Lemmas.CfgWorkload
import CelloProofs.Lemmas.CfgGuard
import Cello.ConfigType
import CelloProofs.Lemmas.CfgType
import Cello.ConfigThread
import CelloProofs.Lemmas.CfgThread

namespace Cello.Config
open CelloGen.Cfg

/-- is a statement found inside an `#if CELLO_*_CHECK == 1` block harmless when the block is compiled out?
    * a guard that only throws/returns;  * a local with a side-effect-free initialiser;
    * `header_init` writing a header field that `struct Header` declares under the *same* macro;
    * `dealloc` poisoning the block immediately before `free`. -/
def stmtBenign (b : CheckBlock) : StmtKind → Bool
  | .guardRaise => true
  | .pureLocal => true
  | .headerFieldInit f => b.func == "header_init" && headerFields.contains (f, some b.guardMacro)
  | .poisonBeforeFree => b.func == "dealloc"
  | .other _ => false

/-- **Checks only guard raises.** Every `#if CELLO_*_CHECK == 1` block of src/*.c (as compiled on this platform) contains
    nothing but tests that throw/return, side-effect-free locals, the two header-field initialisations of `header_init`
    (fields that exist only under the same macro) and the poison-before-free loop of `dealloc`: compiling a check out removes
    no mutation an in-contract program could observe.  A source change that puts a needed side effect under a check macro
    makes this `decide` fail. -/
theorem C18_checks_only_guard_raises : ∀ b ∈ checkBlocks, ∀ s ∈ b.stmts, stmtBenign b s = true := by
  decide +kernel

/-- every check macro tested in the sources is one of the six the `CELLO_NDEBUG` block defines, each 1 by default and 0
    under `CELLO_NDEBUG` (a misspelt macro would silently evaluate to 0 in every build) -/
theorem C18_check_macros_defined :
    (∀ m ∈ usedCheckMacros, (m, 0, 1) ∈ checkMacros) ∧ (∀ e ∈ checkMacros, e.2 = (0, 1)) := by
  decide +kernel

/-- **The collector switch only removes the collector.** Every `#ifndef CELLO_NGC` block is: the collector's own
    definitions (GC.c, the `main` wrapper of Cello.h), registration in `alloc_by`, un-registration (+ return: `GC_Rem`
    destructs and frees) in `del_by`, creation/deletion of a thread's collector in `Thread_Init_Run`. -/
theorem C18_collector_blocks_only_register :
    ∀ b ∈ ngcBlocks, ∀ k ∈ b.2.2,
      (k = .definitions ∧ b.2.1 = "") ∨
      (k = .register ∧ b.2.1 = "alloc_by") ∨
      ((k = .unregister ∨ k = .returnAfterUnregister) ∧ b.2.1 = "del_by") ∨
      ((k = .threadCollectorNew ∨ k = .threadCollectorDel) ∧ b.2.1 = "Thread_Init_Run") := by
  decide +kernel

/-! ### objects that cross the END of a collector

  Every thread has its own collector, deleted when the thread function has returned (the main thread's: by `Cello_Exit`).  `GC_Del`
  runs `GC_Unmark; GC_Sweep` — no mark phase — so whether a block survives the end of the collector it was registered with is
  decided by the scanning loop of `GC_Sweep` alone (regenerated as `gcSweepLoop`; evaluated by Cello/ConfigThread.lean). -/

/-- **The end of a collector spares roots** (current source).  The scanning loop of `GC_Sweep`, evaluated on the entry
    `GC_Set_Ptr` builds, releases an occupied slot exactly when it carries neither the root argument nor the mark bit; the root loop
    of `GC_Mark` tests the member the root argument is stored in; `GC_Del` = `GC_Unmark; GC_Sweep`, a threshold collection =
    `GC_Mark; GC_Sweep` with `GC_Unmark` first, `GC_Unmark` clears the mark member and nothing else; and on a registry with all four
    kinds of entry the teardown keeps exactly the two roots.  Dropping the root test from the loop ("roots are marked by GC_Mark
    anyway": true for the pair run from `GC_Set`, false for `GC_Del`) makes this `decide` fail. -/
theorem C18_teardown_spares_roots :
    Thr.SweepWired ∧
    gcDelCalls = ["GC_Unmark", "GC_Sweep"] ∧ gcSetCalls = ["GC_Mark", "GC_Sweep"] ∧ gcMarkPrologue = ["GC_Unmark"] ∧
    gcUnmarkClears = [Thr.markMember] ∧
    Thr.teardown [(0, ⟨true, false⟩), (1, ⟨false, false⟩), (2, ⟨true, true⟩), (3, ⟨false, true⟩)] =
      ([(0, ⟨true, false⟩), (2, ⟨true, false⟩)], [1, 3]) := by
  decide +kernel

/-- the hypothesis the lemmas of CelloProofs/Lemmas/CfgThread.lean are stated under -/
theorem C18_sweep_wired : Thr.SweepWired := C18_teardown_spares_roots.1

/-- **Roots outlive their collector, in every configuration.**  Whatever a worker thread does — allocations with `new`, `new_raw`,
    `new_root` in any order, threshold collections at any moments with any set of blocks reached — and then ends (`del_raw(gc)`:
    the teardown sweep), no block it made with `new_root` or `new_raw` has been destructed or freed: the joiner may read it. -/
theorem C18_roots_outlive_their_collector (cfg : Cfg) (evs : List Thr.WEv) :
    ∀ i ∈ (Thr.workerRun cfg evs).safe, Thr.aliveAfterJoin cfg evs i = true := by
  intro i hi
  have h := (Thr.workerRun_inv C18_sweep_wired cfg evs).freedUnsafe
  unfold Thr.aliveAfterJoin
  cases hc : (Thr.workerRun cfg evs).freed.contains i
  · rfl
  · exact absurd hi (h i (by simpa using hc))

/-- **… so what a worker publishes as roots reads the same in any two builds**: the same blocks are roots / raw in both, and each
    of them is alive after `join` in both (with the collector: spared by the teardown; without: nothing ever frees it). -/
theorem C18_worker_results_config_independent (c1 c2 : Cfg) (evs : List Thr.WEv) :
    (Thr.workerRun c1 evs).safe = (Thr.workerRun c2 evs).safe ∧
    ∀ i ∈ (Thr.workerRun c1 evs).safe, Thr.aliveAfterJoin c1 evs i = Thr.aliveAfterJoin c2 evs i := by
  refine ⟨Thr.workerRun_safe c1 c2 evs, ?_⟩
  intro i hi
  rw [C18_roots_outlive_their_collector c1 evs i hi,
      C18_roots_outlive_their_collector c2 evs i (by rw [← Thr.workerRun_safe c1 c2 evs]; exact hi)]

/-- non-vacuity: a worker that makes a plain object, two roots and a raw object, collects twice (reaching nothing / one root) and
    ends — three blocks are the joiner's to read, and the plain one is gone in the build with the collector only -/
example : (Thr.workerRun Cfg.default [.alloc .standard, .alloc .root, .collect [], .alloc .root, .alloc .raw, .collect [1]]).safe = [3, 2, 1] ∧
          (Thr.workerRun Cfg.default [.alloc .standard, .alloc .root, .collect [], .alloc .root, .alloc .raw, .collect [1]]).freed = [0] ∧
          (Thr.workerRun Keep.ngcCfg [.alloc .standard, .alloc .root, .collect [], .alloc .root, .alloc .raw, .collect [1]]).freed = [] := by
  decide +kernel

/-- the statement without the restriction to roots is false: a result made with plain `new` is finalised by the worker's teardown
    in a build with the collector and stays in a CELLO_NGC build (known finding KF-C13-join-result-finalised, seen from C18) -/
theorem C18_worker_plain_result_refuted :
    Thr.aliveAfterJoin Cfg.default [.alloc .standard] 0 = false ∧ Thr.aliveAfterJoin Keep.ngcCfg [.alloc .standard] 0 = true := by
  decide +kernel

/-- **… and the root test of the loop is needed** (the seeded shape): with the loop `if (hash is 0) skip; if (marked) skip; release`
    a threshold collection still keeps every root (`GC_Mark` marked it), but the teardown — no mark phase — releases it. -/
theorem C18_unguarded_sweep_loop_refuted :
    Thr.decideLoop [("skip", [(false, "hash")]), ("skip", [(true, Thr.markMember)]), ("free", [])] ⟨true, true⟩ = false ∧
    Thr.decideLoop [("skip", [(false, "hash")]), ("skip", [(true, Thr.markMember)]), ("free", [])] ⟨true, false⟩ = true := by
  decide +kernel

/-- **The thread's collector brackets the thread function** (current source): run statement by statement in the order of
    `Thread_Init_Run` (regenerated: `threadRunEvents`), with the `#ifndef CELLO_NGC` statements present exactly in the builds that
    have the collector, a started thread is `Thr.workerRun`: collector made before the thread function runs, the function runs
    once, the teardown (`Thr.threadEnd`) comes after it — in every configuration, for every thread function.  Moving `del_raw(gc)`
    before `call_with`, dropping one of the two guards, or guarding anything else makes this fail; the Exception record is deleted
    after the collector (fix 7de4bbc: destructors run by the teardown may use try/throw). -/
theorem C18_thread_collector_brackets_thread_function :
    (∀ (cfg : Cfg) (evs : List Thr.WEv), Thr.runThread cfg evs = some (Thr.workerRun cfg evs)) ∧
    (threadRunEvents.filter (·.2)).map (·.1) = [.bottom, .gcNew, .gcDel] ∧
    (threadRunEvents.map (·.1)).idxOf .gcDel < (threadRunEvents.map (·.1)).idxOf .excDel ∧
    (threadRunEvents.map (·.1)).idxOf .excNew < (threadRunEvents.map (·.1)).idxOf .call := by
  refine ⟨?_, by decide, by decide, by decide⟩
  intro cfg evs
  obtain ⟨c1, c2, g⟩ := cfg
  cases g <;> rfl

/-- the joiner's step of the workload model (`w <creating op>` in the op files): in every configuration it is the creating step
    in the joiner's terms (`Thr.asJoined`: a value object made with `new_root` becomes the `new_raw` step — a block no collector
    manages; a container keeps its plain creating step) and nothing dangles -/
theorem C18_joined_step_is_raw_step (cfg : Cfg) (op : Op) (s : St) :
    Thr.stepJoined cfg op s = (match Thr.asJoined op with | none => (s, .ub) | some op' => step cfg op' s) := by
  have h : Thr.rootOutlivesThread cfg = true :=
    C18_roots_outlive_their_collector cfg [.alloc .root] 0 (by
      rw [Thr.workerRun_safe cfg Keep.ngcCfg]
      decide)
  unfold Thr.stepJoined
  cases Thr.asJoined op with
  | none => rfl
  | some op' => simp [h]

/-! ### the root flag of a registry entry: from `new_root` to the tests of `GC_Mark` and `GC_Sweep`

  `struct GCEntry { var ptr; uint64_t hash; bool root; bool marked; }` is built in ONE place, `GC_Set_Ptr`, with a positional
  initialiser `{ ptr, ihash, root, 0 }`: which member an item lands in is decided by the declaration order of the struct, in
  another part of the file.  `Keep.entryInitExpr` (Cello/Config.lean) resolves it the way C does over the regenerated members and
  initialisers; `Keep.storedRoot` — what the collector's tests find in an entry made with root argument `r` — is what the keep
  model's registry (`Keep.toHeap`) gives the entry of a `new_root` container. -/

/-- **The root argument of `GC_Set_Ptr` is stored in the member the collector tests** (current source).
    (1) an entry registered with root argument `r` carries `r` in the member that `GC_Sweep` tests before freeing an unmarked
    entry, and starts unmarked whatever `r` is; the pointer and the stored hash arrive in `ptr` / `hash`;
    (2) the root loop of `GC_Mark` tests the same member as `GC_Sweep`, both use the same mark bit, and the two are different
    members of the struct;
    (3) `GC_Set_Ptr` holds the only brace initialiser of a `struct GCEntry`, with one item per member, and the only member
    ever assigned on its own is the mark bit — the root flag is written at creation and nowhere else;
    (4) the callers: `GC_Set` passes `(bool)c_int(val)`, `GC_Rehash` re-inserts with the root member of the old entry;
    `alloc_by` registers ALLOC_ROOT blocks with `$I(1)`, ALLOC_STANDARD blocks with `$I(0)`, ALLOC_RAW blocks not at all, and
    `alloc` / `alloc_raw` / `alloc_root` select these.
    Swapping the two flag members of the struct while the initialiser stays positional (the root argument then lands in the
    mark bit, which `GC_Unmark` wipes, and the root member is always 0), an initialiser `{ ptr, ihash, 0, root }`, a rehash
    that re-inserts with `marked`, or `alloc_root` registering with `$I(0)` all make this `decide` fail — and
    `C18_root_flag_needed` shows what the program then loses. -/
theorem C18_root_flag_reaches_collector_tests :
    (Keep.storedRoot true = true ∧ Keep.storedRoot false = false ∧ Keep.storedMarked true = false ∧ Keep.storedMarked false = false ∧
      Keep.entryInitExpr "ptr" = some "ptr" ∧ Keep.entryInitExpr "hash" = some "ihash") ∧
    (gcMarkRootTest = gcSweepSpares ∧ gcMarkRootSets = gcSweepMarkBit ∧ gcSweepSpares ≠ gcSweepMarkBit ∧
      gcSweepSpares ∈ gcEntryMembers.map (·.1) ∧ gcSweepMarkBit ∈ gcEntryMembers.map (·.1)) ∧
    (gcEntryInits.map (·.1) = ["GC_Set_Ptr"] ∧ Keep.setPtrInit.length = gcEntryMembers.length ∧
      (gcEntryMembers.map (·.1)).Nodup ∧ ∀ w ∈ gcEntryWrites, w.2.1 = gcSweepMarkBit) ∧
    (gcSetPtrParams = ["gc", "ptr", "root"] ∧
      gcSetPtrCalls = [("GC_Rehash", ["gc", "old_entries[i].ptr", "old_entries[i]." ++ gcSweepSpares]), ("GC_Set", ["gc", "key", "(bool)c_int(val)"])] ∧
      allocRegisters = [("ALLOC_STANDARD", some "0"), ("ALLOC_RAW", none), ("ALLOC_ROOT", some "1")] ∧
      allocRoutes = [("alloc", "ALLOC_STANDARD"), ("alloc_raw", "ALLOC_RAW"), ("alloc_root", "ALLOC_ROOT")]) := by
  decide +kernel

/-- the hypothesis the keep lemmas (CelloProofs/Lemmas/CfgKeep.lean) are stated under -/
theorem C18_root_wired : Keep.RootWired := C18_root_flag_reaches_collector_tests.1.1

/-- **… and it has to be** (the seeded shape): in the smallest program with a root — `static var reg; reg = new_root(Array, Ref);`,
    the variable outside the collector's view — an entry that does not carry the flag in the member the collector tests is freed
    by the first collection, while with the wiring of the source the block is still there. -/
theorem C18_root_flag_needed :
    (Keep.kcollectW (fun _ => false) Keep.rootOnly).heap.lookup 0 = none ∧
    (Keep.kcollect Keep.rootOnly).heap.lookup 0 = some (.array []) ∧
    Keep.KReach Keep.rootOnly.heap Keep.rootOnly.roots 0 := by
  have hr : Keep.KReach Keep.rootOnly.heap Keep.rootOnly.roots 0 := .root (by decide) (by decide)
  refine ⟨Keep.kcollectW_unwired_loses_root, ?_, hr⟩
  rw [Keep.kcollect_keeps C18_root_wired Keep.fresh_rootOnly hr]
  rfl

/-- the memo of `Type_Instance` is the macro the model was written against, its slot indices are pairwise distinct,
    below `CELLO_CACHE_NUM`, and no class has two slots -/
theorem C18_cache_table_sound :
    cacheEntryMacro = cacheEntryMacroModelled ∧
    (cacheSlots.map (·.1)).Nodup ∧ (cacheSlots.map (·.2)).Nodup ∧
    (∀ e ∈ cacheSlots, e.1 < cacheNumOn) ∧ cacheNumOff = 0 :=
  ⟨rfl, cacheSlots_idx_nodup, by decide +kernel, by decide +kernel, rfl⟩

/-- **Static objects and heap objects agree on the header in every configuration.** The `CelloObject` literal puts
    exactly `sizeof(struct Header)/sizeof(var)` words before the payload, then exactly `CELLO_CACHE_NUM` cache words
    before the `"__Name"` entry — which is where `Type_Builtin_Name` (entry `CELLO_CACHE_NUM/3`) reads it; `header_init`
    writes exactly the fields `struct Header` has, in order. -/
theorem C18_static_header_matches_struct (cfg : Cfg) :
    staticWordsBeforeName cfg = headerWords cfg + cacheNum cfg ∧
    cacheNum cfg % 3 = 0 ∧
    builtinNameAtCacheEnd = true ∧ builtinSizeAtCacheEnd = true ∧ nbuiltinsBase = 2 ∧
    headerInitWrites = headerFields ∧
    (headerInitWords cfg "T" .heap).length = headerWords cfg := by
  revert cfg
  refine Cfg.forall_of_all ?_
  decide +kernel

/-- **Payload independent of the header layout.** In every configuration the object pointer handed out by `header_init`
    sees the same payload (size(type) zeroed words) and finds its type word through `header(self)`, whatever the number of
    header words is. -/
theorem C18_payload_independent_of_header (cfg : Cfg) (ty : String) (c : AllocClass) (n : Nat) :
    payloadOf cfg (allocBlock cfg ty c n) = List.replicate n (.data 0) ∧
    typeWordOf cfg (allocBlock cfg ty c n) = some (.type ty) ∧
    (allocBlock cfg ty c n).length = headerWords cfg + n := by
  -- the header words depend on the checks switch only
  have hlen : (headerInitWords cfg ty c).length = headerWords cfg := by
    obtain ⟨a, b, d⟩ := cfg
    cases a <;> rfl
  obtain ⟨rest, hr⟩ : ∃ rest, headerInitWords cfg ty c = .type ty :: rest := by
    obtain ⟨a, b, d⟩ := cfg
    cases a <;> exact ⟨_, rfl⟩
  refine ⟨by simp [payloadOf, allocBlock, selfOffset, ← hlen], ?_, by simp [allocBlock, hlen]⟩
  simp only [typeWordOf, selfOffset, Nat.sub_self, allocBlock, hr]
  rfl

/-! ### the guards over the allocation class: false on every in-contract object, so removable

  Every `if (cond) throw(…)` inside `#if CELLO_ALLOC_CHECK == 1` is regenerated from src/*.c as a term (`CelloGen.Cfg.guards`:
  `alloc is X`, `alloc isnt X`, `or`, …), the classes that `alloc_by`, the containers, `$(…)` and the static object literal
  write into headers as `CelloGen.Cfg.stamps`.  The model evaluates exactly these terms (Cello/Config.lean `sitesFire`). -/

/-- every guard statement of every `#if CELLO_*_CHECK == 1` block is in the table of guards (function, macro, condition,
    exception), under a macro the NDEBUG block defines; and only `CELLO_ALLOC_CHECK` guards read the allocation class — the
    guards of the other families (NULL, MAGIC, BOUND, METHOD, MEMORY) treat objects of every class alike -/
theorem C18_guards_enumerated :
    (checkBlocks.map (fun b => (b.stmts.filter (fun k => k == .guardRaise)).length)).sum = guards.length ∧
    (∀ g ∈ guards, g.guardMacro ∈ usedCheckMacros) ∧
    (∀ g ∈ guards, g.guardMacro ≠ "CELLO_ALLOC_CHECK" → GExpr.readsClass g.cond = false) := by
  decide +kernel

/-- **`CELLO_MEMORY_CHECK` is about the allocator, not about the program** (fix 63509f2).  Every guard of that
    family compares with NULL exactly the pointers that the statements standing DIRECTLY before the `#if` assigned from
    `malloc` / `calloc` / `realloc` — nothing reads or writes through the pointer between the allocation and the test, so in a
    checked build a failed allocation raises before anything else happens, and on every run without allocation failure (the
    workload's assumption) the guard is false whatever the program did: compiling it out changes nothing.  Two listed
    exceptions: `String_New` tests `s->val` after `if (len(args) > 0) String_Assign(…) else s->val = calloc(1, 1)` (both branches
    allocate; `String_Assign` has its own guard), and the guard of `Type_New` bounds `len(args)` — a statement about the
    program: hypothesis `hn` of the run-time type theorems below.  (`memoryChecks` lists the blocks of every platform branch,
    `guards` those compiled on Linux: the first conjunct says none of the latter is missing.)  `String_Resize` before 63509f2
    (`memset` / terminator write through `s->val` between `realloc` and the test) fails this theorem. -/
theorem C18_memory_checks_follow_allocation :
    (∀ g ∈ guards, g.guardMacro = "CELLO_MEMORY_CHECK" → g.func ∈ memoryChecks.map (·.func)) ∧
    ∀ m ∈ memoryChecks, m.func ∈ ["String_New", "Type_New"] ∨
      (m.tested ≠ [] ∧ ∀ x ∈ m.tested, x ∈ m.allocated.map (·.1)) := by
  decide +kernel

/-- the four allocation classes of the model are the enumerators of Cello.h, with pairwise distinct values (so `alloc is X`
    tells the classes apart) -/
theorem C18_alloc_enum_distinct :
    (∀ c ∈ AllocClass.all, (enumVal c.cname).isSome = true) ∧ (AllocClass.all.map (fun c => enumVal c.cname)).Nodup ∧
    allocEnum.length = AllocClass.all.length := by
  decide +kernel

/-- objects on the caller's stack (`$(…)`) and static objects carry classes that no heap object and no element embedded in a
    container carries: the classes on which an in-place operation is defined are told apart from those on which it is not -/
theorem C18_alloc_classes_separate :
    stampOf "alloc_stack" ∉ reallocClasses ∧ stampOf "CelloObject" ∉ reallocClasses ∧
    (∀ c ∈ reallocClasses, c ≠ heapClass → c ∉ deallocClasses) ∧ heapClass ∈ reallocClasses ∧ deallocClasses = [heapClass] := by
  decide +kernel

/-- **Together the guards of a function fire exactly where it is undefined without them**: over all four classes, some
    `CELLO_ALLOC_CHECK` guard of the function fires iff the class is not one the function is defined on; every such guard
    speaks about the header only and throws an exception the model knows.  This is what entitles the model to treat
    "a guard that would fire is compiled out" as undefined behaviour (`refuse`). -/
theorem C18_alloc_guards_classify :
    ∀ g ∈ guards, g.guardMacro = "CELLO_ALLOC_CHECK" →
      GExpr.headerOnly g.cond = true ∧ (Exc.ofName g.exc).isSome = true ∧
      ∀ c ∈ AllocClass.all, (allocGuardFires g.func c).isSome = !((inContractClasses g.func).contains c) := by
  decide +kernel

/-- **… so every CELLO_ALLOC_CHECK guard is false on every in-contract object** — for each guard of the current source, and each
    class an object can carry for which the guarded function is defined (String_* / Tuple_* reallocating or freeing the
    buffer: what `alloc_by` made AND what Array, List, Table (key, value), Tree (key, value) embed; `dealloc`: what `alloc_by`
    made).  This is what makes the check removable: compiling it out changes nothing an in-contract program can see.
    A guard rewritten to `alloc isnt AllocHeap` is true on embedded elements and makes `C18_alloc_guards_classify` fail. -/
theorem C18_alloc_guards_false_in_contract :
    ∀ g ∈ guards, g.guardMacro = "CELLO_ALLOC_CHECK" → ∀ c ∈ inContractClasses g.func, evalG false c g.cond = false := by
  intro g hg hm c hc
  -- no guard of `g.func` fires on an in-contract class, and `g` is one of them
  have h := (C18_alloc_guards_classify g hg hm).2.2 c (by cases c <;> decide)
  rw [List.contains_iff_mem.mpr hc, Bool.not_true, Option.isSome_eq_false_iff, Option.isNone_iff_eq_none] at h
  exact allocGuardFires_eq_none_iff.mp h g hg rfl hm

/-- in the model: no generated guard fires on an in-contract class, for any function (also one without guards) -/
theorem C18_alloc_guard_never_fires_in_contract (fn : String) (c : AllocClass) (hc : c ∈ inContractClasses fn) :
    allocGuardFires fn c = none :=
  allocGuardFires_eq_none_iff.mpr fun g hg hf hm => C18_alloc_guards_false_in_contract g hg hm c (hf ▸ hc)

/-- **An in-place edit is never refused for where its target lives.**  Whatever the edit (concat, append, resize, assign,
    print_to, rem, look_from) and whatever it is applied to — the object behind the handle (made by new / new_raw / new_root /
    copy: header written by `alloc_by` of that build), an element of an Array or List reached by `get` or by iteration, a value
    or a key of a Table or Tree — none of the allocation-class guards of the functions it runs fires, in any build. -/
theorem C18_edit_never_refused_for_its_class (cfg : Cfg) (o : Obj) (ho : o.hdr = headerInit cfg o.hdr.type heapClass)
    (sel : Sel) (e : Edit) (b : Body) (x : Val) :
    sitesFire o ((e.fns x.ty.name).map (fun f => (f, selWhere sel b))) = none :=
  edit_sites_quiet C18_alloc_guard_never_fires_in_contract cfg o ho sel e b x.ty.name

/-- the seeded shape, for contrast: `alloc isnt AllocHeap` fires on an embedded element, the guard of the source does not;
    both fire on stack and static objects and neither on heap objects -/
example :
    evalG false .data (.allocIsnt "AllocHeap") = true ∧
    evalG false .data (.or (.allocIs "AllocStack") (.allocIs "AllocStatic")) = false ∧
    AllocClass.all.map (fun c => evalG false c (.allocIsnt "AllocHeap")) = [true, true, false, true] ∧
    AllocClass.all.map (fun c => evalG false c (.or (.allocIs "AllocStack") (.allocIs "AllocStatic"))) = [true, true, false, false] := by
  decide +kernel

/-- **One API step.** If a step is in contract under the default configuration (its outcome is `ok`: no check fired, no
    error path, no undefined behaviour), then under EVERY configuration `cfg` — checks compiled out or not, method cache on
    or off, collector present or not — started from any state that shows the program the same objects (`Equiv`: same
    handles, and behind each an object of the same identity, type and contents; headers, cache contents, registry and
    unreachable garbage may differ), the step has the same outcome, and the two resulting states again show the same
    objects.  (`WF` = every filled cache slot is a memo of `Type_Scan`, live objects carry the header `header_init`
    writes in that configuration; both hold initially and are preserved.) -/
theorem C18_step_config_independent (cfg : Cfg) (op : Op) (s₁ s₂ : St) (out : Out)
    (he : Equiv s₁ s₂) (hw₁ : WF Cfg.default s₁) (hw₂ : WF cfg s₂)
    (h : (step Cfg.default op s₁).2 = .ok out) :
    (step cfg op s₂).2 = .ok out ∧ Equiv (step Cfg.default op s₁).1 (step cfg op s₂).1 ∧
      WF cfg (step cfg op s₂).1 ∧ WF Cfg.default (step Cfg.default op s₁).1 :=
  have k := step_sim cfg op ⟨he, hw₁, hw₂⟩ h
  ⟨k.1, k.2.1, k.2.2.2, k.2.2.1⟩

/-- **C18 (model).** Every program (list of API steps) that stays in contract under the default configuration computes,
    under every configuration of the three switches, the same list of outcomes (every value read, every length, every
    membership answer, every iteration) and ends in a state that shows the same objects. -/
theorem C18_config_independent (cfg : Cfg) (prog : List Op) (s₁ s₂ : St)
    (he : Equiv s₁ s₂) (hw₁ : WF Cfg.default s₁) (hw₂ : WF cfg s₂)
    (hok : InContract (run Cfg.default prog s₁).2) :
    (run cfg prog s₂).2 = (run Cfg.default prog s₁).2 ∧
      Equiv (run Cfg.default prog s₁).1 (run cfg prog s₂).1 ∧ WF cfg (run cfg prog s₂).1 :=
  have h := run_full cfg prog ⟨he, hw₁, hw₂⟩
  ⟨h.1.eq_of_inContract hok, h.2.1, h.2.2.2⟩

/-- `Equiv` states are indistinguishable to the program -/
theorem C18_equiv_observe (s t : St) (h : Equiv s t) : s.observe = t.observe := h.map_proj id

/-- **From program start**: for every configuration, an in-contract program prints the same transcript and leaves the
    same observable objects as in the default build. -/
theorem C18_from_start (cfg : Cfg) (prog : List Op) (hok : InContract (run Cfg.default prog St.init).2) :
    (run cfg prog St.init).2 = (run Cfg.default prog St.init).2 ∧
      (run cfg prog St.init).1.observe = (run Cfg.default prog St.init).1.observe :=
  ⟨(run_full_init cfg prog).1.eq_of_inContract hok, (run_full_init cfg prog).2⟩

/-- any two configurations agree with each other -/
theorem C18_any_two_configs (c₁ c₂ : Cfg) (prog : List Op) (hok : InContract (run Cfg.default prog St.init).2) :
    (run c₁ prog St.init).2 = (run c₂ prog St.init).2 ∧
      (run c₁ prog St.init).1.observe = (run c₂ prog St.init).1.observe := by
  obtain ⟨a1, a2⟩ := C18_from_start c₁ prog hok
  obtain ⟨b1, b2⟩ := C18_from_start c₂ prog hok
  exact ⟨a1.trans b1.symm, a2.trans b2.symm⟩

/-- **The method cache is a memo** (in every configuration, whatever was looked up before): `Type_Instance` returns what
    `Type_Scan` returns.  Rests on the slot indices of the generated `Type_Cache_Entry` table being pairwise distinct. -/
theorem C18_cache_is_memo (cfg : Cfg) (memo : List ((String × Nat) × String)) (ty cls : String) (hm : MemoOK memo) :
    (typeInstance cfg memo ty cls).2 = scan ty cls ∧ MemoOK (typeInstance cfg memo ty cls).1 :=
  typeInstance_spec cfg memo ty cls hm

/-- **The collector does not change what reachable objects contain**, in either half of the model.
    (1) value objects: after mark + sweep every live handle finds the very same object.
    (2) keep programs (heap graphs): after `GC_Mark; GC_Sweep` — the marker of src/GC.c (Cello/Heap.lean) run on what the Mark
    instances of Array, List, Table, Tree, Tuple, Thread hand to it and on the conservative scan of Ref, Box and plain structs —
    the holder variables and thread-local storage are as before and EVERY block the program can reach from them, through any
    chain of containers, Refs, Boxes and struct fields (`KReach`: what the containers hold, not what their Mark instances
    enumerate), is still there with the same contents.  Collections happen only in configurations with a collector
    (`gcTail`), so this is what makes them unobservable. -/
theorem C18_collect_preserves_reachable (s : St) (k : Keep.KSt) (hk : Keep.Fresh k) :
    ((collect s).live = s.live ∧ ∀ p ∈ s.live, findObj (collect s).heap p.2 = findObj s.heap p.2) ∧
    ((Keep.kcollect k).slots = k.slots ∧ (Keep.kcollect k).tls = k.tls ∧
      (∀ i, Keep.KReach k.heap k.roots i → (Keep.kcollect k).heap.lookup i = k.heap.lookup i) ∧
      (∀ i c, (Keep.kcollect k).heap.lookup i = some c → k.heap.lookup i = some c)) :=
  ⟨⟨rfl, collect_find s⟩, rfl, rfl, fun _ hr => Keep.kcollect_keeps C18_root_wired hk hr, fun _ _ h => Keep.kcollect_sub k h⟩

/-- **Every Mark instance covers everything its container holds** (current source): whatever a block refers
    to — every item of an Array or List of Refs, the key and the value of EVERY entry of a Table's slot array and of every
    Tree node, every item of a heap Tuple, the pointer of a Ref or Box, the last word of a plain struct — is among the words
    the collector reads when it traces the block.  Rests on the loop bound of `Table_Mark` (`CelloGen.Cfg.tableMarkBound`),
    the Mark declarations, the leaf list and the scan bound of `GC_Recurse` as regenerated from /repo. -/
theorem C18_mark_covers_container (c : Keep.Cell) (j : Nat) (hj : j ∈ c.refs) :
    Keep.addr j ∈ Cello.Heap.fields Cello.Heap.Cfg.current (Keep.toObj c) :=
  Keep.refs_fields c j hj

/-- the Mark functions in /repo are the ones `Keep.toObj` was written against: `Table_Mark` walks all `nslots` slots; the
    texts of Array_Mark, List_Mark, Thread_Mark, Tree_Mark, Tuple_Mark are unchanged; no other type declares Mark.
    `Thread_Mark` is `mark(t->tls, gc, f)` without a condition: EVERY Thread object presents its table, whichever thread
    marks — the running thread's object, which the thread-local phase of `GC_Mark` hands over itself (`gcMarkThreadArg`:
    `Keep.threadObj`), and a Thread object the program made and holds in a variable (`Keep.Cell.thread`).  (The guard
    `self is current(Thread)` of fix 80c795e was withdrawn by 0a0ad73: it fails this theorem, and the Thread holders of the
    workload lose their objects under it.) -/
theorem C18_mark_functions_as_modelled :
    tableMarkBound = "nslots" ∧
    markFunctions.map (·.1) = ["Array", "List", "Thread", "Tree", "Tuple"] ∧
    markFunctions.map (·.2.1) = markFunctions.map (·.2.2) ∧
    gcMarkThreadArg = "current(Thread)" :=
  ⟨rfl, rfl, rfl, rfl⟩

/-- a Thread object's table is what the model takes it for: `Thread_New` gives every Thread object its own unmanaged
    `Table` of `String ↦ Ref`, `Thread_Del` frees it, and the Get instance (`get/set/mem/rem(t, key)`) works on the table of
    the object it is GIVEN — not on the calling thread's — storing a `Ref` to the value -/
theorem C18_thread_table_as_modelled :
    threadTable.map (·.2.1) = threadTable.map (·.2.2) ∧
    threadTable.map (·.1) = ["Thread_New", "Thread_Del", "Thread_Get", "Thread_Set", "Thread_Mem", "Thread_Rem"] :=
  ⟨rfl, rfl⟩

/-- **Thread_Mark must present the table of a Thread object that is not the marking thread**: with `set(t, 3, x)` on a
    Thread object `t` the collector reads `x`'s address when it traces `t`; under the withdrawn repair 80c795e
    (`Cello.Heap.Cfg.threadGuarded`: `if (self is current(Thread)) { mark(t->tls, gc, f); }`) tracing `t` hands the collector no
    word at all, although `t` holds `x` — and one collection then frees `x` while the variable still holds `t` and `t` still
    holds `x` (`Cello.Heap.C01_thread_guard_refuted`). -/
theorem C18_thread_table_mark_needed :
    Keep.addr 0 ∈ Cello.Heap.fields Cello.Heap.Cfg.current (Keep.toObj (.thread [(3, 0)])) ∧
    Cello.Heap.fields Cello.Heap.Cfg.threadGuarded (Keep.toObj (.thread [(3, 0)])) = [] :=
  ⟨Keep.refs_fields (.thread [(3, 0)]) 0 (by decide), by rw [Cello.Heap.Cfg.threadGuarded, Cello.Heap.Cfg.current_eq]; decide +kernel⟩

/-- **The loop bound of Table_Mark matters**: after `set(t, 3, x)` on a new Table (5 slots, one item) the only entry sits in
    slot 3 — a walk over the first `nitems` slots presents nothing to the collector although the table holds `x`. -/
theorem C18_table_mark_bound_needed :
    (match Cello.Table.set Keep.tcfg Keep.hashInt (Cello.Table.new Keep.tcfg) 3 (0 : Nat) with
     | .ok t => decide (t.n = 5) && decide (t.nitems = 1) && decide (Keep.tabEntries t = [(3, 0)]) &&
                (t.slots.toList.take t.nitems).all (·.isNone)
     | .error _ => false) = true := by
  decide +kernel

/-- **Keep programs, one operation.** From two states that show the program the same thing (`Sim`: same holder variables,
    thread-local entries, and the same contents in every reachable block; garbage, registry and thresholds may differ), an
    operation has the same outcome under ANY two configurations — read the same values, or is refused alike — and leaves
    states that again show the program the same thing, however often either collector ran in between. -/
theorem C18_keep_step_config_independent (c₁ c₂ : Cfg) (op : Keep.KOp) (s t : Keep.KSt)
    (h : Keep.Sim s t) (hs : Keep.Fresh s) (ht : Keep.Fresh t) :
    (Keep.kstep c₁ op s).2 = (Keep.kstep c₂ op t).2 ∧ Keep.Sim (Keep.kstep c₁ op s).1 (Keep.kstep c₂ op t).1 ∧
      Keep.Fresh (Keep.kstep c₁ op s).1 ∧ Keep.Fresh (Keep.kstep c₂ op t).1 :=
  Keep.kstep_sim C18_root_wired c₁ c₂ op h hs ht

/-- **C18 for keep programs.** Every program over holders — containers of every kind that declares Mark, Ref/Box chains,
    thread-local storage, the table of a Thread object held in a variable (not started, or started and joined later: the
    started thread reads its entries), as the sole path to collector-managed objects; insertions, removals with and without `del`,
    shrinking, rehashing, allocation pressure, forced collections, every element read back — computes the same list of
    outcomes under any two configurations of the switches (no in-contract hypothesis: refusals agree as well), and ends in
    states that show the program the same objects. -/
theorem C18_keep_config_independent (c₁ c₂ : Cfg) (prog : List Keep.KOp) :
    (Keep.krun c₁ prog Keep.KSt.init).2 = (Keep.krun c₂ prog Keep.KSt.init).2 ∧
      Keep.Sim (Keep.krun c₁ prog Keep.KSt.init).1 (Keep.krun c₂ prog Keep.KSt.init).1 :=
  Keep.krun_sim C18_root_wired c₁ c₂ prog (Keep.Sim.refl _) Keep.fresh_init Keep.fresh_init

/-- what `Sim` means for the program: whatever operation comes next sees exactly the same -/
theorem C18_keep_sim_observe (s t : Keep.KSt) (h : Keep.Sim s t) (op : Keep.KOp) : Keep.view op s = Keep.view op t :=
  Keep.view_eq h op

/-- **When the collector runs is irrelevant**: an extra collection before any operation changes neither its outcome nor
    what the program can see afterwards (the real registry also holds the objects of the rest of the workload, so the real
    collections come at other moments than the model's). -/
theorem C18_keep_collection_schedule_irrelevant (c : Cfg) (op : Keep.KOp) (s : Keep.KSt) (hs : Keep.Fresh s) :
    (Keep.kstep c op (Keep.kcollect s)).2 = (Keep.kstep c op s).2 ∧
      Keep.Sim (Keep.kstep c op (Keep.kcollect s)).1 (Keep.kstep c op s).1 := by
  obtain ⟨h1, h2, _⟩ := Keep.kstep_sim C18_root_wired c c op (Keep.kcollect_sim C18_root_wired hs) (Keep.kcollect_fresh hs) hs
  exact ⟨h1, h2⟩

/-- **Complete characterisation, no in-contract hypothesis.** For every program and every configuration, the outcome lists
    under the default build and under `cfg` have the same length and agree position by position, except that a raise of
    the default build may be undefined behaviour under `cfg` — and only when `cfg` compiles the checks out.  Unconditional
    error paths (KeyError of an absent key, ValueError of an absent element) raise identically everywhere (`run_full` relates
    them by `ORel.raised`; the statement below does not tell them from check raises), and after every
    step, whatever its outcome, both builds show the program the same objects.  C18_config_independent is the special case
    without raises. -/
theorem C18_only_compiled_out_checks_differ (cfg : Cfg) (prog : List Op) :
    ((run Cfg.default prog St.init).2.length = (run cfg prog St.init).2.length ∧
     ∀ (i : Nat) (x y : Outcome Out), (run Cfg.default prog St.init).2[i]? = some x → (run cfg prog St.init).2[i]? = some y →
        (y = x ∨ (cfg.checks = false ∧ (∃ e, x = .raised e) ∧ y = .ub))) ∧
    (run cfg prog St.init).1.observe = (run Cfg.default prog St.init).1.observe :=
  ⟨(run_full_init cfg prog).1.pointwise, (run_full_init cfg prog).2⟩

/-- **The method cache and the collector are never observable**, not even on error paths: every configuration that keeps
    the checks computes exactly the outcome list of the default build, for every program (no hypothesis). -/
theorem C18_cache_and_collector_unobservable (cfg : Cfg) (hc : cfg.checks = true) (prog : List Op) :
    (run cfg prog St.init).2 = (run Cfg.default prog St.init).2 ∧
    (run cfg prog St.init).1.observe = (run Cfg.default prog St.init).1.observe :=
  ⟨(run_full_init cfg prog).1.eq_of_checks hc, (run_full_init cfg prog).2⟩

/-! ### process exit: the one place where an in-contract program CAN tell a build with the collector from one without

  Cello.h wraps `main` only `#ifndef CELLO_NGC`: `atexit(Cello_Exit)` → `del_raw(current(GC))` → `GC_Del` sweeps with no mark bit set
  and runs the destructor of every object still registered.  A CELLO_NGC build never finalises an object the program did not
  delete itself.  For a type whose destructor does something the outside can see (the harness's `Tracked`: a ledger) the two
  builds therefore differ on a program that takes no error path at all — known finding KF-C18-exit-finalisation.  Model:
  `Keep.kexit`, `Keep.ledger`, `Keep.endLedger` (Cello/Config.lean); the hypothesis that removes the territory is
  `Keep.ReleasesAll` (decidable). -/

/-- the exit path of /repo is the one `Keep.kexit` was written against: the `main` wrapper (inside `#ifndef CELLO_NGC`)
    registers `Cello_Exit`, which exists only with the collector and deletes it; `GC_Del` unmarks and sweeps -/
theorem C18_exit_hook_as_modelled :
    exitHook.map (·.2.1) = exitHook.map (·.2.2) ∧
    exitHook.map (·.1) = ["main wrapper (Cello.h, #ifndef CELLO_NGC)", "Cello_Exit scope (src/GC.c)", "Cello_Exit", "GC_Del"] :=
  ⟨rfl, rfl⟩

/-- the FULL statement for the destructor ledger: whatever the program, every configuration has run the same destructors
    when the process has ended.  It is false (`C18_process_end_refuted`). -/
def C18_process_end_statement : Prop :=
  ∀ (c₁ c₂ : Cfg) (prog : List Keep.KOp), Keep.endLedger c₁ prog = Keep.endLedger c₂ prog

/-- a program that takes no error path: an Array of two objects, one removed and deleted, the holder then dropped -/
def exitWitness : List Keep.KOp := [.hnew 0 .array, .hput 0 0 0 5, .hput 0 1 1 6, .hrem 0 0, .hdrop 0]

/-- **KF-C18-exit-finalisation (refuted on a witness).** Every step of `exitWitness` is in contract in every configuration;
    when the process has ended, a build with the collector has finalised both objects (serial 1 by the exit-time sweep, or
    by a collection before), the build without it only the one the program deleted. -/
theorem C18_process_end_refuted :
    (∀ c : Cfg, (Keep.krun c exitWitness Keep.KSt.init).2.all (fun r => match r with | .ok _ => true | _ => false) = true) ∧
    Keep.endLedger Cfg.default exitWitness = [1, 0] ∧ Keep.endLedger Keep.ngcCfg exitWitness = [0] ∧
    ¬ C18_process_end_statement := by
  have h1 : Keep.endLedger Cfg.default exitWitness = [1, 0] := by
    rw [Keep.endLedger_gc (c := Cfg.default) rfl, Keep.used_config_independent C18_root_wired Cfg.default Keep.ngcCfg]
    decide +kernel
  have h2 : Keep.endLedger Keep.ngcCfg exitWitness = [0] := by decide +kernel
  refine ⟨?_, h1, h2, ?_⟩
  · intro c
    rw [(C18_keep_config_independent c Keep.ngcCfg exitWitness).1]
    decide +kernel
  · intro h
    have := h Cfg.default Keep.ngcCfg exitWitness
    rw [h1, h2] at this
    exact absurd this (by decide)

/-- **C18 at process end, for programs that release what they create (partial: hypothesis `ReleasesAll`).** If, in the build
    without a collector, no `Tracked` object is still allocated when the program ends — i.e. every object whose destructor can
    be observed was deleted by the program itself, none left to the collector or to exit-time teardown — then the ledger of
    destructors that have run by the end of the process is the same in all eight configurations: every object ever made,
    each once.  (Objects whose destructors only release memory — Int, String, Ref, containers, garbage of `hchurn` — may be
    left behind freely.)  Not covered, and false without the hypothesis: `C18_process_end_statement`. -/
theorem C18_process_end_partial (c₁ c₂ : Cfg) (prog : List Keep.KOp) (h : Keep.ReleasesAll prog) :
    Keep.endLedger c₁ prog = Keep.endLedger c₂ prog ∧
    Keep.endLedger c₁ prog = (Keep.krun c₁ prog Keep.KSt.init).1.used := by
  rw [Keep.endLedger_of_releasesAll C18_root_wired c₁ prog h, Keep.endLedger_of_releasesAll C18_root_wired c₂ prog h,
      Keep.used_config_independent C18_root_wired c₁ Keep.ngcCfg]
  exact ⟨rfl, rfl⟩

/-- the hypothesis is met by a program that fills a Table and a chain, lets the collector run, removes with `del` and deletes
    the holders (5 objects made and finalised); and it excludes the witness above -/
example :
    Keep.ReleasesAll [.hnew 0 .tableV, .hput 0 3 0 50, .hput 0 8 1 70, .hnew 1 .chain, .hput 1 0 2 30, .hput 1 1 3 40, .hput 1 0 4 55,
      .hchurn 100, .gc, .hrem 0 3, .hread 0, .hdel 1, .hdel 0] ∧
    Keep.endLedger Keep.ngcCfg [.hnew 0 .tableV, .hput 0 3 0 50, .hput 0 8 1 70, .hnew 1 .chain, .hput 1 0 2 30, .hput 1 1 3 40, .hput 1 0 4 55,
      .hchurn 100, .gc, .hrem 0 3, .hread 0, .hdel 1, .hdel 0] = [4, 3, 2, 1, 0] ∧
    ¬ Keep.ReleasesAll exitWitness := by
  decide +kernel

/-- a concrete workload (containers of both families, growth, sort, copy, a dropped object, a forced collection, del) -/
def sampleProg : List Op :=
  [.nseq .array 0 .I [.int 3, .int 1, .int 2], .push 0 (.int 9), .pushat 0 (-1) (.int 7), .sort 0, .get 0 0, .get 0 (-1),
   .nmap .table 1 .I .S, .mset 1 (.int 5) (.str "five"), .mset 1 (.int 5) (.str "cinco"), .mget 1 (.int 5),
   .copy 2 0, .pop 2, .drop 2, .nv 3 (.str "abc"), .len 3, .gc, .items 0, .items 1, .cmp 0 0, .del 0, .exc 2]

/-- `sampleProg` run once in the default build and once with every switch off: what the two examples below read off the runs -/
theorem sampleProg_runs :
    (InContract (run Cfg.default sampleProg St.init).2 ∧
      (run Cfg.default sampleProg St.init).2.getD 5 .ub = .ok (.val (.int 9)) ∧
      (run Cfg.default sampleProg St.init).2.getD 9 .ub = .ok (.val (.str "cinco"))) ∧
    (run Cfg.default sampleProg St.init).1.memo ≠ [] ∧ (run ⟨false, false, false⟩ sampleProg St.init).1.memo = [] ∧
    (run Cfg.default sampleProg St.init).1.heap.length < (run ⟨false, false, false⟩ sampleProg St.init).1.heap.length := by
  decide +kernel

/-- the hypotheses of `C18_from_start` are met by a non-trivial program, and it really computes something -/
example : InContract (run Cfg.default sampleProg St.init).2 ∧
    (run Cfg.default sampleProg St.init).2.getD 5 .ub = .ok (.val (.int 9)) ∧
    (run Cfg.default sampleProg St.init).2.getD 9 .ub = .ok (.val (.str "cinco")) ∧
    (run ⟨false, false, false⟩ sampleProg St.init).2 = (run Cfg.default sampleProg St.init).2 := by
  obtain ⟨⟨h1, h2, h3⟩, _⟩ := sampleProg_runs
  exact ⟨h1, h2, h3, (C18_from_start _ sampleProg h1).1⟩

/-- in-place edits of objects of every allocation class on which they are defined: heap objects made by new / new_raw /
    new_root, elements of an Array and a List (by index and by iteration), values and keys of a Table and a Tree -/
def sampleEdits : List Op :=
  [.nv 0 (.str "ab"), .nvm .raw 1 (.str "cd"), .nvm .root 2 (.str "ef"),
   .ed 0 .self (.cat "X"), .ed 1 .self (.res 1), .ed 2 .self (.fmt 1 "zz"), .ed 0 .self (.rem "b"), .ed 1 .self (.look "new"),
   .nseq .array 3 .S [.str "alpha", .str "beta"], .nseq .list 4 .S [.str "one", .str "two"],
   .ed 3 (.at 1) (.cat "_s"), .ed 3 (.it 0) (.res 3), .ed 4 (.at (-1)) (.app "Q"), .ed 4 (.it 0) (.asg (.str "uno")),
   .nmap .table 5 .S .S, .mset 5 (.str "k") (.str "Hello"), .ed 5 (.val (.str "k")) (.cat "World"), .ed 5 (.key (.str "k")) (.cat ""),
   .nmap .tree 6 .I .S, .mset 6 (.int 7) (.str "seven"), .ed 6 (.val (.int 7)) (.fmt 5 "th"), .ed 6 (.key (.int 7)) (.asg (.int 7)),
   .get 3 1, .get 3 0, .get 4 1, .get 4 0, .mget 5 (.str "k"), .mget 6 (.int 7), .items 5,
   .del 1, .del 2, .pop 3, .del 3, .del 5]

/-- the edits are in contract in the default build, compute what the C functions compute, and every build agrees -/
example : InContract (run Cfg.default sampleEdits St.init).2 ∧
    ((run Cfg.default sampleEdits St.init).2.drop 22).take 7 =
      [.ok (.val (.str "beta_s")), .ok (.val (.str "alp")), .ok (.val (.str "twoQ")), .ok (.val (.str "uno")),
       .ok (.val (.str "HelloWorld")), .ok (.val (.str "seventh")), .ok (.kvs [(.str "k", .str "HelloWorld")])] ∧
    Cfg.all.all (fun c => (run c sampleEdits St.init).2 == (run Cfg.default sampleEdits St.init).2) = true := by
  -- the first two conjuncts by one evaluation; the eight runs of the third need none: the program is in contract, so they agree
  exact (fun (h : _ ∧ _) => ⟨h.1, h.2, List.all_eq_true.mpr fun c _ => beq_iff_eq.mpr (C18_from_start c sampleEdits h.1).1⟩)
    (by decide +kernel)

/-- in-place edits that ARE out of contract: rewriting a key of a Table with another value is undefined (nothing tests it; the
    default build); `rem` of an absent text raises ValueError with the checks compiled in and with the checks compiled out; an
    edit below a key the Table does not hold raises KeyError -/
example :
    let s := (run Cfg.default [.nmap .table 0 .S .S, .mset 0 (.str "k") (.str "v")] St.init).1
    (step Cfg.default (.ed 0 (.key (.str "k")) (.cat "x")) s).2 = .ub ∧
    (step Cfg.default (.ed 0 (.val (.str "k")) (.rem "zz")) s).2 = .raised .ValueError ∧
    (step ⟨false, true, true⟩ (.ed 0 (.val (.str "k")) (.rem "zz")) s).2 = .raised .ValueError ∧
    (step Cfg.default (.ed 0 (.val (.str "q")) (.cat "x")) s).2 = .raised .KeyError := by
  decide +kernel

/-- **Out of contract the builds do differ** (so the hypothesis of C18 is necessary, and the model does not make the
    theorem true by being insensitive to the switches): reading index 5 of a 3-element Array raises
    IndexOutOfBoundsError in the default build and is undefined behaviour under CELLO_NDEBUG. -/
theorem C18_out_of_contract_differs :
    let s := (run Cfg.default [.nseq .array 0 .I [.int 3, .int 1, .int 2]] St.init).1
    (step Cfg.default (.get 0 5) s).2 = .raised .IndexOutOfBoundsError ∧
    (step ⟨false, true, true⟩ (.get 0 5) s).2 = .ub := by
  decide +kernel

/-- the switches are visible in the model's internal state (header words, cache contents, garbage), just not to the
    program: after `sampleProg` the default build has filled cache slots and swept the dropped copy, the all-off build
    has no cache entries and still holds the garbage -/
example :
    (run Cfg.default sampleProg St.init).1.memo ≠ [] ∧ (run ⟨false, false, false⟩ sampleProg St.init).1.memo = [] ∧
    (run Cfg.default sampleProg St.init).1.heap.length < (run ⟨false, false, false⟩ sampleProg St.init).1.heap.length ∧
    headerWords Cfg.default = 3 ∧ headerWords ⟨false, true, true⟩ = 1 := by
  obtain ⟨_, h1, h2, h3⟩ := sampleProg_runs
  exact ⟨h1, h2, h3, by decide +kernel⟩

/-- **C18 for the whole workload** (what lean/Driver/Cfg.lean executes and harness/h_cfg.c prints): operations on value
    objects and keep operations interleaved in any order, a forced collection acting on both halves.  If no operation on
    value objects leaves the contract under the default configuration, every configuration prints the same transcript. -/
theorem C18_workload_config_independent (cfg : Cfg) (prog : List WOp)
    (hok : WInContract (wrun Cfg.default prog (St.init, Keep.KSt.init)).2) :
    (wrun cfg prog (St.init, Keep.KSt.init)).2 = (wrun Cfg.default prog (St.init, Keep.KSt.init)).2 :=
  wrun_sim C18_root_wired cfg prog _ _ _ _ (Agree.init cfg) (Keep.Sim.refl _) Keep.fresh_init Keep.fresh_init hok

/-- a keep workload: a Table (Int ↦ Ref) and a Table whose KEYS hold the pointers, filled with keys whose home slots lie
    beyond the item count; a Ref/Box chain; thread-local storage; a Thread object used as a table (and then run);
    allocation pressure and forced collections; removals with and without `del`; everything read back -/
def sampleKeep : List Keep.KOp :=
  [.hnew 0 .tableV, .hput 0 3 0 50, .hput 0 4 1 60, .hput 0 8 2 70, .hnew 1 .chain, .hput 1 0 3 30, .hput 1 1 4 40, .hput 1 0 5 55,
   .hnew 2 .tls, .hput 2 9 6 66, .hnew 3 .tableK, .hput 3 4 7 77, .hchurn 100, .gc, .hread 0, .hread 1, .hread 2, .hread 3,
   .hrel 0 4, .hrem 1 1, .hchurn 200, .gc, .hread 0, .hread 1, .hget 2 9, .hdrop 3, .hdel 0, .gc, .hread 1,
   .hnew 4 .thread, .hput 4 7 8 80, .hput 4 2 9 90, .hchurn 300, .gc, .hread 4, .hrun 4, .hrel 4 7, .gc, .hrun 4, .hread 4]

/-- the keep theorem is not vacuous: in the default build (collector at work, several collections) the sample program is
    in contract throughout and reads back exactly what it stored — computed through the build without a collector, to which
    `C18_keep_config_independent` equates it -/
example :
    (Keep.krun Cfg.default sampleKeep Keep.KSt.init).2.getD 14 .ub =
      .ok (.read [(3, 0, 50), (4, 1, 60), (8, 2, 70)] (some (5, 2))) ∧
    (Keep.krun Cfg.default sampleKeep Keep.KSt.init).2.getD 15 .ub = .ok (.read [(0, 5, 55), (1, 3, 30), (2, 4, 40)] none) ∧
    (Keep.krun Cfg.default sampleKeep Keep.KSt.init).2.getD 23 .ub = .ok (.read [(0, 5, 55), (1, 4, 40)] none) ∧
    ((Keep.krun Cfg.default sampleKeep Keep.KSt.init).2.drop 34).take 2 = [.ok (.read [(2, 9, 90), (7, 8, 80)] none), .ok (.ran 2 170)] ∧
    ((Keep.krun Cfg.default sampleKeep Keep.KSt.init).2.drop 38).take 2 = [.ok (.ran 1 90), .ok (.read [(2, 9, 90)] none)] ∧
    (Keep.krun Cfg.default sampleKeep Keep.KSt.init).2.all (fun r => match r with | .ok _ => true | _ => false) = true := by
  rw [(C18_keep_config_independent Cfg.default ⟨true, true, false⟩ sampleKeep).1]
  decide +kernel

/-- a keep workload over ROOTS kept outside the collector's view (`static var slot; slot = new_root(<container>);`): a Table, a
    Ref/Box chain and an Array, filled, put under allocation pressure and forced collections (nothing but the root flag of their
    registry entries keeps them and what they hold), read back, changed, released with `del_root` -/
def sampleRootKeep : List Keep.KOp :=
  [.hnewRoot 0 .tableV, .hput 0 3 0 50, .hput 0 8 1 70, .hnewRoot 1 .chain, .hput 1 0 2 30, .hput 1 1 3 40, .hnewRoot 2 .array, .hput 2 0 4 11,
   .hchurn 200, .gc, .hread 0, .hread 1, .hread 2, .hrel 0 3, .hput 2 1 5 12, .hchurn 300, .gc, .hget 0 8, .hread 2, .hdrop 1, .hdel 1, .hdel 0, .gc, .hread 2,
   .hnewRoot 3 .tls, .hnewRoot 0 .thread]

/-- … in the default build (collector at work) it reads back what it stored; forgetting a root (`hdrop`) and roots of thread
    storage are refused; computed through the build without a collector, to which `C18_keep_config_independent` equates it -/
example :
    ((Keep.krun Cfg.default sampleRootKeep Keep.KSt.init).2.drop 10).take 3 =
      [.ok (.read [(3, 0, 50), (8, 1, 70)] (some (5, 2))), .ok (.read [(0, 2, 30), (1, 3, 40)] none), .ok (.read [(0, 4, 11)] none)] ∧
    ((Keep.krun Cfg.default sampleRootKeep Keep.KSt.init).2.drop 17).take 3 = [.ok (.got 1 70), .ok (.read [(0, 4, 11), (1, 5, 12)] none), .ub] ∧
    ((Keep.krun Cfg.default sampleRootKeep Keep.KSt.init).2.drop 20) = [.ok .unit, .ok .unit, .ok .unit, .ok (.read [(0, 4, 11), (1, 5, 12)] none), .ub, .ub] := by
  rw [(C18_keep_config_independent Cfg.default ⟨true, true, false⟩ sampleRootKeep).1]
  decide +kernel

end Cello.Config

/-! ## run-time type objects: the layout differs between configurations, what a program can observe does not

  `new(Type, name, size, instances…)`: with the method cache compiled in, a type object starts with `CELLO_CACHE_NUM = 18` cache
  words and its instance triples start at cell `CELLO_NBUILTINS = 8`; with `CELLO_CACHE` predefined there are no cache words and
  the triples start at cell 2.  The theorems below are about the index expressions of src/Type.c as regenerated terms, evaluated
  by Cello/ConfigType.lean under the constants of each configuration, for BOTH values of the switch. -/

namespace Cello.CfgType
open Cello.Config (Cfg cacheNum)
open Cello.Dispatch
open CelloGen.Cfg (TypeNewIx typeNewIx)

/-- **The index arithmetic of src/Type.c is right in every configuration.**  For all eight configurations (both values of
    `CELLO_CACHE_NUM` read from Cello.h): the cache words are whole cells and `CELLO_NBUILTINS` is two cells after them; the
    `Type_Cache_Entry` indices compiled in are distinct and below `CELLO_CACHE_NUM`; `Type_Alloc` reserves
    `CELLO_NBUILTINS + CELLO_MAX_INSTANCES + 1` cells; and — for EVERY `len(args)` and every value of the loop variable — each
    loop bound and each store index of `Type_New` (cache clear, `__Name`, `__Size`, instance triples, terminator) and each cell
    the readers use (`Type_Builtin_Name`, `Type_Builtin_Size`, both walks of `Type_Scan`) evaluates to the cell the layout of
    THAT configuration puts it in.  An index expression that is right for one value of the switch only (`t[nargs]` for the
    terminator, `t[7]` for the size, `self + 8` for the scan) makes this theorem fail for the other value. -/
theorem C18_type_layout_current_source (cfg : Cfg) : SrcOK cfg :=
  -- the index expressions are right symbolically in `CELLO_CACHE_NUM`; only its divisibility by 3 and the cache table need its value
  ⟨⟨(Cello.Config.C18_static_header_matches_struct cfg).2.1, nbOf_eq _⟩, slotsOK_src cfg Cello.Config.C18_cache_table_sound.2.2.2.1,
    cellsOK_src _, ixCanon_src _, rdCanon_src _⟩

/-- **`Type_New` and the readers of the source, evaluated under a configuration, are C08's word-level `Type_New` and record
    view for the layout of that configuration** — on every storage of the size `Type_Alloc` reserves there, whatever it
    holds, for every name, size and instance list within `CELLO_MAX_INSTANCES`.  (C08 proves its theorems for an arbitrary
    layout satisfying `LayoutOK`; this is what lets them speak about the cache-off build as well.) -/
theorem C18_type_new_source_as_layout (cfg : Cfg) (mem : List Word) (name : String) (size : Nat) (es : List (String × Inst))
    (hn : es.length ≤ CelloGen.Cfg.maxInstances) (hlen : mem.length = 3 * cellsOf cfg) :
    typeNewSrc cfg mem name size es = typeNewRaw (layoutOf cfg) mem name size es ∧
    ∀ hdr sent m, ofRawSrc cfg hdr sent m = Store.ofRaw (layoutOf cfg) hdr sent m := by
  have h := C18_type_layout_current_source cfg
  refine ⟨?_, fun hdr sent m => ofRawWith_eq h.rd hdr sent m⟩
  have hc : cellsOf cfg = (layoutOf cfg).cells := h.cells
  exact typeNewWith_eq_raw h.ix h.layout mem name size es hn (by rw [hlen, hc]; exact cells_fit cfg hn)

/-- **A run-time type is the same type in every build.**  In ANY configuration, on ANY storage of `Type_Alloc`'s size (fresh
    from `calloc`, or a previous incarnation with warmed cache words, memoised class pointers and more triples than the new
    list), `Type_New` of the source succeeds without a store outside the storage and the readers of the source see: the name
    and the size that were passed, the instance triples in argument order — all of them, none twice, nothing after them —, every
    cache word of that configuration empty, and the lookup invariant relative to the declaration `declOf es`. -/
theorem C18_type_new_any_storage_any_config (cfg : Cfg) (hdr sent : Bool) (mem : List Word) (name : String) (size : Nat)
    (es : List (String × Inst)) (hn : es.length ≤ CelloGen.Cfg.maxInstances) (hlen : mem.length = 3 * cellsOf cfg) :
    ∃ s, (typeNewSrc cfg mem name size es).2 = .ok () ∧
      ofRawSrc cfg hdr sent (typeNewSrc cfg mem name size es).1 = some s ∧
      s.name = name ∧ s.size = size ∧ s.trec = mkType (cacheNum cfg) hdr es sent ∧
      StoreOK (layoutOf cfg) (declOf es) (slotsOf cfg) s := by
  have h := C18_type_layout_current_source cfg
  have e := C18_type_new_source_as_layout cfg mem name size es hn hlen
  have hlen' : mem.length = 3 * (layoutOf cfg).cells := by rw [hlen, h.cells]
  have raw := (typeNewRaw_spec h.layout hdr sent mem name size es hlen').1 hn
  have sp := (constructAt_spec h.layout (slotsOf cfg) hdr sent mem name size es hlen').1 hn
  refine ⟨freshStore (layoutOf cfg) hdr sent name size es (mem.drop (3 * ((layoutOf cfg).nBuiltins + es.length + 1))), ?_, ?_, rfl, rfl, rfl, sp.2⟩
  · rw [e.1, raw]
  · rw [e.1, e.2, raw]
    exact ofRaw_toRaw h.layout _ (by simp [freshStore, mkType, layoutOf])

/-- **C18 for run-time types.**  Take ANY two configurations (cache on / off, checks
    on / off, collector on / off), the storage `Type_Alloc` reserves in each (any contents), one constructor call
    `new(Type, name, size, instances…)` with any instance list within `CELLO_MAX_INSTANCES` (0, 4, 5, 6, 12, 256 … instances,
    duplicate classes, any order), and ANY in-contract history of lookups — `type_instance`/`instance`,
    `type_implements`/`implements`, `type_method`/`method`, `type_implements_method`/`implements_method` for cached and uncached,
    declared and undeclared classes, cold or warm — interleaved with re-constructions in place with other instance lists.
    Both builds construct a well-formed type object with the SAME name and size, and answer EVERY lookup of the history
    identically: with what the instance list in force declares (`specLife`).  The objects differ in layout (18 cache words
    and triples from cell 8, or none and from cell 2); no program can tell. -/
theorem C18_type_record_config_independent (c₁ c₂ : Cfg) (mem₁ mem₂ : List Word)
    (h₁ : mem₁.length = 3 * cellsOf c₁) (h₂ : mem₂.length = 3 * cellsOf c₂)
    (name : String) (size : Nat) (es : List (String × Inst)) (hn : es.length ≤ CelloGen.Cfg.maxInstances)
    (ops : List LOp) (hops : ∀ op ∈ ops, LOp.inContract op = true) :
    ∃ s₁ s₂,
      (typeNewSrc c₁ mem₁ name size es).2 = .ok () ∧ ofRawSrc c₁ true false (typeNewSrc c₁ mem₁ name size es).1 = some s₁ ∧
      (typeNewSrc c₂ mem₂ name size es).2 = .ok () ∧ ofRawSrc c₂ true false (typeNewSrc c₂ mem₂ name size es).1 = some s₂ ∧
      s₁.name = name ∧ s₂.name = name ∧ s₁.size = size ∧ s₂.size = size ∧
      (runLifeSrc c₁ s₁ ops).2 = (runLifeSrc c₂ s₂ ops).2 ∧
      (runLifeSrc c₁ s₁ ops).2 = specLife CelloGen.Cfg.maxInstances false (declOf es) ops := by
  obtain ⟨s₁, a1, b1, n1, z1, t1, ok1⟩ := C18_type_new_any_storage_any_config c₁ true false mem₁ name size es hn h₁
  obtain ⟨s₂, a2, b2, n2, z2, t2, ok2⟩ := C18_type_new_any_storage_any_config c₂ true false mem₂ name size es hn h₂
  -- in either configuration the history is what the declaration dictates
  have life : ∀ (cfg : Cfg) (s : Store), StoreOK (layoutOf cfg) (declOf es) (slotsOf cfg) s → s.trec = mkType (cacheNum cfg) true es false →
      (runLifeSrc cfg s ops).2 = specLife CelloGen.Cfg.maxInstances false (declOf es) ops := by
    intro cfg s ok t
    have k := C18_type_layout_current_source cfg
    rw [runLifeSrc_eq k ops _ s hops ok, (runLife_spec k.layout k.slots ops _ s ok).1, t]; rfl
  have r1 := life c₁ s₁ ok1 t1
  exact ⟨s₁, s₂, a1, b1, a2, b2, n1, n2, z1, z2, by rw [r1, life c₂ s₂ ok2 t2], r1⟩

/-- **What the driver prints for a construction is the same in every configuration** — the executable workload model
    (`step`, the function lean/Driver/Cfg.lean runs in lock step under all eight configurations and the harness transcript is
    compared with) tied to the theorems above: for every `ty T ROUTE NAME SIZE INST*` line — any slot, route, name, size and
    list of harness instances, refused or not — the observation (name and `__Size` cell as the readers see them, `size(T)`
    through the `Size` instance, `type_implements` for each of the 18 probe classes) computed THROUGH the word-level object of
    configuration `c₁` equals the one computed through the object of `c₂`; and when the line is in contract it is the line the
    instance list itself dictates. -/
theorem C18_ty_line_config_independent (c₁ c₂ : Cfg) (t route : Nat) (name : String) (size : Nat) (insts : List Nat) :
    (step c₁ {} (.ty t route name size insts)).map (·.2) = (step c₂ {} (.ty t route name size insts)).map (·.2) ∧
    ((step c₁ {} (.ty t route name size insts)).isSome →
      (step c₁ {} (.ty t route name size insts)).map (·.2) =
        some (.ty name size (match memberOf (declOf (instsOf insts)) "Size" 0 with | some _ => 32 | none => size)
          (probeClasses.map (fun c => (declOf (instsOf insts) c).isSome)))) := by
  by_cases hg : (t ≥ maxTy || route > 5 || (({} : RSt).ty? t).isSome || !validName name || !validSize size
        || insts.length > maxInstsLine || insts.any (fun k => k ≥ table.length)) = true
  · -- the line is refused, in every configuration
    have r : ∀ cfg : Cfg, step cfg {} (.ty t route name size insts) = none := fun cfg => by simp only [step]; rw [if_pos hg]
    rw [r c₁, r c₂]
    exact ⟨rfl, fun h => by simp at h⟩
  · have key : ∀ cfg : Cfg, (step cfg {} (.ty t route name size insts)).map (·.2) =
        some (.ty name size (match memberOf (declOf (instsOf insts)) "Size" 0 with | some _ => 32 | none => size)
          (probeClasses.map (fun c => (declOf (instsOf insts) c).isSome))) := by
      intro cfg
      have hlen : insts.length ≤ CelloGen.Cfg.maxInstances := by
        have h256 : CelloGen.Cfg.maxInstances = maxInstsLine := by decide
        rw [h256]
        simp only [Bool.or_eq_true, decide_eq_true_eq, not_or] at hg
        omega
      have hn : (instsOf insts).length ≤ CelloGen.Cfg.maxInstances := Nat.le_trans (instsOf_length_le insts) hlen
      obtain ⟨s, a, b, n1, z1, _, ok⟩ := C18_type_new_any_storage_any_config cfg true false (zeroStorage cfg) name size
        (instsOf insts) hn (by simp [zeroStorage])
      have d := describe_spec (C18_type_layout_current_source cfg).slots ok.inv
      simp only [step]
      rw [if_neg hg]
      simp only [a, b, Option.map_some, d, n1, z1]
      rfl
    exact ⟨by rw [key c₁, key c₂], fun _ => key c₁⟩

/-- the table of index expressions with the terminator written at `t[len(args)]` — the hoisted-local variant — and everything
    else as in the current source -/
def ixTermAtNargs : TypeNewIx := { typeNewIx with termIdx := .nargs }

/-- **An index that is right in one configuration only is refuted in the other.**  `t[nargs]` for the terminator: with the cache
    compiled out (`CELLO_NBUILTINS = 2`) it IS the right cell for every instance list (`IxCanon`), so the cache-off build behaves
    as with the expression of the source; in the default build the terminator lands six cells early: with four instances the
    readers find no name (the `__Name` cell is wiped: the storage no longer reads back as a type object), with five no size, with
    six the type has lost every instance — while `Type_New` of the current source builds all of them in both
    builds. -/
theorem C18_terminator_at_nargs_refuted :
    (∀ cfg : Cfg, cfg.cache = false → IxCanon ixTermAtNargs cfg) ∧
    ofRawSrc Cfg.default true false (typeNewWith ixTermAtNargs Cfg.default (zeroStorage Cfg.default) "Cell" 16 (instsOf [0, 1, 2, 3])).1 = none ∧
    ofRawSrc Cfg.default true false (typeNewWith ixTermAtNargs Cfg.default (zeroStorage Cfg.default) "Cell" 16 (instsOf [0, 1, 2, 3, 4])).1 = none ∧
    (ofRawSrc Cfg.default true false (typeNewWith ixTermAtNargs Cfg.default (zeroStorage Cfg.default) "Cell" 16 (instsOf [0, 1, 2, 3, 4, 5])).1).map
      (fun s => (s.name, s.size, s.trec.entries.length)) = some ("Cell", 16, 0) ∧
    (ofRawSrc Cfg.default true false (typeNewSrc Cfg.default (zeroStorage Cfg.default) "Cell" 16 (instsOf [0, 1, 2, 3, 4, 5])).1).map
      (fun s => (s.name, s.size, s.trec.entries.length)) = some ("Cell", 16, 6) ∧
    (ofRawSrc ⟨true, false, true⟩ true false (typeNewWith ixTermAtNargs ⟨true, false, true⟩ (zeroStorage ⟨true, false, true⟩) "Cell" 16 (instsOf [0, 1, 2, 3, 4, 5])).1).map
      (fun s => (s.name, s.size, s.trec.entries.length)) = some ("Cell", 16, 6) := by
  refine ⟨?_, by decide +kernel⟩
  intro cfg hc
  -- everything but `termIdx` is the table of the source; with `CELLO_NBUILTINS = 2` the cell `len(args)` is the terminator's
  have h := ixCanon_src cfg
  refine ⟨h.nameArg, h.sizeArg, h.clearLo, h.clearHi, h.clearIdx, h.nameIdx, h.sizeIdx, h.instLo, h.instHi, h.instArg, h.instIdx, fun n => ?_⟩
  have hnb : nbOf (cacheNum cfg) = 2 := by rw [cacheNum, hc]; decide
  rw [hnb]
  simp only [envOf, ixTermAtNargs, eval]
  omega

/-- the workload of the driver is not vacuous and is the same in the cache-on and the cache-off model: a type with twelve instances
    (a class twice: the first one counts), made by `new_root`, queried, used through objects, re-constructed in place with one
    instance, asked again -/
example :
    let prog : List ROp :=
      [.ty 0 2 "Cell" 16 [0, 1, 16, 2, 3, 4, 5, 6, 7, 9, 11, 12], .tyq 0 "Hash", .tyq 0 "Iter", .ob 1 0 0 7, .ob 2 0 1 9, .oq 1 .hash,
       .oq 1 (.cmp 2), .oq 1 .show, .oq 1 (.copy 3), .oq 3 .cint, .od 1, .od 2, .od 3, .tyre 0 "Foo" 24 [4], .tyshow 0, .ob 1 0 0 5,
       .oq 1 .cint, .oq 1 .hash, .oq 1 .show]
    let run (cfg : Cfg) := prog.foldl (fun (acc : RSt × List (Option RObs)) op =>
        match step cfg acc.1 op with
        | some r => (r.1, acc.2 ++ [some r.2])
        | none => (acc.1, acc.2 ++ [none])) (({} : RSt), [])
    (run Cfg.default).2 = (run ⟨true, false, true⟩).2 ∧
    (run Cfg.default).2 =
      [some (.ty "Cell" 16 16 [true, true, true, true, true, true, true, true, false, true, false, true, true, false, false, false, false, false]),
       some (.tyq true (some 16) [some true]), some (.tyq false none []),
       some (.ob 7 "Cell" 16), some (.ob 9 "Cell" 16), some (.val "hash" 9007), some (.val "cmp" 1), some (.showRt 7),
       some (.val "copy" 12), some (.val "cint" 2012), some (.od true), some (.od true), some (.od true),
       some (.ty "Foo" 24 24 [false, false, false, false, true, false, false, false, false, false, false, false, false, false, false, false, false, false]),
       some (.tyshow "Foo"), some (.ob 0 "Foo" 24), some (.val "cint" 2000), some .hashDefault, some (.showDefault "Foo")] := by
  decide +kernel

end Cello.CfgType
