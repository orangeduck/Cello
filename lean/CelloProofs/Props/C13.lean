/-
  C13 — threads are isolated from each other; join publishes; Mutex excludes.   (PARTIAL by nature, see the end)

  Model: Cello/Threads.lean.  A *schedule* is any `List Ev`: any number of threads, any interleaving, any per-thread
  programs (also adaptive ones: every actual execution is some list of events).  `run cfg s g` executes it and
  returns the final process state and the trace `(event, outcome)`.  An event that cannot happen at that point (the
  thread does not exist, is blocked, or has finished) leaves the state unchanged and is recorded with the outcome
  `dead` / `blocked`, so every theorem below holds for *all* lists of events without an enabledness side condition.
  The concrete schedules (`witness…`, `demo…`, the `example`s) refute the full statements that fail, and show that the
  hypotheses of the others can be met and that the branches they speak of are exercised.

  How the theorems are tied to /repo.  `step` hands a local operation of thread `t` the component
  `g.thr t` — that is the model of "per-thread state is reached only through `current(Thread)`", so `C13_frame`,
  `C13_teardown_own`, `C13_join` and `C13_mutex` *read back* the shape of `step` (frame = case split of its definition,
  join = its guard `phase = done`, mutex = invariant of the `holder` guard).  What makes that shape a fact about the
  code is (a) `C13_source_shape_as_modelled`: the text of every function through which Thread.c / GC.c / Exception.c /
  Alloc.c reach per-thread state is extracted on every run (translate/g_thr.py) and must be the text the model was
  written against, (b) the two places where the code does NOT have that shape are modelled as what they are:
  `GC_Recurse` → `Thread_Mark` walks the thread-local table of *any* Thread object the mark phase meets
  (`foreignMarks`, switched by `CelloGen.Thr.threadMarkUnguarded`, which is read from `Thread_Mark`, the `Mark` instance
  of `Thread` and the dispatch in `GC_Recurse`), and `Thread_Del` frees that table (`wrapperKilled`); the theorems that
  need it carry the hypothesis `Isolated` and are refuted without it, (c) the correspondence runs on real threads.

  Variants of the model are selected by three `Cfg` switches that the translator reads from the source on every run
  (`cfgSrc`): `foreignMark` (false = the GUARDED `Thread_Mark` of commit 80c795e, withdrawn by commit 0a0ad73: `cfgGuarded`),
  `joinIgnoresDeadlk` (true = the OLD `Thread_Join` before commit 484991f, without a case for EDEADLK: `cfgOldJoin`)
  and `gcFirst` (false = the teardown order before commit 7de4bbc: `C13_teardown_old_order_refuted`).
  What holds and what fails in each variant is said at the theorems and summed up at the end of the file.
-/
import CelloProofs.Lemmas.ThrIso
import CelloProofs.Lemmas.ThrMutex
import CelloProofs.Lemmas.ThrCounter
import CelloProofs.Lemmas.ThrArgs
import CelloProofs.Lemmas.ThrSync
import CelloProofs.Props.C07
import CelloGen.Exn
import CelloGen.Thr

namespace Cello.Thr

/-- the variant of the model that mirrors /repo's current source: every switch is read from the source by the translator
    on every run; `scan` (the declaration, `Type_Scan`) is arbitrary -/
def cfgSrc (scan : Nat × Nat → Bool) : Cfg :=
  { gcFirst := CelloGen.Thr.teardownGcFirst, consume := CelloGen.Exn.catchConsumes, maxDepth := CelloGen.Exn.maxDepth, scan := scan,
    foreignMark := CelloGen.Thr.threadMarkUnguarded, joinIgnoresDeadlk := joinIgnoresDeadlkOf CelloGen.Thr.joinErr }

/-- … with a concrete declaration, for the examples -/
def cfgNow : Cfg := cfgSrc (fun k => k.1 = 1)

/-- the current source written out (`Thread_Mark` walks the table of any Thread object: the value of
    `CelloGen.Thr.threadMarkUnguarded` on the unchanged tree; `Thread_Join` raises for EDEADLK), so that the refutations below
    do not depend on what the translator reads after a repair -/
def cfgMark : Cfg :=
  { gcFirst := true, consume := true, maxDepth := 2048, scan := fun _ => false, foreignMark := true, joinIgnoresDeadlk := false }

/-- the GUARDED variant of `Thread_Mark` (commit 80c795e, withdrawn by 0a0ad73): only `current(Thread)`'s table is walked -/
def cfgGuarded : Cfg := { cfgMark with foreignMark := false }

/-- OLD variant of `Thread_Join` (before commit 484991f): no case for EDEADLK -/
def cfgOldJoin : Cfg := { cfgMark with joinIgnoresDeadlk := true }

/-- **The repair of `Thread_Join` is in /repo's current source**: the table extracted from `Thread_Join` has a case for
    EDEADLK, so the variant `cfgSrc` is the repaired one.  Reverting commit 484991f makes this theorem fail. -/
theorem C13_join_repair_in_current_source :
    joinIgnoresDeadlkOf CelloGen.Thr.joinErr = false ∧ ∀ scan, (cfgSrc scan).joinIgnoresDeadlk = false := by
  have h2 : joinIgnoresDeadlkOf CelloGen.Thr.joinErr = false := by decide
  exact ⟨h2, fun _ => h2⟩

/-- **Frame (writes).** Whatever one thread does — allocate, collect, throw, catch, set thread-local values, lock, join,
    make Thread objects — the component of every *other* thread `u` (its collector registry, exception record,
    thread-local table, ledger of finalised objects, published cells) is not written.  The only thing another thread
    can do to `u` is to start it (`spawn`: phase `unborn` → `ready`, or `done` → `ready` when a joined Thread object is
    called again; nothing else changes).
    Read back from `step` (see the header).  It is a statement about *writes*: a collection of `e.tid` does **read**
    `u`'s thread-local table when it reaches `u`'s Thread object (`foreignMarks`) — what that does to the reader is the
    subject of `C13_noninterference` and its hypothesis `Isolated`; and a sweep that would free the Thread object of a
    live `u` is the outcome `ub` (not executed, `wrapperKilled`). -/
theorem C13_frame (cfg : Cfg) (g : G) (e : Ev) (u : Tid) (hu : e.tid ≠ u) :
    (step cfg g e).1.thr u = g.thr u ∨
    ((∃ t, e = .spawn t u) ∧ ((g.thr u).phase = .unborn ∨ (g.thr u).phase = .done) ∧
      (step cfg g e).1.thr u = { g.thr u with phase := .ready }) :=
  (step_thr cfg g e u).imp_right fun h => h.resolve_left fun h' => hu h'.1

/-- **The shared class cache is transparent.** Whatever a valid cache contains (`hc`: declared instances only — whatever
    other threads looked up before, in whatever order) a lookup by a running thread returns the declared instance, and
    the cache keeps holding declared instances only. -/
theorem C13_cache_transparent (cfg : Cfg) (c : Cache) (hc : CacheOK cfg c) (t : Tid) (fm : List Obj) (ty cls : Nat) (ts : TS)
    (hr : ts.phase = .running) :
    (lstep cfg t c fm (.lookup ty cls) ts).2.2 = .bool (cfg.scan (ty, cls)) ∧
    (lstep cfg t c fm (.lookup ty cls) ts).1 = ts ∧ CacheOK cfg (lstep cfg t c fm (.lookup ty cls) ts).2.1 := by
  have h := lstep_spec hc t fm (.lookup ty cls) ts
  simp only [lstepSpec, hr, if_true] at h
  have h1 := congrArg Prod.fst h.1
  have h2 := congrArg Prod.snd h.1
  exact ⟨h2, h1, h.2⟩

/-- **C13 non-interference.** For every schedule `s` (any number of threads, any interleaving) that keeps the threads
    **isolated** — `Isolated cfg s g`: at every step, the mark phase of a collection meets the collector-managed Thread
    object (`var x = new(Thread, f)`) of no thread that is running or has thread-local values, and no sweep frees the
    Thread object of a live thread; decidable, evaluated on the schedule — from every process state whose class cache is
    valid, and for every thread `u`: the final component of `u` and the outcomes of all its local operations are exactly
    those of `u` running **alone** — executing only the projection of the execution onto `u` (its own local operations,
    and the moment it was spawned) with a private valid class cache `c0` — whatever the other threads did in between.
    Without `Isolated` the statement is false of the model and of the code: `C13_noninterference_refuted`,
    KF-C13-mark-foreign-tls. -/
theorem C13_noninterference (cfg : Cfg) (s : List Ev) (g : G) (hc : CacheOK cfg g.cache) (hiso : Isolated cfg s g = true)
    (u : Tid) (c0 : Cache) (hc0 : CacheOK cfg c0) :
    (run cfg s g).1.thr u = (solo cfg u (proj u (run cfg s g).2) c0 (g.thr u)).1 ∧
    localOuts u (run cfg s g).2 = (solo cfg u (proj u (run cfg s g).2) c0 (g.thr u)).2 := by
  have h := run_proj cfg u s g hc hiso
  rw [solo_eq_spec cfg u _ c0 _ hc0]
  exact ⟨h.1, h.2.1⟩

/-- the same from process start: main thread running, every other thread unborn, empty class cache -/
theorem C13_noninterference_from_start (cfg : Cfg) (s : List Ev) (hiso : Isolated cfg s G.init = true) (u : Tid) :
    (run cfg s G.init).1.thr u = (solo cfg u (proj u (run cfg s G.init).2) [] (G.init.thr u)).1 ∧
    localOuts u (run cfg s G.init).2 = (solo cfg u (proj u (run cfg s G.init).2) [] (G.init.thr u)).2 :=
  C13_noninterference cfg s G.init (cacheOK_nil cfg) hiso u [] (cacheOK_nil cfg)

/-- the full statement of the property's first sentence: non-interference for *every* schedule of the contract — every
    schedule in which no sweep frees the Thread object of a live thread (`KeepsWrappers`; anything else is undefined
    behaviour, `Out.ub`: `Thread_Del` frees the running thread's table) -/
def C13_noninterference_statement (cfg : Cfg) : Prop :=
  ∀ (s : List Ev) (u : Tid), KeepsWrappers cfg s G.init = true →
    (run cfg s G.init).1.thr u = (solo cfg u (proj u (run cfg s G.init).2) [] (G.init.thr u)).1 ∧
    localOuts u (run cfg s G.init).2 = (solo cfg u (proj u (run cfg s G.init).2) [] (G.init.thr u)).2

/-- the documented usage: main allocates an object, makes a Thread object `var x = new(Thread, f)`, calls it; the
    worker sets a thread-local value (here: to main's object); main, whose stack holds only `x`, collects -/
def witnessMark : List Ev :=
  [.loc 0 (.new 1 false false), .loc 0 (.new (thrBase + 1) false false), .bind 0 1, .spawn 0 1, .loc 1 .begin_,
   .loc 1 (.tset "a" ⟨0, 1⟩), .loc 0 (.collect [thrBase + 1])]

/-- the two outcomes of `witnessMark` side by side: in the schedule main's collection finalises nothing, alone it
    finalises object 0.1; the schedule is not `Isolated` (it does keep every Thread object), and it is counted as a race
    (the walked table belongs to a running thread) -/
theorem C13_mark_foreign_tls_witness :
    (localOuts 0 (run cfgMark witnessMark G.init).2).map Out.show = ["ok", "ok", "fin=[] garbage=0"] ∧
    (solo cfgMark 0 (proj 0 (run cfgMark witnessMark G.init).2) [] (G.init.thr 0)).2.map Out.show = ["ok", "ok", "fin=[1] garbage=0"] ∧
    Isolated cfgMark witnessMark G.init = false ∧ IsolatedN cfgMark witnessMark G.init = false ∧
    KeepsWrappers cfgMark witnessMark G.init = true ∧
    races cfgMark witnessMark G.init = 1 := by
  -- straight to the kernel: plain `decide` first evaluates the schedule in the elaborator, which is several times slower
  decide +kernel

/-- **Refuted without `Isolated` (KF-C13-mark-foreign-tls).** In `witnessMark` (a schedule of the contract: main keeps
    `x`) the outcome of *main's* collection depends on what the *worker* put into its thread-local table: main's mark
    phase reaches `x`, `GC_Recurse` calls `Thread_Mark(x)`, which walks the worker's table — main's object survives,
    whereas main alone finalises it.  So
    "whatever one thread does (set thread-local values) … each thread computes the same results as when it runs
    alone" fails.  In C the walk is, on top of that, an unsynchronised read of a table the worker is rewriting: main's
    `new` raises ValueError or reads freed memory (reproduced, TSan: Table_Mark vs Table_Rehash). -/
theorem C13_noninterference_refuted : ¬ C13_noninterference_statement cfgMark := by
  intro h
  obtain ⟨h1, h2, -, -, hk, -⟩ := C13_mark_foreign_tls_witness
  have h0 := congrArg (List.map Out.show) (h witnessMark 0 hk).2
  rw [h1, h2] at h0
  simp at h0

/-- **C13 non-interference, narrow hypothesis.**  `IsolatedN cfg s g`: at every step no sweep frees the
    Thread object of a live thread, and *the table of a live thread never decides what a collection of another thread
    finalises* (`walkNeutral`: the sweep is the same with and without the tables of the live threads whose Thread objects
    the mark phase reaches) — exactly the logical territory of KF-C13-mark-foreign-tls; decidable.  Inside it are the two
    regions `Isolated` excludes although the code is right there: (a) collections by the maker of `x = new(Thread, f)`
    between `call(x)` and `join(x)` whenever the worker's thread-local values do not refer to an object only they keep
    alive, (b) tables left behind by threads that have *finished* (or were never called): those are data the holder of
    `x` reaches through `x`, nobody writes them, and what they refer to must survive.  Accordingly the thread running
    alone is handed those tables: `projM` records, for each of `u`'s collections, the contents of the tables of the
    not-live Thread objects it reaches (`frozenMarks`; `[]` whenever `u` holds no such object: then `projM` is `proj`).
    For every such schedule and every thread `u`: final component and all local outcomes are those of `u` alone
    (class caches valid, as in `C13_noninterference`).
    (What the model cannot say: in C the walk of a live thread's table races with that thread's `set`/`rem`/rehash and
    with the prologue/epilogue of `Thread_Init_Run`; `races` counts those steps, the harness runs them under the baton only.) -/
theorem C13_noninterference_walks (cfg : Cfg) (s : List Ev) (g : G) (hc : CacheOK cfg g.cache) (hiso : IsolatedN cfg s g = true)
    (u : Tid) (c0 : Cache) (hc0 : CacheOK cfg c0) :
    (run cfg s g).1.thr u = (solo cfg u (projM cfg u s g) c0 (g.thr u)).1 ∧
    localOuts u (run cfg s g).2 = (solo cfg u (projM cfg u s g) c0 (g.thr u)).2 := by
  have h := run_projM cfg u s g hc hiso
  rw [solo_eq_spec cfg u _ c0 _ hc0]
  exact ⟨h.1, h.2.1⟩

/-- `Isolated` (no table is read at all) is a special case of `IsolatedN` -/
theorem C13_isolated_is_narrower (cfg : Cfg) (s : List Ev) (g : G) (h : Isolated cfg s g = true) : IsolatedN cfg s g = true :=
  isolatedN_of_isolated cfg s g h

/-- (a) the documented usage with work in between: main holds `x`, the worker sets a thread-local value (an object of its
    own) and allocates; main allocates and collects **while the worker runs**, twice, and once more after the join (the
    finished worker's table then holds a pointer its teardown has finalised: the walk ignores pointers that are not in the
    walker's registry).  Not `Isolated`, two steps are races in C, but `IsolatedN`; main's outcomes are those of its solo
    run — with and without the tables -/
def demoWalk : List Ev :=
  [.loc 0 (.new 1 false false), .loc 0 (.new (thrBase + 1) false false), .bind 0 1, .spawn 0 1, .loc 1 .begin_,
   .loc 1 (.new 1 false false), .loc 1 (.tset "a" ⟨1, 1⟩), .loc 0 (.collect [thrBase + 1]), .loc 1 (.churn 3), .loc 0 (.churn 2),
   .loc 0 (.collect [thrBase + 1]), .loc 1 .end_, .join 0 1, .loc 0 (.collect [thrBase + 1])]

example :
    Isolated cfgMark demoWalk G.init = false ∧ IsolatedN cfgMark demoWalk G.init = true ∧ races cfgMark demoWalk G.init = 2 ∧
    (localOuts 0 (run cfgMark demoWalk G.init).2).map Out.show =
      ["ok", "ok", "fin=[1] garbage=0", "ok", "fin=[1] garbage=2", "fin=[1] garbage=2"] ∧
    localOuts 0 (run cfgMark demoWalk G.init).2 = (solo cfgMark 0 (projM cfgMark 0 demoWalk G.init) [] TS.main).2 ∧
    localOuts 0 (run cfgMark demoWalk G.init).2 = (solo cfgMark 0 (proj 0 (run cfgMark demoWalk G.init).2) [] TS.main).2 := by
  decide +kernel

/-- (b) a worker that has finished (and was joined) left a thread-local value behind that refers to main's object; main
    collects holding `x`: the object survives — as it must, it is reachable through `x` — and that *is* the outcome of
    main alone when it is handed the table (`projM`), whereas the solo run that ignores the table (`proj`) finalises it -/
def demoLeftBehind : List Ev :=
  [.loc 0 (.new 1 false false), .loc 0 (.new (thrBase + 1) false false), .bind 0 1, .spawn 0 1, .loc 1 .begin_,
   .loc 1 (.tset "a" ⟨0, 1⟩), .loc 1 .end_, .join 0 1, .loc 0 (.collect [thrBase + 1])]

example :
    Isolated cfgMark demoLeftBehind G.init = false ∧ IsolatedN cfgMark demoLeftBehind G.init = true ∧
    races cfgMark demoLeftBehind G.init = 0 ∧
    frozenMarks cfgMark (run cfgMark (demoLeftBehind.take 8) G.init).1 0 (.collect [thrBase + 1]) = [⟨0, 1⟩] ∧
    (localOuts 0 (run cfgMark demoLeftBehind G.init).2).map Out.show = ["ok", "ok", "fin=[] garbage=0"] ∧
    localOuts 0 (run cfgMark demoLeftBehind G.init).2 = (solo cfgMark 0 (projM cfgMark 0 demoLeftBehind G.init) [] TS.main).2 ∧
    (solo cfgMark 0 (proj 0 (run cfgMark demoLeftBehind G.init).2) [] TS.main).2.map Out.show = ["ok", "ok", "fin=[1] garbage=0"] := by
  decide +kernel

/-- a schedule in which no Thread object is collector-managed (every `struct Thread` is `new_raw`, static, or the main
    wrapper: no `bind` event) is isolated: no mark phase ever meets a Thread object -/
theorem C13_isolated_without_managed_threads (cfg : Cfg) (s : List Ev) (h : ∀ e ∈ s, ∀ t u, e ≠ .bind t u) :
    Isolated cfg s G.init = true :=
  isolated_raw cfg s G.init rfl h

/-- … so for such schedules non-interference holds with no further condition -/
theorem C13_noninterference_raw (cfg : Cfg) (s : List Ev) (h : ∀ e ∈ s, ∀ t u, e ≠ .bind t u) (u : Tid) :
    (run cfg s G.init).1.thr u = (solo cfg u (proj u (run cfg s G.init).2) [] (G.init.thr u)).1 ∧
    localOuts u (run cfg s G.init).2 = (solo cfg u (proj u (run cfg s G.init).2) [] (G.init.thr u)).2 :=
  C13_noninterference_from_start cfg s (C13_isolated_without_managed_threads cfg s h) u

/-- **Two executions that agree on `u`'s projection agree on `u`.** Any two isolated schedules from process start —
    different numbers of threads, different interleavings, different things done by the others — in which `u` itself
    performs the same operations give `u` the same final component and the same outcomes. -/
theorem C13_schedule_independent (cfg : Cfg) (s1 s2 : List Ev) (u : Tid)
    (h1 : Isolated cfg s1 G.init = true) (h2 : Isolated cfg s2 G.init = true)
    (hp : proj u (run cfg s1 G.init).2 = proj u (run cfg s2 G.init).2) :
    (run cfg s1 G.init).1.thr u = (run cfg s2 G.init).1.thr u ∧
    localOuts u (run cfg s1 G.init).2 = localOuts u (run cfg s2 G.init).2 := by
  have h1 := C13_noninterference_from_start cfg s1 h1 u
  have h2 := C13_noninterference_from_start cfg s2 h2 u
  rw [hp] at h1
  exact ⟨h1.1.trans h2.1.symm, h1.2.trans h2.2.symm⟩

/-- **The guarded variant** (`Thread_Mark` walks only `current(Thread)`'s table: commit 80c795e, withdrawn by commit 0a0ad73;
    `hfm`).  In it the full statement holds: for every schedule in which no sweep frees the Thread object of a live thread,
    every thread's final component and outcomes are those of its solo run — whatever the other threads put into their
    thread-local tables and whichever Thread objects its collections meet.  Why the repair was nevertheless withdrawn:
    `C13_guarded_variant_loses_objects`. -/
theorem C13_noninterference_guarded_variant (cfg : Cfg) (hfm : cfg.foreignMark = false) : C13_noninterference_statement cfg := by
  intro s u hk
  exact C13_noninterference_from_start cfg s (isolated_of_keeps cfg hfm s G.init hk) u

/-- a worker is handed one of main's objects through its thread-local table, finishes and is joined; main, which holds
    `x = new(Thread, f)` and nothing else, collects; the Thread object is called again and reads the entry -/
def witnessHeld : List Ev :=
  [.loc 0 (.new 1 false false), .loc 0 (.new (thrBase + 1) false false), .bind 0 1, .spawn 0 1, .loc 1 .begin_,
   .loc 1 (.tset "a" ⟨0, 1⟩), .loc 1 .end_, .join 0 1, .loc 0 (.collect [thrBase + 1]), .spawn 0 1, .loc 1 .begin_,
   .loc 1 (.tget "a")]

/-- **The regression of the guarded variant (why commit 0a0ad73 withdrew 80c795e).** An object that is held only through
    the thread-local table of a Thread object that is *not running* — here: thread 1 has finished and been joined, its
    table (which lives as long as the Thread object `x` main holds) still refers to main's object 0.1 — is kept alive by
    main's mark phase in the current source (`Thread_Mark(x)` presents the table), and is **finalised while the table
    still holds it** in the guarded variant: when `x` is called again the entry read back is a dangling pointer.
    (The model has no operation for `set(x, key, obj)` by the holder of a Thread object other than `current(Thread)` —
    data handed to a thread before it is called; this schedule has the same heap shape: the only reference to the
    object is in the table of a Thread object that is not `current(Thread)` of any running thread.) -/
theorem C13_guarded_variant_loses_objects :
    -- the current source: nothing is finalised, the entry read back is live
    ((run cfgMark witnessHeld G.init).1.thr 0).fin = [] ∧
    (step cfgMark (run cfgMark (witnessHeld.take 11) G.init).1 (.loc 1 (.tget "a"))).2 = .val ⟨0, 1⟩ ∧
    -- the guarded variant: main's collection finalises 0.1 although thread 1's table refers to it; the entry dangles
    ((run cfgGuarded (witnessHeld.take 9) G.init).1.thr 1).tls = [("a", ⟨0, 1⟩)] ∧
    ((run cfgGuarded (witnessHeld.take 9) G.init).1.thr 0).fin = [⟨0, 1⟩] ∧
    (step cfgGuarded (run cfgGuarded (witnessHeld.take 11) G.init).1 (.loc 1 (.tget "a"))).2 = .val ⟨0, 1⟩ ∧
    KeepsWrappers cfgGuarded witnessHeld G.init = true ∧ KeepsWrappers cfgMark witnessHeld G.init = true := by decide +kernel

/-- **C13 Mutex.** At every point of every schedule (`s1` is the part executed so far; no hypothesis, in particular none
    of UB-freedom): for every Mutex `m`, the threads that are inside a section of `m` — have acquired it by `lock`, a successful `trylock` or the entry of a `with` block and not yet released it — are at
    most one, none is inside twice, and the one inside is the holder of the pthread mutex.
    (`inside t m` counts acquisitions minus releases in the trace.)
    This is the invariant of the `holder` guard of `step` (a `lock` that finds a holder is `blocked`, an `unlock` by a
    non-holder is `ub` and changes nothing: the event is not executed, so the statement needs no UB-freedom hypothesis;
    what it says about the *code* ends at the first `ub` of the trace — past an `unlock` by a non-holder the pthread
    mutex is in no defined state and the model's `holder` means nothing).  What ties
    the guard to the code: `Mutex_Lock/Trylock/Unlock` are single calls of the pthread primitive on the object's own
    mutex (`C13_source_shape_as_modelled`, oracle `c13-wrapper`), `with` is `start_in`/`stop_in` = the same two functions
    (`Mutex_instances`), and the in-section flag / counter oracles on real threads. -/
theorem C13_mutex (cfg : Cfg) (s1 : List Ev) (m : Nat) :
    (∀ t, inside t m (run cfg s1 G.init).2 = if (run cfg s1 G.init).1.holder m = some t then 1 else 0) ∧
    (∀ t1 t2, inside t1 m (run cfg s1 G.init).2 ≥ 1 → inside t2 m (run cfg s1 G.init).2 ≥ 1 → t1 = t2) := by
  have key := fun t => run_inside_init cfg t m s1
  refine ⟨key, ?_⟩
  intro t1 t2 h1 h2
  rw [key t1] at h1
  rw [key t2] at h2
  by_cases a : (run cfg s1 G.init).1.holder m = some t1
  · by_cases b : (run cfg s1 G.init).1.holder m = some t2
    · rw [a] at b; exact Option.some.inj b
    · simp [b] at h2
  · simp [a] at h1

/-- a `with (x in m) { counter++ }` block runs (outcome `num`) only when nobody is inside a section of `m` -/
theorem C13_with_exclusive (cfg : Cfg) (s : List Ev) (t : Tid) (m c n : Nat)
    (h : (step cfg (run cfg s G.init).1 (.winc t m c)).2 = .num n) :
    ∀ t', inside t' m (run cfg s G.init).2 = 0 := by
  intro t'
  rw [run_inside_init, step_winc_num cfg _ t m c n h]; simp

/-- **Guarded increments are never lost.** In every schedule that keeps the locking discipline for counter `c` and
    Mutex `m` (`Disc`: loads and stores of `c` are made by the holder of `m`, a store completes a load of the same
    thread, `with`-increments of `c` use `m`, the holder does not release `m` between its load and its store and does not
    reuse its register meanwhile) the final value of the plain counter is exactly the number of increments completed —
    however the non-atomic `ld`/`st` halves of the increments of different threads are interleaved with everything else. -/
theorem C13_counter_exact (cfg : Cfg) (m c : Nat) (s : List Ev) (hD : Disc cfg m c s G.init (fun _ => false)) :
    (run cfg s G.init).1.counter c = incs c (run cfg s G.init).2 := by
  have h := run_counter cfg m c s G.init (fun _ => false) (by intro t ht; cases ht) hD
  simpa [G.init] using h

/-- **C13 join.** If `join u` returns `joined` (the outcome of a `pthread_join` that succeeded) at some point of a
    schedule, then thread `u` had finished `Thread_Init_Run` (function and teardown) before, and in every continuation
    in which the Thread object is not called again no event of `u` ever happens (each is recorded `dead`): every step of
    that run of `u` precedes the return of `join u`.
    Reads back the guard of `step` (`joined` only in phase `done`); that `Thread_Join` is `pthread_join` on the object's
    own pthread and nothing else is `C13_source_shape_as_modelled` + the `c13-wrapper` oracle. -/
theorem C13_join (cfg : Cfg) (s1 s2 : List Ev) (t u : Tid)
    (hj : (step cfg (run cfg s1 G.init).1 (.join t u)).2 = .joined)
    (hns : ∀ e ∈ s2, ∀ t', e ≠ .spawn t' u) :
    ((run cfg s1 G.init).1.thr u).phase = .done ∧
    ∀ eo ∈ (run cfg s2 (step cfg (run cfg s1 G.init).1 (.join t u)).1).2, eo.1.tid = u → eo.2 = .dead := by
  obtain ⟨hd, -, htr⟩ := run_after_join cfg _ t u s2 hj hns
  refine ⟨hd, fun eo hmem ht => ?_⟩
  obtain ⟨g', hg', ho⟩ := htr eo hmem
  exact ho ▸ (step_done cfg g' eo.1 u (hg' ▸ hd)).2 ht

/-- the full statement of "join returns only after the thread's function has finished": whenever `join u` returns to
    its caller having waited for a thread that was called (`joined`), or without waiting (`early`), `u` has finished -/
def C13_join_statement (cfg : Cfg) : Prop :=
  ∀ (s : List Ev) (t u : Tid),
    ((step cfg (run cfg s G.init).1 (.join t u)).2 = .joined ∨ (step cfg (run cfg s G.init).1 (.join t u)).2 = .early) →
    ((run cfg s G.init).1.thr u).phase = .done

/-- **C13 join, every join** (self-joins included).  With `Thread_Join` raising for EDEADLK
    (`hj`; the current source: `C13_join_repair_in_current_source`), `join u` by any thread `t` — `t = u` included — never
    returns `early`, and returns `joined` only when `u` has finished; the remaining outcomes are `nothread` (the Thread
    object was never called: there is no function to wait for), an exception (`raised`: the caller joined itself), and
    the events that do not happen (`blocked`, `dead`) or are undefined (`ub`).
    Mutual joins are outside the model (a blocked `join` is an event that does not happen; where the pthread
    implementation reports EDEADLK for them, `perr join EDEADLK` shows `Thread_Join` raising — glibc 2.36 in this sandbox
    deadlocks instead). -/
theorem C13_join_full (cfg : Cfg) (hj : cfg.joinIgnoresDeadlk = false) (s : List Ev) (t u : Tid) :
    (step cfg (run cfg s G.init).1 (.join t u)).2 ≠ .early ∧
    ((step cfg (run cfg s G.init).1 (.join t u)).2 = .joined → ((run cfg s G.init).1.thr u).phase = .done) :=
  ⟨(step_join_returns cfg _ t u).2 hj, fun h => ((step_join_returns cfg _ t u).1 h).1⟩

/-- **The full statement holds of every variant in which `Thread_Join` raises for EDEADLK** … -/
theorem C13_join_statement_holds (cfg : Cfg) (hj : cfg.joinIgnoresDeadlk = false) : C13_join_statement cfg := by
  intro s t u h
  rcases h with h | h
  · exact (C13_join_full cfg hj s t u).2 h
  · exact absurd h (C13_join_full cfg hj s t u).1

/-- … **and so of /repo's current source** (was refuted before commit 484991f) -/
theorem C13_join_current_source (scan : Nat × Nat → Bool) : C13_join_statement (cfgSrc scan) :=
  C13_join_statement_holds (cfgSrc scan) (C13_join_repair_in_current_source.2 scan)

/-- `join` of the calling thread itself (running, its Thread object not finalised) raises ResourceError when `Thread_Join`
    has the case for EDEADLK (`hj`): the caller's exception record takes it, nothing else in the process changes (for the
    calling thread it is the local event "`pthread_join` failed with EDEADLK") -/
theorem C13_join_self_raises (cfg : Cfg) (hj : cfg.joinIgnoresDeadlk = false) (g : G) (t : Tid) (hr : running g t = true)
    (hw : wrapperGone g t = false) :
    step cfg g (.join t t) =
      ({ g with thr := upd g.thr t { g.thr t with exc := caught .resourceError (g.thr t).exc } }, .raised .resourceError) ∧
    (lstep cfg t g.cache [] (.perr .join .edeadlk) (g.thr t)).1 = { g.thr t with exc := caught .resourceError (g.thr t).exc } := by
  have hx := joinTrOf_edeadlk hj
  refine ⟨by simp [step, hr, hw, hx], ?_⟩
  rw [lstep_perr_join cfg t g.cache [] (g.thr t) (by simpa [running] using hr) _ hx]

/-- OLD variant: `join` of the calling thread itself returned at once (`early`), nothing changed -/
theorem C13_join_self_old_returns_early (cfg : Cfg) (hj : cfg.joinIgnoresDeadlk = true) (g : G) (t : Tid)
    (hr : running g t = true) (hw : wrapperGone g t = false) :
    step cfg g (.join t t) = (g, .early) := by
  simp [step, hr, hw, joinTrOf, hj, joinTrOld]

/-- **OLD variant refuted (was KF-C13-join-edeadlk, repaired by commit 484991f).** `join(current(Thread))`: `pthread_join` of
    the calling thread reports EDEADLK, `Thread_Join` raised only for EINVAL and ESRCH (`C13_join_edeadlk_old_ignored`), so
    it returned at once — while the thread's function is running (the caller is executing it). -/
theorem C13_join_old_refuted (cfg : Cfg) (hj : cfg.joinIgnoresDeadlk = true) : ¬ C13_join_statement cfg := by
  intro h
  have := h [] 0 0 (.inr (congrArg Prod.snd (C13_join_self_old_returns_early cfg hj G.init 0 rfl rfl)))
  exact nomatch this

/-- **join publishes (values).** After `join u` has returned, every read of `u`'s published cell — by any thread, at
    any later point of any continuation (until the Thread object is called again) — yields the value `u` had written
    last, which (the schedule up to the join being isolated) is the value of `u`'s solo run; and `u`'s component (ledger
    of finalised objects, thread-local table …) is final: nothing changes it any more. -/
theorem C13_join_publishes (cfg : Cfg) (s1 s2 : List Ev) (t u : Tid) (hiso : Isolated cfg s1 G.init = true)
    (hj : (step cfg (run cfg s1 G.init).1 (.join t u)).2 = .joined)
    (hns : ∀ e ∈ s2, ∀ t', e ≠ .spawn t' u) :
    let g1 := (run cfg s1 G.init).1
    let alone := (solo cfg u (proj u (run cfg s1 G.init).2) [] (G.init.thr u)).1
    g1.thr u = alone ∧
    (run cfg s2 (step cfg g1 (.join t u)).1).1.thr u = alone ∧
    ∀ eo ∈ (run cfg s2 (step cfg g1 (.join t u)).1).2, ∀ r, eo.1 = .rd r u → eo.2 = .num alone.pub ∨ eo.2 = .dead := by
  obtain ⟨-, hfin, htr⟩ := run_after_join cfg _ t u s2 hj hns
  have hal := (C13_noninterference_from_start cfg s1 hiso u).1
  refine ⟨hal, hfin.trans hal, fun eo hmem r he => ?_⟩
  obtain ⟨g', hg', ho⟩ := htr eo hmem
  rw [ho, he, ← hal, ← hg']
  exact step_rd cfg g' r u

/-- **join publishes (objects the thread allocated).** After `join u` has returned, whoever dereferences the pointer `u`
    stored into the joiner's Ref (`ref(out, o)`, `o` allocated by `u`) finds, at any later point of any continuation
    (until the Thread object is called again):
    a live object iff `u`'s collector had not finalised `o` by the time `u` finished — and a dangling pointer otherwise.
    Together with `C13_teardown_step` (the teardown finalises *every* non-root entry of `u`'s registry before
    `Thread_Init_Run` returns): an object made with plain `new` by the thread is never usable by the joiner;
    `new_root` / `new_raw` objects and values assigned into the joiner's own objects are. -/
theorem C13_join_publishes_own_object (cfg : Cfg) (s1 s2 : List Ev) (t u : Tid)
    (hj : (step cfg (run cfg s1 G.init).1 (.join t u)).2 = .joined)
    (hns : ∀ e ∈ s2, ∀ t', e ≠ .spawn t' u)
    (o : Obj) (hp : ((run cfg s1 G.init).1.thr u).pubo = some o) (ho : o.owner = u) :
    ∀ eo ∈ (run cfg s2 (step cfg (run cfg s1 G.init).1 (.join t u)).1).2, ∀ r, eo.1 = .rdo r u →
      eo.2 = (if ((run cfg s1 G.init).1.thr u).fin.contains o then .dangling o else .val o) ∨ eo.2 = .dead := by
  intro eo hmem r he
  obtain ⟨g', hg', hout⟩ := (run_after_join cfg _ t u s2 hj hns).2.2 eo hmem
  subst ho
  rw [hout, he, ← hg']
  exact step_rdo cfg g' r _ o (hg' ▸ hp)

/-- the full statement of "its effects are visible to the joiner" for a result object: after `join u`, the object `u`
    published can be used -/
def C13_join_publishes_statement (cfg : Cfg) : Prop :=
  ∀ (s1 s2 : List Ev) (t u : Tid) (o : Obj),
    (step cfg (run cfg s1 G.init).1 (.join t u)).2 = .joined → (∀ e ∈ s2, ∀ t', e ≠ .spawn t' u) →
    ((run cfg s1 G.init).1.thr u).pubo = some o →
    ∀ eo ∈ (run cfg s2 (step cfg (run cfg s1 G.init).1 (.join t u)).1).2, ∀ r, eo.1 = .rdo r u → eo.2 = .val o ∨ eo.2 = .dead

/-- the worker allocates its result with `new`, hands the pointer to the joiner, returns; main joins and dereferences -/
def witnessResult : List Ev :=
  [.spawn 0 1, .loc 1 .begin_, .loc 1 (.new 1 false false), .loc 1 (.pubo ⟨1, 1⟩), .loc 1 .end_]

/-- **Refuted (KF-C13-join-result-finalised).** The worker's teardown (`del_raw(gc)` in
    `Thread_Init_Run`: a sweep with nothing marked) finalises the object before `pthread_join` can return: what the joiner
    holds is a dangling pointer (in C: `deref(out)` → ValueError "bad magic number … already deallocated" /
    heap-use-after-free; reproduced). -/
theorem C13_join_publishes_object_refuted : ¬ C13_join_publishes_statement cfgMark := by
  intro h
  have := h witnessResult [.rdo 0 1] 0 1 ⟨1, 1⟩ (by decide)
    (by intro e he t'; simp only [List.mem_singleton] at he; subst he; simp) (by decide)
    _ (by rw [run_cons]; exact List.mem_cons_self) 0 rfl
  revert this
  decide

/-- the full statement of "a thread can use the arguments it was given": in every schedule in which the program itself
    does not destroy them (`ArgsNotDestroyed`: live objects are handed over, nobody `del`s them, their owner does not
    return while a live thread has them — unless they are roots), whatever a running thread reads from its argument
    tuple is a live object -/
def C13_args_statement (cfg : Cfg) : Prop :=
  ∀ (s : List Ev), ArgsNotDestroyed cfg s G.init = true →
    ∀ eo ∈ (run cfg s G.init).2, ∀ t i, eo.1 = .rdarg t i → ∀ o, eo.2 ≠ .dangling o

/-- main makes an object in a helper's frame, hands it to a thread (`call(x, new(Int, …))`), the thread reads it; main
    allocates until its collector runs — the object is no longer on main's stack — and the thread reads it again -/
def witnessArg : List Ev :=
  [.loc 0 (.new 1 false false), .spawn 0 1, .arg 0 1 [⟨0, 1⟩], .loc 1 .begin_, .rdarg 1 0, .loc 0 (.collect []), .rdarg 1 0]

/-- **Refuted (KF-C13-thread-arg-collected).** `Thread_Call` keeps a raw copy of the argument tuple (`t->args`), `Thread_Mark`
    presents `t->tls` only: nothing marks what the tuple refers to, so the spawner's collector finalises the argument
    while the thread uses it (in C: `get(args, $I(0))` then any use → ValueError "bad magic number" / use after free;
    reproduced 3 of 3, the `new_root` twin reads 42). -/
theorem C13_args_refuted : ¬ C13_args_statement cfgMark := by
  intro h
  have hmem : ((.rdarg 1 0, .dangling ⟨0, 1⟩) : Ev × Out) ∈ (run cfgMark witnessArg G.init).2 :=
    List.mem_of_getElem? (i := 6) (by rfl)
  exact h witnessArg (by decide) _ hmem 1 0 rfl ⟨0, 1⟩ rfl

/-- the witness side by side with its twins: the argument read back live, then dangling; with `new_root`, or when main
    keeps the object on its stack, it stays live; the witness is outside `ArgsSafe` at exactly one step (the collection) -/
theorem C13_thread_arg_collected_witness :
    (run cfgMark witnessArg G.init).2.map (fun eo => eo.2.show) = ["ok", "spawned", "ok", "begun depth=0 gc=1 exc=1", "val=0.1", "fin=[1] garbage=0", "dangling=0.1"] ∧
    ArgsNotDestroyed cfgMark witnessArg G.init = true ∧ ArgsSafe cfgMark witnessArg G.init = false ∧ argUnsafe cfgMark witnessArg G.init = 1 ∧
    ((run cfgMark [.loc 0 (.new 1 true false), .spawn 0 1, .arg 0 1 [⟨0, 1⟩], .loc 1 .begin_, .loc 0 (.collect []), .rdarg 1 0] G.init).2.map
        (fun eo => eo.2.show)).drop 4 = ["fin=[] garbage=0", "val=0.1"] ∧
    ((run cfgMark [.loc 0 (.new 1 false false), .spawn 0 1, .arg 0 1 [⟨0, 1⟩], .loc 1 .begin_, .loc 0 (.collect [1]), .rdarg 1 0] G.init).2.map
        (fun eo => eo.2.show)).drop 4 = ["fin=[] garbage=0", "val=0.1"] := by decide +kernel

/-- **What holds (`…_partial`: the full statement is `C13_args_statement`, refuted above).** In every schedule in which,
    in addition, every collection of an argument's owner finds the object somewhere else — on the owner's stack, among
    its thread-local values, or as a root (`ArgsSafe`; decidable, the driver evaluates it on every schedule it runs) — no
    argument of a live thread is ever finalised: every read of an argument by a running thread yields a live object. -/
theorem C13_args_partial (cfg : Cfg) (s : List Ev) (h : ArgsSafe cfg s G.init = true) :
    (∀ eo ∈ (run cfg s G.init).2, ∀ t i, eo.1 = .rdarg t i → ∀ o, eo.2 ≠ .dangling o) ∧
    (∀ o ∈ liveArgs (run cfg s G.init).1, (((run cfg s G.init).1.thr o.owner).fin.contains o) = false) :=
  (run_argInv cfg s G.init argInv_init h).symm

/-- … and what the thread reads is the object that was handed over: after such a schedule, `get(args, $I(i))` in the
    running thread `t` whose tuple is `os` yields `os[i]`, live -/
theorem C13_args_delivered (cfg : Cfg) (s : List Ev) (h : ArgsSafe cfg s G.init = true) (t : Tid) (i : Nat) (os : List Obj) (o : Obj)
    (hr : running (run cfg s G.init).1 t = true) (hl : (run cfg s G.init).1.args.lookup t = some os) (hi : os[i]? = some o) :
    step cfg (run cfg s G.init).1 (.rdarg t i) = ((run cfg s G.init).1, .val o) := by
  exact step_rdarg_val cfg _ t i os o hr hl hi ((C13_args_partial cfg s h).2 o (liveArgs_of_lookup hr hl hi))

/-- `ArgsSafe` is met when the spawner keeps the argument on its stack across its collections (or makes it a root), and
    the hypotheses of `C13_args_delivered` hold for the running worker: two arguments, both read back -/
example :
    let s : List Ev := [.loc 0 (.new 1 false false), .loc 0 (.new 2 true false), .spawn 0 1, .arg 0 1 [⟨0, 1⟩, ⟨0, 2⟩], .loc 1 .begin_,
                   .loc 0 (.churn 3), .loc 0 (.collect [1]), .rdarg 1 0, .rdarg 1 1, .rdarg 1 2, .loc 1 .end_, .join 0 1, .loc 0 (.collect [])]
    ArgsSafe cfgMark s G.init = true ∧
    ((run cfgMark s G.init).2.map (fun eo => eo.2.show)).drop 6 =
      ["fin=[] garbage=3", "val=0.1", "val=0.2", "noval", "fin=[] garbage=0", "joined", "fin=[1] garbage=3"] ∧
    running (run cfgMark (s.take 7) G.init).1 1 = true ∧ (run cfgMark (s.take 7) G.init).1.args.lookup 1 = some [⟨0, 1⟩, ⟨0, 2⟩] := by
  decide +kernel

/-- **C13 teardown / own collector.** In every schedule, every object that thread `t`'s collector ever finalised — by
    `del`, by a collection, or by the teardown in `Thread_Init_Run` — and every object in its registry was allocated by
    `t` itself: no thread finalises another thread's objects.
    (Invariant of the model's `new`, which registers with the registry of the component it is handed; tied to the code
    by the extracted `alloc_by_register` / `del_by` / `GC_Current` texts: registration and removal go through
    `current(GC)` = `get(current(Thread), "__GC")`, and by the destructor ledger keyed by owner on real threads.  A
    Thread object `new(Thread, f)` is such an object of its *maker*: its finalisation by the maker's collector frees the
    other thread's table — `wrapperKilled`, `ub`.) -/
theorem C13_teardown_own (cfg : Cfg) (s : List Ev) (t : Tid) :
    (∀ o ∈ ((run cfg s G.init).1.thr t).fin, o.owner = t) ∧
    (∀ g, ((run cfg s G.init).1.thr t).gc = some g → ∀ e ∈ g.reg, e.1.owner = t) := by
  have h := run_thr_inv cfg (lstep_own cfg) (fun _ _ h => h) s G.init own_init t
  exact ⟨h.2, h.1⟩

/-- the teardown step itself: when thread `t`'s function returns, the epilogue of `Thread_Init_Run` finalises exactly the
    non-root entries of `t`'s own registry, removes the collector and the exception record, and changes no other thread
    (`hub`: the thread does not return while its registry still holds the Thread object `new(Thread, f)` of a thread
    that is live — `Thread_Del` would free that thread's table under it) -/
theorem C13_teardown_step (cfg : Cfg) (g : G) (t : Tid) (gc : GC)
    (hr : (g.thr t).phase = .running) (hg : (g.thr t).gc = some gc)
    (hub : (step cfg g (.loc t .end_)).2 ≠ .ub) :
    let g' := (step cfg g (.loc t .end_)).1
    (g'.thr t).fin = (g.thr t).fin ++ (gc.reg.filter (fun e => !e.2)).map (·.1) ∧
    (g'.thr t).gc = none ∧ (g'.thr t).exc = none ∧ (g'.thr t).phase = .done ∧ (g'.thr t).tls = (g.thr t).tls ∧
    ∀ u, u ≠ t → g'.thr u = g.thr u := by
  rw [step_loc] at hub ⊢
  split at hub
  · exact absurd rfl hub
  · rename_i hk
    rw [if_neg hk]
    simp only [upd_same, lstep, lrun, hr, hg, if_true]
    have hsw : (gc.sweep []).2 = (gc.reg.filter (fun e => !e.2)).map (·.1) := by simp [GC.sweep]
    split <;> (refine ⟨by simp [hsw], rfl, rfl, rfl, rfl, ?_⟩; intro u hu; simp [upd_other _ _ _ _ hu])

/-- **Destructors may use exceptions at teardown.** With the epilogue order of the current source (collector first,
    exception record second: `cfg.gcFirst`), no event of any schedule — no `del`, no collection and no thread teardown,
    whatever destructors enter try blocks — runs without the thread's exception record: the outcome `crash` never occurs. -/
theorem C13_teardown_survives_destructor_exceptions (cfg : Cfg) (hgf : cfg.gcFirst = true) (s : List Ev) :
    ∀ eo ∈ (run cfg s G.init).2, eo.2 ≠ .crash :=
  run_nocrash cfg hgf s G.init hasExc_init

/-- … and that is the order in /repo now (read from `Thread_Init_Run` by the translator on every run) -/
theorem C13_teardown_order_current_source : CelloGen.Thr.teardownGcFirst = true := by
  rfl

/-- The order before commit 7de4bbc (exception record first) is refuted by a concrete schedule: a worker allocates one
    object whose destructor does try/throw/catch and returns — the teardown sweep finds no exception record. -/
theorem C13_teardown_old_order_refuted :
    let old : Cfg := { cfgMark with gcFirst := false }
    ((run old [.spawn 0 1, .loc 1 .begin_, .loc 1 (.new 1 false true), .loc 1 .end_] G.init).2.map (fun eo => eo.2.show))
      = ["spawned", "begun depth=0 gc=1 exc=1", "ok", "crash"] := by decide +kernel

/-- `del` of another thread's object finalises nothing (it is looked up in the caller's registry only) -/
theorem C13_foreign_del (cfg : Cfg) (s : List Ev) (t : Tid) (o : Obj) (ho : o.owner ≠ t) :
    (step cfg (run cfg s G.init).1 (.loc t (.del o))).2 = .fin [] ∨
    (step cfg (run cfg s G.init).1 (.loc t (.del o))).2 = .dead ∨
    (step cfg (run cfg s G.init).1 (.loc t (.del o))).2 = .raised .keyError :=
  step_foreign_del cfg _ t o ho (C13_teardown_own cfg s t).2

/-- **Exceptions are per thread.** In any process state, an exception program run by thread `t` (inside the object domain
    of C07 — catch filters are arbitrary lists since fix a0ef2da; `t`'s record has no pending exception and room for the
    program's nesting; `hcons`: `exception_catch` clears `active` when it returns the object, as the current source does,
    `CelloGen.Exn.catchConsumes`)
    produces exactly the trace of the structured-exception reference semantics (C07) — whatever the other threads'
    exception records contain — and touches no other thread. -/
theorem C13_exn_isolated (cfg : Cfg) (hcons : cfg.consume = true) (g : G) (t : Tid) (p : Exn.Prog) (s0 : Exn.St)
    (hr : (g.thr t).phase = .running) (he : (g.thr t).exc = some s0) (ha : s0.active = false)
    (hn : s0.depth + Exn.nest p ≤ cfg.maxDepth) (hdom : Exn.inDomain p = true) :
    (∃ sg d, (step cfg g (.loc t (.exn p))).2 = .exn (Exn.eval p topBound).1 sg d ∧ d = s0.depth ∧
       (sg = .normal ↔ (Exn.eval p topBound).2 = none)) ∧
    ∀ u, u ≠ t → (step cfg g (.loc t (.exn p))).1.thr u = g.thr u := by
  have hC := Exn.C07_machine_refines_reference cfg.maxDepth p topBound s0 ha hn (by decide) hdom
  refine ⟨?_, fun u hu => (C13_frame cfg g (.loc t (.exn p)) u (Ne.symm hu)).elim id fun ⟨⟨_, h⟩, _⟩ => nomatch h⟩
  have hk : wrapperKilled g t (lstep cfg t g.cache (foreignMarks cfg g t (.exn p)) (.exn p) (g.thr t)).1 = false :=
    wrapperKilled_gc g t _ (by simp [lstep, lrun, hr, he])
  rw [step_loc, hk]
  simp only [lstep, lrun, hr, he, if_true, hcons, Bool.false_eq_true, if_false]
  refine ⟨_, _, by rw [hC.trace], hC.depth, ?_⟩
  -- `hC.sig`: `normal` when the reference ends without an exception, else `jump` or `fatal` by the depth, neither `normal`
  rw [hC.sig]
  by_cases hn : (Exn.eval p topBound).2 = none
  · simp [hn]
  · by_cases hd : s0.depth ≥ 1 <;> simp [hn, hd]

/-- `Mutex_Lock`, `Mutex_Trylock`, `Mutex_Unlock`, `Thread_Join`: success is success, EBUSY of trylock is `false`, and
    the only error codes that raise are EINVAL (ValueError), EDEADLK on lock and on join (ResourceError), EPERM on unlock
    (ResourceError) and ESRCH on join (ValueError) -/
theorem C13_error_translation :
    lockTr .zero = none ∧ unlockTr .zero = none ∧ joinTr .zero = none ∧ trylockTr .zero = .ok true ∧
    trylockTr .ebusy = .ok false ∧
    lockTr .einval = some .valueError ∧ lockTr .edeadlk = some .resourceError ∧
    trylockTr .einval = .error .valueError ∧
    unlockTr .einval = some .valueError ∧ unlockTr .eperm = some .resourceError ∧
    joinTr .einval = some .valueError ∧ joinTr .esrch = some .valueError ∧ joinTr .edeadlk = some .resourceError :=
  ⟨rfl, rfl, rfl, rfl, rfl, rfl, rfl, rfl, rfl, rfl, rfl, rfl, rfl⟩

/-- `Thread_Join` raises ResourceError for EDEADLK — in the model, in the table extracted from the current source, and
    as a local event of a running thread in the variant of the current source: a `pthread_join` that reports a deadlock
    (the caller joins itself) does not return normally -/
theorem C13_join_edeadlk_raises :
    joinTr .edeadlk = some .resourceError ∧ tableTr CelloGen.Thr.joinErr .edeadlk = some .resourceError ∧
    ∀ (scan : Nat × Nat → Bool) (c : Cache) (fm : List Obj) (ts : TS), ts.phase = .running →
      (lstep (cfgSrc scan) 0 c fm (.perr .join .edeadlk) ts).2.2 = .raised .resourceError := by
  refine ⟨rfl, by decide, ?_⟩
  intro scan c fm ts hr
  have hx := joinTrOf_edeadlk (C13_join_repair_in_current_source.2 scan)
  rw [lstep_perr_join (cfgSrc scan) 0 c fm ts hr _ hx]

/-- OLD variant: `Thread_Join` had no case for EDEADLK: a `pthread_join` that reported a deadlock made `join` return normally -/
theorem C13_join_edeadlk_old_ignored :
    joinTrOld .edeadlk = none ∧
    ∀ (c : Cache) (fm : List Obj) (ts : TS), ts.phase = .running →
      (lstep cfgOldJoin 0 c fm (.perr .join .edeadlk) ts).2.2 = .ok := by
  refine ⟨rfl, ?_⟩
  intro c fm ts hr
  simp [lstep, lrun, hr, joinTrOf, cfgOldJoin, cfgMark, joinTrOld]

/-- the functions the model mirrors — how per-thread state is reached (`Thread_Current`, `GC_Current`,
    `Exception_Current`, the TLS accessors), prologue and epilogue of `Thread_Init_Run`, `GC_New`/`GC_Del`,
    `Exception_New`/`Exception_Del`, the registration in `alloc_by`/`del_by`, `start_in`/`stop_in`/`with`, the Mutex
    functions and its `Lock`/`Start` instances, `Thread_Join`, the class-cache macro — have, in /repo's current
    source, exactly the text the model was written against -/
theorem C13_source_shape_as_modelled : CelloGen.Thr.shape = CelloGen.Thr.shapeModelled := by
  rfl

/-- the model's translation of pthread error codes is the one extracted from `Mutex_Lock`, `Mutex_Trylock`,
    `Mutex_Unlock`, `Thread_Join` and `Thread_Call` in the current source, for every error code (EDEADLK of `Thread_Join`
    included: reverting commit 484991f breaks this theorem at `joinTr .edeadlk`) -/
theorem C13_error_translation_current_source (e : Errno) :
    lockTr e = tableTr CelloGen.Thr.lockErr e ∧ unlockTr e = tableTr CelloGen.Thr.unlockErr e ∧
    joinTr e = tableTr CelloGen.Thr.joinErr e ∧ createTr e = tableTr CelloGen.Thr.createErr e ∧
    some (trylockTr e) = tableTry CelloGen.Thr.trylockErr CelloGen.Thr.trylockDefault e := by
  cases e <;> exact ⟨rfl, rfl, rfl, rfl, rfl⟩

/-- two workers contend for Mutex 0: the second `lock` is blocked, the `trylock` fails, after the release the second
    thread gets in; no UB; thread 1 is inside exactly between its acquisition and its release -/
def demoLocks : List Ev :=
  [.spawn 0 1, .spawn 0 2, .loc 1 .begin_, .loc 2 .begin_, .lock 1 0, .lock 2 0, .trylock 2 0, .ld 1 0, .st 1 0,
   .unlock 1 0, .trylock 2 0, .ld 2 0, .st 2 0]

example :
    noUB (run cfgNow demoLocks G.init).2 = true ∧
    inside 1 0 (run cfgNow (demoLocks.take 9) G.init).2 = 1 ∧ inside 2 0 (run cfgNow (demoLocks.take 9) G.init).2 = 0 ∧
    inside 1 0 (run cfgNow demoLocks G.init).2 = 0 ∧ inside 2 0 (run cfgNow demoLocks G.init).2 = 1 ∧
    (run cfgNow demoLocks G.init).1.counter 0 = 2 := by decide

/-- the contended schedule keeps the discipline of `C13_counter_exact` (counter 0 guarded by Mutex 0): two increments, value 2 -/
example : Disc cfgNow 0 0 demoLocks G.init (fun _ => false) ∧ incs 0 (run cfgNow demoLocks G.init).2 = 2 := by decide

/-- without the Mutex the model does exhibit the lost update (so `C13_counter_exact` is not vacuous about it) -/
example : (run cfgNow [.spawn 0 1, .loc 1 .begin_, .ld 0 9, .ld 1 9, .st 0 9, .st 1 9] G.init).1.counter 9 = 1 := by decide

/-- a worker allocates, is torn down, is joined; the joiner reads its value; a foreign `del` finalises nothing -/
def demoJoin : List Ev :=
  [.loc 0 (.new 1 false false), .spawn 0 1, .loc 1 .begin_, .loc 1 (.new 1 false false), .loc 1 (.new 2 true false), .loc 1 (.churn 3),
   .loc 0 (.del ⟨1, 1⟩), .loc 1 (.tset "a" ⟨1, 1⟩), .loc 1 (.collect []), .loc 1 (.pub 7), .join 0 1, .loc 1 .end_,
   .join 0 1, .rd 0 1, .loc 1 (.pub 9), .rd 0 1]

example :
    ((run cfgNow demoJoin G.init).2.map (fun eo => notExecuted eo.2)) =
      [false, false, false, false, false, false, false, false, false, false, true, false, false, false, true, false] ∧
    ((run cfgNow demoJoin G.init).1.thr 1).fin.map (·.k) = [1000000, 1000001, 1000002, 1] ∧
    ((run cfgNow demoJoin G.init).1.thr 0).fin = [] ∧
    ((run cfgNow demoJoin G.init).1.thr 1).pub = 7 ∧
    (proj 1 (run cfgNow demoJoin G.init).2).length = 10 ∧
    localOuts 1 (run cfgNow demoJoin G.init).2 = (solo cfgNow 1 (proj 1 (run cfgNow demoJoin G.init).2) [] TS.unborn).2 := by
  refine ⟨by decide, by decide, by decide, by decide, by decide, rfl⟩

/-- a Thread object is called, joined, called again and joined again: the second run keeps the thread-local table and
    the ledger of the first, gets a fresh collector, and `join` waits for the second run too -/
example :
    ((run cfgNow [.spawn 0 1, .loc 1 .begin_, .loc 1 (.new 1 false false), .loc 1 (.new 2 true false), .loc 1 (.tset "r" ⟨1, 2⟩),
                  .loc 1 .end_, .spawn 0 1, .join 0 1, .spawn 0 1, .join 0 1, .loc 1 .begin_, .loc 1 (.tget "r"),
                  .loc 1 (.del ⟨1, 2⟩), .loc 1 (.new 3 false false), .loc 1 .end_, .join 0 1, .join 0 1] G.init).2.map
        (fun eo => eo.2.show))
      = ["spawned", "begun depth=0 gc=1 exc=1", "ok", "ok", "ok", "fin=[1] garbage=0", "bad", "joined", "spawned", "blocked",
         "begun depth=0 gc=1 exc=1", "val=1.2", "fin=0", "ok", "fin=[1,3] garbage=0", "joined", "ub"] := by decide +kernel

/-- the hypotheses of `C13_exn_isolated` hold for a running thread and a nested program (one filter names an object twice) -/
example :
    let g := (run cfgNow [.spawn 0 1, .loc 1 .begin_, .loc 0 (.exn (.tryCatch (.throw 3) [] (.stmt 1)))] G.init).1
    let p : Exn.Prog := .tryCatch (.tryCatch (.throw 1) [2, 2] (.stmt 5)) [1] (.stmt 6)
    (g.thr 1).phase = .running ∧ (g.thr 1).exc = some Exn.St.init ∧ cfgNow.consume = true ∧
    Exn.St.init.depth + Exn.nest p ≤ cfgNow.maxDepth ∧ Exn.inDomain p = true := by decide

/-- **`Isolated` is met by the documented usage** `var x = new(Thread, f); call(x); … join(x);` when the worker sets
    no thread-local values and the creator does not collect between `call` and `join`: main makes the Thread object,
    collects (the worker is unborn, its table empty), calls it, the worker allocates, churns, collects and returns, main
    joins and collects again holding `x` (the worker is done, `__GC` / `__Exception` are gone from its table).
    Every collection of main does meet the Thread object (`heldThreads` = [1]), no step is a race, and main's outcomes
    are those of its solo run. -/
def demoManaged : List Ev :=
  [.loc 0 (.new 1 false false), .loc 0 (.new (thrBase + 1) false false), .bind 0 1, .loc 0 (.collect [1, thrBase + 1]),
   .spawn 0 1, .loc 1 .begin_, .loc 1 (.new 1 false false), .loc 1 (.churn 3), .loc 1 (.collect []), .loc 1 .end_,
   .join 0 1, .loc 0 (.churn 2), .loc 0 (.collect [thrBase + 1])]

example :
    Isolated cfgMark demoManaged G.init = true ∧ races cfgMark demoManaged G.init = 0 ∧
    heldThreads (run cfgMark demoManaged G.init).1 0 [thrBase + 1] = [1] ∧
    ((run cfgMark demoManaged G.init).2.map (fun eo => eo.2.show)) =
      ["ok", "ok", "ok", "fin=[] garbage=0", "spawned", "begun depth=0 gc=1 exc=1", "ok", "ok", "fin=[1] garbage=3",
       "fin=[1] garbage=3", "joined", "ok", "fin=[1] garbage=2"] ∧
    localOuts 0 (run cfgMark demoManaged G.init).2 = (solo cfgMark 0 (proj 0 (run cfgMark demoManaged G.init).2) [] TS.main).2 := by
  decide +kernel

/-- both clauses of `quiet` are needed: a worker that has *finished* (and was joined) but left a thread-local value
    behind still changes what main's collection finalises, through the Thread object main holds -/
example :
    let s : List Ev := [.loc 0 (.new 1 false false), .loc 0 (.new (thrBase + 1) false false), .bind 0 1, .spawn 0 1, .loc 1 .begin_,
      .loc 1 (.tset "a" ⟨0, 1⟩), .loc 1 .end_, .join 0 1, .loc 0 (.collect [thrBase + 1])]
    Isolated cfgMark s G.init = false ∧ races cfgMark s G.init = 0 ∧
    (localOuts 0 (run cfgMark s G.init).2).map Out.show = ["ok", "ok", "fin=[] garbage=0"] ∧
    (solo cfgMark 0 (proj 0 (run cfgMark s G.init).2) [] TS.main).2.map Out.show = ["ok", "ok", "fin=[1] garbage=0"] := by decide +kernel

/-- **the guarded variant in the model** (commit 80c795e, withdrawn by 0a0ad73). With `Thread_Mark` marking only
    `current(Thread)`'s table (`foreignMark := false`) the refuting schedule is isolated and main's outcomes are those of
    its solo run (`C13_noninterference_guarded_variant`); the price is `C13_guarded_variant_loses_objects` -/
example :
    cfgGuarded.foreignMark = false ∧ Isolated cfgGuarded witnessMark G.init = true ∧ KeepsWrappers cfgGuarded witnessMark G.init = true ∧
    localOuts 0 (run cfgGuarded witnessMark G.init).2 = (solo cfgGuarded 0 (proj 0 (run cfgGuarded witnessMark G.init).2) [] TS.main).2 := by
  decide

/-- the sweep that would free the Thread object of a live thread is not executed (`ub`): a worker makes and calls a
    Thread object and returns without joining it; the same teardown after the join is fine, and a later `call` / `join`
    on the finalised Thread object is `ub` -/
example :
    ((run cfgMark [.spawn 0 1, .loc 1 .begin_, .loc 1 (.new (thrBase + 2) false false), .bind 1 2, .spawn 1 2, .loc 2 .begin_,
                   .loc 1 .end_, .loc 2 .end_, .join 1 2, .loc 1 .end_, .spawn 0 2, .join 0 2] G.init).2.map (fun eo => eo.2.show))
      = ["spawned", "begun depth=0 gc=1 exc=1", "ok", "ok", "spawned", "begun depth=0 gc=1 exc=1", "ub", "fin=[] garbage=0",
         "joined", "fin=[] garbage=0", "ub", "ub"] := by decide +kernel

/-- the hypothesis `hub` of `C13_teardown_step` holds for a worker that returns while it holds no Thread object -/
example :
    let g := (run cfgMark [.spawn 0 1, .loc 1 .begin_, .loc 1 (.new 1 false false)] G.init).1
    (g.thr 1).phase = .running ∧ (step cfgMark g (.loc 1 .end_)).2 ≠ .ub := by decide

/-- `C13_join_publishes_own_object`, both sides: a result made with `new` dangles after the join, one made with
    `new_root` is live; the self-join raises ResourceError (OLD variant: returned `early`), the worker carries on and the
    outcomes of the worker — the exception included — are those of its solo run; the hypotheses of `C13_join_self_raises` -/
example :
    let s : List Ev := [.spawn 0 1, .loc 1 .begin_, .loc 1 (.new 2 true false), .loc 1 (.pubo ⟨1, 2⟩), .join 1 1, .loc 1 .end_,
                   .join 0 1, .rdo 0 1]
    ((run cfgNow (witnessResult ++ [.join 0 1, .rdo 0 1, .rdo 0 2]) G.init).2.map (fun eo => eo.2.show)).drop 5
      = ["joined", "dangling=1.1", "noval"] ∧
    ((run cfgNow s G.init).2.map (fun eo => eo.2.show))
      = ["spawned", "begun depth=0 gc=1 exc=1", "ok", "ok", "ResourceError", "fin=[] garbage=0", "joined", "val=1.2"] ∧
    ((run cfgOldJoin s G.init).2.map (fun eo => eo.2.show))
      = ["spawned", "begun depth=0 gc=1 exc=1", "ok", "ok", "early", "fin=[] garbage=0", "joined", "val=1.2"] ∧
    (localOuts 1 (run cfgNow s G.init).2).map Out.show = ["begun depth=0 gc=1 exc=1", "ok", "ok", "ResourceError", "fin=[] garbage=0"] ∧
    Isolated cfgNow s G.init = true ∧
    localOuts 1 (run cfgNow s G.init).2 = (solo cfgNow 1 (proj 1 (run cfgNow s G.init).2) [] TS.unborn).2 ∧
    cfgNow.joinIgnoresDeadlk = false ∧
    running (run cfgNow (s.take 4) G.init).1 1 = true ∧ wrapperGone (run cfgNow (s.take 4) G.init).1 1 = false := by decide +kernel

/-- the translation tables of the four synchronisation wrappers as the translator reads them from /repo now -/
def tabsSrc : SyncTabs :=
  { lock := CelloGen.Thr.lockErr, trylock := CelloGen.Thr.trylockErr, tryDefault := CelloGen.Thr.trylockDefault,
    unlock := CelloGen.Thr.unlockErr, join := CelloGen.Thr.joinErr }

/-- the tables of the source before commit 484991f (`Thread_Join` without the EDEADLK case) -/
def tabsOldJoin : SyncTabs := { tabsSrc with join := [("EINVAL", "ValueError"), ("ESRCH", "ValueError")] }

/-- the tables of the current source agree with the model on every return value the primitives produce -/
theorem C13_sync_tables_current_source (scan : Nat × Nat → Bool) : TabsAgree (cfgSrc scan) tabsSrc := by
  refine ⟨by decide, by decide, by decide, by decide, by decide, ?_⟩
  rw [joinTrOf_edeadlk (C13_join_repair_in_current_source.2 scan)]; decide

/-- **The synchronisation events of the model are the extracted translation applied to the primitive's return value
    (current source).**  For `lock`, `trylock`, `unlock` and `join` — in every state, for every thread — the step of the
    holder / phase machine all C13 theorems are about is: test `t->thread` (join), call the primitive once (`pmLock`,
    `pmTrylock`, `pmUnlock`, `pJoin`), look its return value up in the table the translator extracted from `Mutex_Lock` /
    `Mutex_Trylock` / `Mutex_Unlock` / `Thread_Join`, raise what the table says or return; the Mutex changes hands only when
    the primitive returned 0.  An edit of a table entry that matters (EBUSY of trylock no longer `false`, success raising,
    the EDEADLK case of join) breaks `C13_sync_tables_current_source`. -/
theorem C13_sync_step_is_translated_primitive (scan : Nat × Nat → Bool) (g : G) (e : Ev) (r : G × Out)
    (hs : syncStep tabsSrc g e = some r) : step (cfgSrc scan) g e = r :=
  syncStep_eq_step _ _ (C13_sync_tables_current_source scan) g e r hs

/-- the same composition with the table of `Thread_Join` before commit 484991f is the OLD variant of the model: the
    `early` return of a self-join is "the table has no entry for the EDEADLK `pthread_join` reported" -/
theorem C13_sync_step_old_join_variant (g : G) (e : Ev) (r : G × Out) (hs : syncStep tabsOldJoin g e = some r) :
    step cfgOldJoin g e = r :=
  syncStep_eq_step cfgOldJoin tabsOldJoin ⟨by decide, by decide, by decide, by decide, by decide, by decide⟩ g e r hs

/-- `syncStep` is defined exactly on the four synchronisation events -/
theorem C13_sync_step_domain (tabs : SyncTabs) (g : G) (e : Ev) :
    (syncStep tabs g e).isSome = true ↔ (∃ t m, e = .lock t m) ∨ (∃ t m, e = .trylock t m) ∨ (∃ t m, e = .unlock t m) ∨ (∃ t u, e = .join t u) := by
  cases e with
  | lock t m => exact ⟨fun _ => .inl ⟨t, m, rfl⟩, fun _ => rfl⟩
  | trylock t m => exact ⟨fun _ => .inr (.inl ⟨t, m, rfl⟩), fun _ => rfl⟩
  | unlock t m => exact ⟨fun _ => .inr (.inr (.inl ⟨t, m, rfl⟩)), fun _ => rfl⟩
  | join t u => exact ⟨fun _ => .inr (.inr (.inr ⟨t, u, rfl⟩)), fun _ => rfl⟩
  | _ => exact ⟨Bool.noConfusion, fun h => by rcases h with ⟨_, _, h⟩ | ⟨_, _, h⟩ | ⟨_, _, h⟩ | ⟨_, _, h⟩ <;> cases h⟩

/-- **`Mutex_Trylock`, every error code** (about the table and the final `return` extracted from the source): it returns
    `false` iff `pthread_mutex_trylock` returned EBUSY, raises (ValueError) iff it returned EINVAL, and returns `true` for
    every other return value — 0, and also any other error code. -/
theorem C13_trylock_translation (e : Errno) :
    (tryTable CelloGen.Thr.trylockErr CelloGen.Thr.trylockDefault e = .val false ↔ e = .ebusy) ∧
    (tryTable CelloGen.Thr.trylockErr CelloGen.Thr.trylockDefault e = .val true ↔ e ≠ .ebusy ∧ e ≠ .einval) ∧
    (∀ x, tryTable CelloGen.Thr.trylockErr CelloGen.Thr.trylockDefault e = .raises x ↔ e = .einval ∧ x = .valueError) ∧
    tryTable CelloGen.Thr.trylockErr CelloGen.Thr.trylockDefault e ≠ .malformed := by
  cases e <;> exact ⟨by decide, by decide, fun x => by cases x <;> decide, by decide⟩

/-- the full statement "trylock returns true only if the primitive succeeded", over every error code -/
def C13_trylock_true_only_on_success_statement : Prop :=
  ∀ e, tryTable CelloGen.Thr.trylockErr CelloGen.Thr.trylockDefault e = .val true → e = .zero

/-- … does not hold of the table: an error code `Mutex_Trylock` has no case for (EAGAIN: the recursion limit of a recursive
    mutex; also EDEADLK, EPERM, ESRCH) falls through to `return true`.  Not reachable through the library: `Mutex_New` makes
    default-kind mutexes (`pthread_mutex_init(&m->mutex, NULL)`), whose trylock returns 0 or EBUSY only —
    `C13_trylock_true_only_on_success_partial`. -/
theorem C13_trylock_true_only_on_success_refuted : ¬ C13_trylock_true_only_on_success_statement := by
  intro h
  have := h .eagain (by decide)
  cases this

/-- **trylock returns true iff the primitive returned 0, false iff EBUSY** — for every return value of the primitive of a
    default-kind mutex (`pmTrylock`: 0 or EBUSY), which is what `Mutex_New` creates -/
theorem C13_trylock_true_only_on_success_partial (h : Option Tid) (e : Errno) (hp : pmTrylock h = .ret e) :
    (tryTable CelloGen.Thr.trylockErr CelloGen.Thr.trylockDefault e = .val true ↔ e = .zero) ∧
    (tryTable CelloGen.Thr.trylockErr CelloGen.Thr.trylockDefault e = .val false ↔ e = .ebusy) := by
  cases h <;> simp only [pmTrylock, Prim.ret.injEq] at hp <;> subst hp <;> decide

/-- **trylock in the machine**: a running thread's `trylock m` yields `true` iff the primitive returned 0 — and then the
    caller is the holder —, `false` iff it returned EBUSY — and then nothing at all changes —, and never raises -/
theorem C13_trylock_true_iff_primitive_succeeded (scan : Nat × Nat → Bool) (g : G) (t : Tid) (m : Nat) (hr : running g t = true) :
    ((step (cfgSrc scan) g (.trylock t m)).2 = .tried true ↔ pmTrylock (g.holder m) = .ret .zero) ∧
    ((step (cfgSrc scan) g (.trylock t m)).2 = .tried false ↔ pmTrylock (g.holder m) = .ret .ebusy) ∧
    (∀ x, (step (cfgSrc scan) g (.trylock t m)).2 ≠ .raised x) ∧
    (pmTrylock (g.holder m) = .ret .zero → (step (cfgSrc scan) g (.trylock t m)).1.holder m = some t) ∧
    (pmTrylock (g.holder m) = .ret .ebusy → (step (cfgSrc scan) g (.trylock t m)).1 = g) := by
  cases hh : g.holder m <;> simp [step, hr, pmTrylock, hh, upd]

/-- **the join protocol, for every state of the flags** (`t->thread` zero or not, the target never called / called and
    running / finished / finished and joined, the target being the caller): `join u` by a running thread `t` on a Thread
    object that still exists
    * returns without calling the primitive (`nothread`) iff `t->thread` is 0 (the object was never called);
    * returns normally after the primitive (`joined`) iff `t->thread ≠ 0` and `pthread_join` returned 0 — which it does
      only when `u` has finished `Thread_Init_Run`, has not been joined before and is not the caller;
    * raises ResourceError iff the caller is the target; never returns although `pthread_join` failed (`early`);
    * does not return (`blocked`) iff the target is another thread that is still live. -/
theorem C13_join_protocol (scan : Nat × Nat → Bool) (g : G) (t u : Tid) (hr : running g t = true) (hw : wrapperGone g u = false) :
    ((step (cfgSrc scan) g (.join t u)).2 = .nothread ↔ threadField g u = false) ∧
    ((step (cfgSrc scan) g (.join t u)).2 = .joined ↔
       threadField g u = true ∧ pJoin t u (g.thr u).phase (g.joined u) = .ret .zero) ∧
    (pJoin t u (g.thr u).phase (g.joined u) = .ret .zero ↔ (g.thr u).phase = .done ∧ g.joined u = false ∧ t ≠ u) ∧
    ((step (cfgSrc scan) g (.join t u)).2 = .raised .resourceError ↔ t = u) ∧
    (step (cfgSrc scan) g (.join t u)).2 ≠ .early ∧
    ((step (cfgSrc scan) g (.join t u)).2 = .blocked ↔ t ≠ u ∧ isLive (g.thr u).phase = true) := by
  have hx := joinTrOf_edeadlk (C13_join_repair_in_current_source.2 scan)
  by_cases htu : t = u
  · subst htu
    have hph : (g.thr t).phase = .running := by simpa [running] using hr
    simp [step, hr, hw, hx, threadField, pJoin, hph]
  · cases hp : (g.thr u).phase <;> cases hj : g.joined u <;> simp [step, hr, hw, htu, threadField, pJoin, hp, hj, isLive]

/-- the order of flag test, primitive call and error tests inside the wrappers, and the life cycle of the flags, as the
    translator reads them from the source: `Thread_Join` and `Thread_Stop` test `t->thread` first and call their primitive
    once, on `t->thread`, before any test of `err`; the Mutex wrappers call their primitive once on the object's own
    `pthread_mutex_t` before any test of `err` and before any `return`; `is_running` is set by the prologue of
    `Thread_Init_Run` and **not cleared by its epilogue** (`running(x)` stays true after the function has returned and
    after `join`); `Thread_Call` copies the argument tuple before `pthread_create` -/
theorem C13_wrapper_order_current_source :
    CelloGen.Thr.joinGuardsThread = true ∧ CelloGen.Thr.stopGuardsThread = true ∧ CelloGen.Thr.lockCallsPrimFirst = true ∧
    CelloGen.Thr.trylockCallsPrimFirst = true ∧ CelloGen.Thr.unlockCallsPrimFirst = true ∧
    CelloGen.Thr.prologueSetsRunning = true ∧ CelloGen.Thr.epilogueClearsRunning = false ∧
    CelloGen.Thr.callCopiesArgsFirst = true := by decide

/-- `Thread_Stop` (pthread_kill) and `Thread_Call` (pthread_create): the model's translation is the table extracted from
    the current source, for every error code -/
theorem C13_stop_create_translation_current_source (e : Errno) :
    stopTr e = trTable CelloGen.Thr.stopErr e ∧ createTr e = trTable CelloGen.Thr.createErr e := by
  exact ⟨by cases e <;> rfl, (trTable_eq_tableTr _ e).symm ▸ (C13_error_translation_current_source e).2.2.2.1⟩

/-- **a failing `Thread_Call` / `Thread_Stop` is local to the caller**: when `pthread_create` (`pthread_kill`) reports `e`,
    the outcome is the exception the extracted table names (or a normal return), and collector, thread-local table,
    ledger and phase of the caller's component are as before (only its exception record is written: `lstep_perr`); no other
    thread's component is touched (`C13_frame`) and no thread comes into being (the phase of every thread is as before) -/
theorem C13_create_stop_failure_is_local (cfg : Cfg) (g : G) (t : Tid) (e : Errno) (f : PFn) (hf : f = .create ∨ f = .stop)
    (hr : (g.thr t).phase = .running) :
    (step cfg g (.loc t (.perr f e))).2 =
      (match trTable (if f = .create then CelloGen.Thr.createErr else CelloGen.Thr.stopErr) e with
       | some x => .raised x | none => .ok) ∧
    (∀ u, ((step cfg g (.loc t (.perr f e))).1.thr u).phase = (g.thr u).phase) ∧
    (∀ u, u ≠ t → (step cfg g (.loc t (.perr f e))).1.thr u = g.thr u) ∧
    ((step cfg g (.loc t (.perr f e))).1.thr t).gc = (g.thr t).gc ∧
    ((step cfg g (.loc t (.perr f e))).1.thr t).tls = (g.thr t).tls ∧
    ((step cfg g (.loc t (.perr f e))).1.thr t).fin = (g.thr t).fin := by
  obtain ⟨x, hx⟩ := lstep_perr cfg t g.cache (foreignMarks cfg g t (.perr f e)) f e (g.thr t)
  rw [step_loc, wrapperKilled_gc g t _ (by rw [hx]), if_neg Bool.false_ne_true]
  refine ⟨?_, fun u => ?_, fun u hu => upd_other _ _ _ _ hu, ?_, ?_, ?_⟩
  · have htr := C13_stop_create_translation_current_source e
    rcases lstep_cases cfg t (foreignMarks cfg g t (.perr f e)) (.perr f e) (g.thr t) with ⟨_, hl⟩ | ⟨_, h, _⟩ | ⟨h, _⟩
    · rw [hl]
      rcases hf with rfl | rfl
      · rw [if_pos rfl, ← htr.2]; dsimp only [lrun]; cases createTr e <;> rfl
      · rw [if_neg PFn.noConfusion, ← htr.1]; dsimp only [lrun]; cases stopTr e <;> rfl
    · cases h
    · exact absurd hr h
  · by_cases hu : u = t
    · subst hu; simp only [upd_same, hx]
    · exact congrArg TS.phase (upd_other _ _ _ _ hu)
  all_goals simp only [upd_same, hx]

/-! non-vacuity of the composition: a contended schedule, executed by `syncStep` -/
example :
    (syncStep tabsSrc G.init (.trylock 0 3)).map (·.2) = some (.tried true) ∧
    (syncStep tabsSrc (run cfgNow [.lock 0 3] G.init).1 (.trylock 0 3)).map (·.2) = some (.tried false) ∧
    (syncStep tabsSrc (run cfgNow [.lock 0 3] G.init).1 (.lock 0 3)).map (·.2) = some .blocked ∧
    (syncStep tabsSrc G.init (.unlock 0 3)).map (·.2) = some .ub ∧
    (syncStep tabsSrc G.init (.join 0 1)).map (·.2) = some .nothread ∧
    (syncStep tabsSrc G.init (.join 0 0)).map (·.2) = some (.raised .resourceError) ∧
    (syncStep tabsOldJoin G.init (.join 0 0)).map (·.2) = some .early ∧
    (syncStep tabsSrc (run cfgNow [.spawn 0 1] G.init).1 (.join 0 1)).map (·.2) = some .blocked ∧
    (syncStep tabsSrc (run cfgNow [.spawn 0 1, .loc 1 .begin_, .loc 1 .end_] G.init).1 (.join 0 1)).map (·.2) = some .joined ∧
    (syncStep tabsSrc (run cfgNow [.spawn 0 1, .loc 1 .begin_, .loc 1 .end_, .join 0 1] G.init).1 (.join 0 1)).map (·.2) = some .ub := by
  decide +kernel

example : (run cfgNow [.loc 0 (.perr .create .eagain), .loc 0 (.perr .create .eperm), .loc 0 (.perr .stop .esrch), .loc 0 (.perr .stop .zero)] G.init).2.map (·.2)
    = [.raised .outOfMemoryError, .ok, .raised .valueError, .ok] := by decide

/-
  PARTIAL — what these theorems do not say (and the harness covers by running real threads under schedule noise):
  the model is sequentially consistent at operation granularity, so real data races, memory-model effects, the pthread
  implementation and signal delivery cannot be exhibited in it; a collection is modelled with an arbitrary marked
  set (the conservative stack scan is not modelled).  In particular the walk of another thread's thread-local table
  by the mark phase is an atomic read here (its *logical* effect — which objects survive — is modelled, and is what
  refutes non-interference), whereas in C it is a data race with the owner's `Table_Set` / `Table_Rem` / rehash
  (`races` counts the steps where it would be one; the harness keeps free-running schedules at `races = 0` and runs the
  witness in a forked child).  Known findings, each with its full statement kept as a `def …_statement` and refuted:
  KF-C13-mark-foreign-tls (`C13_noninterference_refuted`; the guarded variant of commit 80c795e, in which the statement
  holds, was withdrawn by commit 0a0ad73: `C13_guarded_variant_loses_objects`; the hypothesis under which the statement is
  proved is `IsolatedN`, which `Isolated` implies — the table of a *live* thread never decides what another
  thread's collection finalises: `C13_noninterference_walks`), KF-C13-join-result-finalised
  (`C13_join_publishes_object_refuted`), KF-C13-thread-arg-collected (`C13_args_refuted`; `C13_args_partial` under `ArgsSafe`).
  Repaired by commit 484991f and kept as an OLD variant with its witness:
  KF-C13-join-edeadlk (`C13_join_old_refuted`; full statement `C13_join_current_source`).  Not modelled: `set` on a Thread
  object other than `current(Thread)` (data handed to a thread before it is called), Thread objects as
  thread-local values, `Thread_Assign` (copies another thread's table), mutual joins, an uncaught exception in a worker
  (`Exception_Error` exits the whole process: a counter-example, by design of the library, to "never diverts another
  thread's control flow"; every generated exception program is wrapped in a catch-all).  A `with` block left by an
  exception leaves the Mutex locked by the thread (the jump skips `stop_in`): in the model that is `lock` followed by the
  exception program — the thread stays the holder, `C13_mutex` applies as it stands (op `wthrow`, corpus/thr_wthrow.ops).
-/

end Cello.Thr
