/-
  C11 — iteration agrees with len and get, forwards and backwards, for views too.

  The property theorems, their refuted full statements and examples; the lemmas behind them are in CelloProofs/Lemmas/Iter*.lean.
  Model: Cello/Iter.lean — every iterable of /repo as a small state machine (`Iterable`: `init / next / last / prev`,
  `len`, `get`) that mirrors the C functions, `Run` = a walk that yields a list and then `Terminal`,
  `LawfulAs I l` = foreach over `I` yields exactly `l` and ends with Terminal, the backward walk yields the reverse of `l`,
  `len I = |l|` and `get I i = l[i]` (where the type implements Len / a positional Get).
  Containers that have been MUTATED before they are iterated (Cello/IterMut.lean): List with its head / tail / next / prev
  link words (`LL`, `llI`), Array with its backing store (`AR`, `arI`), Table and Tree with their `nitems` field; the
  theorems of the section "Mutated containers" hold for EVERY history of mutations.
  The model is tied to the C code by harness/h_iter.c ⇄ lean/Driver/Iter.lean on every run of `./check C11`, and for
  Slice_Arg, the four Filter functions and Table_Iter_Last / _Prev by the terms that translate/g_iter.py extracts from the
  source (section "The code INSIDE the proof").

  The property has a FORWARD half (`LawfulFwdAs`: foreach, len, get — what `foreach` uses) and a BACKWARD half
  (`LawfulBwdAs`); `LawfulAs` is both (`C11_lawful_iff_both`).  Every closure theorem is stated per direction, so a view
  over an iterable that is right in one direction only (a Zip of inputs of unequal length, a Slice whose stride fits one
  way) is still covered in that direction (`C11_compositions_lawful_fwd` / `_bwd`).
  Tuple and Range ABSORB a Terminal cursor (`AbsFwdAs` / `AbsBwdAs`: Terminal is answered with Terminal again), and so do
  Map / Filter / Slice over them; over such an iterable a Slice is right in the larger region `SliceRegionFwdAbs` /
  `SliceRegionBwdAbs` (the stride need not fit).

  Known findings (the C code is wrong, the model mirrors it, the full statements are refuted below):
    F11 Slice iteration outside the parameter region, F12 backward walk and negative `get` over a Zip of unequal inputs,
    F13 a Tuple holding one object twice; `get` on a Range / Map / Zip (or a Slice / enumerate over them) DURING a walk
    overwrites the cursor of the walk; one Range / Map / Zip object twice in a Zip shares one cursor;
    `mem` on a Slice never answers false (Slice_Mem's loop tests `curr != NULL`), `mem` on a Range treats a negative key as an
    index; a Range whose walk needs a value outside int64_t (one step beyond the last element) overflows.
-/
import CelloProofs.Lemmas.IterRun
import CelloProofs.Lemmas.IterContainers
import CelloProofs.Lemmas.IterTree
import CelloProofs.Lemmas.IterRange
import CelloProofs.Lemmas.IterViews
import CelloProofs.Lemmas.IterSlice
import CelloProofs.Lemmas.IterGet
import CelloProofs.Lemmas.IterCompose
import CelloProofs.Lemmas.IterRegion
import CelloProofs.Lemmas.IterMem
import CelloProofs.Lemmas.IterSrc

namespace Cello.Iter

/-! ## What `LawfulAs` means for the executable model (the thing the driver runs) -/

/-- If `I` is lawful for `l`, the fuelled interpreter that the driver runs (and that is compared with the C library on
    every check) computes exactly `l` then Terminal forwards, and the reverse backwards, from any state. -/
theorem C11_lawful_is_what_runs {α : Type} (I : Iterable α) (l : List α) (h : LawfulAs I l) (fuel : Nat)
    (hf : l.length < fuel) : I.forward fuel = (l, .term) ∧ I.backward fuel = (l.reverse, .term) :=
  ⟨(h.fwd I.s0).runFuel fuel hf, (h.bwd I.s0).runFuel fuel (by simpa using hf)⟩

/-- the same for one direction: the forward half gives what `foreach` computes, the backward half the backward walk -/
theorem C11_lawful_dir_is_what_runs {α : Type} (I : Iterable α) (l : List α) (fuel : Nat) (hf : l.length < fuel) :
    (LawfulFwdAs I l → I.forward fuel = (l, .term)) ∧ (LawfulBwdAs I l → I.backward fuel = (l.reverse, .term)) :=
  ⟨fun h => (h.fwd I.s0).runFuel fuel hf, fun h => (h.bwd I.s0).runFuel fuel (by simpa using hf)⟩

/-- **Lawful = forward half ∧ backward half** (for one and the same sequence) -/
theorem C11_lawful_iff_both {α : Type} (I : Iterable α) :
    (∀ l, LawfulAs I l ↔ LawfulFwdAs I l ∧ LawfulBwdAs I l) ∧ (Lawful I ↔ ∃ l, LawfulFwdAs I l ∧ LawfulBwdAs I l) :=
  ⟨lawfulAs_iff I, ⟨fun ⟨l, h⟩ => ⟨l, (lawfulAs_iff I l).mp h⟩, fun ⟨l, h⟩ => ⟨l, (lawfulAs_iff I l).mpr h⟩⟩⟩

/-! ## Containers -/

/-- **Array**: forward = the elements in order, backward = reverse, `len`, `get i` — for every content and length. -/
theorem C11_array_lawful {α : Type} (l : List α) : LawfulAs (arrayI l) l ∧ (arrayI l).len = some l.length :=
  ⟨array_lawfulAs l, rfl⟩

/-- **List** (linked nodes) -/
theorem C11_list_lawful {α : Type} (l : List α) : LawfulAs (listI l) l ∧ (listI l).len = some l.length :=
  ⟨list_lawfulAs l, rfl⟩

/-- **Table**: for every slot array (any pattern of holes), iteration yields exactly the keys of the occupied slots in
    slot order, backwards the reverse, and `len` is their number. -/
theorem C11_table_lawful {α : Type} (slots : List (Option α)) :
    LawfulAs (tableI slots) (occupied slots) ∧ (tableI slots).len = some (occupied slots).length :=
  ⟨table_lawfulAs slots, rfl⟩

/-- **Tree**: for every tree shape (balanced or not), successor / predecessor stepping through child and parent
    pointers yields exactly the in-order sequence, backwards the reverse, and `len` is the number of nodes. -/
theorem C11_tree_lawful {α : Type} (t : T α) :
    LawfulAs (treeI t) t.inorder ∧ (treeI t).len = some t.inorder.length :=
  (tree_lawfulAs t).and_len rfl

/-- **Tuple**, when no object occurs twice (F13 otherwise): the position is found again by searching for the pointer. -/
theorem C11_tuple_lawful (ids : List Nat) (hnd : ids.Nodup) :
    LawfulAs (tupleI ids) ids ∧ (tupleI ids).len = some ids.length :=
  ⟨tuple_lawfulAs ids hnd, rfl⟩

/-- **Tuple absorbs a Terminal cursor**: after a walk, Tuple_Iter_Next / _Prev called with Terminal search for it, find
    nothing and answer Terminal — again and again (this is what makes stepped Slices over a Tuple right) -/
theorem C11_tuple_absorbs (ids : List Nat) (hnd : ids.Nodup) : AbsFwdAs (tupleI ids) ids ∧ AbsBwdAs (tupleI ids) ids :=
  tuple_abs ids hnd

/-- full statement for Tuple (every tuple, also with a repeated object) — refuted by `C11_tuple_dup_refuted` -/
def C11_tuple_statement : Prop := ∀ ids : List Nat, LawfulAs (tupleI ids) ids

/-- **F13**: over `tuple(x, x)` the forward walk never reaches Terminal (every call finds the first occurrence again). -/
theorem C11_tuple_dup_refuted : ¬ C11_tuple_statement := by
  intro H
  have h := ((H [7, 7]).fwd none).runFuel 8 (by decide)
  revert h; decide

/-! ## Range -/

/-- **Range on ℤ**, for ALL `(start, stop, step)` — step 0, negative steps, empty ranges, lengths not divisible by the step:
    forward iteration yields `rangeList`, the backward walk its reverse, `Range_Len` is its length and `Range_Get i` its
    `i`-th element.  (This is the statement that F09/F10 violated before the `fix:` commits.)
    `rangeI` computes in ℤ; the C fields and the cursor are `int64_t`: the same statement about the machine with the overflow
    test of every signed operation is `C11_range64_lawful`, under the explicit hypotheses `RangeFitsFwd` / `RangeFitsBwd`, and
    is refuted without them (`C11_range64_refuted`). -/
theorem C11_range_lawful (start stop step : Int) :
    LawfulAs (rangeI start stop step) (rangeList start stop step) ∧
    (rangeI start stop step).len = some (rangeList start stop step).length :=
  (range_lawfulAs start stop step).and_len rfl

/-- **Range absorbs a Terminal cursor**: Range_Iter_Next / _Prev ignore the cursor and the arithmetic stays beyond the end -/
theorem C11_range_absorbs (start stop step : Int) :
    AbsFwdAs (rangeI start stop step) (rangeList start stop step) ∧
    AbsBwdAs (rangeI start stop step) (rangeList start stop step) :=
  range_abs start stop step

/-- **Range on `int64_t`** (`rangeI64`: `i->val += r->step` overflows = undefined behaviour), per direction: if the FORWARD
    walk stays inside int64_t — the fields, and the value ONE STEP BEYOND THE LAST ELEMENT, which Range_Iter_Next computes
    before it compares (`RangeFitsFwd`) — foreach yields `rangeList` and then Terminal; if the BACKWARD walk does —
    Range_Len's own subtraction, and the value one step before the first element (`RangeFitsBwd`) — the backward walk yields
    the reverse; `len` and `get` agree.  On these ranges the int64 machine IS the machine on ℤ that the composition theorems
    are about. -/
theorem C11_range64_lawful (start stop step : Int) :
    (RangeFitsFwd start stop step → LawfulFwdAs (rangeI64 start stop step) (rangeList start stop step)) ∧
    (RangeFitsBwd start stop step → LawfulBwdAs (rangeI64 start stop step) (rangeList start stop step)) :=
  ⟨fun h => ⟨range64_fwdAs start stop step h, range64_lenGet start stop step⟩,
   fun h => ⟨range64_bwdAs start stop step h, range64_lenGet start stop step⟩⟩

/-- full statement for the Range on int64_t: every Range whose three fields are int64_t values is lawful — refuted by
    `C11_range64_refuted` -/
def C11_range64_statement : Prop :=
  ∀ a b c : Int, isI64 a = true → isI64 b = true → isI64 c = true → LawfulAs (rangeI64 a b c) (rangeList a b c)

/-- **a Range near the limits of int64_t**: `range(MAX-2, MAX, 5)` has the one element `MAX-2` (`len` = 1); after it
    Range_Iter_Next adds 5 — a signed overflow (compiled without a trap the cursor wraps to `MIN+2`, is "below stop" again
    and the walk runs away).  `range(MIN, MIN+8, 3)` walks forwards correctly and overflows backwards (`MIN - 3`). -/
theorem C11_range64_refuted : ¬ C11_range64_statement ∧
    (rangeI64 (2 ^ 63 - 3) (2 ^ 63 - 1) 5).forward 10 = ([2 ^ 63 - 3], .undef) ∧ rangeLen (2 ^ 63 - 3) (2 ^ 63 - 1) 5 = 1 ∧
    ¬ RangeFitsFwd (2 ^ 63 - 3) (2 ^ 63 - 1) 5 ∧
    (rangeI64 (-(2 ^ 63)) (-(2 ^ 63) + 8) 3).forward 10 = ([-(2 ^ 63), -(2 ^ 63) + 3, -(2 ^ 63) + 6], .term) ∧
    (rangeI64 (-(2 ^ 63)) (-(2 ^ 63) + 8) 3).backward 10 = ([-(2 ^ 63) + 6, -(2 ^ 63) + 3, -(2 ^ 63)], .undef) ∧
    RangeFitsFwd (-(2 ^ 63)) (-(2 ^ 63) + 8) 3 ∧ ¬ RangeFitsBwd (-(2 ^ 63)) (-(2 ^ 63) + 8) 3 := by
  refine ⟨?_, by decide, by decide, by decide, by decide, by decide, by decide, by decide⟩
  intro H
  have h := ((H (2 ^ 63 - 3) (2 ^ 63 - 1) 5 (by decide) (by decide) (by decide)).fwd (rangeI64 (2 ^ 63 - 3) (2 ^ 63 - 1) 5).s0).runFuel 10 (by decide)
  revert h; decide

/-- the hypotheses are met at the very limits: `range(MAX-7, MAX, 7)` (one element; `MAX` itself is the value beyond it) and
    `range(MIN+3, MIN+9, 3)` backwards (`MIN` is the value before the first) -/
example : RangeFitsFwd (2 ^ 63 - 8) (2 ^ 63 - 1) 7 ∧ RangeFitsBwd (2 ^ 63 - 8) (2 ^ 63 - 1) 7 ∧
    RangeFitsFwd (-(2 ^ 63) + 3) (-(2 ^ 63) + 9) 3 ∧ RangeFitsBwd (-(2 ^ 63) + 3) (-(2 ^ 63) + 9) 3 ∧
    (rangeI64 (2 ^ 63 - 8) (2 ^ 63 - 1) 7).forward 10 = ([2 ^ 63 - 8], .term) ∧
    (rangeI64 (-(2 ^ 63) + 3) (-(2 ^ 63) + 9) 3).backward 10 = ([-(2 ^ 63) + 6, -(2 ^ 63) + 3], .term) := by decide

/-- `rangeList` is the definition of the property text: for a positive step exactly the numbers `start + step*j`
    (`j = 0, 1, …`) below `stop`; for a negative step exactly the numbers `stop-1 + step*j` not below `start`;
    nothing for step 0. -/
theorem C11_rangeList_mem (start stop step x : Int) :
    x ∈ rangeList start stop step ↔
      (step > 0 ∧ ∃ j : Nat, x = start + step * j ∧ x < stop) ∨
      (step < 0 ∧ ∃ j : Nat, x = stop - 1 + step * j ∧ x ≥ start) :=
  rangeList_mem start stop step x

/-- **Range_Get is defined exactly inside the range** (fix 81e7452: the index is tested against `Range_Len` before anything is
    computed): it answers an element for the indices `-len ≤ k < len` (negative = from the end) and raises
    IndexOutOfBoundsError for every other — in particular for every index when the step is 0. -/
theorem C11_rangeGet_defined_iff (a b c k : Int) :
    (rangeGet a b c k).isSome ↔ (-(rangeLen a b c : Int) ≤ k ∧ k < (rangeLen a b c : Int)) := by
  rw [rangeGet_eq_getIdx, getIdx_isSome_iff, length_rangeList]

/-- before commit 81e7452 `Range_Get` of a range with step 0 answered 0 for every index although the range is empty -/
theorem C11_rangeGet_old_refuted : rangeGetOld 0 5 0 3 = some 0 ∧ rangeLen 0 5 0 = 0 ∧ rangeGet 0 5 0 3 = none := by decide

/-! ## Views: closure PER DIRECTION, to any nesting depth -/

/-- **Filter**: over a lawful iterable, Filter yields exactly the accepted elements, in both directions (Filter implements
    Last/Prev with the same skipping loop).  `fuel` bounds the model of the C `while(true)`; any fuel above the length
    of the underlying sequence suffices. -/
theorem C11_filter_closed {α : Type} (I : Iterable α) (p : α → Bool) (fuel : Nat) (l : List α)
    (h : LawfulAs I l) (hf : l.length < fuel) : LawfulAs (filterI I p fuel) (l.filter p) :=
  filter_lawfulAs I p fuel h hf

/-- **Filter, per direction**: the forward walk of the Filter needs only the forward walk of the underlying iterable, the
    backward walk only the backward walk; absorption of a Terminal cursor is inherited (Filter has no Len / Get) -/
theorem C11_filter_closed_dir {α : Type} (I : Iterable α) (p : α → Bool) (fuel : Nat) (l : List α) (hf : l.length < fuel) :
    (FwdAs I l → FwdAs (filterI I p fuel) (l.filter p)) ∧ (BwdAs I l → BwdAs (filterI I p fuel) (l.filter p)) ∧
    (AbsFwdAs I l → AbsFwdAs (filterI I p fuel) (l.filter p)) ∧ (AbsBwdAs I l → AbsBwdAs (filterI I p fuel) (l.filter p)) :=
  ⟨fun h => filter_fwdAs I p fuel h hf, fun h => filter_bwdAs I p fuel h hf, fun h => filter_absFwd I p fuel h hf,
    fun h => filter_absBwd I p fuel h hf⟩

/-- **Map**: the images in order, in both directions, with the `len` and `get` of the underlying iterable. -/
theorem C11_map_closed {α β : Type} (I : Iterable α) (f : α → β) (l : List α) (h : LawfulAs I l) :
    LawfulAs (mapI I f) (l.map f) :=
  map_lawfulAs I f h

/-- **Map, per direction** (and `len` / `get`, and absorption, are inherited) -/
theorem C11_map_closed_dir {α β : Type} (I : Iterable α) (f : α → β) (l : List α) :
    (LawfulFwdAs I l → LawfulFwdAs (mapI I f) (l.map f)) ∧ (LawfulBwdAs I l → LawfulBwdAs (mapI I f) (l.map f)) ∧
    (AbsFwdAs I l → AbsFwdAs (mapI I f) (l.map f)) ∧ (AbsBwdAs I l → AbsBwdAs (mapI I f) (l.map f)) :=
  ⟨fun h => ⟨map_fwdAs I f h.fwd, map_lenGet I f h.lg⟩, fun h => ⟨map_bwdAs I f h.bwd, map_lenGet I f h.lg⟩,
    map_absFwd I f, map_absBwd I f⟩

/-- **Zip**, ANY arity (also `zip()`, no inputs: Zip_Iter_Init / Zip_Len test `num is 0` first), inputs of ANY lengths,
    each input needing only its FORWARD half: the forward walk yields the tuples up to the shortest input and then
    Terminal, `len` is the minimum and `get i` the `i`-th tuple.
    `zipI Is` gives every input its own cursor state: the inputs are DISTINCT objects (or objects whose cursor is the
    pointer the caller holds — `C11_zip_same_object_cursor_held`); one Range / Map / Zip object twice in a Zip is
    `zipSameI`, refuted in `C11_zip_same_object_refuted`. -/
theorem C11_zip_forward {α : Type} (Is : List (Iterable α)) (ls : List (List α))
    (h : All₂ (fun I l => LawfulFwdAs I l) Is ls) : LawfulFwdAs (zipI Is) (zipLists ls) :=
  ⟨zip_fwdAs Is ls (h.imp fun _ _ x => x.fwd), zip_lenGet Is ls (h.imp fun _ _ x => x.lg)⟩

/-- **a Zip of NO inputs** is lawful for the empty sequence; its `get`, however, answers the empty tuple for EVERY index instead of
    raising IndexOutOfBoundsError (the loop over the inputs is empty): this is why `GetFullAs` for a Zip (`C11_get_every_index`)
    keeps the hypothesis `Is ≠ []`, and why `defOf (.zip [])` is undefined in the composition theorems -/
theorem C11_zip_no_inputs {α : Type} : LawfulAs (zipI ([] : List (Iterable α))) [] ∧
    (∀ k : Int, (zipI ([] : List (Iterable α))).get.map (fun g => g k) = some (some [])) ∧
    ¬ GetFullAs (zipI ([] : List (Iterable α))) [] := by
  refine ⟨zip_lawfulAs [] [] rfl All₂.nil, zip_nil_get, fun H => ?_⟩
  have h := H _ rfl 0
  simp [getIdx] at h

/-- the zipped sequence has the length of the shortest input -/
theorem C11_zipLists_length {α : Type} (l : List α) (l' : List α) (ls : List (List α)) :
    (zipLists (l :: l' :: ls)).length = min l.length (zipLists (l' :: ls)).length := by
  simp [zipLists]

/-- **Zip**, inputs of EQUAL length: lawful in both directions. -/
theorem C11_zip_closed {α : Type} (Is : List (Iterable α)) (ls : List (List α)) (n : Nat)
    (hlen : ∀ l ∈ ls, l.length = n) (h : All₂ (fun I l => LawfulAs I l) Is ls) :
    LawfulAs (zipI Is) (zipLists ls) :=
  zip_lawfulAs Is ls (zipLists_map_reverse ls (Or.inl ⟨n, hlen⟩)) h

/-- **Zip backward**, inputs of EQUAL length — or one input EMPTY (Zip_Iter_Last then answers Terminal at once): each
    input needing only its BACKWARD half.  (What is left outside is exactly F12: unequal lengths, none of them 0.) -/
theorem C11_zip_backward_equal {α : Type} (Is : List (Iterable α)) (ls : List (List α))
    (hlen : (∃ n, ∀ l ∈ ls, l.length = n) ∨ (∃ l ∈ ls, l = [])) (h : All₂ (fun I l => LawfulBwdAs I l) Is ls) :
    LawfulBwdAs (zipI Is) (zipLists ls) :=
  ⟨zip_bwdAs Is ls (zipLists_map_reverse ls hlen) (h.imp fun _ _ x => x.bwd), zip_lenGet Is ls (h.imp fun _ _ x => x.lg)⟩

/-- full statement for the backward walk of Zip (inputs of any lengths) — refuted by `C11_zip_backward_refuted` -/
def C11_zip_backward_statement : Prop :=
  ∀ (Is : List (Iterable Nat)) (ls : List (List Nat)), All₂ (fun I l => LawfulAs I l) Is ls →
    BwdAs (zipI Is) (zipLists ls)

/-- **F12**: `zip([1,2,3], [10,20])` walks backwards as (3,20) (2,10): Zip_Iter_Last takes each input's own last. -/
theorem C11_zip_backward_refuted : ¬ C11_zip_backward_statement := by
  intro H
  have h := (H [arrayI [1, 2, 3], arrayI [10, 20]] [[1, 2, 3], [10, 20]]
    (All₂.cons (array_lawfulAs _) (All₂.cons (array_lawfulAs _) All₂.nil)) (true, (none, none, ()))).runFuel 8 (by decide)
  revert h; decide

/-- **enumerate** = `zip(range(len I), I)`: the pairs `(i, x_i)`, lawful in both directions.  (`enumerate_stack` reads
    `len(I)`: the object exists only for an `I` that implements Len, `_hlen`.) -/
theorem C11_enumerate_closed {α : Type} (I : Iterable α) (inj : Int → α) (l : List α) (h : LawfulAs I l)
    (_hlen : I.len = some l.length) :
    LawfulAs (enumI I l.length inj) (enumSpec inj l) :=
  enum_lawfulAs I inj h

/-- **enumerate, per direction** -/
theorem C11_enumerate_closed_dir {α : Type} (I : Iterable α) (inj : Int → α) (l : List α) (_hlen : I.len = some l.length) :
    (LawfulFwdAs I l → LawfulFwdAs (enumI I l.length inj) (enumSpec inj l)) ∧
    (LawfulBwdAs I l → LawfulBwdAs (enumI I l.length inj) (enumSpec inj l)) :=
  ⟨fun h => ⟨enum_fwdAs I inj h.fwd, enum_lenGet I inj h.lg⟩, fun h => ⟨enum_bwdAs I inj h.bwd, enum_lenGet I inj h.lg⟩⟩

/-! ## Slice -/

/-- Slice_Arg as repaired in /repo (commit a67379b): negative = from the end, then clamped into `[0, n]` -/
theorem C11_sliceArg_clamps (n : Nat) (a : Int) :
    0 ≤ sliceArg n a ∧ sliceArg n a ≤ n ∧
    (0 ≤ a → a ≤ n → sliceArg n a = a) ∧ (a < 0 → -(n : Int) ≤ a → sliceArg n a = n + a) ∧
    (a < -(n : Int) → sliceArg n a = 0) ∧ (a > n → sliceArg n a = n) := by
  simp only [sliceArg]
  omega

/-- the comparison before the repair was unsigned: a bound below `-n` became `n` instead of 0 -/
theorem C11_sliceArg_old_refuted : sliceArgOld 3 (-9) = 3 ∧ sliceArg 3 (-9) = 0 := by decide

/-- **Slice_partial**: over an iterable of `n` items that implements Len (`slice_stack` reads it), with the stored
    (clamped) start `a`, stop `b` and step `c`: `len` and `get` are right for ALL parameters; the forward walk is right in
    `SliceRegionFwd`, the backward walk in `SliceRegionBwd` (e.g. the whole-sequence slices `slice(I)`, `slice(I,_,_,1)`,
    `reverse(I)`, and strides that fit exactly) — each needing only the walk of `I` it actually uses (a positive step walks
    `I` forwards, a negative step backwards).  These regions are what holds WHATEVER `I` does with a Terminal cursor;
    over an `I` that absorbs Terminal the regions are larger: `C11_slice_absorbing`.  Outside, the C code is wrong
    (known finding F11): full statement `C11_slice_statement`. -/
theorem C11_slice_partial {α : Type} (I : Iterable α) (l : List α) (hlg : LenGetAs I l) (_hlen : I.len = some l.length)
    (A B : Nat) (c : Int) (hA : A ≤ l.length) (hB : B ≤ l.length) :
    ((c > 0 → FwdAs I l) → (c < 0 → BwdAs I l) → SliceRegionFwd l.length A B c →
      FwdAs (sliceI I l.length A B c) (sliceSpec l A B c)) ∧
    ((c > 0 → BwdAs I l) → (c < 0 → FwdAs I l) → SliceRegionBwd l.length A B c →
      BwdAs (sliceI I l.length A B c) (sliceSpec l A B c)) ∧
    LenGetAs (sliceI I l.length A B c) (sliceSpec l A B c) :=
  ⟨fun hf hb => slice_fwdAs I hf hb A B hA hB, fun hb hf => slice_bwdAs I hb hf A B hA hB,
    slice_lenGet I hlg A B c hB⟩

/-- in both regions a Slice is lawful -/
theorem C11_slice_lawful_in_region {α : Type} (I : Iterable α) (l : List α) (h : LawfulAs I l) (A B : Nat) (c : Int)
    (hA : A ≤ l.length) (hB : B ≤ l.length)
    (hf : SliceRegionFwd l.length A B c) (hb : SliceRegionBwd l.length A B c) :
    LawfulAs (sliceI I l.length A B c) (sliceSpec l A B c) :=
  .of_lg (slice_fwdAs I (fun _ => h.fwd) (fun _ => h.bwd) A B hA hB hf) (slice_bwdAs I (fun _ => h.bwd) (fun _ => h.fwd) A B hA hB hb)
    (slice_lenGet I h.lg A B c hB)

/-- **Slice over an iterable that absorbs a Terminal cursor** (Tuple, Range, and Map / Filter / Slice over them): the walk
    simply visits the positions `sliceVisitFwd` / `sliceVisitBwd` (it runs to the end of the underlying sequence; `stop`
    resp. `start` is never looked at), so it is right — and the Slice absorbs Terminal in its turn — exactly when these are
    the positions the definition selects: `SliceRegionFwdAbs` / `SliceRegionBwdAbs`.  No divisibility condition: stepped
    forward slices over a Tuple or a Range of ANY length are right (`slice(tuple(1..7),_,_,2)`, `slice(range(7),_,_,3)`). -/
theorem C11_slice_absorbing {α : Type} (I : Iterable α) (l : List α) (A B : Nat) (c : Int)
    (hA : A ≤ l.length) (hB : B ≤ l.length) :
    ((c > 0 → AbsFwdAs I l) → (c < 0 → AbsBwdAs I l) → SliceRegionFwdAbs l.length A B c →
      AbsFwdAs (sliceI I l.length A B c) (sliceSpec l A B c)) ∧
    ((c > 0 → AbsBwdAs I l) → (c < 0 → AbsFwdAs I l) → SliceRegionBwdAbs l.length A B c →
      AbsBwdAs (sliceI I l.length A B c) (sliceSpec l A B c)) :=
  ⟨fun hf hb => slice_absFwd I hf hb A B hA hB, fun hb hf => slice_absBwd I hb hf A B hA hB⟩

/-- the absorbing regions in arithmetic (checked for every length up to 6, every clamped start and stop, every step in
    [-7, 7]): FORWARD, step > 0: `start = n`, or `start < stop` and `stop` lies beyond the last position `start + k*step`
    below `n`; step < 0: `stop = 0`, or `start < stop` and the lowest position `stop-1 - k*|step|` ≥ 0 is not below `start`.
    BACKWARD, step > 0: `stop = 0`, or `start < stop`, `start < step` and `step` divides `stop-1-start`; step < 0: `start = n`,
    or `start < stop`, `stop > n - |step|` and `|step|` divides `stop-1-start`. -/
theorem C11_slice_region_abs_arith_small :
    (List.range 7).all (fun n => (List.range (n + 1)).all (fun a => (List.range (n + 1)).all (fun b =>
      (stepsUpTo 7).all (fun c =>
        (decide (SliceRegionFwdAbs n a b c) ==
          decide ((c > 0 ∧ ((a : Int) = n ∨ (a < b ∧ ((n : Int) - 1 - a) / c = ((b : Int) - 1 - a) / c))) ∨
                  (c < 0 ∧ ((b : Int) = 0 ∨ (a < b ∧ ((b : Int) - 1) % (-c) ≥ a))) ∨ c = 0)) &&
        (decide (SliceRegionBwdAbs n a b c) ==
          decide ((c > 0 ∧ ((b : Int) = 0 ∨ (a < b ∧ (a : Int) < c ∧ ((b : Int) - 1 - a) % c = 0))) ∨
                  (c < 0 ∧ ((a : Int) = n ∨ (a < b ∧ (b : Int) > n + c ∧ ((b : Int) - 1 - a) % (-c) = 0))) ∨ c = 0)))))) = true := by
  -- an instance of `slice_region_abs_arith`, which holds for every length and every step
  refine List.all_eq_true.mpr fun n _ => all_range_succ fun a ha => all_range_succ fun b hb => List.all_eq_true.mpr fun c _ => ?_
  obtain ⟨h1, h2⟩ := slice_region_abs_arith n a b c ha hb
  rw [Bool.and_eq_true, beq_iff_eq, beq_iff_eq]
  exact ⟨decide_eq_decide.mpr h1, decide_eq_decide.mpr h2⟩

/-- `reverse(I)` = `slice(I, _, _, -1)` and the whole-sequence slice are inside both regions for every length -/
theorem C11_reverse_in_region (n : Nat) :
    SliceRegionFwd n 0 n (-1) ∧ SliceRegionBwd n 0 n (-1) ∧ SliceRegionFwd n 0 n 1 ∧ SliceRegionBwd n 0 n 1 :=
  -- a stride of 1 always fits: the second alternative of each region holds for every length
  ⟨Or.inr (Or.inl ⟨by omega, Or.inr ⟨by simp, by omega⟩⟩), Or.inr (Or.inl ⟨by omega, Or.inr ⟨by simp, by omega⟩⟩),
    Or.inl ⟨by omega, Or.inr ⟨by simp, by omega⟩⟩, Or.inl ⟨by omega, Or.inr ⟨by simp, by omega⟩⟩⟩

/-- full statement for Slice (all clamped parameters) — refuted by `C11_slice_refuted` -/
def C11_slice_statement : Prop :=
  ∀ (I : Iterable Nat) (l : List Nat) (A B : Nat) (c : Int), LawfulAs I l → A ≤ l.length → B ≤ l.length →
    LawfulAs (sliceI I l.length A B c) (sliceSpec l A B c)

/-- **F11**: `slice(x, 0, 2)` over six items walks over all six (stop is never consulted), and
    `slice(x, _, _, 2)` over seven items hands Terminal to Array_Iter_Next as a cursor. -/
theorem C11_slice_refuted : ¬ C11_slice_statement ∧
    (sliceI (arrayI [1, 2, 3, 4, 5, 6, 7]) 7 0 7 2).forward 20 = ([1, 3, 5, 7], .undef) := by
  refine ⟨?_, by decide⟩
  intro H
  have h := ((H (arrayI [1, 2, 3, 4, 5, 6]) [1, 2, 3, 4, 5, 6] 0 2 1 (array_lawfulAs _) (by decide) (by decide)).fwd none).runFuel
    10 (by decide)
  revert h; decide

/-- **F11 is there over absorbing iterables too**, only in a smaller region: `slice(tuple(1..6), 0, 2)` still walks over all six
    (`stop` cuts, `SliceRegionFwdAbs` fails), while `slice(tuple(1..7), _, _, 2)` and `slice(range(7), _, _, 3)` — outside
    `SliceRegionFwd` — are right -/
theorem C11_slice_absorbing_examples :
    (sliceI (tupleI [1, 2, 3, 4, 5, 6]) 6 0 2 1).forward 20 = ([1, 2, 3, 4, 5, 6], .term) ∧ ¬ SliceRegionFwdAbs 6 0 2 1 ∧
    (sliceI (tupleI [1, 2, 3, 4, 5, 6, 7]) 7 0 7 2).forward 20 = ([1, 3, 5, 7], .term) ∧
    SliceRegionFwdAbs 7 0 7 2 ∧ ¬ SliceRegionFwd 7 0 7 2 ∧
    (sliceI (rangeI 0 7 1) 7 0 7 3).forward 20 = ([0, 3, 6], .term) ∧ SliceRegionFwdAbs 7 0 7 3 ∧ ¬ SliceRegionFwd 7 0 7 3 := by
  decide

/-- the two regions are EXACT when an Array is underneath: for every length up to 5, every clamped start and stop and
    every step in [-6, 6], the model's walk is right if and only if the parameters lie in the region (exhaustive
    evaluation in the kernel; the harness compares the same verdicts with the C code on [-9,9]^3 and lengths 0..8) -/
theorem C11_slice_region_exact_small :
    (List.range 6).all (fun n => (List.range (n + 1)).all (fun a => (List.range (n + 1)).all (fun b =>
      (stepsUpTo 6).all (fun c =>
        (sliceFwdOk n a b c == decide (SliceRegionFwd n a b c)) &&
        (sliceBwdOk n a b c == decide (SliceRegionBwd n a b c)))))) = true := by
  decide +kernel

/-- … and the absorbing regions are EXACT when a Tuple is underneath (lengths up to 4, steps in [-5, 5]; the harness compares
    the same verdicts with the C code on [-9,9]^3 and lengths 0..8): the model's walk over
    `slice(tuple(0..n-1), a, b, c)` is right if and only if the parameters lie in `SliceRegionFwdAbs` / `SliceRegionBwdAbs` -/
theorem C11_slice_region_abs_exact_small :
    (List.range 5).all (fun n => (List.range (n + 1)).all (fun a => (List.range (n + 1)).all (fun b =>
      (stepsUpTo 5).all (fun c =>
        (sliceFwdOkT n a b c == decide (SliceRegionFwdAbs n a b c)) &&
        (sliceBwdOkT n a b c == decide (SliceRegionBwdAbs n a b c)))))) = true := by
  -- an instance of `slice_region_abs_exact`, which holds for every length and every step
  refine List.all_eq_true.mpr fun n _ => all_range_succ fun a ha => all_range_succ fun b hb => List.all_eq_true.mpr fun c _ => ?_
  obtain ⟨h1, h2⟩ := slice_region_abs_exact n a b c ha hb
  rw [Bool.and_eq_true, beq_iff_eq, beq_iff_eq]
  exact ⟨Bool.eq_iff_iff.mpr (h1.trans decide_eq_true_iff.symm), Bool.eq_iff_iff.mpr (h2.trans decide_eq_true_iff.symm)⟩

/-! ## Mutated containers: lawful after ANY history -/

/-- **List, one mutation from any state in the invariant** (the inductive step).  `LL.Chain l xs` is the doubly-linked
    invariant: the nodes `xs` are distinct live blocks, `head` is the first and `tail` the last, the `prev` word of the
    first and the `next` word of the last are NULL, `next` of every node is its successor and `prev` its predecessor,
    `nitems` counts them.  From such a list every mutation (push, pop, push_at, pop_at, rem, set, concat, resize — built
    from List_Link, List_Unlink, List_At as in List.c): never reads or writes through NULL or a freed node (no `undef`),
    has the outcome and the effect on the element sequence of `listSpec`, leaves the list in the invariant, and changes
    nothing when it raises. -/
theorem C11_list_step_keeps_links {α : Type} [DecidableEq α] (z : α) (l : LL α) (xs : List (Nat × α))
    (h : LL.Chain l xs) (op : SOp α) :
    ∃ l' xs', LL.step z l op = (l', (listSpec z (LL.vals xs) op).2) ∧ LL.Chain l' xs' ∧
      LL.vals xs' = (listSpec z (LL.vals xs) op).1 ∧ ((listSpec z (LL.vals xs) op).2 ≠ .ok → l' = l) :=
  LL.step_chain z l xs h op

/-- **List, every history**: `new(List, T, init…)` followed by ANY sequence of mutations ends — without the model of
    List.c ever leaving the object — in a list in the doubly-linked invariant whose elements, and the outcome of every
    mutation, are those of the abstract run `LL.specRun`. -/
theorem C11_list_history_keeps_links {α : Type} [DecidableEq α] (z : α) (init : List α) (ops : List (SOp α)) :
    ∃ l0 l xs, LL.new init = (l0, .ok) ∧ LL.run z l0 ops = (l, (LL.specRun z init ops).2) ∧ LL.Chain l xs ∧
      LL.vals xs = (LL.specRun z init ops).1 :=
  LL.new_run_chain z init ops

/-- the invariant in the words of `struct List`: `prev(head) = NULL`, `next(tail) = NULL`, `prev(next(x)) = x` for every
    node, and `nitems = 0` exactly when `head` is NULL -/
theorem C11_list_links_say {α : Type} (l : LL α) (xs : List (Nat × α)) (h : LL.Chain l xs) :
    (∀ a, l.head = some a → ∃ nd, l.mem a = some nd ∧ nd.prev = none) ∧
    (∀ a, l.tail = some a → ∃ nd, l.mem a = some nd ∧ nd.next = none) ∧
    (∀ x ∈ xs, ∀ nd, l.mem x.1 = some nd → ∀ y, nd.next = some y → ∃ nd', l.mem y = some nd' ∧ nd'.prev = some x.1) ∧
    (l.nitems = 0 ↔ l.head = none) :=
  chain_links l xs h

/-- **List in the invariant ⇒ lawful**: the forward walk along the `next` words yields the elements and then Terminal,
    the backward walk along the `prev` words their reverse, `len` (the `nitems` field) their number, `get i` (the
    two-ended walk of List_At) the `i`-th. -/
theorem C11_list_links_lawful {α : Type} (l : LL α) (xs : List (Nat × α)) (h : LL.Chain l xs) :
    LawfulAs (llI l) (LL.vals xs) ∧ (llI l).len = some (LL.vals xs).length :=
  (ll_lawfulAs l xs h).and_len rfl

/-- **List: lawful after any history** — iteration over the list that `new(List, T, init…)` and ANY history of
    mutations leave is lawful for the sequence the documented meaning of the history leaves. -/
theorem C11_list_mutated_lawful {α : Type} [DecidableEq α] (z : α) (init : List α) (ops : List (SOp α)) :
    ∃ l0 l, LL.new init = (l0, .ok) ∧ (LL.run z l0 ops).1 = l ∧ LawfulAs (llI l) (LL.specRun z init ops).1 ∧
      (llI l).len = some (LL.specRun z init ops).1.length := by
  obtain ⟨l0, l, xs, e0, e, c, v⟩ := LL.new_run_chain z init ops
  exact ⟨l0, l, e0, by rw [e], v ▸ (ll_lawfulAs l xs c).and_len rfl⟩

/-- a list of two nodes whose head still carries the `prev` word of a removed (freed) predecessor — what List_Unlink
    would leave if it did not clear it -/
def staleList : LL Int :=
  { mem := fun a => if a = 1 then some ⟨20, some 2, some 0⟩ else if a = 2 then some ⟨30, none, some 1⟩ else none,
    head := some 1, tail := some 2, nitems := 2, brk := 3 }

/-- the link words matter: `staleList` walks forwards correctly, but its backward walk leaves the list after the first
    element — it is not lawful for any sequence -/
theorem C11_list_stale_prev_refuted :
    (llI staleList).forward 10 = ([20, 30], .term) ∧ (llI staleList).backward 10 = ([30, 20], .undef) ∧
    ¬ Lawful (llI staleList) := by
  refine ⟨by decide, by decide, ?_⟩
  rintro ⟨xs, h⟩
  have hl : 2 = xs.length := h.len 2 rfl
  have h1 := (h.bwd none).runFuel 10 (by rw [List.length_reverse]; omega)
  have h0 : runFuel (llI staleList).prev 10 ((llI staleList).last none) = ([30, 20], .undef) := by decide
  rw [h0] at h1
  have h2 : End.undef = End.term := congrArg Prod.snd h1
  cases h2

/-- **Array, one mutation from any state in the store invariant** (`AR.Holds a vs`: cells `0 … nitems-1` of the backing
    store are initialised and hold `vs`, hence `nitems ≤ nslots`): Array_Reserve_More / _Less, the memmoves and the writes
    stay inside the store (no `undef`), outcome and effect are those of `arraySpec`, the invariant is kept, a mutation
    that raises changes nothing. -/
theorem C11_array_step_keeps_store {α : Type} [DecidableEq α] (a : AR α) (vs : List α) (h : AR.Holds a vs) (op : SOp α) :
    ∃ a', AR.step a op = (a', (arraySpec vs op).2) ∧ AR.Holds a' (arraySpec vs op).1 ∧
      ((arraySpec vs op).2 ≠ .ok → a' = a) :=
  AR.step_meets h op

/-- **Array: lawful after any history** — growth by push / push_at / concat, shrinking by pop / pop_at / rem / resize,
    in any order: iteration over the store, `len` and `get` agree with the sequence the history leaves. -/
theorem C11_array_mutated_lawful {α : Type} [DecidableEq α] (init : List α) (ops : List (SOp α)) :
    ∃ a0 a, AR.new init = (a0, .ok) ∧ AR.run a0 ops = (a, (AR.specRun init ops).2) ∧ AR.Holds a (AR.specRun init ops).1 ∧
      LawfulAs (arI a) (AR.specRun init ops).1 ∧ (arI a).len = some (AR.specRun init ops).1.length :=
  let ⟨a0, a, e0, e, c⟩ := AR.new_run_holds init ops
  ⟨a0, a, e0, e, c, (ar_lawfulAs a _ c).and_len rfl⟩

/-- **Table in the representation invariant ⇒ lawful** (`Cello.Table.Rep`, the invariant that C02 proves of every
    reachable table: here only imported): the slot scan yields the keys in slot order and then Terminal, backwards the
    reverse, `len` (the `nitems` FIELD) is their number = the number of bindings, and they are exactly the keys of the
    map, each once. -/
theorem C11_table_rep_lawful (t : MTab) (m : Cello.Table.Spec Int Int) (r : Cello.Table.Rep intHash t m) :
    LawfulAs (tabI t) (occupied (tabSlots t)) ∧ (tabI t).len = some m.length ∧
    (occupied (tabSlots t)).Perm (m.map Prod.fst) :=
  let ⟨h1, h2, h3⟩ := tabI_lawful t m r
  ⟨h1, h2 ▸ (h1.and_len rfl).2, h3⟩

/-- **Table: lawful after any history** of set / rem / resize (displacement, back-shift, rehash on growth and on
    shrinking, clearing): the model of Table.c — with the parameters read from the source on this run — never fails and the
    resulting table iterates lawfully over the keys of the finite map the history leaves. -/
theorem C11_table_mutated_lawful (init : List Int) (ops : List KOp) :
    ∃ t, mtableOf init ops = some t ∧ LawfulAs (tabI t) (occupied (tabSlots t)) ∧
      (tabI t).len = some (keyedRun [] (init.map KOp.set ++ ops)).1.length ∧
      (occupied (tabSlots t)).Perm ((keyedRun [] (init.map KOp.set ++ ops)).1.map Prod.fst) := by
  obtain ⟨t, e, r⟩ := mtableOf_spec init ops
  obtain ⟨h1, h2, h3⟩ := C11_table_rep_lawful t _ r
  exact ⟨t, e, h1, h2, h3⟩

/-- **Tree with a `nitems` field**: for EVERY shape (whatever rotations produced it) whose field equals its number of
    nodes — which is part of the invariant C03 proves of every reachable tree — the pointer walk is lawful over the
    in-order sequence and `len` agrees. -/
theorem C11_tree_field_lawful {α : Type} (t : T α) (n : Nat) (h : n = t.size) :
    LawfulAs (treeNI t n) t.inorder ∧ (treeNI t n).len = some t.inorder.length :=
  (treeNI_lawfulAs t n h).and_len rfl

/-- **Tree: lawful after any history** of set / rem / resize in the model (`nitems++` only for a new key, `nitems--` only
    for a present one, KeyError / FormatError leave it alone): the field counts the nodes, so iteration is lawful. -/
theorem C11_tree_mutated_lawful (init : List Int) (ops : List KOp) :
    LawfulAs (rbI (mtreeOf init ops)) (mtreeOf init ops).root.inorder ∧
    (rbI (mtreeOf init ops)).len = some (mtreeOf init ops).root.inorder.length :=
  C11_tree_field_lawful _ _ (mtreeOf_count init ops)

/-! ## Every composition, to any nesting depth -/

/-- **Compositions.** `denote` is the function the driver runs on an op-file expression (and the harness builds the same
    object from the real library); `defOf e` is the sequence the definitions select (defined whenever the object can be
    constructed, except for `zip()` of no inputs: `C11_zip_no_inputs`), `dirOf e` says which walks of the object are right,
    and `specOf e = defOf e` exactly for the expressions BOTH of whose walks are outside known-finding territory (Tuples
    without a repeated object; a Slice over an iterable that absorbs Terminal — Tuple, Range, Map / Filter / Slice over
    them — inside `SliceRegionFwdAbs/BwdAbs`, over any other inside `SliceRegionFwd/Bwd`; Zips of inputs of equal length or
    with an empty input; Filters over fewer than `filterFuel` items; for a container given by a HISTORY of mutations it
    is defined for every history).  For every such expression — containers,
    mutated containers, Range, and Slice / reverse / Zip / enumerate / Filter / Map nested to ANY depth — the model object is
    constructed and is lawful for `specOf e`.  Proved by induction over the expression, per direction (`denote_dir`). -/
theorem C11_compositions_lawful (e : Expr) (l : List Val) (h : specOf e = some l) :
    ∃ I, denote e = .ok I ∧ LawfulAs I l :=
  let ⟨I, hd, hl, _⟩ := denote_lawful e l h
  ⟨I, hd, hl⟩

/-- **Compositions, forward half** — `specFwd e = defOf e` wherever the FORWARD walk is outside known-finding territory,
    whatever the backward walk does: in particular Filter / Map / Slice / enumerate / Zip over a Zip of inputs of UNEQUAL
    length, and over a Slice whose stride fits forwards only (`slice(x,_,_,2)` over six items): foreach yields exactly the
    defined sequence and then Terminal, `len` and `get` agree. -/
theorem C11_compositions_lawful_fwd (e : Expr) (l : List Val) (h : specFwd e = some l) :
    ∃ I, denote e = .ok I ∧ LawfulFwdAs I l :=
  denote_fwd e l h

/-- **Compositions, backward half** -/
theorem C11_compositions_lawful_bwd (e : Expr) (l : List Val) (h : specBwd e = some l) :
    ∃ I, denote e = .ok I ∧ LawfulBwdAs I l :=
  denote_bwd e l h

/-- the three specifications are restrictions of ONE sequence, the defined one; `specOf` is where both walks are right;
    `len` and `get` are right wherever the object can be constructed at all (also in known-finding territory) -/
theorem C11_spec_coherent (e : Expr) :
    (∀ l, specOf e = some l ↔ specFwd e = some l ∧ specBwd e = some l) ∧
    (∀ l, specFwd e = some l → defOf e = some l) ∧ (∀ l, specBwd e = some l → defOf e = some l) ∧
    (∀ l, defOf e = some l → ∃ I, denote e = .ok I ∧ LenGetAs I l) := by
  refine ⟨fun l => ?_, fun l h => ?_, fun l h => ?_, fun l h => ?_⟩
  · simp only [specOf, specFwd, specBwd]
    by_cases h1 : (dirOf e).1.ok = true <;> by_cases h2 : (dirOf e).2.ok = true <;> simp [h1, h2]
  · simp only [specFwd] at h; split at h
    · exact h
    · simp at h
  · simp only [specBwd] at h; split at h
    · exact h
    · simp at h
  · obtain ⟨I, hd, hlg, _⟩ := denote_dir e l h
    exact ⟨I, hd, hlg⟩

/-- … hence the interpreter the driver runs yields exactly `specOf e` forwards and its reverse backwards -/
theorem C11_compositions_run (e : Expr) (l : List Val) (h : specOf e = some l) (fuel : Nat) (hf : l.length < fuel) :
    ∃ I, denote e = .ok I ∧ I.forward fuel = (l, .term) ∧ I.backward fuel = (l.reverse, .term) :=
  let ⟨I, hd, hl⟩ := C11_compositions_lawful e l h
  ⟨I, hd, C11_lawful_is_what_runs I l hl fuel hf⟩

/-- … and `specFwd e` forwards where only the forward half holds -/
theorem C11_compositions_run_fwd (e : Expr) (l : List Val) (h : specFwd e = some l) (fuel : Nat) (hf : l.length < fuel) :
    ∃ I, denote e = .ok I ∧ I.forward fuel = (l, .term) :=
  let ⟨I, hd, hl⟩ := C11_compositions_lawful_fwd e l h
  ⟨I, hd, (C11_lawful_dir_is_what_runs I l fuel hf).1 hl⟩

/-! ## `get` during a walk, `get` at negative indices, one object twice in a Zip -/

/-- **a loop body that calls `get`, hypothesis made explicit**: `forwardWith body` is foreach whose body calls
    `get(I, k)` after item `i` whenever `body i = some k`.  If NO `get` is called on the iterable during the walk, or the
    iterable is one whose `get` leaves the cursor alone (`GetPure`: Array, List, Tuple, Table, Tree, Slice / Filter over
    them — `C11_get_pure_objects`), the walk is the plain walk. -/
theorem C11_walk_with_get {α : Type} (I : Iterable α) (l : List α) (h : FwdAs I l) (body : Nat → Option Int)
    (hyp : (∀ i, body i = none) ∨ GetPure I) (fuel : Nat) (hf : l.length < fuel) :
    I.forwardWith body fuel = (l, .term) := by
  have e : I.forwardWith body fuel = I.forward fuel := by
    rcases hyp with hb | hp
    · exact forwardWith_of_none I body hb fuel
    · exact forwardWith_of_pure I hp body fuel
  rw [e]; exact (h I.s0).runFuel fuel hf

/-- the objects whose `get` does not touch a walk: every expression of the op-file language built from containers with
    Slice and Filter only (`Expr.getPure`) -/
theorem C11_get_pure_objects (e : Expr) (I : Iterable Val) (hp : e.getPure = true) (hd : denote e = .ok I) : GetPure I :=
  denote_getPure e I hp hd

/-- full statement (a `get` in the loop body never disturbs the walk) — refuted by `C11_get_disturbs_walk_refuted` -/
def C11_get_during_walk_statement : Prop :=
  ∀ (I : Iterable Int) (l : List Int) (body : Nat → Option Int) (fuel : Nat), LawfulAs I l → l.length < fuel →
    I.forwardWith body fuel = (l, .term)

/-- **`get` on a Range, a Map or a Zip during a walk overwrites the cursor of the walk**: `foreach (i in range(5))` whose
    body calls `get(r, 0)` at the third item yields 7 items (`len` is 5); the same over `map(array, f)` and `zip(a, b)` of
    four items yields 6 -/
theorem C11_get_disturbs_walk_refuted : ¬ C11_get_during_walk_statement ∧
    (rangeI 0 5 1).forwardWith (fun i => if i = 2 then some 0 else none) 20 = ([0, 1, 2, 1, 2, 3, 4], .term) ∧
    (mapI (arrayI [10, 20, 30, 40]) (fun x => x + 1)).forwardWith (fun i => if i = 2 then some 0 else none) 20 =
      ([11, 21, 31, 21, 31, 41], .term) ∧
    (zipI [arrayI [10, 20, 30, 40], arrayI [1, 2, 3, 4]]).forwardWith (fun i => if i = 2 then some 0 else none) 20 =
      ([[10, 1], [20, 2], [30, 3], [20, 2], [30, 3], [40, 4]], .term) := by
  refine ⟨?_, by decide, by decide, by decide⟩
  intro H
  have h := H (rangeI 0 5 1) (rangeList 0 5 1) (fun i => if i = 2 then some 0 else none) 20 (range_lawfulAs 0 5 1) (by decide)
  revert h; decide

/-- **`get` at EVERY index** (`GetFullAs`: negative = from the end, outside `[-len, len)` = IndexOutOfBoundsError) for Array,
    List, Tuple, Range, and closed under Map, Slice (all clamped parameters) and Zip of inputs of EQUAL length -/
theorem C11_get_every_index {α : Type} :
    (∀ l : List α, GetFullAs (arrayI l) l ∧ GetFullAs (listI l) l) ∧ (∀ ids, GetFullAs (tupleI ids) ids) ∧
    (∀ a b c, GetFullAs (rangeI a b c) (rangeList a b c)) ∧
    (∀ (I : Iterable α) (f : α → α) l, GetFullAs I l → GetFullAs (mapI I f) (l.map f)) ∧
    (∀ (I : Iterable α) l (A B : Nat) (c : Int), LenGetAs I l → B ≤ l.length →
      GetFullAs (sliceI I l.length A B c) (sliceSpec l A B c)) ∧
    (∀ (Is : List (Iterable α)) ls n, Is ≠ [] → (∀ l ∈ ls, l.length = n) → All₂ (fun I l => GetFullAs I l) Is ls →
      GetFullAs (zipI Is) (zipLists ls)) :=
  ⟨fun l => ⟨array_getFull l, list_getFull l⟩, tuple_getFull, range_getFull, fun I f _ h => map_getFull I f h,
    fun I _ A B c hlg hB => slice_getFull I hlg A B c hB, fun Is ls n hne hlen h => zip_getFull Is ls n hne hlen h⟩

/-- full statement for `get` of a Zip at every index (inputs of any lengths) — refuted by `C11_zip_get_negative_refuted` -/
def C11_zip_get_statement : Prop :=
  ∀ (Is : List (Iterable Nat)) (ls : List (List Nat)), Is ≠ [] → All₂ (fun I l => GetFullAs I l) Is ls →
    GetFullAs (zipI Is) (zipLists ls)

/-- **F12 for `get`**: Zip_Get hands the key to every input, each normalises a negative key against its OWN length:
    `get(zip([1,2,3],[10,20]), -1)` is `(3,20)`; the last tuple of the zipped sequence is `(2,20)` -/
theorem C11_zip_get_negative_refuted : ¬ C11_zip_get_statement ∧
    (zipI [arrayI [1, 2, 3], arrayI [10, 20]]).get.map (fun g => g (-1)) = some (some [3, 20]) ∧
    getIdx (zipLists [[1, 2, 3], [10, 20]]) (-1) = some [2, 20] := by
  refine ⟨?_, by decide, by decide⟩
  intro H
  have h := H [arrayI [1, 2, 3], arrayI [10, 20]] [[1, 2, 3], [10, 20]] (by simp)
    (All₂.cons (array_getFull _) (All₂.cons (array_getFull _) All₂.nil)) _ rfl (-1)
  revert h; decide

/-- **one object several times in a Zip, cursor held by the caller**: when the cursor of a walk over `x` is the pointer the
    caller holds (`inObject = false`: Array, List, Table, Tree, Tuple, Slice / Filter over them), `zip(x, …, x)` is `k`
    independent cursors in the `values` tuple — the same as `k` distinct objects — and its forward walk is right (`hk` is not
    needed: with `k = 0` both sides are the Zip of no inputs, which walks the empty sequence) -/
theorem C11_zip_same_object_cursor_held {α : Type} (I : Iterable α) (h : I.inObject = false) (k : Nat) (hk : 0 < k)
    (l : List α) (hf : FwdAs I l) :
    zipSameI I k = zipI (List.replicate k I) ∧ FwdAs (zipSameI I k) (zipLists (List.replicate k l)) :=
  ⟨zipSame_of_cursor_held I h k, zipSame_fwdAs I h k hf⟩

/-- full statement (any object `k` times) — refuted by `C11_zip_same_object_refuted` -/
def C11_zip_same_object_statement : Prop :=
  ∀ (I : Iterable Int) (l : List Int) (k : Nat), 0 < k → LawfulAs I l → FwdAs (zipSameI I k) (zipLists (List.replicate k l))

/-- **one Range twice in a Zip**: `zip(r, r)` over `r = range(4)` advances the one Int cell twice per step and shows it
    twice: `(0,0) (2,2)` instead of four pairs -/
theorem C11_zip_same_object_refuted : ¬ C11_zip_same_object_statement ∧
    (zipSameI (rangeI 0 4 1) 2).forward 10 = ([[0, 0], [2, 2]], .term) ∧
    zipLists (List.replicate 2 (rangeList 0 4 1)) = [[0, 0], [1, 1], [2, 2], [3, 3]] := by
  refine ⟨?_, by decide, by decide⟩
  intro H
  have h := ((H (rangeI 0 4 1) (rangeList 0 4 1) 2 (by decide) (range_lawfulAs 0 4 1)) (zipSameI (rangeI 0 4 1) 2).s0).runFuel 10 (by decide)
  revert h; decide

/-! ## `mem` — the third member of the Get instances of src/Iter.c -/

/-- **`mem` through `foreach`** (Zip_Mem, Filter_Mem, Map_Mem — and Slice_Mem once its loop tests `curr isnt Terminal`): over any
    iterable whose forward walk is right, `mem` answers exactly "the key is one of the elements" -/
theorem C11_mem_foreach {α : Type} (I : Iterable α) (l : List α) (h : FwdAs I l) (eq : α → Bool) (fuel : Nat)
    (hf : l.length < fuel) : I.memForeach eq fuel = if l.any eq then .yes else .no :=
  memForeach_of_run eq I.next _ l (h I.s0) fuel hf

/-- **Slice_Mem as it is** (`while (curr)`): a key that IS in the slice is found; for a key that is NOT, the loop does not end
    at Terminal — Terminal is compared with the key (`undef`: a stray ValueError for an Int key) -/
theorem C11_slice_mem_partial {α : Type} (I : Iterable α) (l : List α) (h : FwdAs I l) (eq : α → Bool) (fuel : Nat)
    (hf : l.length < fuel) : I.memWhileCurr eq fuel = if l.any eq then .yes else .undef :=
  memLoop_of_run eq I.next _ l (h I.s0) fuel hf

/-- … and whatever the iterable, the parameters and the key: Slice_Mem NEVER answers false -/
theorem C11_slice_mem_never_false {α : Type} (I : Iterable α) (eq : α → Bool) (fuel : Nat) : I.memWhileCurr eq fuel ≠ .no :=
  memLoop_ne_no eq I.next fuel _

/-- full statement for `mem` of a Slice — refuted by `C11_slice_mem_refuted` -/
def C11_slice_mem_statement : Prop :=
  ∀ (I : Iterable Int) (l : List Int) (key : Int) (fuel : Nat), FwdAs I l → l.length < fuel →
    I.memWhileCurr (fun x => x == key) fuel = if key ∈ l then .yes else .no

/-- **`mem(slice(array(1,2,3)), 9)`** does not answer false: the whole-sequence Slice is lawful, 9 is not in it, and the
    loop goes on to compare Terminal with 9.  With the one-token repair (`memForeach`) the answer is false. -/
theorem C11_slice_mem_refuted : ¬ C11_slice_mem_statement ∧
    (sliceI (arrayI [1, 2, 3]) 3 0 3 1).memWhileCurr (fun x => x == 9) 10 = .undef ∧
    (sliceI (arrayI [1, 2, 3]) 3 0 3 1).memWhileCurr (fun x => x == 2) 10 = .yes ∧
    (sliceI (arrayI [1, 2, 3]) 3 0 3 1).memForeach (fun x => x == 9) 10 = .no := by
  refine ⟨?_, by decide, by decide, by decide⟩
  intro H
  have hs : FwdAs (sliceI (arrayI [(1 : Int), 2, 3]) 3 0 3 1) (sliceSpec [(1 : Int), 2, 3] 0 3 1) :=
    slice_fwdAs (arrayI [(1 : Int), 2, 3]) (fun _ => (array_lawfulAs _).fwd) (fun _ => (array_lawfulAs _).bwd) 0 3 (by decide) (by decide)
      (C11_reverse_in_region 3).2.2.1
  have h := H (sliceI (arrayI [1, 2, 3]) 3 0 3 1) (sliceSpec [1, 2, 3] 0 3 1) 9 10 hs (by decide)
  revert h; decide

/-- **Range_Mem as it is**, for EVERY key: it answers the membership of `key` for a non-negative key — and the membership of
    `key + len` for a negative one (`i = i < 0 ? Range_Len(r)+i : i` treats the key as an index) -/
theorem C11_range_mem_is (start stop step key : Int) :
    rangeMem start stop step key =
      decide ((if key < 0 then (rangeLen start stop step : Int) + key else key) ∈ rangeList start stop step) := by
  rw [rangeMem_eq_fix, Bool.eq_iff_iff, rangeMemFix_iff]; simp

/-- hence Range_Mem is right for every non-negative key, and for exactly those negative keys on which `key` and `key + len`
    agree; without the normalisation line (proposed repair, `rangeMemFix`) it is right for every key -/
theorem C11_range_mem_partial (start stop step key : Int) :
    (0 ≤ key → rangeMem start stop step key = decide (key ∈ rangeList start stop step)) ∧
    (key < 0 → (rangeMem start stop step key = decide (key ∈ rangeList start stop step) ↔
      (key ∈ rangeList start stop step ↔ (rangeLen start stop step : Int) + key ∈ rangeList start stop step))) ∧
    rangeMemFix start stop step key = decide (key ∈ rangeList start stop step) := by
  refine ⟨fun h => ?_, fun h => ?_, ?_⟩
  · rw [C11_range_mem_is]; have : ¬ key < 0 := by omega
    simp [this]
  · rw [C11_range_mem_is]; simp only [h, if_true, decide_eq_decide]
    exact ⟨fun e => e.symm, fun e => e.symm⟩
  · rw [Bool.eq_iff_iff, rangeMemFix_iff]; simp

/-- full statement for `mem` of a Range — refuted by `C11_range_mem_refuted` -/
def C11_range_mem_statement : Prop :=
  ∀ a b c key : Int, rangeMem a b c key = decide (key ∈ rangeList a b c)

/-- **`mem(range(-5,5), -1)` is false although -1 is an element; `mem(range(0,10), -1)` is true although it is not** (9 is) -/
theorem C11_range_mem_refuted : ¬ C11_range_mem_statement ∧
    rangeMem (-5) 5 1 (-1) = false ∧ (-1 : Int) ∈ rangeList (-5) 5 1 ∧
    rangeMem 0 10 1 (-1) = true ∧ (-1 : Int) ∉ rangeList 0 10 1 ∧ rangeMem 0 10 (-2) 9 = true ∧ rangeMem 0 10 (-2) 8 = false := by
  refine ⟨?_, by decide, by decide, by decide, by decide, by decide, by decide⟩
  intro H
  have h := H 0 10 1 (-1)
  revert h; decide

/-! ## Non-vacuity -/

example : LawfulAs (arrayI [5, 6, 7]) [5, 6, 7] ∧ (arrayI [5, 6, 7]).forward 10 = ([5, 6, 7], .term) ∧
    (arrayI [5, 6, 7]).backward 10 = ([7, 6, 5], .term) := ⟨array_lawfulAs _, by decide, by decide⟩

example : [3, 1, 2].Nodup ∧ (tupleI [3, 1, 2]).forward 10 = ([3, 1, 2], .term) := by decide

example : (tableI [none, some 5, none, none, some 7, some 9, none]).forward 10 = ([5, 7, 9], .term) ∧
    (tableI [none, some 5, none, none, some 7, some 9, none]).backward 10 = ([9, 7, 5], .term) := by decide

example : (treeI (T.node (T.node .nil 1 .nil) 2 (T.node (T.node .nil 3 .nil) 4 .nil))).forward 10 = ([1, 2, 3, 4], .term) ∧
    (treeI (T.node (T.node .nil 1 .nil) 2 (T.node (T.node .nil 3 .nil) 4 .nil))).backward 10 = ([4, 3, 2, 1], .term) := by
  decide

example : rangeList 2 9 3 = [2, 5, 8] ∧ rangeList 2 9 (-3) = [8, 5, 2] ∧ rangeList 0 0 2 = [] ∧ rangeList 5 3 1 = [] ∧
    (rangeI 0 6 2).backward 10 = ([4, 2, 0], .term) := by decide

example : (filterI (arrayI [1, 2, 3, 4, 5, 6]) (fun x => x % 2 == 0) 100).forward 10 = ([2, 4, 6], .term) ∧
    [1, 2, 3, 4, 5, 6].length < 100 := by decide

example : (zipI [arrayI [1, 2, 3], arrayI [10, 20]]).forward 10 = ([[1, 10], [2, 20]], .term) ∧
    zipLists [[1, 2, 3], [10, 20]] = [[1, 10], [2, 20]] := by decide

example : SliceRegionFwd 5 1 4 2 ∧ SliceRegionBwd 5 1 4 2 ∧ sliceSpec [10, 11, 12, 13, 14] 1 4 2 = [11, 13] ∧
    (sliceI (arrayI [10, 11, 12, 13, 14]) 5 1 4 2).forward 10 = ([11, 13], .term) ∧
    (sliceI (arrayI [10, 11, 12, 13, 14]) 5 1 4 2).backward 10 = ([13, 11], .term) := by
  refine ⟨Or.inl ⟨by decide, Or.inr ⟨by decide, by decide⟩⟩, Or.inl ⟨by decide, Or.inr ⟨by decide, by decide⟩⟩, by decide, by decide, by decide⟩

example : (specOf (.slice (.map (.enum (.list [5, 6, 7])) 1 0) [none, none, some (-1)])).map (fun l => l.map Val.show) =
    some ["9", "7", "5"] := by decide

example : (specOf (.zip [.tuple [4, 5], .slice (.array [1, 2, 3, 4, 5]) [some 1, some 4, some 2]])).map
    (fun l => l.map Val.show) = some ["(4,2)", "(5,4)"] := by decide

/-- a List after removing its head, its tail and an inner element, inserting at the head and in the middle, clearing and
    refilling: both walks, from the link words -/
example : (mlistOf [10, 20, 30, 40] [.popAt 0]).map (fun l => ((llI l).forward 10, (llI l).backward 10)) =
      some (([20, 30, 40], .term), ([40, 30, 20], .term)) ∧
    (mlistOf [1, 2, 3, 4, 5] [.rem 1, .pop, .popAt 1, .pushAt 7 0, .pushAt 8 (-1), .resize 0, .push 6, .concat [9, 9]]).map
      (fun l => ((llI l).forward 10, (llI l).backward 10)) = some (([6, 9, 9], .term), ([9, 9, 6], .term)) ∧
    (LL.specRun 0 [1, 2, 3, 4, 5] [.rem 1, .pop, .popAt 1, .pushAt 7 0, .pushAt 8 (-1), .resize 0, .push 6, .concat [9, 9]]).1 = [6, 9, 9] ∧
    (LL.specRun 0 [1, 2, 3] [.popAt 5, .rem 9, .pushAt 4 3, .popAt (-1)]) = ([1, 2], [.index, .value, .index, .ok]) := by
  decide +kernel

example : (marrayOf [1, 2, 3] [.pushAt 9 (-1), .pushAt 8 0, .popAt 1, .resize 2, .resize 7, .push 5]).map
      (fun a => ((arI a).forward 10, (arI a).backward 10, a.nitems, a.store.length)) =
      some (([8, 2, 5], .term), ([5, 2, 8], .term), 3, 7) := by decide

example : (specOf (.slice (.mlist [1, 2, 3] [.popAt 0, .push 4]) [none, none, some (-1)])).map (fun l => l.map Val.show) =
    some ["4", "3", "2"] := by decide

/-- where a walk is not proved right `specOf` is undefined: a Slice outside its region, a Zip of unequal inputs -/
example : specOf (.slice (.array [1, 2, 3, 4, 5, 6]) [some 0, some 2]) = none ∧
    specOf (.zip [.array [1, 2, 3], .list [10, 20]]) = none ∧ specOf (.tuple [7, 7]) = none ∧
    specFwd (.slice (.tuple [1, 2, 3, 4, 5, 6]) [some 0, some 2]) = none ∧ specFwd (.tuple [7, 7]) = none := by decide

/-- the forward half composes over one-directional results: views over a Zip of UNEQUAL inputs, and over a Slice that is
    right forwards only (`slice(x,_,_,2)` over six items) — `specOf` undefined, `specFwd` defined -/
example :
    (specFwd (.filter (.zip [.array [1, 2, 3], .array [10, 20]]) 2 1)).map (fun l => l.map Val.show) = some ["(1,10)"] ∧
    specOf (.filter (.zip [.array [1, 2, 3], .array [10, 20]]) 2 1) = none ∧
    (specFwd (.map (.zip [.array [1, 2, 3], .array [10, 20]]) 1 0)).map (fun l => l.map Val.show) = some ["11", "22"] ∧
    (specFwd (.enum (.slice (.array [1, 2, 3, 4, 5, 6]) [none, none, some 2]))).map (fun l => l.map Val.show) =
      some ["(0,1)", "(1,3)", "(2,5)"] ∧
    specOf (.slice (.array [1, 2, 3, 4, 5, 6]) [none, none, some 2]) = none ∧
    (specBwd (.slice (.array [1, 2, 3, 4, 5, 6]) [some 1, none, some 2])).map (fun l => l.map Val.show) = some ["2", "4", "6"] := by
  decide +kernel

/-- the true Slice region over Terminal-absorbing iterables: stepped slices over a Tuple / a Range of seven items, also
    under Map and Filter and a second Slice, are inside `specFwd` (the last two also inside `specOf`) -/
example :
    (specFwd (.slice (.tuple [1, 2, 3, 4, 5, 6, 7]) [none, none, some 2])).map (fun l => l.map Val.show) = some ["1", "3", "5", "7"] ∧
    (specFwd (.slice (.range [some 7]) [none, none, some 3])).map (fun l => l.map Val.show) = some ["0", "3", "6"] ∧
    (specFwd (.filter (.slice (.map (.range [some 9]) 1 0) [none, none, some 2]) 4 0)).map (fun l => l.map Val.show) = some ["0", "4", "8"] ∧
    (specOf (.slice (.slice (.tuple [1, 2, 3, 4, 5, 6, 7]) [none, none, some 2]) [none, none, some 3])).map (fun l => l.map Val.show) = some ["1", "7"] ∧
    (specOf (.slice (.range [some 7]) [none, none, some (-2)])).map (fun l => l.map Val.show) = some ["6", "4", "2", "0"] := by
  decide +kernel

/-- a Zip with an EMPTY input walks backwards correctly although the lengths differ (the hypothesis of
    `C11_zip_backward_equal` in its second form) -/
example : (zipI [arrayI [1, 2, 3], arrayI ([] : List Nat)]).backward 10 = ([], .term) ∧
    zipLists [[1, 2, 3], ([] : List Nat)] = [] ∧
    (specOf (.zip [.array [1, 2, 3], .list []])).map (fun l => l.map Val.show) = some [] ∧
    (specBwd (.zip [.array [1, 2, 3], .list [7]])).map (fun l => l.map Val.show) = none := by decide

/-- hypotheses of the `get` theorems are met: an Array under a Slice is `GetPure` and its cursor is held by the caller -/
example : Expr.getPure (.slice (.array [1, 2, 3]) [some 1]) = true ∧ (arrayI [1, 2, 3]).inObject = false ∧
    (sliceI (arrayI [1, 2, 3]) 3 1 3 1).forwardWith (fun i => if i = 0 then some 0 else none) 10 = ([2, 3], .term) ∧
    (zipSameI (arrayI [1, 2, 3]) 2).forward 10 = ([[1, 1], [2, 2], [3, 3]], .term) := by decide

/-! ## The code INSIDE the proof — terms extracted from src/Iter.c and src/Table.c (CelloGen/Iter.lean, written by
    translate/g_iter.py on every run; interpreted by Cello/IterSrc.lean with C's conversions) agree with the hand model, so every
    theorem above is a theorem about the extracted code.  An edit of Slice_Arg, of a Filter_Iter_* function or of
    Table_Iter_Last / Table_Iter_Prev arrives here as a different term and the theorem named after it stops checking. -/

/-- **Slice_Arg as it is in src/Iter.c** (the three clamping statements run in source order; `n+a` is a `size_t` sum assigned back
    to the `int64_t`, `a > (int64_t)n` a signed comparison) computes `sliceArg`, for every length below 2^63 and every `int64_t`
    argument -/
theorem C11_slice_arg_source (n : Nat) (a : Int) (hn : (n : Int) < 9223372036854775808)
    (ha : -9223372036854775808 ≤ a ∧ a < 9223372036854775808) : sliceArgSrc n a = sliceArg n a :=
  sliceArgSrc_eq n a hn ha

/-- … hence what the users of `slice(…)` rely on holds of the extracted code: the result lies in `[0, n]`, an index in range is
    kept, a negative one counts from the end, anything beyond is clamped -/
theorem C11_slice_arg_source_clamps (n : Nat) (a : Int) (hn : (n : Int) < 9223372036854775808)
    (ha : -9223372036854775808 ≤ a ∧ a < 9223372036854775808) :
    0 ≤ sliceArgSrc n a ∧ sliceArgSrc n a ≤ n ∧
    (0 ≤ a → a ≤ n → sliceArgSrc n a = a) ∧ (a < 0 → -(n : Int) ≤ a → sliceArgSrc n a = n + a) ∧
    (a < -(n : Int) → sliceArgSrc n a = 0) ∧ (a > n → sliceArgSrc n a = n) := by
  rw [sliceArgSrc_eq n a hn ha]; exact C11_sliceArg_clamps n a

/-- **slice_stack through the extracted Slice_Arg** (`_` answers 0 / n / 1 per part, the step is not clamped) = `sliceStack`, the
    function `denote` uses, for every argument list -/
theorem C11_slice_stack_source (n : Nat) (hn : (n : Int) < 9223372036854775808) (args : List (Option Int))
    (ha : ∀ x ∈ args, ∀ a, x = some a → -9223372036854775808 ≤ a ∧ a < 9223372036854775808) :
    sliceStackSrc n args = sliceStack n args :=
  sliceStackSrc_eq n hn args ha

/-- with the unsigned comparison `a > n` of the old code (before a67379b) the same interpreter computes the OLD result: the
    translator's reading of the cast matters -/
example : ternRun 3 (-6) ⟨.a, .gt, .n, .nCast, .a⟩ = 3 ∧ ternRun 3 (-6) ⟨.a, .gt, .nCast, .nCast, .a⟩ = -6 ∧
    sliceArgSrc 3 (-9) = 0 ∧ sliceArgSrc 3 (-2) = 1 ∧ sliceArgSrc 3 7 = 3 ∧ sliceArgSrc 3 2 = 2 ∧
    sliceStackSrc 5 [some (-2), none, some (-1)] = some (3, 5, -1) := by decide

/-- **the four Filter functions as they are in src/Iter.c** (Init: iter_init then skip with iter_next; Next: iter_next / iter_next;
    Last: iter_last then skip with iter_prev; Prev: iter_prev / iter_prev; Terminal tested before the predicate is called) are
    the Filter of the model -/
theorem C11_filter_source {α : Type} (I : Iterable α) (p : α → Bool) (fuel : Nat) : filterSrcI I p fuel = filterI I p fuel :=
  filterSrcI_eq I p fuel

/-- … hence the Filter built from the extracted functions yields exactly the accepted elements, forwards and BACKWARDS -/
theorem C11_filter_source_lawful {α : Type} (I : Iterable α) (p : α → Bool) (fuel : Nat) (l : List α) (hf : l.length < fuel) :
    (LawfulAs I l → LawfulAs (filterSrcI I p fuel) (l.filter p)) ∧
    (FwdAs I l → FwdAs (filterSrcI I p fuel) (l.filter p)) ∧ (BwdAs I l → BwdAs (filterSrcI I p fuel) (l.filter p)) := by
  rw [filterSrcI_eq]
  exact ⟨fun h => filter_lawfulAs I p fuel h hf, fun h => filter_fwdAs I p fuel h hf, fun h => filter_bwdAs I p fuel h hf⟩

example : (filterSrcI (arrayI [1, 2, 3, 4, 5, 6]) (fun x => x % 2 = 0) 10).backward 10 = ([6, 4, 2], .term) ∧
    (filterSrcI (arrayI [1, 2, 3, 4, 5, 6]) (fun x => x % 2 = 0) 10).forward 10 = ([2, 4, 6], .term) ∧
    (filterSrcI (arrayI [1, 3]) (fun x => x % 2 = 0) 10).backward 10 = ([], .term) := by decide

/-- **Table_Iter_Last as it is in src/Table.c** — `size_t i = nslots-1; while (true) { if (used i) return key i; if (i == 0) break; i--; }`
    on a `size_t` that would wrap — returns what `scanDown` returns for EVERY slot array shorter than 2^64: it examines slot 0
    and never reads outside the array -/
theorem C11_table_last_source {α : Type} (slots : List (Option α)) (hl : (slots.length : Int) < 18446744073709551616) (s : Option Nat) :
    (tableSrcI slots).last s = (tableI slots).last s :=
  tableSrc_last_eq slots hl s

/-- **Table_Iter_Prev as it is in src/Table.c** — step one slot down, `while (true) { if (curr < slot 0) return Terminal; if (used)
    return curr; step down }` — from every cursor inside the array -/
theorem C11_table_prev_source {α : Type} (slots : List (Option α)) (i : Nat) (hi : i < slots.length) :
    (tableSrcI slots).prev (some i) = (tableI slots).prev (some i) :=
  tableSrc_prev_eq slots i hi

/-- **Table with the extracted Last / Prev is lawful**: foreach yields the used slots in order, the backward walk — through the
    extracted loop programs — their reverse (down to and including slot 0), `len` their number; every pattern of holes -/
theorem C11_table_source_lawful {α : Type} (slots : List (Option α)) (hl : (slots.length : Int) < 18446744073709551616) :
    LawfulAs (tableSrcI slots) (occupied slots) ∧ (tableSrcI slots).len = some (occupied slots).length :=
  ⟨tableSrc_lawfulAs slots hl, rfl⟩

example : (tableSrcI [some 7, none, some 8, none]).backward 10 = ([8, 7], .term) ∧
    (tableSrcI [some 7, none, none]).backward 10 = ([7], .term) ∧
    (tableSrcI ([none, none] : List (Option Nat))).backward 10 = ([], .term) ∧
    (tableSrcI ([] : List (Option Nat))).backward 10 = ([], .term) := by decide

/-- the tidied loop `for (size_t i = nslots-1; i > 0; i--)` (seeded changes c11_b / c11_f / c11_h / c11_l / c11_n) read by
    the same translator and run by the same interpreter loses the entry in slot 0: the agreement theorem is not true of
    every loop that "looks right" -/
theorem C11_table_last_tidied_refuted :
    runScan ([some 7, none] : List (Option Nat)) tableIterLastTidied 0 3 = (none, .term) ∧
      ((tableI ([some 7, none] : List (Option Nat))).last none).2 = .item 7 := by decide

end Cello.Iter
