/-
  C20 — File streams round-trip data and refuse use when closed.

  Property theorems only.  Lemmas: CelloProofs/Lemmas/File*.lean (how they hang together: DESIGN.md §6 C20, "Proof layers").
  Models: Cello/File.lean (the File_* wrappers of src/File.c over an abstract `Stdio σ`; `Multi`, several objects over one library,
  with `copy` / `assign`, which for File are the default memcpy; programs with `with` blocks, `execStmt`; the reference stdio `refIO`;
  the specifications `track` for ONE object's log, `gtrack` over HANDLES for the log of the process, `wtrack` for runs of with
  blocks), Cello/FileProg.lean (the bodies of File_Open / File_Del and the header of `with_in` as extracted programs),
  Cello/FileText.lean (print_to / scan_from conversion by conversion).  Source-derived facts: CelloGen/File.lean, CelloGen/FileScan.lean.

  Two known findings delimit the close-once clause (both are refuted below on concrete runs of the model, which mirrors
  the code, and both are reproduced on the library by corpus/kf_c20_*.ops):
    KF-C20-copy-aliases-handle  `copy(f)` / `assign(g, f)` of an open File duplicate the FILE* (File has no Assign / Copy
                                instance): one fopen then faces two fcloses and a closed handle reaches stdio; `assign`
                                onto an open File drops its handle without fclose.  Hypothesis `cleanRun` / `cleanList`.
    KF-C20-with-early-exit      `break`, `return` and an exception leave a with block without stop_in: the stream stays
                                open.  Hypothesis `leave.runsStep = true`; theorems named `_partial`.
  `Process` (popen / pclose, the second Stream class of src/File.c) shares the wrapper model (C20_process_same_wrappers).
  The collector as the third closer (GC_Sweep → File_Del) is `MOp.del` in the model; it is run on the library by the op `drop`.

  Reading guide.  A File object is `Option Handle` (`none` = `f->file` is NULL).  Every wrapper returns the stdio calls
  it made.  `track cur log = some cur'` (Cello/File.lean, "What a well-behaved call log looks like") says that `log` is
  well bracketed from an object holding `cur` and that the object holds `cur'` at the end.  Hence: each successful
  fopen is matched by exactly one fclose of that handle before the next fopen or at the latest when the object is closed
  or deleted, nothing is closed twice, no stale or NULL handle ever reaches stdio.
-/
import CelloProofs.Lemmas.FileRef
import CelloProofs.Lemmas.FileTrack
import CelloProofs.Lemmas.FileWith
import CelloProofs.Lemmas.FileGlobal
import CelloProofs.Lemmas.FileText
import CelloGen.File
import CelloGen.FileScan
import Cello.FileProg

namespace Cello.File

/-! ## link (A): what the proofs assume about src/File.c is what the source says now -/

/-- every wrapper the model treats as "closed-handle test, then stdio" has, in the source as it is now, the test
    `if (f->file is NULL) throw(IOError …)` in front of its first stdio call, and calls exactly the stdio functions the
    model says (table regenerated from src/File.c on every run) -/
theorem C20_guard_table :
    (CelloGen.File.table.filter (fun r => r.name ∉ ["File_New", "File_Del", "File_Open"])).map
        (fun r => (r.name, r.stdio, r.guardFirst))
      = modelledWrappers.map (fun p => (p.1, p.2, true)) := by
  simp [CelloGen.File.table, modelledWrappers]

/-- the remaining shape facts: File_Close is guarded and always drops the handle (fix b3448e7); File_Open closes a held
    handle first, calls only fopen and throws on NULL; File_Del closes a held handle and calls no stdio itself; File_New
    opens only when given arguments; the error translations; which function is sclose / stop / destruct.
    (The `with` macro: C20_with_macro_clauses.) -/
theorem C20_source_shape :
    CelloGen.File.closeGuarded = true ∧ CelloGen.File.closeDropsAlways = true ∧
    CelloGen.File.openClosesFirst = true ∧ CelloGen.File.openThrowsOnNull = true ∧
    CelloGen.File.delClosesIfHeld = true ∧ CelloGen.File.newOpensIfArgs = true ∧
    CelloGen.File.readShape = true ∧ CelloGen.File.writeShape = true ∧ CelloGen.File.seekShape = true ∧
    CelloGen.File.tellShape = true ∧ CelloGen.File.flushShape = true ∧ CelloGen.File.eofShape = true ∧
    CelloGen.File.formatShape = true ∧
    (CelloGen.File.table.filter (fun r => r.name ∈ ["File_New", "File_Del", "File_Open"])).map (fun r => (r.name, r.stdio))
      = [("File_Del", []), ("File_New", []), ("File_Open", ["fopen"])] ∧
    CelloGen.File.instNew = ["File_New", "File_Del"] ∧
    CelloGen.File.instStart = ["NULL", "File_Close", "NULL"] ∧
    CelloGen.File.instStream = ["File_Open", "File_Close", "File_Seek", "File_Tell", "File_Flush", "File_EOF", "File_Read", "File_Write"] ∧
    CelloGen.File.instFormat = ["File_Format_To", "File_Format_From"] :=
  ⟨rfl, rfl, rfl, rfl, rfl, rfl, rfl, rfl, rfl, rfl, rfl, rfl, rfl, by simp [CelloGen.File.table], rfl, rfl, rfl, rfl⟩

/-- `copy` and `assign` of a File are what the model says (`MOp.copy` / `MOp.assign`): File declares no Assign and no Copy
    instance, `assign` without an Assign instance is `memcpy(self, obj, size(type))`, `copy` without a Copy instance is
    `assign(alloc(type), self)` — the region of known finding KF-C20-copy-aliases-handle.  (A File_Assign / File_Copy added
    to src/File.c makes this theorem, or already the translator, fail: the model must then follow.) -/
theorem C20_copy_is_memcpy :
    CelloGen.File.instClasses = ["Doc", "New", "Start", "Stream", "Format"] ∧
    CelloGen.File.assignFallsBackToMemcpy = true ∧ CelloGen.File.copyFallsBackToAssignAlloc = true :=
  ⟨rfl, rfl, rfl⟩

/-- the `with` macro, clause by clause, is the for loop the model executes (`execStmt`): the init clause hands the macro
    argument `S` to start_in and binds the result to `X`; the condition is `X isnt NULL`; the step clause hands the loop
    variable `X` — not `S` again — to stop_in; start_in returns its argument, stop_in calls the type's `stop` and returns
    NULL (so the body runs once) -/
theorem C20_with_macro_clauses :
    CelloGen.File.withMacro = "for(var X = start_in(S); X isnt NULL; X = stop_in(X))" ∧
    CelloGen.File.withInitArg = "S" ∧ CelloGen.File.withCondNotNull = true ∧ CelloGen.File.withStepArg = "X" ∧
    CelloGen.File.withStopsBound = true ∧
    CelloGen.File.startIn = "struct Start* s = instance(self, Start); if (s and s->start) { s->start(self); } return self;" ∧
    CelloGen.File.stopIn = "struct Start* s = instance(self, Start); if (s and s->stop) { s->stop(self); } return NULL;" :=
  ⟨rfl, rfl, rfl, rfl, rfl, rfl, rfl⟩

/-- the macro configuration the driver runs the model with (read from the header) is the one the theorems are about -/
theorem C20_with_current_cfg :
    (⟨if CelloGen.File.withStopsBound then .bound else .source⟩ : WithCfg) = WithCfg.fixed := by decide

/-- the configuration the driver runs the model with (read from the source) is the repaired one the theorems are about -/
theorem C20_current_cfg : (⟨CelloGen.File.closeGuarded, CelloGen.File.closeDropsAlways⟩ : Cfg) = Cfg.fixed := rfl

/-- **C20 (closed ⇒ IOError, no stdio).** For every stdio implementation, every library state and every operation that
    needs an open File (sclose, stop, leaving a with block, sseek, stell, sflush, seof, sread, swrite, print_to with a
    non-empty format, scan_from): on a File that is not open it raises IOError, makes no stdio call, and changes neither
    the library state nor the object.
    (print_to / scan_from look at their arguments before they look at the File — src/Show.c print_to_with raises
    FormatError for a format with more specifications than arguments whether the File is open or not; `.print frags` is a
    call whose arguments were accepted, and the empty format, which never reaches File_Format_To, is `.print []`.) -/
theorem C20_closed_refused {σ : Type} (io : Stdio σ) (l : σ) (op : Op) (h : op.needsOpen = true) :
    step io Cfg.fixed l none op = ⟨l, none, .raised .IOError, []⟩ :=
  step_refused io Cfg.fixed rfl l op h

/-- the same for the code as it is in /repo now (configuration read by the translator) -/
theorem C20_closed_refused_current {σ : Type} (io : Stdio σ) (l : σ) (op : Op) (h : op.needsOpen = true) :
    step io ⟨CelloGen.File.closeGuarded, CelloGen.File.closeDropsAlways⟩ l none op = ⟨l, none, .raised .IOError, []⟩ :=
  step_refused io _ rfl l op h

/-- **After any closing operation the File is closed, whatever fclose answered** — so a second sclose (or anything else
    that needs an open File) is refused without a stdio call; in particular fclose is never called twice for one fopen. -/
theorem C20_after_close_refused {σ : Type} (io : Stdio σ) (l : σ) (f : Option Handle) (c : Op) (hc : c.closes = true)
    (op : Op) (h : op.needsOpen = true) :
    let r := step io Cfg.fixed l f c
    r.f = none ∧ step io Cfg.fixed r.lib r.f op = ⟨r.lib, none, .raised .IOError, []⟩ := by
  intro r
  have hf : r.f = none := step_closes io l f c hc
  exact ⟨hf, by rw [hf]; exact C20_closed_refused io r.lib op h⟩

/-- operations that are allowed on a closed File make no stdio call either, except `open` which calls only fopen -/
theorem C20_closed_other {σ : Type} (io : Stdio σ) (l : σ) :
    (step io Cfg.fixed l none .destruct).calls = [] ∧ (step io Cfg.fixed l none .withEnter).calls = [] ∧
    (step io Cfg.fixed l none (.print [])).calls = [] ∧
    ∀ k m, (step io Cfg.fixed l none (.open k m)).calls = [.fopen k m (io.fopen l k m).2] := by
  refine ⟨rfl, rfl, rfl, fun k m => ?_⟩
  show (fileOpen io Cfg.fixed l none k m).calls = _
  rw [fileOpen_none]

/-- `new(File, $S(path))` — exactly one constructor argument: File_New reads `get(args, $I(1))` before File_Open is entered,
    IndexOutOfBoundsError is raised, no stdio function is called and no object comes into being (nothing can leak) -/
theorem C20_new_one_arg {σ : Type} (io : Stdio σ) (s : Multi σ) (o k : Nat) (hfree : lookup o s.objs = none) :
    s.stepR io Cfg.fixed o (.new1 k) = some (⟨s.lib, none, .raised .IndexOutOfBoundsError, []⟩, false) ∧
    (s.step io Cfg.fixed o (.new1 k)).log = s.log ∧ (s.step io Cfg.fixed o (.new1 k)).held o = none ∧
    (s.step io Cfg.fixed o (.new1 k)).lib = s.lib := by
  simp [Multi.stepR, Multi.step, hfree, Multi.apply, Multi.held, lookup_erase_self]

/-- **What swrite / sread / stell / seof / sseek return is what stdio returned** — for EVERY stdio implementation (no
    reference stdio involved).  On an open File each wrapper makes exactly the one stdio call (sread: plus `feof` when the
    item was not complete) on the File's own handle, keeps the handle, leaves the library in the state that call
    produced, hands back exactly the item count / bytes / position / flag stdio answered, and raises IOError exactly in
    the cases File.c spells out. -/
theorem C20_wrappers_transparent {σ : Type} (io : Stdio σ) (l : σ) (h : Handle) :
    (∀ d, let r := fileWrite io l (some h) d;
      r.lib = (io.fwrite l h d).1 ∧ r.f = some h ∧ r.calls = [.on .fwrite h] ∧
      (∀ n, r.out = .ok n → n = (io.fwrite l h d).2) ∧
      (r.out = .raised .IOError ↔ ((io.fwrite l h d).2 ≠ 1 ∧ d.length ≠ 0))) ∧
    (∀ size, let r := fileRead io l (some h) size;
      r.f = some h ∧ (∀ num data, r.out = .ok (num, data) → (num, data) = (io.fread l h size).2) ∧
      (r.calls = [.on .fread h] ∨ r.calls = [.on .fread h, .on .feof h])) ∧
    (let r := fileTell io l (some h);
      r.lib = (io.ftell l h).1 ∧ r.f = some h ∧ r.calls = [.on .ftell h] ∧ ∀ p, r.out = .ok p ↔ (io.ftell l h).2 = some p) ∧
    (let r := fileEof io l (some h);
      r.lib = (io.feof l h).1 ∧ r.f = some h ∧ r.calls = [.on .feof h] ∧ r.out = .ok (io.feof l h).2) ∧
    (∀ off wh, let r := fileSeek io l (some h) off wh;
      r.lib = (io.fseek l h off wh).1 ∧ r.f = some h ∧ r.calls = [.on .fseek h] ∧
      (r.out = .ok () ↔ (io.fseek l h off wh).2 = true)) := by
  refine ⟨fun d => ?_, fun size => ?_, ?_, ?_, fun off wh => ?_⟩
  · rw [fileWrite_some]
    refine ⟨rfl, rfl, rfl, ?_⟩
    dsimp only
    by_cases hc : (io.fwrite l h d).2 ≠ 1 ∧ d.length ≠ 0
    · rw [if_pos hc]; exact ⟨fun n hn => (nomatch hn), fun _ => hc, fun _ => rfl⟩
    · rw [if_neg hc]; exact ⟨fun n hn => (Out.ok.inj hn).symm, fun h => (nomatch h), fun h => absurd h hc⟩
  · rw [fileRead_some]
    split
    · refine ⟨rfl, fun n dd hn => ?_, Or.inr rfl⟩
      dsimp only at hn
      split at hn
      · exact (Out.ok.inj hn).symm
      · cases hn
    · exact ⟨rfl, fun n dd hn => (Out.ok.inj hn).symm, Or.inl rfl⟩
  · rw [fileTell_some]
    refine ⟨rfl, rfl, rfl, fun p => ?_⟩
    dsimp only; cases (io.ftell l h).2 <;> simp
  · exact ⟨rfl, rfl, rfl, rfl⟩
  · rw [fileSeek_some]
    refine ⟨rfl, rfl, rfl, ?_⟩
    dsimp only; cases (io.fseek l h off wh).2 <;> simp

/-- **C20 (close-once), one object.** For every stdio implementation (fopen and fclose may fail at will), every start
    state and every history of operations — open, reopen, sclose, stop, with (enter / normal exit), destruct, seek, tell,
    flush, eof, read, write, print, scan, in any order — the stdio calls the history makes continue the log in a
    well-bracketed way, and `track` ends with exactly the handle the object holds. -/
theorem C20_close_once {σ : Type} (io : Stdio σ) (s : Hist σ) (ops : List Op) :
    ∃ suf, (runOps io Cfg.fixed s ops).log = s.log ++ suf ∧ track s.f suf = some (runOps io Cfg.fixed s ops).f :=
  runOps_track io s ops

/-- counting form: over any history that starts with a closed File and an empty log, the number of successful fopens
    equals the number of fcloses plus one if the File is open at the end -/
theorem C20_close_once_count {σ : Type} (io : Stdio σ) (l : σ) (ops : List Op) :
    let e := runOps io Cfg.fixed ⟨l, none, []⟩ ops
    (e.log.filter isOpenOk).length = (e.log.filter isClose).length + (if e.f.isSome then 1 else 0) := by
  obtain ⟨suf, hl, _, hc⟩ := runOps_count io ⟨l, none, []⟩ ops
  rw [List.nil_append] at hl
  simpa [hl] using hc

/-- … and once the history ends with sclose, stop, the end of a with block or del (whether or not that fclose
    succeeds), every successful fopen has been matched by exactly one fclose -/
theorem C20_all_closed_at_end {σ : Type} (io : Stdio σ) (l : σ) (ops : List Op) (c : Op) (hc : c.closes = true) :
    let e := runOps io Cfg.fixed ⟨l, none, []⟩ (ops ++ [c])
    e.f = none ∧ (e.log.filter isOpenOk).length = (e.log.filter isClose).length := by
  have hf : (runOps io Cfg.fixed ⟨l, none, []⟩ (ops ++ [c])).f = none := by
    rw [runOps_append]; exact step_closes io _ _ c hc
  have h := C20_close_once_count io l (ops ++ [c])
  dsimp only at h ⊢
  rw [hf] at h
  exact ⟨hf, by simpa using h⟩

/-- **C20 (close-once), any number of objects over one library, OVER HANDLES** (what the C library sees; a statement
    about each object's own calls cannot see a handle that two objects hold).
    For every stdio implementation, every start state in which distinct objects hold distinct handles (`Sep`) and the
    handles that are open are exactly the ones the objects hold (`LiveIs live`), and every interleaving of `new` (with or
    without arguments, possibly failing), `del`, operations on any objects, `copy` and `assign` — PROVIDED no File object is
    copied / assigned while it or its target is open (`cleanRun`; the excluded region is known finding
    KF-C20-copy-aliases-handle, refuted below): if stdio never hands out a handle that is still open (`freshCalls`), the
    log of the whole process is accepted by the automaton over handles — no call on NULL or on a handle that is not open,
    every fclose ends the life of an open handle, so no fopen faces two fcloses —, afterwards distinct objects still
    hold distinct handles, the handles open are exactly those the objects hold (nothing leaked, nothing stale), and the
    counts balance: open before + successful fopens = open after + fcloses.  Moreover the calls made on behalf of each
    single object are well bracketed and end with what that object holds (the per-object form). -/
theorem C20_close_once_system {σ : Type} (io : Stdio σ) (s : Multi σ) (steps : List (Nat × MOp)) (live : List Handle)
    (hsep : s.Sep) (hlive : s.LiveIs live) (hclean : s.cleanRun io Cfg.fixed steps = true) :
    let e := s.run io Cfg.fixed steps
    ∃ suf, e.log = s.log ++ suf ∧
      (freshCalls live (untag suf) = true →
        ∃ live', gtrack live (untag suf) = some live' ∧ e.Sep ∧ e.LiveIs live' ∧
          live.length + ((untag suf).filter isOpenOk).length = live'.length + ((untag suf).filter isClose).length) ∧
      ∀ o, track (s.held o) (proj o suf) = some (e.held o) := by
  obtain ⟨suf, hl, hg, ht⟩ := (Multi.run_tracks io s steps hclean).global
  exact ⟨suf, hl, hg live hsep hlive, ht⟩

/-- from a start in which no File is open (every program's start): the log of the whole process is accepted from the
    empty set of handles, and successful fopens = fcloses + handles still held by objects -/
theorem C20_close_once_from_closed {σ : Type} (io : Stdio σ) (s : Multi σ) (hs : ∀ p ∈ s.objs, p.2 = none)
    (steps : List (Nat × MOp)) (hclean : s.cleanRun io Cfg.fixed steps = true) :
    let e := s.run io Cfg.fixed steps
    ∃ suf, e.log = s.log ++ suf ∧
      (freshCalls [] (untag suf) = true →
        ∃ live', gtrack [] (untag suf) = some live' ∧ e.Sep ∧ e.LiveIs live' ∧
          ((untag suf).filter isOpenOk).length = live'.length + ((untag suf).filter isClose).length) := by
  intro e
  obtain ⟨h1, h2⟩ := Multi.closed_start s (held_of_all_none s hs)
  obtain ⟨suf, hl, hg, _⟩ := C20_close_once_system io s steps [] h1 h2 hclean
  refine ⟨suf, hl, fun hf => ?_⟩
  obtain ⟨L, g, a, b, c⟩ := hg hf
  exact ⟨L, g, a, b, by simpa using c⟩

/-- the hypotheses are met by a concrete history under the reference stdio that creates, copies and assigns CLOSED Files
    (that is allowed), opens, reopens, deletes: stdio is fresh, the log is accepted, one handle is open at the end (held by
    object 5) -/
example :
    let s0 : Multi Ref := ⟨Ref.init, [(0, none), (1, none)], []⟩
    let steps : List (Nat × MOp) :=
      [(4, .new none), (5, .copy 4), (0, .assign 5), (4, .op (.open 0 .w)), (5, .op (.open 1 .w)), (4, .op (.write [1, 2])),
       (4, .op (.open 2 .w)), (1, .assign 0), (4, .del), (5, .op (.write [3]))]
    (∀ p ∈ s0.objs, p.2 = none) ∧ s0.cleanRun refIO Cfg.fixed steps = true ∧
    freshCalls [] (untag (s0.run refIO Cfg.fixed steps).log) = true ∧
    gtrack [] (untag (s0.run refIO Cfg.fixed steps).log) = some [2] ∧ (s0.run refIO Cfg.fixed steps).held 5 = some 2 := by
  decide

/-- the full statement, without the hypothesis on copy / assign (already false under the reference stdio from the empty
    system) -/
def C20_close_once_system_statement : Prop :=
  ∀ (steps : List (Nat × MOp)),
    let s0 : Multi Ref := ⟨Ref.init, [], []⟩
    let e := s0.run refIO Cfg.fixed steps
    freshCalls [] (untag e.log) = true →
      ∃ live', gtrack [] (untag e.log) = some live' ∧ e.Sep ∧ e.LiveIs live'

/-- **Known finding KF-C20-copy-aliases-handle: the statement without the hypothesis is refuted.**  File has no Assign and
    no Copy instance, so `copy(f)` is `assign(alloc(File), f)` and `assign` is `memcpy`: the FILE* is duplicated.
    Witness 1 (reference stdio): `f = new(File, "f0", "w"); g = copy(f); sclose(f); swrite(g, "x"); sclose(g)` — after the
    copy two objects hold handle 1 (`Sep` fails); sclose(f) closes it; swrite(g) hands the closed handle to fwrite (no
    IOError from the closed-handle test, it sees a non-NULL pointer); sclose(g) hands it to fclose a second time: one
    successful fopen, two fcloses of the same handle, the log of the process is rejected (`gtrack = none`) — while the
    per-object logs of f and of g each look well bracketed from what that object held, which is why the statement
    has to be made over handles.
    Witness 2: `f = new(File, "f0", "w"); g = new(File); assign(f, g); del(f); del(g)` — the memcpy overwrites the handle f
    held: one fopen, no fclose, handle 1 is still open and no object holds it (`LiveIs` fails: a leak).
    Witness 3 (`assign(g, f)` with f open, g closed) aliases like `copy`. -/
theorem C20_copy_aliases_refuted :
    ¬ C20_close_once_system_statement ∧
    (let s0 : Multi Ref := ⟨Ref.init, [], []⟩
     let e1 := s0.run refIO Cfg.fixed [(4, .new (some (0, .w))), (5, .copy 4)]
     let e := s0.run refIO Cfg.fixed
       [(4, .new (some (0, .w))), (5, .copy 4), (4, .op .close), (5, .op (.write [120])), (5, .op .close)]
     e1.held 4 = some 1 ∧ e1.held 5 = some 1 ∧
     e.log = [(4, .fopen 0 .w (some 1)), (4, .on .fclose 1), (5, .on .fwrite 1), (5, .on .fclose 1)] ∧
     freshCalls [] (untag e.log) = true ∧ gtrack [] (untag e.log) = none ∧
     gtrack [] (untag (e.log.take 2)) = some [] ∧          -- accepted up to sclose(f); the next call is on a closed handle
     ((untag e.log).filter isOpenOk).length = 1 ∧ ((untag e.log).filter isClose).length = 2 ∧
     track none (proj 4 e.log) = some none ∧ track (some 1) (proj 5 e.log) = some none ∧
     s0.cleanRun refIO Cfg.fixed [(4, .new (some (0, .w))), (5, .copy 4)] = false) ∧
    (let s0 : Multi Ref := ⟨Ref.init, [], []⟩
     let e := s0.run refIO Cfg.fixed [(4, .new (some (0, .w))), (5, .new none), (4, .assign 5), (4, .del), (5, .del)]
     e.log = [(4, .fopen 0 .w (some 1))] ∧ e.objs = [] ∧ gtrack [] (untag e.log) = some [1] ∧
     (e.lib.streams.map (·.1)) = [1]) ∧
    (let s0 : Multi Ref := ⟨Ref.init, [], []⟩
     let e := s0.run refIO Cfg.fixed [(4, .new (some (0, .w))), (5, .new none), (5, .assign 4), (5, .del), (4, .del)]
     e.log = [(4, .fopen 0 .w (some 1)), (5, .on .fclose 1), (4, .on .fclose 1)] ∧ gtrack [] (untag e.log) = none) := by
  refine ⟨fun h => ?_, by decide, by decide, by decide⟩
  obtain ⟨L, hg, _⟩ :=
    h [(4, .new (some (0, .w))), (5, .copy 4), (4, .op .close), (5, .op (.write [120])), (5, .op .close)] (by decide)
  exact Option.some_ne_none L (hg.symm.trans (by decide))

/-! ## the `with` construct: `for(var X = start_in(S); X isnt NULL; X = stop_in(X))`

  Programs are lists of `Stmt`: operations on named objects and with blocks whose source expression is a variable or
  a constructor call (`new(File, …)` in the header: every evaluation constructs and opens another File), with any body
  (nested blocks included) and any of the five ways out (fall off the end, continue, break, return, exception). -/

/-- **C20 (close-once) for programs with `with` blocks** (extends C20_close_once_system).  For every stdio
    implementation, every program, every start state and every object: the stdio calls made on behalf of that object
    continue its log in a well-bracketed way and end with exactly what the object holds.  (This holds for either
    variant of the step clause: each single object is always used correctly.  What the variant `stop_in(S)` breaks is
    WHICH object is stopped: the next theorems.) -/
theorem C20_with_close_once_system {σ : Type} (io : Stdio σ) (w : WithCfg) (s : WSys σ) (p : List Stmt)
    (hclean : cleanList io Cfg.fixed w p s = true) (o : Nat) :
    ∃ suf, (execList io Cfg.fixed w p s).m.log = s.m.log ++ suf ∧
      track (s.m.held o) (proj o suf) = some ((execList io Cfg.fixed w p s).m.held o) :=
  (execList_tracks io w p s hclean).imp fun _ h => ⟨h.1, h.2 o⟩

/-- **… and over handles, for the whole process** (extends C20_close_once_system to programs).  For every stdio, every
    program that never copies / assigns an open File — any nesting of with blocks, any way out of them, either variant of
    the step clause — from a separated state with exactly `live` open: if stdio hands out no handle that is still open,
    the log of the process is accepted by the automaton over handles, objects still hold distinct handles, and the handles
    open at the end are exactly the ones the objects hold.  (A block left by break / return / an exception leaves its
    stream open, but HELD: the File can still be closed.  That it is not closed by leaving the block is the next finding.) -/
theorem C20_with_close_once_global {σ : Type} (io : Stdio σ) (w : WithCfg) (s : WSys σ) (p : List Stmt) (live : List Handle)
    (hsep : s.m.Sep) (hlive : s.m.LiveIs live) (hclean : cleanList io Cfg.fixed w p s = true) :
    let e := execList io Cfg.fixed w p s
    ∃ suf, e.m.log = s.m.log ++ suf ∧
      (freshCalls live (untag suf) = true →
        ∃ live', gtrack live (untag suf) = some live' ∧ e.m.Sep ∧ e.m.LiveIs live' ∧
          live.length + ((untag suf).filter isOpenOk).length = live'.length + ((untag suf).filter isClose).length) := by
  obtain ⟨suf, hl, hg, _⟩ := (execList_tracks io w p s hclean).global
  exact ⟨suf, hl, hg live hsep hlive⟩

/-- **One block, spelled out.**  Under the macro as it is, for every source expression, every body and every way out:
    the source expression is evaluated by the init clause and nowhere else; if its constructor throws nothing else
    happens; otherwise the body runs with the loop variable bound to the value `x` of that one evaluation, and then —
    exactly when the body fell off its end or executed `continue` — File_Close is applied to that same `x`
    (break, return and an exception leave the state exactly as the body left it). -/
theorem C20_with_statement_trace {σ : Type} (io : Stdio σ) (cfg : Cfg) (src : Src) (body : List Stmt) (leave : Leave)
    (s : WSys σ) :
    let i := initClause io cfg s.m src
    execStmt io cfg WithCfg.fixed (.withIn src body leave) s =
      match i.x with
      | none => ⟨i.m, s.ev ++ [.eval src none]⟩
      | some x =>
        let b := execList io cfg WithCfg.fixed body ⟨i.m, s.ev ++ [.eval src (some x), .start x]⟩
        if leave.runsStep then ⟨b.m.step io cfg x (.op .withExit), b.ev ++ [.stop x]⟩
        else ⟨b.m, b.ev ++ [.left leave]⟩ := by
  intro i
  have hie := initClause_evs io cfg s.m src
  cases hx : (initClause io cfg s.m src).x with
  | none => rw [hx] at hie; rw [execStmt_withIn_none io cfg _ src body leave s hx, hie]
  | some x =>
    rw [hx] at hie
    cases hl : leave.runsStep with
    | true => rw [execStmt_withIn_stepped io cfg src body leave s x hx hl, hie]; rfl
    | false => rw [execStmt_withIn_left io cfg _ src body leave s x hx hl, hie]; rfl

/-- **The protocol of with blocks, for every program.**  Under the macro as it is, the events of any program are
    accepted by `wtrack`: every evaluation of a source expression that yields an object is followed at once by start_in
    of exactly that object (no evaluation belongs to a step clause), every stop_in is applied to the loop variable of the
    innermost block being executed — the object that block's one evaluation returned — and ends that block, break and
    exceptions end it without stop_in, and at the end no block is left open. -/
theorem C20_with_protocol {σ : Type} (io : Stdio σ) (cfg : Cfg) (s : WSys σ) (p : List Stmt) :
    ∃ evs, (execList io cfg WithCfg.fixed p s).ev = s.ev ++ evs ∧ wtrack ([], none) evs = some ([], none) :=
  execList_protocol io cfg p s []

/-- in numbers: over any program the source expressions were evaluated exactly once per block — the evaluations are the
    blocks entered plus the constructors that threw — and every block entered was left exactly once -/
theorem C20_with_evaluated_once {σ : Type} (io : Stdio σ) (cfg : Cfg) (s : WSys σ) (p : List Stmt) :
    ∃ evs, (execList io cfg WithCfg.fixed p s).ev = s.ev ++ evs ∧
      (evs.filter isEval).length = (evs.filter isStart).length + (evs.filter isEvalFail).length ∧
      (evs.filter isStart).length = (evs.filter isExit).length := by
  obtain ⟨evs, h1, h2⟩ := execList_protocol io cfg p s []
  have := wtrack_count ([], none) ([], none) evs h2
  exact ⟨evs, h1, by simpa using this.1, by simpa using this.2⟩

/-- The full statement of "leaving a with block closes the stream": for every stdio, every source expression, every body
    and EVERY way out, afterwards the object the init clause bound holds no handle.  False for break / return / exception
    (C20_with_early_exit_refuted); proved for the two ways that reach the step clause (C20_with_closes_bound_partial). -/
def C20_with_closes_statement : Prop :=
  ∀ (σ : Type) (io : Stdio σ) (src : Src) (body : List Stmt) (leave : Leave) (s : WSys σ) (x : Nat),
    (initClause io Cfg.fixed s.m src).x = some x →
    (execStmt io Cfg.fixed WithCfg.fixed (.withIn src body leave) s).m.held x = none

/-- **Leaving a with block closes the stream of the object it was entered with — through the step clause.**  For every
    stdio (fclose may fail), every source expression, every body — which may close, reopen or even delete that object —
    and both ways of reaching the step clause (falling off the end, `continue`): afterwards the object the init clause
    bound holds no handle.  `_partial`: restricted to `leave.runsStep = true`; what is missing is exactly the region of
    known finding KF-C20-with-early-exit, where the statement is false (C20_with_early_exit_leaves_open,
    C20_with_early_exit_refuted). -/
theorem C20_with_closes_bound_partial {σ : Type} (io : Stdio σ) (src : Src) (body : List Stmt) (leave : Leave) (s : WSys σ)
    (x : Nat) (hx : (initClause io Cfg.fixed s.m src).x = some x) (hl : leave.runsStep = true) :
    (execStmt io Cfg.fixed WithCfg.fixed (.withIn src body leave) s).m.held x = none := by
  rw [execStmt_withIn_stepped io Cfg.fixed src body leave s x hx hl]
  exact held_step_withExit io _ x

/-- **The File constructed in the header: every fopen matched by exactly one fclose of that handle, for every body.**
    `with (f in new(File …)) { body }` under a name that is free, any stdio, any arguments (none, or a file and a mode;
    fopen may fail), any body that does not copy / assign an open File, leaving through the step clause (`_partial`:
    `leave.runsStep = true`, see C20_with_early_exit_refuted): the calls made on behalf of the new File form a
    well-bracketed log that ends with nothing held — each successful fopen (the constructor's, and any reopen in the
    body) is followed by exactly one fclose of that very handle — so the counts balance. -/
theorem C20_with_inline_balanced_partial {σ : Type} (io : Stdio σ) (s : WSys σ) (name : Nat) (args : Option (Nat × Mode))
    (body : List Stmt) (leave : Leave) (hl : leave.runsStep = true) (hfree : lookup name s.m.objs = none)
    (hclean : cleanStmt io Cfg.fixed WithCfg.fixed (.withIn (.newFile name args) body leave) s = true) :
    let e := execStmt io Cfg.fixed WithCfg.fixed (.withIn (.newFile name args) body leave) s
    ∃ suf, e.m.log = s.m.log ++ suf ∧ track none (proj name suf) = some none ∧
      ((proj name suf).filter isOpenOk).length = ((proj name suf).filter isClose).length := by
  intro e
  obtain ⟨suf, h1, h2⟩ := execStmt_tracks io WithCfg.fixed (.withIn (.newFile name args) body leave) s hclean
  have h2 := h2 name
  have hfn : freshName s.m.objs name = name := freshName_of_free _ _ hfree
  have hend : e.m.held name = none := by
    have hi := initClause_newFile io Cfg.fixed s.m name args
    rw [hfn] at hi
    rcases hi with ⟨hx, hh⟩ | hx
    · show (execStmt io Cfg.fixed WithCfg.fixed (.withIn (.newFile name args) body leave) s).m.held name = none
      rw [execStmt_withIn_none io Cfg.fixed _ _ body leave s hx]; exact hh
    · exact C20_with_closes_bound_partial io _ body leave s name hx hl
  rw [held_of_lookup_none s.m name hfree] at h2
  have h2' : track none (proj name suf) = some none := by rw [h2]; exact congrArg some hend
  refine ⟨suf, h1, h2', ?_⟩
  simpa using track_count none none _ h2'

/-- **What the body wrote is in the file afterwards** (the documented idiom under the reference stdio).  For every
    library state, every regular file `k`, mode "w"/"w+", every list of chunks (empty ones and zero bytes included), a
    name that is free, leaving by the end of the body or by `continue` (`_partial`: `leave.runsStep = true`):
    `with (f in new(File, $S(k), $S("w"))) { swrite(f, chunk)… }` makes exactly one fopen, one fwrite per chunk and one
    fclose — of the handle that fopen returned —, the source expression is evaluated once, the file then holds exactly
    the chunks, the File holds nothing and the handle is no longer open. -/
theorem C20_with_inline_roundtrip_partial (l : Ref) (objs : List (Nat × Option Handle)) (log : List (Nat × Call)) (ev : List WEv)
    (k : Nat) (hk : Regular k) (name : Nat) (hfree : lookup name objs = none) (mw : Mode) (hmw : mw = .w ∨ mw = .wp)
    (cs : List (List Byte)) (leave : Leave) (hl : leave.runsStep = true) :
    let src := Src.newFile name (some (k, mw))
    let e := execStmt refIO Cfg.fixed WithCfg.fixed (.withIn src (writeStmts name cs) leave) ⟨⟨l, objs, log⟩, ev⟩
    e.m.lib.content k = cs.flatten ∧ e.m.held name = none ∧ lookup l.next e.m.lib.streams = none ∧
      e.m.log = log ++ ((Call.fopen k mw (some l.next) :: (cs.map (fun _ => Call.on .fwrite l.next) ++ [Call.on .fclose l.next])).map
        (fun c => (name, c))) ∧
      e.ev = ev ++ [.eval src (some name), .start name, .stop name] := by
  intro src e
  have hw : mw.canWrite = true := by rcases hmw with rfl | rfl <;> rfl
  -- the block is init clause, body, step clause (`hexec`); on the reference stdio: File_Open "w", `writeAll`, File_Close.
  -- the init clause: File_New is File_Open on a File that holds nothing
  obtain ⟨o1, o2, o3, o4, _⟩ := fileOpen_at_w l k hk mw hmw
  have hinit : initClause refIO Cfg.fixed ⟨l, objs, log⟩ src = _ :=
    initClause_new_ok refIO Cfg.fixed ⟨l, objs, log⟩ name (some (k, mw)) hfree o1
  have hexec := execStmt_withIn_stepped refIO Cfg.fixed src (writeStmts name cs) leave ⟨⟨l, objs, log⟩, ev⟩ name (by rw [hinit]) hl
  -- the body: the library goes as under `writeAll` from the empty file, the object keeps its handle
  obtain ⟨b1, b2, b3, b4⟩ := execList_writes refIO Cfg.fixed WithCfg.fixed name l.next cs
    ⟨(initClause refIO Cfg.fixed ⟨l, objs, log⟩ src).m, ev ++ (initClause refIO Cfg.fixed ⟨l, objs, log⟩ src).evs⟩
    (by rw [hinit]; show lookup name (insert name _ _) = _; rw [lookup_insert_self]; exact congrArg some o2)
  obtain ⟨_, w2⟩ := writeAll_at_end o4 hk hw rfl cs
  simp only [List.length_nil, Nat.zero_add, List.nil_append] at w2
  -- the step clause: File_Close on the state `b` the body left, where the stream is `At` the end of the chunks
  generalize hb : execList refIO Cfg.fixed WithCfg.fixed (writeStmts name cs)
    ⟨(initClause refIO Cfg.fixed ⟨l, objs, log⟩ src).m, ev ++ (initClause refIO Cfg.fixed ⟨l, objs, log⟩ src).evs⟩ = b at *
  have hat : At b.m.lib l.next k mw cs.flatten.length false cs.flatten := by rw [b1, hinit]; exact w2
  obtain ⟨l3, hcl, c2, _, c4⟩ := fclose_at hat hk
  rw [show e = ⟨b.m.step refIO Cfg.fixed name (.op .withExit), b.ev ++ [.stop name]⟩ from hexec, Multi.step_op refIO _ b.m b2]
  have hstep : step refIO Cfg.fixed b.m.lib (some l.next) .withExit = ⟨l3, none, .ok .unit, [.on .fclose l.next]⟩ := by
    simp [step, fileClose_some_fixed, refIO, hcl, R.val, Out.map]
  rw [hstep]
  refine ⟨?_, ?_, c4, ?_, ?_⟩
  · show Ref.content l3 k = _
    rw [← hat.content]; simp only [Ref.content, c2]
  · rw [held_apply_self]; rfl
  · simp only [Multi.apply, b4, hinit, o3, fileNew]; simp [List.append_assoc]
  · simp only [b3, hinit]; simp [List.append_assoc, src]

/-- **What break, return and an exception do: nothing.**  For every stdio, every source expression, every body: when
    the body is left without reaching the step clause, the system — objects, library, log of stdio calls — is exactly what
    the body left; no File_Close, no stdio call.  In particular the loop variable's File holds whatever the body left it
    holding. -/
theorem C20_with_early_exit_leaves_open {σ : Type} (io : Stdio σ) (cfg : Cfg) (w : WithCfg) (src : Src) (body : List Stmt)
    (leave : Leave) (s : WSys σ) (x : Nat) (hx : (initClause io cfg s.m src).x = some x) (hl : leave.runsStep = false) :
    let b := execList io cfg w body ⟨(initClause io cfg s.m src).m, s.ev ++ (initClause io cfg s.m src).evs⟩
    (execStmt io cfg w (.withIn src body leave) s).m = b.m := by
  intro b
  rw [execStmt_withIn_left io cfg w src body leave s x hx hl]

/-- **Known finding KF-C20-with-early-exit: "leaving a with block closes the stream exactly once" is refuted for break,
    return and exceptions.**  `with_in(X, S)` is `for(var X = start_in(S); X isnt NULL; X = stop_in(X))`: only falling off
    the end and `continue` reach `stop_in`.  Witness under the reference stdio, the documented idiom
    `with (f in new(File, $S("f0"), $S("w"))) { swrite(f, "hi"); <break | return | throw> }`: one successful fopen, no
    fclose, the File still holds handle 1 and the stream is still open in the library — for each of the three ways out;
    the same block left by falling off its end or by `continue` closes it. -/
theorem C20_with_early_exit_refuted :
    ¬ C20_with_closes_statement ∧
    (∀ leave : Leave,
      let s0 : WSys Ref := ⟨⟨Ref.init, [], []⟩, []⟩
      let e := execStmt refIO Cfg.fixed WithCfg.fixed
        (.withIn (.newFile 4 (some (0, .w))) [.op 4 (.op (.write [104, 105]))] leave) s0
      if leave.runsStep then
        e.m.held 4 = none ∧ e.m.log = [(4, .fopen 0 .w (some 1)), (4, .on .fwrite 1), (4, .on .fclose 1)] ∧
          e.m.lib.streams = []
      else
        e.m.held 4 = some 1 ∧ e.m.log = [(4, .fopen 0 .w (some 1)), (4, .on .fwrite 1)] ∧
          ((untag e.m.log).filter isOpenOk).length = 1 ∧ ((untag e.m.log).filter isClose).length = 0 ∧
          (e.m.lib.streams.map (·.1)) = [1] ∧ e.ev = [.eval (.newFile 4 (some (0, .w))) (some 4), .start 4, .left leave]) := by
  refine ⟨fun h => ?_, by intro leave; cases leave <;> decide⟩
  exact absurd
    (h Ref refIO (.newFile 4 (some (0, .w))) [.op 4 (.op (.write [104, 105]))] .brk ⟨⟨Ref.init, [], []⟩, []⟩ 4 (by decide))
    (by decide)

/-- the documented idiom on a concrete history, macro as it is: `with (f in new(File, $S("f0"), $S("w"))) { swrite "hi" }`
    then a second block that appends "!" and is left by break (the stream stays open until sclose) -/
example :
    let s0 : WSys Ref := ⟨⟨Ref.init, [], []⟩, []⟩
    let e := execList refIO Cfg.fixed WithCfg.fixed
      [.withIn (.newFile 4 (some (0, .w))) [.op 4 (.op (.write [104, 105]))] .fall,
       .withIn (.newFile 5 (some (0, .a))) [.op 5 (.op (.write [33]))] .brk,
       .op 5 (.op .close)] s0
    e.m.log = [(4, .fopen 0 .w (some 1)), (4, .on .fwrite 1), (4, .on .fclose 1),
               (5, .fopen 0 .a (some 2)), (5, .on .fwrite 2), (5, .on .fclose 2)] ∧
    e.m.lib.files = [(0, [104, 105, 33])] ∧ e.m.held 4 = none ∧ e.m.held 5 = none ∧
    e.ev = [.eval (.newFile 4 (some (0, .w))) (some 4), .start 4, .stop 4,
            .eval (.newFile 5 (some (0, .a))) (some 5), .start 5, .left .brk] ∧
    wtrack ([], none) e.ev = some ([], none) := by
  decide

/-- the hypotheses of the block theorems are met by a concrete state; a body that copies a CLOSED File is clean -/
example : lookup 4 ([(0, none), (1, some 7)] : List (Nat × Option Handle)) = none ∧ Leave.fall.runsStep = true ∧
    Leave.cont.runsStep = true ∧ Leave.brk.runsStep = false ∧ Leave.ret.runsStep = false ∧ Leave.throw.runsStep = false ∧
    (initClause refIO Cfg.fixed ⟨Ref.init, [], []⟩ (.newFile 4 (some (0, .w)))).x = some 4 ∧
    cleanStmt refIO Cfg.fixed WithCfg.fixed
      (.withIn (.newFile 4 (some (0, .w))) [.op 5 (.new none), .op 6 (.copy 5), .op 4 (.op (.write [1]))] .fall)
      ⟨⟨Ref.init, [], []⟩, []⟩ = true ∧
    cleanStmt refIO Cfg.fixed WithCfg.fixed
      (.withIn (.newFile 4 (some (0, .w))) [.op 6 (.copy 4)] .fall) ⟨⟨Ref.init, [], []⟩, []⟩ = false := by decide

/-- **The variant `X = stop_in(S)` is refuted.**  If the step clause hands the macro argument to stop_in, the source
    expression is evaluated a second time when the block is left.  Witness under the reference stdio, the documented
    idiom `with (f in new(File, $S("f0"), $S("w"))) { swrite(f, "hi") }`: a second File is constructed — its fopen "w"
    truncates the file — and it is that second File which is closed; the File the body wrote to is never closed
    (it still holds handle 1), two successful fopens face one fclose, the protocol automaton rejects the run (an
    evaluation inside a step clause), and the file is empty instead of holding "hi".
    Second witness, `with (f in new(File)) { sopen(f, "f0", "w"); swrite(f, "hi"); continue; }`: the step clause
    constructs a fresh, closed File and stops that one — IOError — while the stream opened in the body stays open. -/
theorem C20_with_stop_on_expression_refuted :
    let s0 : WSys Ref := ⟨⟨Ref.init, [], []⟩, []⟩
    let src := Src.newFile 4 (some (0, .w))
    let e := execList refIO Cfg.fixed WithCfg.reeval [.withIn src [.op 4 (.op (.write [104, 105]))] .fall] s0
    e.ev = [.eval src (some 4), .start 4, .eval src (some 5), .stop 5] ∧
    wtrack ([], none) e.ev = none ∧
    e.m.log = [(4, .fopen 0 .w (some 1)), (4, .on .fwrite 1), (5, .fopen 0 .w (some 2)), (5, .on .fclose 2)] ∧
    e.m.held 4 = some 1 ∧ e.m.held 5 = none ∧
    ((e.m.log.map (·.2)).filter isOpenOk).length = 2 ∧ ((e.m.log.map (·.2)).filter isClose).length = 1 ∧
    e.m.lib.files = [(0, [])] ∧
    (let e2 := execList refIO Cfg.fixed WithCfg.reeval
        [.withIn (.newFile 4 none) [.op 4 (.op (.open 0 .w)), .op 4 (.op (.write [104, 105]))] .cont] s0
     (stepClause refIO Cfg.fixed WithCfg.reeval
        (execList refIO Cfg.fixed WithCfg.reeval [.op 4 (.op (.open 0 .w))] ⟨(initClause refIO Cfg.fixed s0.m (.newFile 4 none)).m, []⟩).m
        (.newFile 4 none) 4).out = .raised .IOError ∧
     e2.m.held 4 = some 1 ∧ wtrack ([], none) e2.ev = none) := by
  decide

/-- the macro as it is, on the same two programs: one evaluation, the File the body used is the one closed, one fopen
    and one fclose of that handle, the file holds "hi" -/
theorem C20_with_stop_on_bound_repaired :
    let s0 : WSys Ref := ⟨⟨Ref.init, [], []⟩, []⟩
    let src := Src.newFile 4 (some (0, .w))
    let e := execList refIO Cfg.fixed WithCfg.fixed [.withIn src [.op 4 (.op (.write [104, 105]))] .fall] s0
    let e2 := execList refIO Cfg.fixed WithCfg.fixed
        [.withIn (.newFile 4 none) [.op 4 (.op (.open 0 .w)), .op 4 (.op (.write [104, 105]))] .cont] s0
    e.ev = [.eval src (some 4), .start 4, .stop 4] ∧ wtrack ([], none) e.ev = some ([], none) ∧
    e.m.log = [(4, .fopen 0 .w (some 1)), (4, .on .fwrite 1), (4, .on .fclose 1)] ∧ e.m.held 4 = none ∧
    e.m.lib.files = [(0, [104, 105])] ∧
    e2.m.log = [(4, .fopen 0 .w (some 1)), (4, .on .fwrite 1), (4, .on .fclose 1)] ∧ e2.m.held 4 = none ∧
    e2.m.lib.files = [(0, [104, 105])] ∧ wtrack ([], none) e2.ev = some ([], none) := by
  decide

/-- **C20 (round trip through reopen).**  Under the reference stdio, for every library state, every regular file name,
    every list of chunks (any lengths, empty chunks included, zero bytes included) and every list of read sizes:
    open "w"/"w+" on a closed File, swrite the chunks, reopen "r"/"r+" (File_Open closes the first stream: exactly one
    fclose of that handle, then fopen), sread with the sizes.  Then: every swrite returns 1 (0 for an empty chunk), stell
    after writing is the byte count, the reads return exactly `readSpec` of the written bytes — item count 1 for every
    complete item — the bytes delivered, concatenated, are the written bytes cut at the requested total; stell after
    reading is the number of bytes delivered and seof is true exactly when more was requested than was written. -/
theorem C20_roundtrip_reopen (l : Ref) (k : Nat) (hk : Regular k) (mw mr : Mode) (hmw : mw = .w ∨ mw = .wp)
    (hmr : mr = .r ∨ mr = .rp) (cs : List (List Byte)) (ns : List Nat) :
    let o1 := fileOpen refIO Cfg.fixed l none k mw
    let w := writeAll refIO o1.lib o1.f cs
    let t1 := fileTell refIO w.1 o1.f
    let o2 := fileOpen refIO Cfg.fixed w.1 o1.f k mr
    let rd := readAll refIO o2.lib o2.f ns
    let t2 := fileTell refIO rd.1 o2.f
    let e2 := fileEof refIO rd.1 o2.f
    o1.out = .ok () ∧ w.2 = writeSpec cs ∧ t1.out = .ok cs.flatten.length ∧
    o2.out = .ok () ∧ o2.calls = [.on .fclose l.next, .fopen k mr (some (l.next + 1))] ∧
    rd.2 = readSpec cs.flatten 0 ns ∧ delivered rd.2 = cs.flatten.take ns.sum ∧
    t2.out = .ok (cs.flatten.take ns.sum).length ∧ e2.out = .ok (decide (cs.flatten.length < ns.sum)) := by
  have hw : mw.canWrite = true := by rcases hmw with rfl | rfl <;> rfl
  have hr : mr.canRead = true := by rcases hmr with rfl | rfl <;> rfl
  obtain ⟨a1, a2, _, a4, a5⟩ := fileOpen_at_w l k hk mw hmw
  dsimp only
  rw [a2]
  obtain ⟨b1, b2⟩ := writeAll_at_end a4 hk hw rfl cs
  simp only [List.length_nil, Nat.zero_add, List.nil_append] at b2
  obtain ⟨c1, c2, c3, c4⟩ := fileOpen_at_reopen b2 hk k hk mr hmr cs.flatten b2.file_exists
  rw [writeAll_next, a5] at c2 c3 c4
  rw [c2]
  obtain ⟨d1, d2⟩ := readAll_at c4 hk hr ns
  refine ⟨a1, b1, (fileTell_at b2).1, c1, c3, d1, ?_, ?_, ?_⟩
  · rw [d1, delivered_readSpec]; simp
  · rw [(fileTell_at d2).1]; simp
  · rw [(fileEof_at d2).1]; simp

/-- **C20 (round trip through seek).**  Same with one stream opened "w+": after writing the chunks, seek back to the
    start from any origin — `sseek(f, 0, SEEK_SET)`, `sseek(f, -n, SEEK_CUR)`, `sseek(f, -n, SEEK_END)` with n the number
    of bytes written — or, more generally, to any offset `t` inside the file from any origin; reading then returns the
    written bytes from `t` on, in any chunking; stell/seof as above. -/
theorem C20_roundtrip_seek (l : Ref) (k : Nat) (hk : Regular k) (cs : List (List Byte)) (ns : List Nat)
    (off : Int) (wh : Whence) (t : Nat)
    (ht : (wh = .set ∧ off = t) ∨ (wh = .cur ∧ (cs.flatten.length : Int) + off = t) ∨
          (wh = .end_ ∧ (cs.flatten.length : Int) + off = t)) :
    let o1 := fileOpen refIO Cfg.fixed l none k .wp
    let w := writeAll refIO o1.lib o1.f cs
    let sk := fileSeek refIO w.1 o1.f off wh
    let rd := readAll refIO sk.lib o1.f ns
    let t2 := fileTell refIO rd.1 o1.f
    let e2 := fileEof refIO rd.1 o1.f
    o1.out = .ok () ∧ w.2 = writeSpec cs ∧ sk.out = .ok () ∧ sk.calls = [.on .fseek l.next] ∧
    rd.2 = readSpec cs.flatten t ns ∧ delivered rd.2 = (cs.flatten.drop t).take ns.sum ∧
    t2.out = .ok (t + ((cs.flatten.drop t).take ns.sum).length) ∧
    e2.out = .ok (decide ((cs.flatten.drop t).length < ns.sum)) := by
  obtain ⟨a1, a2, _, a4, _⟩ := fileOpen_at_w l k hk .wp (Or.inr rfl)
  dsimp only
  rw [a2]
  obtain ⟨b1, b2⟩ := writeAll_at_end a4 hk rfl rfl cs
  simp only [List.length_nil, Nat.zero_add, List.nil_append] at b2
  obtain ⟨s1, _, s3⟩ := fileSeek_at b2 hk off wh t ht
  obtain ⟨d1, d2⟩ := readAll_at s3 hk rfl ns
  refine ⟨a1, b1, s1, rfl, d1, ?_, (fileTell_at d2).1, ?_⟩
  · rw [d1, delivered_readSpec]
  · rw [(fileEof_at d2).1]; simp

/-- **Random access.**  On a stream that can read and write (not append mode), at any position: seek to any offset
    `t` (also beyond the end of the file: the gap reads as zero bytes), write a non-empty item, seek back to `t`, read
    the same number of bytes: the item comes back identical, with item count 1; the rest of the file is as `overwrite`
    says. -/
theorem C20_random_access {l : Ref} {h : Handle} {k : Nat} {m : Mode} {p : Nat} {e : Bool} {c : List Byte}
    (a : At l h k m p e c) (hk : Regular k) (hr : m.canRead = true) (hw : m.canWrite = true) (hm : m ≠ .a)
    (t : Nat) (d : List Byte) (hd : d ≠ []) :
    let s1 := fileSeek refIO l (some h) t .set
    let wr := fileWrite refIO s1.lib (some h) d
    let s2 := fileSeek refIO wr.lib (some h) t .set
    let rd := fileRead refIO s2.lib (some h) d.length
    s1.out = .ok () ∧ wr.out = .ok 1 ∧ s2.out = .ok () ∧ rd.out = .ok (1, d) ∧
      At rd.lib h k m (t + d.length) false (overwrite c t d) := by
  obtain ⟨a1, _, a3⟩ := fileSeek_at a hk t .set t (Or.inl ⟨rfl, rfl⟩)
  obtain ⟨b1, _, b3⟩ := fileWrite_at a3 hk hw d hd
  rw [writePos_of_ne hm] at b3
  obtain ⟨c1, _, c3⟩ := fileSeek_at b3 hk t .set t (Or.inl ⟨rfl, rfl⟩)
  obtain ⟨d1, _, d3⟩ := fileRead_at c3 hk hr d.length
  rw [overwrite_read_back c t d] at d1 d3
  have hlen : d.length ≠ 0 := mt List.eq_nil_of_length_eq_zero hd
  exact ⟨a1, b1, c1, by rw [d1]; simp [hlen], by simpa using d3⟩

/-- **Append mode.**  A File opened "a" on an existing file and then moved anywhere by sseek (any origin, any offset
    that is not negative): every swrite lands at the end of the file — what was there is untouched, the chunks follow
    in order — and, once a byte has been written, stell is the length of the file. -/
theorem C20_append_mode (l : Ref) (k : Nat) (hk : Regular k) (c0 : List Byte) (hf : lookup k l.files = some c0)
    (off : Int) (wh : Whence) (t : Nat)
    (ht : (wh = .set ∧ off = t) ∨ (wh = .cur ∧ (c0.length : Int) + off = t) ∨ (wh = .end_ ∧ (c0.length : Int) + off = t))
    (cs : List (List Byte)) (hne : cs.flatten ≠ []) :
    let o1 := fileOpen refIO Cfg.fixed l none k .a
    let sk := fileSeek refIO o1.lib o1.f off wh
    let w := writeAll refIO sk.lib o1.f cs
    let t1 := fileTell refIO w.1 o1.f
    o1.out = .ok () ∧ sk.out = .ok () ∧ w.2 = writeSpec cs ∧ w.1.content k = c0 ++ cs.flatten ∧
      t1.out = .ok (c0 ++ cs.flatten).length := by
  obtain ⟨a1, a2, _, a4, _⟩ := fileOpen_at_closed l k hk .a c0 (Or.inr ⟨Or.inr (Or.inr rfl), hf⟩)
  rw [if_pos rfl] at a4
  dsimp only
  rw [a2]
  obtain ⟨s1, _, s3⟩ := fileSeek_at a4 hk off wh t ht
  obtain ⟨w1, p', w2, w3⟩ := writeAll_append s3 hk cs
  exact ⟨a1, s1, w1, w2.content, by rw [(fileTell_at w2).1, w3 hne]⟩

/-- **Text written with print_to arrives byte for byte.**  Under the reference stdio: open "w"/"w+", any sequence of
    print_to calls whose formats produced any fragments (each fragment is one File_Format_To = vfprintf), reopen
    "r"/"r+", read in any chunking: every print_to returns the number of characters it wrote, the file holds exactly the
    concatenation of all fragments, and the reads deliver it.  (What the fragments are for a given format and
    arguments, and that scan_from's conversions invert print_to's, is C14/C15.) -/
theorem C20_print_transport (l : Ref) (k : Nat) (hk : Regular k) (mw mr : Mode) (hmw : mw = .w ∨ mw = .wp)
    (hmr : mr = .r ∨ mr = .rp) (texts : List (List (List Byte))) (ns : List Nat) :
    let o1 := fileOpen refIO Cfg.fixed l none k mw
    let pr := printAll refIO o1.lib (some l.next) texts
    let o2 := fileOpen refIO Cfg.fixed pr.1 (some l.next) k mr
    let rd := readAll refIO o2.lib o2.f ns
    o1.f = some l.next ∧ pr.2 = texts.map (fun fr => .ok (fr.flatten.length : Int)) ∧ o2.out = .ok () ∧
      delivered rd.2 = texts.flatten.flatten.take ns.sum := by
  have hw : mw.canWrite = true := by rcases hmw with rfl | rfl <;> rfl
  have hr : mr.canRead = true := by rcases hmr with rfl | rfl <;> rfl
  obtain ⟨_, a2, _, a4, _⟩ := fileOpen_at_w l k hk mw hmw
  obtain ⟨b1, b2⟩ := printAll_at_end (c := []) a4 hk hw texts
  simp only [List.nil_append] at b2
  obtain ⟨c1, c2, _, c4⟩ := fileOpen_at_reopen b2 hk k hk mr hmr _ b2.file_exists
  obtain ⟨d1, _⟩ := readAll_at c4 hk hr ns
  dsimp only
  refine ⟨a2, b1, c1, ?_⟩
  rw [c2, d1, delivered_readSpec]; simp

/-- **scan_from reads exactly the bytes that follow the position**: on an open readable stream the outcome of
    `scan_from(f, 0, "%$ ", intObject)`, the new position and the end-of-file flag are functions of the file's bytes after
    the position (`Ref.scanDec`: white space, optional sign, decimal digits) — FormatError when no number is there. -/
theorem C20_scan_reads_bytes {l : Ref} {h : Handle} {k : Nat} {m : Mode} {p : Nat} {e : Bool} {c : List Byte}
    (a : At l h k m p e c) (hk : Regular k) (hr : m.canRead = true) :
    let r := fileScanInt refIO l (some h)
    let sd := Ref.scanDec (c.drop p)
    match sd.2.2 with
    | none => r.out = .raised .FormatError ∧ At r.lib h k m (p + sd.1) (e || sd.2.1) c
    | some v =>
      let ws := ((c.drop (p + sd.1)).takeWhile isSpace).length
      r.out = .ok v ∧ At r.lib h k m (p + sd.1 + ws) (e || sd.2.1 || ((c.drop (p + sd.1)).drop ws).length = 0) c := by
  obtain ⟨l1, h1, a1⟩ := vfscanfInt_at a hk hr
  simp only [fileScanInt_some, refIO, h1]
  cases (Ref.scanDec (c.drop p)).2.2 with
  | none => exact ⟨rfl, a1⟩
  | some v => exact ⟨rfl, vfscanfWs_at a1 hk hr⟩

/-- text round trip on a concrete history: `print_to(f,0,"%$ ",$I(42))`, `…$I(-7)` (fragments "42"," ","-7"," "), seek
    to the start, two scans return 42 and −7, the third hits the end of the file: FormatError and seof -/
example :
    let l0 := (step refIO Cfg.fixed Ref.init none (.open 3 .wp)).lib
    let p1 := step refIO Cfg.fixed l0 (some 1) (.print [[52, 50], [32]])
    let p2 := step refIO Cfg.fixed p1.lib (some 1) (.print [[45, 55], [32]])
    let sk := step refIO Cfg.fixed p2.lib (some 1) (.seek 0 .set)
    let s1 := step refIO Cfg.fixed sk.lib (some 1) .scanInt
    let s2 := step refIO Cfg.fixed s1.lib (some 1) .scanInt
    let s3 := step refIO Cfg.fixed s2.lib (some 1) .scanInt
    p1.out = .ok (.int 3) ∧ p2.out = .ok (.int 3) ∧ s1.out = .ok (.int 42) ∧ s2.out = .ok (.int (-7)) ∧
      s3.out = .raised .FormatError ∧ (step refIO Cfg.fixed s3.lib (some 1) .eof).out = .ok (.bool true) ∧
      s3.lib.files = [(3, [52, 50, 32, 45, 55, 32])] := by
  decide

/-- any two chunkings of the reads deliver the same bytes (`delivered_readSpec`, on which the round-trip theorems rest) -/
theorem C20_read_chunking_irrelevant (c : List Byte) (p : Nat) (ns ms : List Nat) (h : ns.sum = ms.sum) :
    delivered (readSpec c p ns) = delivered (readSpec c p ms) := by
  rw [delivered_readSpec, delivered_readSpec, h]

/-- a concrete history under the reference stdio: write "hi\0!" in two chunks (one empty chunk in between), reopen, read
    3+5 bytes: 3 bytes, then the last byte with item count 0 and the end-of-file flag; a second sclose is refused -/
example :
    let h0 : Hist Ref := ⟨Ref.init, none, []⟩
    let e := runOps refIO Cfg.fixed h0
      [.open 2 .wp, .write [104, 105], .write [], .write [0, 33], .open 2 .r, .read 3, .read 5, .close, .close]
    e.f = none ∧ e.log = [.fopen 2 .wp (some 1), .on .fwrite 1, .on .fwrite 1, .on .fwrite 1, .on .fclose 1,
                          .fopen 2 .r (some 2), .on .fread 2, .on .fread 2, .on .feof 2, .on .fclose 2] ∧
    e.lib.files = [(2, [104, 105, 0, 33])] ∧ track none e.log = some none := by
  decide

example : Regular 2 ∧ (Op.read 3).needsOpen = true ∧ Op.close.closes = true := ⟨⟨by decide, by decide⟩, rfl, rfl⟩

/-- the hypotheses of the seek theorem are met by each of the three ways to go back to the start -/
example (n : Nat) :
    ((Whence.set = .set ∧ (0 : Int) = (0 : Nat)) ∨ (Whence.set = .cur ∧ (n : Int) + 0 = (0 : Nat)) ∨ (Whence.set = .end_ ∧ (n : Int) + 0 = (0 : Nat))) ∧
    ((Whence.cur = .set ∧ -(n : Int) = (0 : Nat)) ∨ (Whence.cur = .cur ∧ (n : Int) + -(n : Int) = (0 : Nat)) ∨ (Whence.cur = .end_ ∧ (n : Int) + -(n : Int) = (0 : Nat))) ∧
    ((Whence.end_ = .set ∧ -(n : Int) = (0 : Nat)) ∨ (Whence.end_ = .cur ∧ (n : Int) + -(n : Int) = (0 : Nat)) ∨ (Whence.end_ = .end_ ∧ (n : Int) + -(n : Int) = (0 : Nat))) := by
  refine ⟨Or.inl ⟨rfl, rfl⟩, Or.inr (Or.inl ⟨rfl, by omega⟩), Or.inr (Or.inr ⟨rfl, by omega⟩)⟩

/-! ## the un-repaired File_Close is refuted (defect F22, fixed in /repo by b3448e7) -/

/-- Before the fix File_Close had no closed-handle test and kept the handle when fclose failed.  Concrete witnesses under
    the reference stdio: (1) `sclose` twice calls fclose(NULL) — undefined behaviour, and the log is not well bracketed;
    (2) on /dev/full with buffered data fclose fails, the stale handle stays in the object and the second sclose passes
    it to fclose again: the same handle is closed twice. -/
theorem C20_double_close_refuted :
    let h0 : Hist Ref := ⟨Ref.init, none, []⟩
    let e1 := runOps refIO Cfg.preFix h0 [.open 2 .w, .close, .close]
    let e2 := runOps refIO Cfg.preFix h0 [.open fileFull .w, .write [1, 2, 3], .close, .close]
    track none e1.log = none ∧ e1.log = [.fopen 2 .w (some 1), .on .fclose 1, .onNull .fclose] ∧
    track none e2.log = none ∧ e2.log = [.fopen fileFull .w (some 1), .on .fwrite 1, .on .fclose 1, .on .fclose 1] ∧
    (step refIO Cfg.preFix Ref.init none .close).out = .ub := by
  decide

/-- the repaired code on the same two histories: well bracketed, one fclose per fopen, second sclose refused -/
theorem C20_double_close_repaired :
    let h0 : Hist Ref := ⟨Ref.init, none, []⟩
    let e1 := runOps refIO Cfg.fixed h0 [.open 2 .w, .close, .close]
    let e2 := runOps refIO Cfg.fixed h0 [.open fileFull .w, .write [1, 2, 3], .close, .close]
    e1.log = [.fopen 2 .w (some 1), .on .fclose 1] ∧ e2.log = [.fopen fileFull .w (some 1), .on .fwrite 1, .on .fclose 1] ∧
    e1.f = none ∧ e2.f = none := by
  decide

/-! ## `Process`: the second Stream class of src/File.c (popen / pclose) — fix 51c301c

  Process_<X> is File_<X> under the renaming Process_→File_, p->proc→f->file, popen→fopen, pclose→fclose for every function
  but the constructor (checked on the source text on every run: C20_process_same_wrappers), so `step` / `runOps` / `Multi`
  are the model of both classes: for a Process the `fopen` / `fclose` of the abstract stdio are popen / pclose (pclose
  "fails" for every non-zero wait status) and the configuration holds the two facts about Process_Close.  All theorems
  above that quantify over every `Stdio σ` therefore speak about Process objects as well; the ones below spell that out,
  add the constructor (`procNew`, `MOp.pnew`) and the reference pipe library (`pipeIO`). -/

/-- every Process_* wrapper has the closed-handle test `if (p->proc is NULL) throw(IOError …)` in front of its first stdio
    call and calls exactly the functions the model says -/
theorem C20_process_guard_table :
    (CelloGen.File.procTable.filter (fun r => r.name ∉ ["Process_New", "Process_Del", "Process_Open"])).map
        (fun r => (r.name, r.stdio, r.guardFirst))
      = modelledProcWrappers.map (fun p => (p.1, p.2, true)) := by
  simp [CelloGen.File.procTable, modelledProcWrappers]

/-- the eleven functions the two classes share are the same text under the renaming (so one model serves both) -/
theorem C20_process_same_wrappers :
    CelloGen.File.procSameAsFile = sharedWrappers.map (fun n => (n, true)) :=
  rfl

/-- Process_Close is guarded and always drops the handle (fix 51c301c: reverting either half breaks this theorem);
    Process_Open closes a held handle first, calls only popen, throws on NULL; Process_Del closes a held handle and
    calls nothing itself; Process_New always opens (no test of `len(args)`); which function is sclose / stop / destruct;
    the texts of the four functions as they are now. -/
theorem C20_process_source_shape :
    CelloGen.File.procCloseGuarded = true ∧ CelloGen.File.procCloseDropsAlways = true ∧
    CelloGen.File.procOpenClosesFirst = true ∧ CelloGen.File.procOpenThrowsOnNull = true ∧
    CelloGen.File.procDelClosesIfHeld = true ∧ CelloGen.File.procNewAlwaysOpens = true ∧
    (CelloGen.File.procTable.filter (fun r => r.name ∈ ["Process_New", "Process_Del", "Process_Open"])).map (fun r => (r.name, r.stdio))
      = [("Process_Del", []), ("Process_New", []), ("Process_Open", ["popen"])] ∧
    CelloGen.File.procInstClasses = ["Doc", "New", "Start", "Stream", "Format"] ∧
    CelloGen.File.procInstNew = ["Process_New", "Process_Del"] ∧
    CelloGen.File.procInstStart = ["NULL", "Process_Close", "NULL"] ∧
    CelloGen.File.procInstStream = ["Process_Open", "Process_Close", "Process_Seek", "Process_Tell", "Process_Flush", "Process_EOF",
      "Process_Read", "Process_Write"] ∧
    CelloGen.File.procInstFormat = ["Process_Format_To", "Process_Format_From"] ∧
    CelloGen.File.procNewText = "struct Process* p = self; p->proc = NULL; Process_Open(self, get(args, $I(0)), get(args, $I(1)));" ∧
    CelloGen.File.procDelText = "struct Process* p = self; if (p->proc isnt NULL) { Process_Close(self); }" ∧
    CelloGen.File.procOpenText = "struct Process* p = self; if (p->proc isnt NULL) { Process_Close(self); } p->proc = popen(c_str(filename), c_str(access)); if (p->proc is NULL) { throw(IOError, \"Could not open process: %s\", filename); } return self;" ∧
    CelloGen.File.procCloseText = "struct Process* p = self; if (p->proc is NULL) { throw(IOError, \"Cannot close process - no process open.\"); } int err = pclose(p->proc); p->proc = NULL; if (err != 0) { throw(IOError, \"Failed to close process: %i\", $I(err)); }" :=
  ⟨rfl, rfl, rfl, rfl, rfl, rfl, by simp [CelloGen.File.procTable], rfl, rfl, rfl, rfl, rfl, rfl, rfl, rfl, rfl⟩

/-- the configuration the driver runs Process objects with (read from the source) is the repaired one -/
theorem C20_process_current_cfg :
    (⟨CelloGen.File.procCloseGuarded, CelloGen.File.procCloseDropsAlways⟩ : Cfg) = Cfg.fixed := rfl

/-- **C20 (closed ⇒ IOError, no stdio) for Process**, for the code as it is in /repo now: for every implementation of
    popen / pclose / stdio, every library state and every operation that needs an open stream (sclose, stop, leaving a with
    block, sseek, stell, sflush, seof, sread, swrite, print_to with a non-empty format, scan_from): on a Process that is not open it raises
    IOError, makes no call — in particular no `pclose(NULL)` — and changes nothing. -/
theorem C20_process_closed_refused {σ : Type} (io : Stdio σ) (l : σ) (op : Op) (h : op.needsOpen = true) :
    step io ⟨CelloGen.File.procCloseGuarded, CelloGen.File.procCloseDropsAlways⟩ l none op = ⟨l, none, .raised .IOError, []⟩ :=
  step_refused io _ rfl l op h

/-- **After any closing operation the Process is closed, whatever pclose answered** — in particular after a command
    that ended with a non-zero exit status (pclose ≠ 0 → IOError): the handle is dropped, so a second sclose, `del`
    (Process_Del) or a reopen (Process_Open) never hands it to pclose again. -/
theorem C20_process_after_close_refused {σ : Type} (io : Stdio σ) (l : σ) (f : Option Handle) (c : Op) (hc : c.closes = true)
    (op : Op) (h : op.needsOpen = true) :
    let cfg : Cfg := ⟨CelloGen.File.procCloseGuarded, CelloGen.File.procCloseDropsAlways⟩
    let r := step io cfg l f c
    r.f = none ∧ step io cfg r.lib r.f op = ⟨r.lib, none, .raised .IOError, []⟩ ∧
      (step io cfg r.lib r.f .destruct).calls = [] := by
  intro cfg r
  obtain ⟨h1, h2⟩ := C20_after_close_refused io l f c hc op h
  refine ⟨h1, h2, ?_⟩
  have h1' : r.f = none := h1
  rw [h1']
  exact (C20_closed_other io r.lib).1

/-- **The constructor.**  `new(Process, cmd, access)` always opens: exactly one popen, the object holds its result, IOError
    and no object when popen answers NULL; with fewer than two arguments `get(args, …)` raises IndexOutOfBoundsError
    before popen is reached — no call, no object. -/
theorem C20_process_new {σ : Type} (io : Stdio σ) (cfg : Cfg) (l : σ) :
    procNew io cfg l none = ⟨l, none, .raised .IndexOutOfBoundsError, []⟩ ∧
    ∀ c m, (procNew io cfg l (some (c, m))).calls = [.fopen c m (io.fopen l c m).2] ∧
      (procNew io cfg l (some (c, m))).f = (io.fopen l c m).2 ∧
      ((procNew io cfg l (some (c, m))).out = .ok () ↔ ((io.fopen l c m).2).isSome = true) := by
  refine ⟨rfl, fun c m => ?_⟩
  show (fileOpen io cfg l none c m).calls = _ ∧ (fileOpen io cfg l none c m).f = _ ∧ ((fileOpen io cfg l none c m).out = _ ↔ _)
  rw [fileOpen_none]
  exact ⟨rfl, rfl, by cases (io.fopen l c m).2 <;> simp⟩

/-- **C20 (close-once) for one Process**, code as it is now: every history of sopen / reopen / sclose / stop / with /
    destruct / transfers, for every popen / pclose (either may fail at will): the calls are well bracketed — each successful
    popen is followed by exactly one pclose of that handle before the next popen (the last may still be held at the end), no
    call on NULL or on a handle that was pclosed — and the counts balance. -/
theorem C20_process_close_once {σ : Type} (io : Stdio σ) (s : Hist σ) (ops : List Op) :
    let cfg : Cfg := ⟨CelloGen.File.procCloseGuarded, CelloGen.File.procCloseDropsAlways⟩
    ∃ suf, (runOps io cfg s ops).log = s.log ++ suf ∧ track s.f suf = some (runOps io cfg s ops).f ∧
      (suf.filter isOpenOk).length + (if s.f.isSome then 1 else 0) =
        (suf.filter isClose).length + (if (runOps io cfg s ops).f.isSome then 1 else 0) :=
  runOps_count io s ops

/-- **… and over handles, for Process objects over the reference pipe library from a start in which none is open**: an
    instance of `C20_close_once_from_closed`, which holds for any population of File and Process objects over one C library
    (`MOp.new` = File_New, `MOp.pnew` = Process_New; for a mixed population `io.fopen` answers both fopen and popen). -/
theorem C20_process_close_once_system (s : Multi PRef) (hs : ∀ p ∈ s.objs, p.2 = none)
    (steps : List (Nat × MOp)) (hclean : s.cleanRun pipeIO Cfg.fixed steps = true) :
    let e := s.run pipeIO Cfg.fixed steps
    ∃ suf, e.log = s.log ++ suf ∧
      (freshCalls [] (untag suf) = true →
        ∃ live', gtrack [] (untag suf) = some live' ∧ e.Sep ∧ e.LiveIs live' ∧
          ((untag suf).filter isOpenOk).length = live'.length + ((untag suf).filter isClose).length) :=
  C20_close_once_from_closed pipeIO s hs steps hclean

/-- the hypotheses are met, and the pieces fit, on a concrete history under the reference pipe library: constructors with
    0 and 2 arguments, `false` closed by sclose (IOError, handle dropped, second sclose refused), deleted; `cat` of a
    5-byte input read 2 + 9 (over-read: item count 0, the 3 remaining bytes, seof), reopened on `true` (pclose, popen),
    left through a with block -/
example :
    let s0 : Multi PRef := ⟨{ PRef.init with inputs := [(0, [1, 2, 3, 4, 5])] }, [(0, none)], []⟩
    let steps : List (Nat × MOp) :=
      [(2, .pnew none), (2, .pnew (some (cmdFalse, .r))), (2, .op .close), (2, .op .close), (2, .del),
       (0, .op (.open cmdCat .r)), (0, .op (.read 2)), (0, .op (.read 9)), (0, .op .eof), (0, .op (.open cmdTrue .r)),
       (0, .op .withEnter), (0, .op .withExit)]
    let e := s0.run pipeIO Cfg.fixed steps
    (∀ p ∈ s0.objs, p.2 = none) ∧ s0.cleanRun pipeIO Cfg.fixed steps = true ∧ freshCalls [] (untag e.log) = true ∧
    e.log = [(2, .fopen cmdFalse .r (some 1)), (2, .on .fclose 1),
             (0, .fopen cmdCat .r (some 2)), (0, .on .fread 2), (0, .on .fread 2), (0, .on .feof 2), (0, .on .feof 2),
             (0, .on .fclose 2), (0, .fopen cmdTrue .r (some 3)), (0, .on .fclose 3)] ∧
    gtrack [] (untag e.log) = some [] ∧ e.lib.streams = [] ∧
    (step pipeIO Cfg.fixed (s0.step pipeIO Cfg.fixed 2 (.pnew (some (cmdFalse, .r)))).lib (some 1) .close).out = .raised .IOError ∧
    (fileRead pipeIO (fileOpen pipeIO Cfg.fixed s0.lib none cmdCat .r).lib (some 1) 2).out = .ok (1, [1, 2]) := by
  decide

/-- **The un-repaired Process_Close is refuted** (the state of /repo before fix 51c301c: no closed-handle test, the
    handle kept when pclose ≠ 0 — `Cfg.preFix`).  Witnesses under the reference pipe library:
    (1) `p = new(Process, "true", "r"); sclose(p); sclose(p)` — the second sclose calls pclose(NULL): undefined behaviour (a
        crash in glibc), the log is not well bracketed;
    (2) `p = new(Process, "false", "r"); sclose(p)` — IOError (exit status 1) and the object still holds handle 1, which is
        not open any more; `del(p)` (or the collector) then calls pclose on it a second time: one popen, two pcloses. -/
theorem C20_process_close_old_refuted :
    let s0 : Multi PRef := ⟨PRef.init, [], []⟩
    let e1 := s0.run pipeIO Cfg.preFix [(2, .pnew (some (cmdTrue, .r))), (2, .op .close), (2, .op .close)]
    let e2a := s0.run pipeIO Cfg.preFix [(2, .pnew (some (cmdFalse, .r))), (2, .op .close)]
    let e2 := s0.run pipeIO Cfg.preFix [(2, .pnew (some (cmdFalse, .r))), (2, .op .close), (2, .del)]
    e1.log = [(2, .fopen cmdTrue .r (some 1)), (2, .on .fclose 1), (2, .onNull .fclose)] ∧ gtrack [] (untag e1.log) = none ∧
    (step pipeIO Cfg.preFix PRef.init none .close).out = .ub ∧
    e2a.held 2 = some 1 ∧ e2a.lib.streams = [] ∧
    e2.log = [(2, .fopen cmdFalse .r (some 1)), (2, .on .fclose 1), (2, .on .fclose 1)] ∧
    gtrack [] (untag e2.log) = none ∧ track none (proj 2 e2.log) = none ∧
    ((untag e2.log).filter isOpenOk).length = 1 ∧ ((untag e2.log).filter isClose).length = 2 := by
  decide

/-- the code as it is now on the same two histories: the second sclose is refused without a call, the failing pclose
    drops the handle, del makes no call: one pclose per popen -/
theorem C20_process_close_repaired :
    let s0 : Multi PRef := ⟨PRef.init, [], []⟩
    let cfg : Cfg := ⟨CelloGen.File.procCloseGuarded, CelloGen.File.procCloseDropsAlways⟩
    let e1 := s0.run pipeIO cfg [(2, .pnew (some (cmdTrue, .r))), (2, .op .close), (2, .op .close)]
    let e2a := s0.run pipeIO cfg [(2, .pnew (some (cmdFalse, .r))), (2, .op .close)]
    let e2 := s0.run pipeIO cfg [(2, .pnew (some (cmdFalse, .r))), (2, .op .close), (2, .del)]
    e1.log = [(2, .fopen cmdTrue .r (some 1)), (2, .on .fclose 1)] ∧ gtrack [] (untag e1.log) = some [] ∧
    e2a.held 2 = none ∧
    (step pipeIO cfg (s0.step pipeIO cfg 2 (.pnew (some (cmdFalse, .r)))).lib (some 1) .close).out = .raised .IOError ∧
    e2.log = [(2, .fopen cmdFalse .r (some 1)), (2, .on .fclose 1)] ∧ gtrack [] (untag e2.log) = some [] := by
  decide

/-! ## File_Open, File_Del and the header of `with_in` as PROGRAMS read from the source

  The flags of link (A) (`openClosesFirst`, `openThrowsOnNull`) come from a regular expression that finds the statements of File_Open
  and compares their positions.  Here its body is extracted statement by statement (`CelloGen.File.openProg`), executed by `runOpen`
  (Cello/FileProg.lean) with `f->file` and a local `FILE*` as separate cells, and the theorems say what that program does — for
  every stdio implementation, every library state, every File. -/

/-- **the body of File_Open, as the source has it now, IS the model's `fileOpen`** — for every stdio, every configuration of
    File_Close, every library state, every state of the File, every path and mode (so every theorem about `fileOpen` / `step … (.open …)`
    — closed ⇒ refused, close-once, the round trips — is a theorem about the statements of src/File.c); File_Del likewise -/
theorem C20_open_source_is_model {σ : Type} (io : Stdio σ) (cfg : Cfg) (l : σ) (f : Option Handle) (file : Nat) (m : Mode) :
    fileOpenSrc io cfg l f file m = fileOpen io cfg l f file m ∧ fileDelSrc io cfg l f = fileDel io cfg l f := by
  have hp : CelloGen.File.openProg = [.closeIfHeld, .fopenTo .field, .throwIfNull .field, .ret] := rfl
  have hd : CelloGen.File.delProg = [.closeIfHeld] := rfl
  unfold fileOpenSrc fileDelSrc
  rw [hp, hd]
  cases f with
  | none =>
    refine ⟨?_, rfl⟩
    rw [fileOpen_none]
    cases hr : (io.fopen l file m).2 <;> simp [runOpen, hr]
  | some h0 =>
    -- both run File_Close first and stop when it raises; what it leaves in the field is overwritten by fopen
    simp only [runOpen, fileOpen, fileDel, List.nil_append]
    generalize fileClose io cfg l (some h0) = c
    obtain ⟨cl, cf, co, cc⟩ := c
    cases co with
    | ok u => refine ⟨?_, rfl⟩; cases (io.fopen cl file m).2 <;> simp
    | raised e => exact ⟨rfl, rfl⟩
    | ub => exact ⟨rfl, rfl⟩

/-- **close, then open — and a failed fopen leaves the File closed** (the statements of src/File.c, executed): on a File that
    holds `h` whose fclose succeeds, File_Open calls `fclose(h)` BEFORE `fopen` and nothing else; whatever fopen answers, the old
    handle is gone; when fopen answers NULL the File holds nothing and IOError is raised — so the next operation is refused
    (`C20_closed_refused`) instead of reaching a stale stream -/
theorem C20_open_closes_then_opens {σ : Type} (io : Stdio σ) (l : σ) (h : Handle) (file : Nat) (m : Mode)
    (hok : (io.fclose l h).2 = true) :
    let r := fileOpenSrc io Cfg.fixed l (some h) file m
    let o := io.fopen (io.fclose l h).1 file m
    r.calls = [.on .fclose h, .fopen file m o.2] ∧ r.f = o.2 ∧ r.lib = o.1 ∧
      (o.2 = none → r.out = .raised .IOError) ∧ (o.2 ≠ none → r.out = .ok ()) := by
  dsimp only
  rw [(C20_open_source_is_model io Cfg.fixed l (some h) file m).1, fileOpen_some_fixed, if_pos hok]
  exact ⟨rfl, rfl, rfl, fun h => by simp [h], fun h => by simp [Option.isSome_iff_ne_none.mpr h]⟩

/-- a File that holds nothing: one call, fopen; the File holds what fopen answered -/
theorem C20_open_on_closed {σ : Type} (io : Stdio σ) (cfg : Cfg) (l : σ) (file : Nat) (m : Mode) :
    let r := fileOpenSrc io cfg l none file m
    let o := io.fopen l file m
    r.calls = [.fopen file m o.2] ∧ r.f = o.2 ∧ (o.2 = none → r.out = .raised .IOError) := by
  dsimp only
  rw [(C20_open_source_is_model io cfg l none file m).1, fileOpen_none]
  exact ⟨rfl, rfl, fun h => by simp [h]⟩

/-- **sopen executed by the source's statements continues a well-bracketed log**: `track` accepts the calls of the extracted
    program from what the File held and ends with what it holds.  For whole histories: replacing the model's File_Open by the
    extracted program changes no run (`C20_open_source_is_model`), so `C20_close_once` speaks of them as they are -/
theorem C20_open_source_close_once {σ : Type} (io : Stdio σ) (l : σ) (f : Option Handle) (file : Nat) (m : Mode) :
    ∃ c', track f (fileOpenSrc io Cfg.fixed l f file m).calls = some c' ∧ c' = (fileOpenSrc io Cfg.fixed l f file m).f := by
  rw [(C20_open_source_is_model io Cfg.fixed l f file m).1]
  exact ⟨_, fileOpen_track io l f file m, rfl⟩

/-- **the order "fopen first, close the old stream afterwards" refuted** (seeded changes c20_e / c20_g / c20_i / c20_k / c20_m):
    on the reference stdio, reopening file 2 for writing on a File that holds a stream on file 2, the program `openFirstProg`
    opens a SECOND stream while the first is still held — its log is not well bracketed (`track` rejects it: a successful fopen
    while a handle is held), two streams stand on one file at the moment of truncation (what the buffered bytes of the first do to
    the truncated file is outside every stdio model of this engine) — while the source's program closes first and tracks -/
theorem C20_open_first_refuted :
    let l1 := (fileOpen refIO Cfg.fixed Ref.init none 2 .w).lib
    let bad := runOpen refIO Cfg.fixed 2 .w openFirstProg ⟨l1, some 1, none, []⟩
    let good := fileOpenSrc refIO Cfg.fixed l1 (some 1) 2 .w
    bad.calls = [.fopen 2 .w (some 2), .on .fclose 1] ∧ track (some 1) bad.calls = none ∧ bad.out = .ok () ∧
      good.calls = [.on .fclose 1, .fopen 2 .w (some 2)] ∧ track (some 1) good.calls = some (some 2) := by
  refine ⟨by decide +kernel, by decide +kernel, by decide +kernel, by decide +kernel, by decide +kernel⟩

/-- … and what the changed order is advertised for — "a failed open leaves the current file untouched" — is a different contract:
    under `openFirstProg` a failed fopen leaves the File OPEN on the old stream (no fclose), under the source's program closed -/
theorem C20_open_first_keeps_old_on_failure {σ : Type} (io : Stdio σ) (l : σ) (h : Handle) (file : Nat) (m : Mode)
    (hf : (io.fopen l file m).2 = none) :
    (runOpen io Cfg.fixed file m openFirstProg ⟨l, some h, none, []⟩).f = some h ∧
      (runOpen io Cfg.fixed file m openFirstProg ⟨l, some h, none, []⟩).calls = [.fopen file m none] := by
  simp [openFirstProg, runOpen, hf]

/-- **the header of `with_in`, as terms, is the clause model the `with` theorems are about**: init `var X = start_in(S)`,
    condition `X isnt NULL`, step `X = stop_in(X)`; start_in / stop_in look up the `Start` instance, call `start` / `stop` on
    their argument when the type has one, and return their argument / NULL -/
theorem C20_with_program_cfg :
    withCfgOf CelloGen.File.withProg = some WithCfg.fixed ∧
    CelloGen.File.startInFn = ⟨"Start", "start", "start", "self", "self"⟩ ∧
    CelloGen.File.stopInFn = ⟨"Start", "stop", "stop", "self", "NULL"⟩ := by decide

/-- **the for loop of the header, executed on its terms**: in every world — whatever evaluating the source expression `S` does
    and yields, whatever start_in and stop_in do to the world, provided start_in returns its argument and stop_in returns NULL
    (`C20_with_program_cfg`) — and for every body that reaches its end: `S` is evaluated exactly ONCE, start_in is applied to the
    object that evaluation yielded, the body runs exactly once with the loop variable bound to it, stop_in is applied to the loop
    variable — that same object —, and the loop ends -/
theorem C20_with_program_protocol {ω : Type} (env : TEnv ω) (body : ω → Option Nat → ω) (w : ω) (o : Nat) (fuel : Nat)
    (hS : (env.evalS w).2 = some o)
    (hstart : ∀ w v, (env.fn "start_in" w v).2 = v) (hstop : ∀ w v, (env.fn "stop_in" w v).2 = none) :
    (runWith env CelloGen.File.withProg body (fuel + 2) w).2 =
      [.evalS (some o), .call "start_in" (some o) (some o), .body (some o), .call "stop_in" (some o) none] := by
  have hp : CelloGen.File.withProg = ⟨.x, .call "start_in" .s, .x, true, .null, .x, .call "stop_in" .x⟩ := rfl
  simp [runWith, hp, loopFor, evalT, hS, hstart, hstop]

/-- non-vacuity, and the variant `X = stop_in(S)` refuted on the terms (seeded changes c20_d / c20_h / c20_l): in a world where
    `S` constructs an object on every evaluation, the source's header evaluates it once and stops object 0; the variant evaluates
    it twice and stops object 1 — the object the loop variable holds is never stopped -/
theorem C20_with_program_reeval_refuted :
    (runWith freshEnv CelloGen.File.withProg (fun w _ => w) 5 0).2 =
        [.evalS (some 0), .call "start_in" (some 0) (some 0), .body (some 0), .call "stop_in" (some 0) none] ∧
    (runWith freshEnv withProgReeval (fun w _ => w) 5 0).2 =
        [.evalS (some 0), .call "start_in" (some 0) (some 0), .body (some 0), .evalS (some 1), .call "stop_in" (some 1) none] ∧
    withCfgOf withProgReeval = some WithCfg.reeval := by
  refine ⟨by decide, by decide, by decide⟩

end Cello.File

/-! ## Text written with print_to is read back identical with scan_from: every conversion, every length modifier

  `print_to(f, 0, "%<spec>", x)` hands `c_int(x)` / `c_float(x)` / `c_str(x)` to vfprintf with the specification as it stands;
  `scan_from(f, 0, "%<spec>", x)` has vfscanf store into an object chosen by a chain of tests on the specification and turns that
  object into the Int by an expression of casts (src/Show.c `scan_from_with`).  Both are taken from the source on every run
  (CelloGen/FileScan.lean: `intArms` with the expression as a term, `intSigned`, `tmpTy`, `charTy`, `charFin`, the floating arms,
  the pinned texts of the other branches, the formats of src/Num.c); libc's two conversions are the executable models of
  Cello/Text.lean (validated against glibc on every run by the twin-file oracle of harness/h_file.c: libc's own fscanf of the
  same bytes into the C type the specification names). -/
namespace Cello.FileText

open Cello.Text (IMod IConv FConv sext zext convInt intInWidth inInt64 printIntSpec ispecSafe)
open Cello.File (Ref Handle At Regular Mode)

/-- the branches of `scan_from_with` / `print_to_with` that are modelled as written (literal runs; the head of the specification
    branch with the `%$` dispatch to `look_from`; `%s`; which argument each conversion of print_to_with hands to `format_to`) have
    the text the model was written against; `tmp` is a `long`; Int and Float show and look through one print_to / scan_from with
    `%li`, `%li`, `%f`, `%lf` -/
theorem C20_text_source_shape :
    CelloGen.FileScan.scanLitBranch = CelloGen.FileScan.scanLitBranchModelled ∧
    CelloGen.FileScan.scanSpecHead = CelloGen.FileScan.scanSpecHeadModelled ∧
    CelloGen.FileScan.scanStrBranch = CelloGen.FileScan.scanStrBranchModelled ∧
    CelloGen.FileScan.printBranches = CelloGen.FileScan.printBranchesModelled ∧
    CelloGen.FileScan.tmpTy = ⟨true, 64⟩ ∧
    CelloGen.FileScan.intConvs = [100, 105, 111, 117, 120, 88] ∧
    CelloGen.FileScan.floatConvs = [102, 70, 101, 69, 103, 71, 97, 65] ∧
    CelloGen.FileScan.numShowInstances = true ∧
    intShowSpec = some (.int .l .i) ∧ intLookSpec = some (.int .l .i) ∧
    floatShowSpec = some (.flt false .f) ∧ floatLookSpec = some (.flt true .f) :=
  by refine ⟨rfl, rfl, rfl, rfl, rfl, rfl, rfl, rfl, by decide, by decide, by decide, by decide⟩

/-- **the chain of tests, decided on the arms extracted from the source**: each of the 54 specifications
    `%[hh|h|l|ll|j|z|t|q][d|i|o|u|x|X]` reaches an arm whose object has exactly the width libc stores for that modifier, and `sgn`
    is true exactly for `d` and `i` -/
theorem C20_scan_int_arms_select : armsSelect src = true := by decide

/-- **every arm converts — decided on the arms' expressions as the source has them** (the narrowing / widening of
    `scan_from_with`): the verified interval evaluator `armOK` (Lemmas/FileText.lean) follows each arm's path — pattern → the object
    scanf stores into → the expression assigned to `tmp`, with C's integer promotions and usual arithmetic conversions → `tmp` →
    `$I` — on both halves of the pattern space and for both values of `sgn`, and compares with C's conversion to the type the
    specification names.  An arm that sign-extends an unsigned conversion (`tmp = t;`), zero-extends a signed one, or goes through
    a narrower type makes this theorem fail. -/
theorem C20_scan_int_arms_ok : src.arms.all (armOK src) = true := by decide +kernel

/-- … hence, **for every bit pattern** libc may have stored into the arm's object, the Int delivered is that pattern read as a
    signed number of the object's width under `d` / `i` and as an unsigned number under `o u x X` (a 64-bit pattern: the `int64_t`
    with those bits) -/
theorem C20_scan_int_arms_convert : ∀ arm ∈ src.arms, ArmConverts src arm :=
  fun arm h => armOK_sound src arm (List.all_eq_true.mp C20_scan_int_arms_ok arm h)

/-- **C20, text of integers: what is read back is C's conversion of what was written.**  For each length modifier, each of
    `d i o u x X`, every `int64_t` `n` and every following text that does not continue the number: the integer branch of
    `scan_from_with` — as the source has it now — applied to what printf wrote for `n` under `%<m><cv>`, followed by that text,
    delivers `convInt m cv n` (sign extension of the low 8 / 16 / 32 bits under `d i`, the low bits as an unsigned number under
    `o u x X`, the value itself for the 64-bit modifiers) and leaves exactly that text unread. -/
theorem C20_text_int_conversion (m : IMod) (cv : IConv) (n : Int) (hn : inInt64 n = true) (rest : List Nat)
    (hs : ispecSafe m cv n rest = true) :
    scanIntSpec src m cv (printIntSpec m cv n ++ rest) = .ok (convInt m cv n, rest) :=
  scanIntSpec_print src C20_scan_int_arms_select C20_scan_int_arms_convert m cv n (fun _ => hn) rest hs

/-- **C20, text of integers: the round trip.**  For every value of the type the specification names — [-2^(w-1), 2^(w-1)) under
    `d i`, [0, 2^w) under `o u x X`, w = 8 (`hh`), 16 (`h`), 32 (no modifier); every `int64_t` for `l ll j z t q` — what
    `print_to` wrote is read back by `scan_from` as the same value.  In particular `%u %x %X %o` of 2^31 … 2^32−1. -/
theorem C20_text_int_roundtrip (m : IMod) (cv : IConv) (n : Int) (hw : intInWidth m cv n = true) (rest : List Nat)
    (hs : ispecSafe m cv n rest = true) :
    scanIntSpec src m cv (printIntSpec m cv n ++ rest) = .ok (n, rest) := by
  -- the branch needs `n` to be an `int64_t` only at width 64, where that is what `intInWidth` says
  have hn : m.width = 64 → inInt64 n = true := fun h => by rwa [intInWidth, if_pos h] at hw
  rw [scanIntSpec_print src C20_scan_int_arms_select C20_scan_int_arms_convert m cv n hn rest hs, Text.convInt_inWidth m cv n hw]

/-- the values the seeded change c20_j breaks are inside the statement: 4000000000 and 0xdeadbeef are values of `unsigned int`,
    a separator does not continue the number -/
example : intInWidth .none .u 4000000000 = true ∧ intInWidth .none .x 3735928559 = true ∧ intInWidth .none .o (2 ^ 31) = true ∧
    ispecSafe .none .u 4000000000 [32, 55] = true ∧ ispecSafe .none .x 3735928559 [44, 32] = true ∧
    printIntSpec .none .x 3735928559 = [100, 101, 97, 100, 98, 101, 101, 102] ∧
    scanIntSpec src .none .u ([52, 48, 48, 48, 48, 48, 48, 48, 48, 48] ++ [32, 55]) = .ok (4000000000, [32, 55]) := by
  refine ⟨by decide, by decide, by decide, by decide, by decide, by decide +kernel, by decide +kernel⟩

/-- **`%c`**: the byte printf writes for a value of `char` is read back as that value (`scan_from_with` stores it into a `char`
    and hands `$I(tmp)` on) -/
theorem C20_text_char_roundtrip (n : Int) (h1 : -128 ≤ n) (h2 : n ≤ 127) : charValue src (charByte n) = n := by
  -- the byte is the low 8 bits of `n`, and `n` is a value of `char` and of `int64_t`
  have hb : ((charByte n % 256 : Nat) : Int) = zext 8 n := by
    rw [Nat.mod_eq_of_lt (charByte_lt n), charByte, Int.toNat_of_nonneg (Int.emod_nonneg n (by decide))]; rfl
  show sext 64 (conv ⟨true, 8⟩ ((charByte n % 256 : Nat) : Int)) = n
  rw [hb, conv, if_pos rfl, Text.sext_congr 8 _ n (Text.zext_zext 8 n),
    Text.sext_of_range 8 (by decide) n (show -(2 : Int) ^ 7 ≤ n by omega) (show n < (2 : Int) ^ 7 by omega)]
  exact Text.sext_of_range 64 (by decide) n (show -(2 : Int) ^ 63 ≤ n by omega) (show n < (2 : Int) ^ 63 by omega)

/-- **on a File.**  An open readable File whose stream stands at `p` where the text `print_to` wrote for `n` under `%<m><cv>`
    begins, followed by the literal run `sep` of the format and anything else that does not continue the number:
    `scan_from(f, 0, "%<m><cv><sep>", x)` raises nothing, stores `n`, returns the length of the number plus the length of the literal
    run, makes its `vfscanf` calls on the handle the File holds, and leaves the stream at or beyond the end of the number. -/
theorem C20_text_int_roundtrip_on_file {l : Ref} {h : Handle} {k : Nat} {md : Mode} {p : Nat} {e : Bool} {c : List Cello.File.Byte}
    (a : At l h k md p e c) (hk : Regular k) (hr : md.canRead = true) (m : IMod) (cv : IConv) (n : Int)
    (hw : intInWidth m cv n = true) (sep rest : List Nat) (hc : toNats (c.drop p) = printIntSpec m cv n ++ rest)
    (hs : ispecSafe m cv n rest = true) :
    ∃ res, fileScanText src l (some h) (.int m cv) sep = some res ∧ res.f = some h ∧
      res.out = .ok (.int n, (printIntSpec m cv n).length + sep.length) ∧
      (∀ cl ∈ res.calls, cl = .on .vfscanf h) ∧
      ∃ p' e', At res.lib h k md p' e' c ∧ p + (printIntSpec m cv n).length ≤ p' := by
  have hlen : (printIntSpec m cv n ++ rest).length - rest.length = (printIntSpec m cv n).length := by simp
  have hrs : readSpec src (.int m cv) (toNats (c.drop p)) (dfltOf (.int m cv)) =
      ⟨true, (printIntSpec m cv n).length, rest.isEmpty, .int n, 1, true⟩ := by
    simp only [hc, readSpec, readPlain, C20_text_int_roundtrip m cv n hw rest hs, rdOfRes, hlen]
  exact fileScanText_ok a hk hr src (.int m cv) sep hrs

/-- the hypotheses of the theorem on a File are met on a concrete run of the model: `sopen "w+"`, `print_to(f, 0, "%u ", $I(4000000000))`
    (two `vfprintf`), `sseek` to the start, `scan_from(f, 0, "%u ", x)`: 4000000000 again, position 11, end of the file seen -/
example :
    let l0 := (Cello.File.step Cello.File.refIO .fixed Ref.init none (.open 3 .wp)).lib
    let fr := (printFrags (.int .none .u) (.int 4000000000) [32]).getD []
    let p1 := Cello.File.step Cello.File.refIO .fixed l0 (some 1) (.print (fr.map toBytes))
    let sk := Cello.File.step Cello.File.refIO .fixed p1.lib (some 1) (.seek 0 .set)
    let sc := fileScanText src sk.lib (some 1) (.int .none .u) [32]
    fr = [[52, 48, 48, 48, 48, 48, 48, 48, 48, 48], [32]] ∧ p1.out = .ok (.int 11) ∧
      sc.map (fun r => (r.out, r.calls)) = some (.ok (.int 4000000000, 11), [.on .vfscanf 1, .on .vfscanf 1]) ∧
      (sc.map (fun r => r.lib.streams)) = some [(1, ⟨3, .wp, 11, true, .rd⟩)] := by
  refine ⟨by decide +kernel, by decide +kernel, by decide +kernel, by decide +kernel⟩

/-- **the variant `tmp = t;` refuted** (seeded change c20_j: the cast of the unsigned conversions dropped): with the last arm's
    expression replaced by the bare temporary the text `4000000000` is read back as −294967296 -/
theorem C20_scan_sign_extending_arm_refuted :
    let bad : Src := { src with arms := [⟨"strpbrk", [108, 106, 122, 116, 113], ⟨true, 64⟩, true, .t⟩, ⟨"else", [], ⟨true, 32⟩, false, .t⟩] }
    scanIntSpec bad .none .u ([52, 48, 48, 48, 48, 48, 48, 48, 48, 48] ++ [32]) = .ok (-294967296, [32]) ∧
    armOK bad ⟨"else", [], ⟨true, 32⟩, false, .t⟩ = false ∧
    ¬ ArmConverts bad ⟨"else", [], ⟨true, 32⟩, false, .t⟩ := by
  refine ⟨by decide +kernel, by decide +kernel, ?_⟩
  intro h
  have := h false (2 ^ 31) (by decide)
  revert this
  decide +kernel

/-- **each floating specification reaches an arm whose object has the type libc stores** (decided on the arms extracted from the
    source): for `%f %F %e %E %g %G` with and without `l`, the chain of tests on `fmt_buf` selects an arm; the object whose address
    that arm hands to scanf is a `double` exactly when the specification has `l` and a `float` otherwise — the type C11 7.21.6.2
    prescribes for the pointer argument —, and the Float is made of that object (`$F(tmp)`) -/
theorem C20_scan_float_arms_select : ∀ (l : Bool) (cv : FConv),
    ∃ a, floatArmFor src l cv = some a ∧ a.obj = libcFloatObj l ∧ a.fin = "tmp" := by
  intro l cv; cases l <;> cases cv <;> exact ⟨_, rfl, by decide, by decide⟩

/-- the floating branch reads a `double` exactly when the specification has the `l` modifier, a `float` otherwise -/
theorem C20_scan_float_arm : ∀ (l : Bool) (cv : FConv), floatNarrow src l cv = !l := by
  intro l cv
  obtain ⟨a, ha, hobj, _⟩ := C20_scan_float_arms_select l cv
  rw [floatNarrow, ha]
  show (a.obj == "float") = !l
  rw [hobj]; cases l <;> rfl

/-- no arm is dead and no arm reads a third type: every arm of the source's chain is selected by one of the twelve specifications -/
theorem C20_scan_float_arms_all_reached :
    src.farms.all (fun a => [false, true].any (fun l => [FConv.f, .F, .e, .E, .g, .G].any (fun cv => floatArmFor src l cv == some a)))
      = true := by decide

/-- **text of floating values: what scan_from delivers is libc's conversion at the width the specification names** — never the
    undefined store of one width into an object of the other: for every specification and every input, the floating branch of
    `scan_from_with` is `scanFloating` narrowed to `float` exactly without `l` -/
theorem C20_text_float_conversion (l : Bool) (cv : FConv) (input : List Nat) :
    scanFloatSpec src l cv input = Cello.Text.scanFloating (!l) input := by
  obtain ⟨a, ha, hobj, hfin⟩ := C20_scan_float_arms_select l cv
  rw [scanFloatSpec, ha]
  simp only [hobj, hfin, ne_eq, not_true_eq_false, if_false]
  cases l <;> rfl

/-- **the variant "always a double" refuted** (seeded change c20_n: the two arms merged, by analogy with printf where `%f` and
    `%lf` coincide): `%f` then reaches an arm whose object is a `double` while libc stores a `float` — undefined; with `l` nothing
    changes -/
theorem C20_scan_float_single_double_arm_refuted :
    let bad : Src := { src with farms := [⟨"else", [], "double", "tmp"⟩] }
    scanFloatSpec bad false .f [51, 46, 50, 53] = .ub ∧ scanFloatSpec bad false .g [49] = .ub ∧
    scanFloatSpec bad true .f [51, 46, 50, 53] = scanFloatSpec src true .f [51, 46, 50, 53] ∧
    scanFloatSpec src false .f [51, 46, 50, 53] = .ok (0x400A000000000000, []) := by
  refine ⟨by decide, by decide, by decide +kernel, by decide +kernel⟩

end Cello.FileText
