/-
  C06 — every managed object is finalised exactly once, all memory returned by teardown.

  Property theorems only; lemmas are in CelloProofs/Lemmas/Life{Basic,Fin,Safe,Hist,Inv,Null,X,Mem}.lean, the model
  (history language `Op`, `step`, the ledger of `fin a` / `free a`) in Cello/Lifecycle.lean.
  Mark phases that an exception leaves with bits set (`Op.markAbort`) and `del(NULL)` by the program (`Op.delNull`) and by
  destructors (`Op.nulldel`) were defects of the C code, repaired by fixes d8f0c4f and d3e4e44: they are part of
  the history language of *every* theorem below, with no hypothesis; the code before each fix is kept as an explicit OLD
  variant of the model (`Cfg.staleMarks`, `Cfg.nullUnguarded`) and refuted on the witnesses of the two defects.

  Safety ("no managed object is finalised twice, none is released without being finalised") is proved for *every*
  well-formed history: `C06_no_double`, `C06_ledger_only_grows`, `C06_registered_inert` have no other hypothesis.
  For the liveness half ("exactly once … none is left behind at teardown") three regions of the history language are
  known findings of this tree; each is excluded from those theorems by an explicit, decidable hypothesis and exhibited
  by a `…_refuted` theorem on a concrete witness:
    F23  new/new_root, del_root while the collector is stopped       — `(ghost ops).lost = []` / no `stop`
    KF-C06-dtor-alloc  an object whose destructor allocates            — `NoDtor ops`
    KF-C06-dealloc-registered  `dealloc` of a registered object        — `WellFormed` (dealloc only of raw objects)
  and two more live in the *second layer* of the model (`stepX`/`runX`, Cello/Lifecycle.lean, last section; `finalX`,
  `NoRaise`, Lemmas/LifeX.lean: the core model plus the type edge `Op.typed b t` and destructors that raise
  `Op.raises a`; for a history without a raising destructor it is the core model, `finalX_core`):
    KF-C06-type-released-first  a run-time Type object released before an instance — `TypesKept ops`
    KF-C06-dtor-raises  a destructor run by the collector raises            — `NoRaise ops`
  (section "second layer" below: the headline theorem restated over `finalX` with both hypotheses,
  and the `_refuted` statements without them).

  Vocabulary:  `Once a log`  = the ledger has exactly one `fin a` and exactly one `free a`, the `fin` first;
               `Clean a log` = the ledger has no event of `a`;
               `WellFormed ops` = the program's obligations: identities are fresh, `del_raw` is applied only to a raw
               object and at most once.  (That the program does not `del` an object twice or `del` an object a live owner
               owns is *not* needed by the model — identities are never reused in it — but is needed for the model to
               speak about the C code, where a freed address can be handed out again: it is an assumption of the check.)
  `WellFormed`, `NoDtor`, `final ops` (collector state after the history), `ghost ops` (program-side bookkeeping:
  identities allocated, raw objects not yet `del_raw`ed, objects allocated while stopped) are defined in Lemmas/LifeHist.lean.

  Scope.  Every theorem is about one collector.  "Teardown in main and worker threads" is the same `Op.teardown`
  (`Cello_Exit` and `Thread_Init_Run` both end in `GC_Del`); that a `del` issued by another thread is a no-op on this
  collector and that the object is then finalised by its own thread's teardown is `C13_foreign_del` (Props/C13.lean, a
  different model).  The collector's own tables (`entries`, `freelist`) are not in the ledger model; they have a model of
  their own (Cello/LifecycleMem.lean, last section of this file: `C06_collector_tables_released`), run on the statement
  lists the translator reads from `GC_Rehash`, `GC_Sweep`, `GC_Del`; the order of `Thread_Init_Run`, `Cello_Exit` and the
  `main` macro is checked on extracted step lists (`C06_thread_setup_teardown_order`, `C06_main_setup_teardown_order`).
  The per-thread wrapper/TLS/Exception objects' own blocks are covered by ASan only.
-/
import CelloProofs.Lemmas.LifeInv
import CelloProofs.Lemmas.LifeSafe
import CelloProofs.Lemmas.LifeNull
import CelloProofs.Lemmas.LifeX
import Cello.LifecycleSrc
import CelloProofs.Lemmas.LifeMem

namespace Cello.Life

/-- **the code that exists is the code the theorems are about**: the translator reads from src/GC.c whether
    `GC_Rem_Ptr` finalises a pending object it strikes off and whether `GC_Sweep` clears a pending slot before finalising
    it (the two halves of fix 5c00ad8), whether `GC_Mark` and `GC_Del` start with `GC_Unmark` (the two halves of fix
    d8f0c4f), whether `GC_Rem_Ptr` returns at once for NULL (fix d3e4e44), and from GC.c/Alloc.c/Pointer.c/Thread.c the
    routes the model mirrors (`del_by`, `Box_Del`, the stop checks, `GC_Del`, `Cello_Exit`, `Thread_Init_Run`, the `mitems`
    formula, the sweep clearing the mark bits of its survivors).  A source change that
    flips any of them makes this theorem fail to build. -/
theorem C06_current_source : sourceCfg = Cfg.current ∧ sourceShapeAsModelled = true := by
  constructor <;> decide

/-- **C06, at most once — every history.**  After any well-formed history — any interleaving of allocations (`new…`,
    `alloc…`), deletions, `dealloc_raw`, ownership links, collections with any marked set and any slot order, stop, start,
    teardown, *and destructors that allocate* (with the nested collections they run on the pending list of the sweep in
    progress) — every object has either no ledger event at all or exactly one `fin` followed by exactly one `free`: nothing
    is finalised twice, released twice, or released without having been finalised.  (Known finding KF-C06-dtor-alloc loses
    objects; it never finalises one twice.) -/
theorem C06_no_double (ops : List Op) (h : WellFormed ops) (a : Addr) :
    Clean a (final ops).log ∨ Once a (final ops).log :=
  (sinv_final ops h).total a

/-- the same, counted: at most one `fin`, at most one `free`, and never a `free` without its `fin` -/
theorem C06_no_double_counts (ops : List Op) (h : WellFormed ops) (a : Addr) :
    (final ops).log.count (Ev.fin a) ≤ 1 ∧ (final ops).log.count (Ev.free a) ≤ 1 ∧
      (final ops).log.count (Ev.free a) = (final ops).log.count (Ev.fin a) := by
  rcases C06_no_double ops h a with hc | ho
  · rw [(count_eq_zero_of_clean hc).1, (count_eq_zero_of_clean hc).2]; decide
  · rw [ho.counts.1, ho.counts.2]; decide

/-- **the ledger only grows**: whatever follows a history extends its ledger, so "at most once at the end of every
    history" (`C06_no_double`) is "at no point a second finalise or free" — for every well-formed history. -/
theorem C06_ledger_only_grows (ops more : List Op) (h : WellFormed (ops ++ more)) :
    ∃ E, (final (ops ++ more)).log = (final ops).log ++ E := by
  have hw := (wf_append ops more Ghost.init St.init).1 h
  obtain ⟨_, E, hE⟩ := sinv_run more _ _ (sinv_final ops hw.1) hw.2
  exact ⟨E, by unfold final; rw [run_append]; exact hE⟩

/-- **what the collector still holds has not been finalised** — every well-formed history: an object that is registered
    has no ledger event; the registry never points at a finalised or released object, and holds no object twice. -/
theorem C06_registered_inert (ops : List Op) (h : WellFormed ops) :
    (∀ a ∈ (final ops).regAddrs, Clean a (final ops).log) ∧ (final ops).regAddrs.Nodup :=
  ⟨fun a ha => (sinv_final ops h).safe.inert a (Or.inl (Or.inr ha)), (sinv_final ops h).safe.nodup⟩

/-- **C06, what teardown leaves.**  After any well-formed history in which no destructor allocates (`NoDtor`, as in
    every theorem down to `C06_order_irrelevant`), followed by teardown (for any slot order), every
    allocated object is in exactly one of four situations: finalised and released exactly once; a root the program never
    deleted (still registered: teardown does not sweep roots); a raw object the program never `del_raw`ed; an object
    allocated with `new`/`new_root` while the collector was stopped (known finding F23).  And teardown leaves only
    roots in the registry. -/
theorem C06_teardown_classification (ops : List Op) (order : List Addr) (h : WellFormed ops) (hnd : NoDtor ops) :
    (∀ e ∈ (final (ops ++ [Op.teardown order])).reg, e.root = true ∧ e ∈ (final ops).reg) ∧
    ∀ a ∈ (ghost ops).allocd,
      Once a (final (ops ++ [Op.teardown order])).log ∨ a ∈ (final (ops ++ [Op.teardown order])).regAddrs ∨
        a ∈ (ghost ops).rawLive ∨ a ∈ (ghost ops).lost := by
  refine ⟨fun e he => ?_, fun a ha => ?_⟩
  · rw [final_snoc] at he
    obtain ⟨hm, hs⟩ := ((inv_final ops h hnd).sweep [] order).survivors e he
    exact ⟨by simpa [swept] using hs, hm⟩
  · have := final_classified (ops ++ [Op.teardown order]) (h.snoc trivial) (hnd.snoc rfl) (a := a)
    rw [ghost_snoc] at this
    exact this ha

/-- **C06, exactly once — with stop/start windows, outside known finding F23.**  For every well-formed history in
    which no object was allocated with `new`/`new_root` while the collector was stopped, whose raw objects the program has
    all `del_raw`ed and which leaves no root registered (the program deleted its roots), after teardown — for every slot
    order, i.e. whether an owner is swept before or after what it owns — every allocated object has exactly one `fin`
    followed by exactly one `free`, and the registry is empty. -/
theorem C06_exactly_once_windows (ops : List Op) (order : List Addr) (h : WellFormed ops) (hnd : NoDtor ops)
    (hlost : (ghost ops).lost = []) (hraw : (ghost ops).rawLive = [])
    (hroots : ∀ e ∈ (final ops).reg, e.root = false) :
    (final (ops ++ [Op.teardown order])).reg = [] ∧
    ∀ a ∈ (ghost ops).allocd, Once a (final (ops ++ [Op.teardown order])).log := by
  obtain ⟨h1, h2⟩ := C06_teardown_classification ops order h hnd
  have hempty : (final (ops ++ [Op.teardown order])).reg = [] := by
    apply List.eq_nil_iff_forall_not_mem.2
    intro e he
    obtain ⟨hr, hm⟩ := h1 e he
    rw [hroots e hm] at hr
    exact Bool.noConfusion hr
  refine ⟨hempty, ?_⟩
  intro a ha
  rcases h2 a ha with h | h | h | h
  · exact h
  · unfold St.regAddrs at h; rw [hempty] at h; simp at h
  · rw [hraw] at h; simp at h
  · rw [hlost] at h; simp at h

/-- **C06, exactly once — collector running throughout** (T1 of DESIGN §6).  For every well-formed history
    without `stop`, whose raw objects the program has `del_raw`ed and whose roots it has deleted, and for every slot order
    of the teardown collection: every object any `new`/`new_root`/`new_raw` of the history created is finalised exactly
    once and then released exactly once, by a collection, an explicit `del`, its owner's destructor, or teardown. -/
theorem C06_exactly_once (ops : List Op) (order : List Addr) (h : WellFormed ops) (hnd : NoDtor ops)
    (hrun : ∀ op ∈ ops, op ≠ Op.stop)
    (hraw : (ghost ops).rawLive = [])
    (hroots : ∀ e ∈ (final ops).reg, e.root = false)
    (a : Addr) (k : Kind) (owned marks ord : List Addr) (hnew : Op.new a k owned marks ord ∈ ops) :
    Once a (final (ops ++ [Op.teardown order])).log := by
  have hl := (running_run ops Ghost.init St.init SInv.init h hrun rfl rfl).2
  exact (C06_exactly_once_windows ops order h hnd hl hraw hroots).2 a (allocd_of_new ops _ _ hnew)

/-- **C06, a collection respects its marked set — under sole ownership.**  In any state reached by a well-formed history,
    consider a collection with marked set `marks`, and suppose the program meets the *sole-ownership obligation* for it
    (`hsole`): whatever an unmarked object owns is itself unmarked — an object that the program, or a marked owner, still
    reaches is not also owned by garbage.  (This is an obligation of the program, not something the mark phase produces:
    marking is closed the other way — marked owner ⇒ marked pointee.  `Box_Del → del(pointee)` erases the pointee from the
    registry whether or not its mark bit is set, GC.c `GC_Rem_Ptr`; without the obligation the statement is false, see
    `C06_collect_marked_owned_refuted`.)  Then the collection appends to the ledger no event of any marked object, for
    every slot order; and it finalises every unmarked non-root registered object exactly once. -/
theorem C06_collect_respects_marks (ops : List Op) (h : WellFormed ops) (hnd : NoDtor ops) (marks order : List Addr)
    (hsole : ∀ b x, x ∈ (final ops).ownsOf b → b ∉ marks → x ∉ marks) :
    ∃ E, (step Cfg.current (final ops) (Op.collect marks order)).log = (final ops).log ++ E ∧
      (∀ a ∈ marks, Clean a E) ∧
      (∀ e ∈ (final ops).reg, e.root = false → e.addr ∉ marks → Once e.addr E) :=
  ((inv_final ops h hnd).sweep marks order).respects_marks hsole

/-- the statement of `C06_collect_respects_marks` without the sole-ownership obligation -/
def C06_collect_respects_marks_unconditional_statement : Prop :=
  ∀ (ops : List Op), WellFormed ops → NoDtor ops → ∀ (marks order : List Addr),
    ∃ E, (step Cfg.current (final ops) (Op.collect marks order)).log = (final ops).log ++ E ∧ ∀ a ∈ marks, Clean a E

/-- **the obligation is needed**: an unmarked Box 2 whose pointee 1 is also held by the program (1 is marked, e.g. from
    the stack — a reachable state).  The collection sweeps 2, `Box_Del` does `del(1)`, and `GC_Rem_Ptr` erases and
    finalises the *marked*, registered object 1: the ledger of the collection is `fin 2, fin 1, free 1, free 2`. -/
theorem C06_collect_marked_owned_refuted : ¬ C06_collect_respects_marks_unconditional_statement := by
  intro hall
  obtain ⟨E, hlog, hclean⟩ :=
    hall [.new 1 .std [] [1] [], .new 2 .std [1] [1, 2] []] (by decide) (by decide) [1] []
  have h0 : (final [.new 1 .std [] [1] [], .new 2 .std [1] [1, 2] []]).log = [] := by decide
  have h1 : (step Cfg.current (final [.new 1 .std [] [1] [], .new 2 .std [1] [1, 2] []]) (Op.collect [1] [])).log =
      [.fin 2, .fin 1, .free 1, .free 2] := by decide
  rw [h0, h1, List.nil_append] at hlog
  have := (hclean 1 (by simp)).1
  rw [← hlog] at this
  simp at this

/-- **C06, an explicit `del` finalises at once, together with what the object owns.**  In any state reached by a
    well-formed history with the collector running, `del`/`del_root` of a registered object `b` leaves `b` — and every
    registered object `x` that `b`'s destructor deletes (Box: its pointee; the objects `b` owns directly — the statement
    does not follow the chain further) — with exactly one `fin` followed by one `free` in the ledger, and unregistered. -/
theorem C06_del_finalises_now (ops : List Op) (h : WellFormed ops) (hnd : NoDtor ops) (b : Addr) (k : Kind) (hk : k ≠ .raw)
    (hrun : (final ops).running = true) (hb : b ∈ (final ops).regAddrs) :
    Once b (final (ops ++ [Op.del b k])).log ∧ b ∉ (final (ops ++ [Op.del b k])).regAddrs ∧
    ∀ x ∈ (final ops).ownsOf b, x ∈ (final ops).regAddrs →
      Once x (final (ops ++ [Op.del b k])).log ∧ x ∉ (final (ops ++ [Op.del b k])).regAddrs := by
  rw [final_snoc, step_del _ _ _ hk]
  exact gcRem_registered (inv_final ops h hnd) b hrun hb

/-- **C06, `del_raw`.**  `del_raw` of a raw object the program has not deleted yet finalises and releases it at once,
    exactly once, whatever the state of the collector (running or stopped). -/
theorem C06_del_raw_finalises_now (ops : List Op) (h : WellFormed ops) (hnd : NoDtor ops) (a : Addr)
    (ha : a ∈ (ghost ops).rawLive) :
    Once a (final (ops ++ [Op.del a .raw])).log := by
  rw [final_snoc]
  exact (inv_final ops h hnd).release_raw a ha

/-- **C06, the `alloc_raw` / `dealloc_raw` route.**  `dealloc(destruct(a))` (= `dealloc_raw` = `dealloc_root`: one function)
    of an object obtained from `alloc_raw`/`new_raw` that the program has not released yet finalises and releases it at
    once, exactly once, whatever the state of the collector. -/
theorem C06_dealloc_raw_finalises_now (ops : List Op) (h : WellFormed ops) (hnd : NoDtor ops) (a : Addr) (k : Kind)
    (ha : a ∈ (ghost ops).rawLive) :
    Once a (final (ops ++ [Op.dealloc a k])).log := by
  rw [final_snoc]
  exact (inv_final ops h hnd).release_raw a ha

/-- **C06, the `alloc` / `alloc_root` route.**  As `C06_exactly_once`, for an object obtained from `alloc`/`alloc_root`/
    `alloc_raw` (constructed or not: `Op.own` is the constructor's ownership link) and left to the collector, to `del`, or
    (raw) to `dealloc_raw`: exactly one `fin` followed by exactly one `free` after teardown. -/
theorem C06_exactly_once_alloc (ops : List Op) (order : List Addr) (h : WellFormed ops) (hnd : NoDtor ops)
    (hrun : ∀ op ∈ ops, op ≠ Op.stop)
    (hraw : (ghost ops).rawLive = [])
    (hroots : ∀ e ∈ (final ops).reg, e.root = false)
    (a : Addr) (k : Kind) (marks ord : List Addr) (hnew : Op.alloc a k marks ord ∈ ops) :
    Once a (final (ops ++ [Op.teardown order])).log := by
  have hl := (running_run ops Ghost.init St.init SInv.init h hrun rfl rfl).2
  exact (C06_exactly_once_windows ops order h hnd hl hraw hroots).2 a (allocd_of_alloc ops _ _ hnew)

/-- **C06, the slot order does not matter.**  In any state reached by a well-formed history with the collector running,
    two collections with the same marked set but different slot orders — owner swept before or after what it owns, in any
    arrangement — finalise exactly the same objects: the registries afterwards hold the same addresses and the ledgers are
    permutations of each other (only the order of the events differs). -/
theorem C06_order_irrelevant (ops : List Op) (h : WellFormed ops) (hnd : NoDtor ops) (hrun : (final ops).running = true)
    (marks o1 o2 : List Addr) :
    (∀ a, a ∈ (step Cfg.current (final ops) (Op.collect marks o1)).regAddrs ↔
          a ∈ (step Cfg.current (final ops) (Op.collect marks o2)).regAddrs) ∧
    (step Cfg.current (final ops) (Op.collect marks o1)).log.Perm
      (step Cfg.current (final ops) (Op.collect marks o2)).log :=
  ((inv_final ops h hnd).sweep marks o1).unique ((inv_final ops h hnd).sweep marks o2) hrun

/-- Box → probe, the owner swept *before* what it owns (order `[2, 1]`), plus a root and a raw object deleted by the
    program: well-formed, no allocating destructor, running throughout, no root left — and the ledger is what the theorem
    says. -/
example :
    let ops : List Op := [.new 1 .std [] [1] [], .new 2 .std [1] [1, 2] [], .new 3 .root [] [1, 2, 3] [],
                          .new 4 .raw [] [] [], .collect [3] [2, 1], .del 3 .root, .del 4 .raw]
    WellFormed ops ∧ NoDtor ops ∧ (∀ op ∈ ops, op ≠ Op.stop) ∧ (ghost ops).rawLive = [] ∧
      (∀ e ∈ (final ops).reg, e.root = false) ∧
      (final (ops ++ [Op.teardown []])).log =
        [.fin 2, .fin 1, .free 1, .free 2, .fin 3, .free 3, .fin 4, .free 4] := by
  decide

/-- `C06_del_finalises_now` is not vacuous: running, owner 2 registered, it owns the registered object 1 -/
example :
    let ops : List Op := [.new 1 .std [] [1] [], .new 2 .std [1] [1, 2] []]
    WellFormed ops ∧ (final ops).running = true ∧ 2 ∈ (final ops).regAddrs ∧ 1 ∈ (final ops).ownsOf 2 ∧
      1 ∈ (final ops).regAddrs ∧ (final (ops ++ [Op.del 2 .std])).log = [.fin 2, .fin 1, .free 1, .free 2] := by
  decide

/-- `C06_order_irrelevant` is not vacuous: a running state in which the two slot orders give different event sequences -/
example :
    let ops : List Op := [.new 1 .std [] [1] [], .new 2 .std [1] [1, 2] []]
    WellFormed ops ∧ (final ops).running = true ∧
      (step Cfg.current (final ops) (Op.collect [] [2, 1])).log = [.fin 2, .fin 1, .free 1, .free 2] ∧
      (step Cfg.current (final ops) (Op.collect [] [1, 2])).log = [.fin 1, .free 1, .fin 2, .free 2] := by
  decide

/-- the same pair, owned object swept *before* its owner (order `[1, 2]`): the owner's `del` finds nothing -/
example :
    let ops : List Op := [.new 1 .std [] [1] [], .new 2 .std [1] [1, 2] [], .collect [] [1, 2]]
    WellFormed ops ∧ (final ops).log = [.fin 1, .free 1, .fin 2, .free 2] := by
  decide

/-- a marked set that meets the sole-ownership obligation of `C06_collect_respects_marks` (nothing unmarked owns a marked
    object): owner 2 and owned 1 marked, 3 not -/
example :
    let ops : List Op := [.new 1 .std [] [1] [], .new 2 .std [1] [1, 2] [], .new 3 .std [] [1, 2, 3] []]
    WellFormed ops ∧ (∀ b x, x ∈ (final ops).ownsOf b → b ∉ [1, 2] → x ∉ [1, 2]) ∧
      (step Cfg.current (final ops) (Op.collect [1, 2] [])).log = [.fin 3, .free 3] := by
  refine ⟨by decide, ?_, by decide⟩
  intro b x hx hb
  have howns : (final [.new 1 .std [] [1] [], .new 2 .std [1] [1, 2] [], .new 3 .std [] [1, 2, 3] []]).owns
      = [(3, []), (2, [1]), (1, [])] := by decide
  have hb' : b ≠ 1 ∧ b ≠ 2 := by simpa using hb
  unfold St.ownsOf at hx
  rw [howns] at hx
  have e : ∀ n : Nat, b ≠ n → (n == b) = false := fun n h => beq_eq_false_iff_ne.2 (Ne.symm h)
  by_cases h3 : b = 3
  · subst h3; simp [List.find?] at hx
  · simp [List.find?, e 3 h3, e 1 hb'.1, e 2 hb'.2] at hx

/-! ### ownership cycles

  Nothing above assumes that ownership is acyclic: `owns` is an arbitrary relation (`Op.new … owned` and `Op.own a owned`
  take any identities, the object itself included), so `C06_no_double`, `C06_exactly_once(_windows)`,
  `C06_teardown_classification`, `C06_collect_respects_marks`, `C06_del_finalises_now` and `C06_order_irrelevant` hold for
  rings of boxes and self-owning boxes as they stand.  What makes a cascade around a ring stop — in the C code and in the
  proof (`finalise_spec`: every nested destructor call is preceded by the removal of one tracked object, so fuel
  `> #tracked` suffices and no object is met twice) — is that an object leaves the registry, or has its pending slot
  cleared, *before* its destructor runs.  The examples instantiate the hypotheses on rings; the last theorem shows what
  happens when the slot is cleared too late. -/

/-- a ring of two boxes 1 ↔ 2 reclaimed by one collection, either member first: each finalised exactly once, and the
    history meets every hypothesis of `C06_exactly_once` -/
example :
    let ops : List Op := [.new 1 .std [] [1] [], .new 2 .std [1] [1, 2] [], .own 1 [2]]
    WellFormed ops ∧ (∀ op ∈ ops, op ≠ Op.stop) ∧ (ghost ops).rawLive = [] ∧ (∀ e ∈ (final ops).reg, e.root = false) ∧
      (final ops).running = true ∧
      (step Cfg.current (final ops) (Op.collect [] [1, 2])).log = [.fin 1, .fin 2, .free 2, .free 1] ∧
      (step Cfg.current (final ops) (Op.collect [] [2, 1])).log = [.fin 2, .fin 1, .free 1, .free 2] ∧
      (final (ops ++ [Op.teardown [1, 2]])).log = [.fin 1, .fin 2, .free 2, .free 1] := by
  decide

/-- a box that owns itself, left to teardown; a ring of three whose member 2 the program deletes explicitly (the cascade
    goes once round the ring and stops at 2, already unregistered) -/
example :
    (final [.new 1 .std [] [1] [], .own 1 [1], .teardown []]).log = [.fin 1, .free 1] ∧
    (let ops : List Op := [.new 1 .std [] [1] [], .new 2 .std [1] [1, 2] [], .new 3 .std [2] [1, 2, 3] [], .own 1 [3]]
     WellFormed ops ∧ 2 ∈ (final ops).regAddrs ∧
       (final (ops ++ [Op.del 2 .std])).log = [.fin 2, .fin 1, .fin 3, .free 3, .free 1, .free 2] ∧
       (final (ops ++ [Op.del 2 .std])).reg = []) := by
  decide

/-- **a pending slot cleared only after the finalisation** (or not at all: for the cascade it is the same) breaks exactly
    the cyclic case: sweeping the ring 1 ↔ 2, the `del` that comes back to 1 still finds it on the pending list and
    finalises it a second time, while its first destructor is still running -/
theorem C06_lateclear_ring_refuted :
    let ops : List Op := [.new 1 .std [] [1] [], .new 2 .std [1] [1, 2] [], .own 1 [2], .collect [] [1, 2]]
    (run { Cfg.current with sweepNullsSlot := false } St.init ops).log = [.fin 1, .fin 2, .fin 1, .free 1, .free 2, .free 1] := by
  decide

/-- the full statement of the property: as `C06_exactly_once_windows` but *without* excluding allocations made while the
    collector is stopped ("whether the collector is running or stopped"), and without `NoDtor` (the witnesses of F23
    declare no destructor) -/
def C06_exactly_once_full_statement : Prop :=
  ∀ (ops : List Op) (order : List Addr), WellFormed ops → (ghost ops).rawLive = [] →
    (∀ e ∈ (final ops).reg, e.root = false) →
    ∀ a ∈ (ghost ops).allocd, Once a (final (ops ++ [Op.teardown order])).log

/-- **F23**: `stop; x = new; del(x)` — `GC_Set` and `GC_Rem` ignore a stopped collector, the object is never finalised.
    The model, which mirrors the code, violates the full statement. -/
theorem C06_exactly_once_full_refuted : ¬ C06_exactly_once_full_statement := by
  intro hfull
  have := hfull [.stop, .new 1 .std [] [] [], .del 1 .std] []
    (by decide) (by decide) (by decide) 1 (by decide)
  exact not_once_of_count (by decide) this

/-- F23, second form: `stop; x = new; start; del(x)` -/
theorem C06_exactly_once_full_refuted' :
    let ops : List Op := [.stop, .new 1 .std [] [] [], .start, .del 1 .std]
    WellFormed ops ∧ (ghost ops).rawLive = [] ∧ (∀ e ∈ (final ops).reg, e.root = false) ∧ 1 ∈ (ghost ops).allocd ∧
      ¬ Once 1 (final (ops ++ [Op.teardown []])).log := by
  exact ⟨by decide, by decide, by decide, by decide, not_once_of_count (by decide)⟩

/-- F23, third form: `del_root` of a registered root while stopped is ignored, the root is never finalised
    (here the hypothesis "no root left registered" of the proved theorems is what fails) -/
theorem C06_del_root_while_stopped_refuted :
    let ops : List Op := [.new 1 .root [] [1] [], .stop, .del 1 .root, .start]
    WellFormed ops ∧ (final (ops ++ [Op.teardown []])).log = [] ∧ (final (ops ++ [Op.teardown []])).reg = [⟨1, true⟩] := by
  refine ⟨by decide, by decide, by decide⟩

/-- **the code before fix 5c00ad8** (`Cfg.preFix`: `GC_Rem_Ptr` only strikes a pending object off the list): an object
    deleted by its owner's destructor during the sweep that also reclaims it is never finalised (defect F24) -/
theorem C06_prefix_refuted :
    let ops : List Op := [.new 1 .std [] [1] [], .new 2 .std [1] [1, 2] [], .collect [] [2, 1], .teardown []]
    WellFormed ops ∧ (run Cfg.preFix St.init ops).log = [.fin 2, .free 2] ∧ ¬ Once 1 (run Cfg.preFix St.init ops).log :=
  ⟨by decide, by decide, not_once_of_count (by decide)⟩

/-- **half of the fix is not enough**: if `GC_Rem_Ptr` finalises a pending object but `GC_Sweep` does not clear a slot
    before finalising it, an object swept *before* its owner is finalised twice -/
theorem C06_halffix_refuted :
    let ops : List Op := [.new 1 .std [] [1] [], .new 2 .std [1] [1, 2] [], .collect [] [1, 2]]
    (run { Cfg.current with sweepNullsSlot := false } St.init ops).log = [.fin 1, .free 1, .fin 2, .fin 1, .free 1, .free 2] := by
  decide

/-! ### fix d8f0c4f: a mark phase that an exception leaves (`GC_Unmark` at the start of `GC_Mark` and in `GC_Del`)

  Before the fix the next mark phase started from the bits an abandoned mark phase (`Op.markAbort`) had left set
  (`St.marked`) and the teardown sweep read them: an object whose bit was set and that the program had dropped
  since was kept by the next collection and *left behind at teardown* (known finding KF-C01-stale-marks seen from C06).
  `Op.markAbort` is an ordinary operation of the history language: `C06_no_double`, `C06_exactly_once(_windows/_alloc)`,
  `C06_teardown_classification`, `C06_collect_respects_marks`, … hold for histories that contain it anywhere, for any bits.
  The theorems below say it directly for the two places where the OLD code read the bits. -/

/-- **C06, teardown does not see an abandoned mark phase**: for every history (no hypothesis), whatever bits the mark
    phase left set, the collector state after teardown — ledger, registry, everything — is the one reached without it. -/
theorem C06_teardown_ignores_abandoned_mark (ops : List Op) (stale order : List Addr) :
    final (ops ++ [.markAbort stale, .teardown order]) = final (ops ++ [.teardown order]) := by
  unfold final; rw [run_append, run_append]; rfl

/-- the same for the next collection (forced, or the threshold collection of a registration: both are `GC_Mark;
    GC_Sweep`): the mark phase starts from clear bits -/
theorem C06_collection_ignores_abandoned_mark (ops : List Op) (stale marks order : List Addr) :
    final (ops ++ [.markAbort stale, .collect marks order]) = final (ops ++ [.collect marks order]) := by
  unfold final; rw [run_append, run_append]; rfl

/-- **C06, exactly once although a mark phase was abandoned just before teardown** — the territory of finding
    KF-C01-stale-marks before fix d8f0c4f: under the hypotheses of `C06_exactly_once_windows`, for any bits `stale` left set
    by a mark phase that an exception left, teardown empties the registry and every allocated object has exactly one `fin`
    then one `free`. -/
theorem C06_exactly_once_after_abandoned_mark (ops : List Op) (stale order : List Addr) (h : WellFormed ops)
    (hnd : NoDtor ops) (hlost : (ghost ops).lost = []) (hraw : (ghost ops).rawLive = [])
    (hroots : ∀ e ∈ (final ops).reg, e.root = false) :
    (final (ops ++ [.markAbort stale, .teardown order])).reg = [] ∧
    ∀ a ∈ (ghost ops).allocd, Once a (final (ops ++ [.markAbort stale, .teardown order])).log := by
  rw [C06_teardown_ignores_abandoned_mark]
  exact C06_exactly_once_windows ops order h hnd hlost hraw hroots

/-- the witness of the defect fix d8f0c4f repaired (corpus/life_fixed_stale_marks.ops): object 1 is held while a mark phase marks it
    and is left by an exception; the program drops it.  It meets every hypothesis of the theorem above, and in the code
    that exists it is finalised exactly once — by the next collection, or by teardown. -/
example :
    let ops : List Op := [.new 1 .std [] [1] [], .markAbort [1]]
    WellFormed ops ∧ NoDtor ops ∧ (ghost ops).lost = [] ∧ (ghost ops).rawLive = [] ∧
      (∀ e ∈ (final ops).reg, e.root = false) ∧ (final ops).marked = [1] ∧
      (final (ops ++ [.teardown []])).log = [.fin 1, .free 1] ∧
      (final (ops ++ [.collect [] []])).log = [.fin 1, .free 1] := by
  decide

/-- **OLD (before fix d8f0c4f, `Cfg.staleMarks`): the same history leaves object 1 behind.**  The next collection keeps it
    although nothing reaches it (its stale bit is read as a mark), and when teardown comes first the object is never
    finalised and stays registered in a collector that no longer exists: "none is left behind at teardown" fails. -/
theorem C06_stale_marks_old_refuted :
    let ops : List Op := [.new 1 .std [] [1] [], .markAbort [1]]
    WellFormed ops ∧
      (run Cfg.staleMarks St.init (ops ++ [.teardown []])).log = [] ∧
      (run Cfg.staleMarks St.init (ops ++ [.teardown []])).reg = [⟨1, false⟩] ∧
      (run Cfg.staleMarks St.init (ops ++ [.collect [] []])).log = [] ∧
      ¬ Once 1 (run Cfg.staleMarks St.init (ops ++ [.teardown []])).log :=
  ⟨by decide, by decide, by decide, by decide, not_once_of_count (by decide)⟩

/-- each half of the fix is needed for its own route: without `GC_Unmark` in `GC_Del` teardown leaves the object behind;
    without it in `GC_Mark` the next collection keeps the garbage (teardown then still reclaims it) -/
theorem C06_stale_marks_halves_refuted :
    let ops : List Op := [.new 1 .std [] [1] [], .markAbort [1]]
    (run { Cfg.current with teardownUnmarks := false } St.init (ops ++ [.teardown []])).log = [] ∧
    (run { Cfg.current with teardownUnmarks := false } St.init (ops ++ [.collect [] []])).log = [.fin 1, .free 1] ∧
    (run { Cfg.current with markClearsFirst := false } St.init (ops ++ [.collect [] []])).log = [] ∧
    (run { Cfg.current with markClearsFirst := false } St.init (ops ++ [.collect [] [], .teardown []])).log = [.fin 1, .free 1] := by
  decide

/-! ### fix d3e4e44: `del(NULL)` (the NULL guard of `GC_Rem_Ptr`)

  `Op.delNull` = the program's `del(NULL)`; `Op.nulldel a` = the destructor of `a` issues `del(NULL)` when it runs.
  Before the fix the loop over the pending list compared NULL with every slot, and while a sweep is releasing objects the
  slots already processed *are* NULL: the first one matched and `dealloc(destruct(NULL))` ran inside the collector
  (`St.ub`; known finding KF-C17-null-del-sweep seen from C06: the process dies in the middle of a sweep, everything still
  pending is never finalised).
  Both operations are part of the history language of every theorem above, with no hypothesis. -/

/-- **C06, the collector never runs a destructor on NULL** — every history, no hypothesis (not even well-formedness):
    whatever the program and its destructors `del`, NULL included, during sweeps, nested collections and teardown. -/
theorem C06_no_null_deref (ops : List Op) : (final ops).ub = false := by
  unfold final; rw [run_ub (c := Cfg.current) rfl]; rfl

/-- `del(NULL)` by the program changes nothing but the collection threshold (`GC_Rem` recomputes `mitems`; when the
    collector is stopped not even that) -/
theorem C06_del_null_touches_threshold_only (s : St) : ∃ m, step Cfg.current s .delNull = { s with mitems := m } :=
  gcRemNull_guarded rfl s

/-- the witness of the defect fix d3e4e44 repaired (corpus/life_fixed_null_del.ops): a Box 2 → 1 swept owner first and a
    third object left to teardown, all three destructors also doing `del(NULL)`, plus a `del(NULL)` by the program: the
    history meets the hypotheses of `C06_exactly_once`, every object is finalised once and released once, and no
    destructor ran on NULL. -/
example :
    let ops : List Op := [.new 1 .std [] [1] [], .nulldel 1, .new 2 .std [1] [1, 2] [], .nulldel 2, .delNull,
                          .new 3 .std [] [1, 2, 3] [], .nulldel 3, .collect [3] [2, 1]]
    WellFormed ops ∧ NoDtor ops ∧ (∀ op ∈ ops, op ≠ Op.stop) ∧ (ghost ops).rawLive = [] ∧
      (∀ e ∈ (final ops).reg, e.root = false) ∧
      (final ops).log = [.fin 2, .fin 1, .free 1, .free 2] ∧
      (final (ops ++ [Op.teardown []])).log = [.fin 2, .fin 1, .free 1, .free 2, .fin 3, .free 3] ∧
      (final (ops ++ [Op.teardown []])).ub = false := by
  decide

/-- **OLD (before fix d3e4e44, `Cfg.nullUnguarded`): `del(NULL)` from a destructor during a sweep is undefined
    behaviour.**  A single object whose destructor does `del(NULL)`, left to a collection: the sweep clears its pending slot
    and runs the destructor; `GC_Rem_Ptr(NULL)` matches that cleared slot and calls `dealloc(destruct(NULL))`.  Outside a
    sweep (explicit `del` of the object, `del(NULL)` by the program) the old code was harmless too. -/
theorem C06_del_null_old_refuted :
    let ops : List Op := [.new 1 .std [] [1] [], .nulldel 1]
    WellFormed ops ∧
      (run Cfg.nullUnguarded St.init (ops ++ [.collect [] []])).ub = true ∧
      (run Cfg.nullUnguarded St.init (ops ++ [.teardown []])).ub = true ∧
      (run Cfg.nullUnguarded St.init (ops ++ [.delNull, .del 1 .std])).ub = false ∧
      (final (ops ++ [.collect [] []])).ub = false ∧ (final (ops ++ [.collect [] []])).log = [.fin 1, .free 1] := by
  decide

/-- the owner-first arrangement: Box 2 → 1, only the *owned* object's destructor does `del(NULL)`; when the owner is swept
    first its cleared slot is what the NULL matches (OLD), while 1 is finalised from inside the owner's destructor -/
theorem C06_del_null_old_owner_first_refuted :
    let ops : List Op := [.new 1 .std [] [1] [], .nulldel 1, .new 2 .std [1] [1, 2] [], .collect [] [2, 1]]
    (run Cfg.nullUnguarded St.init ops).ub = true ∧ (final ops).ub = false ∧
      (final ops).log = [.fin 2, .fin 1, .free 1, .free 2] := by
  decide

/-! ### known finding KF-C06-dtor-alloc: a destructor that allocates

  `Op.dtor a allocs` says that the destructor of `a` does `new` for each of `allocs` when it runs.  Inside the release loop
  of a sweep such a `new` goes through `GC_Set`, and when `nitems > mitems` (after phase 1 of a teardown `mitems = 1`) it
  runs a nested collection that overwrites and releases the pending list of the outer sweep, whose loop then stops
  (Cello/Lifecycle.lean, head).  What was still waiting on the outer list has already left the registry and is never
  finalised; what destructors registered after phase 1 of the teardown sweep stays registered in a collector that is torn
  down.  The theorems above that say an object *is* finalised (`C06_teardown_classification` to `C06_order_irrelevant`,
  `C06_exactly_once_after_abandoned_mark`) therefore carry `NoDtor ops`; the statements without it follow. -/

/-- a reachable state meets `NoDtor`, and a history with an allocating destructor whose object is deleted explicitly
    (outside any sweep: the nested registration meets an empty pending list) is harmless: `del(1)` runs the destructor,
    which allocates 11; 11 is swept by teardown -/
example :
    let ops : List Op := [.new 1 .std [] [1] [], .dtor 1 [⟨11, [11], []⟩], .del 1 .std]
    WellFormed ops ∧ ¬ NoDtor ops ∧ NoDtor [Op.new 1 .std [] [1] [], .del 1 .std] ∧
      (final (ops ++ [Op.teardown []])).log = [.fin 1, .free 1, .fin 11, .free 11] ∧
      (final (ops ++ [Op.teardown []])).reg = [] := by
  decide

/-- the statement of `C06_exactly_once` without `NoDtor`: for every interleaving of allocations … *including objects whose
    destructors allocate* -/
def C06_exactly_once_dtor_alloc_statement : Prop :=
  ∀ (ops : List Op) (order : List Addr), WellFormed ops → (∀ op ∈ ops, op ≠ Op.stop) → (ghost ops).rawLive = [] →
    (∀ e ∈ (final ops).reg, e.root = false) →
    ∀ (a : Addr) (k : Kind) (owned marks ord : List Addr), Op.new a k owned marks ord ∈ ops →
      Once a (final (ops ++ [Op.teardown order])).log

/-- the witness of KF-C06-dtor-alloc (corpus/kf_c06_dtor_alloc.ops): three objects whose destructors allocate one object
    each, left to teardown -/
def dtorAllocWitness : List Op :=
  [.new 1 .std [] [1] [], .dtor 1 [⟨11, [11], []⟩], .new 2 .std [] [1, 2] [], .dtor 2 [⟨12, [12], []⟩],
   .new 3 .std [] [1, 2, 3] [], .dtor 3 [⟨13, [13], []⟩]]

/-- **KF-C06-dtor-alloc, teardown.**  The history is well-formed, never stops the collector, has no raw object and no
    root.  Teardown sweeps 1, 2, 3 (`mitems = 1`).  The destructor of 1 registers 11 (`nitems = 1`, no collection); the
    destructor of 2 registers 12 (`nitems = 2 > 1`): the nested collection finalises 11, keeps 12 (just registered, on the
    stack), and releases the pending list.  Object 3 is never finalised (*left behind at teardown*), object 12 stays
    registered in a collector that no longer exists.  Nothing is finalised twice. -/
theorem C06_dtor_alloc_teardown_refuted :
    WellFormed dtorAllocWitness ∧ (∀ op ∈ dtorAllocWitness, op ≠ Op.stop) ∧ (ghost dtorAllocWitness).rawLive = [] ∧
      (∀ e ∈ (final dtorAllocWitness).reg, e.root = false) ∧
      (final (dtorAllocWitness ++ [Op.teardown [1, 2, 3]])).log = [.fin 1, .free 1, .fin 2, .fin 11, .free 11, .free 2] ∧
      (final (dtorAllocWitness ++ [Op.teardown [1, 2, 3]])).reg = [⟨12, false⟩] ∧
      Clean 3 (final (dtorAllocWitness ++ [Op.teardown [1, 2, 3]])).log := by
  decide

/-- the model, which mirrors the code, violates the full statement -/
theorem C06_exactly_once_dtor_alloc_refuted : ¬ C06_exactly_once_dtor_alloc_statement := by
  intro hfull
  obtain ⟨hw, hs, hr, ho, _, _, hc⟩ := C06_dtor_alloc_teardown_refuted
  have := hfull dtorAllocWitness [1, 2, 3] hw hs hr ho 3 .std [] [1, 2, 3] [] (by decide)
  exact this.not_clean hc

/-- **KF-C06-dtor-alloc, an ordinary collection.**  The same three objects unreachable at a forced or threshold collection
    (`collect [] …`): the nested collection started from the destructor of 2 abandons 3; the later teardown does not find
    it either (it left the registry in phase 1 of the collection that lost it). -/
theorem C06_dtor_alloc_collect_refuted :
    (final (dtorAllocWitness ++ [Op.collect [] [1, 2, 3], Op.teardown []])).log =
        [.fin 1, .free 1, .fin 2, .fin 11, .free 11, .free 2, .fin 12, .free 12] ∧
      Clean 3 (final (dtorAllocWitness ++ [Op.collect [] [1, 2, 3], Op.teardown []])).log := by
  decide

/-- **what the proposed repair does on the witnesses** (`Cfg.repaired`: `GC_Set` starts no collection while a release
    loop is running; `GC_Del` sweeps until only roots are left): every object, the ones the destructors allocated
    included, is finalised exactly once and the registry ends empty.  (An illustration by evaluation, not a theorem about
    all histories: the source does not contain the repair.) -/
example :
    (run Cfg.repaired St.init (dtorAllocWitness ++ [Op.teardown [1, 2, 3]])).log =
        [.fin 1, .free 1, .fin 2, .free 2, .fin 3, .free 3, .fin 11, .free 11, .fin 12, .free 12, .fin 13, .free 13] ∧
      (run Cfg.repaired St.init (dtorAllocWitness ++ [Op.teardown [1, 2, 3]])).reg = [] ∧
      (run Cfg.repaired St.init (dtorAllocWitness ++ [Op.collect [] [1, 2, 3], Op.teardown []])).log =
        [.fin 1, .free 1, .fin 2, .free 2, .fin 3, .free 3, .fin 11, .free 11, .fin 12, .free 12, .fin 13, .free 13] := by
  decide

/-- safety is *not* affected: on the witnesses of KF-C06-dtor-alloc too every object has no event or exactly one `fin`
    then one `free` (`C06_no_double` needs no `NoDtor`), and the hypotheses of `C06_no_double` are met by a history with
    allocating destructors -/
example : WellFormed (dtorAllocWitness ++ [Op.teardown [1, 2, 3]]) ∧ ¬ NoDtor (dtorAllocWitness ++ [Op.teardown [1, 2, 3]]) := by
  decide

/-- **OPEN: `NoDtor` is wider than KF-C06-dtor-alloc.**  `NoDtor ops` is syntactic: it
    excludes every history in which an object merely *declares* an allocating destructor, although the code is right
    whenever that destructor runs outside the release loop of a sweep or below the threshold (the first example of this section; generator
    family (d), corpus/life_dtor_alloc.ops).  The exact territory of the finding is run-dependent and decidable: the
    proposed repair (`Cfg.repaired`: `GC_Set` starts no collection while a release loop runs, `GC_Del` sweeps until only
    roots are left) makes a difference on the history.  The statement that should replace the `NoDtor` versions — NOT
    proved: `finalise_spec`/`sweep_spec` (Lemmas/LifeFin), on which `live_run` (Lemmas/LifeInv) rests, are exact-effect
    lemmas for destructors that do not allocate; extending them to a nested collection over an empty pending list is
    the missing piece. -/
def C06_exactly_once_outside_dtor_alloc_statement : Prop :=
  ∀ (ops : List Op) (order : List Addr), WellFormed (ops ++ [Op.teardown order]) → (∀ op ∈ ops, op ≠ Op.stop) →
    (ghost ops).rawLive = [] → (∀ e ∈ (final ops).reg, e.root = false) →
    (run Cfg.repaired St.init (ops ++ [Op.teardown order])).log = (final (ops ++ [Op.teardown order])).log →
    (run Cfg.repaired St.init (ops ++ [Op.teardown order])).reg = (final (ops ++ [Op.teardown order])).reg →
    ∀ (a : Addr) (k : Kind) (owned marks ord : List Addr), Op.new a k owned marks ord ∈ ops →
      Once a (final (ops ++ [Op.teardown order])).log

/-- its hypotheses are met by a history that `NoDtor` excludes (and its conclusion holds there), and fail on the witness of
    the finding -/
example :
    let ops : List Op := [.new 1 .std [] [1] [], .dtor 1 [⟨11, [11], []⟩], .del 1 .std]
    WellFormed (ops ++ [Op.teardown []]) ∧ ¬ NoDtor ops ∧
      (run Cfg.repaired St.init (ops ++ [Op.teardown []])).log = (final (ops ++ [Op.teardown []])).log ∧
      (run Cfg.repaired St.init (ops ++ [Op.teardown []])).reg = (final (ops ++ [Op.teardown []])).reg ∧
      (final (ops ++ [Op.teardown []])).log = [.fin 1, .free 1, .fin 11, .free 11] ∧
      (run Cfg.repaired St.init (dtorAllocWitness ++ [Op.teardown [1, 2, 3]])).log ≠
        (final (dtorAllocWitness ++ [Op.teardown [1, 2, 3]])).log := by
  decide

/-- the conclusion of `C06_exactly_once_alloc` on the shortest history in which the program releases with
    `dealloc(destruct(·))` what it obtained from `alloc`/`alloc_root` ("the corresponding `dealloc` function should be used
    when done", Alloc.c): `alloc`, `dealloc(destruct(·))`, teardown — for every identity, kind and slot order -/
def C06_dealloc_registered_statement : Prop :=
  ∀ (a : Addr) (k : Kind) (order : List Addr),
    Once a (final [Op.alloc a k [a] [], Op.dealloc a k, Op.teardown order]).log

/-- **KF-C06-dealloc-registered.**  `x = alloc(T); construct(x); dealloc(destruct(x))`: `dealloc` frees the block and
    leaves the entry in the registry; the teardown sweep finalises and frees the same object a second time (on the real
    heap: the destructor runs on a freed block).  For `alloc_root`/`dealloc_root` the entry stays as a root: the next mark
    phase traces the freed block. -/
theorem C06_dealloc_registered_refuted : ¬ C06_dealloc_registered_statement := by
  intro hall
  exact not_once_of_count (by decide) (hall 1 .std [])

/-- the root variant: after `alloc_root; dealloc_root(destruct(x))` the released object is still a registered root -/
theorem C06_dealloc_root_registered_refuted :
    (final [Op.alloc 1 .root [1] [], Op.dealloc 1 .root]).log = [.fin 1, .free 1] ∧
      (final [Op.alloc 1 .root [1] [], Op.dealloc 1 .root]).reg = [⟨1, true⟩] := by
  decide

/-- the hypotheses of `C06_exactly_once_alloc` and `C06_dealloc_raw_finalises_now` are met by reachable histories:
    `alloc` + constructor link, left to a collection; `alloc_root` deleted with `del_root`; `alloc_raw` released with
    `dealloc_raw(destruct(·))` -/
example :
    let ops : List Op := [.alloc 1 .std [1] [], .alloc 2 .std [1, 2] [], .own 2 [1], .alloc 3 .root [1, 2, 3] [],
                          .alloc 4 .raw [] [], .collect [3] [2, 1], .del 3 .root]
    WellFormed ops ∧ NoDtor ops ∧ (∀ op ∈ ops, op ≠ Op.stop) ∧ 4 ∈ (ghost ops).rawLive ∧
      (ghost (ops ++ [Op.dealloc 4 .raw])).rawLive = [] ∧
      (∀ e ∈ (final (ops ++ [Op.dealloc 4 .raw])).reg, e.root = false) ∧
      (final (ops ++ [Op.dealloc 4 .raw, Op.teardown []])).log =
        [.fin 2, .fin 1, .free 1, .free 2, .fin 3, .free 3, .fin 4, .free 4] := by
  decide

/-! ### second layer: run-time Type objects (KF-C06-type-released-first) and destructors that raise (KF-C06-dtor-raises)

  `finalX ops` runs the history on the second layer of the model (Cello/Lifecycle.lean, last section).
  `XSt.releasedFirst` = some Type object's memory was released while one of its instances had not been released (from that
  moment the process is undefined: `destruct(instance)` reads the freed Type); `XSt.escaped` = number of exceptions
  destructors sent into the program. -/

/-- **the hypothesis about types**: the Type object of every typed object is *static* (never allocated by the history:
    a file-scope `Cello(...)` type) or is *still registered* when the history ends — in particular a root (`new_root(Type,
    …)`) that the program has not deleted and no swept owner owns: roots are never swept, not even by teardown.
    "Reachable from the roots" is enough to survive the collections of the run (any marked set containing the Type), but
    *not* teardown, which sweeps every non-root object in slot order (`C06_reachable_type_teardown_refuted`). -/
def TypesKept (ops : List Op) : Prop :=
  ∀ p ∈ (finalX ops).types, p.2 ∉ (ghost ops).allocd ∨ p.2 ∈ (final ops).regAddrs

instance (ops : List Op) : Decidable (TypesKept ops) := by unfold TypesKept; infer_instance

/-- **C06, a Type object that is static or still registered has never been released** — every well-formed history
    (allocating destructors, stop windows, abandoned mark phases included) without a raising destructor: no instance ever
    saw its Type released first. -/
theorem C06_types_kept_never_released_first (ops : List Op) (h : WellFormed ops) (hnr : NoRaise ops)
    (hk : TypesKept ops) : (finalX ops).releasedFirst = false := by
  obtain ⟨hc, _⟩ := finalX_core ops hnr
  unfold XSt.releasedFirst
  rw [hc]
  apply releasedFirstFrom_false
  intro p hp
  rcases hk p hp with hs | hr
  · exact ((sinv_final ops h).fresh p.2 hs).2
  · exact ((C06_registered_inert ops h).1 p.2 hr).2

/-- **C06, exactly once on the second layer** — `C06_exactly_once_windows` with the two hypotheses of this layer explicit: for every
    well-formed history in which no destructor allocates (KF-C06-dtor-alloc) and none raises (KF-C06-dtor-raises), no
    object was allocated with `new`/`new_root` while stopped (F23), the program released its raw objects and deleted its
    roots, and every Type object of a typed object is static (KF-C06-type-released-first; after the teardown nothing is
    registered, so "static" is what `TypesKept` says): after teardown, for every slot order, every allocated object has
    exactly one `fin` then one `free`, the registry is empty, no Type was released before an instance, and no exception
    came out of the collector. -/
theorem C06_exactly_once_typed (ops : List Op) (order : List Addr) (h : WellFormed ops) (hnd : NoDtor ops)
    (hnr : NoRaise ops) (hlost : (ghost ops).lost = []) (hraw : (ghost ops).rawLive = [])
    (hroots : ∀ e ∈ (final ops).reg, e.root = false)
    (hw' : WellFormed (ops ++ [Op.teardown order])) (hk : TypesKept (ops ++ [Op.teardown order])) :
    (finalX (ops ++ [Op.teardown order])).core.reg = [] ∧
    (∀ a ∈ (ghost ops).allocd, Once a (finalX (ops ++ [Op.teardown order])).core.log) ∧
    (finalX (ops ++ [Op.teardown order])).releasedFirst = false ∧
    (finalX (ops ++ [Op.teardown order])).escaped = 0 := by
  have hnr' : NoRaise (ops ++ [Op.teardown order]) := hnr.snoc rfl
  obtain ⟨hc, he⟩ := finalX_core _ hnr'
  obtain ⟨h1, h2⟩ := C06_exactly_once_windows ops order h hnd hlost hraw hroots
  rw [hc]
  exact ⟨h1, h2, C06_types_kept_never_released_first _ hw' hnr' hk, he⟩

/-- the hypotheses other than `TypesKept` are met by a reachable history: a *static* type 100 with an instance 3, and a
    run-time Type object 1 registered as a root, with an instance 2 reclaimed by a collection; the program deletes the
    Type afterwards.  `TypesKept` holds up to that `del_root` (last conjunct), not after it (1 is allocated and no longer
    registered), and no Type was released first all the same: `TypesKept` is sufficient, not necessary. -/
example :
    let ops : List Op := [.new 1 .root [] [1] [], .new 2 .std [] [1, 2] [], .typed 2 1, .new 3 .std [] [1, 2, 3] [],
                          .typed 3 100, .collect [1] [2, 3], .del 1 .root]
    WellFormed ops ∧ NoDtor ops ∧ NoRaise ops ∧ (ghost ops).lost = [] ∧ (ghost ops).rawLive = [] ∧
      (∀ e ∈ (final ops).reg, e.root = false) ∧ WellFormed (ops ++ [Op.teardown []]) ∧
      (finalX (ops ++ [Op.teardown []])).core.log = [.fin 2, .free 2, .fin 3, .free 3, .fin 1, .free 1] ∧
      (finalX (ops ++ [Op.teardown []])).releasedFirst = false ∧
      -- (the root Type was *kept* as long as it had instances: `TypesKept` holds before the program deletes it)
      TypesKept [.new 1 .root [] [1] [], .new 2 .std [] [1, 2] [], .typed 2 1, .new 3 .std [] [1, 2, 3] [],
                 .typed 3 100, .collect [1] [2, 3]] := by
  decide

/-- the statement without the hypothesis about types: "for every well-formed history, no Type object is released before
    one of its instances" -/
def C06_type_never_released_first_statement : Prop :=
  ∀ (ops : List Op), WellFormed ops → NoDtor ops → NoRaise ops → (finalX ops).releasedFirst = false

/-- the witness of KF-C06-type-released-first (corpus/kf_c06_type_released_first.ops): a run-time Type object 1
    (`new(Type, …)`: a registered, non-root object) and two instances 2, 3 of it -/
def typeWitness : List Op :=
  [.new 1 .std [] [1] [], .new 2 .std [] [1, 2] [], .typed 2 1, .new 3 .std [] [1, 2, 3] [], .typed 3 1]

/-- **KF-C06-type-released-first.**  The history is well-formed, no destructor allocates or raises, the collector never
    stops.  Teardown sweeps 1, 2, 3; with the slot order `[1, 2, 3]` the release loop releases the Type object first:
    `destruct(2)` then starts with `type_instance(type_of(2), New)` on freed memory.  With the order `[2, 3, 1]` the same
    program is fine: which one happens depends on the addresses. -/
theorem C06_type_released_first_refuted :
    WellFormed typeWitness ∧ NoDtor typeWitness ∧ NoRaise typeWitness ∧
      (finalX (typeWitness ++ [Op.teardown [1, 2, 3]])).releasedFirst = true ∧
      (finalX (typeWitness ++ [Op.teardown [2, 3, 1]])).releasedFirst = false ∧
      ¬ TypesKept (typeWitness ++ [Op.teardown [1, 2, 3]]) ∧
      ¬ C06_type_never_released_first_statement :=
  ⟨by decide, by decide, by decide, by decide, by decide, by decide, fun hall =>
    absurd (hall (typeWitness ++ [Op.teardown [1, 2, 3]]) (by decide) (by decide) (by decide)) (by decide)⟩

/-- **a reachable Type is not safe at teardown, and an unreachable one is not safe during the run**: (i) the program
    holds the Type object 1 (it is in the marked set of every collection): the collections of the run keep it, teardown —
    which sweeps every non-root object — still releases it before its instance 2; (ii) the program has dropped the Type
    but holds the instance 2 (marked): a collection during the run releases the Type under the live instance (the mark
    phase does not follow the header: KF-C01-type-outlived seen from C06). -/
theorem C06_reachable_type_teardown_refuted :
    (finalX [.new 1 .std [] [1] [], .new 2 .std [] [1, 2] [], .typed 2 1, .collect [1] [1, 2]]).releasedFirst = false ∧
    (finalX [.new 1 .std [] [1] [], .new 2 .std [] [1, 2] [], .typed 2 1, .collect [1, 2] [], .teardown [1, 2]]).releasedFirst = true ∧
    (finalX [.new 1 .std [] [1] [], .new 2 .std [] [1, 2] [], .typed 2 1, .collect [2] []]).releasedFirst = true := by
  decide

/-- the statement of `C06_exactly_once` on the second layer without `NoRaise`: "… including objects whose destructors
    raise" -/
def C06_exactly_once_dtor_raises_statement : Prop :=
  ∀ (ops : List Op) (order : List Addr), WellFormed ops → NoDtor ops → (∀ op ∈ ops, op ≠ Op.stop) →
    (ghost ops).rawLive = [] → (∀ e ∈ (finalX ops).core.reg, e.root = false) →
    ∀ (a : Addr) (k : Kind) (owned marks ord : List Addr), Op.new a k owned marks ord ∈ ops →
      Once a (finalX (ops ++ [Op.teardown order])).core.log

/-- the witness of KF-C06-dtor-raises (corpus/kf_c06_dtor_raises.ops, first history): three leaves, the destructor of 2
    raises, all three dropped and swept by one collection in the order 1, 2, 3 -/
def raiseWitness : List Op :=
  [.new 1 .std [] [1] [], .new 2 .std [] [1, 2] [], .new 3 .std [] [1, 2, 3] [], .raises 2, .collect [] [1, 2, 3]]

/-- **KF-C06-dtor-raises.**  The collection finalises 1, enters the destructor of 2, which raises: no `free 2`, the
    release loop is left, object 3 — which left the registry in phase 1 — is still on the pending list, which stays set
    outside the collection (`[NULL, NULL, 3]`); the exception arrives in the program.  The teardown sweep starts from an
    empty registry and overwrites the list: 3 is never finalised, 2 never released. -/
theorem C06_dtor_raises_refuted :
    WellFormed raiseWitness ∧ NoDtor raiseWitness ∧ ¬ NoRaise raiseWitness ∧
      (finalX raiseWitness).core.log = [.fin 1, .free 1, .fin 2] ∧
      (finalX raiseWitness).core.pending = [none, none, some 3] ∧ (finalX raiseWitness).core.reg = [] ∧
      (finalX raiseWitness).escaped = 1 ∧
      (finalX (raiseWitness ++ [Op.teardown []])).core.log = [.fin 1, .free 1, .fin 2] ∧
      ¬ C06_exactly_once_dtor_raises_statement :=
  ⟨by decide, by decide, by decide, by decide, by decide, by decide, by decide, by decide, fun hall =>
    not_once_of_count (by decide)
      (hall raiseWitness [] (by decide) (by decide) (by decide) (by decide) (by decide) 3 .std [] [1, 2, 3] [] (by decide))⟩

/-- the other routes of KF-C06-dtor-raises: (i) an explicit `del` of the raising object: `fin`, never `free`, `GC_Rem`'s
    `mitems` update skipped; (ii) `del` of a Box 3 → Box 2 → leaf 1 whose leaf raises: the exception passes through both
    Box destructors, none of the three is released; (iii) an object abandoned on the stale pending list is still found
    there by a later `del` (`GC_Rem_Ptr` walks `freelist[0 .. freenum)`) — until the next sweep forgets it; (iv) at
    teardown (nobody catches: the process ends with `Uncaught ValueError`, status 1). -/
theorem C06_dtor_raises_routes_refuted :
    (finalX [.new 1 .std [] [1] [], .raises 1, .del 1 .std]).core.log = [.fin 1] ∧
    (finalX [.new 1 .std [] [1] [], .raises 1, .del 1 .std]).core.mitems = 2 ∧
    (finalX [.new 1 .std [] [1] [], .new 2 .std [1] [1, 2] [], .new 3 .std [2] [1, 2, 3] [], .raises 1, .del 3 .std]).core.log
      = [.fin 3, .fin 2, .fin 1] ∧
    (finalX (raiseWitness ++ [Op.del 3 .std])).core.log = [.fin 1, .free 1, .fin 2, .fin 3, .free 3] ∧
    (finalX [.new 1 .std [] [1] [], .new 2 .std [] [1, 2] [], .new 3 .std [] [1, 2, 3] [], .raises 2, .teardown [1, 2, 3]]).core.log
      = [.fin 1, .free 1, .fin 2] ∧
    (finalX [.new 1 .std [] [1] [], .new 2 .std [] [1, 2] [], .new 3 .std [] [1, 2, 3] [], .raises 2, .teardown [1, 2, 3]]).escaped = 1 := by
  decide

/-- safety survives a raising destructor on the witnesses: nothing is finalised twice (the raising object and the
    abandoned ones have *fewer* events, never more) — an illustration by evaluation; `C06_no_double` itself is about
    histories without a raising destructor (`finalX_core`) -/
example : (finalX (raiseWitness ++ [Op.del 3 .std, Op.collect [] [], Op.teardown []])).core.log =
    [.fin 1, .free 1, .fin 2, .fin 3, .free 3] := by decide

/-! ## the collector's own tables and the set-up / teardown paths

  `GC_Rehash`, `GC_Sweep` and `GC_Del` as statement lists read from the source (`CelloGen.Life.rehashProg/sweepProg/gcDelProg`)
  run on the three pointers the collector owns (Cello/LifecycleMem.lean); `Thread_Init_Run`, `Cello_Exit` and the `main` macro
  as step lists (`threadRunProg/exitProg/mainProg`). -/
section CollectorMemory
open Mem CelloGen.Life

/-- **the collector returns its own tables.**  For every sequence of events of a collector's working life — registrations
    and removals that rehash or not, sweeps that shrink the table or not, nested in any way (a destructor that allocates
    or deletes starts them from inside a release loop) — followed by `GC_Del` (during whose sweep the destructors may again
    do all of that): every block the collector allocated for its entry table and its pending list has been freed, none
    twice, no `free` or `realloc` was applied to a dangling pointer, and the thread no longer refers to the collector.
    The statement lists are the ones the translator reads from `GC_Rehash`, `GC_Sweep` and `GC_Del`. -/
theorem C06_collector_tables_released (evs inner : List Mem.Ev) (sh : Bool)
    (hevs : ∀ e ∈ evs, e.working = true) (hinner : ∀ e ∈ inner, e.working = true) :
    (Mem.run Progs.source MSt.init (evs ++ [.delBegin sh] ++ inner ++ [.delEnd])).released = true := by
  rw [Mem.run_snoc, Mem.run_append, Mem.run_snoc]
  exact delEnd_released _ (run_good inner _ hinner (step_good _ _ nofun (run_good evs _ hevs (by decide))))

/-- between operations the collector holds at most one entry table and at most one pending list, nothing is lost and
    nothing was freed twice — whatever the events so far -/
theorem C06_collector_tables_while_working (evs : List Mem.Ev) (hevs : ∀ e ∈ evs, e.working = true) :
    let s := Mem.run Progs.source MSt.init evs
    s.bad = false ∧ s.leaked = false ∧ s.liveEntries ≤ 1 ∧ s.liveFreelist ≤ 1 :=
  MSt.live_of_good (run_good evs MSt.init hevs (by decide))

/-- `Thread_Init_Run`: the collector and the exception record exist before the thread's function runs; the argument tuple
    goes after the function returned; `GC_Del` (which runs user destructors) still finds the exception record; the
    exception record goes last; nothing is left -/
theorem C06_thread_setup_teardown_order : Mem.threadLife = ⟨false, false, false, false, true, true⟩ := by decide

/-- the `main` macro creates the collector, registers `Cello_Exit`, which deletes it (the main thread's exception
    record is static) -/
theorem C06_main_setup_teardown_order : Mem.mainLife = ⟨false, true, false, true, true, true⟩ := by decide

-- non-vacuity: a history with a growing table, a sweep with a nested registration and removal, teardown with a shrink
example : (Mem.run Progs.source MSt.init
    [.set true, .set false, .sweepBegin false, .set true, .rem true, .sweepEnd, .rem false, .delBegin true, .rem true, .delEnd]) =
    ⟨.dangling, .null, .null, false, false, false, false⟩ := by decide

/-- the statements matter: without `gc->freelist = NULL` at the end of `GC_Sweep`, `GC_Del` frees the pending list twice;
    without `free(gc->entries)` in `GC_Del` the entry table is left; without `free(old_entries)` every rehash loses a table -/
theorem C06_collector_tables_variants_refuted :
    (Mem.run { Progs.source with sweep := sweepProg.filter (· != .nullFreelist) } MSt.init
      [.set true, .sweepBegin false, .sweepEnd, .delBegin false, .delEnd]).bad = true ∧
    (Mem.run { Progs.source with del := gcDelProg.filter (· != .freeEntries) } MSt.init
      [.set true, .delBegin false, .delEnd]).released = false ∧
    (Mem.run { Progs.source with rehash := rehashProg.filter (· != .freeOld) } MSt.init
      [.set true, .set true]).leaked = true := by decide
end CollectorMemory

end Cello.Life
