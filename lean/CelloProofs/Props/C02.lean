/-
  C02 — Table behaves as a finite map whatever the hashing does.

  Model: Cello/Table.lean (`step`, `run`: src/Table.c as it is now; `specStep`, `specRun`: association lists) and
  Cello/TableMark.lean.  Read from the source on every check run: CelloGen/Table.lean (the parameters of `cfgNow`, `probe`,
  the function texts `shape…`); CelloGen/Cmp.lean (`eq`, `Int_Cmp`) and CelloGen/Hash.lean (`hash_data`) for the key classes.

  Key objects.  In the model an object is a value; `Table_Get` alone looks at the *address* of its key argument.
  `Op.get t k` is a `get` whose key object lies outside the table's slot array (`KeyArg.obj k`); a key
  argument that points into the table's own storage is `KeyArg.inSlot`.  Since fix bc940bb (the address short cut is taken only
  for the stored key object of an occupied record) `C02_get_mem_agree` holds for EVERY key argument, `C02_get_any_key_object`
  is a theorem about the current source, and `C02_get_value_pointer_old_refuted` speaks about the explicit OLD variant
  `cfgAnyAddress` (was known finding KF-C02-get-alias).  `get` changes no state, so these single-table statements apply at every
  point of every history (`C02_invariant_every_step` supplies `Rep`).

  Key equality.  The model's key test is Lean equality of the abstract key, decided — for the two key classes the property
  names — by the C predicate `eq` over the comparison the type registers.  That the predicate IS equality is proved from the
  translated `eq`/`Int_Cmp` for Int keys; for String keys it needs `String_Cmp` = `strcmp`, the explicit assumption
  `StringCmpIsStrcmp` about the source text, which `C02_string_keys` proves for the text that is in src/String.c now.
-/
import Cello.Table
import CelloGen.Table
import CelloProofs.Lemmas.TableIdeal
import CelloProofs.Lemmas.TableRefine
import CelloProofs.Lemmas.TableLastWrite
import CelloProofs.Lemmas.TableKeys
import CelloProofs.Lemmas.TableArgs
import CelloProofs.Lemmas.TableMark

namespace Cello.Table
open RH

/-- `Table_Ideal_Size`, with the prime table and the load factor read from src/Table.c by the translator -/
def idealNow : Nat → Nat := idealSize CelloGen.Table.primes CelloGen.Table.loadNum CelloGen.Table.loadDen

/-- the model parameters of the source as it is now -/
def cfgNow : Cfg :=
  { ge := CelloGen.Table.tieGe, growEmpty := CelloGen.Table.setGrowsEmpty, ideal := idealNow,
    selfGuard := CelloGen.Table.assignGuardsSelf, getChecksKey := CelloGen.Table.getShortcutChecksKey }

/-- `N` table variables, each `new(Table, K, V)` -/
def fresh (cfg : Cfg) (κ ν : Type) (N : Nat) : List (Tab κ ν) := List.replicate N (new cfg)

/-- the slot array as `(index, stored home, key, value)` -/
def slotList' (t : Tab Nat Nat) : List (Nat × Nat × Nat × Nat) :=
  (t.slots.toList.zipIdx.filterMap (fun p => p.1.map (fun e => (p.2, e.home, e.key, e.val))))

/-- Int keys: `hash = (uint64_t) value` -/
def hid (k : Nat) : Nat := k

variable {κ ν : Type} [DecidableEq κ]

/-- **Growth leaves room**: the slot count chosen for `n` items exceeds `n`, for the prime table and load factor that are in
    src/Table.c now (a load factor ≥ 1 or a zero last prime makes this fail). -/
theorem C02_idealSize_gt (n : Nat) : n < idealNow n :=
  idealSize_gt _ _ _ (by decide) (by decide) (by decide) n

/-- **The source as it is now has the parameters the refinement needs**: strict displacement test `j > p` (F02 fixed),
    `Table_Set` grows an `nslots = 0` table (F03 fixed), `Table_Ideal_Size n > n`, `Table_Assign` returns at once when
    `self is obj` (self-assignment fixed).  Stops type-checking when src/Table.c changes any of them. -/
theorem C02_current_source_good : GoodCfg cfgNow := ⟨rfl, rfl, C02_idealSize_gt, rfl⟩

/-- **The source as it is now takes the address short cut of `Table_Get` only for the stored key object of an occupied record** (fix bc940bb):
    what the lookup theorems for arbitrary key objects need.  Stops type-checking when the test is weakened again. -/
theorem C02_current_source_checks_key : cfgNow.getChecksKey = true := rfl

/-! ### the functions the model mirrors by hand, pinned to the source text

    `setLoop`/`setMove`, `rehash`, `find`/`shiftBack`/`rem`, `get`/`mem`, `clear`/`resize`, `scanUp`/`scanDown`/`iter*`, and in
    Cello/TableMark.lean `markLoop`/`mark`, `hashStep`/`tableHash`, were written against the texts `shape…Modelled` (kept in
    translate/g_table.py); `shape…` is what src/Table.c says on this run (whitespace-normalised; in `Table_Set_Move` the
    displacement operator and in `Table_Get` the address test are masked — they are the parameters `tieGe` /
    `getShortcutChecksKey` the model follows).  An edit of one of these functions stops the theorem named after it, whether or
    not a generated input still tells the difference. -/

theorem C02_source_as_modelled_set_move : CelloGen.Table.shapeSetMove = CelloGen.Table.shapeSetMoveModelled := rfl
theorem C02_source_as_modelled_rehash : CelloGen.Table.shapeRehash = CelloGen.Table.shapeRehashModelled := rfl
theorem C02_source_as_modelled_rem : CelloGen.Table.shapeRem = CelloGen.Table.shapeRemModelled := rfl
theorem C02_source_as_modelled_lookup : CelloGen.Table.shapeLookup = CelloGen.Table.shapeLookupModelled := rfl
theorem C02_source_as_modelled_clear_resize : CelloGen.Table.shapeClearResize = CelloGen.Table.shapeClearResizeModelled := rfl
theorem C02_source_as_modelled_iter : CelloGen.Table.shapeIter = CelloGen.Table.shapeIterModelled := rfl
theorem C02_source_as_modelled_mark_hash : CelloGen.Table.shapeMarkHash = CelloGen.Table.shapeMarkHashModelled := rfl

/-- **C02 (core).** For every key type with decidable equality, every value type, *every hash function*, every number of
    table variables and every history of `new / set / rem / get / mem / len / iter / riter / resize / assign / copy`
    (`assign(t, t)` included), `new` with initial pairs (`newWith`: repeated keys, odd argument count) and `assign` from a
    map that is not a Table (`assignMap`), under the four source-derived conditions `GoodCfg`:
    the model of src/Table.c never divides by zero and never loops for ever, its observations are those of the
    association-list specification (iteration: a permutation of the bindings), and afterwards every table satisfies the
    representation invariant `Rep` (stored home = hash % nslots, distinct keys, probe-distance order, `nitems` = occupied
    slots = number of bindings, an empty slot or no slots at all, same bindings as the specification).  Because the
    statement holds for every history it holds after every prefix: the invariant holds at every step.
    (`Op.set / rem / mem / get` carry values: their argument objects lie outside the slot arrays.  Argument objects that are the
    table's own stored key / value objects: `C02_refines_map_own_objects` below.) -/
theorem C02_refines_map (cfg : Cfg) (g : GoodCfg cfg) (hash : κ → Nat) (N : Nat) (ops : List (Op κ ν)) :
    ∃ ts' os, run cfg hash (fresh cfg κ ν N) ops = .ok (ts', os) ∧
      List.Forall₂ ObsRel os (specRun (List.replicate N []) ops).2 ∧
      StRel hash ts' (specRun (List.replicate N []) ops).1 :=
  run_refines cfg g hash ops _ _ (strel_replicate cfg g hash N)

/-- **C02 for the code as it is in /repo now.** -/
theorem C02_current_source (hash : κ → Nat) (N : Nat) (ops : List (Op κ ν)) :
    ∃ ts' os, run cfgNow hash (fresh cfgNow κ ν N) ops = .ok (ts', os) ∧
      List.Forall₂ ObsRel os (specRun (List.replicate N []) ops).2 ∧
      StRel hash ts' (specRun (List.replicate N []) ops).1 :=
  C02_refines_map cfgNow C02_current_source_good hash N ops

/-- **The invariant holds at every step** of every history (every prefix of the op list). -/
theorem C02_invariant_every_step (hash : κ → Nat) (N : Nat) (ops : List (Op κ ν)) (i : Nat) : ∃ ts' os, run cfgNow hash (fresh cfgNow κ ν N) (ops.take i) = .ok (ts', os) ∧
      StRel hash ts' (specRun (List.replicate N []) (ops.take i)).1 := by
  obtain ⟨ts', os, h1, _, h3⟩ := C02_current_source hash N (ops.take i)
  exact ⟨ts', os, h1, h3⟩

/-- **The outcome never depends on the hash function** (collisions, wrap-around, rehashing): two runs of the same history
    under two arbitrary hash functions both succeed and give observations related to the same specification observations
    (equal, except that iteration may enumerate the same bindings in another order). -/
theorem C02_hash_independent (h1 h2 : κ → Nat) (N : Nat) (ops : List (Op κ ν)) :
    ∃ ts1 os1 ts2 os2, run cfgNow h1 (fresh cfgNow κ ν N) ops = .ok (ts1, os1) ∧
      run cfgNow h2 (fresh cfgNow κ ν N) ops = .ok (ts2, os2) ∧
      List.Forall₂ ObsRel os1 (specRun (List.replicate N []) ops).2 ∧
      List.Forall₂ ObsRel os2 (specRun (List.replicate N []) ops).2 := by
  obtain ⟨ts1, os1, a1, a2, _⟩ := C02_current_source h1 N ops
  obtain ⟨ts2, os2, b1, b2, _⟩ := C02_current_source h2 N ops
  exact ⟨ts1, os1, ts2, os2, a1, b1, a2, b2⟩

/-- **"The bindings of the last set of each key not since removed"** — for EVERY history (no restriction on the operations):
    after any history of `new/set/rem/get/mem/len/iter/riter/resize/assign/copy`, `new` with pairs and `assign` from another
    kind of map on fresh tables, under any hash function, `get t k` answers what `lastBinding` computes from the operation
    list alone — the value of the last `set t k _` that no `rem t k`, `resize(t, 0)` or `new t` followed; through
    `assign(t, s)` / `t = copy(s)` the pending binding of `s` at that moment (and nothing of what `t` held before); after
    `new(Table, K, V, k1, v1, …)` / `assign(t, other map)` the value of the last pair naming `k` — and raises `KeyError` if
    there is none, whatever was inserted, displaced, shifted or rehashed in between. -/
theorem C02_last_set_wins (hash : κ → Nat) (N : Nat) (ops : List (Op κ ν)) (t : Nat) (ht : t < N) (k : κ) :
    ∃ ts' os, ∃ ht' : t < ts'.length, run cfgNow hash (fresh cfgNow κ ν N) ops = .ok (ts', os) ∧
      get hash ts'[t] k = .ok (match lastBinding N ops t k with | none => .raised .KeyError | some v => .val v) := by
  obtain ⟨ts', os, h1, _, R⟩ := C02_current_source hash N ops
  obtain ⟨m, hm, hg⟩ := Option.map_eq_some_iff.mp (specRun_lastBinding N ops t ht k)
  obtain ⟨ht2, rfl⟩ := List.getElem?_eq_some_iff.mp hm
  have ht' : t < ts'.length := R.1 ▸ ht2
  exact ⟨ts', os, ht', h1, by rw [get_rep hash ts'[t] _ (R.2 t ht' ht2) k, hg]; rfl⟩

def exHistory : List (Op Nat Nat) :=
  [.set 0 9 1, .newWith 1 [(4, 1), (3, 2), (4, 3)] false, .assign 0 1, .set 0 4 8, .rem 0 3, .copy 2 0, .assignMap 1 [(7, 7)], .set 2 3 5]

/-- a history through `assign`, `copy`, a constructor with pairs and an assignment from another map: table 1 is built from
    pairs (key 4 named twice: the later pair wins), assigned to table 0 (whose own binding of 9 is dropped), table 0 then
    updates 4 and removes 3, and is copied into table 2.  `lastBinding` follows all of it, and `get` on the model's final
    tables answers exactly that. -/
example :
    [lastBinding 3 exHistory 0 4, lastBinding 3 exHistory 0 3, lastBinding 3 exHistory 0 9, lastBinding 3 exHistory 2 4,
      lastBinding 3 exHistory 2 3, lastBinding 3 exHistory 1 4, lastBinding 3 exHistory 1 7]
      = [some 8, none, none, some 8, some 5, none, some 7] ∧
    (run cfgNow (fun k => k) (fresh cfgNow Nat Nat 3) exHistory).toOption.map
      (fun r => r.1.map (fun t => [4, 3, 9, 7].map (fun k => (get (fun k => k) t k).toOption.map
        (fun o => match o with | .val v => v | _ => 99))))
      = some [[some 8, some 99, some 99, some 99], [some 99, some 99, some 99, some 7], [some 8, some 5, some 99, some 99]] := by
  refine ⟨by decide, by decide⟩

/-- the single-key reading for histories of `new/set/rem/get/mem/len/iter/riter/resize` only: there `lastBinding` is
    `lastWrite`, a fold over the operations that name `t` and `k` -/
theorem C02_last_set_wins_plain (hash : κ → Nat) (N : Nat) (ops : List (Op κ ν)) (hplain : ∀ op ∈ ops, op.isPlain)
    (t : Nat) (ht : t < N) (k : κ) :
    ∃ ts' os, ∃ ht' : t < ts'.length, run cfgNow hash (fresh cfgNow κ ν N) ops = .ok (ts', os) ∧
      get hash ts'[t] k = .ok (match lastWrite t k ops none with | none => .raised .KeyError | some v => .val v) := by
  have := C02_last_set_wins hash N ops t ht k
  rwa [show lastBinding N ops t k = lastWrite t k ops none from foldl_writeAll_plain N t k ops _ hplain] at this

/-- a plain history with a growing resize, a refused resize, `resize(t, 0)` and `new`: the hypothesis of `C02_last_set_wins_plain`
    is met, and the last write is what the theorem says `get` answers (7 for key 9: set after the `resize(t, 0)`; nothing
    for key 4: its `set` came before it) -/
example :
    let ops : List (Op Nat Nat) := [.set 0 4 1, .resize 0 40, .set 0 9 2, .resize 0 1, .resize 0 0, .set 0 9 7, .new 1, .len 0]
    (∀ op ∈ ops, op.isPlain) ∧ lastWrite 0 9 ops none = some 7 ∧ lastWrite 0 4 ops none = none ∧
    (run cfgNow (fun k => k) (fresh cfgNow Nat Nat 2) ops).toOption.map
      (fun r => r.1.map (fun t => ((get (fun k => k) t 9).toOption.map (fun o => match o with | .val v => v | _ => 0),
                                   (get (fun k => k) t 4).toOption.map (fun o => match o with | .raised _ => 99 | _ => 0))))
      = some [(some 7, some 99), (some 0, some 99)] := by
  refine ⟨?_, by decide, by decide, by decide⟩
  intro op h
  simp only [List.mem_cons, List.not_mem_nil, or_false] at h
  rcases h with h | h | h | h | h | h | h | h <;> subst h <;> simp [Op.isPlain]

/-- **C02 with argument objects of the table's own.**  `Op.set / rem / mem / get` carry VALUES: in `C02_refines_map` their
    argument objects lie outside every slot array.  Here the key argument of `set / rem / mem / get` and the value argument of
    `set` may also be the key object the table itself stores for some key (what `foreach (p in t)` hands out) or the value
    object of one of its records (what `get` returned) — `set(t, p, get(t, k2))`, `rem(t, p)`, `mem(t, p)` while walking,
    `set(t, newkey, get(t, k))` growing the table under its own value object.  For every hash function and every history the
    model of src/Table.c — which reads such an object exactly where the C code does: at the casts, `hash(key)` and the
    `assign` into sspace0 of `Table_Set_Move`, before the first write; while probing in `Table_Rem` / `Table_Mem`; at the
    address test of `Table_Get` — never fails, observes what the map observes for the values those objects hold
    (`Ref.specKey` / `Ref.specVal`: the stored key object of a bound `k` holds `k`, the value object holds what the map binds
    to `k`; an object read as the other type goes through the cast: `ValueError`, nothing changed; no object exists for an
    unbound key), and keeps the invariant.  Needs the checked address test of `Table_Get` (fix bc940bb) besides `GoodCfg`. -/
theorem C02_refines_map_own_objects (cfg : Cfg) (g : GoodCfg cfg) (hc : cfg.getChecksKey = true) (hash : κ → Nat)
    (asKey : ν → Option κ) (asVal : κ → Option ν) (N : Nat) (ops : List (AOp κ ν)) :
    ∃ ts' os, runA cfg hash asKey asVal (fresh cfg κ ν N) ops = .ok (ts', os) ∧
      List.Forall₂ ObsRel os (specRunA asKey asVal (List.replicate N []) ops).2 ∧
      StRel hash ts' (specRunA asKey asVal (List.replicate N []) ops).1 :=
  runA_refines cfg g hc hash asKey asVal ops _ _ (strel_replicate cfg g hash N)

/-- `C02_refines_map_own_objects` for the code as it is in /repo now -/
theorem C02_own_objects_current_source (hash : κ → Nat) (asKey : ν → Option κ) (asVal : κ → Option ν) (N : Nat)
    (ops : List (AOp κ ν)) :
    ∃ ts' os, runA cfgNow hash asKey asVal (fresh cfgNow κ ν N) ops = .ok (ts', os) ∧
      List.Forall₂ ObsRel os (specRunA asKey asVal (List.replicate N []) ops).2 ∧
      StRel hash ts' (specRunA asKey asVal (List.replicate N []) ops).1 :=
  C02_refines_map_own_objects cfgNow C02_current_source_good C02_current_source_checks_key hash asKey asVal N ops

/-- a history whose argument objects are all outside the tables runs as in the plain machine, so `C02_own_objects_current_source`
    says about it what `C02_refines_map` says -/
theorem C02_own_objects_extends_plain (hash : κ → Nat) (asKey : ν → Option κ) (asVal : κ → Option ν) (N : Nat)
    (ops : List (Op κ ν)) :
    runA cfgNow hash asKey asVal (fresh cfgNow κ ν N) (ops.map .plain) = run cfgNow hash (fresh cfgNow κ ν N) ops :=
  runA_plain cfgNow hash asKey asVal ops _

def exOwnObjects : List (AOp Nat Nat) :=
  [.plain (.set 0 4 1), .plain (.set 0 9 2), .plain (.set 0 14 3), .plain (.set 0 1 6),
   .setA 0 (.keyOf 9) (.valOf 4), .plain (.get 0 9), .setA 0 (.valOf 14) (.valOf 9), .plain (.get 0 3), .plain (.len 0),
   .remA 0 (.keyOf 4), .memA 0 (.keyOf 4), .memA 0 (.valOf 3), .getA 0 (.valOf 3), .setA 0 (.keyOf 77) (.obj 0)]
def exObsNat (o : Obs Nat Nat) : Nat :=
  match o with
  | .val v => v | .nat n => n | .bool b => if b then 1 else 0 | .raised _ => 99 | .badOp => 77 | _ => 0

/-- Int → Int, keys 4, 9, 14 in one cluster that wraps the array end (5 slots), and key 1: `set(t, p9, v4)` with the stored
    key object of 9 and the value object of 4 (replace in place: the record the key object lies in is destructed and
    rewritten; 9 ↦ 1); `set(t, v14, v9)` with the VALUE object of 14 (it says 3) read as a key — a new key, the fifth: the
    table grows to 11 slots under both argument objects (3 ↦ 1); `rem` with the stored key object of 4 (back shift, shrink to
    5 slots); `mem` with it afterwards (no such object any more: nothing is called); `mem` / `get` through the value object
    of 3 (it says 1, bound to 6); `set` with the key object of an unbound key.  Model and map agree on every observation. -/
example :
    (runA cfgNow hid some some (fresh cfgNow Nat Nat 1) exOwnObjects).toOption.map
        (fun r => (r.2.map exObsNat, r.1.map (fun t => (t.n, t.nitems))))
      = some ([0, 0, 0, 0, 0, 1, 0, 1, 5, 0, 77, 1, 6, 77], [(5, 4)]) ∧
    (runA cfgNow hid some some (fresh cfgNow Nat Nat 1) (exOwnObjects.take 7)).toOption.map (fun r => r.1.map (fun t => (t.n, t.nitems)))
      = some [(11, 5)] ∧
    (specRunA some some (List.replicate 1 ([] : Spec Nat Nat)) exOwnObjects).2.map exObsNat
      = [0, 0, 0, 0, 0, 1, 0, 1, 5, 0, 77, 1, 6, 77] := by
  decide

/-! ### what the collector is told (`Table_Mark`) and what `hash(t)` answers (`Table_Hash`): Cello/TableMark.lean -/

/-- **C02 with `mark` and `hash` in the history.**  For every hash function (slot placement), every pair of element hash
    functions `hk` / `hv` (what `hash` answers for a key / value object), every history of the operations of
    `C02_refines_map_own_objects` interleaved with `Table_Mark(t, gc, f)` and `hash(t)`: the model never fails, keeps the
    invariant, and observes
      * for `mark`: calls of `f` that come in (key object, value object of the same record) pairs which — read as bindings —
        are a permutation of the map's bindings, two calls per binding: every object the table binds is reported to the
        collector exactly once and nothing else is (no empty record, no record twice);
      * for `hash`: `Spec.hash hk hv m`, the xor-fold over the bindings of the map — a function of the map alone
        (`C02_hash_depends_on_bindings_only`). -/
theorem C02_refines_map_mark_hash (cfg : Cfg) (g : GoodCfg cfg) (hc : cfg.getChecksKey = true) (hash : κ → Nat)
    (asKey : ν → Option κ) (asVal : κ → Option ν) (hk : κ → Nat) (hv : ν → Nat) (N : Nat) (ops : List (XOp κ ν)) :
    ∃ ts' os, runX cfg hash asKey asVal hk hv (fresh cfg κ ν N) ops = .ok (ts', os) ∧
      List.Forall₂ XObsRel os (specRunX asKey asVal hk hv (List.replicate N []) ops).2 ∧
      StRel hash ts' (specRunX asKey asVal hk hv (List.replicate N []) ops).1 :=
  runX_refines cfg g hc hash asKey asVal hk hv ops _ _ (strel_replicate cfg g hash N)

/-- `C02_refines_map_mark_hash` for the code as it is in /repo now -/
theorem C02_mark_hash_current_source (hash : κ → Nat) (asKey : ν → Option κ) (asVal : κ → Option ν) (hk : κ → Nat)
    (hv : ν → Nat) (N : Nat) (ops : List (XOp κ ν)) :
    ∃ ts' os, runX cfgNow hash asKey asVal hk hv (fresh cfgNow κ ν N) ops = .ok (ts', os) ∧
      List.Forall₂ XObsRel os (specRunX asKey asVal hk hv (List.replicate N []) ops).2 ∧
      StRel hash ts' (specRunX asKey asVal hk hv (List.replicate N []) ops).1 :=
  C02_refines_map_mark_hash cfgNow C02_current_source_good C02_current_source_checks_key hash asKey asVal hk hv N ops

/-- a history without `mark` / `hash` runs as in the own-objects machine, so `C02_mark_hash_current_source` says about it
    what `C02_refines_map_own_objects` says -/
theorem C02_mark_hash_extends_own_objects (hash : κ → Nat) (asKey : ν → Option κ) (asVal : κ → Option ν) (hk : κ → Nat)
    (hv : ν → Nat) (N : Nat) (ops : List (AOp κ ν)) :
    runX cfgNow hash asKey asVal hk hv (fresh cfgNow κ ν N) (ops.map .base)
      = (runA cfgNow hash asKey asVal (fresh cfgNow κ ν N) ops).map (fun r => (r.1, r.2.map .base)) :=
  runX_base cfgNow hash asKey asVal hk hv ops _

/-- **`Table_Mark` on any table in the invariant** (every table of every reachable state): the calls of the callback are
    (key object, value object) pairs of the records iteration yields — each bound key once —, two calls per item, and every
    reported address is the key or the value object of an OCCUPIED record `< nslots`: the collector is never handed the
    zeroed memory of an empty record (it would read a header there) nor anything twice. -/
theorem C02_mark_reports_bindings (hash : κ → Nat) (t : Tab κ ν) (m : Spec κ ν) (r : Rep hash t m) :
    (∃ ps, pairsOf (mark t) = some ps ∧ ps.Perm m ∧ (ps.map Prod.fst).Nodup) ∧ (mark t).length = 2 * t.nitems ∧
      ∀ x ∈ mark t, ∃ (h : x.slot < t.n) (e : Entry κ ν), t.slots[x.slot] = some e ∧ (x = .key x.slot e.key ∨ x = .val x.slot e.val) := by
  obtain ⟨h1, h2, h3⟩ := mark_spec hash t r.toWF
  exact ⟨⟨foreach t, h1, foreach_perm hash t m r.toRep0, foreach_keys_nodup hash t r.toWF⟩, h2, h3⟩

/-- **`hash(t)` depends on the bindings only** — not on the hash function that placed the records, not on collisions, growth,
    shrinking or the order of the operations: after two arbitrary histories under two arbitrary placement hashes, two table
    variables whose maps hold the same bindings (in any order) hash equally. -/
theorem C02_hash_depends_on_bindings_only (h1 h2 : κ → Nat) (hk : κ → Nat) (hv : ν → Nat) (N : Nat) (ops1 ops2 : List (Op κ ν))
    (t1 t2 : Nat) :
    ∃ ts1 os1 ts2 os2, run cfgNow h1 (fresh cfgNow κ ν N) ops1 = .ok (ts1, os1) ∧ run cfgNow h2 (fresh cfgNow κ ν N) ops2 = .ok (ts2, os2) ∧
      ∀ (a1 : t1 < ts1.length) (a2 : t2 < ts2.length) (b1 : t1 < (specRun (List.replicate N ([] : Spec κ ν)) ops1).1.length)
        (b2 : t2 < (specRun (List.replicate N ([] : Spec κ ν)) ops2).1.length),
        ((specRun (List.replicate N ([] : Spec κ ν)) ops1).1[t1]).Perm ((specRun (List.replicate N ([] : Spec κ ν)) ops2).1[t2]) →
        tableHash hk hv ts1[t1] = tableHash hk hv ts2[t2] := by
  obtain ⟨ts1, os1, e1, _, R1⟩ := C02_current_source h1 N ops1
  obtain ⟨ts2, os2, e2, _, R2⟩ := C02_current_source h2 N ops2
  refine ⟨ts1, os1, ts2, os2, e1, e2, ?_⟩
  intro a1 a2 b1 b2 p
  rw [tableHash_rep h1 hk hv _ _ (R1.2 t1 a1 b1).toRep0, tableHash_rep h2 hk hv _ _ (R2.2 t2 a2 b2).toRep0]
  exact specHash_perm hk hv p

def exMarkHash : List (XOp Nat Nat) :=
  [.base (.plain (.set 0 0 1)), .base (.plain (.set 0 5 2)), .base (.plain (.set 0 10 3)), .base (.plain (.set 0 4 9)),
   .base (.plain (.set 1 10 8)), .base (.plain (.set 1 4 9)), .base (.plain (.set 1 5 2)), .base (.plain (.set 1 0 1)),
   .base (.plain (.set 1 10 3)), .base (.plain (.len 1)), .hash 0, .hash 1, .mark 0, .mark 1, .base (.plain (.resize 1 0)), .mark 1, .hash 1, .mark 7]
def exXObsNat (o : XObs Nat Nat) : List Nat :=
  match o with
  | .hashed h => [h]
  | .marked l => l.map (fun x => match x with | .key i k => 100 * i + k | .val i v => 1000 + 100 * i + v)
  | .base _ => [77]

/-- Int → Int, keys 0, 5, 10 (one cluster at 5 slots) and 4 bound in two different orders in two table variables, table 1
    updating one binding in between: the slot arrays differ, iteration order differs, `hash` agrees;
    `mark` reports each table's records in its own slot order, key object then value object; a table emptied by
    `resize(t, 0)` (no slots) reports nothing and hashes to 0; a table variable that does not exist: `badOp`. -/
example :
    ((runX cfgNow hid some some hid hid (fresh cfgNow Nat Nat 2) exMarkHash).toOption.map
        (fun r => (r.1.map slotList', (r.2.drop 10).map exXObsNat))
      == some ([[(0, 0, 0, 1), (1, 0, 5, 2), (2, 0, 10, 3), (4, 4, 4, 9)], []],
              [[2], [2], [0, 1001, 105, 1102, 210, 1203, 404, 1409],
               [10, 1003, 105, 1102, 200, 1201, 404, 1409], [77], [], [0], [77]])) = true := by
  decide

/-- **`len` is the number of bindings**, after every history, for every table variable -/
theorem C02_len_eq_size (hash : κ → Nat) (N : Nat) (ops : List (Op κ ν)) :
    ∃ ts' os, run cfgNow hash (fresh cfgNow κ ν N) ops = .ok (ts', os) ∧
      ts'.length = (specRun (List.replicate N ([] : Spec κ ν)) ops).1.length ∧
      ∀ t (h1 : t < ts'.length) (h2 : t < (specRun (List.replicate N ([] : Spec κ ν)) ops).1.length),
        ts'[t].nitems = ((specRun (List.replicate N ([] : Spec κ ν)) ops).1[t]).length := by
  obtain ⟨ts', os, h1, _, R⟩ := C02_current_source hash N ops
  exact ⟨ts', os, h1, R.1, fun t a b => len_rep hash _ _ (R.2 t a b)⟩

/-! ### single operations, for a table in the invariant `Rep` (every table of every reachable state, by `C02_refines_map`) -/

/-- iteration yields every key exactly once, with its value: no key twice, the same bindings as the map; backward
    iteration is forward iteration reversed -/
theorem C02_iteration_each_key_once (hash : κ → Nat) (t : Tab κ ν) (m : Spec κ ν) (r : Rep hash t m) :
    ((foreach t).map Prod.fst).Nodup ∧ (foreach t).Perm m ∧ (foreach t).length = t.nitems ∧
      foreachRev t = (foreach t).reverse := by
  refine ⟨foreach_keys_nodup hash t r.toWF, foreach_perm hash t m r.toRep0, ?_, foreachRev_eq_reverse hash t r.toWF⟩
  rw [(foreach_perm hash t m r.toRep0).length_eq, r.len]

/-- **`get` and `mem` agree with the map — for EVERY key object**, for every configuration with the checked address test
    (`hc`; the source as it is now has it: `C02_current_source_checks_key`; `getArg` is the whole of `Table_Get`), on any
    table in the invariant: an object outside the table (`.obj k`), the key object the table
    stores in record `i` (what iteration hands out), the value object of record `i`, an address inside an empty record.
    `a.denote` is the key value the object has when read as a key (`cast(key, t->ktype)`): `get` answers what the map binds to
    that value, `KeyError` when it binds nothing, and the cast's `ValueError` when the object is not of the key type
    (an empty record included); `.inSlot i` with `i ≥ nslots` names no object of the table: `badOp`.  `mem` is stated for the
    key value the object denotes.
    (Before fix bc940bb this needed the hypothesis `a.outside`: `C02_get_value_pointer_old_refuted`.) -/
theorem C02_get_mem_agree (cfg : Cfg) (hc : cfg.getChecksKey = true) (hash : κ → Nat) (asKey : ν → Option κ) (t : Tab κ ν)
    (m : Spec κ ν) (r : Rep hash t m) (a : KeyArg κ) :
    getArg cfg hash asKey t a = .ok (match a.denote asKey t with
      | none => .badOp
      | some (.error e) => .raised e
      | some (.ok k) => match Spec.get m k with | none => .raised .KeyError | some v => .val v) ∧
    ∀ k, a.denote asKey t = some (.ok k) → mem hash t k = .ok (.bool (Spec.get m k).isSome) :=
  ⟨getArg_rep_checked cfg hc hash asKey t m r a, fun k _ => mem_rep hash t m r k⟩

/-- the `get` half of it for the code as it is in /repo now -/
theorem C02_get_mem_agree_current_source (hash : κ → Nat) (asKey : ν → Option κ) (t : Tab κ ν) (m : Spec κ ν)
    (r : Rep hash t m) (a : KeyArg κ) :
    getArg cfgNow hash asKey t a = .ok (match a.denote asKey t with
      | none => .badOp
      | some (.error e) => .raised e
      | some (.ok k) => match Spec.get m k with | none => .raised .KeyError | some v => .val v) :=
  (C02_get_mem_agree cfgNow C02_current_source_checks_key hash asKey t m r a).1

/-- every kind of key argument on a reachable table `{4 → 9, 9 → 2}` (Int → Int): a stack object, the stored key object of
    9 (slot 4), the value object of 4 (slot 0 after the wrap; it says 9, bound to 2), the value object of 9 (it says 2: not
    bound), an address inside an empty record, an address outside the array -/
example :
    (run cfgNow (fun k => k) (fresh cfgNow Nat Nat 1) [.set 0 9 2, .set 0 4 9]).toOption.map
        (fun r => r.1.map (fun t => ([KeyArg.obj 9, .inSlot 4 .key, .inSlot 0 .val, .inSlot 4 .val, .inSlot 2 .key, .inSlot 5 .val].map
          (fun a => (getArg cfgNow (fun k => k) some t a).toOption.map
            (fun o => match o with | .val v => v | .raised .KeyError => 100 | .raised .ValueError => 101 | .badOp => 102 | _ => 0)))))
      = some [[some 2, some 2, some 2, some 100, some 101, some 102]] := by decide

/-- **the intended use of the address test**: `get(t, p)` for the key object `p` that the table stores for `k` — what
    `foreach (p in t)` hands out — answers what the map binds to `k` (and `KeyError` when `k` is not bound and there is no
    such object); with the test as it is and with the old test -/
theorem C02_get_iteration_pointer (cfg : Cfg) (hash : κ → Nat) (asKey : ν → Option κ) (t : Tab κ ν) (m : Spec κ ν)
    (r : Rep hash t m) (k : κ) :
    getViaKey cfg hash asKey t k = .ok (match Spec.get m k with | none => .raised .KeyError | some v => .val v) :=
  getViaKey_rep cfg hash asKey t m r k

/-- the statement for `get(t, get(t, k))`, for a configuration of the model: when the key argument is the value object of
    the table's own record for `k`, read as a key by `asKey` (`cast(x, t->ktype)`; Int → Int tables: the identity), the
    answer is what the map binds to the value of that object (`KeyError` when `k` is not bound and there is no such object) -/
def C02_get_any_key_object_statement (cfg : Cfg) : Prop :=
  ∀ (κ ν : Type) [DecidableEq κ] (hash : κ → Nat) (asKey : ν → Option κ) (t : Tab κ ν) (m : Spec κ ν), Rep hash t m → ∀ k,
    getViaVal cfg hash asKey t k = .ok (Spec.getOfVal asKey m k)

/-- OLD variant: `Table_Get` as it was before fix bc940bb (any address inside the slot array takes the short cut), whatever
    the translator finds for the other parameters -/
def cfgAnyAddress : Cfg := { cfgNow with getChecksKey := false }
/-- the checked address test, explicitly (what `cfgNow` is as long as the fix is in the source) -/
def cfgKeyChecked : Cfg := { cfgNow with getChecksKey := true }

/-- **`get(t, get(t, k))` for the code as it is in /repo now**: the statement holds (it failed for the code before fix
    bc940bb: `C02_get_value_pointer_old_refuted`) -/
theorem C02_get_any_key_object : C02_get_any_key_object_statement cfgNow := by
  intro κ ν _ hash asKey t m r k
  exact getViaVal_rep_checked cfgNow C02_current_source_checks_key hash asKey t m r k

/-- the same statement for the explicit checked variant, independent of what the translator reads -/
theorem C02_get_any_key_object_repaired : C02_get_any_key_object_statement cfgKeyChecked := by
  intro κ ν _ hash asKey t m r k
  exact getViaVal_rep_checked cfgKeyChecked rfl hash asKey t m r k

/-- what the OLD test answered to `get(t, get(t, k))`: the value bound to `k` once more — it never looked at what the
    *value* object says when read as a key -/
theorem C02_get_value_pointer_old_answer (cfg : Cfg) (hc : cfg.getChecksKey = false) (hash : κ → Nat) (asKey : ν → Option κ)
    (t : Tab κ ν) (m : Spec κ ν) (r : Rep hash t m) (k : κ) :
    getViaVal cfg hash asKey t k = .ok (match Spec.get m k with | none => .raised .KeyError | some v => .val v) :=
  getViaVal_rep cfg hc hash asKey t m r k

/-- `get` or `rem` of an absent key raises `KeyError` and leaves the table exactly as it was -/
theorem C02_absent_key_KeyError_unchanged (cfg : Cfg) (hash : κ → Nat) (t : Tab κ ν) (m : Spec κ ν)
    (r : Rep hash t m) (k : κ) (habs : Spec.get m k = none) :
    get hash t k = .ok (.raised .KeyError) ∧ rem cfg hash t k = .ok (t, .raised .KeyError) := by
  constructor
  · rw [get_rep hash t m r k, habs]
  · rcases find_rep hash t m r k with ⟨_, h2⟩ | ⟨v, _, _, _, h1, _⟩
    · simp only [rem, h2]
    · rw [habs] at h1; cases h1

/-- an emptied table keeps working — also after `resize(t, 0)`, which leaves `nslots = 0`: a following `set` succeeds and
    the key is then found with its value -/
theorem C02_emptied_keeps_working (cfg : Cfg) (g : GoodCfg cfg) (hash : κ → Nat) (t : Tab κ ν) (r : Rep hash t [])
    (k : κ) (v : ν) :
    ∃ t', set cfg hash t k v = .ok t' ∧ t'.nitems = 1 ∧ get hash t' k = .ok (.val v) ∧ mem hash t' k = .ok (.bool true) := by
  obtain ⟨t', h1, r1⟩ := set_rep cfg g hash t [] r k v
  have hg : Spec.get (Spec.set ([] : Spec κ ν) k v) k = some v := by simp [Spec.get, Spec.set, Spec.rem]
  refine ⟨t', h1, ?_, ?_, ?_⟩
  · rw [len_rep hash t' _ r1]; simp [Spec.set, Spec.rem]
  · rw [get_rep hash t' _ r1 k, hg]
  · rw [mem_rep hash t' _ r1 k, hg]; rfl

/-- `resize(t, 0)` of any table (no hypothesis on it) gives such an emptied table: `nslots = 0`, in the invariant for the
    empty map -/
theorem C02_resize_zero_empties (cfg : Cfg) (hash : κ → Nat) (t : Tab κ ν) : ∃ t', resize cfg hash t 0 = .ok (t', .done) ∧ t'.n = 0 ∧ Rep hash t' [] :=
  ⟨clear t, rfl, rfl, rep_empty_zero hash⟩

/-- **`new(Table, K, V, k1, v1, …)` and `assign` from a map that is not a Table** (`fill`: sized once for the number of
    pairs, then one `Table_Set_Move` per pair with no growth in between): never fails, ends in the invariant, and binds
    every key to the value of the *last* pair that names it; for a source with distinct keys the bindings are exactly the
    source's pairs. -/
theorem C02_new_with_pairs (hash : κ → Nat) (kvs : List (κ × ν)) :
    ∃ t', fill cfgNow hash kvs = .ok t' ∧ Rep hash t' (Spec.ofPairs kvs) ∧
      (∀ k, get hash t' k = .ok (match (kvs.reverse.find? (fun p => decide (p.1 = k))).map (·.2) with
                                  | none => .raised .KeyError | some v => .val v)) ∧
      ((kvs.map Prod.fst).Nodup → (foreach t').Perm kvs) := by
  obtain ⟨t', e, r⟩ := fill_rep cfgNow C02_current_source_good hash kvs
  refine ⟨t', e, r, ?_, ?_⟩
  · intro k; rw [get_rep hash t' _ r k, ofPairs_get]; rfl
  · intro hnd
    have := foreach_perm hash t' _ r.toRep0
    rw [ofPairs_of_nodup kvs hnd] at this
    exact this.trans (List.reverse_perm kvs)

/-- constructor arguments that repeat a key and collide (0, 5, 10 modulo 5) in an array sized for three pairs -/
example : (((fill cfgNow (fun k => k) [(0, 1), (5, 2), (0, 3), (10, 4)]).toOption.map (fun t => (t.n, t.nitems, slotList' t)))
    == some (5, 3, [(0, 0, 0, 3), (1, 0, 5, 2), (2, 0, 10, 4)])) = true := by decide

/-- **Int keys.**  `eq(a, b)` of src/Cmp.c over `Int_Cmp` of src/Num.c (both translated from the source on every run) is
    equality of the 64-bit value, equal keys hash equally, and the model run *with that `eq` as its key test* and with
    `Int_Hash` as its hash refines the map, for every history. -/
theorem C02_int_keys (N : Nat) (ops : List (Op (BitVec 64) ν)) :
    (∀ a b : BitVec 64, CelloGen.Cmp.eq Cello.Cmp.intCmp a b = true ↔ a = b) ∧
    (∀ a b : BitVec 64, CelloGen.Cmp.eq Cello.Cmp.intCmp a b = true → intKeyHash a = intKeyHash b) ∧
    ∃ ts' os, @run _ ν intKeyEq cfgNow intKeyHash (fresh cfgNow _ ν N) ops = .ok (ts', os) ∧
      List.Forall₂ (@ObsRel _ ν) os (@specRun _ ν intKeyEq (List.replicate N []) ops).2 ∧
      StRel intKeyHash ts' (@specRun _ ν intKeyEq (List.replicate N []) ops).1 :=
  ⟨int_eq_iff, int_eq_hash, @C02_current_source _ ν intKeyEq intKeyHash N ops⟩

/-- **String keys.**  The assumption first, proved for the source as it is now: `String_Cmp` — the comparison `eq` runs on two
    String keys — is `strcmp` of the two character buffers (`StringCmpIsStrcmp`: the bodies of `String_Cmp`, `String_C_Str`,
    `c_str` read from src/String.c on every run are the texts `bytesCmp` models; a `String_Cmp` that compares a prefix, folds
    case, masks a bit or looks at anything but the bytes up to the terminator stops this theorem).  Then: `eq` over `strcmp`
    is equality of the byte strings, equal keys hash equally (`String_Hash` = `hash_data` of the bytes, constants from
    src/Hash.c), and the model run with that key test and that hash refines the map, for every history. -/
theorem C02_string_keys (N : Nat) (ops : List (Op (List UInt8) ν)) :
    StringCmpIsStrcmp ∧
    (∀ a b : List UInt8, CelloGen.Cmp.eq Cello.Cmp.bytesCmp a b = true ↔ a = b) ∧
    (∀ a b : List UInt8, CelloGen.Cmp.eq Cello.Cmp.bytesCmp a b = true → stringKeyHash a = stringKeyHash b) ∧
    ∃ ts' os, @run _ ν stringKeyEq cfgNow stringKeyHash (fresh cfgNow _ ν N) ops = .ok (ts', os) ∧
      List.Forall₂ (@ObsRel _ ν) os (@specRun _ ν stringKeyEq (List.replicate N []) ops).2 ∧
      StRel stringKeyHash ts' (@specRun _ ν stringKeyEq (List.replicate N []) ops).1 :=
  ⟨(show _ ∧ _ ∧ _ from ⟨rfl, rfl, rfl⟩), string_eq_iff, string_eq_hash, @C02_current_source _ ν stringKeyEq stringKeyHash N ops⟩

/-- **why the assumption is needed**: the translated `eq` over a comparison that is `memcmp` on the shorter of the two lengths
    (the tie-break on the length forgotten) holds for "item" and "items" — two keys for the map, one key for a table that tests
    keys with it whenever the second meets the first on its probe path; over `strcmp` (`bytesCmp`) it does not.  Near keys of
    this kind (proper prefixes, last byte, case, bit 7) on one probe path are what the correspondence check feeds the real
    Table. -/
theorem C02_weak_string_cmp_is_not_equality :
    CelloGen.Cmp.eq prefixCmp [105, 116, 101, 109] [105, 116, 101, 109, 115] = true ∧
    CelloGen.Cmp.eq Cello.Cmp.bytesCmp [105, 116, 101, 109] [105, 116, 101, 109, 115] = false ∧
    ([105, 116, 101, 109] : List UInt8) ≠ [105, 116, 101, 109, 115] := by decide

/-- the String instance runs: "item" and "items" stay two keys although both land in one cluster (the hash is arbitrary in the
    model; here constant), the longer one is found with its own value, removing the shorter one leaves it -/
example : ((@run _ Nat stringKeyEq cfgNow (fun _ => 7) (fresh cfgNow _ Nat 1)
      [.set 0 [105, 116, 101, 109] 1, .set 0 [105, 116, 101, 109, 115] 2, .len 0, .get 0 [105, 116, 101, 109],
       .rem 0 [105, 116, 101, 109], .mem 0 [105, 116, 101, 109, 115], .get 0 [105, 116, 101, 109, 115]]).toOption.map
        (fun r => r.2.map (fun o => match o with | .nat n => n | .val v => v | .bool b => if b then 1 else 0 | _ => 0)))
      = some [0, 0, 2, 1, 0, 1, 2] := by decide

/-- the instances run: Int keys 2^32 apart that collide modulo 5 stay two keys (a comparison narrower than 64 bits would merge
    them), `get` finds the second -/
example : ((@run _ Nat intKeyEq cfgNow intKeyHash (fresh cfgNow _ Nat 1)
      [.set 0 0 1, .set 0 (BitVec.ofNat 64 (5 * 2^32)) 2, .len 0, .get 0 (BitVec.ofNat 64 (5 * 2^32))]).toOption.map
        (fun r => r.2.map (fun o => match o with | .nat n => n | .val v => v | _ => 0))) = some [0, 0, 2, 2] := by decide

/-- Float keys are not covered: `eq` on doubles is not an equivalence (NaN equals everything) -/
theorem C02_float_keys_excluded :
    Cello.Hash.floatCmp 0x3ff0000000000000 0x7ff8000000000000 = 0 ∧ Cello.Hash.floatCmp 0x7ff8000000000000 0x4000000000000000 = 0 ∧
    Cello.Hash.floatCmp 0x3ff0000000000000 0x4000000000000000 ≠ 0 := float_eq_not_an_equivalence

/-- **F02's fix as a theorem** (`update_hits_existing`, Lemmas/TableSetMove.lean): under the invariant, `Table_Set_Move` with the strict test
    `j > p`, given a key already stored at slot `p`, reaches `p` before any displacement and before any empty slot and
    replaces that record in place. -/
theorem C02_update_hits_existing {n : Nat} (hash : κ → Nat) (s : Slots κ ν n) (inv : Inv0 hash s) (hn : 0 < n) (k : κ) (v : ν)
    (p : Nat) (hp : p < n) (e : Entry κ ν) (hpe : s[p] = some e) (hk : e.key = k) :
    setLoop false n s ⟨k, hash k % n, v⟩ (hash k % n) 0 (Nat.mod_lt _ hn)
      = some (s.set p (some ⟨k, hash k % n, v⟩) hp, false) :=
  update_hits_existing hash s inv hn k v p hp e hpe hk

/-- **`Table_Rehash` as a fold**: re-inserting every slot in slot order into a fresh array with more slots than items
    preserves the bindings and establishes the invariant (for either tie rule). -/
theorem C02_rehash_preserves (cfg : Cfg) (hash : κ → Nat) (t : Tab κ ν) (m : Spec κ ν) (r : Rep0 hash t m)
    (newSize : Nat) (hbig : t.nitems < newSize) :
    ∃ t', rehash cfg hash t newSize = .ok t' ∧ t'.n = newSize ∧ Rep hash t' m :=
  rehash_rep cfg hash t m r newSize hbig

/-- **`Table_Probe` is the cyclic distance** the model uses (G11: the function text is regenerated from the source):
    for a slot `i < nslots` and a stored hash `h = home + 1` with `home < nslots`. -/
theorem C02_probe_is_dist (n i home : Nat) (_hi : i < n) (hh : home < n) :
    CelloGen.Table.probe (n : Int) (i : Int) ((home : Int) + 1) = ((dist n i home : Nat) : Int) := by
  unfold CelloGen.Table.probe dist
  simp only []
  split <;> split <;> omega

/-- **F02 (repaired in /repo).** With the displacement test `j >= p`, updating a key that is not first in its collision
    cluster stores it twice: after `set 0; set 5; set 0` (0 and 5 collide modulo 5, 5 displaces 0 to the second place of the cluster) `len` is 3, the specification says 2. -/
theorem C02_F02_refuted :
    let bad : Cfg := { cfgNow with ge := true }
    let ops : List (Op Nat Nat) := [.set 0 0 10, .set 0 5 50, .set 0 0 11, .len 0]
    (run bad hid (fresh bad Nat Nat 1) ops).toOption.map (fun r => r.2.getLast?.map (fun o => match o with | .nat n => n | _ => 0))
        = some (some 3) ∧
    (specRun (List.replicate 1 []) ops).2.getLast?.map (fun o => match o with | .nat n => n | _ => 0) = some 2 := by
  decide

/-- **F03 (repaired in /repo).** Without the `nslots is 0` guard in `Table_Set`, `set` after `resize(t, 0)` computes
    `hash % 0`. -/
theorem C02_F03_refuted :
    let bad : Cfg := { cfgNow with growEmpty := false }
    (run bad hid (fresh bad Nat Nat 1) [.resize 0 0, .set 0 1 1]).toOption.isNone = true ∧
    (match run bad hid (fresh bad Nat Nat 1) [.resize 0 0, .set 0 1 1] with | .error .ub => true | _ => false) = true := by
  decide

/-- **Self-assignment (repaired in /repo, a3140e4).** Without the `self is obj` guard `assign(t, t)` empties the table:
    `Table_Assign` clears `self` before it reads `obj`.  The old variant of the model departs from the specification on this
    witness; with the guard that is in the source now the same history keeps its binding. -/
theorem C02_self_assign_refuted :
    let old : Cfg := { cfgNow with selfGuard := false }
    let ops : List (Op Nat Nat) := [.set 0 1 1, .assign 0 0, .len 0]
    (run old hid (fresh old Nat Nat 1) ops).toOption.map (fun r => r.2.getLast?.map (fun o => match o with | .nat n => n | _ => 7))
        = some (some 0) ∧
    (specRun (List.replicate 1 []) ops).2.getLast?.map (fun o => match o with | .nat n => n | _ => 7) = some 1 ∧
    (run cfgNow hid (fresh cfgNow Nat Nat 1) ops).toOption.map (fun r => r.2.getLast?.map (fun o => match o with | .nat n => n | _ => 7))
        = some (some 1) := by
  decide

/-- **The address short cut of `Table_Get` (repaired in /repo, bc940bb; was known finding KF-C02-get-alias).**  The OLD
    `Table_Get` answered any address inside its own slot array with the value of that record.  On the reachable table
    `{1 → 2, 2 → 3}` (Int → Int), `v = get(t, 1)` is an Int object with value 2 that lives in the table; `get(t, v)` answered
    2, the map binds 2 to 3.  Hence `C02_get_any_key_object_statement` fails for the OLD variant `cfgAnyAddress` (and holds for the current
    source: `C02_get_any_key_object`). -/
theorem C02_get_value_pointer_old_refuted : ¬ C02_get_any_key_object_statement cfgAnyAddress := by
  intro h
  obtain ⟨ts', os, h1, _, R⟩ := C02_current_source hid 1 ([.set 0 1 2, .set 0 2 3] : List (Op Nat Nat))
  have hrun : run cfgNow hid (fresh cfgNow Nat Nat 1) ([.set 0 1 2, .set 0 2 3] : List (Op Nat Nat))
      = .ok ([⟨5, #v[none, some ⟨1, 1, 2⟩, some ⟨2, 2, 3⟩, none, none], 2⟩], [.done, .done]) := by rfl
  rw [hrun] at h1
  cases h1
  have r := R.2 0 (by decide) (by decide)
  have := congrArg (fun x => x.toOption.map (fun o => match o with | Obs.val v => v | _ => 0)) (h Nat Nat hid some _ _ r 1)
  revert this
  decide

/-- the same on the model, evaluated: the answer of the OLD code, of the code as it is now, and of the map -/
example :
    (run cfgNow hid (fresh cfgNow Nat Nat 1) [.set 0 1 2, .set 0 2 3]).toOption.map
        (fun r => r.1.map (fun t => ((getViaVal cfgAnyAddress hid some t 1).toOption.map (fun o => match o with | .val v => v | _ => 0),
                                     (getViaVal cfgNow hid some t 1).toOption.map (fun o => match o with | .val v => v | _ => 0))))
      = some [(some 2, some 3)] ∧
    (match Spec.getOfVal some (specRun (List.replicate 1 ([] : Spec Nat Nat)) [.set 0 1 2, .set 0 2 3]).1[0]! 1 with
      | .val w => w | _ => 0) = 3 := by decide

/-- the OLD address test did not look at whether the record is occupied either: an address inside an empty record of a fresh
    table was answered with a pointer to zeroed memory; the current test lets it fall through to the cast, which refuses it -/
theorem C02_get_unoccupied_record_old_refuted :
    (getArg cfgAnyAddress hid some (new cfgNow : Tab Nat Nat) (.inSlot 0 .key)).toOption.map (fun o => match o with | .zeroed => true | _ => false)
      = some true ∧
    (getArg cfgNow hid some (new cfgNow : Tab Nat Nat) (.inSlot 0 .key)).toOption.map (fun o => match o with | .raised .ValueError => true | _ => false)
      = some true := by decide

def slotList (t : Tab Nat Nat) : List (Nat × Nat × Nat × Nat) := slotList' t

/-- A reachable state (hence, by `C02_current_source`, one that satisfies `StRel`/`Rep`) with a collision cluster that wraps
    the end of the array, an update of a non-first cluster member and a removal of the cluster's first member (backward
    shift across the array end): keys 4, 9, 14 all have home slot 4 of 5. -/
example :
    ((run cfgNow hid (fresh cfgNow Nat Nat 1) [.set 0 4 1, .set 0 9 2, .set 0 14 3, .set 0 9 7, .rem 0 4]).toOption.map
        (fun r => (r.1.map (fun t => (t.n, t.nitems, slotList t)), r.2.length))
      == some ([(5, 2, [(0, 4, 14, 3), (4, 4, 9, 7)])], 5)) = true := by
  decide

/-- the hypotheses of `C02_refines_map` are met by the source-derived configuration; a history with self-assignment,
    a constructor with pairs and an assignment from another map runs and agrees with the specification -/
example : GoodCfg cfgNow ∧
    ((run cfgNow hid (fresh cfgNow Nat Nat 2)
        [.newWith 0 [(4, 1), (9, 2), (4, 3)] false, .assign 0 0, .len 0, .get 0 4, .assignMap 1 [(1, 1), (6, 6)], .len 1,
         .newWith 1 [] true, .len 1]).toOption.map
      (fun r => r.2.map (fun o => match o with | .nat n => n | .val v => v | .raised _ => 99 | _ => 0)))
      = some [0, 0, 2, 3, 0, 2, 99, 2] := by
  refine ⟨C02_current_source_good, ?_⟩
  decide

end Cello.Table
