/-
  C08 — type-class dispatch returns exactly what the type declares.

  Property theorems only.  Model: Cello/Dispatch.lean (lookups, `Type_New`, the step machine of one lookup, the heap of
  several type objects), DispatchId.lean (identities, dispatching calls), DispatchShared.lean (the stores of the step
  machine), DispatchMsg.lean (the ClassError texts).  Spec: `declared` = the instance of the first triple with the
  class's name; `specObs` = what each lookup must return as a function of the declaration only.  Source-derived facts:
  CelloGen/Disp.lean.  Lemmas: CelloProofs/Lemmas/Disp*.lean.
-/
import Cello.Dispatch
import CelloGen.Disp
import CelloProofs.Lemmas.Disp
import CelloProofs.Lemmas.DispStep
import CelloProofs.Lemmas.DispConc
import CelloProofs.Lemmas.DispWorld
import CelloProofs.Lemmas.DispSolo
import CelloProofs.Lemmas.DispNew
import CelloProofs.Lemmas.DispHeap
import CelloProofs.Lemmas.DispBorrow
import CelloProofs.Lemmas.DispId
import Cello.DispatchMsg

namespace Cello.Dispatch

/-- the Type_Cache_Entry table of the current source as the model uses it: slot index ↦ class object (library classes
    are the class objects with identity 0 and their declared name) -/
def slotsNow : List (Nat × Cls) := CelloGen.Disp.cacheSlots.map (fun p => (p.1, ⟨0, p.2⟩))

/-- G3/G4: the cache indices of `Type_Instance` are pairwise distinct and inside the `CELLO_CACHE_NUM` cache words, the
    cached classes are pairwise distinct. Two classes wired to one slot, or an index ≥ CELLO_CACHE_NUM, break the build here. -/
theorem C08_cache_table :
    (CelloGen.Disp.cacheSlots.map Prod.fst).Nodup ∧
    (∀ s ∈ CelloGen.Disp.cacheSlots, s.1 < CelloGen.Disp.cacheNum) ∧
    (CelloGen.Disp.cacheSlots.map Prod.snd).Nodup := by decide +kernel

/-- the table is usable by the model: what the lookup theorems assume about it -/
theorem C08_slots_ok : SlotsOK slotsNow CelloGen.Disp.cacheNum := by
  constructor
  · have h : slotsNow.map Prod.fst = CelloGen.Disp.cacheSlots.map Prod.fst := by
      simp [slotsNow, Function.comp_def]
    rw [h]; exact C08_cache_table.1
  · intro s hs
    simp only [slotsNow, List.mem_map] at hs
    obtain ⟨p, hp, rfl⟩ := hs
    exact C08_cache_table.2.1 p hp

/-- G4: layout of a type object as the model assumes it: the static initialiser reserves exactly `CELLO_CACHE_NUM` cache
    words, they are a whole number of `struct Type` cells, and the first instance triple is cell
    `CELLO_CACHE_NUM/3 + 2` (after the cache cells, `__Name` and `__Size`): an off-by-one in `CELLO_NBUILTINS` fails here.
    Last conjunct: the magic number of a live header is not the one `dealloc` poisons a freed header with (which `Type_Of` refuses). -/
theorem C08_layout :
    CelloGen.Disp.cacheHeaderNulls = CelloGen.Disp.cacheNum ∧ CelloGen.Disp.cacheNum % 3 = 0 ∧
    CelloGen.Disp.nBuiltinsDiv = 3 ∧ CelloGen.Disp.nBuiltins = CelloGen.Disp.cacheNum / 3 + 2 ∧
    CelloGen.Disp.magicNum ≠ CelloGen.Disp.deadMagic := by decide

/-- every cached class is a declared type object, and every class used in an `Instance(…)` is a declared type object
    whose struct arity is known (so that the member flags of the matrix are padded to the full struct); no type object is
    declared twice -/
theorem C08_matrix_closed :
    (∀ s ∈ CelloGen.Disp.cacheSlots, CelloGen.Disp.declared.any (fun d => d.1 = s.2) = true) ∧
    (∀ d ∈ CelloGen.Disp.declared, ∀ i ∈ d.2,
        CelloGen.Disp.classArity.any (fun a => a.1 = i.1 && a.2 = i.2.length) = true) ∧
    (CelloGen.Disp.declared.map Prod.fst).Nodup := by decide +kernel

/-- the functions and macros the model mirrors have, in the current source, the text the model was written against -/
theorem C08_source_as_modelled :
    CelloGen.Disp.typeScanSrc = CelloGen.Disp.typeScanSrcModelled ∧
    CelloGen.Disp.cacheEntrySrc = CelloGen.Disp.cacheEntrySrcModelled ∧
    CelloGen.Disp.typeInstanceTailSrc = CelloGen.Disp.typeInstanceTailSrcModelled ∧
    CelloGen.Disp.typeImplementsSrc = CelloGen.Disp.typeImplementsSrcModelled ∧
    CelloGen.Disp.methodAtSrc = CelloGen.Disp.methodAtSrcModelled ∧
    CelloGen.Disp.implementsMethodAtSrc = CelloGen.Disp.implementsMethodAtSrcModelled ∧
    CelloGen.Disp.castSrc = CelloGen.Disp.castSrcModelled ∧
    CelloGen.Disp.typeOfSrc = CelloGen.Disp.typeOfSrcModelled ∧
    CelloGen.Disp.typeNewSrc = CelloGen.Disp.typeNewSrcModelled ∧
    CelloGen.Disp.wrappersSrc = CelloGen.Disp.wrappersSrcModelled ∧
    CelloGen.Disp.celloObjectMacro = CelloGen.Disp.celloObjectMacroModelled ∧
    CelloGen.Disp.instanceMacro = CelloGen.Disp.instanceMacroModelled ∧
    CelloGen.Disp.typeStruct = CelloGen.Disp.typeStructModelled ∧
    CelloGen.Disp.methodMacros = CelloGen.Disp.methodMacrosModelled :=
  ⟨rfl, rfl, rfl, rfl, rfl, rfl, rfl, rfl, rfl, rfl, rfl, rfl, rfl, rfl⟩

/-- **C08 (core, one declaration).** For every Type_Cache_Entry table with distinct in-range indices, every type record `t` — any number
    of triples in any order, duplicate class names, distinct class objects that share a name — in any state that satisfies
    the invariant relative to a declaration `D` (in particular any state reachable from a freshly built record, see
    `C08_fresh_inv`), and every **history** of lookups (`type_instance`/`instance`, `type_implements`/`implements`,
    `type_method`/`method`, `type_implements_method`/`implements_method`, white-box resets) in any order, cold or warm:
    what each lookup returns is `specObs D` — a function of the declaration and the requested class only, not of the
    history — and the invariant (cache word empty or declared instance of its slot's class; memoised class pointer empty
    or a class of the triple's name on the declared triple; the triples still declare `D`) holds again afterwards. -/
theorem C08_lookup_exact_record (slots : List (Nat × Cls)) (n : Nat) (hs : SlotsOK slots n)
    (D : String → Option Inst) (t : TypeRec) (h : Inv D slots n t) (ops : List Op) :
    (runOps slots t ops).2 = ops.map (specObs t.sentinel D) ∧ Inv D slots n (runOps slots t ops).1 :=
  runOps_spec hs ops t h

/-- a freshly built type object — what `Cello(…)`/`CelloEmpty(…)` initialise statically and what `Type_New` builds at run
    time — satisfies the invariant relative to its own triples, and its declaration is "first triple with that name" -/
theorem C08_fresh_inv (slots : List (Nat × Cls)) (n : Nat) (hdr sent : Bool) (es : List (String × Inst)) :
    Inv (declared (mkType n hdr es sent).entries) slots n (mkType n hdr es sent) ∧
    ∀ nm, declared (mkType n hdr es sent).entries nm = (es.find? (fun p => p.1 = nm)).map (·.2) :=
  ⟨mkType_inv slots n hdr sent es, fun nm => declared_mkEntries es nm⟩

/-- **C08 for the code as it is in /repo now**: with the Type_Cache_Entry table and `CELLO_CACHE_NUM` read from the
    current source, every history of lookups on every freshly built type object (static or run-time, 0…∞ instances)
    returns, lookup by lookup, what the first triple with the class's name declares. -/
theorem C08_current_source (hdr sent : Bool) (es : List (String × Inst)) (ops : List Op) :
    (runOps slotsNow (mkType CelloGen.Disp.cacheNum hdr es sent) ops).2 =
      ops.map (specObs sent (fun nm => (es.find? (fun p => p.1 = nm)).map (·.2))) := by
  rw [(runOps_spec C08_slots_ok ops _ (mkType_inv slotsNow CelloGen.Disp.cacheNum hdr sent es)).1, declared_mkType]
  rfl

/-- the layout constants of the current source as the model of `Type_New` uses them -/
def layoutNow : Layout :=
  { cacheNum := CelloGen.Disp.cacheNum, nBuiltins := CelloGen.Disp.nBuiltins, maxInstances := CelloGen.Disp.maxInstances }

/-- G4: in the current source the cache words are whole `struct Type` cells and the instance triples start right after
    the `__Name` and `__Size` cells — what `Type_New`'s index arithmetic (`cache_entries+0/1`, `CELLO_NBUILTINS-2+i`) needs -/
theorem C08_layout_ok : LayoutOK layoutNow := ⟨by decide, by decide⟩

/-- G5: `Type` declares `Instance(New, Type_New, NULL)` — a constructor and NO destructor, so `destruct(T)` leaves every
    word of a type object as it is and `Type_New` alone decides what a re-constructed type object contains — and its own
    `Assign` and `Copy` members (both refuse with ValueError): a type object cannot be overwritten through assign/copy. -/
theorem C08_type_new_is_the_only_writer :
    ((CelloGen.Disp.declared.find? (fun d => d.1 = "Type")).map
        (fun d => (d.2.find? (fun i => i.1 = "New")).map (·.2))) = some (some [true, false]) ∧
    ((CelloGen.Disp.declared.find? (fun d => d.1 = "Type")).map
        (fun d => ((d.2.find? (fun i => i.1 = "Assign")).map (·.2), (d.2.find? (fun i => i.1 = "Copy")).map (·.2))))
      = some (some [true], some [true]) := by decide +kernel

/-- **`Type_New` re-establishes the invariant from ANY previous contents of the storage.** For the layout of the current
    source, every storage `mem` of the size `Type_Alloc` reserves — no hypothesis on its words: zeroes, junk, or the
    warmed cache words, memoised class pointers and triples of a previous incarnation of the type — and every instance
    list of at most CELLO_MAX_INSTANCES: `Type_New` writes word for word the fresh type object of that list (all
    CELLO_CACHE_NUM cache words NULL, `__Name`, `__Size`, the triples in argument order with NULL `cls` words, the NULL
    terminator; the words after the terminator keep their old values), that storage reads back as `mkType … es`, and it
    satisfies the lookup invariant ("each cache word is empty or holds the CURRENT declaration's instance, each memoised
    class pointer is empty or sound") relative to the NEW declaration `declOf es`.  With more instances it raises
    OutOfMemoryError before writing anything. -/
theorem C08_type_new_any_storage (slots : List (Nat × Cls)) (hdr sent : Bool) (mem : List Word) (name : String) (size : Nat)
    (es : List (String × Inst)) (hlen : mem.length = 3 * layoutNow.cells) :
    (es.length ≤ CelloGen.Disp.maxInstances →
      typeNewRaw layoutNow mem name size es =
        ((freshStore layoutNow hdr sent name size es (mem.drop (3 * (layoutNow.nBuiltins + es.length + 1)))).toRaw, .ok ()) ∧
      constructAt layoutNow hdr sent mem name size es =
        (some (freshStore layoutNow hdr sent name size es (mem.drop (3 * (layoutNow.nBuiltins + es.length + 1)))), .ok ()) ∧
      StoreOK layoutNow (declOf es) slots
        (freshStore layoutNow hdr sent name size es (mem.drop (3 * (layoutNow.nBuiltins + es.length + 1))))) ∧
    (CelloGen.Disp.maxInstances < es.length →
      typeNewRaw layoutNow mem name size es = (mem, .raised .OutOfMemoryError)) := by
  have raw := typeNewRaw_spec C08_layout_ok hdr sent mem name size es hlen
  exact ⟨fun hn => ⟨raw.1 hn, (constructAt_spec C08_layout_ok slots hdr sent mem name size es hlen).1 hn⟩, raw.2⟩

/-- a storage reads back (with the indices the C code uses) as exactly the type object whose words it holds: the raw
    level and the record level of the model describe the same object -/
theorem C08_storage_view (s : Store) (hc : s.trec.cache.length = CelloGen.Disp.cacheNum) :
    Store.ofRaw layoutNow s.trec.hdr s.trec.sentinel s.toRaw = some s :=
  ofRaw_toRaw C08_layout_ok s hc

/-- **Re-construction in place** — `destruct(T); construct(T, name, size, instances…)` on a live run-time type object, in
    ANY state of its cache words, memoised class pointers and triples (no invariant is assumed of the old incarnation, only
    the size of the storage): the record becomes `mkType … es` — every cache word empty again, in EVERY slot — and the
    object satisfies the invariant relative to the new declaration; with more than CELLO_MAX_INSTANCES instances
    OutOfMemoryError is raised and the object is unchanged. -/
theorem C08_reconstruct_in_place (slots : List (Nat × Cls)) (s : Store) (name : String) (size : Nat)
    (es : List (String × Inst)) (hlen : s.toRaw.length = 3 * layoutNow.cells) :
    (es.length ≤ CelloGen.Disp.maxInstances →
      (constructIn layoutNow s name size es).2 = .ok () ∧
      (constructIn layoutNow s name size es).1.trec = mkType CelloGen.Disp.cacheNum s.trec.hdr es s.trec.sentinel ∧
      StoreOK layoutNow (declOf es) slots (constructIn layoutNow s name size es).1) ∧
    (CelloGen.Disp.maxInstances < es.length → constructIn layoutNow s name size es = (s, .raised .OutOfMemoryError)) :=
  constructIn_spec C08_layout_ok slots s name size es hlen

/-- **C08 (core, whole life cycle).** For the Type_Cache_Entry table and layout of the current source, every run-time type
    object whose record satisfies the invariant relative to the declaration `D` in force, and every **history** that
    interleaves lookups (`type_instance`/`instance`, `type_implements`/`implements`, `type_method`/`method`,
    `type_implements_method`/`implements_method`, white-box resets) — cold or warm, for classes in every cache slot and for
    uncached classes — with **re-constructions in place** with arbitrary other instance lists (classes added, removed,
    instance pointers changed, order changed, too many instances): every lookup returns `specObs` of the declaration
    CURRENTLY in force (`specLife`: the instance list of the last successful construction), never of an earlier one; a
    construction succeeds exactly when it has at most CELLO_MAX_INSTANCES instances and otherwise changes nothing; and the
    invariant holds at the end relative to the declaration then in force.  (This theorem is about ONE type object whose
    classes are given as values — pointer and name; class objects that are themselves re-constructed, deleted or replaced
    during the history, several type objects, and casts are the subject of `C08_world_history`.) -/
theorem C08_lookup_exact (D : String → Option Inst) (s : Store) (h : StoreOK layoutNow D slotsNow s) (ops : List LOp) :
    (runLife layoutNow slotsNow s ops).2 = specLife CelloGen.Disp.maxInstances s.trec.sentinel D ops ∧
    StoreOK layoutNow (declAfter CelloGen.Disp.maxInstances D ops) slotsNow (runLife layoutNow slotsNow s ops).1 :=
  runLife_spec C08_layout_ok C08_slots_ok ops D s h

/-- the same for any table and layout that satisfy the two side conditions (`SlotsOK`, `LayoutOK`) -/
theorem C08_lookup_exact_any_layout (L : Layout) (hL : LayoutOK L) (slots : List (Nat × Cls)) (hs : SlotsOK slots L.cacheNum)
    (D : String → Option Inst) (s : Store) (h : StoreOK L D slots s) (ops : List LOp) :
    (runLife L slots s ops).2 = specLife L.maxInstances s.trec.sentinel D ops ∧
    StoreOK L (declAfter L.maxInstances D ops) slots (runLife L slots s ops).1 :=
  runLife_spec hL hs ops D s h

/-- a storage as `Type_Alloc` returns it (calloc: all words NULL) -/
def zeroStorage : List Word := List.replicate (3 * layoutNow.cells) Word.null

/-- Non-vacuity of `C08_lookup_exact` / `C08_reconstruct_in_place` and the behaviour that a partial clearing of the cache
    words would break: a type constructed with `Hash = A, Len = B, Show = C, Cmp = D`; `Hash` (slot 6), `Len` (slot 7) looked up —
    the cache words 6 and 7 and two memoised class pointers are now set; re-constructed in place with `Show = C', Hash = A'`:
    all cache words and memo words are empty again, the old fourth triple lies untouched after the new terminator, `Hash` now answers
    `A'`, `Len` is absent (NULL, ClassError), and a 257-instance construction is refused and changes nothing. -/
example :
    let A : Inst := ⟨1, [true]⟩; let B : Inst := ⟨2, [true]⟩; let C : Inst := ⟨3, [true, false]⟩
    let A' : Inst := ⟨11, [true]⟩; let C' : Inst := ⟨13, [false, true]⟩
    let D : Inst := ⟨4, [true]⟩
    let s0 := freshStore layoutNow true false "Foo" 8 [("Hash", A), ("Len", B), ("Show", C), ("Cmp", D)] (zeroStorage.drop (3 * (layoutNow.nBuiltins + 4 + 1)))
    let hash : Cls := ⟨0, "Hash"⟩; let len : Cls := ⟨0, "Len"⟩
    let warm := runLife layoutNow slotsNow s0 [.look (.lookup hash), .look (.methodAt len 0)]
    let r := runLife layoutNow slotsNow warm.1
      [.construct "Foo" 8 [("Show", C'), ("Hash", A')], .look (.lookup hash), .look (.lookup len), .look (.methodAt len 0),
       .construct "Big" 0 (List.replicate 257 ("Cmp", A)), .look (.implements hash)]
    s0.toRaw.length = 3 * layoutNow.cells ∧
    warm.1.trec.cache[6]? = some (some A) ∧ warm.1.trec.cache[7]? = some (some B) ∧
    warm.1.trec.entries.map (·.memo) = [some hash, some len, none, none] ∧
    warm.2 = [.look (.inst (.ok (some A))), .look (.meth (.ok B))] ∧
    r.2 = [.constructed (.ok ()), .look (.inst (.ok (some A'))), .look (.inst (.ok none)), .look (.meth (.raised .ClassError)),
           .constructed (.raised .OutOfMemoryError), .look (.bool (.ok true))] ∧
    r.1.trec.cache[6]? = some (some A') ∧ r.1.trec.cache[7]? = some none ∧
    r.1.trec.entries.map (·.name) = ["Show", "Hash"] ∧ r.1.name = "Foo" ∧
    r.1.rest.take 3 = [Word.null, .str "Cmp", .inst D] := by
  decide +kernel

/-- A `Type_New` that cleared only the first `CELLO_CACHE_NUM/3` cache WORDS (`memset(t, 0, sizeof(var) * cache_entries)`: the
    planted bug of the self-test) instead of `CELLO_CACHE_NUM/3` cells is refuted by the invariant on a warm type object:
    word 6 (`Hash`) keeps the instance of the previous incarnation, which is not what the new instance list declares —
    whereas the model of the code as it is (`constructIn`) empties that word. -/
theorem C08_partial_cache_clear_refuted :
    let A : Inst := ⟨1, [true]⟩; let A' : Inst := ⟨11, [true]⟩
    let s0 := freshStore layoutNow true false "Foo" 8 [("Hash", A)] (zeroStorage.drop (3 * (layoutNow.nBuiltins + 1 + 1)))
    let warm := (runLife layoutNow slotsNow s0 [.look (.lookup ⟨0, "Hash"⟩)]).1
    let partialClear := List.replicate (layoutNow.cacheNum / 3) Word.null ++ warm.toRaw.drop (layoutNow.cacheNum / 3)
    (viewCache (partialClear.take layoutNow.cacheNum)).map (·[6]?) = some (some (some A)) ∧
    declOf [("Hash", A')] "Hash" = some A' ∧ A ≠ A' ∧
    (constructIn layoutNow warm "Foo" 8 [("Hash", A')]).1.trec.cache[6]? = some none := by
  decide +kernel

/-- the record-level `typeNew` (used wherever only the record matters) is the word-level `Type_New` run on the calloc'ed
    storage of `Type_Alloc`, read back as a record: at most `CELLO_MAX_INSTANCES` instances give the fresh record of the
    argument list on both levels, more are refused with OutOfMemoryError on both levels -/
theorem C08_type_new (name : String) (size : Nat) (es : List (String × Inst)) :
    (es.length ≤ CelloGen.Disp.maxInstances →
      typeNew CelloGen.Disp.cacheNum CelloGen.Disp.maxInstances es = .ok (mkType CelloGen.Disp.cacheNum true es) ∧
      (constructAt layoutNow true false zeroStorage name size es).1.map (·.trec) = some (mkType CelloGen.Disp.cacheNum true es)) ∧
    (CelloGen.Disp.maxInstances < es.length →
      typeNew CelloGen.Disp.cacheNum CelloGen.Disp.maxInstances es = .raised .OutOfMemoryError ∧
      (typeNewRaw layoutNow zeroStorage name size es).2 = .raised .OutOfMemoryError) := by
  have hlen : zeroStorage.length = 3 * layoutNow.cells := by simp [zeroStorage]
  have sp := C08_type_new_any_storage slotsNow true false zeroStorage name size es hlen
  constructor
  · intro hn
    refine ⟨?_, ?_⟩
    · unfold typeNew
      rw [if_neg (by omega)]
    · rw [(sp.1 hn).2.1]; rfl
  · intro hn
    refine ⟨?_, ?_⟩
    · unfold typeNew
      rw [if_pos hn]
    · rw [sp.2 hn]

/-- `implements` / `implements_method` agree with `instance` / `method` on every reachable state: the class is
    implemented iff `instance` is non-NULL; the member is implemented iff the method lookup succeeds. -/
theorem C08_implements_agree (slots : List (Nat × Cls)) (n : Nat) (hs : SlotsOK slots n)
    (D : String → Option Inst) (t : TypeRec) (h : Inv D slots n t) (cls : Cls) (k : Nat)
    (hk : ∀ inst, D cls.name = some inst → k < inst.members.length) :
    ((implementsT t cls).2 = true ↔ ∃ inst, (instanceOf slots t cls).2 = .ok (some inst)) ∧
    ((implementsMethodAt t cls k).2 = .ok true ↔ ∃ inst, (methodAt slots t cls k).2 = .ok inst) := by
  rw [methodAt_eq, implementsMethodAt_eq, implementsT, (instanceOf_spec hs h cls).1, (scan_spec hs h cls).1]
  cases hD : D cls.name with
  | none => simp [memberOf, methodOf]
  | some inst =>
    have hlt := hk inst hD
    cases hm : inst.members[k] <;> simp [memberOf, methodOf, memberAt, hlt, hm]

/-- the full statement: a method lookup for an absent class raises ClassError — for every type and class -/
def C08_absent_raises_ClassError_statement : Prop :=
  ∀ (hdr sent : Bool) (es : List (String × Inst)) (cls : Cls) (k : Nat),
    (es.find? (fun p => p.1 = cls.name)) = none →
    (methodAt slotsNow (mkType CelloGen.Disp.cacheNum hdr es sent) cls k).2 = .raised .ClassError

/-- **Refuted** (known finding KF-C08-terminal-message): when the type or the class is the `Terminal` object, that object
    ends the argument tuple of the error message early, the format lacks an argument and `exception_throw` raises
    FormatError in place of ClassError. Witness: `type_method(T, Terminal, m)` for an empty type `T`. -/
theorem C08_absent_raises_ClassError_refuted : ¬ C08_absent_raises_ClassError_statement := by
  intro h
  have := h false false [] terminalCls 0 rfl
  revert this
  decide

/-- **Proved part**: for every type other than `Terminal` and every class other than `Terminal`, in every reachable state,
    for a member offset inside the declared instance's struct (`hk`):
    the method lookup raises ClassError exactly when the class is absent or the member is NULL, and otherwise returns the
    declared instance (nothing is called: the result is the instance, the member is not applied). -/
theorem C08_classerror_partial (slots : List (Nat × Cls)) (n : Nat) (hs : SlotsOK slots n)
    (D : String → Option Inst) (t : TypeRec) (h : Inv D slots n t) (cls : Cls) (k : Nat)
    (hT : t.sentinel = false) (hC : cls ≠ terminalCls)
    (hk : ∀ inst, D cls.name = some inst → k < inst.members.length) :
    ((methodAt slots t cls k).2 = .raised .ClassError ↔
        (D cls.name = none ∨ ∃ inst, D cls.name = some inst ∧ inst.members[k]? = some false)) ∧
    (∀ inst, (methodAt slots t cls k).2 = .ok inst ↔ (D cls.name = some inst ∧ inst.members[k]? = some true)) ∧
    (∀ e, (methodAt slots t cls k).2 = .raised e → e = .ClassError) ∧ (methodAt slots t cls k).2 ≠ .ub := by
  rw [methodAt_eq, (instanceOf_spec hs h cls).1, hT]
  cases hD : D cls.name with
  | none => simp [methodOf, thrown, hC]
  | some inst =>
    have hlt := hk inst hD
    cases hm : inst.members[k] <;> simp [methodOf, memberAt, hlt, hm, thrown, hC]

/-- **cast raises ValueError exactly on a different type** (types without their own `cast` member; neither type is
    `Terminal`): for a well-formed object of type number `tid` in any world whose record of `tid` satisfies the invariant,
    `cast(self, ty)` returns `self` when `ty` is the object's type and raises ValueError otherwise; a type with its own
    non-NULL `cast` member gets that member called instead (`hm`: a declared `Cast` instance has that member word). -/
theorem C08_cast_exact (w : World) (n : Nat) (hs : SlotsOK w.slots n) (D : String → Option Inst)
    (tid ty : Nat) (t : TypeRec) (hget : w.get tid = some t) (h : Inv D w.slots n t) (castCls : Cls)
    (hm : ∀ c, D castCls.name = some c → 0 < c.members.length) :
    (castW castCls w (.obj .good tid) ty).2 =
      (match D castCls.name with
       | some c => if c.members[0]? = some true then Outcome.ok CastRes.custom
                   else if tid = ty then .ok .self
                   else .raised (thrown .ValueError [w.isSentinel tid, w.isSentinel ty])
       | none => if tid = ty then .ok .self
                 else .raised (thrown .ValueError [w.isSentinel tid, w.isSentinel ty])) := by
  rw [castW_obj_eq hs hget h castCls ty]
  cases hD : D castCls.name with
  | none => simp [castOf, isSentinel_of_get hget]
  | some c =>
    have hlt := hm c hD
    cases hc : c.members[0] <;> simp [castOf, memberAt, hlt, hc, isSentinel_of_get hget]

/-- the same known finding seen through `cast`: casting an object to the type `Terminal` (or an object of type `Terminal`
    to anything else) raises FormatError in place of ValueError -/
theorem C08_cast_terminal_refuted :
    let w : World := { slots := slotsNow, theType := 0,
                       types := [(1, mkType CelloGen.Disp.cacheNum false [] true), (2, mkType CelloGen.Disp.cacheNum false [])] }
    (castW ⟨0, "Cast"⟩ w (.obj .good 2) 1).2 = .raised .FormatError ∧
    (castW ⟨0, "Cast"⟩ w (.obj .good 2) 2).2 = .ok .self := by decide

/-- **A well-formed object that is not a type object, used where a type is expected** (`type_instance(obj, cls)`,
    `type_implements(obj, cls)`): `Type_Scan` refuses it with TypeError — but `Type_Instance` reaches `Type_Scan` only for
    classes WITHOUT a cache slot.  For a class with a cache slot it first reads `((var*)self)[i]`, a word of (or past) the
    object's own body, and returns it when it is not NULL: no exception, an arbitrary word as "the instance" — `ub` in the
    model.  The two routes differ for the same misuse; the property's "instead of invoking anything" is about absent
    classes and members of a TYPE, so this is outside its quantifier, and no lookup of that kind is generated
    (`assumptions` of the evidence). -/
theorem C08_bad_self (w : World) (cls : Cls) (tid : Nat) (hne : tid ≠ w.theType) :
    (typeScanW w (.obj .good tid) cls).2 = .raised (thrown .TypeError [w.isSentinel tid]) ∧
    (slotOf w.slots cls = none → (typeInstanceW w (.obj .good tid) cls).2 = .raised (thrown .TypeError [w.isSentinel tid])) ∧
    (slotOf w.slots cls ≠ none → (typeInstanceW w (.obj .good tid) cls).2 = .ub) := by
  have h1 : (typeScanW w (.obj .good tid) cls).2 = .raised (thrown .TypeError [w.isSentinel tid]) := by
    simp [typeScanW, typeOfW, hne]
  refine ⟨h1, ?_, ?_⟩
  · intro hn
    simp only [typeInstanceW, hn]
    exact h1
  · intro hn
    cases hso : slotOf w.slots cls with
    | none => exact absurd hso hn
    | some p => simp only [typeInstanceW, hso]

/-- evaluations of the model's `Type_Of` (not counted as proof obligations): a NULL, freed or foreign `self` is refused
    with ValueError by every object-level lookup and by cast, before any lookup happens -/
example (w : World) (cls castCls : Cls) (tid ty : Nat) :
    (instanceW w .null cls).2 = .raised .ValueError ∧ (castW castCls w .null ty).2 = .raised .ValueError ∧
    (instanceW w (.obj .dead tid) cls).2 = .raised .ValueError ∧ (castW castCls w (.obj .dead tid) ty).2 = .raised .ValueError ∧
    (instanceW w (.obj .bad tid) cls).2 = .raised .ValueError ∧ (castW castCls w (.obj .bad tid) ty).2 = .raised .ValueError ∧
    (implementsW w .null cls).2 = .raised .ValueError ∧ (methodAtW w .null cls 0).2 = .raised .ValueError :=
  ⟨rfl, rfl, rfl, rfl, rfl, rfl, rfl, rfl⟩

/-- Non-vacuity of the third conjunct of `C08_bad_self`, on the table of the current source: `Size` has a cache slot -/
example : slotOf slotsNow ⟨0, "Size"⟩ ≠ none ∧ slotOf slotsNow ⟨0, "Show"⟩ = none := by decide

/-- **NULL as the class argument** (misuse; NULL is not a class, so this is outside "every class" — stated so that
    this file says what the code does).  `Type_Scan(T, NULL)`'s pointer loop matches the first triple whose `cls` word
    is still NULL: on a record with at least one un-memoised triple `type_instance(T, NULL)` returns that triple's
    instance (and `type_implements(T, NULL)` is true) without any exception; the answer moves as lookups memoise
    triples; once every triple is memoised the name loop reads through the NULL pointer (`ub`); an empty type answers
    NULL.  No lookup with a NULL class is generated except the harness probe `E nullcls` on records where the answer is
    defined. -/
theorem C08_null_class (n : Nat) (hdr sent : Bool) (p : String × Inst) (es : List (String × Inst)) :
    (scanNull (mkType n hdr (p :: es) sent)).2 = .ok (some p.2) ∧
    (scanNull (mkType n hdr [] sent)).2 = .ok none ∧
    (∀ t : TypeRec, t.entries ≠ [] → (∀ e ∈ t.entries, e.memo ≠ none) → (scanNull t).2 = .ub) := by
  refine ⟨rfl, rfl, ?_⟩
  intro t hne hall
  unfold scanNull
  have hf : t.entries.find? (fun e => e.memo.isNone) = none := by
    rw [List.find?_eq_none]
    intro e he
    have := hall e he
    cases hm : e.memo with
    | none => exact absurd hm this
    | some c => simp
  simp only [hf]
  cases hes : t.entries with
  | nil => exact absurd hes hne
  | cons e rest => rfl

/-- the answer for a NULL class depends on the history: the same type answers with its first triple when cold, with its
    second triple after the first one was looked up, and reads through NULL once both are memoised -/
example :
    let t := mkType CelloGen.Disp.cacheNum true [("Show", ⟨1, [true]⟩), ("Doc", ⟨2, [true]⟩)]
    let t1 := (scan t ⟨0, "Show"⟩).1
    let t2 := (scan t1 ⟨0, "Doc"⟩).1
    (scanNull t).2 = .ok (some ⟨1, [true]⟩) ∧ (scanNull t1).2 = .ok (some ⟨2, [true]⟩) ∧ (scanNull t2).2 = .ub := by
  decide

/-- **cast of a type object** (`cast(Int, Type)`, `cast(Int, Int)`): `type_of` of a type object is `Type`, the `Cast` lookup
    happens in `Type`'s own record, and the answer is `self` exactly when the requested type is `Type` (ValueError for any
    other, the type's own `cast` member if `Type` had one) — in every world whose records satisfy the invariant. -/
theorem C08_cast_type_object (w : World) (hs : w.slots = slotsNow)
    (hall : ∀ x t, w.get x = some t → Inv (declared t.entries) w.slots CelloGen.Disp.cacheNum t)
    (tid ty : Nat) (t tT : TypeRec) (hget : w.get tid = some t) (hgetT : w.get w.theType = some tT) :
    (castW castClsLib w (.typeObj tid) ty).2 = specCast (declared tT.entries) tT.sentinel (w.isSentinel ty) w.theType ty := by
  have hso : SlotsOK w.slots CelloGen.Disp.cacheNum := by rw [hs]; exact C08_slots_ok
  exact (castW_typeObj_spec hso hget hgetT (hall _ tT hgetT) castClsLib ty).1

/-- **value equality of class values is pointer equality.**  The model writes a class pointer as the value
    "address + `__Name` of the object living there now".  In every heap that satisfies `Coherent` (part of `HeapOK`, preserved
    by `C08_world_history`), for every `cls` word `c` of every record and every class `cls` a reference denotes now:
    `c = cls` (what `scanPtr` tests) holds exactly when the addresses are equal (what `t->cls is cls` tests). -/
theorem C08_ptr_eq_is_value_eq (h : Heap) (hc : Coherent h) (tid : Nat) (t : TypeRec) (hget : h.w.get tid = some t)
    (c : Cls) (hmem : c ∈ memosOf t) (r : CRef) (cls : Cls) (hr : h.resolve r = some cls) : ptrEq c cls ↔ c = cls :=
  ptrEq_iff_eq hc hget hmem hr

/-- the record that the heap-level construction installs at an address is the record the word-level `Type_New` leaves
    there: from ANY words on fresh or re-used storage (`constructAt`), and from the words of the live incarnation when a
    type object is re-constructed in place (`constructIn`) -/
theorem C08_heap_construct_is_type_new (h : Heap) (addr : Nat) (name : String) (size : Nat) (es : List (String × Inst))
    (hn : es.length ≤ CelloGen.Disp.maxInstances) :
    (∀ mem : List Word, mem.length = 3 * layoutNow.cells → h.w.get addr = none →
      ((h.construct layoutNow addr name es).1.w.get addr) = (constructAt layoutNow true false mem name size es).1.map (·.trec)) ∧
    (∀ s : Store, s.toRaw.length = 3 * layoutNow.cells → h.w.get addr = some s.trec →
      ((h.construct layoutNow addr name es).1.w.get addr) = some (constructIn layoutNow s name size es).1.trec) := by
  have hbig : ¬ es.length > layoutNow.maxInstances := by show ¬ es.length > CelloGen.Disp.maxInstances; omega
  constructor
  · intro mem hlen hget
    rw [((C08_type_new_any_storage slotsNow true false mem name size es hlen).1 hn).2.1]
    simp only [Heap.construct, hbig, if_false, hget, get_put_same]
    rfl
  · intro s hlen hget
    rw [((C08_reconstruct_in_place slotsNow s name size es hlen).1 hn).2.1]
    simp only [Heap.construct, hbig, if_false, hget, get_put_same]
    rfl

/-- **C08 over several type objects (histories with class life cycles and casts).**  For the table and layout of the current
    source, every heap of type objects — statically declared ones and run-time ones, any of which may serve as a CLASS of
    others — that satisfies `HeapOK` (every record satisfies the lookup invariant relative to its own declaration; every
    memoised class pointer points at a live class object that still carries the memoised name, or at a dead one), and every
    **history** of: lookups through the four type-level entry points on any type with any class reference (a library class,
    or "the type object at address a", whose name is read WHEN the lookup runs), white-box resets, casts of objects and of
    type objects, constructions of new type objects (on fresh addresses or on the address of a deleted one),
    re-constructions in place (of types and of type objects used as classes), deletions — provided the history is `safe`:
    whenever `Type_New` writes a NAME at an address, every memoised class pointer that holds this address already reads as a
    class of that name (no record memoises the address — never looked up through, or caches reset — or the type object keeps
    its name).  Then every lookup answers `specObs` of the declaration in force for that type and of the class's CURRENT
    name, every cast answers `specCast`, constructions succeed exactly up to CELLO_MAX_INSTANCES, a dead type or class gives
    `ub`; `specHeap` is a function of declarations and names only — not of which lookups happened before.  `HeapOK` holds
    again at the end.  `safe` is executable and is evaluated on the states of the history itself; what happens outside
    it is the known finding KF-C08-class-memo-stale (`C08_memo_stale_refuted`). -/
theorem C08_world_history (h : Heap) (hs : h.w.slots = slotsNow) (hok : HeapOK CelloGen.Disp.cacheNum h) (ops : List HOp)
    (hsafe : Heap.safe layoutNow h ops = true) :
    (Heap.run layoutNow h ops).2 = specHeap CelloGen.Disp.maxInstances h.w.theType h.abs ops ∧
    HeapOK CelloGen.Disp.cacheNum (Heap.run layoutNow h ops).1 := by
  have hso : SlotsOK h.w.slots layoutNow.cacheNum := by rw [hs]; exact C08_slots_ok
  exact Heap.run_spec ops h hso hok hsafe

/-- the full statement: the same without the side condition `safe` -/
def C08_world_history_statement : Prop :=
  ∀ (h : Heap) (ops : List HOp), h.w.slots = slotsNow → HeapOK CelloGen.Disp.cacheNum h →
    (Heap.run layoutNow h ops).2 = specHeap CelloGen.Disp.maxInstances h.w.theType h.abs ops

/-- witness heap of the known finding: `Type` (address 0), a type `T` (address 1) that declares one instance for the class
    object `K` (address 2, named `Foo`, itself a run-time type object) -/
def staleHeap : Heap :=
  { w := { slots := slotsNow, theType := 0,
           types := [(0, mkType CelloGen.Disp.cacheNum false []), (1, mkType CelloGen.Disp.cacheNum true [("Foo", ⟨7, [true]⟩)]),
                     (2, mkType CelloGen.Disp.cacheNum true [])] },
    names := [(1, "T"), (2, "Foo")] }

/-- **Refuted** (known finding KF-C08-class-memo-stale).  `Type_Scan` memoises the ADDRESS of a class object and later
    answers by address alone; a run-time type object used as a class can be given another name in place (`Type` has no
    destructor, `Type_New` rewrites `__Name`), or be deleted and its address handed out to another type object.  Witnesses on
    the model that mirrors the code (and on the real library: corpus/kf_c08_class_renamed.ops):
    (1) `type_instance(T, K)` (memoised), `destruct(K); construct(K, "Bar")`, `type_instance(T, K)`: still the `Foo` instance,
    although `T` declares nothing for a class named `Bar` — and the same lookup on the same declaration answers NULL when no
    lookup came before;  (2) the same with `del(K)` and a new type object named `Beta` on `K`'s address. -/
theorem C08_memo_stale_refuted : ¬ C08_world_history_statement := by
  intro hst
  have hok : HeapOK CelloGen.Disp.cacheNum staleHeap := heapOK_of_okb (by decide +kernel)
  have := hst staleHeap [.look 1 .inst (.rt 2), .construct 2 "Bar" [], .look 1 .inst (.rt 2)] rfl hok
  revert this
  decide +kernel

/-- what the model (= the code) answers on the two witnesses, next to what the declaration says; the rename is exactly the
    step at which `safe` fails; the cold lookup after the same rename is right -/
example :
    let ins : Inst := ⟨7, [true]⟩
    let rename : List HOp := [.look 1 .inst (.rt 2), .construct 2 "Bar" [], .look 1 .inst (.rt 2), .look 1 .impl (.rt 2)]
    let aba : List HOp := [.look 1 .impl (.rt 2), .delete 2, .construct 2 "Beta" [("Show", ⟨9, [true]⟩)], .look 1 (.meth 0) (.rt 2)]
    let cold : List HOp := [.construct 2 "Bar" [], .look 1 .inst (.rt 2)]
    (Heap.run layoutNow staleHeap rename).2 =
      [.look (.inst (.ok (some ins))), .constructed (.ok ()), .look (.inst (.ok (some ins))), .look (.bool (.ok true))] ∧
    specHeap CelloGen.Disp.maxInstances 0 staleHeap.abs rename =
      [.look (.inst (.ok (some ins))), .constructed (.ok ()), .look (.inst (.ok none)), .look (.bool (.ok false))] ∧
    (Heap.run layoutNow staleHeap aba).2 = [.look (.bool (.ok true)), .unit, .constructed (.ok ()), .look (.meth (.ok ins))] ∧
    specHeap CelloGen.Disp.maxInstances 0 staleHeap.abs aba =
      [.look (.bool (.ok true)), .unit, .constructed (.ok ()), .look (.meth (.raised .ClassError))] ∧
    Heap.safe layoutNow staleHeap rename = false ∧ Heap.safe layoutNow staleHeap aba = false ∧
    Heap.safe layoutNow staleHeap cold = true ∧
    (Heap.run layoutNow staleHeap cold).2 = [.constructed (.ok ()), .look (.inst (.ok none))] := by
  decide +kernel

/-- **`safe` is needed only until the heap satisfies its invariant again.**  `Heap.safe` speaks at the step that WRITES a name
    (it fails as soon as some record memoises the address under another name), although a stale answer needs a LOOKUP that
    meets the stale word.  This theorem covers the histories in between: after ANY prefix — safe or not: a class object
    renamed while memoised, deleted and replaced — once the heap satisfies the executable invariant `okb` again (the
    memoising records were reset or re-constructed: decidable, evaluated on the state the prefix itself produces), every
    later operation of a `safe` rest is answered by `specHeap` of the declarations and names then in force.  What stays outside:
    a lookup on a heap in which some OTHER `cls` word (one this lookup does not meet) is stale; the code answers it
    correctly, the statement that covers it needs the invariant without the name clause of the memo words plus a side
    condition on the looked-up record only (not proved here). -/
theorem C08_world_history_resumes (h : Heap) (pre rest : List HOp)
    (hs : (Heap.run layoutNow h pre).1.w.slots = slotsNow)
    (hmid : (Heap.run layoutNow h pre).1.okb CelloGen.Disp.cacheNum = true)
    (hsafe : Heap.safe layoutNow (Heap.run layoutNow h pre).1 rest = true) :
    (Heap.run layoutNow h (pre ++ rest)).2 = (Heap.run layoutNow h pre).2 ++
      specHeap CelloGen.Disp.maxInstances (Heap.run layoutNow h pre).1.w.theType (Heap.run layoutNow h pre).1.abs rest ∧
    HeapOK CelloGen.Disp.cacheNum (Heap.run layoutNow h (pre ++ rest)).1 := by
  have hw := C08_world_history (Heap.run layoutNow h pre).1 hs (heapOK_of_okb hmid) rest hsafe
  rw [Heap.run_append]
  exact ⟨by rw [hw.1], hw.2⟩

/-- a history between the two theorems — the class object `K` renamed while `T` memoises it, THEN `T` reset, then the lookup:
    `Heap.safe` rejects it at the rename, `C08_world_history_resumes` covers it (the invariant holds again after the
    reset), and the lookup answers NULL as the declaration says -/
example :
    let pre : List HOp := [.look 1 .inst (.rt 2), .construct 2 "Bar" [], .reset 1]
    let rest : List HOp := [.look 1 .inst (.rt 2), .look 1 .impl (.rt 2), .look 1 .inst (.lib "Foo")]
    Heap.safe layoutNow staleHeap (pre ++ rest) = false ∧
    (Heap.run layoutNow staleHeap (pre.take 2)).1.okb CelloGen.Disp.cacheNum = false ∧
    (Heap.run layoutNow staleHeap pre).1.okb CelloGen.Disp.cacheNum = true ∧
    (Heap.run layoutNow staleHeap pre).1.w.slots = slotsNow ∧
    Heap.safe layoutNow (Heap.run layoutNow staleHeap pre).1 rest = true ∧
    (Heap.run layoutNow staleHeap (pre ++ rest)).2.drop 3 =
      [.look (.inst (.ok none)), .look (.bool (.ok false)), .look (.inst (.ok (some ⟨7, [true]⟩)))] := by
  decide +kernel

/-- Non-vacuity of `C08_world_history`: a `safe` history on the same heap that re-constructs the memoised class object `K`
    under its OLD name (harmless), renames it after a white-box reset of `T` (harmless: no record memoises it), deletes it
    and builds another type object on its address, re-constructs `T` itself with an instance for that new class, looks
    classes up through dead references, and casts objects and type objects — all answered by `specHeap`. -/
example :
    let ins : Inst := ⟨7, [true]⟩
    let ops : List HOp :=
      [.look 1 .inst (.rt 2), .construct 2 "Foo" [("Cmp", ⟨8, [true]⟩)], .look 1 (.meth 0) (.rt 2), .look 2 .impl (.lib "Cmp"),
       .reset 1, .construct 2 "Bar" [], .look 1 .inst (.rt 2), .look 1 .inst (.lib "Foo"),
       .delete 2, .look 1 .inst (.rt 2), .construct 2 "Beta" [], .look 1 .impl (.rt 2),
       .construct 1 "T" [("Beta", ⟨9, [false]⟩), ("Cast", ⟨10, [false]⟩)], .look 1 (.meth 0) (.rt 2), .look 1 .inst (.rt 2),
       .cast 1 1, .cast 1 2, .castType 1 0, .castType 2 1, .construct 5 "Big" (List.replicate 257 ("Cmp", ins)), .look 5 .inst (.lib "Cmp")]
    staleHeap.okb CelloGen.Disp.cacheNum = true ∧ Heap.safe layoutNow staleHeap ops = true ∧
    (Heap.run layoutNow staleHeap ops).2 =
      [.look (.inst (.ok (some ins))), .constructed (.ok ()), .look (.meth (.ok ins)), .look (.bool (.ok true)),
       .unit, .constructed (.ok ()), .look (.inst (.ok none)), .look (.inst (.ok (some ins))),
       .unit, .ub, .constructed (.ok ()), .look (.bool (.ok false)),
       .constructed (.ok ()), .look (.meth (.raised .ClassError)), .look (.inst (.ok (some ⟨9, [false]⟩))),
       .cast (.ok .self), .cast (.raised .ValueError), .cast (.ok .self), .cast (.raised .ValueError),
       .constructed (.raised .OutOfMemoryError), .ub] ∧
    (Heap.run layoutNow staleHeap ops).1.okb CelloGen.Disp.cacheNum = true := by
  decide +kernel

/-- every library function of src/*.c that dispatches on its receiver — written with `method(self, C, M, …)`, or starting
    `struct C* c = instance(self, C); if (c and c->M) …` — names a class struct of include/Cello.h and a member inside it (the
    member index is the position of `M` in `struct C`, i.e. `offsetof(struct C, M) / sizeof(var)`); these are the functions
    the harness calls on objects of run-time types (ops `c`, `d`, `f`, `g`) -/
theorem C08_dispatch_sites :
    (∀ s ∈ CelloGen.Disp.methodSites ++ CelloGen.Disp.instanceSites,
      CelloGen.Disp.classArity.any (fun a => a.1 = s.2.1 && s.2.2.2 < a.2) = true) ∧
    20 ≤ CelloGen.Disp.methodSites.length := by decide +kernel

/-- **A dispatching call invokes exactly what the receiver's type declares.**  For every world, every type object whose record
    satisfies the invariant relative to a declaration `D`, and every use of it — the four lookups, a call of a library function
    written with `method(self, C, M, …)` on an object of the type (`.call false k`), of one written with
    `instance(self, C)` + member test (`.call true k`), `type_method(T, C, M, …)` (`.typeCall k`): the answer is `specUse`, a
    function of `D` — member `k` of the declared instance is invoked; ClassError (nothing invoked) when a hard call finds no
    instance or a NULL member; the default code when a soft one does. -/
theorem C08_call_exact (w : World) (hs : w.slots = slotsNow) (a : Nat) (t : TypeRec) (hget : w.get a = some t)
    (D : String → Option Inst) (hinv : Inv D w.slots CelloGen.Disp.cacheNum t) (way : Way) (cls : Cls) :
    (useW w a way cls).2 = specUse t.sentinel D way cls := by
  have hso : SlotsOK w.slots CelloGen.Disp.cacheNum := by rw [hs]; exact C08_slots_ok
  exact useW_spec hso hget hinv way cls

/-- **History independence (type objects named by identity, any address assignment).**  For the table and layout of the
    current source, every heap of type objects named by ids that satisfies `AOK` (the heap invariant; no `cls` word holds the
    address of a run-time type object; ids name live type objects, one each), and every **history** of
    creations of run-time type objects at ANY address the allocator answers — a new one, or one at which any number of type
    objects lived and died before (`allocOK`: only never a live one) —, deletions, white-box resets, and uses (the four
    lookups, hard and soft dispatching calls on objects, `type_method`) with library classes:
    the observations are `specIds` of the history WITH THE ADDRESSES ERASED — every use of a live type object is answered
    from the instance list that very object was created with (`declOf es`: first triple with the class's name), a use of a
    deleted one is `ub`, whatever lived at its address before, whatever was looked up on the previous occupant, whichever
    cache words and memoised class pointers the previous occupant had warmed: `Type_Alloc`'s calloc and `Type_New` leave
    none of it (`C08_type_new_any_storage`), and nothing outside the type object remembers a type by its address. -/
theorem C08_history_independent (x : AHeap) (hs : x.h.w.slots = slotsNow) (hok : AOK CelloGen.Disp.cacheNum x)
    (ops : List AOp) (hal : x.allocOK layoutNow ops = true) :
    (AHeap.run layoutNow x ops).2 = specIds CelloGen.Disp.maxInstances x.decls (ops.map AOp.erase) ∧
    AOK CelloGen.Disp.cacheNum (AHeap.run layoutNow x ops).1 := by
  have hso : SlotsOK x.h.w.slots layoutNow.cacheNum := by rw [hs]; exact C08_slots_ok
  exact AHeap.run_spec ops x hso hok hal

/-- **The address assignment is irrelevant**: two histories that differ only in the addresses the allocator answered (same
    creations, deletions and uses of the same ids), run on heaps whose ids name type objects with the same declarations,
    produce the same observations. -/
theorem C08_address_assignment_irrelevant (x y : AHeap) (hsx : x.h.w.slots = slotsNow) (hsy : y.h.w.slots = slotsNow)
    (hx : AOK CelloGen.Disp.cacheNum x) (hy : AOK CelloGen.Disp.cacheNum y) (hd : x.decls = y.decls)
    (ops ops' : List AOp) (he : ops.map AOp.erase = ops'.map AOp.erase)
    (hax : x.allocOK layoutNow ops = true) (hay : y.allocOK layoutNow ops' = true) :
    (AHeap.run layoutNow x ops).2 = (AHeap.run layoutNow y ops').2 := by
  rw [(C08_history_independent x hsx hx ops hax).1, (C08_history_independent y hsy hy ops' hay).1, hd, he]

/-- the C-level identity of a type object is its address AND its generation: a successful creation at `addr` names the
    type object `⟨addr, g⟩` where `g` type objects were constructed at `addr` before, and the count goes up — the next
    occupant of the same address is another identity -/
theorem C08_identity_is_address_and_generation (x : AHeap) (id addr : Nat) (name : String) (es : List (String × Inst))
    (h : (x.step layoutNow (.create id addr name es)).2 = .constructed (.ok ())) :
    (x.step layoutNow (.create id addr name es)).1.ident id = some ⟨addr, x.genAt addr⟩ ∧
    (x.step layoutNow (.create id addr name es)).1.genAt addr = x.genAt addr + 1 := by
  by_cases hc : ((x.addrOf id).isSome || (x.h.w.get addr).isSome) = true
  · simp [AHeap.step, hc] at h
  · cases hr : (x.h.construct layoutNow addr name es).2 with
    | ok u =>
      have hstep : x.step layoutNow (.create id addr name es) =
          ({ h := (x.h.construct layoutNow addr name es).1, loc := (id, addr) :: x.loc, gen := x.bump addr },
           .constructed (.ok ())) := by
        simp only [AHeap.step, hc, hr, Bool.false_eq_true, if_false]
      rw [hstep]
      simp [AHeap.ident, AHeap.addrOf, AHeap.genAt, AHeap.bump]
    | raised e => simp [AHeap.step, hc, hr] at h
    | ub => simp [AHeap.step, hc, hr] at h

/-- witness heap: `Type` (id 0 at address 0) alone -/
def idHeap : AHeap :=
  { h := { w := { slots := slotsNow, theType := 0, types := [(0, mkType CelloGen.Disp.cacheNum false [])] }, names := [] },
    loc := [(0, 0)], gen := [(0, 1)] }

/-- Non-vacuity of `C08_history_independent`, and the history of the seeded inline cache on the model of the code as it is:
    `Alpha` (id 1) is created at address 7 with `Call = A`, `Len = L1`; `call_with` (hard, uncached class), `len` (hard, cached
    class: the cache word and the memoised class pointer of the OCCUPANT are warmed), a soft `hash` (absent: default code) are
    called on an `Alpha` object; `Alpha` is deleted; `Beta` (id 2) is created AT THE SAME ADDRESS with another `Call` instance
    and a `Len` instance whose member is NULL; `Gamma` (id 3), after `Beta` is deleted, again at address 7 with nothing: the same
    calls answer `B`, ClassError, ClassError — and `Alpha`, used after its deletion, is `ub`.  The generation of address 7 is 3. -/
example :
    let A : Inst := ⟨1, [true]⟩; let L1 : Inst := ⟨2, [true]⟩; let B : Inst := ⟨3, [true]⟩; let L2 : Inst := ⟨4, [false]⟩
    let ops : List AOp :=
      [.create 1 7 "Alpha" [("Call", A), ("Len", L1)], .use 1 (.call false 0) "Call", .use 1 (.call false 0) "Len",
       .use 1 (.call true 0) "Hash", .use 1 (.look .inst) "Len", .delete 1,
       .create 2 7 "Beta" [("Call", B), ("Len", L2)], .use 2 (.call false 0) "Call", .use 2 (.call false 0) "Len",
       .use 2 (.typeCall 0) "Call", .use 1 (.call false 0) "Call", .delete 2,
       .create 3 7 "Gamma" [], .use 3 (.call false 0) "Call", .use 3 (.look (.implMeth 0)) "Len", .use 3 (.look .inst) "Len"]
    idHeap.okb CelloGen.Disp.cacheNum = true ∧ idHeap.allocOK layoutNow ops = true ∧
    (AHeap.run layoutNow idHeap ops).2 =
      [.constructed (.ok ()), .call (.ok (.invoked A 0)), .call (.ok (.invoked L1 0)), .call (.ok .fallback),
       .look (.inst (.ok (some L1))), .unit,
       .constructed (.ok ()), .call (.ok (.invoked B 0)), .call (.raised .ClassError), .call (.ok (.invoked B 0)), .ub, .unit,
       .constructed (.ok ()), .call (.raised .ClassError), .look (.bool (.ok false)), .look (.inst (.ok none))] ∧
    (AHeap.run layoutNow idHeap ops).1.ident 3 = some ⟨7, 2⟩ ∧ (AHeap.run layoutNow idHeap ops).1.genAt 7 = 3 := by
  decide +kernel

/-- what the theorem needs of the initial heap is decidable: `AHeap.okb` implies `AOK` -/
example : AOK CelloGen.Disp.cacheNum idHeap := aok_of_okb (by decide +kernel)

/-- the full statement for a VARIANT of the code in which a call site (or a lookup function) remembers, under the ADDRESS of the
    receiver's type, the instance it found last time (`MemoHeap`: an inline cache in the `method` macro, a "last lookup" memo
    in `Type_Instance`): every hard call made at a call site answers what the address-free spec says -/
def C08_address_keyed_memo_statement : Prop :=
  ∀ (ops : List MOp), idHeap.allocOK layoutNow (ops.map MOp.plain) = true →
    (MemoHeap.run layoutNow { x := idHeap, memo := [] } ops).2 =
      specIds CelloGen.Disp.maxInstances idHeap.decls (ops.map (fun o => o.plain.erase))

/-- **Refuted** — such a memo is not the code (the `method` macro keeps no state, `C08_source_as_modelled`; `Type_Instance` keeps
    its memo inside the type object, which dies with it), and it cannot be: an address does not identify a type object.
    `Alpha` with `Call = A` at address 7, `call_with` at call site 0, `Alpha` deleted, `Beta` with `Call = B` created at address 7,
    `call_with` at call site 0 on a `Beta` object: `A` — the member of a type object that no longer exists — is invoked;
    with `Gamma`, which declares no `Call`, ClassError is not raised.  The same erased history with `Beta` at address 8 is
    answered correctly, so the observations depend on the allocator. -/
theorem C08_address_keyed_memo_refuted : ¬ C08_address_keyed_memo_statement := by
  intro hst
  have := hst [.op (.create 1 7 "Alpha" [("Call", ⟨1, [true]⟩)]), .callAt 0 1 "Call" 0, .op (.delete 1),
               .op (.create 2 7 "Beta" [("Call", ⟨3, [true]⟩)]), .callAt 0 2 "Call" 0] (by decide +kernel)
  revert this
  decide +kernel

/-- what the variant answers on the two witnesses, next to the same histories with the second type object at another
    address (answered correctly), and the model of the code as it is on the same histories -/
example :
    let A : Inst := ⟨1, [true]⟩; let B : Inst := ⟨3, [true]⟩
    let pre : List MOp := [.op (.create 1 7 "Alpha" [("Call", A)]), .callAt 0 1 "Call" 0, .op (.delete 1)]
    let m0 : MemoHeap := { x := idHeap, memo := [] }
    (MemoHeap.run layoutNow m0 (pre ++ [.op (.create 2 7 "Beta" [("Call", B)]), .callAt 0 2 "Call" 0])).2.drop 3 =
      [.constructed (.ok ()), .call (.ok (.invoked A 0))] ∧
    (MemoHeap.run layoutNow m0 (pre ++ [.op (.create 2 8 "Beta" [("Call", B)]), .callAt 0 2 "Call" 0])).2.drop 3 =
      [.constructed (.ok ()), .call (.ok (.invoked B 0))] ∧
    (MemoHeap.run layoutNow m0 (pre ++ [.op (.create 2 7 "Gamma" []), .callAt 0 2 "Call" 0])).2.drop 3 =
      [.constructed (.ok ()), .call (.ok (.invoked A 0))] ∧
    (AHeap.run layoutNow idHeap ((pre ++ [MOp.op (.create 2 7 "Gamma" []), MOp.callAt 0 2 "Call" 0]).map MOp.plain)).2.drop 3 =
      [.constructed (.ok ()), .call (.raised .ClassError)] := by
  decide +kernel

/-- the full statement: every lookup of a history over type objects answers from the declarations as they were GIVEN to
    `Type_New` — type names and class names as the TEXTS they were when the construction ran (`XHeap.values`) — whatever the
    caller does to its own strings afterwards (`XOp.scribble`: a write into a buffer that was once passed as `$S(buf)`) -/
def C08_names_are_texts_statement : Prop :=
  ∀ (x : XHeap) (xs : List XOp), x.h.w.slots = slotsNow → HeapOK CelloGen.Disp.cacheNum x.h →
    Heap.safe layoutNow x.h (x.values layoutNow xs) = true →
    (XHeap.run layoutNow x xs).2 = specHeap CelloGen.Disp.maxInstances x.h.w.theType x.h.abs (x.values layoutNow xs)

/-- witness of the known finding: `Type` alone; the caller's buffer 1 holds "Alpha"; `T` (address 2) is constructed with
    `$S(buf)` as its name, `K2` (address 3) with the literal "Alpha", `U` (address 1) with one instance whose class object is
    `T`; a lookup of `K2` on `U`, a white-box reset of `U`; then the caller writes "Beta" into its buffer and the same two
    lookups (`K2`, `T`) are made again — no function of the library was called on `T`, `K2` or `U` in between -/
def borrowHeap : XHeap :=
  XHeap.ofHeap { w := { slots := slotsNow, theType := 0, types := [(0, mkType CelloGen.Disp.cacheNum false [])] }, names := [] }

def borrowOps : List XOp :=
  [.scribble 1 "Alpha", .construct 2 (.buf 1) [], .construct 3 (.lit "Alpha") [], .construct 1 (.lit "U") [(.rt 2, ⟨7, [true]⟩)],
   .op (.look 1 .inst (.rt 3)), .op (.reset 1), .scribble 1 "Beta",
   .op (.look 1 .inst (.rt 3)), .op (.look 1 .inst (.rt 2)), .op (.look 1 .impl (.lib "Beta"))]

/-- **Refuted** (known finding KF-C08-borrowed-name).  `Type_New` stores the `char*` inside the caller's String object as the
    type's `__Name` and copies the class's `__Name` word into every triple: a run-time type owns neither its name nor the
    class names of its triples.  On the model that mirrors the code (and on the real library: corpus/kf_c08_borrowed_name.ops)
    after the caller's `strcpy(buf, "Beta")` the type `U`, which was given an instance for the class named `Alpha`, answers
    NULL for the class object `K2` named `Alpha` and implements a class named `Beta`. -/
theorem C08_borrowed_name_refuted : ¬ C08_names_are_texts_statement := by
  intro hst
  have hok : HeapOK CelloGen.Disp.cacheNum borrowHeap.h := heapOK_of_okb (by decide +kernel)
  have := hst borrowHeap borrowOps rfl hok (by decide +kernel)
  revert this
  decide +kernel

/-- what the model (= the code) answers on the witness next to what the texts given to `Type_New` declare; `quiet` fails
    exactly at the second write (the first one hits a buffer nothing points into yet), and the same history without it is
    `quiet` and answered by the value-level spec -/
example :
    let ins : Inst := ⟨7, [true]⟩
    (XHeap.run layoutNow borrowHeap borrowOps).2 =
      [.constructed (.ok ()), .constructed (.ok ()), .constructed (.ok ()), .look (.inst (.ok (some ins))), .unit,
       .look (.inst (.ok none)), .look (.inst (.ok (some ins))), .look (.bool (.ok true))] ∧
    specHeap CelloGen.Disp.maxInstances 0 borrowHeap.h.abs (borrowHeap.values layoutNow borrowOps) =
      [.constructed (.ok ()), .constructed (.ok ()), .constructed (.ok ()), .look (.inst (.ok (some ins))), .unit,
       .look (.inst (.ok (some ins))), .look (.inst (.ok (some ins))), .look (.bool (.ok false))] ∧
    (XHeap.run layoutNow borrowHeap borrowOps).1.h.nameAt 2 = some "Beta" ∧
    borrowHeap.quiet layoutNow borrowOps = false ∧ borrowHeap.quiet layoutNow (borrowOps.take 6) = true ∧
    borrowHeap.quiet layoutNow (borrowOps.take 6 ++ [.scribble 9 "Beta"] ++ borrowOps.drop 7) = true := by
  decide +kernel

/-- **Proved part: names are texts as long as the caller leaves the borrowed buffers alone.**  For every heap of type objects
    with the provenance of its name words (`XHeap`: which caller's buffer a `__Name` cell and a triple's name word point
    into) and every history of `HOp` operations, pointer-level constructions (`Type_New` with `$S(buf)` or a literal as the
    name and instances given by their class OBJECTS, whose `__Name` word the triple copies) and caller's writes into
    buffers that is `quiet` — a write hits only a buffer that no `__Name` cell and no triple name word points into (decidable,
    evaluated on the states of the history itself) — every operation answers what the value-level history `values` (each
    construction with the texts it saw when it ran) answers in `C08_world_history`: `specHeap`, a function of declarations
    and names.  Everything in this file that treats names as texts is therefore about the code under exactly this
    hypothesis. -/
theorem C08_names_are_texts_partial (x : XHeap) (xs : List XOp) (hs : x.h.w.slots = slotsNow)
    (hok : HeapOK CelloGen.Disp.cacheNum x.h) (hq : x.quiet layoutNow xs = true)
    (hsafe : Heap.safe layoutNow x.h (x.values layoutNow xs) = true) :
    (XHeap.run layoutNow x xs).2 = specHeap CelloGen.Disp.maxInstances x.h.w.theType x.h.abs (x.values layoutNow xs) ∧
    HeapOK CelloGen.Disp.cacheNum (XHeap.run layoutNow x xs).1.h := by
  have hr := XHeap.run_quiet layoutNow xs x hq
  have hw := C08_world_history x.h hs hok (x.values layoutNow xs) hsafe
  rw [hr.1, hr.2]
  exact hw

/-- **C08 (concurrent).** Any number of threads, each with any program of lookups (`Type_Instance` through the cache or
    `Type_Scan` directly), started on a shared type object in any state that satisfies the invariant, under **every**
    schedule (any interleaving of their atomic word reads and writes; word-atomic loads and stores assumed):
    every result any thread has obtained is the declared instance of the class it asked for, no thread ever accesses a
    word outside the object, the shared object satisfies the invariant at the end (hence at every prefix) and still
    declares `D`. -/
theorem C08_concurrent (slots : List (Nat × Cls)) (n : Nat) (hs : SlotsOK slots n)
    (D : String → Option Inst) (t : TypeRec) (h : Inv D slots n t)
    (progs : List (List (Bool × Cls))) (sched : List Nat) :
    let s := runSched slots { shared := t, threads := progs.map Thread.new } sched
    Inv D slots n s.shared ∧ (∀ nm, declared s.shared.entries nm = D nm) ∧
    s.threads.length = progs.length ∧
    ∀ th ∈ s.threads, (∀ p ∈ th.log, p.2 = D p.1.name) ∧ th.pc ≠ some .stuck := by
  have sp := runSched_spec hs sched _ (sysOK_new h progs)
  refine ⟨sp.1.1, sp.1.1.decl, by simpa using sp.2.2, ?_⟩
  intro th hth
  have ht := sp.1.2 th hth
  refine ⟨ht.2, ?_⟩
  intro hst
  exact ht.1 _ hst

/-- **Completion.** If the schedule gives every thread at least `2·m + 10` steps per lookup of its program, `m` the number
    of triples of the record (`thMeasure`: one to start it, `2·m + 8` to run it, one to log it), in any order and
    interleaved with the others in any way, then at the end every thread has completed all its lookups — and, by
    `C08_concurrent`, every result is the declared instance. No lookup can be delayed or starved by the other threads. -/
theorem C08_concurrent_complete (slots : List (Nat × Cls)) (n : Nat) (hs : SlotsOK slots n)
    (D : String → Option Inst) (t : TypeRec) (h : Inv D slots n t)
    (progs : List (List (Bool × Cls))) (sched : List Nat)
    (hfair : ∀ tid p, progs[tid]? = some p → p.length * (2 * t.entries.length + 10) ≤ sched.count tid) :
    let s := runSched slots { shared := t, threads := progs.map Thread.new } sched
    ∀ th ∈ s.threads, th.finished = true ∧ ∀ p ∈ th.log, p.2 = D p.1.name := by
  intro s th hth
  have hc := C08_concurrent slots n hs D t h progs sched
  refine ⟨?_, (hc.2.2.2 th hth).1⟩
  obtain ⟨tid, htid⟩ := List.getElem?_of_mem hth
  have hlt : tid < progs.length := hc.2.2.1 ▸ (List.getElem?_eq_some_iff.mp htid).1
  have hinit : (progs.map Thread.new)[tid]? = some (Thread.new progs[tid]) := by simp [hlt]
  have hmeas : thMeasure t.entries.length (Thread.new progs[tid]) ≤ sched.count tid := by
    simpa [thMeasure, Thread.new] using hfair tid progs[tid] (List.getElem?_eq_getElem hlt)
  obtain ⟨th', hth', hfin⟩ := sched_progress hs sched _ (sysOK_new h progs) rfl tid _ hinit hmeas
  rw [Option.some.inj (htid.symm.trans hth')]
  exact hfin

/-- **Wait-freedom.** Each atomic step of a lookup strictly decreases a measure that depends only on the thread's own
    state and the number of triples, whatever the shared object contains: a lookup on a record of `m` triples finishes
    within `2·m + 8` of its own steps regardless of what the other threads do. -/
theorem C08_wait_free (slots : List (Nat × Cls)) (t : TypeRec) (pc : PC)
    (hnd : ∀ c v, pc ≠ .done c v) (hns : pc ≠ .stuck) :
    pcMeasure t.entries.length (step slots t pc).2 < pcMeasure t.entries.length pc ∧
    pcMeasure t.entries.length pc ≤ soloFuel t.entries.length ∧
    (step slots t pc).1.entries.length = t.entries.length :=
  ⟨step_measure slots t pc hnd hns, pcMeasure_le_soloFuel _ pc, step_length slots t pc⟩

/-- **The type-level entry points run the record-level functions on the type's record and store the record back**:
    `type_instance` is `instanceOf`, `type_implements` is `scan`, `type_method` is `methodAt`, `type_implements_method` is
    `implementsMethodAt` — result, new record of the type, and the worlds related by `WStep`: same type objects, each
    related by a record-level step that keeps the invariant (`lookW_eq`: the other records are untouched).  The
    object-level entry points are these on `type_of(self)` (next `example`), so `C08_lookup_exact`,
    `C08_classerror_partial`, `C08_concurrent` and `C08_world_history` speak about every entry point. -/
theorem C08_entry_points (w : World) (hs : w.slots = slotsNow) (tid : Nat) (t : TypeRec) (hget : w.get tid = some t)
    (l : Look) (cls : Cls) :
    (lookW w tid l cls).2 = (applyOp w.slots t (l.op cls)).2 ∧
    (lookW w tid l cls).1.get tid = some (applyOp w.slots t (l.op cls)).1 ∧
    WStep CelloGen.Disp.cacheNum cls w (lookW w tid l cls).1 := by
  have hso : SlotsOK w.slots CelloGen.Disp.cacheNum := by rw [hs]; exact C08_slots_ok
  rw [lookW_eq hget]
  exact ⟨rfl, get_put_same _ _ _, look_wstep hso hget l cls⟩

/-- evaluations of the model (not counted as proof obligations): for a well-formed object whose header names type object
    `tid`, `instance`/`method`/`implements_method` are `type_instance`/`type_method`/`type_implements_method` of that type object -/
example (w : World) (tid : Nat) (cls : Cls) (k : Nat) :
    instanceW w (.obj .good tid) cls = typeInstanceW w (.typeObj tid) cls ∧
    methodAtW w (.obj .good tid) cls k = typeMethodAtW w (.typeObj tid) cls k ∧
    implementsMethodAtW w (.obj .good tid) cls k = typeImplementsMethodAtW w (.typeObj tid) cls k := ⟨rfl, rfl, rfl⟩

/-- **The small-step machine refines the sequential model.** Run alone, from any state of any type object (no invariant
    needed), the sequence of atomic steps of one lookup ends — within `2·n + 8` steps, `n` the number of triples — in
    exactly the state and the result of the sequential functions `scan` (`Type_Scan`) and, wherever it stays inside the
    cache words (answers `.ok`), `instanceOf` (`Type_Instance`), which are the functions compared with the C code state
    by state.  Hence `C08_concurrent` and `C08_lookup_exact` speak about the same lookups. -/
theorem C08_machine_refines_sequential (slots : List (Nat × Cls)) (t : TypeRec) (cls : Cls) :
    runSolo slots (soloFuel t.entries.length) t (.start false cls) = ((scan t cls).1, .done cls (scan t cls).2) ∧
    ∀ r, (instanceOf slots t cls).2 = .ok r →
      runSolo slots (soloFuel t.entries.length) t (.start true cls) = ((instanceOf slots t cls).1, .done cls r) :=
  ⟨runSolo_scan slots t cls, fun r hr => by rw [runSolo_instanceOf, hr]; rfl⟩

/-- a library type of the current source (`Array`'s row of the generated matrix) as a model record -/
def sampleRow : List (String × Inst) :=
  match CelloGen.Disp.declared.find? (fun d => d.1 = "Array") with
  | some d => ((List.range d.2.length).zip d.2).map (fun p => (p.2.1, ⟨p.1, p.2.2⟩))
  | none => []

/-- Non-vacuity of `C08_current_source` / `C08_lookup_exact`: on `Array`'s record of the current source a cold lookup of a
    cached class fills the cache word and memoises the class pointer, the warm lookup returns the same instance, an uncached
    class is found by name, a member that `Array` leaves NULL (`Show.look`) raises ClassError, an absent class gives NULL. -/
example :
    let t := mkType CelloGen.Disp.cacheNum false sampleRow
    let r := runOps slotsNow t [.lookup ⟨0, "Cmp"⟩, .lookup ⟨0, "Cmp"⟩, .lookup ⟨7, "Show"⟩, .methodAt ⟨0, "Show"⟩ 0,
                               .methodAt ⟨0, "Show"⟩ 1, .implements ⟨0, "Cast"⟩, .implementsMethodAt ⟨0, "Get"⟩ 4]
    sampleRow.length = 14 ∧ invb slotsNow r.1 = true ∧ r.1.cache[4]? = some (some ⟨4, [true]⟩) ∧
    r.2 = [.inst (.ok (some ⟨4, [true]⟩)), .inst (.ok (some ⟨4, [true]⟩)), .inst (.ok (some ⟨12, [true, false]⟩)),
           .meth (.ok ⟨12, [true, false]⟩), .meth (.raised .ClassError), .bool (.ok false), .bool (.ok false)] := by
  decide +kernel

/-- Non-vacuity of `C08_concurrent`: three threads race on a cold record with a duplicated class name; under a concrete
    interleaving all finish, all obtain the first triple's instance, and the cache word is filled. -/
example :
    let es : List (String × Inst) := [("Show", ⟨0, [true]⟩), ("Cmp", ⟨1, [true]⟩), ("Cmp", ⟨2, [false]⟩)]
    let t := mkType CelloGen.Disp.cacheNum false es
    let progs : List (List (Bool × Cls)) := [[(true, ⟨0, "Cmp"⟩)], [(true, ⟨0, "Cmp"⟩), (false, ⟨0, "Show"⟩)], [(false, ⟨5, "Cmp"⟩)]]
    let sched := (List.range 20).flatMap (fun _ => [0, 1, 2, 2, 1])
    let s := runSched slotsNow { shared := t, threads := progs.map Thread.new } sched
    s.threads.all (fun th => th.finished) = true ∧
    s.threads.map (fun th => th.log.map (fun p => p.2.map (·.id))) = [[some 1], [some 0, some 1], [some 1]] ∧
    s.shared.cache[4]? = some (some ⟨1, [true]⟩) := by
  decide +kernel

/-- A scan that stopped at the first non-matching triple (the planted bug of the self-test) is refuted by the model's own
    spec on a two-triple record: the declared instance of the second class would be missed. -/
theorem C08_first_triple_only_refuted :
    let es : List Entry := [⟨none, "Show", ⟨0, [true]⟩⟩, ⟨none, "Cmp", ⟨1, [true]⟩⟩]
    declared es "Cmp" = some ⟨1, [true]⟩ ∧ (match es with | e :: _ => if e.name = "Cmp" then some e.inst else none | [] => none) = none := by
  decide

/-- which machine the current source is: does the by-name pass of Type_Scan compare with a variable of static storage that the
    lookup path stores to?  (computed from the extracted store list and the extracted strcmp operand) -/
def sharedNameNow : Bool := sharedNameOf CelloGen.Disp.sharedStores CelloGen.Disp.scanNameOperand

/-- **The stores of the lookup path, as extracted from src/Type.c, are exactly the three the step machine performs**, all of
    them through a pointer into the type object (header type word, `cls` word of a triple, cache word); no lookup-path function
    has a `static` local, none stores to a file-scope variable, and the by-name pass compares with a value private to the
    thread.  (`decide` over the generated list: one more store anywhere in Type_Of / Type_Builtin_Name / Type_Scan /
    Type_Instance + Type_Cache_Entry / Type_Implements / Type_[Implements_]Method_At_Offset / the public wrappers / any function of
    Type.c they call — a swap of triples, a `static` scratch variable, a hit counter — breaks the build here.) -/
theorem C08_shared_stores_current_source :
    CelloGen.Disp.sharedStores = modelStores ∧ CelloGen.Disp.staticLocals = [] ∧ sharedNameNow = false := by
  refine ⟨by rfl, by rfl, by decide⟩

/-- **Every step of the machine changes the shared record by its store and by nothing else, and every store of the machine is a
    store of the source** (`writeOf`: at most one per step; `Wr.source` ∈ the extracted list). -/
theorem C08_machine_stores (slots : List (Nat × Cls)) (t : TypeRec) (pc : PC) :
    ((step slots t pc).1 = match writeOf t pc with
      | none => t
      | some w => w.apply t) ∧
    ∀ w, writeOf t pc = some w → w.source ∈ CelloGen.Disp.sharedStores := by
  refine ⟨step_effect slots t pc, ?_⟩
  intro w _
  -- the extracted list is the list of the model's three stores, whatever their arguments
  rw [C08_shared_stores_current_source.1]
  cases w
  · exact List.mem_cons_self
  · exact List.mem_cons_of_mem _ List.mem_cons_self
  · exact List.mem_cons_of_mem _ (List.mem_cons_of_mem _ List.mem_cons_self)

/-- **The shared stores are idempotent and answer-preserving**: a thread whose local state is valid (`PCOK`: what it has read
    so far is consistent with the declaration) stores only what is consistent with the declaration, whichever record
    with the same triples it meets — the class word of a triple receives a class of THAT triple's name and only where the triple is the declared
    one, a cache word receives the declared instance of its slot's class — so the invariant "partially warmed but consistent"
    (`Inv`) survives the store at ANY later moment, the immutable part of the record is untouched, and storing twice is storing once. -/
theorem C08_shared_stores_idempotent (slots : List (Nat × Cls)) (n : Nat) (hs : SlotsOK slots n)
    (D : String → Option Inst) (t : TypeRec) (pc : PC) (hp : PCOK D slots t.entries pc)
    (w : Wr) (hw : writeOf t pc = some w)
    (t' : TypeRec) (h' : Inv D slots n t') (hsk : t'.entries.map Entry.skel = t.entries.map Entry.skel) :
    Inv D slots n (w.apply t') ∧ (∀ nm, declared (w.apply t').entries nm = D nm) ∧
    (w.apply t').entries.map Entry.skel = t'.entries.map Entry.skel ∧ w.apply (w.apply t') = w.apply t' := by
  have sp := Wr.apply_inv hs h' w (WrOK.congr hsk w (writeOf_ok hp hw))
  exact ⟨sp.inv, sp.inv.decl, sp.skel, Wr.apply_idem t' w⟩

/-- **Interleaving theorem for the machine the source is** (`stepG sharedNameNow`: the step machine with the lookup path's
    static-storage name variable, if it has one).  Any number of threads, any programs of lookups, ANY schedule of their atomic
    steps, any initial content of the register, from any consistent (cold, warm or partially warmed) record: the shared record
    stays consistent, every completed lookup of every thread returned what the declaration declares, no thread is stuck.
    The side condition `sharedNameNow = false` is discharged from the extracted stores (`C08_shared_stores_current_source`);
    with a shared name variable the statement is false: `C08_shared_name_refuted`. -/
theorem C08_interleaving_exact (n : Nat) (hs : SlotsOK slotsNow n)
    (D : String → Option Inst) (t : TypeRec) (h : Inv D slotsNow n t)
    (progs : List (List (Bool × Cls))) (sched : List Nat) (reg : String) :
    let g := grunSched sharedNameNow slotsNow { shared := ⟨t, reg⟩, threads := progs.map GThread.new } sched
    Inv D slotsNow n g.shared.ty ∧ (∀ nm, declared g.shared.ty.entries nm = D nm) ∧
    g.threads.length = progs.length ∧
    ∀ th ∈ g.threads, (∀ p ∈ th.log, p.2 = D p.1.name) ∧ th.pc ≠ some (.base .stuck) := by
  have hb : sharedNameNow = false := C08_shared_stores_current_source.2.2
  have hc := C08_concurrent slotsNow n hs D t h progs sched
  intro g
  have hg : g = (runSched slotsNow { shared := t, threads := progs.map Thread.new } sched).lift reg := by
    show grunSched sharedNameNow slotsNow _ sched = _
    rw [hb, lift_new]
    exact grunSched_false slotsNow reg sched { shared := t, threads := progs.map Thread.new }
  rw [hg]
  refine ⟨hc.1, hc.2.1, by simpa [Sys.lift] using hc.2.2.1, ?_⟩
  intro th hth
  simp only [Sys.lift, List.mem_map] at hth
  obtain ⟨th0, hth0, rfl⟩ := hth
  have h0 := hc.2.2.2 th0 hth0
  refine ⟨h0.1, fun hpc => h0.2 ?_⟩
  obtain ⟨pc, hp, e⟩ := Option.map_eq_some_iff.mp hpc
  cases e
  exact hp

/-- the statement of `C08_interleaving_exact` for a machine chosen by hand -/
def C08_interleaving_statement (sharedName : Bool) : Prop :=
  ∀ (t : TypeRec), invb slotsNow t = true → ∀ (progs : List (List (Bool × Cls))) (sched : List Nat) (reg : String),
    ∀ th ∈ (grunSched sharedName slotsNow { shared := ⟨t, reg⟩, threads := progs.map GThread.new } sched).threads,
      ∀ p ∈ th.log, p.2 = declared t.entries p.1.name

/-- **Refuted** for the machine with a shared name variable (what a `static const char* cls_name` hoisted out of the by-name
    loop makes of Type_Scan): two threads, cold record `Show, Cmp`; thread 0 asks for `Show` and has just stored "Show" into
    the variable when thread 1, asking for `Cmp`, stores "Cmp"; thread 0's by-name pass now compares with "Cmp", answers with
    the `Cmp` instance for `Show`, and memoises the class `Show` in the `Cmp` triple, so that every later lookup of `Show`
    by anyone — warm, single-threaded — answers with the `Cmp` instance too. Sequentially (one thread at a time) this machine
    is exact: the store is not idempotent across classes, and only the interleaving shows it. -/
theorem C08_shared_name_refuted : ¬ C08_interleaving_statement true := by
  intro hst
  have := hst (mkType CelloGen.Disp.cacheNum true [("Show", ⟨0, [true]⟩), ("Cmp", ⟨1, [true]⟩)]) (by decide +kernel)
    [[(false, ⟨0, "Show"⟩), (false, ⟨0, "Show"⟩)], [(false, ⟨0, "Cmp"⟩)]]
    (List.replicate 7 0 ++ List.replicate 7 1 ++ List.replicate 20 0) ""
  revert this
  decide +kernel

/-- the same schedule on the machine of the current source answers `Show` with the `Show` instance both times (non-vacuity of
    `C08_interleaving_exact`: thread 0 completes both its lookups under this schedule, thread 1 none) -/
example :
    let t := mkType CelloGen.Disp.cacheNum true [("Show", ⟨0, [true]⟩), ("Cmp", ⟨1, [true]⟩)]
    let g := grunSched sharedNameNow slotsNow { shared := ⟨t, ""⟩, threads :=
      [[(false, ⟨0, "Show"⟩), (false, ⟨0, "Show"⟩)], [(false, ⟨0, "Cmp"⟩)]].map GThread.new }
      (List.replicate 7 0 ++ List.replicate 7 1 ++ List.replicate 20 0)
    g.threads.map (fun th => th.log.map (fun p => p.2.map (·.id))) = [[some 0, some 0], []] := by
  decide +kernel

/-- … and on the machine with the shared name variable: `Show` answered with instance 1 (the `Cmp` instance), cold and warm -/
example :
    let t := mkType CelloGen.Disp.cacheNum true [("Show", ⟨0, [true]⟩), ("Cmp", ⟨1, [true]⟩)]
    let g := grunSched true slotsNow { shared := ⟨t, ""⟩, threads :=
      [[(false, ⟨0, "Show"⟩), (false, ⟨0, "Show"⟩)], [(false, ⟨0, "Cmp"⟩)]].map GThread.new }
      (List.replicate 7 0 ++ List.replicate 7 1 ++ List.replicate 20 0)
    g.threads.map (fun th => th.log.map (fun p => p.2.map (·.id))) = [[some 1, some 1], []] ∧
    g.shared.ty.entries.map (fun e => e.memo.map (·.name)) = [none, some "Show"] := by
  decide +kernel

/-- **The ClassError texts of the current source** (formats and argument lists of the two `throw` sites of
    Type_Method_At_Offset, extracted each run): for every type name, class name and member name, an absent class is reported as
    `Type 'T' does not implement class 'C'`, an empty member as `Type 'T' implements class 'C' but not the method 'M' required`,
    both as ClassError.  (A changed format, a swapped or dropped argument, another exception class break the build here.) -/
theorem C08_classerror_text (tname cname mname : String) :
    methodAtMsg CelloGen.Disp.methodAtThrows 0 tname cname mname =
      some ("ClassError", "Type '" ++ tname ++ ("' does not implement class '" ++ cname ++ "'")) ∧
    methodAtMsg CelloGen.Disp.methodAtThrows 1 tname cname mname =
      some ("ClassError", "Type '" ++ tname ++ ("' implements class '" ++ cname ++ ("' but not the method '" ++ mname ++ "' required"))) ∧
    CelloGen.Disp.methodAtThrows.length = 2 := by
  refine ⟨?_, ?_, by rfl⟩ <;>
    simp [methodAtMsg, CelloGen.Disp.methodAtThrows, render, showArg]

/-- **`Type_Method_At_Offset` with its texts follows `methodAt`** (the function the lookup theorems are about): same new
    record, the instance where `methodAt` returns it, an exception with one of the two texts exactly where `methodAt` raises
    (for types and classes other than Terminal: KF-C08-terminal-message), undefined exactly where `methodAt` is. -/
theorem C08_method_text_refines (slots : List (Nat × Cls)) (t : TypeRec) (tname : String) (cls : Cls) (k : Nat) (mname : String) :
    (methodAtText CelloGen.Disp.methodAtThrows slots t tname cls k mname).1 = (methodAt slots t cls k).1 ∧
    match (methodAt slots t cls k).2 with
    | .ok i => (methodAtText CelloGen.Disp.methodAtThrows slots t tname cls k mname).2 = .ok i
    | .raised _ => ∃ m, (methodAtText CelloGen.Disp.methodAtThrows slots t tname cls k mname).2 = .raised "ClassError" m ∧
        (m = "Type '" ++ tname ++ ("' does not implement class '" ++ cls.name ++ "'") ∨
         m = "Type '" ++ tname ++ ("' implements class '" ++ cls.name ++ ("' but not the method '" ++ mname ++ "' required")))
    | .ub => (methodAtText CelloGen.Disp.methodAtThrows slots t tname cls k mname).2 = .ub := by
  have h0 := (C08_classerror_text tname cls.name mname).1
  have h1 := (C08_classerror_text tname cls.name mname).2.1
  simp only [methodAtText, methodAt, h0, h1]
  rcases h : instanceOf slots t cls with ⟨t1, r⟩
  cases r with
  | ok v =>
    cases v with
    | none => exact ⟨rfl, _, rfl, Or.inl rfl⟩
    | some inst =>
      simp only
      cases hm : memberAt inst k with
      | ok b =>
        cases b with
        | true => exact ⟨rfl, rfl⟩
        | false => exact ⟨rfl, _, rfl, Or.inr rfl⟩
      | raised e => simp [memberAt] at hm; split at hm <;> simp at hm
      | ub => exact ⟨rfl, rfl⟩
  | raised e => exact absurd (congrArg Prod.snd h) (instanceOf_ne_raised slots t cls e)
  | ub => exact ⟨rfl, rfl⟩

/-- **`Type_Builtin_Name` / `Type_Builtin_Size` read the cells `Type_New` writes**: the index expressions of the two helpers
    (extracted each run) are `t[(CELLO_CACHE_NUM / 3)+0].inst` and `…+1`; on the words of ANY type object of the model (cold,
    warm, any remains after the terminator) they read the `__Name` string and the `__Size` number — the words `Type_New`
    stores (`C08_type_new_any_storage`: the storage after Type_New IS such a `toRaw`). -/
theorem C08_builtin_cells (s : Store) (hc : s.trec.cache.length = CelloGen.Disp.cacheNum) :
    builtinWord CelloGen.Disp.cacheNum CelloGen.Disp.builtinNameCell s.toRaw = some (.str s.name) ∧
    builtinWord CelloGen.Disp.cacheNum CelloGen.Disp.builtinSizeCell s.toRaw = some (.num s.size) :=
  toRaw_name_size s (ce := layoutNow.cacheNum / 3) (hc.trans C08_layout_ok.cache3.symm)

/-- non-vacuity: on a cold `Show, Cmp` record named Alpha, member 1 of `Show` is empty and `Hash` is absent -/
example :
    let t := mkType CelloGen.Disp.cacheNum true [("Show", ⟨0, [true, false]⟩), ("Cmp", ⟨1, [true]⟩)]
    (methodAtText CelloGen.Disp.methodAtThrows slotsNow t "Alpha" ⟨0, "Show"⟩ 1 "look").2 =
      .raised "ClassError" "Type 'Alpha' implements class 'Show' but not the method 'look' required" ∧
    (methodAtText CelloGen.Disp.methodAtThrows slotsNow t "Alpha" ⟨0, "Hash"⟩ 0 "hash").2 =
      .raised "ClassError" "Type 'Alpha' does not implement class 'Hash'" ∧
    (methodAtText CelloGen.Disp.methodAtThrows slotsNow t "Alpha" ⟨0, "Cmp"⟩ 0 "cmp").2 = .ok ⟨1, [true]⟩ := by
  decide +kernel

end Cello.Dispatch
