/-
  C14 — print formatting equals C formatting, on every sink, with exact positions.

  Model: Cello/Fmt.lean (`loop` / `printToWith`: the scanner of src/Show.c print_to_with with explicit index reads and fmt_buf
  writes; `Out.formatTo`: format_to on a String / File sink; `showD`: the built-in Show instances; `refRun`: the reference
  semantics of the format grammar, one segment at a time) and Cello/FmtSize.lean (the two sink methods at the level of the heap block).
  Read from the source on every run: CelloGen/Fmt.lean, through `cfgNow` / `showNow` / `primNow` (Lemmas/FmtNow.lean) and `sftNow` /
  `fftNow` (Lemmas/FmtSize.lean).  Trusted: what libc does for ONE `format_to` call, the parameter `libc : Libc` — the text it prints
  when it accepts the call, and whether it rejects it (negative result).  `prim : Prim` = libc + the code of String_Format_To;
  `primNow libc` = with the code in /repo now.
-/
import CelloProofs.Lemmas.FmtRefine
import CelloProofs.Lemmas.FmtPure
import CelloProofs.Lemmas.FmtGrammar
import CelloProofs.Lemmas.FmtNow
import CelloProofs.Lemmas.FmtParse
import CelloProofs.Lemmas.FmtCalls
import CelloProofs.Lemmas.FmtShow
import CelloProofs.Lemmas.FmtBuiltin
import CelloProofs.Lemmas.FmtReject
import CelloProofs.Lemmas.FmtSize

namespace Cello.Fmt

/-- the body of `print_to_with` in src/Show.c is the text the machine `loop` was modelled on -/
theorem C14_source_as_modelled : CelloGen.Fmt.printToWithText = CelloGen.Fmt.printToWithModelled := rfl

/-- **The scan set of the source fits the grammar**: `%` does not end a specification (so `%%` is unambiguous), every
    conversion of the property's grammar (d i u o x X f F e E g G a A c s p $) ends one, and no flag, digit, `.` or
    length-modifier character does. -/
theorem C14_scan_set :
    '%' ∉ cfgNow.conv ∧ (∀ c ∈ grammarConvs, c ∈ cfgNow.conv) ∧ (∀ x ∈ bodyChars, x ∉ cfgNow.conv) := by
  decide +kernel

/-- **The dispatch of the source**: for every conversion character of the grammar exactly one `if` fires, with the
    C value the conversion needs: `c_int` for d i u o x X and c, `c_float` for f F e E g G a A, `c_str` for s, the
    pointer for p, `show_to` for $. -/
theorem C14_dispatch_table :
    (∀ c ∈ intConvs, firing cfgNow c = [.cint]) ∧ (∀ c ∈ fltConvs, firing cfgNow c = [.cfloat]) ∧
    firing cfgNow 'c' = [.cint] ∧ firing cfgNow 's' = [.cstr] ∧ firing cfgNow 'p' = [.obj] ∧ firing cfgNow '$' = [.show] := by
  decide +kernel

/-- **`String_Format_To` as it is in the source** (generic branch): the measuring `vsnprintf`, then
    `if (size < 0) { return size; }`, and only then the alloc check, the `realloc`, the NULL check and the `vsprintf`
    (fix a626877: the guard stands BEFORE anything touches the String). -/
theorem C14_string_format_to_steps :
    stepsNow = [.measure, .guard, .allocCheck, .realloc, .memCheck, .write] := by
  decide

/-- **A call libc rejects, code as it is now**: whatever the sink (String or File), its content and the position are
    unchanged, the call is in the log, and `print_to_with` gets FormatError (`if (off < 0) { throw(FormatError, …); }`).
    Depends on the position of the guard in `String_Format_To` read from the source. -/
theorem C14_reject_call (libc : Libc) (o : Out) (frag : Str) (v : PVal) (h : libc.rej frag v = true) :
    o.call (primNow libc) frag v = ({ o with calls := o.calls ++ [⟨frag, v⟩] }, .raised .FormatError) :=
  call_rej _ (primNow_guarded libc) o h

/-- **C14_segmentation.** For every well-formed segmentation `segs` (literals of any bytes but `%`/NUL, `%%`, specifications
    `%` body conv whose body has no conversion character), every `prim`, every `show`, every argument list and every
    destination/start position: `print_to_with` on the rendered format does exactly what the grammar's reference semantics
    does — one `format_to` per literal run (the whole run, verbatim), one per `%%`, and for the k-th specification the
    dispatch on its conversion character with the fragment `%` body conv and the k-th argument, in order; it stops with
    FormatError at the first specification that has no argument, with the exception raised by the first conversion that raises, and at
    the first call libc rejects (`off < 0`) with what the sink's method makes of it: FormatError when the guard of
    `String_Format_To` is in place (`C14_reject_call`).  (Outcome and destination are equal; the concatenation of the segments is the format by definition of `render`.) -/
theorem C14_segmentation (prim : Prim) (shw : Obj → Out → Out × Outcome)
    (segs : List Seg) (hwf : wfSegs cfgNow.conv segs = true) (args : List Obj) (o : Out) :
    (printToWith cfgNow prim shw (render segs) args o).pair = refRun cfgNow prim shw args segs 0 o :=
  (printToWith_refines cfgNow prim shw args C14_scan_set.1 segs hwf o).1

/-- **The grammar is decidable and the segmentation unique**: the parser `parseFmt` (written with `takeWhile`/`dropWhile`,
    independently of the scanner) returns `segs` for a format exactly when `segs` is a well-formed segmentation of it. -/
theorem C14_grammar_decidable (fmt : Str) (segs : List Seg) :
    parseFmt cfgNow.conv fmt = some segs ↔ (render segs = fmt ∧ wfSegs cfgNow.conv segs = true) :=
  parseFmt_iff C14_scan_set.1

/-- **C14 for a format given as text**: if the (executable) parser accepts `fmt` with segments `segs`, then
    `print_to_with` on `fmt` does exactly what the reference semantics does on `segs`, within the buffers. -/
theorem C14_checked_format (prim : Prim) (shw : Obj → Out → Out × Outcome)
    (fmt : Str) (segs : List Seg) (hp : parseFmt cfgNow.conv fmt = some segs) (args : List Obj) (o : Out) :
    let r := printToWith cfgNow prim shw fmt args o
    r.pair = refRun cfgNow prim shw args segs 0 o ∧ r.marks.rdMax ≤ fmt.length ∧ r.marks.wrMax ≤ fmt.length := by
  obtain ⟨rfl, hwf⟩ := (C14_grammar_decidable fmt segs).1 hp
  exact printToWith_refines cfgNow prim shw args C14_scan_set.1 segs hwf o

/-- **The calls in closed form.** On a well-formed format whose specifications each find an argument of their class
    (`expectCalls … = some cs`: Int for d i u o x X c, Float for f F e E g G a A, String for s, anything for p and $),
    with a `show` that on the ARGUMENTS makes the calls `showCalls a` and does not raise, and libc accepting all of them (`AllAcc`),
    `print_to_with` makes exactly the calls `cs`:
    the literal runs verbatim, `%%`, for the k-th specification the fragment `%` body conv with the C value of the k-th
    argument, for `%$` the calls of the k-th argument's own show — in order; it completes, and the position returned is
    the start position plus the length of the text libc wrote for these calls.
    The last conjunct is what entitles the reader to instantiate `prim` with a real C library: when the specifications belong to the
    printf grammar of the property (`printfOK`: flags, width, precision, length modifier — no `*`, no `L`) and the calls of `show` are
    inside libc's contract, EVERY call handed to libc is (`Call.inContract`: one vararg, of the class the conversion reads).  Outside
    `printfOK` the position / text conjunct is a statement about the model only (`C14_star_width_refuted`). -/
theorem C14_calls (prim : Prim) (shw : Obj → Out → Out × Outcome) (showCalls : Obj → List Call)
    (segs : List Seg) (hwf : wfSegs cfgNow.conv segs = true) (args : List Obj) (cs : List Call)
    (hs : ∀ a ∈ args, ∀ o, shw a o = (emitAll prim o (showCalls a), .ok))
    (hcs : expectCalls showCalls args segs 0 = some cs) (hacc : AllAcc prim cs) (o : Out) :
    let r := printToWith cfgNow prim shw (render segs) args o
    r.pair = (emitAll prim o cs, .ok) ∧ r.out.calls = o.calls ++ cs ∧ r.out.pos = o.pos + (textOf prim cs).length ∧
    (segs.all Seg.printfOK = true → (∀ a ∈ args, ∀ c ∈ showCalls a, c.inContract = true) → ∀ c ∈ cs, c.inContract = true) := by
  have h := C14_segmentation prim shw segs hwf args o
  rw [refRun_expectCalls prim shw cfgNow C14_dispatch_table showCalls args hs segs 0 cs o hcs hacc] at h
  have h1 : (printToWith cfgNow prim shw (render segs) args o).out = emitAll prim o cs := congrArg Prod.fst h
  refine ⟨h, ?_, ?_, fun hpf hsh => expectCalls_inContract cfgNow showCalls args hsh segs 0 cs hwf hpf hcs⟩
  · simp only [h1, emitAll_calls]
  · simp only [h1, emitAll_pos]

/-- **The property's printf grammar is covered**: a specification `%` flags* digits* (`.` digits*)? lenmod conv
    (`specOK`, the grammar the check generates from) is a well-formed segment for the scan set of the source. -/
theorem C14_printf_grammar (b : Str) (c : Char) (h : specOK b c = true) : (Seg.spec b c).wf cfgNow.conv = true :=
  specOK_wf cfgNow.conv C14_scan_set.2.1 C14_scan_set.2.2 h

/-- **C14_bounds.** On a well-formed format every index read in the format array is ≤ its length (the terminator is
    the last byte read), every index written in `fmt_buf` is ≤ the length (the buffer has length+1 bytes) — on ALL of `wfSegs`, whatever
    libc does; and — with `String_Format_To` as it is now, also when libc rejects a call — the run never takes the out-of-bounds outcome,
    PROVIDED the specifications belong to the printf grammar (`printfOK`: outside it, e.g. `%*d`, libc itself reads varargs that were
    never passed — `C14_star_width_refuted`), no argument is the destination itself (`isSink`: see `C14_alias_refuted`) and no
    argument's `show` reports one. -/
theorem C14_bounds (libc : Libc) (shw : Obj → Out → Out × Outcome)
    (segs : List Seg) (hwf : wfSegs cfgNow.conv segs = true) (args : List Obj) (o : Out) :
    let r := printToWith cfgNow (primNow libc) shw (render segs) args o
    r.marks.rdMax ≤ (render segs).length ∧ r.marks.wrMax ≤ (render segs).length ∧
      (segs.all Seg.printfOK = true → (∀ a ∈ args, a.isSink = false ∧ ∀ o, (shw a o).2 ≠ .oob) → r.oc ≠ .oob) := by
  have h := printToWith_refines cfgNow (primNow libc) shw args C14_scan_set.1 segs hwf o
  -- the `printfOK` hypothesis (`_`) is not needed in the model: it stands for libc's contract, which the model cannot see
  exact ⟨h.2.1, h.2.2, fun _ hs => printToWith_in cfgNow shw args (noOob_closed _ (primNow_guarded libc)) C14_scan_set.1 segs hwf
    (useOk_of_args cfgNow hs segs 0) o⟩

/-- **`Type_Show` as it is in the source** (fix 0046a69): `return print_to(output, pos, "%s", self);` — a position like every
    other show, not the OLD `return format_to(output, pos, "%s", Type_Builtin_Name(self));` (a length).  Read from src/Type.c. -/
theorem C14_type_show_returns_position : showNow.typeOff = false := by
  decide

/-- the dispatch of the source reaches `show_to` through `$` only and `c_str` through `s` only (what makes `plainFor` the exact
    territory of KF-C14-alias) -/
theorem C14_dispatch_facts :
    ∀ c ∈ cfgNow.conv, ∀ mk ∈ cfgNow.disp, mk.1.hit c = true → (mk.2 = .show → c = '$') ∧ (mk.2 = .cstr → c = 's') := by
  decide +kernel

/-- the facts about the scanner configuration and the show formats of the source that the proofs about `show` use: `%` ends
    no specification, every format the built-in Show instances and `show_to` pass to `print_to` is well-formed, `Type_Show`
    returns a position, and the dispatch facts above -/
theorem C14_show_facts : ShowFacts cfgNow showNow where
  hpct := C14_scan_set.1
  wf := by constructor <;> decide +kernel
  typeNow := C14_type_show_returns_position
  disp := C14_dispatch_facts

/-- **C14_bounds with the built-in Show instances**: Int, Float, String, Array, Tuple, List, Table, Tree, Range, Slice, Box,
    NULL, objects without a Show instance, Type objects (nested to any depth, any recursion fuel) never make `print_to_with`
    leave its buffers or run into undefined behaviour on a format of the printf grammar (`hpf`: libc's contract as in `C14_bounds`;
    the model does not need it) — provided no `%s` specification fetches the destination itself and no `%$` specification fetches an
    object whose show reaches it (`plainFor`, decidable, relative to the format:
    exactly KF-C14-alias; the excluded region: `C14_alias_refuted`).  The destination under `%p`, under an integer / floating conversion and
    as a surplus argument IS covered (`C14_alias_harmless`). -/
theorem C14_bounds_builtin (libc : Libc) (d : Nat)
    (segs : List Seg) (hwf : wfSegs cfgNow.conv segs = true) (hpf : segs.all Seg.printfOK = true)
    (args : List Obj) (hpl : plainFor d args segs 0 = true) (o : Out) :
    let r := printTo cfgNow (primNow libc) showNow d (render segs) args o
    r.marks.rdMax ≤ (render segs).length ∧ r.marks.wrMax ≤ (render segs).length ∧ r.oc ≠ .oob := by
  have _ := hpf  -- as in `C14_bounds`
  have C := noOob_closed _ (primNow_guarded libc)
  have h := printToWith_refines cfgNow (primNow libc) (showD cfgNow (primNow libc) showNow d) args C14_scan_set.1 segs hwf o
  exact ⟨h.2.1, h.2.2, printToWith_in cfgNow _ args C C14_scan_set.1 segs hwf
    (useOk_of_plainFor cfgNow _ showNow C C14_show_facts d args segs 0 hwf hpl) o⟩

/-- `plainArgs` implies `plainFor`: arguments that neither are nor reach the destination are fine for every format -/
theorem C14_plainArgs_plainFor (d : Nat) (args : List Obj) (h : plainArgs d args = true) (segs : List Seg) :
    plainFor d args segs 0 = true :=
  plainFor_of_plainArgs d args h segs 0

/-- **Same calls on every sink, every format.**  For EVERY format (well-formed or not, inside the printf grammar or not), argument
    list and libc there is one sequence of primitive calls `cs` and one outcome such that, whatever the destination and the start
    position, the calls made are `cs` and the outcome is that one: a String and a File receive the same `format_to` calls with the same
    C values.  (No claim about libc's TEXT: that needs the printf grammar, `C14_position`.)  `show` may be any function that is pure on the
    arguments; no argument may be the destination itself. -/
theorem C14_same_calls (libc : Libc) (shw : Obj → Out → Out × Outcome)
    (fmt : Str) (args : List Obj) (hs : ∀ a ∈ args, a.isSink = false ∧ Pure (primNow libc) (shw a)) :
    ∃ (cs : List Call) (oc : Outcome), ∀ (sink : Sink) (start : Nat),
      let r := printToWith cfgNow (primNow libc) shw fmt args ⟨sink, start, []⟩
      r.out.calls = cs ∧ r.oc = oc := by
  obtain ⟨cs, oc, h⟩ := position_of_pure (primNow libc) (primNow_guarded libc) _
    (printToWith_pure (primNow libc) cfgNow shw (primNow_guarded libc) fmt args hs)
  exact ⟨cs, oc, fun sink start => ⟨(h sink start).1, (h sink start).2.1⟩⟩

/-- **C14_position.** For every format of the printf grammar (`wfSegs` + `printfOK`: the class on which the trusted `libc` is a function
    of the fragment and the ONE value passed), argument list and libc there is one sequence of primitive
    calls `cs` and one outcome such that, whatever the destination and the start position: the calls made are `cs` (so a
    String and a File receive the same calls), the returned position is start + the number of characters libc wrote for
    them (a rejected call writes none), a File receives exactly that text at its offset, and a String written from
    `start ≤ length` holds `take start old ++ text` — it is untouched if libc accepted no call (none was made, or the
    first one was rejected: `if (size < 0) { return size; }`).  "Holds" is a statement about the bytes of the String's block `[0, position)`:
    a `%c` with a value ≡ 0 (mod 256) writes a NUL byte, behind which `c_str` does not see the rest.  `start > length`:
    `C14_start_beyond_end_refuted`.  `show` may be any function that is pure on the arguments it is used on, and no `%s` may fetch the
    destination itself (`UseOk … KindPure`: relative to the format). -/
theorem C14_position (libc : Libc) (shw : Obj → Out → Out × Outcome)
    (segs : List Seg) (hwf : wfSegs cfgNow.conv segs = true) (hpf : segs.all Seg.printfOK = true)
    (args : List Obj) (hs : UseOk cfgNow (KindPure (primNow libc) shw) args segs 0) :
    ∃ (cs : List Call) (oc : Outcome), ∀ (sink : Sink) (start : Nat),
      let prim := primNow libc
      let r := printToWith cfgNow prim shw (render segs) args ⟨sink, start, []⟩
      r.out.calls = cs ∧ r.oc = oc ∧ r.out.pos = start + (textOf prim cs).length ∧
      (∀ c, sink = .file c → r.out.sink = .file (c ++ textOf prim cs)) ∧
      (∀ v, sink = .str v → start ≤ v.length →
        r.out.sink = if accepted prim cs = [] then .str v else .str (v.take start ++ textOf prim cs)) := by
  have _ := hpf  -- as in `C14_bounds`
  exact position_of_pure (primNow libc) (primNow_guarded libc) _
    (printToWith_in cfgNow shw args (pure_closed _ (primNow_guarded libc)) C14_scan_set.1 segs hwf (kindPure_eq _ shw ▸ hs))

/-- **C14_position for the built-in types**: the same with `show` = the model of Int_Show / Float_Show / String_Show /
    Array_Show / Tuple_Show / List_Show / Table_Show / Tree_Show / Range_Show / Slice_Show / Box_Show / Type_Show / `show_to`
    (any recursion fuel), when no `%s` fetches the destination itself and no `%$` an object whose show reaches it (`plainFor`: exactly
    KF-C14-alias; the excluded region: `C14_alias_refuted`).  Type objects are covered since fix 0046a69 (before it: `C14_type_show_old_refuted`). -/
theorem C14_position_builtin (libc : Libc) (d : Nat)
    (segs : List Seg) (hwf : wfSegs cfgNow.conv segs = true) (hpf : segs.all Seg.printfOK = true)
    (args : List Obj) (hpl : plainFor d args segs 0 = true) :
    ∃ (cs : List Call) (oc : Outcome), ∀ (sink : Sink) (start : Nat),
      let prim := primNow libc
      let r := printTo cfgNow prim showNow d (render segs) args ⟨sink, start, []⟩
      r.out.calls = cs ∧ r.oc = oc ∧ r.out.pos = start + (textOf prim cs).length ∧
      (∀ c, sink = .file c → r.out.sink = .file (c ++ textOf prim cs)) ∧
      (∀ v, sink = .str v → start ≤ v.length →
        r.out.sink = if accepted prim cs = [] then .str v else .str (v.take start ++ textOf prim cs)) :=
  C14_position libc (showD cfgNow (primNow libc) showNow d) segs hwf hpf args
    (kindPure_eq _ _ ▸ useOk_of_plainFor cfgNow _ showNow (pure_closed _ (primNow_guarded libc)) C14_show_facts d args
      segs 0 hwf hpl)

/-- **Same calls on every sink, every format, built-in Show instances** (arguments that neither are nor reach the destination). -/
theorem C14_same_calls_builtin (libc : Libc) (d : Nat) (fmt : Str) (args : List Obj) (hpl : plainArgs d args = true) :
    ∃ (cs : List Call) (oc : Outcome), ∀ (sink : Sink) (start : Nat),
      let r := printTo cfgNow (primNow libc) showNow d fmt args ⟨sink, start, []⟩
      r.out.calls = cs ∧ r.oc = oc :=
  C14_same_calls libc (showD cfgNow (primNow libc) showNow d) fmt args (fun a ha => by
    have hp : plainD d a = true := List.all_eq_true.1 hpl a ha
    exact ⟨plainD_not_sink d a hp, showD_in (pure_closed _ (primNow_guarded libc)) C14_show_facts d a hp⟩)

/-- **C14_too_few.**  On a well-formed format whose specifications find arguments of their class (`Typed`: Int for
    d i u o x X c, Float for f F e E g G a A, String for s; anything for p and $) and whose arguments' `show` does not raise:
    `print_to_with` completes exactly when there are enough arguments AND libc rejects none of the format's own calls
    (`NoReject`: the literal runs, `%%`, each specification with its argument's C value); otherwise — too few arguments, or
    a rejected call (`off < 0`) — it raises FormatError, and nothing else can happen. -/
theorem C14_too_few (libc : Libc) (shw : Obj → Out → Out × Outcome)
    (segs : List Seg) (hwf : wfSegs cfgNow.conv segs = true) (args : List Obj) (o : Out)
    (hs : ∀ a ∈ args, ∀ o, (shw a o).2 = .ok) (ht : Typed args segs 0) :
    let r := printToWith cfgNow (primNow libc) shw (render segs) args o
    (r.oc = .ok ↔ nspecs segs ≤ args.length ∧ NoReject (primNow libc) args segs 0) ∧
    (r.oc = .raised .FormatError ↔ args.length < nspecs segs ∨ ¬ NoReject (primNow libc) args segs 0) := by
  have h : (printToWith cfgNow (primNow libc) shw (render segs) args o).oc = (refRun cfgNow (primNow libc) shw args segs 0 o).2 :=
    congrArg Prod.snd (C14_segmentation (primNow libc) shw segs hwf args o)
  have := refRun_outcome_typed cfgNow (primNow libc) shw args (primNow_guarded libc) C14_dispatch_table hs segs 0 o ht (by omega)
  rw [Nat.zero_add, ← h] at this
  exact outcome_iff (fun hp hq => hq.elim (by omega) (· hp.2)) this

/-- **C14_too_few when nothing else can fail.** On a well-formed format whose literal runs libc accepts and whose
    specifications can all convert their arguments (`AllOk`: classes match, libc accepts the call, `show` does not
    raise), `print_to_with` raises FormatError exactly when there are fewer arguments than specifications, and otherwise
    completes.  (Any `prim`: no rejected call, so the code of `String_Format_To` does not matter.) -/
theorem C14_too_few_all_ok (prim : Prim) (shw : Obj → Out → Out × Outcome)
    (segs : List Seg) (hwf : wfSegs cfgNow.conv segs = true) (args : List Obj) (o : Out)
    (hok : AllOk cfgNow prim shw args segs 0) :
    let r := printToWith cfgNow prim shw (render segs) args o
    (r.oc = .raised .FormatError ↔ args.length < nspecs segs) ∧ (r.oc = .ok ↔ nspecs segs ≤ args.length) := by
  have h : (printToWith cfgNow prim shw (render segs) args o).oc = (refRun cfgNow prim shw args segs 0 o).2 :=
    congrArg Prod.snd (C14_segmentation prim shw segs hwf args o)
  have := refRun_outcome cfgNow prim shw args segs 0 o hok (by omega)
  rw [Nat.zero_add, ← h] at this
  exact (outcome_iff (fun hp hq => by omega) this).symm

/-- **A rejected specification leaves the sink as the prefix left it and raises FormatError** — for every format prefix
    already written.  Format = `pre`, then a specification `%` b c, then anything; the prefix makes the calls `cs` (all
    accepted, `show` as in `C14_calls`); the specification finds an argument of its class and libc rejects the call
    (e.g. `%lc` with a wide character the "C" locale cannot encode, a width that overflows `int`).  Then, with the code
    as it is now: FormatError; String and File hold exactly what the prefix wrote (a String that received nothing is
    untouched — NOT cut at the start position, not freed); the position is where the prefix ended; the rejected call is
    the last one in the log and `post` is never looked at.  (The prefix IS written: known finding KF-C14-partial-write.) -/
theorem C14_reject_unchanged (libc : Libc) (shw : Obj → Out → Out × Outcome) (showCalls : Obj → List Call)
    (pre : List Seg) (b : Str) (c : Char) (post : List Seg)
    (hwf : wfSegs cfgNow.conv (pre ++ .spec b c :: post) = true) (args : List Obj) (cs : List Call)
    (hs : ∀ a ∈ args, ∀ o, shw a o = (emitAll (primNow libc) o (showCalls a), .ok))
    (hcs : expectCalls showCalls args pre 0 = some cs) (hacc : AllAcc (primNow libc) cs)
    (a : Obj) (ha : args[nspecs pre]? = some a) (v : PVal) (hv : specVal c a = some v)
    (hrej : libc.rej ('%' :: (b ++ [c])) v = true) (o : Out) :
    let prim := primNow libc
    let r := printToWith cfgNow prim shw (render (pre ++ .spec b c :: post)) args o
    r.oc = .raised .FormatError ∧
    r.out.sink = (emitAll prim o cs).sink ∧ r.out.pos = o.pos + (textOf prim cs).length ∧
    r.out.calls = o.calls ++ cs ++ [⟨'%' :: (b ++ [c]), v⟩] ∧
    (∀ s, o.sink = .str s → o.pos ≤ s.length →
      r.out.sink = if cs = [] then .str s else .str (s.take o.pos ++ textOf prim cs)) ∧
    (∀ f, o.sink = .file f → r.out.sink = .file (f ++ textOf prim cs)) := by
  have h := C14_segmentation (primNow libc) shw _ hwf args o
  rw [refRun_reject cfgNow (primNow libc) shw args (primNow_guarded libc) C14_dispatch_table showCalls hs pre b c post cs hcs hacc a ha v hv hrej o] at h
  have h1 : (printToWith cfgNow (primNow libc) shw (render (pre ++ .spec b c :: post)) args o).out = _ := congrArg Prod.fst h
  have h2 : (printToWith cfgNow (primNow libc) shw (render (pre ++ .spec b c :: post)) args o).oc = _ := congrArg Prod.snd h
  simp only [h1, h2]
  refine ⟨trivial, trivial, emitAll_pos _ cs o, trivial, fun s hs' hle => ?_, fun f hf => emitAll_file _ cs o f hf⟩
  have := emitAll_str_guarded (primNow libc) (primNow_guarded libc) cs o s hs' hle
  rw [accepted_of_allAcc _ cs hacc] at this
  exact this

/-- **The OLD `String_Format_To` (before a626877) on the same witness** (corpus/fmt_fixed_libc_reject.ops:
    `print_to(s, 3, "%lc", $I(256))` and `print_to(s, 0, "%lc", $I(256))` on a String holding "hello"): without the guard
    the `realloc(val, pos + (−1) + 1)` cuts the String to `pos` bytes — at `pos = 3` the terminator written by `vsprintf`
    lands outside the block (undefined behaviour), at `pos = 0` the block is freed and OutOfMemoryError is raised — the
    String is not "hello" any more and the outcome is not FormatError; with the code as it is now it is untouched. -/
theorem C14_reject_old_refuted :
    let fmt := ['%', 'l', 'c']
    let hello := ['h', 'e', 'l', 'l', 'o']
    let old3 := printTo cfgNow (primOld libcTest) showNow 4 fmt [.int 256] ⟨.str hello, 3, []⟩
    let old0 := printTo cfgNow (primOld libcTest) showNow 4 fmt [.int 256] ⟨.str hello, 0, []⟩
    let now3 := printTo cfgNow (primNow libcTest) showNow 4 fmt [.int 256] ⟨.str hello, 3, []⟩
    let now0 := printTo cfgNow (primNow libcTest) showNow 4 fmt [.int 256] ⟨.str hello, 0, []⟩
    old3.oc = .oob ∧ old3.out.sink = .str ['h', 'e', 'l'] ∧
    old0.oc = .raised .OutOfMemoryError ∧ old0.out.sink = .str [] ∧
    now3.oc = .raised .FormatError ∧ now3.out.sink = .str hello ∧ now3.out.pos = 3 ∧
    now0.oc = .raised .FormatError ∧ now0.out.sink = .str hello ∧
    now3.out.calls = [⟨fmt, .i64 256⟩] := by
  decide

/-- **The calls in closed form, built-in Show instances.**  `C14_calls` with `show` = the model of the Show instances of the source
    (`showD`, fuel `d`): for arguments that neither are nor reach the destination (`plainArgs`) and whose own show completes
    (`showsOk`: decidable — run it once; fuel above the nesting depth, libc accepting its calls), `showCalls` is `builtinCalls`, the list
    of calls that show makes: `C14_calls` instantiated with the show the driver runs. -/
theorem C14_calls_builtin (libc : Libc) (d : Nat)
    (segs : List Seg) (hwf : wfSegs cfgNow.conv segs = true) (args : List Obj) (cs : List Call)
    (hpl : plainArgs d args = true) (hok : showsOk cfgNow (primNow libc) showNow d args = true)
    (hcs : expectCalls (builtinCalls cfgNow (primNow libc) showNow d) args segs 0 = some cs) (hacc : AllAcc (primNow libc) cs) (o : Out) :
    let prim := primNow libc
    let r := printTo cfgNow prim showNow d (render segs) args o
    r.pair = (emitAll prim o cs, .ok) ∧ r.out.calls = o.calls ++ cs ∧ r.out.pos = o.pos + (textOf prim cs).length := by
  have h := C14_calls (primNow libc) (showD cfgNow (primNow libc) showNow d) (builtinCalls cfgNow (primNow libc) showNow d) segs hwf args cs
    (showD_calls_args cfgNow (primNow libc) showNow (primNow_guarded libc) C14_show_facts d args hpl hok) hcs hacc o
  exact ⟨h.1, h.2.1, h.2.2.1⟩

/-- **C14_too_few with the built-in Show instances**: for arguments that neither are nor reach the destination and whose own show
    completes (`showsOk`), on a well-formed `Typed` format `print_to_with` completes exactly when there are enough arguments and libc
    rejects none of the format's own calls; otherwise it raises FormatError. -/
theorem C14_too_few_builtin (libc : Libc) (d : Nat)
    (segs : List Seg) (hwf : wfSegs cfgNow.conv segs = true) (args : List Obj) (o : Out)
    (hpl : plainArgs d args = true) (hok : showsOk cfgNow (primNow libc) showNow d args = true) (ht : Typed args segs 0) :
    let r := printTo cfgNow (primNow libc) showNow d (render segs) args o
    (r.oc = .ok ↔ nspecs segs ≤ args.length ∧ NoReject (primNow libc) args segs 0) ∧
    (r.oc = .raised .FormatError ↔ args.length < nspecs segs ∨ ¬ NoReject (primNow libc) args segs 0) :=
  C14_too_few libc (showD cfgNow (primNow libc) showNow d) segs hwf args o
    (fun a ha o => by
      rw [showD_calls_args cfgNow (primNow libc) showNow (primNow_guarded libc) C14_show_facts d args hpl hok a ha o]) ht

/-- **C14_reject_unchanged with the built-in Show instances** (same hypotheses on the arguments as `C14_calls_builtin`). -/
theorem C14_reject_unchanged_builtin (libc : Libc) (d : Nat)
    (pre : List Seg) (b : Str) (c : Char) (post : List Seg)
    (hwf : wfSegs cfgNow.conv (pre ++ .spec b c :: post) = true) (args : List Obj) (cs : List Call)
    (hpl : plainArgs d args = true) (hok : showsOk cfgNow (primNow libc) showNow d args = true)
    (hcs : expectCalls (builtinCalls cfgNow (primNow libc) showNow d) args pre 0 = some cs) (hacc : AllAcc (primNow libc) cs)
    (a : Obj) (ha : args[nspecs pre]? = some a) (v : PVal) (hv : specVal c a = some v)
    (hrej : libc.rej ('%' :: (b ++ [c])) v = true) (o : Out) :
    let prim := primNow libc
    let r := printTo cfgNow prim showNow d (render (pre ++ .spec b c :: post)) args o
    r.oc = .raised .FormatError ∧
    r.out.sink = (emitAll prim o cs).sink ∧ r.out.pos = o.pos + (textOf prim cs).length ∧
    r.out.calls = o.calls ++ cs ++ [⟨'%' :: (b ++ [c]), v⟩] ∧
    (∀ s, o.sink = .str s → o.pos ≤ s.length →
      r.out.sink = if cs = [] then .str s else .str (s.take o.pos ++ textOf prim cs)) ∧
    (∀ f, o.sink = .file f → r.out.sink = .file (f ++ textOf prim cs)) :=
  C14_reject_unchanged libc (showD cfgNow (primNow libc) showNow d) (builtinCalls cfgNow (primNow libc) showNow d) pre b c post hwf args cs
    (showD_calls_args cfgNow (primNow libc) showNow (primNow_guarded libc) C14_show_facts d args hpl hok) hcs hacc a ha v hv hrej o

/-- the formats of Tuple_Show / Array_Show / List_Show read from the source are: literal opening (with one `%p` for Array and
    List), literal separator, literal closing -/
theorem C14_show_formats :
    isLitFmt showNow.tupOpen = true ∧ isLitFmt showNow.tupSep = true ∧ isLitFmt showNow.tupClose = true ∧
    parseFmt cfgNow.conv showNow.arrOpen = some [.lit "<'Array' At 0x".toList, .spec [] 'p', .lit " [".toList] ∧
    isLitFmt showNow.arrSep = true ∧ isLitFmt showNow.arrClose = true ∧
    parseFmt cfgNow.conv showNow.lstOpen = some [.lit "<'List' At 0x".toList, .spec [] 'p', .lit " [".toList] ∧
    isLitFmt showNow.lstSep = true ∧ isLitFmt showNow.lstClose = true := by
  -- a literal is `String.ofList` of its characters: rewritten, so that no evaluator has to decode the UTF-8 bytes of `"…".toList`
  repeat rw [String.toList_ofList]
  decide

/-- **`%$` is show**: `print_to(out, pos, "%$", a)` does exactly what `show_to(a, out, pos)` does, for any `show`. -/
theorem C14_show_print (prim : Prim) (shw : Obj → Out → Out × Outcome) (a : Obj) (o : Out) :
    (printToWith cfgNow prim shw ['%', '$'] [a] o).pair = shw a o :=
  congrFun (print_show cfgNow prim shw C14_scan_set.1 (C14_scan_set.2.1 '$' (by decide)) C14_dispatch_table.2.2.2.2.2 a) o

/-- **A container shows its elements' own show text, each once, in iteration order** (`showItemsSpec`: the first item's
    show, then for each further item the separator and that item's show; stopping at the first that raises), between
    the opening text (with the container's address for Array and List) and the closing text — Tuple, Array and List. -/
theorem C14_show_containers (prim : Prim) (d : Nat) (items : List Obj) (o : Out) :
    let elem := fun x o => showD cfgNow prim showNow d x o
    let lit := fun (s : Str) (o : Out) => o.call prim s .none
    let addr := fun (pre post : Str) =>
      andThen (lit pre) (andThen (fun o => o.call prim ['%', 'p'] .ptr) (lit post))
    showD cfgNow prim showNow (d + 1) (.tuple items) o =
      andThen (lit showNow.tupOpen) (andThen (showItemsSpec prim elem showNow.tupSep items) (lit showNow.tupClose)) o ∧
    showD cfgNow prim showNow (d + 1) (.array items) o =
      andThen (addr "<'Array' At 0x".toList " [".toList)
        (andThen (showItemsSpec prim elem showNow.arrSep items) (lit showNow.arrClose)) o ∧
    showD cfgNow prim showNow (d + 1) (.list items) o =
      andThen (addr "<'List' At 0x".toList " [".toList)
        (andThen (showItemsSpec prim elem showNow.lstSep items) (lit showNow.lstClose)) o := by
  have hp := C14_scan_set.1
  have hd := C14_scan_set.2.1 '$' (by decide)
  have hf := C14_dispatch_table.2.2.2.2.2
  have hfp := C14_dispatch_table.2.2.2.2.1
  obtain ⟨t1, t2, t3, a1, a2, a3, l1, l2, l3⟩ := C14_show_formats
  -- each show is `print_to` of the opening, the loop over the items, `print_to` of the closing text; each is rewritten to its calls
  refine ⟨?_, ?_, ?_⟩ <;> simp only [showD]
  · rw [print_lit cfgNow prim _ hp t1, showItems_eq cfgNow prim _ hp hd hf t2, print_lit cfgNow prim _ hp t3]
  · rw [print_ptr cfgNow prim _ hp hfp a1, showItems_eq cfgNow prim _ hp hd hf a2, print_lit cfgNow prim _ hp a3]; rfl
  · rw [print_ptr cfgNow prim _ hp hfp l1, showItems_eq cfgNow prim _ hp hd hf l2, print_lit cfgNow prim _ hp l3]; rfl

/-- the formats of Table_Show / Tree_Show / Range_Show / Slice_Show / Box_Show / `show_to` read from the source -/
theorem C14_show_formats_more :
    parseFmt cfgNow.conv showNow.tblOpen = some [.lit "<'Table' At 0x".toList, .spec [] 'p', .lit " {".toList] ∧
    parseFmt cfgNow.conv showNow.tblPair = some [.spec [] '$', .lit ":".toList, .spec [] '$'] ∧
    isLitFmt showNow.tblSep = true ∧ isLitFmt showNow.tblClose = true ∧
    parseFmt cfgNow.conv showNow.treOpen = some [.lit "<'Tree' At 0x".toList, .spec [] 'p', .lit " {".toList] ∧
    parseFmt cfgNow.conv showNow.trePair = some [.spec [] '$', .lit ":".toList, .spec [] '$'] ∧
    isLitFmt showNow.treSep = true ∧ isLitFmt showNow.treClose = true ∧
    parseFmt cfgNow.conv showNow.rngOpen = some [.lit "<'Range' At 0x".toList, .spec [] 'p', .lit " [".toList] ∧
    parseFmt cfgNow.conv showNow.rngItem = some [.spec ['l'] 'i'] ∧
    isLitFmt showNow.rngSep = true ∧ isLitFmt showNow.rngClose = true ∧
    parseFmt cfgNow.conv showNow.slcOpen = some [.lit "<'Slice' At 0x".toList, .spec [] 'p', .lit " [".toList] ∧
    isLitFmt showNow.slcSep = true ∧ isLitFmt showNow.slcClose = true ∧
    parseFmt cfgNow.conv showNow.boxFmt =
      some [.lit "<'Box' at 0x".toList, .spec [] 'p', .lit " (".toList, .spec [] '$', .lit ")>".toList] ∧
    isLitFmt showNow.nullFmt = true ∧
    parseFmt cfgNow.conv showNow.defaultFmt =
      some [.lit "<'".toList, .spec [] 's', .lit "' At 0x".toList, .spec [] 'p', .lit ">".toList] := by
  repeat rw [String.toList_ofList]
  decide +kernel

/-- **Table, Tree, Range, Slice, Box, NULL and objects without a Show instance.**  `%$` (i.e. `show_to`) on
    * a Table / a Tree: the opening with the object's address, then for each pair in iteration order (slot order / key
      order — the order `Obj.table` / `Obj.tree` carry) the key's own show, `:`, the value's own show, `, ` between two
      pairs (not after the last), then `}>`;
    * a Range: the opening, one `%li` call per value the iteration yields (the format of `Int_Show`: fix 78c2117, see
      `C14_range_shows_own_int_show`), `, ` between two, `]>`;
    * a Slice: the opening, each item's own show, `, ` between two, `]>`;
    * a Box: `<'Box' at 0x` address ` (` the show of what it holds `)>`;
    * NULL: the literal `<NULL>`;
    * an object of a type without Show: `<'` the type's name `' At 0x` address `>`;
    * a Type object: one `%s` call with the type's name (`Type_Show` is `print_to(output, pos, "%s", self)`, fix 0046a69).
    Each element's show text appears exactly once, in order (`showPairsSpec`, `showIntsSpec`, `showItemsSpec`). -/
theorem C14_show_more (prim : Prim) (d : Nat) (ps : List (Obj × Obj)) (ns : List Int) (items : List Obj) (x : Obj)
    (t : Str) (o : Out) :
    let elem := fun x o => showD cfgNow prim showNow d x o
    let lit := fun (s : Str) (o : Out) => o.call prim s .none
    let ptr := fun (o : Out) => o.call prim ['%', 'p'] .ptr
    showD cfgNow prim showNow (d + 1) (.table ps) o =
      andThen (addrCalls prim "<'Table' At 0x".toList " {".toList)
        (andThen (showPairsSpec prim elem ":".toList showNow.tblSep ps) (lit showNow.tblClose)) o ∧
    showD cfgNow prim showNow (d + 1) (.tree ps) o =
      andThen (addrCalls prim "<'Tree' At 0x".toList " {".toList)
        (andThen (showPairsSpec prim elem ":".toList showNow.treSep ps) (lit showNow.treClose)) o ∧
    showD cfgNow prim showNow (d + 1) (.range ns) o =
      andThen (addrCalls prim "<'Range' At 0x".toList " [".toList)
        (andThen (showIntsSpec prim ['%', 'l', 'i'] showNow.rngSep ns) (lit showNow.rngClose)) o ∧
    showD cfgNow prim showNow (d + 1) (.slice items) o =
      andThen (addrCalls prim "<'Slice' At 0x".toList " [".toList)
        (andThen (showItemsSpec prim elem showNow.slcSep items) (lit showNow.slcClose)) o ∧
    showD cfgNow prim showNow (d + 1) (.box x) o =
      andThen (lit "<'Box' at 0x".toList) (andThen ptr (andThen (lit " (".toList) (andThen (elem x) (lit ")>".toList)))) o ∧
    showD cfgNow prim showNow (d + 1) .null o = lit showNow.nullFmt o ∧
    showD cfgNow prim showNow (d + 1) (.other t) o =
      andThen (lit "<'".toList) (andThen (fun o => o.call prim ['%', 's'] (.cstr t))
        (andThen (lit "' At 0x".toList) (andThen ptr (lit ">".toList)))) o ∧
    showD cfgNow prim showNow (d + 1) (.type t) o = o.call prim ['%', 's'] (.cstr t) := by
  have hp := C14_scan_set.1
  have hd := C14_scan_set.2.1 '$' (by decide)
  have hf := C14_dispatch_table.2.2.2.2.2
  have hfp := C14_dispatch_table.2.2.2.2.1
  have hfs := C14_dispatch_table.2.2.2.1
  have hfi : firing cfgNow 'i' = [.cint] := C14_dispatch_table.1 'i' (by decide)
  obtain ⟨t1, t2, t3, t4, r1, r2, r3, r4, g1, g2, g3, g4, s1, s2, s3, b1, n1, d1⟩ := C14_show_formats_more
  have hi : showNow.rngItem = ['%', 'l', 'i'] := by decide
  refine ⟨?_, ?_, ?_, ?_, ?_, ?_, ?_, ?_⟩ <;> simp only [showD, C14_type_show_returns_position, Bool.false_eq_true, if_false]
  · rw [print_ptr cfgNow prim _ hp hfp t1, showPairs_eq cfgNow prim _ hp hf t2 t3, print_lit cfgNow prim _ hp t4]
  · rw [print_ptr cfgNow prim _ hp hfp r1, showPairs_eq cfgNow prim _ hp hf r2 r3, print_lit cfgNow prim _ hp r4]
  · rw [print_ptr cfgNow prim _ hp hfp g1, showInts_eq cfgNow prim _ hp hfi g2 g3, print_lit cfgNow prim _ hp g4, hi]
  · rw [print_ptr cfgNow prim _ hp hfp s1, showItems_eq cfgNow prim _ hp hd hf s2, print_lit cfgNow prim _ hp s3]
  · exact congrFun (print_box cfgNow prim _ hp hf hfp b1 (.box x) x) o
  · exact congrFun (print_lit cfgNow prim _ hp n1 []) o
  · exact congrFun (print_default cfgNow prim _ hp hfs hfp d1 t (.other t)) o
  · exact congrFun (print_type cfgNow prim _ hp hfs (by decide) t) o

/-- **A Range shows its elements' own show text (fix 78c2117).**  The item format of `Range_Show` read from the source IS the format of
    `Int_Show` (`"%li"`), and therefore `%$` on a Range writes, between the opening and the closing text, exactly what `show` writes for
    each Int the iteration yields — each once, in order, `, ` between two (`showItemsSpec` over the values as Int objects, the same
    specification as for Array / List / Slice).  Breaks when the item format is turned back to `"%i"` (`C14_range_show_old_refuted`). -/
theorem C14_range_shows_own_int_show (prim : Prim) (d : Nat) (ns : List Int) (o : Out) :
    showNow.rngItem = showNow.intFmt ∧
    showD cfgNow prim showNow (d + 2) (.range ns) o =
      andThen (addrCalls prim "<'Range' At 0x".toList " [".toList)
        (andThen (showItemsSpec prim (fun x o => showD cfgNow prim showNow (d + 1) x o) showNow.rngSep (ns.map Obj.int))
          (fun o => o.call prim showNow.rngClose .none)) o := by
  have hp := C14_scan_set.1
  have hfi : firing cfgNow 'i' = [.cint] := C14_dispatch_table.1 'i' (by decide)
  have hitem : showNow.rngItem = showNow.intFmt := by decide
  have hint : parseFmt cfgNow.conv showNow.intFmt = some [.spec ['l'] 'i'] := by decide
  refine ⟨hitem, ?_⟩
  rw [(C14_show_more prim (d + 1) [] ns [] .null [] o).2.2.1]
  have hli : (['%', 'l', 'i'] : Str) = showNow.intFmt := by decide
  rw [hli, showIntsSpec_eq_items prim _ _ (fun x o => showD cfgNow prim showNow (d + 1) x o) (print_int cfgNow prim _ hp hfi hint) ns]

/-- **The OLD `Range_Show` (before 78c2117) on the same witness** (corpus/fmt_fixed_range_show.ops: `%$` on
    `range($I(2147483647), $I(2147483649))`): the OLD item format `"%i"` makes libc read an `int` — the second value, 2^31, comes out as
    the negative number its low 32 bits spell, while `show` of that Int (and the Range now) writes it in full.  `libcWidth` = a test
    libc whose integer text depends on the width the conversion reads. -/
theorem C14_range_show_old_refuted :
    let r := Obj.range [2147483647, 2147483648]
    let old := printTo cfgNow primWidth showOldRange 4 ['%', '$'] [r] ⟨.file [], 0, []⟩
    let now := printTo cfgNow primWidth showNow 4 ['%', '$'] [r] ⟨.file [], 0, []⟩
    let own := printTo cfgNow primWidth showNow 4 ['%', '$'] [.int 2147483648] ⟨.file [], 0, []⟩
    old.out.sink = .file "<'Range' At 0xp [n, -n]>".toList ∧ now.out.sink = .file "<'Range' At 0xp [n, n]>".toList ∧
    own.out.sink = .file "n".toList ∧ old.out.calls.map (·.frag) ≠ now.out.calls.map (·.frag) ∧
    showOldRange.rngItem ≠ showOldRange.intFmt := by
  repeat rw [String.toList_ofList]
  decide +kernel

/-- **F29 = KF-C14-partial-write (known finding).** The statement "when FormatError is raised the destination is unchanged" is false for the
    code as it is: `print_to(s, 0, "abc %d")` with no argument raises FormatError after `abc ` was written. -/
theorem C14_unchanged_on_error_refuted :
    let r := printTo cfgNow primTest showNow 4 ['a', 'b', 'c', ' ', '%', 'd'] [] ⟨.str ['o', 'l', 'd'], 0, []⟩
    r.oc = .raised .FormatError ∧ r.out.sink = .str ['a', 'b', 'c', ' '] ∧ r.out.sink ≠ .str ['o', 'l', 'd'] := by
  decide

/-- **Aliasing (known finding KF-C14-alias).** `C14_bounds_builtin` / `C14_position_builtin` exclude arguments that are
    the destination itself, and they must: `print_to(s, 2, "%s", s)` on a String holding "ab" — `c_str(s)` is fetched, then
    `String_Format_To` reallocates `s->val` and `vsprintf` reads the old block — and `print_to(s, 2, "%$", s)` (also through a
    Tuple that contains `s`) — `String_Show` walks the buffer its own first `print_to` reallocated — are undefined
    behaviour in the code as it is (heap-use-after-free under ASan); `plainArgs` is false exactly there.  A File as its
    own argument is harmless (no C_Str: ClassError; no Show: the default `<'File' At 0x…>`). -/
theorem C14_alias_refuted :
    let o : Out := ⟨.str ['a', 'b'], 2, []⟩
    (printTo cfgNow primTest showNow 4 ['%', 's'] [.sink] o).oc = .oob ∧
    (printTo cfgNow primTest showNow 4 ['%', '$'] [.sink] o).oc = .oob ∧
    (printTo cfgNow primTest showNow 4 ['%', '$'] [.tuple [.int 1, .sink]] o).oc = .oob ∧
    plainArgs 4 [.sink] = false ∧ plainArgs 4 [.tuple [.int 1, .sink]] = false ∧
    (printTo cfgNow primTest showNow 4 ['%', 's'] [.sink] ⟨.file ['a', 'b'], 2, []⟩).oc = .raised .ClassError ∧
    (printTo cfgNow primTest showNow 4 ['%', '$'] [.sink] ⟨.file [], 0, []⟩).out.sink = .file "<'File' At 0xp>".toList := by
  repeat rw [String.toList_ofList]
  decide +kernel

/-- **The destination as its own argument where the code is right** (the region `plainArgs` excludes and `plainFor` does not): on a String
    holding "ab", `print_to(s, 2, "%p|", s)` prints the address, `print_to(s, 0, "%d", $I(7), s)` never fetches the surplus `s`,
    `print_to(s, 0, "x%d", s)` raises ClassError after `x` (a String has no C_Int) — no undefined behaviour, `plainFor` holds, `plainArgs`
    does not; `%s` / `%$` on the same arguments is KF-C14-alias and `plainFor` is false (corpus/fmt_alias_safe.ops, corpus/kf_c14_alias.ops). -/
theorem C14_alias_harmless :
    let o2 : Out := ⟨.str ['a', 'b'], 2, []⟩
    let o0 : Out := ⟨.str ['a', 'b'], 0, []⟩
    let r1 := printTo cfgNow primTest showNow 4 ['%', 'p', '|'] [.sink] o2
    let r2 := printTo cfgNow primTest showNow 4 ['%', 'd'] [.int 7, .sink] o0
    let r3 := printTo cfgNow primTest showNow 4 ['x', '%', 'd'] [.sink] o0
    r1.oc = .ok ∧ r1.out.sink = .str ['a', 'b', 'p', '|'] ∧ r1.out.pos = 4 ∧
    r2.oc = .ok ∧ r2.out.sink = .str ['n'] ∧ r2.out.pos = 1 ∧
    r3.oc = .raised .ClassError ∧ r3.out.sink = .str ['x'] ∧
    plainFor 4 [.sink] [.spec [] 'p', .lit ['|']] 0 = true ∧ plainArgs 4 [.sink] = false ∧
    plainFor 4 [.int 7, .sink] [.spec [] 'd'] 0 = true ∧ plainFor 4 [.sink] [.lit ['x'], .spec [] 'd'] 0 = true ∧
    plainFor 4 [.sink] [.spec [] 's'] 0 = false ∧ plainFor 4 [.tuple [.int 1, .sink]] [.spec [] '$'] 0 = false ∧
    plainFor 4 [.int 1, .tuple [.sink]] [.spec [] '$', .spec [] 'p'] 0 = true := by
  decide

/-- **`*` width / precision, `L`, `%ls` (known finding KF-C14-star-width).**  The property says "flags, width, precision"; `*` IS a
    standard printf width.  `print_to(s, 0, "[%*d]", $I(5), $I(42))`: the format is well-formed for the scanner (`wfSegs`: `*` is no
    conversion character) but outside `printfOK`; `print_to_with` makes ONE call for the specification, with ONE vararg — the 5 —, and
    fetches ONE Cello argument: the 42 is never used (the run is the same with 43 in its place, or with no second argument at all).  libc,
    however, reads TWO varargs for `%*d`: the width from the 5 that was passed and the value from whatever the next register holds —
    so the text is not `printf("[%*d]", 5, 42)` = `[   42]` and not a function of the arguments at all.  The call is outside libc's
    contract (`Call.inContract`), which is why the text / no-undefined-behaviour conjuncts of `C14_bounds`, `C14_position`, `C14_calls`
    carry `printfOK`.  Witness: corpus/kf_c14_star_width.ops. -/
theorem C14_star_width_refuted :
    let segs := [Seg.lit ['['], .spec ['*'] 'd', .lit [']']]
    let run := fun (args : List Obj) => printTo cfgNow primTest showNow 4 (render segs) args ⟨.str [], 0, []⟩
    wfSegs cfgNow.conv segs = true ∧ segs.all Seg.printfOK = false ∧ inGrammar cfgNow.conv (render segs) = false ∧
    (run [.int 5, .int 42]).oc = .ok ∧
    (run [.int 5, .int 42]).out.calls = [⟨['['], .none⟩, ⟨['%', '*', 'd'], .i64 5⟩, ⟨[']'], .none⟩] ∧
    run [.int 5, .int 42] = run [.int 5, .int 43] ∧ run [.int 5, .int 42] = run [.int 5] ∧
    (Call.mk ['%', '*', 'd'] (.i64 5)).inContract = false ∧
    (Call.mk ['%', '.', '*', 'f'] (.dbl 0)).inContract = false ∧ (Call.mk ['%', 'L', 'f'] (.dbl 0)).inContract = false ∧
    (Call.mk ['%', 'l', 's'] (.cstr [])).inContract = false ∧
    (Call.mk ['%', '-', '0', '8', '.', '3', 'l', 'l', 'd'] (.i64 5)).inContract = true := by
  decide +kernel

/-- **A start position beyond the end of a String (known finding KF-C14-start-beyond-end).**  The quantifier says "all start positions";
    every String conclusion above carries `start ≤ length`, and it must: `print_to(s, 5, "xyz")` on a String holding "ab" returns 8 =
    5 + 3 (the position conjunct holds), but `realloc` keeps `ab\0` and the text lands at index 5, behind the old terminator and two
    indeterminate bytes — the C string the sink holds is still "ab", not `take 5 "ab" ++ "xyz"`, and its length (2) is not the position
    returned.  (A File ignores the position altogether: `File_Format_To` writes at the current offset.)  Witness:
    corpus/kf_c14_start_beyond_end.ops. -/
theorem C14_start_beyond_end_refuted :
    let r := printTo cfgNow primTest showNow 4 ['x', 'y', 'z'] [] ⟨.str ['a', 'b'], 5, []⟩
    r.oc = .ok ∧ r.out.pos = 8 ∧ textOf primTest r.out.calls = ['x', 'y', 'z'] ∧
    cValueAfter ['a', 'b'] 5 ['x', 'y', 'z'] = ['a', 'b'] ∧
    cValueAfter ['a', 'b'] 5 ['x', 'y', 'z'] ≠ (['a', 'b'] : Str).take 5 ++ ['x', 'y', 'z'] ∧
    (cValueAfter ['a', 'b'] 5 ['x', 'y', 'z']).length ≠ r.out.pos ∧
    cValueAfter ['a', 'b'] 2 ['x', 'y', 'z'] = ['a', 'b', 'x', 'y', 'z'] := by
  decide

/-- **`fmt_buf` on the throw paths (known finding KF-C14-fmtbuf-leak).**  `print_to_with` allocates `fmt_buf` first and frees it only before
    `return pos;` (`C14_source_as_modelled`: the one `free` of the function text); every way out through an exception — too few arguments,
    a call libc rejects, ClassError / ValueError from `c_int` / `c_str`, an invalid format — skips it: `strlen(fmt)+1` bytes stay allocated
    per failing call, nothing on the normal path.  Not a read or write outside the buffers; recorded because every occurrence of
    KF-C14-partial-write leaks.  Witness: corpus/kf_c14_fmtbuf_leak.ops. -/
theorem C14_fmt_buf_released_refuted :
    let fmt := ['a', 'b', 'c', ' ', '%', 'd']
    let few := printTo cfgNow primTest showNow 4 fmt [] ⟨.str [], 0, []⟩
    let cls := printTo cfgNow primTest showNow 4 fmt [.str ['x']] ⟨.str [], 0, []⟩
    let fine := printTo cfgNow primTest showNow 4 fmt [.int 1] ⟨.str [], 0, []⟩
    few.oc = .raised .FormatError ∧ few.leaked fmt = 7 ∧ cls.oc = .raised .ClassError ∧ cls.leaked fmt = 7 ∧
    fine.oc = .ok ∧ fine.leaked fmt = 0 := by
  decide

/-- **Type objects at any position (was known finding KF-C14-type-show, fixed by 0046a69).**  `%$` on a Type object advances
    the position by the length of what libc wrote for the one call `%s` with the type's name, whatever the start position
    and the sink: with the code as it is now `print_to_with` continues where the name ended.  (General statement; the
    witness is in `C14_type_show_old_refuted`.) -/
theorem C14_type_show_position (prim : Prim) (d : Nat) (n : Str) (o : Out) :
    let r := showD cfgNow prim showNow (d + 1) (.type n) o
    r = o.call prim ['%', 's'] (.cstr n) ∧ r.1.calls = o.calls ++ [⟨['%', 's'], .cstr n⟩] ∧
    r.1.pos = o.pos + (prim.out ['%', 's'] (.cstr n)).length := by
  have h := (C14_show_more prim d [] [] [] .null n o).2.2.2.2.2.2.2
  simp only [h]
  exact ⟨trivial, formatTo_calls prim o _ _, formatTo_pos prim o _ _⟩

/-- **The OLD `Type_Show` (before 0046a69) on the same witness** (corpus/fmt_fixed_type_show.ops: `print_to(s, 5, "[%$]", Int)` on
    a String holding "hello"): the OLD `Type_Show` is `return format_to(output, pos, "%s", name)`, so after `[Int` was written at
    5…8 the position becomes 3, the closing `]` lands at index 3, the String is `hel]` and 4 is returned — not
    `hello[Int]` / 10; with the code as it is now the String is `hello[Int]`, 10 is returned, and a File gets the same
    text.  (`showOld` = `showNow` with the OLD `Type_Show`.) -/
theorem C14_type_show_old_refuted :
    let fmt := ['[', '%', '$', ']']
    let old := printTo cfgNow primTest showOld 4 fmt [.type ['I', 'n', 't']] ⟨.str "hello".toList, 5, []⟩
    let now := printTo cfgNow primTest showNow 4 fmt [.type ['I', 'n', 't']] ⟨.str "hello".toList, 5, []⟩
    let nowF := printTo cfgNow primTest showNow 4 fmt [.type ['I', 'n', 't']] ⟨.file "hello".toList, 5, []⟩
    old.oc = .ok ∧ old.out.pos = 4 ∧ old.out.sink = .str "hel]".toList ∧
    5 + (textOf primTest old.out.calls).length = 10 ∧ showOld.typeOff = true ∧
    now.oc = .ok ∧ now.out.pos = 10 ∧ now.out.sink = .str "hello[Int]".toList ∧ now.out.calls = old.out.calls ∧
    nowF.out.pos = 10 ∧ nowF.out.sink = .file "hello[Int]".toList ∧
    plainArgs 4 [.type ['I', 'n', 't']] = true ∧ plainArgs 4 [.tuple [.box (.type ['I', 'n', 't'])]] = true := by
  repeat rw [String.toList_ofList]
  decide

/-- Outside the grammar the bounds do fail: a format that is one incomplete specification (`"%5"`) makes
    `print_to_with` write `fmt_buf[length+1]` — one byte past its `length+1` bytes. -/
theorem C14_malformed_tail_out_of_bounds :
    let r := printTo cfgNow primTest showNow 4 ['%', '5'] [.int 1] ⟨.str [], 0, []⟩
    r.oc = .oob ∧ r.marks.wrMax = 3 := by
  decide

/-- Non-vacuity: a format with a literal, `%%`, adjacent specifications at the very end, `%$` on a container; the
    hypotheses of the theorems hold and the machine produces the expected calls, text and position. -/
example :
    let segs := [Seg.lit ['x', '='], .spec ['-', '5', 'l'] 'd', .pct, .spec [] '$', .spec ['.', '2'] 's']
    let args := [Obj.int (-3), .tuple [.int 1, .str ['a', '"']], .str ['h', 'i']]
    let r := printTo cfgNow primTest showNow 4 (render segs) args ⟨.str ['o', 'l', 'd'], 1, []⟩
    wfSegs cfgNow.conv segs = true ∧ segs.all Seg.printfOK = true ∧ parseFmt cfgNow.conv (render segs) = some segs ∧
    r.oc = .ok ∧ r.out.pos = 23 ∧ r.marks = ⟨15, 5⟩ ∧ (render segs).length = 15 ∧
    r.out.sink = .str ("ox=-n%tuple(n, \"n\\\"\")hi".toList) ∧
    r.out.calls.map (·.frag) = ["x=", "%-5ld", "%%", "tuple(", "%li", ", ", "\"", "%c", "\\\"", "\"", ")", "%.2s"].map String.toList := by
  simp only [List.map_cons, List.map_nil]
  repeat rw [String.toList_ofList]
  decide +kernel

/-- Non-vacuity of `C14_calls` / `C14_too_few`: a typed format has expected calls; without its last argument there are
    fewer arguments than specifications and no expected calls. -/
example :
    let segs := [Seg.spec ['0', '8', '.', '3'] 'f', .lit [' '], .spec ['l', 'l'] 'x', .pct, .spec [] 's', .spec [] 'p']
    let args := [Obj.flt 0x3ff8000000000000, .int 255, .str ['a'], .int 0]
    wfSegs cfgNow.conv segs = true ∧
    expectCalls (fun _ => []) args segs 0 = some [⟨"%08.3f".toList, .dbl 0x3ff8000000000000⟩, ⟨" ".toList, .none⟩,
      ⟨"%llx".toList, .i64 255⟩, ⟨"%%".toList, .none⟩, ⟨"%s".toList, .cstr ['a']⟩, ⟨"%p".toList, .ptr⟩] ∧
    nspecs segs = 4 ∧ expectCalls (fun _ => []) (args.take 3) segs 0 = none := by
  repeat rw [String.toList_ofList]
  decide

/-- Non-vacuity of `C14_reject_unchanged` and of the `NoReject` side of `C14_too_few`: a prefix with a literal, `%%` and an
    accepted `%d`, then `%lc` with 8364 (rejected by `libcTest`), then a suffix: the hypotheses hold, and the machine
    leaves `take 1 "old" ++ "x=n%"`, position 5, FormatError, the rejected call last in the log. -/
example :
    let pre := [Seg.lit ['x', '='], .spec [] 'd', .pct]
    let segs := pre ++ .spec ['l'] 'c' :: [Seg.lit ['!'], .spec [] 's']
    let args := [Obj.int 7, .int 8364, .str ['z']]
    let r := printTo cfgNow primTest showNow 4 (render segs) args ⟨.str ['o', 'l', 'd'], 1, []⟩
    wfSegs cfgNow.conv segs = true ∧ Typed args segs 0 ∧
    expectCalls (fun _ => []) args pre 0 = some [⟨['x', '='], .none⟩, ⟨['%', 'd'], .i64 7⟩, ⟨['%', '%'], .none⟩] ∧
    nspecs pre = 1 ∧ specVal 'c' (.int 8364) = some (.i64 8364) ∧ libcTest.rej ['%', 'l', 'c'] (.i64 8364) = true ∧
    libcTest.rej ['%', 'd'] (.i64 7) = false ∧
    r.oc = .raised .FormatError ∧ r.out.sink = .str ['o', 'x', '=', 'n', '%'] ∧ r.out.pos = 5 ∧
    r.out.calls.getLast? = some ⟨['%', 'l', 'c'], .i64 8364⟩ ∧ r.out.calls.length = 4 := by
  decide

/-- Non-vacuity of `showsOk` / `builtinCalls` (`C14_calls_builtin`, `C14_too_few_builtin`, `C14_reject_unchanged_builtin`): nested containers
    are plain, their show completes with fuel 6, and its call list is what `expectCalls` splices in for `%$`. -/
example :
    let a := Obj.tuple [.int 1, .array [.str ['a']], .box (.range [0, 5])]
    let args := [a, Obj.int 7]
    let segs := [Seg.spec [] '$', .lit ['='], .spec ['0', '3'] 'd']
    plainArgs 6 args = true ∧ showsOk cfgNow primTest showNow 6 args = true ∧ showsOk cfgNow primTest showNow 2 args = false ∧
    (builtinCalls cfgNow primTest showNow 6 (.int 7)) = [⟨['%', 'l', 'i'], .i64 7⟩] ∧
    (expectCalls (builtinCalls cfgNow primTest showNow 6) args segs 0).isSome = true ∧ Typed args segs 0 ∧
    segs.all Seg.printfOK = true ∧ plainFor 6 args segs 0 = true ∧
    (builtinCalls cfgNow primTest showNow 6 a).all Call.inContract = true := by
  decide +kernel

/-- Non-vacuity of `plainArgs`: nested containers (Tuple, Box, Table, Tree, Range, Slice) are plain, Type objects included; the show text of a
    Table inside a Box inside a Tuple, a Type object in the middle of a Tuple (the position goes on after it). -/
example :
    let a := Obj.tuple [.box (.table [(.int 1, .str ['a']), (.int 2, .null)]), .range [0, 2], .slice [.flt 0], .other ['F', 'i', 'l', 'e'],
      .type ['T', 'r', 'e', 'e'], .tree [], .box .null]
    let r := printTo cfgNow primTest showNow 6 ['%', '$'] [a] ⟨.file [], 0, []⟩
    plainArgs 6 [a] = true ∧ r.oc = .ok ∧
    r.out.sink = .file ("tuple(<'Box' at 0xp (<'Table' At 0xp {n:\"n\", n:<NULL>}>)>, <'Range' At 0xp [n, n]>, " ++
      "<'Slice' At 0xp [f]>, <'File' At 0xp>, Tree, <'Tree' At 0xp {}>, <'Box' at 0xp (<NULL>)>)").toList := by
  rw [String.toList_append]
  repeat rw [String.toList_ofList]
  decide +kernel

/-- **`String_Format_To`'s sizing as it is in the source**: the statements, the size handed to `realloc` (`pos + size + 1`) and the offset of the
    `vsprintf` destination (`pos`) the translator reads from src/String.c are the program the block-level lemmas are about. -/
theorem C14_string_format_to_sizing_source : sftNow = sftModelled := by decide

/-- **Two-pass sizing, every length.** For every block that reaches the start position (`pos ≤` its size), every text `t` libc formats for the call
    (any length, any bytes) `String_Format_To` measures `|t|`, grows or shrinks the block to `pos + |t| + 1` bytes, writes `t` and the terminator
    at `pos` — inside the block — and returns `|t|`: the block afterwards is exactly `block[0..pos) ++ t ++ NUL`.  libc's formatter is the parameter `t`. -/
theorem C14_string_format_to_block (b : List Cell) (pos : Nat) (t : Str) (h : pos ≤ b.length) :
    sftNow.run b pos t = .ret (b.take pos ++ (t ++ [NUL]).map some) t.length ∧
    (b.take pos ++ (t ++ [NUL]).map some).length = pos + t.length + 1 := by
  rw [C14_string_format_to_sizing_source, run_modelled b pos t h]
  refine ⟨rfl, ?_⟩
  simp [List.length_take]; omega

/-- **String content after = prefix[0..pos) ++ formatted, returned = length formatted**, as C string: a String holding `v` (its block is `v` and
    the terminator), a start position inside it, a text free of NUL bytes: the call returns `|t|`, the String's C value is `v[0..pos) ++ t` — what
    the abstract sink `Sink.write` of the other theorems says — and the block has not one byte more than that and its terminator. -/
theorem C14_string_content_after_call (v : Str) (pos : Nat) (t : Str) (h : pos ≤ v.length)
    (hv : ∀ c ∈ v, c ≠ NUL) (ht : ∀ c ∈ t, c ≠ NUL) :
    ∃ b', sftNow.run (blockOf v) pos t = .ret b' t.length ∧ b'.length = pos + t.length + 1 ∧
      cstrCells b' = some (v.take pos ++ t) ∧ Sink.write (.str v) pos t = .str (v.take pos ++ t) := by
  have hf := follows_blockOf v pos h
  obtain ⟨hrun, _⟩ := follows_step (blockOf v) v pos t hf
  refine ⟨blockOf (v.take pos ++ t), by rw [C14_string_format_to_sizing_source]; exact hrun, ?_, ?_, rfl⟩
  · rw [blockOf_length, length_take_append v t h]
  · apply cstr_blockOf
    intro c hc
    rcases List.mem_append.mp hc with hc | hc
    · exact hv c (List.mem_of_mem_take hc)
    · exact ht c hc

/-- **Position accounting at block level, whole call log.** Replaying a log of primitive calls that libc all accepts (literal runs, `%%`, specifications, the
    calls of `show`) on the block of a String holding `v`, from any start position inside it: no call leaves the block, the replay ends at the position
    `emitAll` computes (`pos += off` per call, `%%` counts the one character libc writes for it), and after at least one call the block is exactly
    the bytes of the abstract String sink and one terminator. -/
theorem C14_block_follows_sink (libc : Libc) (cs : List Call) (hacc : ∀ c ∈ cs, libc.rej c.frag c.val = false)
    (v : Str) (start : Nat) (h : start ≤ v.length) :
    let o : Out := ⟨.str v, start, []⟩
    ∃ v' b', (emitAll (primNow libc) o cs).sink = .str v' ∧
      replayBlock sftNow (primNow libc) cs (blockOf v) start = (b', (emitAll (primNow libc) o cs).pos, true) ∧
      (cs ≠ [] → b' = blockOf v' ∧ v'.length = (emitAll (primNow libc) o cs).pos ∧ b'.length = (emitAll (primNow libc) o cs).pos + 1) := by
  intro o
  obtain ⟨v', b', h1, h2, _, h4⟩ := replay_emitAll (primNow libc) cs hacc (blockOf v) o v rfl (follows_blockOf v start h)
  refine ⟨v', b', h1, by rw [C14_string_format_to_sizing_source]; exact h2, fun hne => ?_⟩
  obtain ⟨hb, hl⟩ := h4 hne
  refine ⟨hb, hl, ?_⟩
  rw [hb, ← hl, blockOf_length]

/-- A block one byte short (`realloc(val, pos + size)`: the class of fit tests that are off by one at a buffer size) is refuted for EVERY call:
    no accepted call returns — the terminator is written outside the block, or the block was freed. -/
theorem C14_sizing_without_terminator_refuted (b : List Cell) (pos : Nat) (t : Str) :
    ∀ b' n, sftNoTerminator.run b pos t ≠ .ret b' n := by
  intro b' n hr
  rcases run_noTerminator b pos t with ⟨x, hx⟩ | ⟨x, hx⟩ <;> rw [hx] at hr <;> cases hr

/-- Writing one byte late (`vsprintf(val + pos + 1, …)`) is refuted for every call. -/
theorem C14_sizing_write_late_refuted (b : List Cell) (pos : Nat) (t : Str) : ∀ b' n, sftLate.run b pos t ≠ .ret b' n := by
  intro b' n hr
  obtain ⟨x, hx⟩ := run_late b pos t
  rw [hx] at hr; cases hr

/-- **`File_Format_To` as it is in the source**: the NULL-stream refusal, then `return vfprintf(f->file, fmt, va);` — nothing else, `pos` unused. -/
theorem C14_file_format_to_steps : fftNow = [.nullCheck, .write] := by decide

/-- **Both sinks account alike**: for the same accepted call a String (any block reaching `pos`) and an open File return the same count `|t|`
    (so `pos += off` gives the same positions), the File's content grows by exactly `t`; a File without a stream refuses with IOError. -/
theorem C14_sinks_return_same_count (b : List Cell) (pos : Nat) (t c : Str) (h : pos ≤ b.length) :
    (∃ b', sftNow.run b pos t = .ret b' t.length) ∧ fftAccept t fftNow (some c) = .ret (some (c ++ t)) t.length ∧
    fftAccept t fftNow none = .ioError none := by
  rw [C14_file_format_to_steps]
  exact ⟨⟨_, (C14_string_format_to_block b pos t h).1⟩, fft_open c t, fft_closed t⟩

/-- **The C type each specification reads is the C type `print_to_with` passes.**  For every conversion of the grammar but `%$` and every length
    modifier the grammar allows for it: exactly one arm of the dispatch read from src/Show.c fires; the declared result type (include/Cello.h) of
    the cast in that arm — `int64_t c_int`, `double c_float`, `char* c_str`, `var` = `void*` — is in the x86-64 register class `printf` fetches
    that specification's argument from (C11 7.21.6.1: `int` for none / `hh` / `h` and `%c`, `long` … `ptrdiff_t` for `l ll j z t`, `double`,
    `char*`, `void*`) and is at least as wide.  (That the fetch of a narrower type sees the low bits of the slot is the ABI: trusted.) -/
theorem C14_arg_types_match_printf :
    ∀ c ∈ grammarConvs, c ≠ '$' → ∀ lm ∈ lensFor c, argTypeOK CelloGen.Fmt.castResultTypes cfgNow lm c = true := by
  decide +kernel

/-- the grammar's length modifiers are exactly those for which the type table is defined: everything else (`L`, `%lc`, `%ls`, `%hs` …) makes
    libc fetch a type `print_to_with` cannot supply — outside the property -/
theorem C14_arg_type_table_is_the_grammar :
    ∀ c ∈ grammarConvs, ∀ lm ∈ allLens, (printfReads lm c).isSome = (decide (lm ∈ lensFor c) && c != '$') := by
  decide +kernel

/-- `%$` takes no cast: the object goes to `show_to`, nothing of it through the varargs -/
theorem C14_show_dispatch_passes_nothing :
    firing cfgNow '$' = [.show] ∧ passedSlot CelloGen.Fmt.castResultTypes .show = none := by
  decide

/-- Non-vacuity of the block-level theorems: "hello" written at 2 into a String holding "abcdef" (the block grows from 7 to 8 bytes),
    a text of length 0 at the end, `%%` in a log; an `int` fetched from the slot of `2^32 + 5` sees 5. -/
example :
    sftNow.run (blockOf "abcdef".toList) 2 "hello".toList = .ret (blockOf "abhello".toList) 5 ∧
    sftNow.run (blockOf "abc".toList) 3 [] = .ret (blockOf "abc".toList) 0 ∧
    sftNoTerminator.run (blockOf "abc".toList) 3 ['x'] = .ub (blockOf "abc".toList) ∧
    replayBlock sftNow primTest [⟨['a'], .none⟩, ⟨['%', '%'], .none⟩, ⟨['%', 'd'], .i64 7⟩] (blockOf "xy".toList) 1 = (blockOf "xa%n".toList, 4, true) ∧
    lowBits 32 (2 ^ 32 + 5) = 5 ∧ lowBits 32 (-1) = 4294967295 ∧
    argTypeOK [("c_int", "int"), ("c_float", "double"), ("c_str", "char*"), ("var", "void*")] cfgNow ['l'] 'd' = false := by
  repeat rw [String.toList_ofList]
  decide

end Cello.Fmt
