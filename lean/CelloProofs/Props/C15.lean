/-
  C15 — show/look and print/scan round-trip values.

  Property theorems, their witnesses and the refuted variants (lemmas: CelloProofs/Lemmas/Text*.lean).
  Models: Cello/Text.lean, Cello/TextScan.lean.  `srcCfg` collects what the translator reads from the source on every run
  (CelloGen/Text.lean): the two escape tables of String_Show / String_Look, the delimiter and escape bytes, whether the reader's
  escape arm ends in `continue` (fix d6bdde9), what scan_from_with adds to `pos` for `%%` (fix 619a9b3), the arms of the integer
  branch of scan_from_with — which object scanf stores into for which length modifier, and how it is widened (fix 9114264) — and
  the test that selects the `double` arm of the floating branch.  `srcX` adds what the model of Cello/TextScan.lean is
  parametrised by (CelloGen/TextScan.lean; from `C15_scan_branches` on): how each branch of scan_from_with moves `pos`,
  show_to / look_from, the formats of Num.c and the C types on the character path.

  Int: every specification `%[hh|h|l|ll|j|z|t|q][d|i|o|u|x|X]` (54) is covered; what is read back is C's conversion of the value to
  the type the modifier names, i.e. the value itself on the range of that type (`C15_intspec_roundtrip`, `C15_intspec_in_width`).
  Float: the value clause is a theorem (`C15_float_value`, `C15_float_within`; for `%le` / `%lE` numerically: `C15_float_e_within`):
  both libc conversions are exact executable functions of the model and the statement is arithmetic about them.  A floating
  specification without `l` makes scan_from_with store through a `float`: known finding KF-C15-float-spec-narrow
  (`C15_float_narrow_refuted`); for values representable in a `float` the round trip is proved (`C15_float_narrow_partial`).
-/
import CelloProofs.Lemmas.TextString
import CelloProofs.Lemmas.TextInt
import CelloProofs.Lemmas.TextFloat
import CelloProofs.Lemmas.TextRound
import CelloProofs.Lemmas.TextSeq
import CelloProofs.Lemmas.TextFmt
import CelloProofs.Lemmas.TextBridge
import CelloProofs.Lemmas.FmtNow
import CelloProofs.Lemmas.TextBytes
import CelloProofs.Lemmas.TextScan

namespace Cello.Text

/-- the loops and scanner branches the model was written against are the ones in the source now -/
theorem C15_source_as_modelled :
    CelloGen.Text.showSkeleton = CelloGen.Text.showSkeletonModelled ∧
    CelloGen.Text.lookSkeleton = CelloGen.Text.lookSkeletonModelled ∧
    CelloGen.Text.scanFromWith = CelloGen.Text.scanFromWithModelled ∧
    CelloGen.Text.printToWith = CelloGen.Text.printToWithModelled ∧
    CelloGen.Text.stringFormatFrom = CelloGen.Text.stringFormatFromModelled ∧
    CelloGen.Text.fileFormatFrom = CelloGen.Text.fileFormatFromModelled ∧
    CelloGen.Text.fileFormatTo = CelloGen.Text.fileFormatToModelled ∧
    CelloGen.Text.intShowFmt = "%li" ∧ CelloGen.Text.intLookFmt = "%li" ∧
    CelloGen.Text.floatShowFmt = "%f" ∧ CelloGen.Text.floatLookFmt = "%lf" := by
  refine ⟨rfl, rfl, rfl, rfl, rfl, rfl, rfl, rfl, rfl, rfl, rfl⟩

/-- **Table facts, decided on the generated tables**: every byte `String_Show` escapes is written as the reader's escape byte
    plus a letter that `String_Look` maps back to exactly that byte; the closing delimiter and the escape byte are themselves
    escaped by the writer (so a raw one never appears inside the text); they differ; both sides agree on the delimiters; and
    the reader's escape arm ends in `continue`. -/
theorem C15_tables : tablesOK srcCfg = true ∧ srcCfg.look.continues = true := by
  constructor
  · decide
  · rfl

/-- the `%%` branch of `scan_from_with` advances `pos` by what `"%%%n"` consumed (commit 619a9b3), not by a constant -/
theorem C15_pct_uses_n : srcCfg.pctUsesN = true := rfl

/-- **The integer branch of `scan_from_with`, decided on the arms extracted from the source** (commit 9114264): for each of the 54
    specifications `%[hh|h|l|ll|j|z|t|q][d|i|o|u|x|X]` the first arm whose test on `fmt_buf` holds has scanf store into an object of
    exactly the width libc writes for that modifier (`l j z t q` → the `long` itself, `hh` → `signed char`, `h` → `short`, none →
    `int`), a narrower object is a temporary that is then widened, and `sgn` is true exactly for `d` and `i`.
    Before the fix every specification was read into the `long`: this theorem then fails (`C15_int_width_old_refuted`). -/
theorem C15_int_arms : armsOK srcCfg = true := by decide

/-- the floating branch reads a `double` exactly when the specification has the `l` modifier, a `float` otherwise -/
theorem C15_float_arm : ∀ (l : Bool) (cv : FConv), fspecNarrow srcCfg l cv = !l := by
  intro l cv; cases l <;> cases cv <;> decide

/-- **C15 for String (T1).**  For every byte string `s` without NUL, every text `rest` that follows and every position counter:
    `String_Look` applied to what `String_Show` wrote for `s`, followed by `rest`, yields exactly `s`, leaves exactly `rest`
    unread, and advances the position by exactly the number of characters written. -/
theorem C15_string_roundtrip (s : List Nat) (hs : ∀ b ∈ s, b ≠ 0) (rest : List Nat) (pos : Nat) :
    let shown := showString srcCfg.showEsc srcCfg.showOpen srcCfg.showClose s
    lookString srcCfg.look (shown ++ rest) pos = (s, .ok (rest, pos + shown.length)) :=
  lookString_show srcCfg (tables_of_ok _ C15_tables.1) C15_tables.2 s hs rest pos

/-- **C15 for Int (T1).**  For every `int64_t` `n` and every following text that does not start with a digit (nor with `x`/`X`
    after a lone `0`, which `%li` would take for a hexadecimal prefix): the integer branch of `scan_from_with` for `%li` — what
    `Int_Look` calls — applied to what `%li` printed (`Int_Show`), followed by that text, yields `n` and leaves exactly that text unread. -/
theorem C15_int_roundtrip (n : Int) (hn : -(2 ^ 63 : Int) ≤ n ∧ n < 2 ^ 63) (rest : List Nat)
    (hd : ∀ b r, rest = b :: r → ¬(48 ≤ b ∧ b ≤ 57)) (hx : n = 0 → ∀ b r, rest = b :: r → b ≠ 120 ∧ b ≠ 88) :
    scanIntSpec srcCfg .l .i (printInt n ++ rest) = .ok (n, rest) := by
  have hn' := (inInt64_iff n).2 hn
  have hs : ispecSafe .l .i n rest = true := by
    simp only [ispecSafe, (headIs_isDigit_iff rest).2 hd, Bool.not_false, Bool.true_and, Bool.not_eq_true', Bool.and_eq_false_iff,
      beq_eq_false_iff_ne]
    by_cases h0 : n = 0
    · exact .inr ((headIs_false_iff _ _).2 fun b r h => by simp [isXx, hx h0 b r h])
    · exact .inl (by simp only [zext, IMod.width]; omega)
  rw [← printIntSpec_l_signed .i rfl n hn', scanIntSpec_print srcCfg (arms_of_ok _ C15_int_arms) .l .i n hn' rest hs, convInt_l .i n hn']

/-- the same for the numeric specification `%ld` (decimal only: a following `x` is harmless) -/
theorem C15_int_roundtrip_ld (n : Int) (hn : -(2 ^ 63 : Int) ≤ n ∧ n < 2 ^ 63) (rest : List Nat)
    (hd : ∀ b r, rest = b :: r → ¬(48 ≤ b ∧ b ≤ 57)) :
    scanIntSpec srcCfg .l .d (printIntSpec .l .d n ++ rest) = .ok (n, rest) := by
  have hn' := (inInt64_iff n).2 hn
  have hs : ispecSafe .l .d n rest = true := by simp only [ispecSafe, (headIs_isDigit_iff rest).2 hd, Bool.not_false]
  rw [scanIntSpec_print srcCfg (arms_of_ok _ C15_int_arms) .l .d n hn' rest hs, convInt_l .d n hn']

/-- **C15 for every integer specification (T1).**  For each length modifier `m ∈ {none, hh, h, l, ll, j, z, t, q}`, each conversion
    `cv ∈ {d, i, o, u, x, X}`, every `int64_t` `n` and every following text that does not continue the number (`ispecSafe`: no digit —
    for `x`/`X` no hexadecimal digit —, and no `x`/`X` after a lone `0` under `i x X`): the integer branch of `scan_from_with` for
    `%<m><cv>`, applied to what printf wrote for `n` under the same specification followed by that text, stores
    `convInt m cv n` — **C's conversion of `n` to the type the modifier names**: sign extension of the low 8 / 16 / 32 bits for `d`, `i`;
    the low 8 / 16 / 32 bits as an unsigned number for `o u x X`; `n` itself for the 64-bit modifiers (also under `o u x X`) — and
    leaves exactly that text unread. -/
theorem C15_intspec_roundtrip (m : IMod) (cv : IConv) (n : Int) (hn : inInt64 n = true) (rest : List Nat)
    (hs : ispecSafe m cv n rest = true) :
    scanIntSpec srcCfg m cv (printIntSpec m cv n ++ rest) = .ok (convInt m cv n, rest) :=
  scanIntSpec_print srcCfg (arms_of_ok _ C15_int_arms) m cv n hn rest hs

/-- … and on the range of the type the modifier names the conversion is the identity: the value written is the value read.
    `intInWidth`: every `int64_t` for `l ll j z t q`; [-2^(w-1), 2^(w-1)) for `d`, `i` and [0, 2^w) for `o u x X` with w = 8 (`hh`),
    16 (`h`), 32 (none). -/
theorem C15_intspec_in_width (m : IMod) (cv : IConv) (n : Int) (h : intInWidth m cv n = true) : convInt m cv n = n :=
  convInt_inWidth m cv n h

/-- the ranges, spelled out for the narrow modifiers -/
theorem C15_intspec_ranges (n : Int) :
    (intInWidth .hh .d n = true ↔ -128 ≤ n ∧ n < 128) ∧ (intInWidth .hh .x n = true ↔ 0 ≤ n ∧ n < 256) ∧
    (intInWidth .h .i n = true ↔ -32768 ≤ n ∧ n < 32768) ∧ (intInWidth .h .u n = true ↔ 0 ≤ n ∧ n < 65536) ∧
    (intInWidth .none .d n = true ↔ -2147483648 ≤ n ∧ n < 2147483648) ∧ (intInWidth .none .o n = true ↔ 0 ≤ n ∧ n < 4294967296) ∧
    (intInWidth .l .X n = true ↔ inInt64 n = true) ∧ (intInWidth .q .u n = true ↔ inInt64 n = true) := by
  simp only [intInWidth, IMod.width, IConv.signed]
  norm_num

/-- **C15 for sequences (T1), String and File alike, every start position.**  Let `its` be any sequence of Strings, Ints
    (shown with `%$` or with any of the 54 integer specifications), Floats (`%$`, or any of `%[l][f|F|e|E|g|G]`) and separators inside
    the contract (`contractOK`: NUL-free strings, 64-bit integers, finite doubles, separators — directive-free text or a literal
    `%%` —; a number is not followed by text that continues it; a separator read from a File that ends in white space is not followed
    by white space), written by `print_to_with` at the end of a sink holding any bytes `pre` (start position `pre.length`), and
    let any text `z` follow.  Then
    * the sink holds `pre` followed by exactly the concatenation of the items' texts and the writer returns the start
      position plus the number of characters written;
    * `scan_from_with` started at the same position stores, in order, `Item.readBack`: the String written; for an Int C's
      conversion of the value to the type its specification names (the value itself when it fits: `C15_sequence_values_exact`); for
      a Float the double — under a specification without `l`, the widened `float` — nearest to the text written
      (`reparseSpec`; how close that is: `C15_float_value`, `C15_float_items`);
    * it returns the same position the writer returned, and a File's stream has moved by exactly the characters written. -/
theorem C15_sequence_roundtrip (k : Kind) (pre : List Nat) (its : List Item) (z : List Nat)
    (hc : contractOK srcCfg k its z = true) :
    let text := its.flatMap (Item.text srcCfg)
    let inp : Input := { kind := k, text := pre ++ text ++ z, cur := pre.length }
    printItems srcCfg { kind := k, data := pre } pre.length its = ({ kind := k, data := pre ++ text }, pre.length + text.length) ∧
    scanItems srcCfg inp pre.length (its.map Item.shape)
      = (its.filterMap (Item.readBack srcCfg), .ok (inp.adv text.length, pre.length + text.length)) :=
  ⟨printItems_at_end srcCfg its { kind := k, data := pre },
   scanItems_text srcCfg (tables_of_ok _ C15_tables.1) C15_tables.2 C15_pct_uses_n (arms_of_ok _ C15_int_arms) its z _ _ hc
     (view_mk k pre _ z)⟩

/-- … and for sequences of Strings and Ints inside the property's quantifier (`inProperty`: the contract, and every Int is a value
    of the type its specification names) the values stored are exactly the values written -/
theorem C15_sequence_values_exact (k : Kind) (pre : List Nat) (its : List Item) (z : List Nat)
    (hc : inProperty srcCfg k its z = true) (hnf : ∀ it ∈ its, it.isFloat = false) :
    (scanItems srcCfg { kind := k, text := pre ++ its.flatMap (Item.text srcCfg) ++ z, cur := pre.length } pre.length
      (its.map Item.shape)).1 = its.filterMap Item.val? := by
  simp only [inProperty, Bool.and_eq_true, List.all_eq_true] at hc
  rw [(C15_sequence_roundtrip k pre its z hc.1).2,
    List.filterMap_congr fun it hit => readBack_eq_val srcCfg it (hnf it hit) (hc.2 it hit)]

/-- a File's stream after the read is at start + number of characters written; a String has no stream -/
theorem C15_file_stream_position (pre text z : List Nat) :
    (({ kind := .file, text := pre ++ text ++ z, cur := pre.length } : Input).adv text.length).cur = pre.length + text.length := by
  simp [Input.adv]

/-- **A value alone** (`show_to` / `look_from` of one String, Int or Float) at any start position of a String or a File,
    whatever follows it (for a number: anything that does not continue it): the value comes back (`readBack`: for a Float, the
    double nearest to the text written, which prints as the same text: `C15_float_value`) and the reader returns the position the
    writer returned. -/
theorem C15_single_value (k : Kind) (pre : List Nat) (v : Val) (z : List Nat)
    (hv : (Item.shw v).valid = true) (hs : (Item.shw v).safe k z = true) :
    let text := (Item.shw v).text srcCfg
    let inp : Input := { kind := k, text := pre ++ text ++ z, cur := pre.length }
    printItem srcCfg { kind := k, data := pre } pre.length (.shw v) = ({ kind := k, data := pre ++ text }, pre.length + text.length) ∧
    scanItem srcCfg inp pre.length (Item.shw v).shape = ((Item.shw v).readBack srcCfg, .ok (inp.adv text.length, pre.length + text.length)) :=
  ⟨printItem_at_end srcCfg { kind := k, data := pre } (.shw v),
   scanItem_text srcCfg (tables_of_ok _ C15_tables.1) C15_tables.2 C15_pct_uses_n (arms_of_ok _ C15_int_arms) (.shw v) z _ _ hv hs
     (view_mk k pre _ z)⟩

/-- facts about the two conversion-character sets, decided on the sets extracted from `scan_from_with` / `print_to_with`: both end
    a specification at `$` and at each of `d i o u x X f F e E g G`, and not at a length modifier (`h l j z t q`) or at `%` -/
theorem C15_conv_sets : convOK srcCfg.scanConv = true ∧ convOK srcCfg.printConv = true := by
  constructor <;> decide

/-- **Format strings (T2).**  The same round trip stated on the *format string*: for every sequence `its` inside the contract whose
    separators are non-empty, `%`-free and not adjacent, let `fmt` be the format text (`%$`, the integer and floating specifications,
    the separators verbatim).  `print_to_with(out, start, fmt, values)` — the scanner of print_to_with cutting `fmt` with its
    conversion set — writes exactly the items' texts, and `scan_from_with(input, start, fmt, targets)` with targets of the same
    types — the scanner of scan_from_with cutting `fmt` with *its* conversion set — stores the values `readBack` and returns the
    position the writer returned. -/
theorem C15_format_roundtrip (k : Kind) (pre : List Nat) (its : List Item) (z : List Nat)
    (hc : contractOK srcCfg k its z = true) (hf : fmtOK its = true)
    (targets : List Val) (ht : sameKinds (its.filterMap Item.val?) targets = true) :
    let fmt := its.flatMap Item.fmt
    let text := its.flatMap (Item.text srcCfg)
    let inp : Input := { kind := k, text := pre ++ text ++ z, cur := pre.length }
    printFmt srcCfg { kind := k, data := pre } pre.length fmt (its.filterMap Item.val?)
      = some ({ kind := k, data := pre ++ text }, pre.length + text.length) ∧
    scanFmt srcCfg inp pre.length fmt targets
      = some (its.filterMap (Item.readBack srcCfg), .ok (inp.adv text.length, pre.length + text.length)) := by
  have hseq := C15_sequence_roundtrip k pre its z hc
  exact ⟨(printFmt_render _ (convFacts_of_ok _ C15_conv_sets.2) its hf _ _).trans (congrArg some hseq.1),
    (scanFmt_render _ (convFacts_of_ok _ C15_conv_sets.1) its hf targets ht _ _).trans (congrArg some hseq.2)⟩

/-- the conversion set C14's theorems are stated over (`Fmt.cfgNow.conv`, extracted from `print_to_with` by C14's generator) is,
    character for character, the set this model cuts with (extracted by this engine's generator), and has what the bridge needs -/
theorem C15_C14_conv_agree :
    srcCfg.printConv.map Char.ofNat = Cello.Fmt.cfgNow.conv ∧ bridgeOK Cello.Fmt.cfgNow.conv = true := by
  constructor <;> decide

/-- **One segmentation, two models (the writer half of `C15_format_roundtrip` and C14).**  For every sequence `its` whose separators
    are non-empty, `%`-free, not adjacent and made of bytes 1…255: the scanner of this model (`segment`, byte lists) cuts the format
    text into `its.map Item.seg`; C14's parser (`Fmt.parseFmt`, about which `C14_checked_format` proves that `print_to_with` — the
    index-based model `Fmt.loop` with `fmt_buf` — makes one `format_to` per literal run and one dispatch per specification, in
    order, within the buffers) cuts the same characters into `its.map Item.fmtSeg`; and segment by segment the two are the same text. -/
theorem C15_C14_same_segmentation (its : List Item) (hf : fmtOK its = true)
    (hb : ∀ t, Item.lit t ∈ its → ∀ b ∈ t, b ≠ 0 ∧ b < 256) :
    segment srcCfg.printConv (its.flatMap Item.fmt) = its.map Item.seg ∧
    Cello.Fmt.parseFmt Cello.Fmt.cfgNow.conv (toStr (its.flatMap Item.fmt)) = some (its.map Item.fmtSeg) ∧
    ∀ it ∈ its, it.fmtSeg.text = toStr it.fmt :=
  ⟨segment_render _ (convFacts_of_ok _ C15_conv_sets.2) its hf,
   bridge_parse _ C15_C14_conv_agree.2 its hf hb,
   fun it _ => fmtSeg_text it⟩

/-- **Float, position part (T1).**  For every floating specification `%[l]<cv>`, `cv ∈ {f F e E g G}`, every finite double and
    every following text that does not continue the number (`fspecSafe`: no digit, no `e`/`E`; after `%g`/`%G` also no `.` and no
    `x`/`X`): the floating conversion of scanf — into a `double` (`narrow = false`) or into a `float` (`narrow = true`) alike —
    applied to what printf wrote consumes exactly that text, and the value it stores does not depend on what follows.
    (`_hfin`: for a non-finite pattern `printFloatSpec` is not what C prints — `inf`, `nan` —; the statement is about finite doubles.) -/
theorem C15_float_consumed (narrow : Bool) (cv : FConv) (bits : Nat) (_hfin : fFinite bits = true) (rest : List Nat)
    (hs : fspecSafe cv rest = true) :
    scanFloating narrow (printFloatSpec cv bits ++ rest) = .ok (reparseSpec narrow cv bits, rest) :=
  scanFloating_print narrow cv bits rest hs

/-- **Float, value part (T1) — "equal to within the printed precision".**  For every finite double: the double that scanf's `%lf`
    reads back from the six-decimal text printf's `%f` wrote (the pair `Float_Show` / `Float_Look` uses, and `%lf` / `%lF` in a
    format) prints as the same six-decimal text.  Both conversions are exact functions of the model (`printF`: the binary value
    rounded half-even to six decimals; `scanFloating`: the decimal rounded half-even to 53 bits, subnormals and overflow
    included), so this is arithmetic: the double read back is at least as close to the printed decimal as the double written
    (`roundRat_ok`), hence rounds to the same six decimals (`reread`, `Rhe.of_nearer`). -/
theorem C15_float_value (bits : Nat) (h : fFinite bits = true) : printF (reparse bits) = printF bits :=
  printF_reparse false bits h nofun

/-- … numerically: the double read back has the same sign, is finite, and differs from the double written by at most 10⁻⁶ (both
    are within half a unit of the sixth decimal of the text) -/
theorem C15_float_within (bits : Nat) (h : fFinite bits = true) :
    (fDecode (reparse bits)).1 = (fDecode bits).1 ∧ fFinite (reparse bits) = true ∧
    |val (fDecode (reparse bits)).2.1 (fDecode (reparse bits)).2.2 - val (fDecode bits).2.1 (fDecode bits).2.2| ≤ 1 / 10 ^ 6 :=
  reparseF_within false bits h nofun

/-- the Float value clause as a proposition (`C15_float_value` proves it) -/
def C15_float_value_statement : Prop := ∀ bits, fFinite bits = true → printF (reparse bits) = printF bits

theorem C15_float_value_statement_holds : C15_float_value_statement := C15_float_value

/-- **Known finding KF-C15-float-spec-narrow, the part that stands (`_partial`).**  A floating specification without the `l`
    modifier makes `scan_from_with` store through a `float` (`C15_float_arm`).  For every finite double that is the value of a
    `float` (`isFloat32`), what `%f` / `%F` wrote is read back — nearest `float` to the text (`strtof`), widened — as a double that
    prints as the same six-decimal text, has the same sign, is finite and differs from the value written by at most 10⁻⁶. -/
theorem C15_float_narrow_partial (bits : Nat) (h : fFinite bits = true) (h32 : isFloat32 bits = true) :
    printF (reparseSpec true .f bits) = printF bits ∧
    (fDecode (reparseSpec true .f bits)).1 = (fDecode bits).1 ∧ fFinite (reparseSpec true .f bits) = true ∧
    |val (fDecode (reparseSpec true .f bits)).2.1 (fDecode (reparseSpec true .f bits)).2.2
        - val (fDecode bits).2.1 (fDecode bits).2.2| ≤ 1 / 10 ^ 6 :=
  ⟨printF_reparse true bits h fun _ => h32, reparseF_within true bits h fun _ => h32⟩

/-- the full statement for the `float` destination — what the property asks of `%f` without `l` for *every* finite double.
    It is false: `C15_float_narrow_refuted`. -/
def C15_float_narrow_statement : Prop := ∀ bits, fFinite bits = true → printF (reparseSpec true .f bits) = printF bits

/-- **Float items of a sequence**: for a Float shown with `%$` or written with `%lf` / `%lF` / `%f` / `%F` inside the property's
    quantifier (finite; under a specification without `l`: the value of a `float`), the value `scan_from_with` stores
    (`readBack`, by `C15_sequence_roundtrip`) prints as the six-decimal text that was written. -/
theorem C15_float_items (it : Item) (b : Nat) (hv : it.valid = true) (hw : it.inWidth srcCfg = true)
    (hit : it = .shw (.flt b) ∨ ∃ l, it = .fspec l .f b ∨ it = .fspec l .F b) :
    ∃ v, it.readBack srcCfg = some (.flt v) ∧ printF v = printF b := by
  have hF : ∀ narrow bits, reparseSpec narrow .F bits = reparseSpec narrow .f bits := by
    intro narrow bits; simp [reparseSpec, printFloatSpec]
  -- read into a `double` under `l`; into a `float` otherwise, and then `inWidth` says the value is one
  rcases hit with rfl | ⟨l, rfl | rfl⟩
  · exact ⟨_, rfl, printF_reparse _ b hv fun h => by rw [C15_float_arm] at h; cases h⟩
  · exact ⟨_, rfl, printF_reparse _ b hv fun h => by simpa [Item.inWidth, h] using hw⟩
  · exact ⟨_, rfl, by rw [hF]; exact printF_reparse _ b hv fun h => by simpa [Item.inWidth, h] using hw⟩

/-- **Float under `%le` / `%lE`, value part (T2, numeric form).**  For every finite double: what `%e` / `%E` wrote — seven significant
    digits, correctly rounded (`printE`) — is read back by `%le` / `%lE` as a finite double of the same sign that differs from the
    double written by at most one millionth of it, i.e. by at most one unit of the seventh significant digit: it is at least as
    close to the seven-digit decimal as the double written (`reread`), which is within half a unit of that digit. -/
theorem C15_float_e_within (upper : Bool) (bits : Nat) (h : fFinite bits = true) :
    (fDecode (reparseSpec false (if upper then .E else .e) bits)).1 = (fDecode bits).1 ∧
    fFinite (reparseSpec false (if upper then .E else .e) bits) = true ∧
    |val (fDecode (reparseSpec false (if upper then .E else .e) bits)).2.1 (fDecode (reparseSpec false (if upper then .E else .e) bits)).2.2
        - val (fDecode bits).2.1 (fDecode bits).2.2| ≤ val (fDecode bits).2.1 (fDecode bits).2.2 / 10 ^ 6 :=
  reparseE_within false upper bits h nofun

/-- **Float under `%e` / `%E` *without* `l`, value part, for `float` values (`_partial` of KF-C15-float-spec-narrow).**
    `scan_from_with` stores through a `float` (`C15_float_arm`).  For every finite double that is the value of a `float` (`isFloat32`
    — exactly the complement of the finding's territory): what `%e` / `%E` wrote is read back — nearest `float` to the seven-digit
    text (`strtof`), widened — as a finite double of the same sign that differs from the value written by at most one millionth of
    it.  (No overflow: from 10^38 on the decimal is a multiple of 10^32, and the largest one within half a unit of FLT_MAX,
    3402823·10^32, is below FLT_MAX.) -/
theorem C15_float_e_narrow_partial (upper : Bool) (bits : Nat) (h : fFinite bits = true) (h32 : isFloat32 bits = true) :
    (fDecode (reparseSpec true (if upper then .E else .e) bits)).1 = (fDecode bits).1 ∧
    fFinite (reparseSpec true (if upper then .E else .e) bits) = true ∧
    |val (fDecode (reparseSpec true (if upper then .E else .e) bits)).2.1 (fDecode (reparseSpec true (if upper then .E else .e) bits)).2.2
        - val (fDecode bits).2.1 (fDecode bits).2.2| ≤ val (fDecode bits).2.1 (fDecode bits).2.2 / 10 ^ 6 :=
  reparseE_within true upper bits h fun _ => h32

/-- … and outside `isFloat32` it fails (the finding): 1.5e300 written with `%e` is `1.500000e+300`, read through a `float`: +infinity -/
example : printFloatSpec .e 0x7E41EB2D66005835 = [49, 46, 53, 48, 48, 48, 48, 48, 101, 43, 51, 48, 48] ∧
    scanFloating true [49, 46, 53, 48, 48, 48, 48, 48, 101, 43, 51, 48, 48] = .ok (0x7FF0000000000000, []) := by
  have hd : fDecode 0x7E41EB2D66005835 = (false, 5043654821435445, 945) := by decide
  have hf : fFrac 5043654821435445 945 = (5043654821435445 * 2 ^ 945, 1) := by simp [fFrac]
  -- `natDigits` is a well-founded recursion: `decide` does not unfold it; the kernel does (`decide +kernel`, as for the short numbers
  -- of the witnesses below), at a cost that grows with the square of the number of digits: the 301 digits of this value are
  -- counted by their bounds
  have hl : (natDigits (5043654821435445 * 2 ^ 945)).length = 301 := natDigits_length_eq _ 301 (by decide +kernel) (by decide +kernel)
  have hs : sciDigits 6 (5043654821435445 * 2 ^ 945) 1 = (1500000, 300) := by
    simp only [sciDigits, floorLog10, hl, natDigits_lt10 1 (by decide)]
    decide +kernel
  constructor
  · simp only [printFloatSpec, printE, hd, hf, hs]
    decide +kernel
  · decide +kernel

/-- **Float under `%e` `%E` `%g` `%G`: text stability — NOT proved.**  The consumed length and the position are proved for these
    specifications (`C15_float_consumed`, `C15_sequence_roundtrip`), and for `%le` / `%lE` (every finite double) and `%e` / `%E`
    (`float` values) the numeric closeness (`C15_float_e_within`, `C15_float_e_narrow_partial`).  For `%g` / `%G` there is NO value
    theorem (the text has three styles and stripped zeros; its decimal value has not been related to `sciDigits 5`).  That the
    double read back prints as the *same text* under the same specification (the form in which `C15_float_value` states "within
    the printed precision" for `%f`) is stated here for all six conversions; it is evaluated by the driver on every such item it
    sees (`M rt=`) and checked by the harness oracle with libc, but the stability argument (`reread`: the number read back rounds
    to the same digits at the unit of the value written) has not been carried over to a scale that depends on the value read back
    (decade boundaries, the subnormal range), nor to the three text styles of `%g`. -/
def C15_float_sci_statement : Prop :=
  ∀ (cv : FConv) (bits : Nat), fFinite bits = true → printFloatSpec cv (reparseSpec false cv bits) = printFloatSpec cv bits

/-- **Several calls.**  Writing a sequence with several `print_to_with` calls, each continuing at the position the
    previous one returned, is writing it with one; reading it with several `scan_from_with` calls is reading it with one (a call
    that raises ends the reading: the later targets keep their values).  So `C15_sequence_roundtrip` also speaks about a text
    written by one call and read by several, and the reverse (harness modes `split` / `join`). -/
theorem C15_calls_compose (c : Cfg) (a b : List Item) (o : Sink) (pos : Nat) (i : Input) :
    printItems c o pos (a ++ b) = printItems c (printItems c o pos a).1 (printItems c o pos a).2 b ∧
    scanItems c i pos (a.map Item.shape ++ b.map Item.shape) =
      (match scanItems c i pos (a.map Item.shape) with
       | (va, .ok (i', p')) => (va ++ (scanItems c i' p' (b.map Item.shape)).1, (scanItems c i' p' (b.map Item.shape)).2)
       | (va, .raised e) => (va ++ (b.map Item.shape).filterMap sentinel, .raised e)
       | (va, .ub) => (va ++ (b.map Item.shape).filterMap sentinel, .ub)
       | (va, .unmodelled) => (va ++ (b.map Item.shape).filterMap sentinel, .unmodelled)) := by
  constructor
  · induction a generalizing o pos with
    | nil => simp [printItems]
    | cons it its ih => simp only [List.cons_append, printItems]; exact ih _ _
  · generalize a.map Item.shape = sa
    generalize b.map Item.shape = sb
    induction sa generalizing i pos with
    | nil => simp only [List.nil_append, scanItems]
    | cons s ss ih =>
      simp only [List.cons_append, scanItems]
      rcases hs : scanItem c i pos s with ⟨v, r⟩
      cases r with
      | ok ip =>
        obtain ⟨i', p'⟩ := ip
        simp only [ih p' i']
        rcases hr : scanItems c i' p' ss with ⟨va, ra⟩
        cases ra with
        | ok ip2 => obtain ⟨i2, p2⟩ := ip2; simp [List.append_assoc]
        | raised e => simp [List.append_assoc]
        | ub => simp [List.append_assoc]
        | unmodelled => simp [List.append_assoc]
      | raised e => simp [List.filterMap_append, List.append_assoc]
      | ub => simp [List.filterMap_append, List.append_assoc]
      | unmodelled => simp [List.filterMap_append, List.append_assoc]

/-- the full statement "a read releases what it allocated" — false: `C15_scan_leak_refuted` -/
def C15_scan_releases_buffer_statement : Prop := ∀ (i : Input) (pos : Nat) (sh : Shape), scanLeak srcCfg i pos sh = 0

/-- **Proposed finding KF-C15-scan-fmtbuf-leak (`_refuted`).**  `scan_from_with` frees `fmt_buf` only before its normal
    `return`: a read that raises leaves `strlen(fmt) + 4` bytes allocated — 7 for `look_from` of an Int on `abc` (`"%li"`), 6 for
    `look_from` of a String on the unterminated text `"ab` (the `"%c"` call that meets the end of the input), 8 for `%hhd` on `x`;
    nothing when `String_Look` itself throws between two reads (`xyz`: no opening quote). -/
theorem C15_scan_leak_refuted :
    ¬ C15_scan_releases_buffer_statement ∧
    scanItem srcCfg { kind := .str, text := [97, 98, 99], cur := 0 } 0 .int = (some (.int 77), .raised .FormatError) ∧
    scanLeak srcCfg { kind := .str, text := [97, 98, 99], cur := 0 } 0 .int = 7 ∧
    scanLeak srcCfg { kind := .str, text := [34, 97, 98], cur := 0 } 0 .str = 6 ∧
    scanLeak srcCfg { kind := .file, text := [120], cur := 0 } 0 (.ispec .hh .d) = 8 ∧
    scanLeak srcCfg { kind := .str, text := [120, 121, 122], cur := 0 } 0 .str = 0 := by
  refine ⟨fun h => absurd (h { kind := .str, text := [97, 98, 99], cur := 0 } 0 .int) (by decide), by decide, by decide, by decide,
    by decide, by decide⟩

/-- **… the part that stands (`_partial`): a read that succeeds releases the buffer** — in particular `look_from` of a value alone
    inside the round trip's quantifier (`C15_roundtrip_no_leak`: the read of `C15_single_value`) -/
theorem C15_scan_leak_partial (c : Cfg) (i : Input) (pos : Nat) (sh : Shape) (v : Option Val) (i' : Input) (p' : Nat)
    (h : scanItem c i pos sh = (v, .ok (i', p'))) : scanLeak c i pos sh = 0 := by
  simp [scanLeak, h]

theorem C15_roundtrip_no_leak (k : Kind) (pre : List Nat) (v : Val) (z : List Nat)
    (hv : (Item.shw v).valid = true) (hs : (Item.shw v).safe k z = true) :
    scanLeak srcCfg { kind := k, text := pre ++ (Item.shw v).text srcCfg ++ z, cur := pre.length } pre.length (Item.shw v).shape = 0 :=
  C15_scan_leak_partial _ _ _ _ _ _ _ (C15_single_value k pre v z hv hs).2

/-- the full statement "a read that fails leaves its target as it was" (what C12 asks of every operation) — false for a String target -/
def C15_failed_look_keeps_target_statement : Prop :=
  ∀ (i : Input) (pos : Nat) (v : Option Val) (e : Exc), scanItem srcCfg i pos .str = (v, .raised e) → v = sentinel .str

/-- **Proposed finding KF-C15-look-clobbers-target (`_refuted`).**  `String_Look` begins with `String_Clear(self)` and
    appends while it reads: `look_from(s, input, 0)` on the unterminated text `"ab` raises FormatError with `s` = `ab`, on `xyz` (no
    opening quote) with `s` emptied — the previous value (`?`, the harness's sentinel) is gone in both cases. -/
theorem C15_failed_look_clobbers_refuted :
    ¬ C15_failed_look_keeps_target_statement ∧
    scanItem srcCfg { kind := .str, text := [34, 97, 98], cur := 0 } 0 .str = (some (.str [97, 98]), .raised .FormatError) ∧
    scanItem srcCfg { kind := .str, text := [120, 121, 122], cur := 0 } 0 .str = (some (.str []), .raised .FormatError) := by
  refine ⟨fun h => ?_, by decide, by decide⟩
  have := h { kind := .str, text := [34, 97, 98], cur := 0 } 0 (some (.str [97, 98])) .FormatError (by decide)
  revert this; decide

/-- … an Int or Float target keeps its value when the read fails (scanf stores nothing, `assign` is not reached) -/
example : scanItem srcCfg { kind := .str, text := [97, 98, 99], cur := 0 } 0 .flt = (some (.flt 0x401E000000000000), .raised .FormatError) := by
  decide

/-- **A field width or the `0` flag inside a specification is outside the round trip — exhibited.**  The property
    theorems speak about specifications without flags, width or precision (`Item.ispec`).  With them the same format string does
    *not* read back what it wrote, by the rules of scanf, not by a defect of Cello: `%08li` writes −42 as `-0000042` and reads −34
    (`%i` takes the padding for an octal prefix); `%5li` writes 1234567 in full and reads 12345, leaving `67` unread. -/
theorem C15_width_refuted :
    printIntSpecW true 8 .l .i (-42) = [45, 48, 48, 48, 48, 48, 52, 50] ∧
    scanIntSpecW srcCfg true 8 .l .i [45, 48, 48, 48, 48, 48, 52, 50] = .ok (-34, []) ∧
    printIntSpecW false 5 .l .i 1234567 = [49, 50, 51, 52, 53, 54, 55] ∧
    scanIntSpecW srcCfg false 5 .l .i [49, 50, 51, 52, 53, 54, 55] = .ok (12345, [54, 55]) ∧
    widthSafe true 8 .l .i (-42) = false ∧ widthSafe false 5 .l .i 1234567 = false := by
  decide +kernel

/-- **Harmless widths — NOT proved.**  When the width is at least the length of the text written and no zero is padded in front of a
    number read with `%i` (`widthSafe`), the specification with the width reads back what the one without it does.  Checked by the
    harness oracle on every generated `W` op with such a width (sig C15-value-int-width) and evaluated by the driver; the proof
    (white space skipped, `take w` of text + safe rest) has not been carried out. -/
def C15_width_safe_statement : Prop :=
  ∀ (zero : Bool) (w : Nat) (m : IMod) (cv : IConv) (n : Int) (rest : List Nat), inInt64 n = true → ispecSafe m cv n rest = true →
    widthSafe zero w m cv n = true →
    scanIntSpecW srcCfg zero w m cv (printIntSpecW zero w m cv n ++ rest) = .ok (convInt m cv n, rest)

/-- two instances of it: `%5li` of 42 followed by `;`, `%04lx` of 255 -/
example :
    scanIntSpecW srcCfg false 5 .l .i ([32, 32, 32, 52, 50] ++ [59]) = .ok (42, [59]) ∧
    scanIntSpecW srcCfg true 4 .l .x [48, 48, 102, 102] = .ok (255, []) := by
  decide +kernel

/-- a sequence with quotes, a backslash, a newline, a negative number, separators with white space, read from a File, is in the
    property's quantifier; and what the writer produces for it is the expected text -/
example :
    let its : List Item := [.shw (.str [10, 34, 92, 255]), .lit [44, 32], .li (-42), .lit [32], .shw (.int 0), .lit [59], .ld 7]
    inProperty srcCfg .file its [120] = true ∧ (∀ it ∈ its, it.isFloat = false) ∧
    its.flatMap (Item.text srcCfg) = [34, 92, 110, 92, 34, 92, 92, 255, 34, 44, 32, 45, 52, 50, 32, 48, 59, 55] := by
  decide +kernel

/-- narrow and unsigned integer specifications with values of their types, a `float` value under `%f` and a double under `%lf`:
    inside the property's quantifier, with the expected text `-5,ff 65535;1.500000 -100.000000` -/
example :
    let its : List Item := [.ispec .hh .d (-5), .lit [44], .ispec .none .x 255, .lit [32], .ispec .h .u 65535, .lit [59],
      .fspec false .f 0x3FF8000000000000, .lit [32], .lf 0xC059000000000000]
    inProperty srcCfg .str its [] = true ∧ fmtOK its = true ∧
    its.flatMap (Item.text srcCfg) = [45, 53, 44, 102, 102, 32, 54, 53, 53, 51, 53, 59, 49, 46, 53, 48, 48, 48, 48, 48, 32,
      45, 49, 48, 48, 46, 48, 48, 48, 48, 48, 48] ∧
    its.flatMap Item.fmt = [37, 104, 104, 100, 44, 37, 120, 32, 37, 104, 117, 59, 37, 102, 32, 37, 108, 102] := by
  decide +kernel

/-- a sequence with a Float (1.5) and numeric specifications is in the contract, its separators meet `fmtOK`, the targets the
    harness uses have the same types, and the scanner of `scan_from_with` cuts its format `%$ %ld,%lf` as expected -/
example :
    let its : List Item := [.shw (.flt 0x3FF8000000000000), .lit [32], .ld 7, .lit [44], .lf 0xC059000000000000]
    fmtOK its = true ∧
    sameKinds (its.filterMap Item.val?) [.flt 0x401E000000000000, .int 77, .flt 0x401E000000000000] = true ∧
    segment srcCfg.scanConv (its.flatMap Item.fmt)
      = [.spec [37, 36], .lit [32], .spec [37, 108, 100], .lit [44], .spec [37, 108, 102]] := by
  refine ⟨by decide, by decide, by decide⟩

/-- the hypotheses of the String theorem are met by a string of quotes, backslashes and control characters -/
example : ∀ b ∈ [34, 92, 10, 7, 39, 63, 255, 1], b ≠ 0 := by decide

/-- the hypotheses of the Float theorems are met: 1.5 and 16777216 are `float` values, 123456789.123456 and 0.1 are finite doubles
    that are not -/
example : fFinite 0x3FF8000000000000 = true ∧ isFloat32 0x3FF8000000000000 = true ∧ isFloat32 0x4170000000000000 = true ∧
    fFinite 0x419D6F34547E6B40 = true ∧ isFloat32 0x419D6F34547E6B40 = false ∧ isFloat32 0x3FB999999999999A = false := by
  decide

/-- **The pre-fix reader (before d6bdde9) is refuted**: with the escape arm falling through (`continues := false`), the text
    `String_Show` writes for the one-character string "\n" is read back as "\nn". -/
theorem C15_look_refuted_prefix :
    lookString { srcCfg.look with continues := false } (showString srcCfg.showEsc srcCfg.showOpen srcCfg.showClose [10]) 0
      = ([10, 110], .ok ([], 4)) := by decide

/-- the same input with the reader as it is now -/
example : lookString srcCfg.look (showString srcCfg.showEsc srcCfg.showOpen srcCfg.showClose [10]) 0 = ([10], .ok ([], 4)) := by
  decide

/-- **The pre-fix `%%` branch (before 619a9b3, constant advance 2) is refuted**: `print_to(s, 0, "%li%%%li", 1, 2)` writes `1%2`
    (3 characters); scanning the same format from that String added 2 to `pos` for the single `%`, read the second number at
    position 3 (the end) and threw FormatError; from a File it read both numbers but returned position 4. -/
theorem C15_pct_refuted :
    let old : Cfg := { srcCfg with pctUsesN := false, pctAdvance := 2 }
    scanItems old { kind := .str, text := [49, 37, 50], cur := 0 } 0 [.li, .pct, .li] = ([.int 1, .int 77], .raised .FormatError) ∧
    scanItems old { kind := .file, text := [49, 37, 50], cur := 0 } 0 [.li, .pct, .li]
      = ([.int 1, .int 2], .ok ({ kind := .file, text := [49, 37, 50], cur := 3 }, 4)) := by
  constructor <;> decide

/-- the same inputs with the scanner as it is now: both numbers, position 3, stream at 3 -/
example :
    scanItems srcCfg { kind := .str, text := [49, 37, 50], cur := 0 } 0 [.li, .pct, .li]
      = ([.int 1, .int 2], .ok ({ kind := .str, text := [49, 37, 50], cur := 0 }, 3)) ∧
    scanItems srcCfg { kind := .file, text := [49, 37, 50], cur := 0 } 0 [.li, .pct, .li]
      = ([.int 1, .int 2], .ok ({ kind := .file, text := [49, 37, 50], cur := 3 }, 3)) := by
  constructor <;> decide

/-- … and `1%2` is what the writer produces for that sequence -/
example : (printItems srcCfg { kind := .str, data := [] } 0 [.li 1, .pct, .li 2]) = ({ kind := .str, data := [49, 37, 50] }, 3) := by
  decide +kernel

/-- **The pre-fix integer branch (before 9114264: every specification read into `long tmp = 0` itself) is refuted.**  With the
    single old arm the width facts fail; printf writes `-5` for the Int −5 under `%d`, `%hd` and `%hhd`; scanf then stored an
    `int` / `short` / `char` into the low bytes of the zeroed `long` and nothing widened it: −5 came back as 4294967291, 65531
    and 251 (under `%ld` as −5).  (That −1 written with `%x`, `ffffffff`, comes back as 4294967295 is no such defect — the
    example below has it with the branch as it is now —: the specification names `unsigned int`, and that is C's conversion
    of −1 to it.) -/
theorem C15_int_width_old_refuted :
    let old : Cfg := { srcCfg with intArms := oldIntArms, intSigned := [] }
    armsOK old = false ∧
    printIntSpec .none .d (-5) = [45, 53] ∧ printIntSpec .h .d (-5) = [45, 53] ∧ printIntSpec .hh .d (-5) = [45, 53] ∧
    scanIntSpec old .none .d [45, 53] = .ok (4294967291, []) ∧
    scanIntSpec old .h .d [45, 53] = .ok (65531, []) ∧
    scanIntSpec old .hh .d [45, 53] = .ok (251, []) ∧
    scanIntSpec old .l .d [45, 53] = .ok (-5, []) := by
  decide +kernel

/-- the same texts with the branch as it is now: −5 under each width -/
example :
    scanIntSpec srcCfg .none .d [45, 53] = .ok (-5, []) ∧ scanIntSpec srcCfg .h .d [45, 53] = .ok (-5, []) ∧
    scanIntSpec srcCfg .hh .d [45, 53] = .ok (-5, []) ∧
    scanIntSpec srcCfg .none .x [102, 102, 102, 102, 102, 102, 102, 102] = .ok (4294967295, []) ∧
    convInt .none .x (-1) = 4294967295 := by
  refine ⟨by decide, by decide, by decide, by decide, by decide⟩

/-- **Known finding KF-C15-float-spec-narrow is a violation in the model (`_refuted`).**  The full statement for a `float`
    destination is false: the finite double 123456789.123456 (0x419D6F34547E6B40) written with `%f` is `123456789.123456`; read with
    `%f` (no `l`) scan_from_with stores the nearest `float`, 123456792.0 (0x419D6F3460000000), which prints as another text.
    And 1.5e300 (0x7E41EB2D66005835) comes back as +infinity. -/
theorem C15_float_narrow_refuted :
    ¬ C15_float_narrow_statement ∧
    reparseSpec true .f 0x419D6F34547E6B40 = 0x419D6F3460000000 ∧
    reparseSpec true .f 0x7E41EB2D66005835 = 0x7FF0000000000000 ∧ fFinite 0x7FF0000000000000 = false := by
  have h1 : reparseSpec true .f 0x419D6F34547E6B40 = 0x419D6F3460000000 := by
    rw [reparseSpec_f_eq true _ (by decide)]; decide +kernel
  have h2 : reparseSpec true .f 0x7E41EB2D66005835 = 0x7FF0000000000000 := by
    rw [reparseSpec_f_eq true _ (by decide)]; decide +kernel
  refine ⟨fun hst => ?_, h1, h2, by decide⟩
  have := hst 0x419D6F34547E6B40 (by decide)
  rw [h1] at this
  revert this
  decide +kernel

/-- the same two doubles through `%lf`: read back exactly (they are doubles) -/
example : reparse 0x419D6F34547E6B40 = 0x419D6F34547E6B40 ∧ reparse 0x7E41EB2D66005835 = 0x7E41EB2D66005835 := by
  constructor <;> (unfold reparse; rw [reparseSpec_f_eq false _ (by decide)]; decide +kernel)

/-- … and the `float` value 1.5 through `%f`: read back exactly -/
example : reparseSpec true .f 0x3FF8000000000000 = 0x3FF8000000000000 := by
  rw [reparseSpec_f_eq true _ (by decide)]; decide +kernel

/-- out of contract on purpose: a number directly followed by a digit is read as a longer number -/
example : scanIntSpec srcCfg .l .i [49, 50, 51, 52] = .ok (1234, []) := by decide

/-- out of contract on purpose: `0` followed by `x` is taken for a hexadecimal prefix -/
example : scanIntSpec srcCfg .l .i ([48] ++ [120, 44]) = .ok (0, [44]) := by decide

/-- **What the translator extracts about the scanners is what the byte-level model assumes, decided on the extracted data**
    (`srcLike`): the `%$` branch of `scan_from_with` ASSIGNS what `look_from` returns (an absolute position — `pos = look_from(…)`, not
    `pos += …`), the integer and the floating branch ADD the `%n` count, the literal branch READS the run from the input
    (`format_from(input, pos, fmt_buf)`: a File moves only by being read) and adds its length; `print_to_with` assigns what `show_to`
    returns; `<type> tmp` of the `%c` branch and `<type>* v` of String_Show are (signed) 8-bit objects; the four formats of src/Num.c
    are cut by the two scanners into ONE specification each — `%li` for Int_Show and Int_Look, `%f` for Float_Show, `%lf` for
    Float_Look —; the delimiters and case labels of String_Show / String_Look are ASCII, and the texts String_Show writes are bytes.
    A change of any of these (seeds c15_d / c15_k: `off = look_from(…)`; c15_f / c15_j: the literal is not read) makes this fail. -/
theorem C15_scan_branches : srcLike srcX = true ∧ showTextsOK srcCfg = true := by
  constructor <;> decide

/-- **The character path (full byte range).**  A byte of a String is a C `char`, signed on x86-64.  String_Look sees it as
    `c_int(chr)` after the `%c` branch of scan_from_with stored it into `<scanCharTy> tmp` and handed on `$I(tmp)` — for a byte
    ≥ 128 the negative number `b − 256` — compares that `int` with the delimiters and case labels and stores `(char)c_int(chr)`;
    String_Show switches on `*v` and prints `$I(*v)` with `%c`.  With the types extracted from the source this typed reader and
    writer agree with the byte-level ones on every input made of bytes, and the conversions restore every byte. -/
theorem C15_char_path (l : List Nat) (hl : ∀ b ∈ l, b < 256) (pos : Nat) (b : Nat) (hb : b < 256) :
    lookStringC srcX.chrTy srcCfg.look l pos = lookString srcCfg.look l pos ∧
    showByteC srcX.showTy srcCfg.showEsc b = showByte srcCfg.showEsc b ∧
    byteOf (cObjVal srcX.chrTy b) = b ∧ (128 ≤ b → cObjVal srcX.chrTy b = (b : Int) - 256) := by
  have S := srcLike_of_ok srcX C15_scan_branches.1
  have e1 : srcX.chrTy = (true, 8) := S.chrTy
  have e2 : srcX.showTy = (true, 8) := S.showTy
  rw [e1, e2]
  refine ⟨lookStringC_eq _ S.opn S.cls S.escb S.lookKeys l hl pos, showByteC_eq _ S.showKeys b hb, byteOf_cObjVal b hb, ?_⟩
  intro h; rw [cObjVal_s8 b hb]; split <;> omega

/-- **C15 for String on the typed character path**: for every NUL-free byte string (all 255 byte values), every following bytes and
    every position counter, the `char`-typed String_Look reads back from what the `char`-typed String_Show wrote exactly the string,
    leaves exactly the rest and advances by exactly the characters written. -/
theorem C15_string_roundtrip_chars (s : List Nat) (hs : ∀ b ∈ s, b ≠ 0 ∧ b < 256) (rest : List Nat) (hr : ∀ b ∈ rest, b < 256) (pos : Nat) :
    let shown := srcCfg.showOpen ++ s.flatMap (showByteC srcX.showTy srcCfg.showEsc) ++ srcCfg.showClose
    lookStringC srcX.chrTy srcCfg.look (shown ++ rest) pos = (s, .ok (rest, pos + shown.length)) := by
  intro shown
  have S := srcLike_of_ok srcX C15_scan_branches.1
  have hsb : Bytes s := fun b hb => (hs b hb).2
  have e : shown = showString srcCfg.showEsc srcCfg.showOpen srcCfg.showClose s := by
    have h := showStringC_eq srcCfg.showEsc S.showKeys srcCfg.showOpen srcCfg.showClose s hsb
    have e2 : srcX.showTy = (true, 8) := S.showTy
    show srcCfg.showOpen ++ s.flatMap (showByteC srcX.showTy srcCfg.showEsc) ++ srcCfg.showClose = _
    rw [e2]; exact h
  have hshown : Bytes shown := e ▸ showString_bytes srcCfg C15_scan_branches.2 s hsb
  rw [(C15_char_path (shown ++ rest) (bytes_append hshown hr) pos 0 (by omega)).1, e]
  exact C15_string_roundtrip s (fun b hb => (hs b hb).1) rest pos

/-- **C15 for sequences on the model parametrised by the extracted branches** (`printItemsX` / `scanItemsX` at `srcX`: what the driver
    runs).  `%$` goes through `show_to` / `look_from` → the Show instance → for Int and Float ONE print_to / scan_from with the format
    of Num.c, cut by the scanners; the position the callee returns is placed as the extracted rule says; literals read the input
    iff the source does.  For every sequence inside the contract whose Strings and separators are bytes, after any bytes `pre`,
    followed by any bytes `z`: the writer appends exactly the items' texts and returns start + length; the reader stores `readBack`
    and returns the same position, and a File's stream has moved by exactly the characters written. -/
theorem C15_sequence_roundtrip_source (k : Kind) (pre : List Nat) (its : List Item) (z : List Nat)
    (hc : contractOK srcCfg k its z = true) (hpre : ∀ b ∈ pre, b < 256) (hz : ∀ b ∈ z, b < 256) (hown : ∀ it ∈ its, it.ownBytes) :
    let text := its.flatMap (Item.text srcCfg)
    let inp : Input := { kind := k, text := pre ++ text ++ z, cur := pre.length }
    printItemsX srcX { kind := k, data := pre } pre.length its = some ({ kind := k, data := pre ++ text }, pre.length + text.length) ∧
    scanItemsX srcX inp pre.length (its.map Item.shape)
      = (its.filterMap (Item.readBack srcCfg), .ok (inp.adv text.length, pre.length + text.length)) := by
  intro text inp
  have S := srcLike_of_ok srcX C15_scan_branches.1
  have h := C15_sequence_roundtrip k pre its z hc
  have hv := contract_valid srcCfg k its z hc
  have hb : Bytes inp.text := bytes_append (bytes_append hpre (items_text_bytes srcCfg C15_scan_branches.2 its hown)) hz
  constructor
  · rw [printItemsX_eq srcX S its hv fun s hs => hown _ hs]
    exact congrArg some h.1
  · rw [scanItemsX_eq srcX S _ inp hb]
    exact h.2

/-- … and the same for values written and read by calls of their own — `show_to(v, out, pos)` / `look_from(v, input, pos)` called
    directly, separators by their own print_to_with / scan_from_with (`printItemsD` / `scanItemsD`: no `%$` branch; the position
    the Show instance returns is the result) -/
theorem C15_sequence_roundtrip_direct (k : Kind) (pre : List Nat) (its : List Item) (z : List Nat)
    (hc : contractOK srcCfg k its z = true) (hpre : ∀ b ∈ pre, b < 256) (hz : ∀ b ∈ z, b < 256) (hown : ∀ it ∈ its, it.ownBytes) :
    let text := its.flatMap (Item.text srcCfg)
    let inp : Input := { kind := k, text := pre ++ text ++ z, cur := pre.length }
    printItemsD srcX { kind := k, data := pre } pre.length its = some ({ kind := k, data := pre ++ text }, pre.length + text.length) ∧
    scanItemsD srcX inp pre.length (its.map Item.shape)
      = (its.filterMap (Item.readBack srcCfg), .ok (inp.adv text.length, pre.length + text.length)) := by
  have S := srcLike_of_ok srcX C15_scan_branches.1
  simp only [printItemsD_eq_X srcX S, scanItemsD_eq_X srcX S]
  exact C15_sequence_roundtrip_source k pre its z hc hpre hz hown

/-- a direct `look_from` is not touched by the `%$` rule: with the adding branch `look_from(x, "x7", 1)` still returns 2 -/
example :
    scanItemsD { srcX with dollar := .addCall "look_from" } { kind := .str, text := [120, 55], cur := 0 } 1 [.int]
      = ([.int 7], .ok ({ kind := .str, text := [120, 55], cur := 0 }, 2)) := by decide

/-- **The `%$` branch ADDING what look_from returns (class of seeds c15_d / c15_k) is refuted.**  `look_from` returns the new absolute
    position; with `off = look_from(…); pos += off` a `%$` reached at position 1 of `x7` returns 3 instead of 2; `7,8,9` read as
    `%$,%$,%$` from a String gets 7 and 8, arrives at position 5 + 1 beyond the terminator (undefined); from a File the values are read
    (the stream decides) but the position returned for `7,8` is 5, not 3. -/
theorem C15_dollar_adds_refuted :
    let x : XCfg := { srcX with dollar := .addCall "look_from" }
    scanItemsX x { kind := .str, text := [120, 55], cur := 0 } 1 [.int]
      = ([.int 7], .ok ({ kind := .str, text := [120, 55], cur := 0 }, 3)) ∧
    scanItemsX x { kind := .str, text := [55, 44, 56, 44, 57], cur := 0 } 0 [.int, .lit [44], .int, .lit [44], .int]
      = ([.int 7, .int 8, .int 77], .ub) ∧
    scanItemsX x { kind := .file, text := [55, 44, 56], cur := 0 } 0 [.int, .lit [44], .int]
      = ([.int 7, .int 8], .ok ({ kind := .file, text := [55, 44, 56], cur := 3 }, 5)) := by
  refine ⟨by decide, by decide, by decide⟩

/-- **The literal branch NOT reading the input (class of seeds c15_f / c15_j) is refuted** for a File: `7,8` read as `%$,%$` gets 7, the
    stream still stands before the comma, and the second `%li` fails (FormatError); from a String (position is the only cursor) nothing changes. -/
theorem C15_literal_unread_refuted :
    let x : XCfg := { srcX with litReads := false }
    scanItemsX x { kind := .file, text := [55, 44, 56], cur := 0 } 0 [.int, .lit [44], .int]
      = ([.int 7, .int 77], .raised .FormatError) ∧
    scanItemsX x { kind := .str, text := [55, 44, 56], cur := 0 } 0 [.int, .lit [44], .int]
      = ([.int 7, .int 8], .ok ({ kind := .str, text := [55, 44, 56], cur := 0 }, 3)) := by
  refine ⟨by decide, by decide⟩

/-- the same inputs with the branches as they are now -/
example :
    scanItemsX srcX { kind := .str, text := [120, 55], cur := 0 } 1 [.int]
      = ([.int 7], .ok ({ kind := .str, text := [120, 55], cur := 0 }, 2)) ∧
    scanItemsX srcX { kind := .file, text := [55, 44, 56], cur := 0 } 0 [.int, .lit [44], .int]
      = ([.int 7, .int 8], .ok ({ kind := .file, text := [55, 44, 56], cur := 3 }, 3)) := by
  refine ⟨by decide, by decide⟩

/-- the byte hypotheses of `C15_sequence_roundtrip_source` are met by a sequence with high bytes -/
example :
    let its : List Item := [.shw (.str [10, 34, 92, 255, 128]), .lit [44, 32], .li (-42), .lit [32], .shw (.int 0)]
    (∀ it ∈ its, it.ownBytes) ∧ (∀ b ∈ [34, 7, 255], b < 256) := by
  refine ⟨?_, by decide⟩
  intro it hit
  simp only [List.mem_cons, List.not_mem_nil, or_false] at hit
  rcases hit with rfl | rfl | rfl | rfl | rfl <;> simp [Item.ownBytes, Bytes]

/-- `show_to` / `look_from` dispatch to the Show instance with `out` / `input` and `pos` passed through and its result returned
    unchanged; `print_to` / `scan_from` are `print_to_with` / `scan_from_with` on a Tuple of the arguments; nothing stands between
    the dispatch of scan_from_with and `fmt++; continue;`; `%c` of print_to_with hands `c_int(a)` to printf; String_Look stores through
    a `(char)` cast into a `char` buffer (texts pinned; the types as data) -/
theorem C15_show_look_dispatch :
    CelloGen.TextScan.showToBody = CelloGen.TextScan.showToBodyModelled ∧
    CelloGen.TextScan.lookFromBody = CelloGen.TextScan.lookFromBodyModelled ∧
    CelloGen.TextScan.printToMacro = CelloGen.TextScan.printToMacroModelled ∧
    CelloGen.TextScan.scanFromMacro = CelloGen.TextScan.scanFromMacroModelled ∧
    CelloGen.TextScan.scanSpecHoisted = "" ∧ CelloGen.TextScan.printCharArg = "c_int(a)" ∧
    CelloGen.TextScan.lookStoreCast = (true, 8) ∧ CelloGen.TextScan.lookBufferTy = (true, 8) := by
  refine ⟨rfl, rfl, rfl, rfl, rfl, rfl, rfl, rfl⟩

/-- of all the `Instance(Show, …)` of the library exactly Int, Float and String have a reader (`look`): the three types the
    property speaks about; every container, Box, Type, Range, Slice, Exception and GC can be shown but not read back -/
theorem C15_look_instances :
    CelloGen.TextScan.showInstances.filter (fun p => p.2 != "NULL")
      = [("Int_Show", "Int_Look"), ("Float_Show", "Float_Look"), ("String_Show", "String_Look")] := by decide

end Cello.Text
