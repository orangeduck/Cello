/-
  C16 — String behaves as a C-string value.

  Property theorems only; the lemmas are in CelloProofs/Lemmas/Str.lean, StrOps.lean, StrRun.lean, StrItems.lean, StrPrint.lean,
  StrAlias.lean, StrLook.lean.
  Model: Cello/Str.lean — `Str.buf` is the heap allocation of a String (its length = the size last passed to
  realloc/calloc); every operation mirrors src/String.c call by call over that buffer and logs every access
  (offset, length, size of the allocation at that moment).  Spec: `Str.abs` — the byte list up to the first NUL —
  manipulated with list functions (`++`, `take`, `removeFirst`, `<:+:`, `lexCmp`).
  `String_Look`: Cello/StrLook.lean; receivers that are not heap Strings: Cello/StrRecv.lean.
  Source-derived facts: CelloGen/Str.lean (allocation sizes and the `memmove` count, regenerated from
  src/String.c on every run).  All theorems hold for every junk function `J` (the indeterminate bytes `realloc`
  adds) and every lawful parameter set; `C16_current_source`: the parameters read from the current source are lawful.

  Operands.  Histories are lists of `AOp`: the operand of assign / concat / append / rem / a `%s` argument is a `Src` —
  a C string by value, the target itself, or a view into the target's allocation — and every step takes the allocator's
  choice `mv` (does `realloc` move the block).  The history theorems carry the explicit, decidable hypothesis `HistOK`
  (every call is `AOp.InContract`, Cello/Str.lean, for the text the target holds when it is made).  Of operands inside the text,
  what it excludes is exactly the territory of known finding KF-C16-alias-operand, and all of it is undefined
  (`C16_contract_is_exact`): the full statement `C16_alias_statement stepA` is refuted (`C16_alias_refuted`,
  `C16_alias_operand_refuted`, `C16_alias_always_undefined`, and `C16_show_self_refuted` for `show_to(s, s, pos)`), and the
  proposed repair satisfies the full statement (`C16_alias_repaired`).
-/
import Cello.Str
import Cello.Hash
import CelloGen.Str
import CelloProofs.Lemmas.StrRun
import CelloProofs.Lemmas.StrItems
import CelloProofs.Lemmas.StrPrint
import CelloProofs.Lemmas.StrAlias
import CelloProofs.Lemmas.HashMurmur
import CelloProofs.Lemmas.StrLook
import Cello.StrRecv

namespace Cello.Str

/-- **One step.** From any well-formed object (a terminator somewhere in the allocation), any operation of the
    property that is in contract for the text the object holds (`op.InContract s.abs`, decidable: everything but the
    territory of KF-C16-alias-operand — the operand may be the target itself or a view at offset 0 for `assign`, the target or
    a view into its text for `rem`) and
    whose operand is NUL-free, whatever the allocator does (`mv`): the object stays well-formed, its text is the list function
    applied to the old text and the bytes the operand denoted when the call was made (`op.absOp s.abs`), every access stayed
    inside the allocation and nothing undefined happened, and it raises (ValueError) exactly when the spec says `rem` has
    nothing to remove — in which case the object is unchanged, the whole allocation included. -/
theorem C16_step_refines {P : Params} (hP : P.Lawful) (J : Nat → Byte) (mv : Bool) (s : Str) (op : AOp)
    (hs : s.WF) (hc : op.InContract s.abs) (hop : (op.absOp s.abs).NulFree) :
    let r := stepA P J mv s op
    r.st.WF ∧ r.st.abs = Spec.step s.abs (op.absOp s.abs) ∧ r.defined = true ∧
      (r.out = .raised .ValueError ↔ Spec.raises s.abs (op.absOp s.abs) = true) ∧
      (Spec.raises s.abs (op.absOp s.abs) = true → r.st = s) := by
  intro r
  obtain ⟨h, hub⟩ := stepA_ok hP J mv s op hs hc hop
  exact ⟨h.wf, h.abs, by simp [r, Res.defined, h.safe, hub], h.raises, h.unchanged⟩

/-- **C16 (refinement).** For every way of creating a heap String (`new(String)` or `new(String, $S(init))`), every
    history of assign / concat / append / resize / clear / rem / formatted writes whose operands are NUL-free and whose
    calls are in contract (`HistOK`: the explicit, decidable hypothesis — by-value operands everywhere, the target itself
    for `assign`, the target or a view into its text for `rem`; of operands inside the text it excludes exactly
    KF-C16-alias-operand, `C16_contract_is_exact`, `C16_alias_refuted`), and every behaviour of the allocator (`mv i`: does the `i`-th `realloc`
    move the block), the object holds exactly the abstract string computed by the list functions (`Spec.runA`: an operand
    that is the target or a view is the text, or its suffix, at the moment of the call), and every observer agrees with the list
    function on that abstract string: `len` = length, `c_str` = the bytes, `cmp` = three-way lexicographic comparison
    of unsigned bytes, `eq` = equality, `mem` = "is a contiguous sublist", `hash` = the hash function applied to exactly
    the bytes of the abstract string — for the `hash_data` of src/Hash.c see `C16_hash_is_murmur` —, `rem` = removal of the
    first occurrence / ValueError when there is none. -/
theorem C16_refines_bytes {P : Params} (hP : P.Lawful) (J : Nat → Byte) (mv : Nat → Bool) (init : Option (List Byte))
    (hinit : ∀ x, init = some x → NulFree x) (ops : List AOp) (hok : HistOK (init.getD []) ops)
    (hops : ∀ op ∈ ops, op.plain.NulFree) :
    let s := (runA P J mv 0 (new P J init).st ops).1
    let a := Spec.runA (init.getD []) ops
    s.abs = a ∧ len s = a.length ∧ cstr s = a ∧
    (∀ x, NulFree x → cmp s x = lexCmp a x ∧ (eq s x = true ↔ a = x) ∧ (mem s x = true ↔ x <:+: a)) ∧
    (∀ {α : Type} (H : List Byte → α), hash H s = H a) ∧
    (∀ x, NulFree x → (rem P s x).st.abs = (removeFirst x a).getD a ∧
        ((rem P s x).out = .raised .ValueError ↔ ¬ x <:+: a)) := by
  intro s a
  obtain ⟨h, _⟩ := runA_ok hP J mv ops 0 _ _ (new_ok hP J init hinit).holds hok hops
  have hwf : s.WF := h.wf
  have ha : s.abs = a := h.abs
  refine ⟨ha, by rw [len_eq, ha], by rw [cstr_eq, ha], (observers_eq hwf ha).1, (observers_eq hwf ha).2, fun x _ => ?_⟩
  rw [← ha]
  exact ⟨(rem_stepOK hP hwf x).abs, (rem_stepOK hP hwf x).raises.trans (removeFirst_isNone_iff x _)⟩

/-- **C16 (termination and bounds).** In every such history, after EVERY operation the buffer has a NUL at index `len`
    and `len < cap` (the String is terminated inside its own allocation), and every read or write the operation made
    on the buffer lay inside the allocation current at that moment (`off + len ≤ cap` for every log entry — every
    index touched is `< cap`), and no step is undefined.  The observers' reads are in bounds too.  Same explicit hypothesis
    on the calls as `C16_refines_bytes` (`HistOK`). -/
theorem C16_terminated {P : Params} (hP : P.Lawful) (J : Nat → Byte) (mv : Nat → Bool) (init : Option (List Byte))
    (hinit : ∀ x, init = some x → NulFree x) (ops : List AOp) (hok : HistOK (init.getD []) ops)
    (hops : ∀ op ∈ ops, op.plain.NulFree) :
    let r0 := new P J init
    (r0.st.buf[len r0.st]? = some 0 ∧ len r0.st < r0.st.cap ∧ r0.log.all Acc.inBounds = true) ∧
    ((runA P J mv 0 r0.st ops).2.length = ops.length) ∧
    ∀ r ∈ (runA P J mv 0 r0.st ops).2,
      r.st.buf[len r.st]? = some 0 ∧ len r.st < r.st.cap ∧ r.log.all Acc.inBounds = true ∧ r.out.isUB = false ∧
      (observeLog r.st).all Acc.inBounds = true := by
  intro r0
  obtain ⟨h0, _, hsafe0⟩ := new_ok hP J init hinit
  obtain ⟨_, hall⟩ := runA_ok hP J mv ops 0 _ _ h0 hok hops
  refine ⟨⟨(terminated_of_wf h0.wf).1, (terminated_of_wf h0.wf).2, hsafe0⟩, runA_length .., ?_⟩
  intro r hr
  obtain ⟨hs, hw, hub⟩ := hall r hr
  exact ⟨(terminated_of_wf hw).1, (terminated_of_wf hw).2, hs, hub, observe_safe hw⟩

/-- a grown, then partly removed String: stale bytes behind the terminator, allocation larger than the text -/
example :
    let s : Str := ⟨[104, 105, 0, 0, 0, 165]⟩
    s.WF ∧ s.abs = [104, 105] ∧ Op.NulFree (.concat [33]) ∧
    (step .modelled (fun _ => 165) s (.concat [33])).st = ⟨[104, 105, 33, 0]⟩ := by decide

/-- a history that exercises every operation, from `new(String, $S("hello"))` -/
example :
    let ops : List Op := [.concat [32, 119], .resize 9, .rem [108], .format 3 [88, 89], .append [33], .resize 2,
      .rem [122], .clear, .assign [97, 97, 97], .rem [97, 97]]
    (∀ op ∈ ops, op.NulFree) ∧
    (run .modelled (fun _ => 165) (new .modelled (fun _ => 165) (some [104, 101, 108, 108, 111])).st ops).1
      = ⟨[97, 0, 97, 0]⟩ ∧
    Spec.run [104, 101, 108, 108, 111] ops = [97] := by decide

/-- Allocations are tight: after assign / concat / append / clear / a shrinking resize / a formatted write at
    `pos ≤ len` the terminator is the LAST byte of the allocation (`cap = len + 1`), so "inside its own allocation"
    has no slack: one byte less in any of the size computations and the terminator would be written out of bounds. -/
theorem C16_alloc_exact {P : Params} (hP : P.Lawful) (J : Nat → Byte) (s : Str) (hs : s.WF) (op : Op)
    (hop : op.NulFree)
    (hkind : match op with
      | .rem _ => False
      | .resize n => n ≤ s.abs.length
      | .format pos _ => pos ≤ s.abs.length
      | _ => True) :
    (step P J s op).st.cap = len (step P J s op).st + 1 := by
  have h := hs.holds
  -- the block holds the specification's text, and is what the operation asked `realloc` for: that text and the terminator
  have key : ∀ {r : Res} {d : List Byte}, Holds r.st.buf d → r.st.buf.length = d.length + 1 → r.st.cap = len r.st + 1 :=
    fun hd hl => by rw [len_eq, hd.abs]; exact hl
  cases op with
  | assign x => exact key (assign_ok hP J s hop).holds (by simp [step, assign, writeAt_length, realloc_length, hP.assign])
  | concat x | append x =>
    exact key (concat_ok hP J h hop).holds (by simp [step, concat, writeAt_length, realloc_length, hP.concat, h.strlen0])
  | clear => exact key (clear_ok hP J s).holds (by simp [step, clear, writeAt_length, realloc_length, hP.clear])
  | rem x => exact absurd hkind id
  | resize n =>
    have hn : ¬ n > strlen s.buf 0 := by rw [h.strlen0]; exact Nat.not_lt.mpr hkind
    exact key (resize_ok hP J h n).holds (by simp [step, resize, hn, writeAt_length, realloc_length, hP.resize, Nat.min_eq_left hkind])
  | format pos f =>
    have hf := (format_ok hP J h pos hop).holds
    rw [if_pos hkind] at hf
    exact key hf (by simp [step, formatTo, writeAt_length, realloc_length, hP.format, Nat.min_eq_left hkind])

/-- **rem deletes the first occurrence** — declaratively: if the text is `a ++ x ++ b` and no occurrence of `x`
    starts before `a` ends (overlapping later occurrences allowed), `rem` returns normally, the text becomes
    `a ++ b`, the allocation keeps its size, and every access was in bounds. -/
theorem C16_rem_first_occurrence {P : Params} (hP : P.Lawful) (s : Str) (hs : s.WF) (x a b : List Byte)
    (hx : NulFree x) (hsplit : s.abs = a ++ x ++ b)
    (hfirst : ∀ a' b', s.abs = a' ++ x ++ b' → a.length ≤ a'.length) :
    (rem P s x).out = .ok 0 ∧ (rem P s x).st.abs = a ++ b ∧ (rem P s x).st.cap = s.cap ∧
      (rem P s x).st.WF ∧ (rem P s x).safe = true := by
  have h := rem_stepOK hP hs x
  have hrf : removeFirst x s.abs = some (a ++ b) :=
    (removeFirst_some_iff x s.abs (a ++ b)).mpr ⟨a, b, hsplit, rfl, hfirst⟩
  have hno : Spec.raises s.abs (.rem x) = false := by rw [Spec.raises, hrf]; rfl
  exact ⟨(rem_out P s x).resolve_right fun e => Bool.false_ne_true (hno.symm.trans (h.raises.mp e)), by rw [h.abs, Spec.step, hrf]; rfl,
    rem_cap P s x, h.wf, h.safe⟩

/-- `C16_rem_first_occurrence` is not vacuous: "aaa" = "" ++ "aa" ++ "a" with no earlier occurrence -/
example : ([97, 97, 97] : List Byte) = [] ++ [97, 97] ++ [97] ∧
    ∀ a' b' : List Byte, ([97, 97, 97] : List Byte) = a' ++ [97, 97] ++ b' → ([] : List Byte).length ≤ a'.length := by
  exact ⟨rfl, fun _ _ _ => Nat.zero_le _⟩

/-- the spec function itself is "cut out the first occurrence" (and `none` iff there is no occurrence) -/
theorem C16_removeFirst_spec (x l : List Byte) :
    (∀ l', removeFirst x l = some l' ↔
        ∃ a b, l = a ++ x ++ b ∧ l' = a ++ b ∧ ∀ a' b', l = a' ++ x ++ b' → a.length ≤ a'.length) ∧
    (removeFirst x l = none ↔ ¬ x <:+: l) := by
  refine ⟨fun l' => removeFirst_some_iff x l l', ?_⟩
  rw [← removeFirst_isNone_iff]; cases removeFirst x l <;> simp

/-- **rem of an absent text raises ValueError and changes nothing** — not a byte of the allocation. -/
theorem C16_rem_absent (P : Params) (s : Str) (hs : s.WF) (x : List Byte) (hno : ¬ x <:+: s.abs) :
    (rem P s x).out = .raised .ValueError ∧ (rem P s x).st = s ∧ (rem P s x).safe = true := by
  have hf : findSub x s.abs = none := Option.not_isSome_iff_eq_none.mp fun h => hno ((findSub_isSome_iff x _).mp h)
  rw [rem_absent_eq P s x hf]
  exact ⟨rfl, rfl, observe_safe hs⟩

/-- Overlapping occurrences: `"aaa"` rem `"aa"` is `"a"`; `"abcabc"` rem `"bc"` is `"aabc"`; `"abab"` rem `"abab"`
    is `""`; `rem` of `""` is the identity; an operand at the very end; an absent operand. On the model
    (the code) and on the spec. -/
theorem C16_rem_examples :
    (rem .modelled ⟨[97, 97, 97, 0]⟩ [97, 97]).st.abs = [97] ∧
    (rem .modelled ⟨[97, 98, 99, 97, 98, 99, 0]⟩ [98, 99]).st.abs = [97, 97, 98, 99] ∧
    (rem .modelled ⟨[97, 98, 97, 98, 0]⟩ [97, 98, 97, 98]).st.abs = [] ∧
    (rem .modelled ⟨[97, 98, 0, 7, 7]⟩ []).st = ⟨[97, 98, 0, 7, 7]⟩ ∧
    (rem .modelled ⟨[97, 98, 99, 0]⟩ [99]).st.buf = [97, 98, 0, 0] ∧
    (rem .modelled ⟨[97, 98, 99, 0]⟩ [99, 100]).out = .raised .ValueError ∧
    removeFirst [97, 97] [97, 97, 97] = some [97] ∧
    removeFirst [98, 99] [97, 98, 99, 97, 98, 99] = some [97, 97, 98, 99] := by decide

/-- The byte count of `String_Rem` before fix 62eac2a (`strlen(self) - strlen(pos) - strlen(obj) + 1`) is refuted
    by an occurrence in the middle: `"abcXYdef"` rem `"XY"` gave `"abcdedef"`, not `"abcdef"` (defect F18, fixed). -/
theorem C16_rem_prefix_count_refuted :
    let s : Str := ⟨[97, 98, 99, 88, 89, 100, 101, 102, 0]⟩
    (rem .preFix s [88, 89]).st.abs = [97, 98, 99, 100, 101, 100, 101, 102] ∧
    (rem .preFix s [88, 89]).st.abs ≠ (removeFirst [88, 89] s.abs).getD s.abs ∧
    (rem .modelled s [88, 89]).st.abs = [97, 98, 99, 100, 101, 102] := by decide

/-- The terminator needs its byte: with `strlen(val)` in place of `strlen(val) + 1` (and likewise in concat and in the
    formatted write) the terminator store falls outside the allocation, and with one byte more in the `memmove` count of
    `String_Rem` the load runs behind it — the access log of the model shows it, so `C16_terminated` is not true by
    construction of the model. -/
theorem C16_size_without_terminator_refuted :
    (assign { Params.modelled with assignSize := fun lv => lv } (fun _ => 0) ⟨[0]⟩ [97, 98]).safe = false ∧
    (concat { Params.modelled with concatSize := fun a b => a + b } (fun _ => 0) ⟨[97, 0]⟩ [98]).safe = false ∧
    (formatTo { Params.modelled with formatSize := fun p n => p + n } (fun _ => 0) ⟨[97, 0]⟩ 1 [98]).safe = false ∧
    (rem { Params.modelled with remCount := fun _ lp lo => lp - lo + 2 } ⟨[97, 98, 0]⟩ [97]).safe = false := by decide

/-- The text never depends on the indeterminate bytes `realloc` hands out, on whether it moves the block, nor on which lawful
    parameters are used (calls in contract). -/
theorem C16_junk_independent {P P' : Params} (hP : P.Lawful) (hP' : P'.Lawful) (J J' : Nat → Byte) (mv mv' : Nat → Bool)
    (s : Str) (hs : s.WF) (ops : List AOp) (hok : HistOK s.abs ops) (hops : ∀ op ∈ ops, op.plain.NulFree) :
    (runA P J mv 0 s ops).1.abs = (runA P' J' mv' 0 s ops).1.abs := by
  rw [(runA_ok hP J mv ops 0 s _ hs.holds hok hops).1.abs, (runA_ok hP' J' mv' ops 0 s _ hs.holds hok hops).1.abs]

/-- `cmp`'s three results are the lexicographic order of Lean's `List` on unsigned bytes. -/
theorem C16_cmp_is_lexicographic : ∀ (a b : List Byte),
    (lexCmp a b = -1 ↔ a < b) ∧ (lexCmp a b = 0 ↔ a = b) ∧ (lexCmp a b = 1 ↔ b < a) :=
  lexCmp_spec

/-- **Formatted writes through `print_to`**: a print at `pos ≤ len` whose format is cut into fragments `fs` (one
    `format_to` call each, at advancing positions, each reallocating) leaves `take pos text ++ all fragments`,
    returns `pos +` their total length, stays terminated and in bounds throughout. -/
theorem C16_print_to {P : Params} (hP : P.Lawful) (J : Nat → Byte) (s : Str) (hs : s.WF) (pos : Nat)
    (hpos : pos ≤ s.abs.length) (fs : List (List Byte)) (hfs : ∀ f ∈ fs, NulFree f) (hne : fs ≠ []) :
    (printTo P J s pos fs).1.WF ∧ (printTo P J s pos fs).1.abs = s.abs.take pos ++ fs.flatten ∧
    (printTo P J s pos fs).2.1 = pos + fs.flatten.length ∧
    (printTo P J s pos fs).2.2.all Acc.inBounds = true := by
  obtain ⟨h, hsafe⟩ := printTo_ok hP J fs s pos _ hs.holds hpos hfs
  rw [if_neg hne] at h
  exact ⟨h.wf, h.abs, printTo_pos P J fs s pos, hsafe⟩

/-- The block operations of the model are the byte loops: an in-bounds block store is the loop of single-byte stores
    at indices `off, off+1, …, off+n-1` (each `< cap`), and `strlen` is the loop that reads `buf[off], buf[off+1], …`
    up to the first NUL — so "every access in the log is in bounds" is "every index touched is `< cap`". -/
theorem C16_block_ops_are_byte_loops (buf bs : List Byte) (off : Nat) :
    (off + bs.length ≤ buf.length → storeBytes buf off bs = writeAt buf off bs) ∧
    strlenLoop buf off (buf.length - off) = strlen buf off :=
  ⟨storeBytes_eq_writeAt bs buf off, strlenLoop_eq _ buf off (Nat.le_refl _)⟩

/-- **`String_Assign` returns at once when the operand's C string is the target's buffer** — in the source as it is now:
    the translator finds `if (val is s->val) { return; }` between `char* val = c_str(obj);` and the `realloc` (fix 744a45f).
    Take the statement out, or move it behind the `realloc`, and this theorem stops type-checking (and the driver's
    `assign(s, s)` becomes the undefined call of `C16_assign_self_old_refuted`). -/
theorem C16_assign_self_current_source : CelloGen.Str.params.assignSelfReturns = true := by
  simp [CelloGen.Str.params, CelloGen.Str.assignSelfReturns]

/-- **`String_Resize` tests the result of `realloc` before it writes through it** — in the source as it is now: the
    translator finds the `CELLO_MEMORY_CHECK` test directly after the `realloc`, before `memset` / the terminator store
    (fix 63509f2).  (The same position is fixed for `String_New / Assign / Clear / Concat / Format_To` by the shape.) -/
theorem C16_resize_check_current_source : CelloGen.Str.params.resizeChecksFirst = true := by
  simp [CelloGen.Str.params, CelloGen.Str.resizeChecksFirst]

/-- **The current source**: the allocation sizes and the `memmove` count that the translator reads from
    src/String.c on this run are lawful, so every theorem that asks `P.Lawful` applies to the code as it is now. If a size loses
    its `+ 1` or the count changes, this theorem stops type-checking. -/
theorem C16_current_source : CelloGen.Str.params.Lawful :=
  ⟨by simp [CelloGen.Str.params, CelloGen.Str.newEmptySize],
   fun lv => by simp only [CelloGen.Str.params, CelloGen.Str.assignSize],
   by simp [CelloGen.Str.params, CelloGen.Str.clearSize],
   fun ls lo => by simp only [CelloGen.Str.params, CelloGen.Str.concatSize],
   fun n => by simp only [CelloGen.Str.params, CelloGen.Str.resizeSize],
   fun pos size => by simp only [CelloGen.Str.params, CelloGen.Str.formatSize],
   fun ls lp lo h => by simp only [CelloGen.Str.params, CelloGen.Str.remCount],
   C16_assign_self_current_source, C16_resize_check_current_source⟩

/-- the shape of each function (which libc calls, on which arguments, in which order) is the one modelled -/
theorem C16_source_shape_as_modelled : CelloGen.Str.shape = CelloGen.Str.shapeModelled := by
  rfl

/-- C16 for the code as it is in /repo now (sizes, count, the early return of `String_Assign` and the position of the
    memory check read from the source by the translator), calls in contract. -/
theorem C16_holds_for_current_source (J : Nat → Byte) (mv : Nat → Bool) (init : Option (List Byte))
    (hinit : ∀ x, init = some x → NulFree x) (ops : List AOp) (hok : HistOK (init.getD []) ops)
    (hops : ∀ op ∈ ops, op.plain.NulFree) :
    let P := CelloGen.Str.params
    (runA P J mv 0 (new P J init).st ops).1.abs = Spec.runA (init.getD []) ops ∧
    ∀ r ∈ (runA P J mv 0 (new P J init).st ops).2,
      r.st.buf[len r.st]? = some 0 ∧ len r.st < r.st.cap ∧ r.log.all Acc.inBounds = true ∧ r.out.isUB = false :=
  ⟨(C16_refines_bytes C16_current_source J mv init hinit ops hok hops).1,
   fun r hr => let h := (C16_terminated C16_current_source J mv init hinit ops hok hops).2.2 r hr; ⟨h.1, h.2.1, h.2.2.1, h.2.2.2.1⟩⟩

/-- **Formatted writes through `print_to` / `print_to_with` / `show_to`: the position is the end of the text.**
    For lawful sizes and lawful position arithmetic, from any well-formed String, any start `pos ≤ len` and any sequence of
    steps `print_to_with` can make (literal runs, `%%`, conversions, `show_to` of any depth, every `format_to` reallocating):
    if at least one `format_to` call is made, the String's value is `take pos old ++ everything written`; the position handed
    back is `pos +` the number of characters written AND is the new `len` (nothing lies behind the terminator that the
    position claims was written); the buffer is NUL-terminated at that `len` inside its allocation; every access was in
    bounds; and `cmp`, `eq`, `mem`, `hash` agree with the list functions on that value. -/
theorem C16_print_positions {P : Params} (hP : P.Lawful) {Q : PosParams} (hQ : Q.Lawful) (J : Nat → Byte)
    (s : Str) (hs : s.WF) (pos : Nat) (hpos : pos ≤ s.abs.length) (stk : List Nat)
    (items : List Item) (hok : ∀ it ∈ items, it.OK) (hne : callTexts items ≠ []) :
    let r := emit P Q J s pos stk items
    let a := s.abs.take pos ++ textOf items
    r.1.abs = a ∧ r.2.1 = pos + (textOf items).length ∧ r.2.1 = len r.1 ∧
    r.1.buf[len r.1]? = some 0 ∧ len r.1 < r.1.cap ∧ r.2.2.all Acc.inBounds = true ∧
    (∀ x, NulFree x → cmp r.1 x = lexCmp a x ∧ (eq r.1 x = true ↔ a = x) ∧ (mem r.1 x = true ↔ x <:+: a)) ∧
    (∀ {β : Type} (H : List Byte → β), hash H r.1 = H a) := by
  intro r a
  obtain ⟨hwf, habs, _, hret, hsafe⟩ := emit_ok hP hQ J items s pos stk hs hpos hok
  have ha : r.1.abs = a := habs hne
  have hlen : r.2.1 = len r.1 := by
    rw [len_eq, ha, hret]; simp [a, Nat.min_eq_left hpos]
  exact ⟨ha, hret, hlen, (terminated_of_wf hwf).1, (terminated_of_wf hwf).2, hsafe, (observers_eq hwf ha).1, (observers_eq hwf ha).2⟩

/-- a `print_to_with` that makes no `format_to` call (the empty format) leaves the object alone and returns `pos` -/
theorem C16_print_nothing (P : Params) {Q : PosParams} (hQ : Q.Lawful) (J : Nat → Byte) (s : Str) (pos : Nat)
    (stk : List Nat) (items : List Item) (hok : ∀ it ∈ items, it.OK) (hno : callTexts items = []) :
    emit P Q J s pos stk items = (s, pos, []) := by
  rw [emit_eq_printTo P hQ J items s pos stk hok, hno]; rfl

/-- **`C16_print_positions` for every well-formed format and argument list.**  `printFmt` is `print_to_with(s, pos, fmt, args)` on a String
    target: the format (a C string) is cut into literal runs, `%%` and specifications the way the scanner reads it
    (`parseFmt`), every specification takes the next argument, `prim` is what libc prints for one specification and `shw` the
    steps the argument's Show instance makes (both arbitrary, as long as they print C strings).  Whenever that is defined —
    the format is well-formed and every specification finds an argument of its class — the result is as in
    `C16_print_positions`: value `take pos old ++ rendered output`, NUL-terminated at the new `len`, returned position
    `pos + length written`, all accesses in bounds. -/
theorem C16_print_format {α : Type} {P : Params} (hP : P.Lawful) {Q : PosParams} (hQ : Q.Lawful) (J : Nat → Byte)
    (prim : List Byte → Byte → α → Option (List Byte)) (shw : α → List Item)
    (s : Str) (hs : s.WF) (pos : Nat) (hpos : pos ≤ s.abs.length) (fmt : List Byte) (hfmt : NulFree fmt) (args : List α)
    (hprim : ∀ a ∈ args, ∀ b c t, prim b c a = some t → NulFree t) (hshw : ∀ a ∈ args, ∀ it ∈ shw a, it.OK)
    (r : Str × Nat × List Acc) (hr : printFmt P Q J prim shw s pos fmt args = some r) :
    ∃ segs items, parseFmt fmt = some segs ∧ plan prim shw segs args = some items ∧ (∀ it ∈ items, it.OK) ∧
      r = emit P Q J s pos [] items ∧
      r.1.WF ∧ r.1.buf[len r.1]? = some 0 ∧ len r.1 < r.1.cap ∧
      (callTexts items ≠ [] → r.1.abs = s.abs.take pos ++ textOf items ∧ r.2.1 = len r.1) ∧
      (callTexts items = [] → r.1 = s) ∧
      r.2.1 = pos + (textOf items).length ∧ r.2.2.all Acc.inBounds = true := by
  unfold printFmt at hr
  split at hr
  · cases hr
  · rename_i segs hseg
    obtain ⟨items, hplan, rfl⟩ := Option.map_eq_some_iff.mp hr
    have hok := plan_ok prim shw segs args items hprim hshw (parseFmt_lit_nulFree hfmt hseg) hplan
    obtain ⟨hwf, habs, hsame, hret, hsafe⟩ := emit_ok hP hQ J items s pos [] hs hpos hok
    refine ⟨segs, items, hseg, hplan, hok, rfl, hwf, (terminated_of_wf hwf).1, (terminated_of_wf hwf).2, ?_, hsame, hret, hsafe⟩
    intro hne
    exact ⟨habs hne, (C16_print_positions hP hQ J s hs pos hpos [] items hok hne).2.2.1⟩

/-- **A formatted write through `print_to_with` is a history of `format_to` operations**, one per call, at positions
    advancing by what was written — so histories that contain `print_to` / `show_to` are covered by `C16_refines_bytes`
    and `C16_terminated` (the object and the access log are the same). -/
theorem C16_print_is_format_history (P : Params) {Q : PosParams} (hQ : Q.Lawful) (J : Nat → Byte) (s : Str) (pos : Nat)
    (stk : List Nat) (items : List Item) (hok : ∀ it ∈ items, it.OK) :
    (emit P Q J s pos stk items).1 = (run P J s (asFormats pos items)).1 ∧
    (emit P Q J s pos stk items).2.2 = ((run P J s (asFormats pos items)).2.map Res.log).flatten ∧
    ∀ op ∈ asFormats pos items, op.NulFree := by
  rw [emit_eq_printTo P hQ J items s pos stk hok]
  exact ⟨(printTo_eq_run P J items s pos).1, (printTo_eq_run P J items s pos).2, asFormats_nulFree items pos hok⟩

/-- **The built-in arguments**: the steps of `Int_Show`, `String_Show` and `Tuple_Show` (to any depth) are well-formed and
    every specification of the rendered part of the printf grammar prints a C string, whenever the Strings inside the
    argument are C strings; the executable check the driver runs on every step list is the predicate of the theorems. -/
theorem C16_builtin_arguments :
    (∀ v : Val, v.nulFree = true → ∀ it ∈ showVal v, it.OK) ∧
    (∀ (b : List Byte) (c : Byte) (v : Val) (t : List Byte), v.nulFree = true → renderSpec b c v = some t → NulFree t) ∧
    (∀ it : Item, it.okb = true ↔ it.OK) :=
  ⟨showVal_ok, fun b c v t hv h => renderSpec_nulFree b c v hv t h, Item.okb_iff⟩

/-- **The position arithmetic of the current source is lawful**: the translator reads, for every `format_to` call of
    `print_to_with` (src/Show.c), the statement that moves `pos` afterwards, and the statement that takes the result of
    `show_to`; each must move the position by exactly what `format_to` returned (`off` = the characters written: a literal run
    verbatim, one `%` for `%%`).  If a branch advances by anything else — `pos += 2` for `%%`, the width of the specification
    instead of the text, a forgotten update — this theorem stops type-checking. -/
theorem C16_current_source_positions : CelloGen.Str.posParams.Lawful :=
  ⟨fun pos off => by simp only [CelloGen.Str.posParams, CelloGen.Str.advLit] <;> omega,
   fun pos => by simp only [CelloGen.Str.posParams, CelloGen.Str.advPct] <;> omega,
   fun br h1 h2 pos off w => by
     cases br
     · exact absurd rfl h1
     · exact absurd rfl h2
     all_goals
       simp only [CelloGen.Str.posParams, CelloGen.Str.advStr, CelloGen.Str.advInt, CelloGen.Str.advFlt,
         CelloGen.Str.advChr, CelloGen.Str.advPtr] <;> omega,
   fun pos ret => by simp only [CelloGen.Str.posParams, CelloGen.Str.showPos] <;> omega⟩

/-- the `strchr` set that ends a specification in the source is the one `parseFmt` uses -/
theorem C16_conv_set_as_modelled : CelloGen.Str.printConvSet = convSet := by decide

/-- **A position that runs ahead of the bytes written breaks the String**: with `pos += 2` in the `%%` branch (the width of
    `%%` in the format instead of the one character `format_to` wrote) `print_to(s, 0, "100%% done")` leaves the value
    `"100%"`, the rest lands behind the terminator, and the returned position 10 is not the `len` 4 — the model follows the
    arithmetic of the source, so `C16_print_positions` is not true by construction; the modelled arithmetic gives
    `"100% done"` and 9. -/
theorem C16_percent_position_refuted :
    let Q' : PosParams := { PosParams.modelled with adv := fun br pos off _ => if br = .pct then pos + 2 else pos + off }
    let items : List Item := [.call .lit 3 [49, 48, 48], .call .pct 2 [37], .call .lit 5 [32, 100, 111, 110, 101]]
    (∀ it ∈ items, it.okb = true) ∧
    (emit .modelled Q' (fun _ => 165) ⟨[0]⟩ 0 [] items).1.abs = [49, 48, 48, 37] ∧
    (emit .modelled Q' (fun _ => 165) ⟨[0]⟩ 0 [] items).2.1 = 10 ∧
    (emit .modelled Q' (fun _ => 165) ⟨[0]⟩ 0 [] items).1.buf = [49, 48, 48, 37, 0, 32, 100, 111, 110, 101, 0] ∧
    ¬ Q'.Lawful ∧
    (emit .modelled .modelled (fun _ => 165) ⟨[0]⟩ 0 [] items).1.buf = [49, 48, 48, 37, 32, 100, 111, 110, 101, 0] ∧
    (emit .modelled .modelled (fun _ => 165) ⟨[0]⟩ 0 [] items).2.1 = 9 := by
  refine ⟨by decide, by decide, by decide, by decide, ?_, by decide, by decide⟩
  intro h
  have := h.pct 0
  simp at this

/-- **C16 for formatted writes, for the code as it is in /repo now**: sizes from src/String.c, positions from src/Show.c,
    built-in arguments (Int, String, Tuple to any depth) rendered as libc / the Show instances do. -/
theorem C16_print_current_source (J : Nat → Byte) (s : Str) (hs : s.WF) (pos : Nat) (hpos : pos ≤ s.abs.length)
    (fmt : List Byte) (hfmt : NulFree fmt) (args : List Val) (hargs : ∀ v ∈ args, v.nulFree = true)
    (r : Str × Nat × List Acc)
    (hr : printFmt CelloGen.Str.params CelloGen.Str.posParams J renderSpec showVal s pos fmt args = some r) :
    ∃ items, (∀ it ∈ items, it.OK) ∧ r = emit CelloGen.Str.params CelloGen.Str.posParams J s pos [] items ∧
      r.1.buf[len r.1]? = some 0 ∧ len r.1 < r.1.cap ∧ r.2.2.all Acc.inBounds = true ∧
      r.2.1 = pos + (textOf items).length ∧
      (callTexts items ≠ [] → r.1.abs = s.abs.take pos ++ textOf items ∧ r.2.1 = len r.1) ∧
      (callTexts items = [] → r.1 = s) := by
  obtain ⟨_, items, _, _, hok, he, _, ht, hc, h1, h2, h3, h4⟩ :=
    C16_print_format C16_current_source C16_current_source_positions J renderSpec showVal s hs pos hpos fmt hfmt args
      (fun v hv b c t h => renderSpec_nulFree b c v (hargs v hv) t h) (fun v hv => showVal_ok v (hargs v hv)) r hr
  exact ⟨items, hok, he, ht, hc, h4, h3, h1, h2⟩

/-- `C16_print_format` / `C16_print_current_source` are not vacuous: `print_to(s, 2, "%i%% %s:%$", 42, "all", tuple(1, "x"))`
    on a String holding "abc" with a stale byte behind the terminator: well-formed format, three specifications, `%%`, a nested
    `show_to`; the result is "ab" ++ "42% all:tuple(1, \"x\")" and the returned position 23 is its length -/
example :
    let s : Str := ⟨[97, 98, 99, 0, 7]⟩
    let fmt : List Byte := [37, 105, 37, 37, 32, 37, 115, 58, 37, 36]
    let args : List Val := [.int 42, .str [97, 108, 108], .tup [.int 1, .str [120]]]
    s.WF ∧ 2 ≤ s.abs.length ∧ NulFree fmt ∧ (∀ v ∈ args, v.nulFree = true) ∧
    (printFmt .modelled .modelled (fun _ => 165) renderSpec showVal s 2 fmt args).map (fun r => (r.1.abs, r.2.1, r.1.cap))
      = some ([97, 98, 52, 50, 37, 32, 97, 108, 108, 58, 116, 117, 112, 108, 101, 40, 49, 44, 32, 34, 120, 34, 41], 23, 24) := by
  decide +kernel

/-- the steps of that call: literal, `%%`, conversions and the bracketed `show_to` (with its own nested `show_to`s) -/
example :
    (parseFmt [37, 105, 37, 37, 32, 37, 115, 58, 37, 36]).bind
        (fun segs => plan renderSpec showVal segs [.int 42, .str [97, 108, 108], .tup [.int 1, .str [120]]]) =
      some [.call .int 2 [52, 50], .call .pct 2 [37], .call .lit 1 [32], .call .str 2 [97, 108, 108], .call .lit 1 [58],
        .enter, .call .lit 6 [116, 117, 112, 108, 101, 40], .enter, .call .int 3 [49], .leave, .call .lit 2 [44, 32],
        .enter, .call .lit 1 [34], .call .chr 2 [120], .call .lit 1 [34], .leave, .call .lit 1 [41], .leave] := by
  decide

/-- **Reading from a String at a position** (`scan_from(s, pos, …)` → `String_Format_From` → `vsscanf(s->val + pos, …)`):
    for `pos ≤ len` the C string handed to libc is exactly the abstract string from `pos` on, so what is read back depends
    on the value only. -/
theorem C16_read_at_position (s : Str) (hs : s.WF) (pos : Nat) (hpos : pos ≤ s.abs.length) :
    cstrAt s.buf pos = s.abs.drop pos ∧
    scanWord s pos =
      (let w := ((s.abs.drop pos).dropWhile isSpace).takeWhile (fun b => !isSpace b)
       if w.isEmpty then none else some (w, pos + ((s.abs.drop pos).takeWhile isSpace).length + w.length)) := by
  refine ⟨hs.holds.cstrAt hpos, ?_⟩
  simp only [scanWord, hs.holds.cstrAt hpos]

/-- `C16_read_at_position` is not vacuous: reading a word at position 2 of "a  bc d" (stale bytes behind the terminator) -/
example : (⟨[97, 32, 32, 98, 99, 32, 100, 0, 120, 121]⟩ : Str).WF ∧
    scanWord ⟨[97, 32, 32, 98, 99, 32, 100, 0, 120, 121]⟩ 2 = some ([98, 99], 5) ∧
    scanWord ⟨[97, 32, 0, 98]⟩ 1 = none := by decide

/-- **rem of an operand that has no C string** (e60e6ec: `String_Rem` begins with `char* sub = c_str(obj);`): ClassError,
    and not a byte of the allocation is read or written; with a C string it is `rem`. -/
theorem C16_rem_argument (P : Params) (s : Str) :
    (remArg P s none).out = .raised .ClassError ∧ (remArg P s none).st = s ∧ (remArg P s none).log = [] ∧
    ∀ x, remArg P s (some x) = rem P s x :=
  ⟨rfl, rfl, rfl, fun _ => rfl⟩

/-- before e60e6ec (`c = instance(obj, C_Str); if (c and c->c_str) { … }`) such an operand was silently ignored: the call
    returned normally although nothing that could be removed was given -/
theorem C16_rem_argument_old_refuted (P : Params) (s : Str) :
    (remArgOld P s none).out = .ok 0 ∧ (remArgOld P s none).out ≠ (remArg P s none).out := by
  refine ⟨rfl, ?_⟩
  simp [remArgOld, remArg]

/-- **A format the C library rejects** (a626877: `if (size < 0) { return size; }` right after the measuring `vsnprintf`):
    `format_to` hands back the negative value, the object is untouched (no reallocation, no access); inside `print_to_with`
    the `FormatError` leaves at that step — the object and the accesses are those of the steps before it, for any position
    arithmetic. -/
theorem C16_rejected_format (P : Params) (Q : PosParams) (J : Nat → Byte) (s : Str) (pos : Nat) :
    (formatToR P J s pos none).st = s ∧ (formatToR P J s pos none).out = .rejected ∧ (formatToR P J s pos none).log = [] ∧
    (∀ f, formatToR P J s pos (some f) = formatTo P J s pos f) ∧
    ∀ (stk : List Nat) (br : Branch) (pre rest : List Item),
      (emit P Q J s pos stk (pre ++ .rejected br :: rest)).1 = (emit P Q J s pos stk pre).1 ∧
      (emit P Q J s pos stk (pre ++ .rejected br :: rest)).2.2 = (emit P Q J s pos stk pre).2.2 :=
  ⟨rfl, rfl, rfl, fun _ => rfl, fun stk br pre rest =>
    have e := emit_rejected P Q J br rest pre s pos stk
    ⟨congrArg (·.1) e, congrArg (·.2.2) e⟩⟩

/-- before a626877 the negative size went into `realloc(s->val, pos + size + 1)`: `"ab"` and a rejected format at `pos = 2`
    left an allocation of 2 bytes without a terminator — not a C string any more -/
theorem C16_rejected_format_old_refuted :
    let s : Str := ⟨[97, 98, 0]⟩
    ¬ (formatToROld .modelled (fun _ => 165) s 2 none).st.WF ∧
    (formatToROld .modelled (fun _ => 165) s 2 none).st.buf = [97, 98] ∧
    (formatToR .modelled (fun _ => 165) s 2 none).st = s := by decide

/-- **`hash` of a String is MurmurHash64A (seed 0xCe110) over exactly the characters of the abstract string.**
    `String_Hash` is `hash_data(s->val, strlen(s->val))` (shape checked by `C16_source_shape_as_modelled`): the bytes handed
    over are those of the abstract string, terminator and stale bytes excluded (this engine), and `hash_data` is the
    interpreter `Cello.Hash.hashData` over the constants and step lists the translator extracts from src/Hash.c, proved equal
    to the published algorithm in engine `hash` (C10, `hashData_eq_murmur`).  After any history as in `C16_refines_bytes`;
    in particular Strings with equal text hash equally whatever lies behind their terminators. -/
theorem C16_hash_is_murmur {P : Params} (hP : P.Lawful) (J : Nat → Byte) (mv : Nat → Bool) (init : Option (List Byte))
    (hinit : ∀ x, init = some x → NulFree x) (ops : List AOp) (hok : HistOK (init.getD []) ops)
    (hops : ∀ op ∈ ops, op.plain.NulFree) :
    let s := (runA P J mv 0 (new P J init).st ops).1
    hash Cello.Hash.hashData s = Cello.Hash.murmur64A 0xCe110 (Spec.runA (init.getD []) ops) ∧
    ∀ t : Str, t.WF → t.abs = s.abs → hash Cello.Hash.hashData t = hash Cello.Hash.hashData s := by
  intro s
  have h := C16_refines_bytes hP J mv init hinit ops hok hops
  refine ⟨by rw [h.2.2.2.2.1 Cello.Hash.hashData]; exact Cello.Hash.hashData_eq_murmur _, ?_⟩
  intro t _ hts
  rw [hash_eq, hts, h.2.2.2.2.1 Cello.Hash.hashData, h.1]

/-- "Hello": the hash is Murmur of the five characters, and two allocations with the same text but different bytes behind the
    terminator hash alike -/
example : hash Cello.Hash.hashData ⟨[72, 101, 108, 108, 111, 0]⟩ = Cello.Hash.murmur64A 0xCe110 [72, 101, 108, 108, 111] ∧
    hash Cello.Hash.hashData ⟨[72, 101, 108, 108, 111, 0, 7, 7]⟩ = hash Cello.Hash.hashData ⟨[72, 101, 108, 108, 111, 0]⟩ :=
  ⟨Cello.Hash.hashData_eq_murmur _, rfl⟩

/-- **the hash VALUE on recorded inputs.**  `String_Hash` of the model — `hash_data` as extracted from the current src/Hash.c —
    gives, for the Strings "Hello", "There", "People", exactly the three constants tests/test.c hard-codes (all shorter than one
    8-byte block: only the tail `switch` runs), and for "" (no block, no tail), "abcdefgh" (one block, no tail), "abcdefghi" (one
    block and a one-byte tail), "exactly16bytes!!" (two blocks) the values an independent implementation of MurmurHash64A gives
    (Python, arbitrary-precision integers; the same values validate the harness's own reference at start-up).  The Strings
    carry stale bytes behind the terminator: they do not count.  Evaluated by the kernel on the generated constants and step
    lists: a source change that alters any of these values breaks this theorem. -/
theorem C16_hash_test_vectors :
    hash Cello.Hash.hashData ⟨[72, 101, 108, 108, 111, 0, 33, 33]⟩ = 4771441285123272284 ∧
    hash Cello.Hash.hashData ⟨[84, 104, 101, 114, 101, 0]⟩ = 17415363727859751682 ∧
    hash Cello.Hash.hashData ⟨[80, 101, 111, 112, 108, 101, 0, 165]⟩ = 11867268813077774525 ∧
    hash Cello.Hash.hashData ⟨[0, 97]⟩ = 0xfc7b4ac02e6776a6 ∧
    hash Cello.Hash.hashData ⟨[97, 98, 99, 100, 101, 102, 103, 104, 0]⟩ = 0xfa368efebf7a5511 ∧
    hash Cello.Hash.hashData ⟨[97, 98, 99, 100, 101, 102, 103, 104, 105, 0, 106]⟩ = 0x2dce358a55f64ec6 ∧
    hash Cello.Hash.hashData ⟨[101, 120, 97, 99, 116, 108, 121, 49, 54, 98, 121, 116, 101, 115, 33, 33, 0]⟩ = 0x126e00693149bf10 := by
  decide +kernel

/-- **the bytes behind the last full block count.**  Two Strings of nine characters that differ only in the ninth — "user:1001"
    and "user:1002" — hash differently, and each to the value MurmurHash64A gives for its own nine bytes; a `hash_data` whose tail
    `switch` reads the wrong bytes (the first `len % 8` instead of the last) makes the two equal.  Likewise for bytes ≥ 0x80 and
    control bytes either side of the boundary (lengths 7, 8, 9 of the same text hash to three different values). -/
theorem C16_hash_tail_bytes_count :
    hash Cello.Hash.hashData ⟨[117, 115, 101, 114, 58, 49, 48, 48, 49, 0]⟩ = 0x4e428e33bedf0827 ∧
    hash Cello.Hash.hashData ⟨[117, 115, 101, 114, 58, 49, 48, 48, 50, 0]⟩ = 0x38070accb95b59a3 ∧
    hash Cello.Hash.hashData ⟨[117, 115, 101, 114, 58, 49, 48, 48, 49, 0]⟩ ≠ hash Cello.Hash.hashData ⟨[117, 115, 101, 114, 58, 49, 48, 48, 50, 0]⟩ ∧
    (let t : List Byte := [0x80, 0x01, 0xff, 0x1f, 0x7f, 0x81, 0x09, 0xfe, 0xa5]
     hash Cello.Hash.hashData ⟨t.take 7 ++ [0]⟩ ≠ hash Cello.Hash.hashData ⟨t.take 8 ++ [0]⟩ ∧
     hash Cello.Hash.hashData ⟨t.take 8 ++ [0]⟩ ≠ hash Cello.Hash.hashData ⟨t ++ [0]⟩ ∧
     hash Cello.Hash.hashData ⟨t ++ [0]⟩ ≠ hash Cello.Hash.hashData ⟨t.take 8 ++ [0xa4, 0]⟩) := by
  decide +kernel

/-! ### operands that point into the target's own allocation (known finding KF-C16-alias-operand)

  `concat(s, s)`, `append(s, s)`, `concat(s, $S(c_str(s) + k))`, `assign(s, $S(c_str(s) + k))` with `k > 0`,
  `print_to(s, pos, "%s", s)` (`assign(s, s)` was one of them until fix 744a45f: `C16_assign_self`): nothing in the property
  exempts them ("equal in value to the target, substrings at the start, middle and end" — the target's own buffer is where
  such operands most naturally come from).  src/String.c computes the operand's pointer, reallocates, and then reads through
  the pointer: the model (`assignA`, `concatA`, `formatA`; `mv` = the allocator moved the block) returns `ub` there. -/

/-- **the full statement**, for an implementation `impl` of one step: for EVERY operand form (by value, the target itself, a
    view at an offset inside the text), whatever the allocator does, the step is defined, the object stays a C string and
    its text is the list function applied to the old text and the bytes the operand denoted when the call was made -/
def C16_alias_statement (impl : Params → (Nat → Byte) → Bool → Str → AOp → Res) : Prop :=
  ∀ (P : Params), P.Lawful → ∀ (J : Nat → Byte) (mv : Bool) (s : Str) (op : AOp), s.WF → op.InText s → op.NulFree s →
    (impl P J mv s op).defined = true ∧ (impl P J mv s op).st.WF ∧
      (impl P J mv s op).st.abs = Spec.step s.abs (op.toOp s)

/-- **refuted by the code as it is**: on "ab", `assign(s, $S(c_str(s) + 1))` with a moving allocator reads the freed block
    (the other sites: `C16_alias_operand_refuted`) -/
theorem C16_alias_refuted : ¬ C16_alias_statement stepA := by
  intro h
  have := (h .modelled Params.modelled_lawful (fun _ => 165) true ⟨[97, 98, 0]⟩ (.assign (.view 1)) (by decide) (by decide)
    (by decide)).1
  revert this; decide

/-- **the sites of corpus/kf_c16_alias.ops in the model**, on the target "ab" (allocation `61 62 00`), per site and per
    behaviour of the allocator: `assign(s, $S(c_str(s)+1))` — moved: use after free,
    in place: the block was cut to 2 bytes, the view's terminator is gone; `concat(s, s)` / `append(s, s)` — `strcat(p, p)`
    either way; `concat(s, $S(c_str(s)))` — moved: use after free, in place: overlap; `print_to(s, 1, "%s", s)` — moved: use
    after free, in place: the text written overlaps its own source.  None is defined, so none has the by-value result
    ("b", "abab", "abab", "aab"). -/
theorem C16_alias_operand_refuted :
    let P := Params.modelled
    let J : Nat → Byte := fun _ => 165
    let s : Str := ⟨[97, 98, 0]⟩
    (assignA P J true s (.view 1)).out = .ub .useAfterFree ∧ (assignA P J false s (.view 1)).out = .ub .outOfBounds ∧
    (concatA P J true s .self).out = .ub .overlap ∧ (concatA P J false s .self).out = .ub .overlap ∧
    (concatA P J true s (.view 0)).out = .ub .useAfterFree ∧ (concatA P J false s (.view 0)).out = .ub .overlap ∧
    (formatA P J true s 1 id .self).out = .ub .useAfterFree ∧ (formatA P J false s 1 id .self).out = .ub .overlap ∧
    (∀ mv, (stepA P J mv s (.append .self)).defined = false) ∧
    s.WF ∧ (AOp.assign (.view 1)).InText s ∧ (AOp.assign (.view 1)).NulFree s ∧ ¬ (AOp.assign (.view 1)).InContract s.abs ∧
    ¬ (AOp.concat .self).InContract s.abs := by
  decide

/-- **the whole excluded region is undefined, not just the witnesses**: for every lawful size arithmetic, every well-formed
    target, every offset inside its text, every position inside its text and BOTH behaviours of the allocator, an `assign`
    whose operand is a view at an offset > 0, and a `concat`, `append` and `%s` write whose operand is the target or any view,
    is undefined — a moving `realloc` makes the copy read freed memory (also for any other `render`), a `realloc` in place
    leaves `strcpy` / `strcat` / `vsprintf` with overlapping objects or a view whose terminator was cut off.  (So, of operands
    inside the text, the hypothesis of the history theorems excludes nothing that the code defines: `C16_contract_is_exact`.) -/
theorem C16_alias_always_undefined {P : Params} (hP : P.Lawful) (J : Nat → Byte) (mv : Bool) (s : Str) (hs : s.WF)
    (src : Src) (halias : ¬ src.Disjoint) (hoff : src.off ≤ s.abs.length) (pos : Nat) (hpos : pos ≤ s.abs.length) :
    (0 < src.off → (stepA P J mv s (.assign src)).out.isUB = true) ∧ (stepA P J mv s (.concat src)).out.isUB = true ∧
    (stepA P J mv s (.append src)).out.isUB = true ∧ (stepA P J mv s (.formatS pos src)).out.isUB = true ∧
    (mv = true → ∀ render, (formatA P J mv s pos render src).out.isUB = true) := by
  have moved : mv = true → ∀ render, (formatAt P J mv s pos render src.off).out.isUB = true := by
    rintro rfl render
    rw [(moved_is_useAfterFree P J _ _ (hs.holds.inBlock hoff) pos render).2.2]; rfl
  cases src with
  | val x => exact absurd trivial halias
  | self =>
    have hcat : (concatA P J mv s .self).out.isUB = true := by rw [concatA_self_ub hP J mv s hs]; rfl
    exact ⟨fun h => absurd h (Nat.lt_irrefl 0), hcat, hcat, (aliased_ub hP J mv s hs 0 hoff pos hpos).2.2, moved⟩
  | view off =>
    obtain ⟨hasg, hcat, hfmt⟩ := aliased_ub hP J mv s hs off hoff pos hpos
    refine ⟨fun h => ?_, hcat, hcat, hfmt, moved⟩
    rw [show stepA P J mv s (.assign (.view off)) = _ from assignA_view_pos P J mv s off h]; exact hasg

/-- **`assign(s, s)` leaves `s` unchanged** (fix 744a45f: `if (val is s->val) { return; }` right after `char* val = c_str(obj);`).
    For every lawful parameter set — in particular the current source, `C16_assign_self_current_source` —, every object
    (well-formed or not), both behaviours the allocator could have had, and both operand forms whose C string is the target's
    buffer (the target itself; a view at offset 0, `$S(c_str(s))`): the call returns normally, the object is the same down to
    the last byte of its allocation, and not a byte was read or written.  So it is the by-value result (`assign` of the text
    the operand denotes = the text itself) and the call is in contract (`AOp.InContract`); also reached through
    `set(tree, k, v)` / `set(array, i, x)` with the container's own String objects.  A view at an offset > 0 is a different
    pointer and stays in the finding's territory (`C16_alias_always_undefined`). -/
theorem C16_assign_self {P : Params} (hP : P.Lawful) (J : Nat → Byte) (mv : Bool) (s : Str) :
    stepA P J mv s (.assign .self) = { st := s, out := .ok 0, log := [] } ∧
    stepA P J mv s (.assign (.view 0)) = { st := s, out := .ok 0, log := [] } ∧
    (s.WF → (stepA P J mv s (.assign .self)).st.abs = Spec.step s.abs ((AOp.assign .self).absOp s.abs) ∧
      (stepA P J mv s (.assign .self)).defined = true ∧
      (AOp.assign .self).InContract s.abs ∧ (AOp.assign (.view 0)).InContract s.abs) :=
  have e : stepA P J mv s (.assign .self) = { st := s, out := .ok 0, log := [] } := assignA_self hP J mv s .self id rfl
  ⟨e, assignA_self hP J mv s (.view 0) id rfl, fun _ => ⟨by rw [e]; rfl, by rw [e]; rfl, Or.inr rfl, Or.inr rfl⟩⟩

/-- **before 744a45f** (`Params.assignUnguarded`: no early return) `assign(s, s)` went on to `realloc(s->val, strlen(val) + 1)`
    and `strcpy(s->val, val)` with `val` the OLD pointer: for every well-formed target and both behaviours of the allocator the
    call was undefined (moved: the copy reads the freed block; in place: `strcpy(p, p)`), on "ab" concretely; the code as it is
    now returns the object unchanged.  A source without the guard is not `Lawful`. -/
theorem C16_assign_self_old_refuted :
    (∀ (J : Nat → Byte) (mv : Bool) (s : Str), s.WF → (stepA .assignUnguarded J mv s (.assign .self)).out.isUB = true) ∧
    (assignA .assignUnguarded (fun _ => 165) true ⟨[97, 98, 0]⟩ .self).out = .ub .useAfterFree ∧
    (assignA .assignUnguarded (fun _ => 165) false ⟨[97, 98, 0]⟩ .self).out = .ub .overlap ∧
    (assignA .modelled (fun _ => 165) true ⟨[97, 98, 0]⟩ .self).st = ⟨[97, 98, 0]⟩ ∧
    ¬ Params.assignUnguarded.Lawful := by
  refine ⟨fun J mv s hs => ?_, by decide, by decide, by decide, fun h => by have := h.assignSelf; revert this; decide⟩
  -- `assignAt` does not look at the guard, so the lawful parameters serve
  exact (aliased_ub Params.modelled_lawful J mv s hs 0 (Nat.zero_le _) 0 (Nat.zero_le _)).1

/-- **`resize` when the allocation fails** (fix 63509f2: the `CELLO_MEMORY_CHECK` test directly after the `realloc`).
    For every lawful parameter set — the current source: `C16_resize_check_current_source` —, every object and every `n`:
    `String_Resize` raises OutOfMemoryError; nothing was written (the only access is the `strlen` of `String_Len` before the
    `realloc`, inside the allocation for a well-formed object).  What it leaves: `s->val = realloc(s->val, n+1)` has already
    stored the NULL, so the object holds `val == NULL` (`buf = []`: NOT a C string any more — no terminator, `¬ WF`) and the
    old block, which a failed `realloc` does not free, is no longer referenced by the object (leaked).  With a `realloc` that
    succeeds `resizeR` is `resize`. -/
theorem C16_resize_alloc_failure {P : Params} (hP : P.Lawful) (J : Nat → Byte) (s : Str) (n : Nat) :
    (resizeR P J s n true).out = .raised .OutOfMemoryError ∧ (resizeR P J s n true).st.buf = [] ∧ ¬ (resizeR P J s n true).st.WF ∧
    (∀ a ∈ (resizeR P J s n true).log, a.write = false) ∧ (s.WF → (resizeR P J s n true).safe = true) ∧
    resizeR P J s n false = resize P J s n := by
  have e : resizeR P J s n true = { st := ⟨[]⟩, out := .raised .OutOfMemoryError, log := [Acc.rd 0 (strlen s.buf 0 + 1) s.buf.length] } := by
    simp [resizeR, resizeFail, hP.resizeCheck]
  rw [e]
  exact ⟨rfl, rfl, by simp [Str.WF], by simp [Acc.rd], observe_safe, by simp [resizeR]⟩

/-- **before 63509f2** (`Params.resizeChecksLate`) the `memset(&s->val[m], 0, n - m)` / `s->val[n] = '\0'` stood between the
    `realloc` and the test: a failed allocation was a write through NULL — undefined, no exception (growing and shrinking
    alike; observed as a segmentation fault for `resize(s, 1 << 46)`).  A source with that order is not `Lawful`. -/
theorem C16_resize_alloc_failure_old_refuted :
    (∀ (J : Nat → Byte) (s : Str) (n : Nat), (resizeR .resizeChecksLate J s n true).out = .ub .nullDeref) ∧
    (resizeR .resizeChecksLate (fun _ => 165) ⟨[97, 98, 0]⟩ 9 true).log = [.rd 0 3 3, .wr 2 7 0] ∧
    (resizeR .resizeChecksLate (fun _ => 165) ⟨[97, 98, 0]⟩ 1 true).log = [.rd 0 3 3, .wr 1 1 0] ∧
    (resizeR .modelled (fun _ => 165) ⟨[97, 98, 0]⟩ 9 true).out = .raised .OutOfMemoryError ∧
    ¬ Params.resizeChecksLate.Lawful := by
  refine ⟨fun J s n => by simp [resizeR, resizeFail, Params.resizeChecksLate, Params.modelled], by decide, by decide, by decide,
    fun h => by have := h.resizeCheck; revert this; decide⟩

/-- **the hypothesis of the history theorems excludes exactly the undefined calls.**  For every lawful parameter set,
    well-formed target, operation whose operand (if it is a view) starts inside the text and is NUL-free, and — for a `%s`
    write — a position inside the text: if the call is in contract (`AOp.InContract`) it is defined for both behaviours of the
    allocator; if it is not, it is undefined for both.  (In contract: by-value operands; `assign` with the target or a view at
    offset 0; `rem` with any operand.  Not in contract = KF-C16-alias-operand: `assign` with a view at an offset > 0; `concat`,
    `append`, `%s` with the target or any view.) -/
theorem C16_contract_is_exact {P : Params} (hP : P.Lawful) (J : Nat → Byte) (mv : Bool) (s : Str) (hs : s.WF) (op : AOp)
    (hin : op.InText s) (hnf : op.NulFree s) (hpos : ∀ pos src, op = .formatS pos src → pos ≤ s.abs.length) :
    (op.InContract s.abs → (stepA P J mv s op).defined = true) ∧
    (¬ op.InContract s.abs → (stepA P J mv s op).out.isUB = true) := by
  constructor
  · intro hc
    have hn : (op.absOp s.abs).NulFree := by rw [← toOp_eq_absOp hs hin]; exact hnf
    obtain ⟨h, hub⟩ := stepA_ok hP J mv s op hs hc hn
    simp [Res.defined, h.safe, hub]
  · intro hc
    cases op with
    | assign src =>
      cases src with
      | val x => exact absurd (Or.inl trivial) hc
      | self => exact absurd (Or.inr rfl) hc
      | view off =>
        have h0 : 0 < off := Nat.pos_of_ne_zero fun h => hc (Or.inr h)
        exact (C16_alias_always_undefined hP J mv s hs (.view off) id hin 0 (Nat.zero_le _)).1 h0
    | concat src =>
      exact (C16_alias_always_undefined hP J mv s hs src hc hin 0 (Nat.zero_le _)).2.1
    | append src =>
      exact (C16_alias_always_undefined hP J mv s hs src hc hin 0 (Nat.zero_le _)).2.2.1
    | formatS pos src =>
      exact (C16_alias_always_undefined hP J mv s hs src hc hin pos (hpos pos src rfl)).2.2.2.1
    | rem src => exact absurd hin hc
    | resize _ | clear | format _ _ => exact absurd trivial hc

/-- histories all of whose operands are by value are in contract, and their specification is the by-value one -/
theorem C16_by_value_histories_in_contract (a : List Byte) (ops : List AOp) (hna : ∀ op ∈ ops, op.NoAlias) :
    HistOK a ops ∧ Spec.runA a ops = Spec.run a (ops.map AOp.plain) :=
  histOK_of_noAlias ops a hna

/-- **`show_to(s, s, pos)` / `print_to(s, pos, "%$", s)` — String_Show into the String it shows — never yields the shown
    text**: `String_Show` walks `s->val` with a cursor while every `print_to` it makes reallocates that block.  For every
    lawful size arithmetic, well-formed target and position inside the text: as soon as the first character's `print_to` moves
    the block (`mv 1`), the next `*v` reads freed memory; and on "hi" with an allocator that never moves, the walk is still
    running after 40 characters (the text grows as fast as the cursor advances) — by value the result would be `"hi"` in
    quotes.  Same finding (KF-C16-alias-operand, site String_Show): the shown object's bytes lie in the target's buffer. -/
theorem C16_show_self_refuted :
    (∀ {P : Params}, P.Lawful → ∀ (J : Nat → Byte) (mv : Nat → Bool), mv 1 = true → ∀ (fuel : Nat) (s : Str), s.WF →
      ∀ pos, pos ≤ s.abs.length → ∃ r, showSelf P J mv (fuel + 2) s pos = some r ∧ r.out = .ub .useAfterFree) ∧
    (showSelf .modelled (fun _ => 165) (fun _ => true) 8 ⟨[104, 105, 0]⟩ 0).map (·.out) = some (.ub .useAfterFree) ∧
    showSelf .modelled (fun _ => 165) (fun _ => false) 40 ⟨[104, 105, 0]⟩ 0 = none ∧
    (showFrags [104, 105]).flatten = [34, 104, 105, 34] := by
  exact ⟨fun hP J mv hmv fuel s hs pos hpos => showSelf_moved_ub hP J mv hmv fuel s hs pos hpos, by decide,
    showSelf_inplace Params.modelled_lawful _ _ (fun _ => rfl) _ _ (by decide) _ (Nat.zero_le _), by decide⟩

/-- **what does hold for aliased operands** (`_partial`: the part of `C16_alias_statement stepA` that is true; aliased `rem`
    and `assign(s, s)` are also inside the history theorems, `HistOK`).
    `rem(s, obj)` with `obj` the target or a view into it makes no `realloc` and reads the operand completely before its one
    `memmove`: it is `rem` of the bytes the operand denotes — defined, well-formed, first occurrence removed (`rem(s, s)`
    empties `s`; a view of a suffix that also occurs earlier removes the EARLIER occurrence).  And every step whose operand is
    given by value is the by-value step, whatever the allocator does. -/
theorem C16_alias_partial {P : Params} (hP : P.Lawful) (J : Nat → Byte) (mv : Bool) (s : Str) (hs : s.WF) :
    (∀ src : Src, src.off ≤ s.abs.length → NulFree (src.read s) →
      stepA P J mv s (.rem src) = rem P s (src.read s) ∧
      (stepA P J mv s (.rem src)).defined = true ∧ (stepA P J mv s (.rem src)).st.WF ∧
      (stepA P J mv s (.rem src)).st.abs = (removeFirst (src.read s) s.abs).getD s.abs) ∧
    (stepA P J mv s (.rem .self)).st.abs = [] ∧
    (∀ op : AOp, op.NoAlias → stepA P J mv s op = step P J s op.plain) := by
  refine ⟨fun src hoff hnf => ?_, ?_, fun op h => h.byValue.stepA_eq P J mv s⟩
  · rw [show stepA P J mv s (.rem src) = _ from remA_eq P hs src hoff]
    exact ⟨rfl, step_defined hP J s (.rem _) hs hnf⟩
  · rw [show stepA P J mv s (.rem .self) = _ from remA_eq P hs .self (Nat.zero_le _),
      show (rem P s (Src.read s .self)).st.abs = _ from (step_defined hP J s (.rem s.abs) hs (abs_nulFree s)).2.2]
    have : removeFirst s.abs s.abs = some [] :=
      (removeFirst_some_iff ..).mpr ⟨[], [], by simp, rfl, fun _ _ _ => Nat.zero_le _⟩
    show (removeFirst s.abs s.abs).getD s.abs = []
    rw [this]; rfl

/-- **the proposed repair satisfies the full statement**: with `String_Assign` moving an operand that lies inside the target
    to the front before it shrinks the block, `String_Concat` taking the lengths first, re-deriving an inside operand from the
    NEW block by its offset and copying with `memmove` + an explicit terminator, and `String_Format_To` formatting into a
    temporary before the `realloc` (`assignFix`, `concatFix`, `formatFix` in Cello/Str.lean mirror the
    proposed diff), every operand form gives the by-value result, for every allocator behaviour. -/
theorem C16_alias_repaired : C16_alias_statement stepFix :=
  fun _ hP J mv s op hs hin hnf => stepFix_defined hP J mv s op hs hin hnf

/-- the hypothesis `HistOK` is met by a reachable history that exercises every operation, from `new(String, $S("hello"))` —
    with `assign(s, s)`, `rem(s, $S(c_str(s) + 6))` (the suffix "lo" of "helo wlo": the EARLIER occurrence goes) and finally
    `rem(s, s)`; histories with an aliased `concat` / `%s` / `assign` from a view at an offset > 0, or a `rem` with a view
    behind the terminator, do not meet it (and the decision procedure says so) -/
example :
    let ops : List AOp := [.concat (.val [32, 119]), .resize 9, .rem (.val [108]), .assign .self, .append (.val [108, 111]),
      .rem (.view 6), .format 3 [88, 89], .append (.val [33]),
      .formatS 2 (.val [113]), .resize 2, .rem (.val [122]), .clear, .assign (.val [97, 97, 97]), .rem (.val [97, 97]),
      .assign (.view 0), .rem (.view 1), .append (.val [98]), .rem .self]
    HistOK [104, 101, 108, 108, 111] ops ∧ (∀ op ∈ ops, op.plain.NulFree) ∧
    (runA .modelled (fun _ => 165) (fun i => i % 2 == 0) 0 (new .modelled (fun _ => 165) (some [104, 101, 108, 108, 111])).st ops).1
      = ⟨[0, 98, 0]⟩ ∧
    Spec.runA [104, 101, 108, 108, 111] ops = [] ∧
    Spec.runA [104, 101, 108, 108, 111] (ops.take 6) = [104, 101, 32, 119, 108, 111] ∧
    ¬ HistOK [97, 98] [.concat .self] ∧ ¬ HistOK [97, 98] [.formatS 0 (.view 2)] ∧ ¬ HistOK [97, 98] [.assign (.view 1)] ∧
    ¬ HistOK [97, 98] [.clear, .rem (.view 1)] ∧ HistOK [97, 98] [.rem (.view 2), .assign .self] := by decide +kernel

/-- the hypotheses of `C16_alias_statement` / `C16_alias_repaired` are met by an aliased call on a String with stale bytes
    behind its terminator, and the repaired step gives the by-value result there: `concat(s, $S(c_str(s) + 1))` on "hi" -/
example :
    let s : Str := ⟨[104, 105, 0, 0, 165]⟩
    s.WF ∧ (AOp.concat (.view 1)).InText s ∧ (AOp.concat (.view 1)).NulFree s ∧
    (stepFix .modelled (fun _ => 165) true s (.concat (.view 1))).st = ⟨[104, 105, 105, 0]⟩ ∧
    (stepFix .modelled (fun _ => 165) true s (.assign (.view 1))).st = ⟨[105, 0]⟩ ∧
    (stepFix .modelled (fun _ => 165) true s (.formatS 2 .self)).st = ⟨[104, 105, 104, 105, 0]⟩ := by decide

/-- **The current source** of `String_Look` has the parameters the theorems below ask for: `String_Clear(self)` is its first
    statement, both quote tests are on `'"'`, the escape lead is the backslash, and its `switch` is `String_Show`'s escape table
    turned round (`unescTable`: every `case c: String_Concat(self, $S("…"))` of the source, as read by translate/g_str.py). -/
theorem C16_look_current_source : CelloGen.Str.lookParams.Lawful :=
  ⟨rfl, rfl, rfl, rfl, by decide⟩

/-- **`String_Look` is a history of `clear` and `concat`**: for every parameter set, target, input text and position, the object
    it leaves, its outcome and its access log are those of the op list `lookOps` (the `clear` where the parameters have it, then one
    `concat` per character read until the closing quote or until FormatError leaves) — so every theorem about histories covers it. -/
theorem C16_look_is_history (P : Params) (L : LookParams) (J : Nat → Byte) (s : Str) (inp : List Byte) (pos : Nat) :
    (look P L J s inp pos).st = (run P J s (lookOps L inp pos).1).1 ∧
    (look P L J s inp pos).out = (lookOps L inp pos).2 ∧
    (look P L J s inp pos).log = ((run P J s (lookOps L inp pos).1).2.map Res.log).flatten :=
  look_eq_run P L J s inp pos

/-- **`String_Look` keeps the property on every input.**  For lawful parameters, a well-formed target, ANY NUL-free input text and
    any position (a complete shown String, one without an opening quote, an unterminated one, an unknown escape letter, nothing
    at all), whatever bytes `realloc` hands out: afterwards the target is well-formed, holds exactly the text the abstract history
    computes (`[]` after the clear, then the characters read, escapes undone — also when FormatError leaves: then what was read until
    there), is NUL-terminated at its `len` inside its allocation, and no access of any of its `realloc` / `strcat` steps left the
    allocation current at that moment; the outcome is the reader's (`ok pos'` or FormatError). -/
theorem C16_look_refines {P : Params} (hP : P.Lawful) {L : LookParams} (hL : L.Lawful) (J : Nat → Byte) (s : Str) (hs : s.WF)
    (inp : List Byte) (hin : NulFree inp) (pos : Nat) :
    let r := look P L J s inp pos
    r.st.WF ∧ r.st.abs = Spec.run s.abs (lookOps L inp pos).1 ∧
    r.st.buf[len r.st]? = some 0 ∧ len r.st < r.st.cap ∧ r.log.all Acc.inBounds = true ∧
    r.out = (lookOps L inp pos).2 ∧ (r.out = .raised .FormatError ∨ ∃ p, r.out = .ok p) := by
  intro r
  obtain ⟨hwf, habs, hsafe, hout⟩ := look_ok hP L J s hs inp pos (lookOps_nulFree hL inp hin pos)
  refine ⟨hwf, habs, (terminated_of_wf hwf).1, (terminated_of_wf hwf).2, hsafe, hout, ?_⟩
  show (look P L J s inp pos).out = _ ∨ _
  rw [hout]
  exact lookOps_outcome L inp pos

/-- **Look reads back what Show wrote.**  Let `x` be any NUL-free text and let the input hold, from position `|pre|` on, the text
    `show_to` writes for the String `x` (`textOf (showVal (.str x))`: quote, characters with `String_Show`'s escapes, quote) followed by
    anything.  Then `look_from(s, input, |pre|)` returns normally, the position returned is just behind the closing quote, and the
    target — whatever it held before — holds exactly `x`, NUL-terminated at `len = |x|` inside its allocation, all accesses in bounds. -/
theorem C16_look_reads_back_show {P : Params} (hP : P.Lawful) {L : LookParams} (hL : L.Lawful) (J : Nat → Byte) (s : Str) (hs : s.WF)
    (x : List Byte) (hx : NulFree x) (pre suf : List Byte) :
    let r := look P L J s (pre ++ textOf (showVal (.str x)) ++ suf) pre.length
    r.st.abs = x ∧ r.out = .ok (pre.length + (textOf (showVal (.str x))).length) ∧ r.st.WF ∧
    r.st.buf[x.length]? = some 0 ∧ x.length < r.st.cap ∧ r.log.all Acc.inBounds = true := by
  intro r
  obtain ⟨hwf, habs, hsafe, hout⟩ := look_shown hP hL J s hs x hx pre suf
  rw [← textOf_showVal_str] at hwf habs hsafe hout
  have hterm := terminated_of_wf hwf
  rw [len_eq, habs] at hterm
  exact ⟨habs, hout, hwf, hterm.1, hterm.2, hsafe⟩

/-- Why `String_Clear` must stand first: without it (`LookParams.noClear`) the characters read are appended to whatever the
    target held — look into a String holding "o" of the text `"a"` leaves "oa". -/
theorem C16_look_without_clear_refuted :
    (look Params.modelled LookParams.noClear (fun _ => 0xA5) ⟨[111, 0]⟩ [34, 97, 34] 0).st.abs = [111, 97] ∧
    (look Params.modelled LookParams.modelled (fun _ => 0xA5) ⟨[111, 0]⟩ [34, 97, 34] 0).st.abs = [97] := by decide

/-- `C16_look_refines` / `C16_look_reads_back_show` are not vacuous: reading a shown String with two escapes back -/
example :
    -- x = a, newline, `"`: shown as `"a\n\""`; read at position 2 of `xy"a\n\""zz`
    textOf (showVal (.str [97, 10, 34])) = [34, 97, 92, 110, 92, 34, 34] ∧
    (look Params.modelled CelloGen.Str.lookParams (fun _ => 0xA5) ⟨[111, 108, 100, 0]⟩
        ([120, 121] ++ [34, 97, 92, 110, 92, 34, 34] ++ [122, 122]) 2).st = ⟨[97, 10, 34, 0]⟩ ∧
    (look Params.modelled CelloGen.Str.lookParams (fun _ => 0xA5) ⟨[111, 108, 100, 0]⟩
        ([120, 121] ++ [34, 97, 92, 110, 92, 34, 34] ++ [122, 122]) 2).out = .ok 9 ∧
    -- an unterminated literal and an unknown escape letter: FormatError, the target holds what was read until there
    (look Params.modelled CelloGen.Str.lookParams (fun _ => 0xA5) ⟨[111, 108, 100, 0]⟩ [34, 97, 98] 0).out = .raised .FormatError ∧
    (look Params.modelled CelloGen.Str.lookParams (fun _ => 0xA5) ⟨[111, 108, 100, 0]⟩ [34, 97, 98] 0).st = ⟨[97, 98, 0]⟩ ∧
    (look Params.modelled CelloGen.Str.lookParams (fun _ => 0xA5) ⟨[111, 108, 100, 0]⟩ [34, 97, 92, 122, 34] 0).st = ⟨[97, 0]⟩ ∧
    -- no opening quote: only the clear has happened
    (look Params.modelled CelloGen.Str.lookParams (fun _ => 0xA5) ⟨[111, 108, 100, 0]⟩ [97, 34] 0).st = ⟨[0]⟩ := by decide

/-- **The current source** has the `CELLO_ALLOC_CHECK` test (`AllocStack or AllocStatic → throw(ValueError, …)`) before the first
    `realloc(` / `free(` of String_Assign, String_Clear, String_Concat, String_Resize, String_Format_To and String_Del, and in
    String_Assign the `val is s->val` return before it (as read by translate/g_str.py on this run). -/
theorem C16_guards_current_source : CelloGen.Str.guardParams.Lawful := by decide

/-- **A String that is not on the heap.**  With the checks where the source has them, on a receiver of class AllocStack / AllocStatic:
    every operation of the property that reallocates (assign, concat, append, resize, clear, a formatted write) is refused — ValueError,
    and neither the buffer nor the pointer is touched (`ROut.refused` carries no state: the caller's `s` is what there is);
    `rem`, which edits in place, runs and meets the whole per-step statement (`StepOK`: well-formed, the text is the list function's,
    accesses inside the buffer, ValueError exactly when absent); `assign(s, s)` returns at once with nothing changed. -/
theorem C16_non_heap_receiver {G : GuardParams} (hG : G.Lawful) {P : Params} (hP : P.Lawful) (J : Nat → Byte) (c : Cls)
    (hc : c.nonHeap = true) (s : Str) (hs : s.WF) (op : Op) (hop : op.NulFree) :
    (op.reallocs = true → recvStep G P J c s op = .refused) ∧
    (op.reallocs = false → recvStep G P J c s op = .ran (step P J s op) ∧ StepOK s op (step P J s op)) ∧
    recvAssignSelf G c s = .ran ⟨s, .ok 0, []⟩ := by
  have hG' : G = GuardParams.modelled := hG
  subst hG'
  refine ⟨?_, ?_, by simp [recvAssignSelf, GuardParams.modelled]⟩
  · intro hr
    cases op <;> simp_all [recvStep, Op.reallocs, GuardParams.guards, GuardParams.modelled]
  · intro hr
    exact ⟨by simp [recvStep, hr], step_ok hP J s op hs hop⟩

/-- on a heap String (of its own, or inside a container: AllocData) the checks do not fire: the call is the plain step of the history
    theorems, whatever the guard positions -/
theorem C16_heap_receiver_runs (G : GuardParams) (P : Params) (J : Nat → Byte) (c : Cls) (hc : c.nonHeap = false) (s : Str) (op : Op) :
    recvStep G P J c s op = .ran (step P J s op) := by
  simp [recvStep, hc]

/-- what the check is for: without the one of String_Concat (`GuardParams.concatUnguarded`) `concat($S("a"), $S("b"))` hands the stack
    buffer to `realloc` -/
theorem C16_missing_alloc_check_refuted :
    (match recvStep GuardParams.concatUnguarded Params.modelled (fun _ => 0xA5) .stack ⟨[97, 0]⟩ (.concat [98]) with
     | .badRealloc => true | _ => false) = true ∧
    (match recvStep GuardParams.modelled Params.modelled (fun _ => 0xA5) .stack ⟨[97, 0]⟩ (.concat [98]) with
     | .refused => true | _ => false) = true := by decide

/-- `C16_non_heap_receiver` is not vacuous: rem of the middle occurrence on a stack String holding "abcabc", with the guards of the source -/
example :
    (match recvStep CelloGen.Str.guardParams Params.modelled (fun _ => 0xA5) .stack ⟨[97, 98, 99, 97, 98, 99, 0, 165]⟩ (.rem [99, 97]) with
     | .ran r => r.st.abs == [97, 98, 98, 99] && r.safe | _ => false) = true ∧
    (match recvStep CelloGen.Str.guardParams Params.modelled (fun _ => 0xA5) .static ⟨[97, 0]⟩ (.resize 0) with
     | .refused => true | _ => false) = true := by decide

end Cello.Str
