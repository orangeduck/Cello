/-
  Cello/Sort.lean — model of the in-place quicksort of src/Array.c (Array_Sort_Partition / Array_Sort_Part /
  Array_Sort_By) and src/Tuple.c (Tuple_Sort_Partition / Tuple_Sort_Part / Tuple_Sort_By).  Both files contain the
  same algorithm; Array swaps element records with `swap` (memswap of the bytes), Tuple swaps pointers.

      p = l + (r - l) / 2;  swap(p, r);                       -- middle pivot moved to the right end
      s = l;
      for (i = l; i < r; i++) if (f(item i, item r)) { swap(i, s); s++; }
      swap(s, r);  return s;                                  -- Lomuto partition
      Sort_Part(l, r): if (l < r) { s = partition(l, r); Sort_Part(l, s-1); Sort_Part(s+1, r); }
      Sort_By: Sort_Part(0, len-1)

  Core Lean only (the driver links this).  The backing store is a Lean `Array` (O(1) swap) — the model's `Arr`/`Tup`
  convert their item list to it and back.

  Index type: the C code uses `int64_t` for l, r, s.  Every index that is *dereferenced* is ≥ 0; the only negative
  value that occurs is `r = -1` (from `len-1` on an empty container or from `s-1` with `s = 0`, and then `l = 0`), and it
  is only compared: `0 < -1` is false.  With `Nat` and truncated subtraction the same call has `r = 0` and the guard
  `0 < 0` is false as well, so `Nat` indices take the same branches.
-/
namespace Cello.Sort

variable {α : Type}

/-- the `for (i = l; i < r; i++)` loop of `*_Sort_Partition`: `n` iterations left, current `i`, store `a`, boundary `s`.
    A read outside the store (undefined behaviour in C; shown unreachable in CelloProofs) leaves the state alone. -/
def partLoop (f : α → α → Bool) (r : Nat) : Nat → Nat → Array α → Nat → Array α × Nat
  | 0, _, a, s => (a, s)
  | n + 1, i, a, s =>
    match a[i]?, a[r]? with
    | some x, some piv =>
      if f x piv then partLoop f r n (i + 1) (a.swapIfInBounds i s) (s + 1)
      else partLoop f r n (i + 1) a s
    | _, _ => partLoop f r n (i + 1) a s

/-- `*_Sort_Partition(a, l, r, f)`; returns the store and the final position `s` of the pivot -/
def partition (f : α → α → Bool) (a : Array α) (l r : Nat) : Array α × Nat :=
  let p := l + (r - l) / 2
  let a := a.swapIfInBounds p r
  match partLoop f r (r - l) l a l with
  | (a, s) => (a.swapIfInBounds s r, s)

theorem partLoop_snd (f : α → α → Bool) (r : Nat) :
    ∀ (n i : Nat) (a : Array α) (s : Nat), s ≤ (partLoop f r n i a s).2 ∧ (partLoop f r n i a s).2 ≤ s + n := by
  intro n
  induction n with
  | zero => intro i a s; simp [partLoop]
  | succ n ih =>
    intro i a s
    unfold partLoop
    split
    · split
      · have := ih (i + 1) (a.swapIfInBounds i s) (s + 1); omega
      · have := ih (i + 1) a s; omega
    · have := ih (i + 1) a s; omega

theorem partition_snd_eq (f : α → α → Bool) (a : Array α) (l r : Nat) :
    (partition f a l r).2 = (partLoop f r (r - l) l (a.swapIfInBounds (l + (r - l) / 2) r) l).2 := by
  unfold partition
  dsimp only

/-- the pivot lands inside the range: this is what makes the recursion of `*_Sort_Part` terminate -/
theorem partition_snd (f : α → α → Bool) (a : Array α) (l r : Nat) (h : l ≤ r) :
    l ≤ (partition f a l r).2 ∧ (partition f a l r).2 ≤ r := by
  rw [partition_snd_eq]
  have := partLoop_snd f r (r - l) l (a.swapIfInBounds (l + (r - l) / 2) r) l
  omega

/-- `*_Sort_Part(a, l, r, f)` by well-founded recursion on `r - l` -/
def sortPart (f : α → α → Bool) (a : Array α) (l r : Nat) : Array α :=
  if h : l < r then
    match hp : partition f a l r with
    | (a1, s) =>
      have hs : l ≤ s ∧ s ≤ r := by
        have := partition_snd f a l r (Nat.le_of_lt h); rw [hp] at this; exact this
      let a2 := sortPart f a1 l (s - 1)
      sortPart f a2 (s + 1) r
  else a
termination_by r - l
decreasing_by
  · omega
  · omega

/-- `*_Sort_By(self, f)`: `Sort_Part(self, 0, len-1, f)` -/
def sortBy (f : α → α → Bool) (a : Array α) : Array α := sortPart f a 0 (a.size - 1)

/-- the same on a list of items (what `Arr`/`Tup` call) -/
def sortList (f : α → α → Bool) (l : List α) : List α := (sortBy f l.toArray).toList

end Cello.Sort
