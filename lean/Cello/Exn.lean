/-
  Cello/Exn.lean — executable model of Cello's exception machinery (src/Exception.c + the try/catch/throw
  macros of include/Cello.h), and the reference semantics it is proved against (CelloProofs/Props/C07.lean).

  Mirrors:
    #define try { jmp_buf __env; exception_try(&__env); if (!setjmp(__env))
    #define catch_in(X, ...) else { exception_try_fail(); } exception_try_end(); }
        for (var X = exception_catch(tuple(__VA_ARGS__)); X isnt NULL; X = NULL)
    #define throw(E, F, ...) exception_throw(E, F, tuple(__VA_ARGS__))
    exception_try / exception_try_fail / exception_try_end / exception_throw / exception_catch
    and the filter walk of exception_catch: by index since fix a0ef2da
      `size_t nargs = len(args); for (size_t i = 0; i < nargs; i++) { if (eq(get(args, $I(i)), e->obj)) {…`
    (`catchDecision`, machine `run`).  The walk of the code before that fix — `foreach(arg in args)` over the Tuple, i.e.
    Tuple_Iter_Init / Tuple_Iter_Next — is kept as an explicit OLD variant (`catchDecisionOld`, machine `runOld`): it is
    what the theorems `C07_foreach_walk_…` of CelloProofs/Props/C07.lean are about, and what the driver runs when the
    translator finds the `foreach` loop in the source again (`runCfg`).

  Objects are addresses (`Nat`); address 0 is NULL.  The exception objects of the harness (kind k of harness/h_exn.c)
  are the addresses k+1; `eq` on them is identity (they are Type objects with distinct names).

  Exception objects of ANY type (second-round audit, item 1): what lives at an address is given by a `World`
  (address ↦ run-time type + value).  `exception_catch` tests `eq(get(args,$I(i)), e->obj)`, i.e. `cmp` through the `Cmp`
  instance of the FILTER ENTRY (`cmpObj`): Type_Cmp casts the exception to Type (ValueError when it is not one),
  String_Cmp takes `c_str` of it, Int_Cmp takes `c_int` of it (ClassError when the class is missing).  The machine
  `runW w` walks the filter with that comparison (`walkIdxW`, `catchDecisionW`); a comparison that raises replaces the
  pending exception (finding KF-C07-filter-eq-raises).  `run` is the instance `runW idWorld` (every address a Type object
  with a name of its own: `run_eq_runW_idWorld`), `evalW w` the reference with the match relation "the filter lists an
  object of equal value".
-/
namespace Cello.Exn

/-- NULL -/
def nullObj : Nat := 0
/-- `ValueError` (harness kind 1): what `eq(arg, NULL)` raises (`cast` → `type_of(NULL)`) -/
def valueErr : Nat := 2
/-- `FormatError` (harness kind 4): what `print_to_with` raises on a message format with too few arguments -/
def fmtErr : Nat := 5

/-- `ClassError` (harness kind index 6; no program names it): what `c_str(obj)` / `c_int(obj)` raise when the type of
    `obj` does not implement the class (`Type_Method_At_Offset`) -/
def classErr : Nat := 7

/-- try/throw/catch program trees.
    * `throw e` is `throw(e, "…", enough arguments)`; `throw 0` is `throw(NULL, …)`.
    * `throwBad e` is `throw(e, "%i")` — a message format with fewer arguments than specifications.
    * `rethrow` is `throw(x, …)` where `x` is the variable bound by the innermost enclosing handler (at top level:
      the argument `x` the program is run with — a function parameter holding an exception object).
    * `call p` is `p` executed in a callee frame (dynamic nesting); the bound variable is passed along as an argument.
      The machinery does not distinguish it from inline code, which is the point. -/
inductive Prog where
  | stmt (tag : Nat)
  | throw (e : Nat)
  | throwBad (e : Nat)
  | rethrow
  | seq (p q : Prog)
  | tryCatch (body : Prog) (filter : List Nat) (handler : Prog)
  | call (p : Prog)
deriving Repr, Inhabited

/-- observable events: a statement ran; a handler was entered with object `e` bound -/
inductive Ev where
  | stmt (tag : Nat)
  | handler (e : Nat)
deriving Repr, DecidableEq, Inhabited

/-- the filter of the specification: an empty filter matches everything, otherwise membership -/
def fmatch (f : List Nat) (e : Nat) : Bool := f.isEmpty || f.contains e

/-- Reference (specification): structured exceptions, big-step. `x` is the object bound by the innermost enclosing
    handler. Returns the trace and the exception that leaves the program, if any. The object raised by a `throw` is
    the object named in it — also for `throw 0` and `throwBad e`: that is the property's reading; the machine departs
    from it there (`C07_throw_null_refuted`, `C07_bad_message_refuted`). -/
def eval : Prog → Nat → List Ev × Option Nat
  | .stmt t, _ => ([.stmt t], none)
  | .throw e, _ => ([], some e)
  | .throwBad e, _ => ([], some e)
  | .rethrow, x => ([], some x)
  | .seq p q, x =>
    match eval p x with
    | (t1, some e) => (t1, some e)
    | (t1, none) => let (t2, r) := eval q x; (t1 ++ t2, r)
  | .call p, x => eval p x
  | .tryCatch b f h, x =>
    match eval b x with
    | (t, none) => (t, none)
    | (t, some e) =>
      if fmatch f e then
        let (th, r) := eval h e
        (t ++ [.handler e] ++ th, r)
      else (t, some e)

/-- lexical/dynamic nesting depth of try blocks a program can reach -/
def nest : Prog → Nat
  | .stmt _ => 0
  | .throw _ => 0
  | .throwBad _ => 0
  | .rethrow => 0
  | .seq p q => max (nest p) (nest q)
  | .call p => nest p
  | .tryCatch b _ h => max (nest b + 1) (nest h)

/-- **The nesting bound of the property** ("for all try/throw/catch program trees up to a size and nesting bound"):
    2048 try blocks open at the same time in one thread — lexically or dynamically, e.g. a recursive function with a
    try/catch per level — is what the library's jump-buffer stack (`jmp_buf* buffers[EXCEPTION_MAX_DEPTH]` in the
    per-thread `struct Exception`) holds on the tree the property was written for. A FIXED number, not the generated
    `CelloGen.Exn.maxDepth`: the theorems of CelloProofs/Props/C07.lean whose hypothesis is `s.depth + nest p ≤ nestBound`
    (`C07_within_nesting_bound…`) need `C07_depth_capacity : nestBound ≤ CelloGen.Exn.maxDepth`, which stops checking when
    the source's capacity shrinks; harness/h_exn.c judges every program whose nesting stays within this bound by the
    reference interpreter WITHOUT capacity, and lean/Driver/Exn.lean compares machine and reference on exactly those.
    Nesting beyond it is outside the property's quantifier (what the code does there — `exception_try` prints
    "Exception Buffer Overflow" and aborts — is modelled: `runWith`'s first test, `C07_overflow_aborts`). -/
def nestBound : Nat := 2048

/-- **Object domain** of the property: every `throw` names a non-NULL object and has a well-formed message, and no
    filter lists NULL. (That thrown objects outlive the jump and that `eq` on them cannot raise is built into the
    representation: objects are plain addresses compared by identity.) -/
def inDomain : Prog → Bool
  | .stmt _ => true
  | .throw e => e != 0
  | .throwBad _ => false
  | .rethrow => true
  | .seq p q => inDomain p && inDomain q
  | .call p => inDomain p
  | .tryCatch b f h => inDomain b && !f.contains 0 && inDomain h

/-- every catch filter lists pairwise distinct objects. No hypothesis of the theorems about the current machine any
    more (fix a0ef2da); it is the hypothesis under which the OLD foreach walk (`runOld`) behaved by the reference. -/
def nodupFilters : Prog → Bool
  | .seq p q => nodupFilters p && nodupFilters q
  | .call p => nodupFilters p
  | .tryCatch b f h => nodupFilters b && decide f.Nodup && nodupFilters h
  | _ => true

/-- `throwBad e` behaves as `throw FormatError` (`C07_bad_message_as_format_error`) -/
def normalizeMsg : Prog → Prog
  | .throwBad _ => .throw fmtErr
  | .seq p q => .seq (normalizeMsg p) (normalizeMsg q)
  | .call p => .call (normalizeMsg p)
  | .tryCatch b f h => .tryCatch (normalizeMsg b) f (normalizeMsg h)
  | p => p

/-- `struct Exception` without the message: `depth`, `active`, `obj` (0 = NULL, its initial value). The jump buffers
    themselves are represented by their indices: the buffer pushed by a `try` entered at depth `d` has index `d`. -/
structure St where
  depth : Nat
  active : Bool
  obj : Nat
deriving Repr, DecidableEq, Inhabited

/-- how a piece of code ends -/
inductive Sig where
  | normal
  | jump (target : Nat)  -- `longjmp(*buffers[target])`, target = depth-1 at the time of the throw
  | fatal                -- uncaught: Exception_Error → diagnostic, exit(EXIT_FAILURE)
  | abort                -- "Exception Buffer Overflow/Underflow" → abort()
  | ub                   -- longjmp to a buffer whose block has been left: undefined behaviour
  | hang                 -- the filter walk of exception_catch never terminates (OLD variant `runOld` only:
                         -- `run` never ends this way, `C07_no_undefined_jump`)
deriving Repr, DecidableEq, Inhabited

/-! ### the filter walk of `exception_catch` -/

inductive Walk where
  | matched   -- `eq(arg, e->obj)` held for some visited `arg`
  | exhausted -- every item was visited, none matched
  | hang      -- (OLD foreach walk only) out of fuel: the walk cycles (`CelloProofs.Lemmas.ExnWalk`: for every fuel)
  | nullCmp   -- `eq(arg, NULL)`: `Type_Cmp` casts its argument, `type_of(NULL)` raises ValueError; `eq(NULL, obj)`:
              -- `instance(NULL, Cmp)` → `type_of(NULL)` raises ValueError
  | cmpRaises (exc : Nat) -- `eq(arg, e->obj)` raised `exc`: the `Cmp` instance of `arg` cannot look at an object of that type
deriving Repr, DecidableEq, Inhabited

/-- **current code** — `size_t nargs = len(args); for (size_t i = 0; i < nargs; i++) { if (eq(get(args, $I(i)), e->obj)) … }`:
    the argument is the items `items[i], …, items[nargs-1]` still to be visited (`get(args, $I(i))` is `Tuple_Get`, which
    returns `items[i]`; `i < nargs = Tuple_Len(args)`, so its bound check passes). A `for` over a range: structural
    recursion, no fuel — the loop ends after `nargs` iterations whatever the items are.
    A filter entry that is NULL (`catch (e in NULL, …)`, excluded by `inDomain`): `eq(NULL, obj)` = `cmp(NULL, obj)` starts
    with `instance(NULL, Cmp)`, whose `type_of(NULL)` raises ValueError — the same outcome as `eq(arg, NULL)`.
    Comparison by identity: every object is a Type object with a name of its own (`walkIdx_eq_walkIdxW`). -/
def walkIdx (obj : Nat) : List Nat → Walk
  | [] => .exhausted
  | a :: rest =>
    if obj = 0 then .nullCmp
    else if a = 0 then .nullCmp
    else if a = obj then .matched
    else walkIdx obj rest

/-- **current code** — `exception_catch` after the `active` test: `len(args) is 0` → catch all; otherwise the walk by
    index. -/
def catchDecision (f : List Nat) (obj : Nat) : Walk :=
  if f.isEmpty then .matched else walkIdx obj f

/-! ### exception objects of any type: what `eq(arg, e->obj)` does -/

/-- `type_of(obj)` for the objects the model knows: a Type object (the library's `…Error`s), a String, an Int -/
inductive Cls where
  | type | str | int
deriving Repr, DecidableEq, Inhabited

/-- what `eq` looks at in an object: its run-time type and its value — for a Type the id of its name, for a String
    the id of its text (names and texts share one id space: `c_str` of a Type is its name), for an Int the integer -/
structure Obj where
  cls : Cls
  val : Nat
deriving Repr, DecidableEq, Inhabited

/-- which object lives at an address (address 0 = NULL is never looked up) -/
abbrev World := Nat → Obj

/-- every address is a Type object with a name of its own: `eq` is identity (the world of `run`) -/
def idWorld : World := fun a => ⟨.type, a⟩

inductive CmpRes where
  | eq | ne
  | raises (exc : Nat)
deriving Repr, DecidableEq, Inhabited

/-- `cmp(a, obj)` for non-NULL `a`, `obj` (src/Cmp.c: `instance(a, Cmp)->cmp(a, obj)`; all three types have one):
    * `Type_Cmp`:   `cast(obj, Type)` — ValueError unless `type_of(obj) is Type` — then `strcmp` of the names;
    * `String_Cmp`: `strcmp(String_C_Str(a), c_str(obj))` — `c_str` exists for String and for Type (its name), for an
                    Int `method_at_offset` raises ClassError;
    * `Int_Cmp`:    compares `Int_C_Int(a)` with `c_int(obj)` — only Int implements `C_Int`: ClassError otherwise. -/
def cmpObj (w : World) (a obj : Nat) : CmpRes :=
  match (w a).cls, (w obj).cls with
  | .type, .type => if (w a).val = (w obj).val then .eq else .ne
  | .type, _ => .raises valueErr
  | .str, .int => .raises classErr
  | .str, _ => if (w a).val = (w obj).val then .eq else .ne
  | .int, .int => if (w a).val = (w obj).val then .eq else .ne
  | .int, _ => .raises classErr

/-- **current code**, objects of any type — the loop of `walkIdx` with `eq` = `cmp … is 0` through the filter entry's
    `Cmp` instance; a comparison that raises leaves `exception_catch` by `exception_throw` (the rest of the filter is
    not looked at). -/
def walkIdxW (w : World) (obj : Nat) : List Nat → Walk
  | [] => .exhausted
  | a :: rest =>
    if obj = 0 then .nullCmp
    else if a = 0 then .nullCmp
    else match cmpObj w a obj with
      | .eq => .matched
      | .ne => walkIdxW w obj rest
      | .raises exc => .cmpRaises exc

def catchDecisionW (w : World) (f : List Nat) (obj : Nat) : Walk :=
  if f.isEmpty then .matched else walkIdxW w obj f

/-! #### specification side: when does a filter entry *list* an exception object -/

/-- the value of an object, as the property reads "matches its filter": a text (Type: its name, String: its
    characters) or a number -/
inductive Val where
  | text (id : Nat)
  | num (n : Nat)
deriving Repr, DecidableEq, Inhabited

def Obj.value (o : Obj) : Val :=
  match o.cls with
  | .int => .num o.val
  | _ => .text o.val

/-- the entry `a` lists the object `e`: equal values (the library's `eq` wherever `eq` is defined — two distinct
    String objects with the same characters are equal; `$S("TypeError")` lists the Type `TypeError`) -/
def specEq (w : World) (a e : Nat) : Bool := decide ((w a).value = (w e).value)

/-- the filter of the specification: an empty filter matches everything, otherwise some entry lists the object -/
def fmatchW (w : World) (f : List Nat) (e : Nat) : Bool := f.isEmpty || f.any (fun a => specEq w a e)

/-- the `Cmp` instance of an entry of type `ca` can look at an object of type `ce` (no run-time type check fails) -/
def comparable (ca ce : Cls) : Bool :=
  match ca, ce with
  | .type, .type => true
  | .str, .str => true
  | .str, .type => true
  | .int, .int => true
  | _, _ => false

/-- **The territory of finding KF-C07-filter-eq-raises**, exactly: walking the filter `f` for the exception `e`, an
    entry whose type cannot be compared with `e`'s is reached before an entry that lists `e`. -/
def clash (w : World) (e : Nat) : List Nat → Bool
  | [] => false
  | a :: rest =>
    if !comparable (w a).cls (w e).cls then true
    else if specEq w a e then false
    else clash w e rest

/-- Reference (specification) for exception objects of any type: `eval` with the match relation `m`
    (`evalM fmatch` is `eval`, `evalM_fmatch`; `evalW w` = `evalM (fmatchW w)`). -/
def evalM (m : List Nat → Nat → Bool) : Prog → Nat → List Ev × Option Nat
  | .stmt t, _ => ([.stmt t], none)
  | .throw e, _ => ([], some e)
  | .throwBad e, _ => ([], some e)
  | .rethrow, x => ([], some x)
  | .seq p q, x =>
    match evalM m p x with
    | (t1, some e) => (t1, some e)
    | (t1, none) => let (t2, r) := evalM m q x; (t1 ++ t2, r)
  | .call p, x => evalM m p x
  | .tryCatch b f h, x =>
    match evalM m b x with
    | (t, none) => (t, none)
    | (t, some e) =>
      if m f e then
        let (th, r) := evalM m h e
        (t ++ [.handler e] ++ th, r)
      else (t, some e)

def evalW (w : World) : Prog → Nat → List Ev × Option Nat := evalM (fmatchW w)

/-- **Hypothesis of the theorems about objects of any type** (decidable; follows the reference run): no filter walk
    that the reference run of `p` performs meets a clash. A program may well contain a Type entry and a thrown String —
    as long as that String does not arrive at that filter (or an entry listing it comes first). -/
def noClash (w : World) : Prog → Nat → Bool
  | .seq p q, x =>
    noClash w p x && (match (evalW w p x).2 with | none => noClash w q x | some _ => true)
  | .call p, x => noClash w p x
  | .tryCatch b f h, x =>
    noClash w b x &&
      (match (evalW w b x).2 with
       | none => true
       | some e => !clash w e f && (!fmatchW w f e || noClash w h e))
  | _, _ => true

/-- every object the program names (thrown or listed) is a Type object — then `noClash` holds whatever happens,
    provided the variable bound at the start is one too (`noClash_of_allTypes`, CelloProofs/Lemmas/ExnRefine.lean) -/
def allTypes (w : World) : Prog → Bool
  | .throw e => (w e).cls == .type
  | .throwBad e => (w e).cls == .type
  | .seq p q => allTypes w p && allTypes w q
  | .call p => allTypes w p
  | .tryCatch b f h => allTypes w b && f.all (fun a => (w a).cls == .type) && allTypes w h
  | _ => true

/-! #### OLD variant (before fix a0ef2da): `foreach(arg in args) { if (eq(arg, e->obj)) … }` over `tuple(__VA_ARGS__)` -/

/-- `Tuple_Iter_Next(self, curr)`: scan from the start for the first item that *is* `curr` (pointer identity) and
    return the item after it; `none` is `Terminal`. -/
def tupleNext : List Nat → Nat → Option Nat
  | [], _ => none
  | x :: xs, c => if x = c then xs.head? else tupleNext xs c

/-- OLD: the loop `for (arg = iter_init(args); arg isnt Terminal; arg = iter_next(args, arg))`, `cur` = `arg` -/
def walkFrom (f : List Nat) (obj : Nat) : Nat → Option Nat → Walk
  | 0, _ => .hang
  | _+1, none => .exhausted
  | n+1, some a =>
    if obj = 0 then .nullCmp
    else if a = obj then .matched
    else walkFrom f obj n (tupleNext f a)

/-- OLD: `len(args) is 0` → catch all; otherwise the foreach walk (`Tuple_Iter_Init` = first item). Fuel `length + 1`
    is exactly what a duplicate-free tuple needs. -/
def catchDecisionOld (f : List Nat) (obj : Nat) : Walk :=
  if f.isEmpty then .matched else walkFrom f obj (f.length + 1) f.head?

/-- `exception_try_end(); exception_catch(filter)` and the handler, given the state after the body/else-branch.
    `dec` = the filter walk (`catchDecision` now, `catchDecisionOld` before fix a0ef2da); `consume` = whether
    `exception_catch` clears `active` when it returns the object (read from the source by the translator:
    CelloGen.Exn.catchConsumes). `runH x` runs the handler with `x` bound. -/
def catchPhase (dec : List Nat → Nat → Walk) (consume : Bool) (runH : Nat → St → St × List Ev × Sig) (f : List Nat)
    (s3 : St) (t : List Ev) : St × List Ev × Sig :=
  -- exception_try_end
  if s3.depth = 0 then (s3, t, .abort) else
  let s4 : St := { s3 with depth := s3.depth - 1 }
  -- exception_catch
  if !s4.active then (s4, t, .normal)
  else match dec f s4.obj with
    | .matched =>
      let s5 : St := if consume then { s4 with active := false } else s4
      -- `for (var X = exception_catch(…); X isnt NULL; X = NULL)`: a NULL object is returned, the handler is skipped
      if s4.obj = 0 then (s5, t, .normal)
      else
        let (s6, th, g) := runH s4.obj s5
        (s6, t ++ [.handler s4.obj] ++ th, g)
    | .exhausted => if s4.depth ≥ 1 then (s4, t, .jump (s4.depth - 1)) else (s4, t, .fatal)
    | .hang => (s4, t, .hang)
    | .nullCmp =>
      -- exception_throw(ValueError, …) from inside exception_catch, at the outer depth
      let s5 : St := { s4 with obj := valueErr }
      if s5.depth ≥ 1 then (s5, t, .jump (s5.depth - 1)) else (s5, t, .fatal)
    | .cmpRaises exc =>
      -- the `Cmp` instance of a filter entry raised `exc` (cast / c_str / c_int on the pending object): again an
      -- exception_throw from inside exception_catch, at the outer depth; the pending object is overwritten
      let s5 : St := { s4 with obj := exc }
      if s5.depth ≥ 1 then (s5, t, .jump (s5.depth - 1)) else (s5, t, .fatal)

/-- `exception_throw`: `e->obj = obj; print_to_with(e->msg, …)`; longjmp to the innermost buffer or Exception_Error -/
def throwObj (e : Nat) (s : St) : St × List Ev × Sig :=
  let s := { s with obj := e }
  if s.depth ≥ 1 then (s, [], .jump (s.depth - 1)) else (s, [], .fatal)

/-- The machine: what the macros and Exception.c do, for a given filter walk `dec`. `x` = the C variable bound by the
    innermost enclosing handler. -/
def runWith (dec : List Nat → Nat → Walk) (consume : Bool) (maxDepth : Nat) : Prog → Nat → St → St × List Ev × Sig
  | .stmt t, _, s => (s, [.stmt t], .normal)
  | .throw e, _, s => throwObj e s
  | .throwBad e, _, s =>
    -- `e->obj = obj;` then print_to_with finds too few arguments and itself throws FormatError (a nested
    -- exception_throw: `e->obj = FormatError`, message formatted, jump)
    throwObj fmtErr { s with obj := e }
  | .rethrow, x, s => throwObj x s
  | .seq p q, x, s =>
    match runWith dec consume maxDepth p x s with
    | (s1, t1, .normal) =>
      let (s2, t2, g) := runWith dec consume maxDepth q x s1
      (s2, t1 ++ t2, g)
    | r => r
  | .call p, x, s => runWith dec consume maxDepth p x s
  | .tryCatch b f h, x, s =>
    -- exception_try: overflow check, depth++, active = false, buffers[depth-1] = env  (index = s.depth)
    if s.depth = maxDepth then (s, [], .abort) else
    let s1 : St := { s with depth := s.depth + 1, active := false }
    match runWith dec consume maxDepth b x s1 with
    | (s2, t, .normal) => catchPhase dec consume (runWith dec consume maxDepth h) f s2 t
    | (s2, t, .jump tgt) =>
      if tgt = s.depth then
        -- lands in this block's else-branch: exception_try_fail
        catchPhase dec consume (runWith dec consume maxDepth h) f { s2 with active := true } t
      else if tgt < s.depth then (s2, t, .jump tgt)   -- an outer block's buffer: this block's end code is skipped
      else (s2, t, .ub)                               -- a buffer of a block already left
    | r => r

/-- **The machine of the code as it is now**: filter walk by index. -/
def run (consume : Bool) (maxDepth : Nat) : Prog → Nat → St → St × List Ev × Sig :=
  runWith catchDecision consume maxDepth

/-- the machine of the code before fix a0ef2da: filter walk with `foreach` -/
def runOld (consume : Bool) (maxDepth : Nat) : Prog → Nat → St → St × List Ev × Sig :=
  runWith catchDecisionOld consume maxDepth

/-- **The machine of the code as it is now, exception objects of any type** (`w` says what lives where) -/
def runW (w : World) (consume : Bool) (maxDepth : Nat) : Prog → Nat → St → St × List Ev × Sig :=
  runWith (catchDecisionW w) consume maxDepth

/-- … selected by the translator's flags. (The OLD foreach walk is modelled for Type objects only: it compares by
    identity.) -/
def runCfgW (w : World) (foreachWalk consume : Bool) (maxDepth : Nat) : Prog → Nat → St → St × List Ev × Sig :=
  runWith (if foreachWalk then catchDecisionOld else catchDecisionW w) consume maxDepth

/-- the machine selected by what the translator reads from the source (`foreachWalk` =
    CelloGen.Exn.catchWalksFilterWithForeachEq, `consume` = CelloGen.Exn.catchConsumes, `maxDepth` = CelloGen.Exn.maxDepth) -/
def runCfg (foreachWalk consume : Bool) (maxDepth : Nat) : Prog → Nat → St → St × List Ev × Sig :=
  runWith (if foreachWalk then catchDecisionOld else catchDecision) consume maxDepth

def St.init : St := ⟨0, false, 0⟩

/-- statements executed one after another (a history of constructs) on the machine `M`, as `seq` does it -/
def runSeq (M : Prog → Nat → St → St × List Ev × Sig) : List Prog → Nat → St → St × List Ev × Sig
  | [], _, s => (s, [], .normal)
  | p :: ps, x, s =>
    match M p x s with
    | (s1, t1, .normal) =>
      let (s2, t2, g) := runSeq M ps x s1
      (s2, t1 ++ t2, g)
    | r => r

/-- `n` try blocks around `p` (catch-all handlers that do nothing observable) -/
def tower : Nat → Prog → Prog
  | 0, p => p
  | n+1, p => .tryCatch (tower n p) [] (.stmt 0)

/-! ### text protocol (shared with harness/h_exn.c)

  program ::= (s N) | (t K) | (g N) | (k N) | (n) | (m K) | (r) | (q P P) | (c P (K*) P) | (f P) | (d N P)
  `(k N)` = `raise` of signal N % 6 (SIGABRT SIGFPE SIGILL SIGINT SIGSEGV SIGTERM) after `exception_signals()`;
  `(g N)` = a library function raises (N even: KeyError from `get` on a Table, N odd: ValueError from `rem` on an Array);
  kinds K < 100 are mapped to objects K % 6 + 1, kinds 100 + j to the non-Type objects 8 + j (`kindObj`); `(n)` = throw NULL; `(m K)` = throw kind K with a malformed message;
  `(r)` = rethrow the bound object; `(d N P)` = P called through N frames.
-/

inductive Tok | lp | rp | num (n : Nat) | sym (c : Char)
deriving Repr, DecidableEq

def tokenize (s : String) : List Tok :=
  let rec go (cs : List Char) (acc : List Tok) (cur : Option Nat) : List Tok :=
    let flush (acc : List Tok) : List Tok := match cur with | some n => .num n :: acc | none => acc
    match cs with
    | [] => (flush acc).reverse
    | c :: rest =>
      if c.isDigit then go rest acc (some ((cur.getD 0) * 10 + (c.toNat - '0'.toNat)))
      else if c = '(' then go rest (.lp :: flush acc) none
      else if c = ')' then go rest (.rp :: flush acc) none
      else if c = ' ' then go rest (flush acc) none
      else go rest (.sym c :: flush acc) none
  go s.toList [] none

/-- number of exception kinds of the harness; kind `k < 100` is the object `k % nKinds + 1` (a Type object);
    address `nKinds + 1` = 7 is `ClassError` (only ever raised by the library); kinds `100 + j` are the harness's
    objects that are not Types (`j` modulo `nExtra`), at the addresses `8 + j`. -/
def nKinds : Nat := 6
def nExtra : Nat := 7
def kindObj (k : Nat) : Nat := if k ≥ 100 then 8 + (k - 100) % nExtra else k % nKinds + 1

/-- the objects of harness/h_exn.c: addresses 1…7 the Type objects TypeError, ValueError, KeyError, IOError,
    FormatError, BusyError, ClassError (name ids 0…6); 8, 9, 10 the Strings "A", "B", "A" (text ids 100, 101, 100 — two
    distinct objects of equal value); 11 the String "TypeError" (text id 0 = the name of address 1); 12, 13, 14 the Ints
    5, 7, 5. Any other address: a Type object with a name of its own. -/
def harnessWorld : World := fun a =>
  match a with
  | 8 => ⟨.str, 100⟩ | 9 => ⟨.str, 101⟩ | 10 => ⟨.str, 100⟩ | 11 => ⟨.str, 0⟩
  | 12 => ⟨.int, 5⟩ | 13 => ⟨.int, 7⟩ | 14 => ⟨.int, 5⟩
  | a => if a ≤ 7 then ⟨.type, a - 1⟩ else ⟨.type, a + 1000⟩

def callN : Nat → Prog → Prog
  | 0, p => p
  | n+1, p => .call (callN n p)

/-- parse one program; fuel = token count -/
def parseProg : Nat → List Tok → Option (Prog × List Tok)
  | 0, _ => none
  | _+1, .lp :: .sym 's' :: .num n :: .rp :: r => some (.stmt n, r)
  | _+1, .lp :: .sym 't' :: .num n :: .rp :: r => some (.throw (kindObj n), r)
  | _+1, .lp :: .sym 'm' :: .num n :: .rp :: r => some (.throwBad (kindObj n), r)
  | _+1, .lp :: .sym 'n' :: .rp :: r => some (.throw 0, r)
  -- an exception raised by a library function called in the body: `get` of a missing Table key throws KeyError (kind
  -- 2), `rem` of an object that is not in an Array throws ValueError (kind 1) — for the machinery a `throw` like any other
  | _+1, .lp :: .sym 'g' :: .num n :: .rp :: r => some (.throw (if n % 2 = 0 then kindObj 2 else kindObj 1), r)
  -- `raise(SIG…)` with exception_signals() installed: `Exception_Signal` throws the object its table names (address 15 + N % 6,
  -- Cello/ExnSignal.lean `sigObj`; each signal at most once per program: the driver checks `sigsOnce`)
  | _+1, .lp :: .sym 'k' :: .num n :: .rp :: r => some (.throw (15 + n % 6), r)
  | _+1, .lp :: .sym 'r' :: .rp :: r => some (.rethrow, r)
  | fuel+1, .lp :: .sym 'q' :: r =>
    match parseProg fuel r with
    | some (p, r1) => match parseProg fuel r1 with
      | some (q, .rp :: r2) => some (.seq p q, r2)
      | _ => none
    | none => none
  | fuel+1, .lp :: .sym 'f' :: r =>
    match parseProg fuel r with
    | some (p, .rp :: r1) => some (.call p, r1)
    | _ => none
  | fuel+1, .lp :: .sym 'd' :: .num n :: r =>
    match parseProg fuel r with
    | some (p, .rp :: r1) => if n ≤ 4096 then some (callN n p, r1) else none
    | _ => none
  | fuel+1, .lp :: .sym 'c' :: r =>
    match parseProg fuel r with
    | some (b, .lp :: r1) =>
      let nums := r1.takeWhile (fun t => match t with | .num _ => true | _ => false)
      let r2 := r1.dropWhile (fun t => match t with | .num _ => true | _ => false)
      match r2 with
      | .rp :: r3 => match parseProg fuel r3 with
        | some (h, .rp :: r4) =>
          -- the harness has one `catch` arm per filter arity 0…4
          if nums.length ≤ 4 then
            some (.tryCatch b (nums.filterMap (fun t => match t with | .num n => some (kindObj n) | _ => none)) h, r4)
          else none
        | _ => none
      | _ => none
    | _ => none
  | _, _ => none

def parse (s : String) : Option Prog :=
  let toks := tokenize s
  match parseProg (toks.length + 1) toks with
  | some (p, []) => some p
  | _ => none

def Ev.show : Ev → String
  | .stmt t => s!"s{t}"
  | .handler e => if e = 0 then "hNULL" else s!"h{e - 1}"

def showTrace (t : List Ev) : String := ",".intercalate (t.map Ev.show)

def Sig.show : Sig → String
  | .normal => "normal"
  | .jump t => s!"jump{t}"
  | .fatal => "fatal"
  | .abort => "abort"
  | .ub => "ub"
  | .hang => "hang"

end Cello.Exn
